import AdaptaVerif.Lemmas.Compound
/-
C07 — libcola: layout output satisfies every compound constraint or reports it unsatisfiable.

Theorems (all parameters, all list sizes, both dimensions):
* `gen_sound_<type>`   : any assignment of (node + auxiliary) variables satisfying the vpsc
                         constraints generated for the type satisfies the documented meaning;
* `gen_complete_<type>`: any node placement with the documented meaning extends to the auxiliary
                         variables so that the generated constraints hold (an "unsatisfiable" report
                         is never an artefact of the encoding);
* `convex_step`        : the feasible set of a set of separation constraints is convex — the
                         line-search update `old − stepsize·(old − projected)`, stepsize ∈ [0,1],
                         of `applyForcesAndConstraints` / the `beta` step of GradientProjection stay feasible;
* `check_*`            : the executable checkers used on the implementation's final rectangles
                         decide exactly the `…Tol` specifications, and those imply the documented
                         meaning up to the tolerance;
* `runItems_*`, `itemsOf_*` : the model's exception-aware generation loop and its dispatcher yield
                         exactly the per-type constraint lists when no index is invalid.
The generated lists themselves are tied to the C++ by exact comparison (Driver/C07.lean, gen-* cases).
-/
namespace AdaptaVerif.Props.C07
open AdaptaVerif.Model.Compound AdaptaVerif.Spec.Compound AdaptaVerif.Check.Layout
open AdaptaVerif.Lemmas.Compound

/-! ### BoundaryConstraint -/

theorem gen_sound_boundary (v : Nat) (offs : List (Nat × Rat)) (a : Asg)
    (h : AllHold (boundarySeps v offs) a) : BoundaryMeaning offs a := by
  refine ⟨a v, fun p hp => ?_⟩
  have hp' := (allHold_map _ offs a).mp h p hp
  constructor
  · intro hneg
    rw [if_pos hneg, holds_ineq] at hp'
    linarith only [hp']
  · intro hneg
    rwa [if_neg hneg, holds_ineq] at hp'

example : AllHold (boundarySeps 2 [(0, -3), (1, 4)]) (fun i => if i = 0 then 0 else if i = 1 then 10 else 5) := by
  decide +kernel

theorem gen_complete_boundary (v : Nat) (offs : List (Nat × Rat)) (x : Asg)
    (hv : ∀ p ∈ offs, p.1 ≠ v) (h : BoundaryMeaning offs x) :
    ∃ a : Asg, AgreeOff [v] a x ∧ AllHold (boundarySeps v offs) a := by
  obtain ⟨b, hb⟩ := h
  refine ⟨update x v b, agreeOff_update x v b, (allHold_map _ offs _).mpr (fun p hp => ?_)⟩
  have h1 := hb p hp
  have hne := hv p hp
  by_cases hneg : p.2 < 0
  · rw [if_pos hneg, holds_ineq, update_same, update_other x v b p.1 hne]
    linarith only [h1.1 hneg]
  · rw [if_neg hneg, holds_ineq, update_same, update_other x v b p.1 hne]
    exact h1.2 hneg

example : BoundaryMeaning [(0, -3), (1, 4)] (fun i => if i = 0 then 0 else 10) := by
  refine ⟨5, ?_⟩
  decide +kernel

/-- aux-free form of the boundary meaning (what the checker decides), with tolerance:
    the pairwise condition yields a separating line -/
theorem boundaryTol_line (tol : Rat) (x : Asg) (offs : List (Nat × Rat)) (h : BoundaryTol tol x offs) :
    ∃ b : Rat, ∀ p ∈ offs, (p.2 < 0 → x p.1 - p.2 ≤ b) ∧ (¬ p.2 < 0 → b + p.2 ≤ x p.1 + tol) := by
  obtain ⟨b, hb1, hb2⟩ := Lemmas.Util.exists_between
    ((offs.filter fun p => decide (p.2 < 0)).map fun p => x p.1 - p.2)
    ((offs.filter fun p => !decide (p.2 < 0)).map fun p => x p.1 - p.2 + tol)
    (by
      intro l hl r hr
      simp only [List.mem_map, List.mem_filter] at hl hr
      obtain ⟨p, ⟨hp, hpn⟩, rfl⟩ := hl
      obtain ⟨q, ⟨hq, hqn⟩, rfl⟩ := hr
      have := h p hp q hq (by simpa using hpn) (by simpa using hqn)
      linarith)
  refine ⟨b, fun p hp => ⟨fun hneg => ?_, fun hneg => ?_⟩⟩
  · apply hb1
    simp only [List.mem_map, List.mem_filter]
    exact ⟨p, ⟨hp, by simpa using hneg⟩, rfl⟩
  · have := hb2 (x p.1 - p.2 + tol) (by
      simp only [List.mem_map, List.mem_filter]
      exact ⟨p, ⟨hp, by simpa using hneg⟩, rfl⟩)
    linarith

theorem boundary_pairwise (x : Asg) (offs : List (Nat × Rat)) :
    BoundaryMeaning offs x ↔ BoundaryTol 0 x offs := by
  constructor
  · rintro ⟨b, hb⟩ p hp q hq hpn hqn
    have h1 := (hb p hp).1 hpn
    have h2 := (hb q hq).2 hqn
    linarith
  · intro h
    obtain ⟨b, hb⟩ := boundaryTol_line 0 x offs h
    refine ⟨b, fun p hp => ⟨fun hneg => ?_, fun hneg => ?_⟩⟩
    · have := (hb p hp).1 hneg; linarith
    · have := (hb p hp).2 hneg; linarith

/-! ### AlignmentConstraint -/

theorem gen_sound_alignment (v : Nat) (offs : List (Nat × Rat)) (a : Asg)
    (h : AllHold (alignmentSeps v offs) a) : IsGuide offs a (a v) ∧ AlignmentMeaning offs a := by
  have hg : IsGuide offs a (a v) := by
    intro p hp
    exact ((holds_eq ..).1 ((allHold_map _ offs a).mp h p hp)).symm
  exact ⟨hg, a v, hg⟩

theorem gen_complete_alignment (v : Nat) (offs : List (Nat × Rat)) (x : Asg)
    (hv : ∀ p ∈ offs, p.1 ≠ v) (g : Rat) (h : IsGuide offs x g) :
    ∃ a : Asg, AgreeOff [v] a x ∧ a v = g ∧ AllHold (alignmentSeps v offs) a := by
  refine ⟨update x v g, agreeOff_update x v g, update_same x v g, (allHold_map _ offs _).mpr (fun p hp => ?_)⟩
  rw [holds_eq, update_same, update_other x v g p.1 (hv p hp)]
  exact (h p hp).symm

example : IsGuide [(0, 1), (1, 2)] (fun i => if i = 0 then 4 else 5) 3 := by
  unfold IsGuide
  decide +kernel

theorem alignment_pairwise (x : Asg) (offs : List (Nat × Rat)) :
    AlignmentMeaning offs x ↔ AlignmentTol 0 x offs := by
  unfold AlignmentMeaning AlignmentTol
  simp only [nearEq_zero]
  constructor
  · rintro ⟨g, hg⟩ p hp q hq
    rw [hg p hp, hg q hq, add_sub_cancel_right, add_sub_cancel_right]
  · intro h
    cases offs with
    | nil => exact ⟨0, fun _ hp => nomatch hp⟩
    | cons p0 t => exact ⟨x p0.1 - p0.2, fun p hp => eq_add_of_sub_eq (h p hp p0 List.mem_cons_self)⟩

/-- within a tolerance: every shape is within `tol` of the guideline read off the first shape -/
theorem alignmentTol_guide (tol : Rat) (x : Asg) (p0 : Nat × Rat) (t : List (Nat × Rat))
    (h : AlignmentTol tol x (p0 :: t)) :
    ∀ p ∈ p0 :: t, NearEq tol (x p.1) ((x p0.1 - p0.2) + p.2) := by
  intro p hp
  obtain ⟨h1, h2⟩ := h p hp p0 List.mem_cons_self
  constructor <;> linarith

/-! ### SeparationConstraint (two shapes; or two guidelines) -/

theorem gen_sound_separation (l r : Nat) (gap : Rat) (eq : Bool) (a : Asg) :
    AllHold (separationSeps l r gap eq) a ↔ GapMeaning eq (a l) gap (a r) := by
  simp [AllHold, separationSeps, Holds, GapMeaning]

/-- no auxiliary variable is involved, so completeness is the converse direction -/
theorem gen_complete_separation (l r : Nat) (gap : Rat) (eq : Bool) (x : Asg)
    (h : GapMeaning eq (x l) gap (x r)) : AllHold (separationSeps l r gap eq) x :=
  (gen_sound_separation l r gap eq x).mpr h

/-- with zero tolerance the checked statements are the exact meanings -/
theorem gapTol_zero (eq : Bool) (l gap r : Rat) : GapTol 0 eq l gap r ↔ GapMeaning eq l gap r := by
  unfold GapTol GapMeaning
  cases eq
  · simp
  · simp only [if_true, nearEq_zero]

/-- separation between two alignments: the three generated groups together force the gap between
    the guideline positions read off any two shapes -/
theorem gen_sound_sepAlign (vl vr : Nat) (offsL offsR : List (Nat × Rat)) (gap : Rat) (eq : Bool) (a : Asg)
    (hL : AllHold (alignmentSeps vl offsL) a) (hR : AllHold (alignmentSeps vr offsR) a)
    (hS : AllHold (separationSeps vl vr gap eq) a) :
    GapMeaning eq (a vl) gap (a vr) ∧ GuidesTol 0 a offsL offsR gap eq := by
  have hs := (gen_sound_separation vl vr gap eq a).mp hS
  refine ⟨hs, fun p hp q hq => ?_⟩
  rw [gapTol_zero, (gen_sound_alignment vl offsL a hL).1 p hp, (gen_sound_alignment vr offsR a hR).1 q hq,
    add_sub_cancel_right, add_sub_cancel_right]
  exact hs

theorem gen_complete_sepAlign (vl vr : Nat) (offsL offsR : List (Nat × Rat)) (gap : Rat) (eq : Bool)
    (x : Asg) (gl gr : Rat) (hne : vl ≠ vr)
    (hvl : ∀ p ∈ offsL ++ offsR, p.1 ≠ vl) (hvr : ∀ p ∈ offsL ++ offsR, p.1 ≠ vr)
    (hL : IsGuide offsL x gl) (hR : IsGuide offsR x gr) (hS : GapMeaning eq gl gap gr) :
    ∃ a : Asg, AgreeOff [vl, vr] a x ∧ AllHold (alignmentSeps vl offsL) a ∧
      AllHold (alignmentSeps vr offsR) a ∧ AllHold (separationSeps vl vr gap eq) a := by
  refine ⟨update (update x vl gl) vr gr, agreeOff_update2 x vl vr gl gr, ?_, ?_, ?_⟩
  · refine (allHold_map _ offsL _).mpr (fun p hp => ?_)
    have hp' : p ∈ offsL ++ offsR := List.mem_append_left _ hp
    rw [holds_eq, update2_left _ _ _ hne, update2_other _ _ _ (hvl p hp') (hvr p hp')]
    exact (hL p hp).symm
  · refine (allHold_map _ offsR _).mpr (fun p hp => ?_)
    have hp' : p ∈ offsL ++ offsR := List.mem_append_right _ hp
    rw [holds_eq, update2_right, update2_other _ _ _ (hvl p hp') (hvr p hp')]
    exact (hR p hp).symm
  · rw [gen_sound_separation, update2_left _ _ _ hne, update2_right]; exact hS

/-! ### MultiSeparationConstraint / DistributionConstraint (over guideline variables) -/

theorem gen_sound_multiSep (ids : List (Nat × Nat)) (sep : Rat) (eq : Bool) (a : Asg) :
    AllHold (multiSeps ids sep eq) a ↔ PairsMeaning ids sep eq a := by
  unfold multiSeps PairsMeaning
  rw [allHold_map]
  exact Iff.rfl

theorem gen_complete_multiSep (ids : List (Nat × Nat)) (sep : Rat) (eq : Bool) (g : Asg)
    (h : PairsMeaning ids sep eq g) : AllHold (multiSeps ids sep eq) g :=
  (gen_sound_multiSep ids sep eq g).mpr h

/-- DistributionConstraint = multi-separation with equality: consecutive guidelines exactly `sep` apart -/
theorem gen_sound_distribution (ids : List (Nat × Nat)) (sep : Rat) (a : Asg) :
    AllHold (multiSeps ids sep true) a ↔ ∀ p ∈ ids, a p.2 = a p.1 + sep := by
  rw [gen_sound_multiSep]
  unfold PairsMeaning GapMeaning
  simp only [if_true]
  constructor
  · intro h p hp; exact (h p hp).symm
  · intro h p hp; exact (h p hp).symm

theorem gen_complete_distribution (ids : List (Nat × Nat)) (sep : Rat) (g : Asg)
    (h : ∀ p ∈ ids, g p.2 = g p.1 + sep) : AllHold (multiSeps ids sep true) g :=
  (gen_sound_distribution ids sep g).mpr h

/-! ### FixedRelativeConstraint -/

theorem gen_sound_fixedRelative (dim : Dim) (rel : List RelOff) (a : Asg) :
    AllHold (fixedRelSeps dim rel) a ↔ FixedRelMeaning dim rel a := by
  unfold fixedRelSeps FixedRelMeaning
  rw [allHold_map]
  simp only [List.mem_filter, decide_eq_true_eq, Holds, if_true]
  constructor
  · intro h o ho hd; exact (h o ⟨ho, hd⟩).symm
  · rintro h o ⟨ho, hd⟩; exact (h o ho hd).symm

theorem gen_complete_fixedRelative (dim : Dim) (rel : List RelOff) (x : Asg)
    (h : FixedRelMeaning dim rel x) : AllHold (fixedRelSeps dim rel) x :=
  (gen_sound_fixedRelative dim rel x).mpr h

/-- the constructor captures the current centre differences, so the start placement satisfies it -/
theorem fixedRel_initially_satisfied (rs : Array Rect) (ids : List Nat) (dim : Dim) :
    FixedRelMeaning dim (fixedRelOffsets rs ids) (fun i => (rs.getD i default).centre dim) := by
  unfold FixedRelMeaning fixedRelOffsets
  cases sortDedup ids with
  | nil => simp
  | cons f rest =>
    intro o ho hd
    simp only [List.mem_flatMap, List.mem_cons, List.mem_nil_iff, or_false] at ho
    obtain ⟨t, _, h | h⟩ := ho
    · subst h; simp only at hd ⊢; subst hd; linarith
    · subst h; simp only at hd ⊢; subst hd; linarith

/-! ### PageBoundaryConstraints -/

theorem gen_sound_pageBoundary (dim : Dim) (l r : Nat) (shapes : List (Nat × Rat × Rat)) (a : Asg) :
    AllHold (pageSeps dim (some l) (some r) shapes) a ↔ PageMeaning dim shapes a (a l) (a r) := by
  unfold pageSeps PageMeaning
  rw [allHold_flatMap]
  refine forall₂_congr fun s _ => ?_
  simp only [List.cons_append, List.nil_append, AllHold, List.forall_mem_cons, List.not_mem_nil,
    false_imp_iff, implies_true, and_true, holds_ineq]
  exact Iff.rfl

/-- the page boundary never makes a placement infeasible: for *every* placement of the shapes the
    two boundary variables can be chosen so that all generated constraints hold -/
theorem gen_complete_pageBoundary (dim : Dim) (l r : Nat) (shapes : List (Nat × Rat × Rat)) (x : Asg)
    (hne : l ≠ r) (hl : ∀ s ∈ shapes, s.1 ≠ l) (hr : ∀ s ∈ shapes, s.1 ≠ r) :
    ∃ a : Asg, AgreeOff [l, r] a x ∧ AllHold (pageSeps dim (some l) (some r) shapes) a := by
  let half : (Nat × Rat × Rat) → Rat := fun s => match dim with | .x => s.2.1 | .y => s.2.2
  obtain ⟨lo, hlo⟩ := exists_lower (shapes.map fun s => x s.1 - half s)
  obtain ⟨hi, hhi⟩ := exists_upper (shapes.map fun s => x s.1 + half s)
  refine ⟨update (update x l lo) r hi, agreeOff_update2 x l r lo hi, ?_⟩
  rw [gen_sound_pageBoundary, update2_left _ _ _ hne, update2_right]
  intro s hs
  rw [update2_other _ _ _ (hl s hs) (hr s hs)]
  have h1 := hlo (x s.1 - half s) (List.mem_map.mpr ⟨s, hs, rfl⟩)
  have h2 := hhi (x s.1 + half s) (List.mem_map.mpr ⟨s, hs, rfl⟩)
  exact ⟨show lo + half s ≤ x s.1 by linarith only [h1], h2⟩

theorem convex_step (cs : List Sep) (old proj : Asg) (t : Rat) (h0 : 0 ≤ t) (h1 : t ≤ 1)
    (hOld : AllHold cs old) (hProj : AllHold cs proj) : AllHold cs (step old proj t) := by
  intro c hc
  have ho := hOld c hc
  have hp := hProj c hc
  unfold Holds step at *
  cases hce : c.eq
  · -- the convex combination `(1 - t) · ho + t · hp`
    simp only [hce, Bool.false_eq_true, if_false] at ho hp ⊢
    have h2 := mul_le_mul_of_nonneg_left hp h0
    have h3 := mul_le_mul_of_nonneg_left ho (sub_nonneg.mpr h1)
    linarith only [h2, h3]
  · simp only [hce, if_true] at ho hp ⊢
    have : old c.right - proj c.right = old c.left - proj c.left := by linarith only [ho, hp]
    rw [this]
    linarith only [ho]

example : AllHold [⟨0, 1, 2, false⟩] (step (fun i => if i = 0 then 0 else 5) (fun i => if i = 0 then 1 else 3) (1/2)) :=
  convex_step _ _ _ _ (by decide +kernel) (by decide +kernel) (by decide +kernel) (by decide +kernel)

/-! ### the generation loop of the model -/

theorem runItems_ok (nvars cc : Nat) (items : List Item) (acc res : List Sep)
    (h : runItems nvars cc items acc = (res, none)) : res = acc ++ items.flatMap Item.seps :=
  ((runItems_eq_none_iff nvars cc items acc res).1 h).1

theorem runItems_valid (nvars cc : Nat) (items : List Item) (acc : List Sep)
    (hv : ∀ it ∈ items, ∃ ids seps, it = .ok ids seps ∧ ∀ i ∈ ids, i < nvars) :
    runItems nvars cc items acc = (acc ++ items.flatMap Item.seps, none) :=
  (runItems_eq_none_iff nvars cc items acc _).2 ⟨rfl, hv⟩

/-- without an exception, the dispatcher `itemsOf` yields exactly the per-type constraint lists
    the `gen_sound_*` / `gen_complete_*` theorems are about -/
theorem itemsOf_boundary (d : Dim) (aux : List Aux) (idx v : Nat) (pos : Rat) (offs : List (Nat × Rat))
    (h : guideOf aux idx = some v) :
    (itemsOf d aux idx (.boundary d pos offs)).map (fun l => l.flatMap Item.seps) = some (boundarySeps v offs) := by
  simp only [itemsOf, h, boundarySeps, Item.seps, List.flatMap_map, if_true, Option.map_some, List.map_cons, List.map_nil]
  rw [← List.map_eq_flatMap]

theorem itemsOf_alignment (d : Dim) (aux : List Aux) (idx v : Nat) (pos : Rat) (f : Bool) (offs : List (Nat × Rat))
    (h : guideOf aux idx = some v) :
    (itemsOf d aux idx (.alignment d pos f offs)).map (fun l => l.flatMap Item.seps) = some (alignmentSeps v offs) := by
  simp only [itemsOf, h, alignmentSeps, Item.seps, List.flatMap_map, if_true, Option.map_some, List.map_cons, List.map_nil]
  rw [← List.map_eq_flatMap]

theorem itemsOf_separation (d : Dim) (aux : List Aux) (idx l r : Nat) (gap : Rat) (eq : Bool) :
    (itemsOf d aux idx (.separation d l r gap eq)).map (fun l => l.flatMap Item.seps) = some (separationSeps l r gap eq) := by
  simp [itemsOf, Item.seps]

theorem itemsOf_sepAlign (d : Dim) (aux : List Aux) (idx l r vl vr : Nat) (gap : Rat) (eq : Bool)
    (hl : guideOf aux l = some vl) (hr : guideOf aux r = some vr) :
    (itemsOf d aux idx (.sepAlign d l r gap eq)).map (fun l => l.flatMap Item.seps) = some (separationSeps vl vr gap eq) := by
  simp [itemsOf, hl, hr, Item.seps]

theorem itemsOf_fixedRel (d : Dim) (aux : List Aux) (idx : Nat) (fp : Bool) (sv : List Nat) (rel : List RelOff) :
    (itemsOf d aux idx (.fixedRel fp sv rel)).map (fun l => l.flatMap Item.seps) = some (fixedRelSeps d rel) := by
  simp only [itemsOf, Option.map_some, Option.some.injEq, List.flatMap_map, Item.seps]
  unfold fixedRelSeps
  induction rel with
  | nil => simp
  | cons o t ih =>
    by_cases ho : o.dim = d
    · simp [List.filter_cons, ho] at ih ⊢; exact ih
    · simp [List.filter_cons, ho] at ih ⊢; exact ih

theorem itemsOf_pageBounds (d : Dim) (aux : List Aux) (idx : Nat) (a b c e w : Rat) (shapes : List (Nat × Rat × Rat)) :
    (itemsOf d aux idx (.pageBounds a b c e w shapes)).map (fun l => l.flatMap Item.seps)
      = some (pageSeps d (aux.getD idx {}).pageL (aux.getD idx {}).pageR shapes) := by
  simp only [itemsOf, Option.map_some, Option.some.injEq, List.flatMap_map, Item.seps]
  unfold pageSeps
  simp

/-! ### checkers on the final rectangles -/

theorem check_boundary_iff (tol : Rat) (x : Asg) (offs : List (Nat × Rat)) :
    checkBoundary tol x offs = true ↔ BoundaryTol tol x offs := by
  unfold checkBoundary BoundaryTol
  simp only [List.all_eq_true]
  constructor
  · intro h p hp q hq hpn hqn
    have := h p hp q hq
    simpa [hpn, hqn] using this
  · intro h p hp q hq
    by_cases hc : p.2 < 0 ∧ ¬ q.2 < 0
    · simp only [hc, not_false_eq_true, and_self, if_true, decide_eq_true_eq]
      exact h p hp q hq hc.1 hc.2
    · rw [if_neg hc]

theorem check_alignment_iff (tol : Rat) (x : Asg) (offs : List (Nat × Rat)) :
    checkAlignment tol x offs = true ↔ AlignmentTol tol x offs := by
  unfold checkAlignment AlignmentTol
  simp only [List.all_eq_true, decide_eq_true_eq, absR_sub_le_iff]

theorem check_separation_iff (tol : Rat) (x : Asg) (l r : Nat) (gap : Rat) (eq : Bool) :
    checkSeparation tol x l r gap eq = true ↔ GapTol tol eq (x l) gap (x r) :=
  sepOk_iff tol eq (x l) gap (x r)

theorem check_guides_iff (tol : Rat) (x : Asg) (offsL offsR : List (Nat × Rat)) (gap : Rat) (eq : Bool) :
    checkGuides tol x offsL offsR gap eq = true ↔ GuidesTol tol x offsL offsR gap eq := by
  unfold checkGuides GuidesTol
  simp only [List.all_eq_true, sepOk_iff]

theorem check_fixedRel_iff (tol : Rat) (pos : Dim → Asg) (rel : List RelOff) :
    checkFixedRel tol pos rel = true ↔ FixedRelTol tol pos rel := by
  unfold checkFixedRel FixedRelTol
  simp only [List.all_eq_true, decide_eq_true_eq, absR_sub_le_iff]

theorem fixedRelTol_zero (pos : Dim → Asg) (rel : List RelOff) :
    FixedRelTol 0 pos rel ↔ ∀ d, FixedRelMeaning d rel (pos d) := by
  unfold FixedRelTol FixedRelMeaning
  simp only [nearEq_zero, sub_eq_iff_eq_add']
  exact ⟨fun h d o ho hd => hd ▸ h o ho, fun h o ho => h o.dim o ho rfl⟩

/-- the driver's verdict: an empty `violated` list means that every compound constraint which is
    not reported (itself or through an alignment it refers to) passes its checker -/
theorem violated_nil (tol : Rat) (ccs : List CC) (pos : Dim → Asg) (reported : List Nat)
    (h : violated tol ccs pos reported = []) (j : Nat) (cc : CC) (hj : ccs[j]? = some cc)
    (hr : reported.contains j = false) (hrefs : (ccRefs cc).any reported.contains = false) :
    checkCC tol ccs pos cc = true := by
  unfold violated at h
  rw [List.filter_eq_nil_iff] at h
  have hlt : j < ccs.length := by
    rcases Nat.lt_or_ge j ccs.length with h' | h'
    · exact h'
    · rw [List.getElem?_eq_none h'] at hj; cases hj
  have := h j (List.mem_range.mpr hlt)
  simp only [hj, hr, hrefs, Bool.not_false, Bool.true_and, Bool.not_eq_true', Bool.not_eq_false] at this
  simpa using this

theorem sizesSame_iff (b a : List (Rat × Rat)) : sizesSame b a = true ↔ b = a := by
  unfold sizesSame; simp

end AdaptaVerif.Props.C07
