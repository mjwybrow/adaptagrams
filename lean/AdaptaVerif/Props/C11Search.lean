/-
C11, the A* search of pin-attached connectors: the end-point list of the orthogonal turn pruning
(`endPoints = lineRef->possibleDstPinPoints()`, makepath.cpp) as a function of the pin bookkeeping
(`Model/AStarPins.possiblePinPoints` over the state machine of `Model/Pins`), and what the pruning rule as
coded (`Model/AStar.prunedAsCoded`) guarantees for it.  All statements are for ALL pin states / operation
histories / graphs / vertices.
-/
import AdaptaVerif.Model.AStarPins
import AdaptaVerif.Lemmas.AStarPinsNoPath
namespace AdaptaVerif.Props.C11Search
open AdaptaVerif.Model AdaptaVerif.Model.Pins AdaptaVerif.Model.AStar AdaptaVerif.Model.AStarPins
open AdaptaVerif.Model.Geometry (Pt)

/-- The two places that decide which pins an end may use agree: every pin to which
    `ConnEnd::assignPinVisibilityTo` gives the dummy end vertex an edge is in the end-point list
    `Obstacle::possiblePinPoints` of the turn pruning. -/
theorem offered_pin_is_end_point (s : State) (pos : Nat → Option Pt) (sh cls : Nat) (p : PinState) (q : Pt)
    (hp : p ∈ offeredPins s sh cls) (hq : pos p.id = some q) :
    q ∈ possiblePinPoints s pos sh cls :=
  Lemmas.AStarPinsNoPath.mem_possiblePinPoints.2 ⟨p, hp, hq⟩

/-- … and conversely: the end-point list contains nothing else. -/
theorem end_point_is_offered_pin (s : State) (pos : Nat → Option Pt) (sh cls : Nat) (q : Pt)
    (hq : q ∈ possiblePinPoints s pos sh cls) :
    ∃ p ∈ offeredPins s sh cls, pos p.id = some q :=
  Lemmas.AStarPinsNoPath.mem_possiblePinPoints.1 hq

/-- A SHARED pin is an end point whatever users it has: after any history of operations, a non-exclusive pin of
    the class that is present is in the list (its users do not matter). -/
theorem shared_pin_is_end_point (s : State) (ops : List Op) (pos : Nat → Option Pt) (p : PinState) (q : Pt)
    (hp : p ∈ run s ops) (hs : p.exclusive = false) (hq : pos p.id = some q) :
    q ∈ possiblePinPoints (run s ops) pos p.shape p.classId :=
  Lemmas.AStarPinsNoPath.mem_possiblePinPoints.2 ⟨p, List.mem_filter.2 ⟨hp, by simp [hs]⟩, hq⟩

/-- non-vacuity: a shared pin with two users -/
example : possiblePinPoints
    (run [] [.addPin 0 1 7 false, .route 10 none (some 0), .route 11 none (some 0)]) (fun _ => some ⟨3, 4⟩) 1 7 = [⟨3, 4⟩] := by decide

/-- An exclusive pin stops being an end point as soon as it has a user. -/
theorem used_exclusive_pin_is_no_end_point :
    possiblePinPoints (run [] [.addPin 0 1 7 true, .route 10 none (some 0)]) (fun _ => some ⟨3, 4⟩) 1 7 = [] := by decide

/-- The turn pruning as coded never skips a vertical hop at a vertex in the column of an end point … -/
theorem turn_in_end_point_column_not_pruned (g : Graph) (prev : Option Nat) (best next : Nat) (q : Pt)
    (hq : q ∈ g.pinPts) (hx : (g.pt best).x = q.x) (hy : (g.pt next).y ≠ (g.pt best).y) :
    prunedAsCoded g prev best next = false := by
  have hal : alignedWithOneOf (g.pt best) (g.pinPts ++ [g.pt g.tar]) true = true := by
    unfold alignedWithOneOf
    rw [List.any_eq_true]
    exact ⟨q, List.mem_append_left _ hq, by simp [hx]⟩
  have hne : ¬ (g.pt best).y = (g.pt next).y := fun h => hy h.symm
  unfold prunedAsCoded
  simp [hal, hne]

/-- … nor a horizontal hop at a vertex in the row of an end point. -/
theorem turn_in_end_point_row_not_pruned (g : Graph) (prev : Option Nat) (best next : Nat) (q : Pt)
    (hq : q ∈ g.pinPts) (hy : (g.pt best).y = q.y) (hx : (g.pt next).x ≠ (g.pt best).x) :
    prunedAsCoded g prev best next = false := by
  have hal : alignedWithOneOf (g.pt best) (g.pinPts ++ [g.pt g.tar]) false = true := by
    unfold alignedWithOneOf
    rw [List.any_eq_true]
    exact ⟨q, List.mem_append_left _ hq, by simp [hy]⟩
  have hne : ¬ (g.pt best).x = (g.pt next).x := fun h => hx h.symm
  unfold prunedAsCoded
  simp [hal, hne]

/-- Together — the guarantee a change of the candidate filter breaks: in the search of a connector whose
    destination is attached to (shape, class), with the end-point list the pin state yields, a route may bend
    onto the column / row of every shared pin of that class, used or not, at any vertex. -/
theorem bend_onto_shared_pin_line_allowed (s : State) (ops : List Op) (pos : Nat → Option Pt) (p : PinState) (q : Pt)
    (g : PGraph) (prev : Option Nat) (best next : Nat)
    (hp : p ∈ run s ops) (hs : p.exclusive = false) (hq : pos p.id = some q)
    (hg : g.endPts = possiblePinPoints (run s ops) pos p.shape p.classId) :
    ((g.pt best).x = q.x → (g.pt next).y ≠ (g.pt best).y → prunedAsCoded g.base prev best next = false) ∧
    ((g.pt best).y = q.y → (g.pt next).x ≠ (g.pt best).x → prunedAsCoded g.base prev best next = false) := by
  have hmem : q ∈ g.base.pinPts := by
    show q ∈ g.endPts
    rw [hg]; exact shared_pin_is_end_point s ops pos p q hp hs hq
  exact ⟨fun hx hy => turn_in_end_point_column_not_pruned g.base prev best next q hmem hx hy,
         fun hy hx => turn_in_end_point_row_not_pruned g.base prev best next q hmem hy hx⟩

/-! ### searches that fail before they start (driver: `sisolated` lines, for which no graph is dumped) -/

open AdaptaVerif.Lemmas.AStarPinsNoPath in
/-- If no enabled edge of the graph leads to the target vertex — the dummy vertex of an end whose pin class has no
    candidate pin gets no edge from `assignPinVisibilityTo` — the search as coded returns no route, for every graph,
    whatever the costs and the order of the edges. -/
theorem no_enabled_edge_into_target_no_route (g : PGraph) (hne : g.src ≠ g.tar)
    (h : ∀ v, ∀ e ∈ g.edges v, e.disabled = false → e.to ≠ g.tar) : g.route = none :=
  route_none_of_confined g (· ≠ g.tar) (fun pv v s _ hs => by
    obtain ⟨e, he, hd, hw⟩ := succs_edge g g.base g.costTargets pv v s hs
    exact hw ▸ h v e he hd) hne (fun h => h rfl)

/-- If the source vertex has no enabled edge the search returns no route. -/
theorem isolated_source_no_route (g : PGraph) (hne : g.src ≠ g.tar)
    (h : ∀ e ∈ g.edges g.src, e.disabled = true) : g.route = none :=
  Lemmas.AStarPinsNoPath.route_none_of_confined g (· = g.src) (fun pv v s hv hs => by
    obtain ⟨e, he, hd, _⟩ := Lemmas.AStarPinsNoPath.succs_edge g g.base g.costTargets pv v s hs
    rw [hv] at he
    rw [h e he] at hd; cases hd) rfl (fun h => hne h.symm)

end AdaptaVerif.Props.C11Search
