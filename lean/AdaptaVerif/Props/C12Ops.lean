/-
C12 — the hyperedge tree and its rewriting operations (cola/libavoid/hyperedgetree.cpp, the structural
steps of hyperedgeimprover.cpp) as modelled in `AdaptaVerif.Model.HyperTree`.

Every theorem is for ALL heaps `t` satisfying `Tree t` = `WF t ∧ IsTree t.graphV t.graphE`:
* `WF` — object numbers distinct, every edge object has two live ends, every node's edge list has no
  repetition and lists exactly the live edges that end at the node (nothing dangles, the two
  directions of the doubly linked C++ structure agree), every number is below the allocation counter;
* `IsTree` (Spec.Tree) — the abstract multigraph is connected and every edge is a bridge — the very
  predicate that `Check.Tree.isTree` decides (`Props.C12.isTree_iff`).
The operations are the as-coded ones (which node survives, order of the edge lists, first/second end,
junction and connector pointers); the driver replays them against the real code (harness `--mode ops`,
and the stage dumps of the guarded hook inside `HyperedgeImprover::execute`).
-/
import AdaptaVerif.Lemmas.HyperTree
import AdaptaVerif.Lemmas.HyperTreeRzle
import AdaptaVerif.Lemmas.HyperTreeWfb
import AdaptaVerif.Lemmas.HyperTreeJunctions
import AdaptaVerif.Lemmas.HyperTreeMove
import AdaptaVerif.Lemmas.HyperTreeCompose
import AdaptaVerif.Lemmas.HyperTreeMoveTerminals
import AdaptaVerif.Lemmas.HyperTreeAttrs
import AdaptaVerif.Lemmas.HyperTreeWitness
import AdaptaVerif.Props.C12
namespace AdaptaVerif.Props.C12Ops
open AdaptaVerif.Model.HyperTree AdaptaVerif.Check.Tree AdaptaVerif.Spec.Tree
open AdaptaVerif.Lemmas.HyperTree AdaptaVerif.Lemmas.HyperTreeGraph AdaptaVerif.Lemmas.HyperTreeRzle
open AdaptaVerif.Lemmas.HyperTreeWfb AdaptaVerif.Lemmas.HyperTreeWitness AdaptaVerif.Lemmas.HyperTreeJunctions
open AdaptaVerif.Lemmas.HyperTreeCompose AdaptaVerif.Lemmas.HyperTreeTerminals

/-- `wfb` (evaluated by the driver on every heap state the real code produced, and on the model's)
    implies the structural invariant `WF` of all theorems below. -/
theorem wfb_sound {t : HTree} (h : wfb t = true) : WF t := AdaptaVerif.Lemmas.HyperTreeWfb.wfb_sound h

/-- the two executable checks together establish the hypothesis `Tree` -/
theorem tree_of_checks {t : HTree} (h1 : wfb t = true) (h2 : isTree t.graphV t.graphE = true) : Tree t :=
  ⟨wfb_sound h1, AdaptaVerif.Props.C12.isTree_sound _ _ h2⟩

-- non-vacuity: concrete trees (Lemmas/HyperTreeWitness) satisfy `Tree`
example : Tree exStar := tree_of_checks exStar_checks.1 exStar_checks.2
example : Tree exZeroTail := tree_of_checks exZeroTail_checks.1 exZeroTail_checks.2
example : Tree exOverTerminal := tree_of_checks exOverTerminal_checks.1 exOverTerminal_checks.2
example : Tree exTwoJunctions := tree_of_checks exTwoJunctions_checks.1 exTwoJunctions_checks.2
example : Tree exCommon := tree_of_checks exCommon_checks.1 exCommon_checks.2

/-! ### contraction of an edge (`disconnectEdge; delete edge; spliceEdgesFrom; delete source`) -/

/-- The contraction sequence used by `removeZeroLengthEdges` succeeds on every tree for every edge and
    either choice of the surviving end, and gives a well-formed tree whose vertices are the old ones
    without `src`. -/
theorem contract_preserves_tree {t : HTree} (h : Tree t) {e : HEdge} (he : e ∈ t.edges) {tg src : Nat}
    (hj : Joins e tg src) :
    ∃ t', contract t e.id tg src = some t' ∧ Tree t' ∧
      t'.graphV = t.graphV.filter (fun v => v != src) := by
  obtain ⟨t', hc, ht, hs⟩ := contract_tree h he hj
  exact ⟨t', hc, ht, hs.graphV⟩

/-- degrees after an identification step (`x` = the end of the removed edge that is not `src`;
    `x = tg` for a contraction) -/
theorem identify_deg {t t' : HTree} {e : HEdge} {x tg src : Nat} (hs : IdentifySpec t e x tg src t')
    (hts : tg ≠ src) (hxs : x ≠ src) (v : Nat) :
    deg t'.graphE v =
      if v = src then 0
      else if v = tg then (deg t.graphE tg - (if x = tg then 1 else 0)) + (deg t.graphE src - 1)
      else deg t.graphE v - (if x = v then 1 else 0) :=
  AdaptaVerif.Lemmas.HyperTree.identify_deg hs hts hxs v

/-- Contraction and the terminal set.  If neither end of the contracted edge is a leaf, the leaves of
    the result are exactly the leaves before (as a set of node objects): "same terminal set". -/
theorem contract_same_terminals {t : HTree} (h : Tree t) {e : HEdge} (he : e ∈ t.edges) {tg src : Nat}
    (hj : Joins e tg src) (h1 : 2 ≤ deg t.graphE tg) (h2 : 2 ≤ deg t.graphE src) (T : List Nat)
    (hT : LeavesAre t.graphV t.graphE T) :
    ∃ t', contract t e.id tg src = some t' ∧ LeavesAre t'.graphV t'.graphE T := by
  obtain ⟨t', hc, _, hs⟩ := contract_tree h he hj
  have hts := h.ne_of_joins he hj
  exact ⟨t', hc, identify_leaves hs hts hts h1 h2 (Or.inl rfl) hT⟩

/-- The case the traversal produces at a terminal: the leaf `src` is merged into its neighbour `tg` of
    degree 2 — the merged node is the (only new) leaf: the terminal set is the old one with `src`
    replaced by `tg`. -/
theorem contract_leaf_shift {t : HTree} (h : Tree t) {e : HEdge} (he : e ∈ t.edges) {tg src : Nat}
    (hj : Joins e tg src) (h1 : deg t.graphE tg = 2) (h2 : deg t.graphE src = 1) :
    ∃ t', contract t e.id tg src = some t' ∧
      ∀ v ∈ t'.graphV, (deg t'.graphE v = 1 ↔ (v = tg ∨ (v ≠ src ∧ deg t.graphE v = 1))) := by
  obtain ⟨t', hc, _, hs⟩ := contract_tree h he hj
  have hts : tg ≠ src := h.ne_of_joins he hj
  refine ⟨t', hc, ?_⟩
  intro v hv
  rw [hs.graphV, mem_filter_ne] at hv
  rw [identify_deg hs hts hts v]
  grind

/-- Splitting an edge at a point succeeds on every tree for every edge and either end as `source`; the
    result is a well-formed tree with exactly one more vertex (the next object number). -/
theorem split_preserves_tree {t : HTree} (h : Tree t) {e : HEdge} (he : e ∈ t.edges) {source target : Nat}
    (hj : Joins e source target) (p : AdaptaVerif.Model.Geometry.Pt) :
    ∃ t', splitFromNodeAtPoint t e.id source p = some (t', t.next, t.next + 1) ∧ Tree t' ∧
      t'.graphV = t.graphV ++ [t.next] := by
  obtain ⟨t', hc, ht, hs⟩ := split_tree h he hj p
  exact ⟨t', hc, ht, hs.graphV⟩

/-- … and the same terminals: the new node has degree 2, all other degrees are unchanged. -/
theorem split_same_terminals {t : HTree} (h : Tree t) {e : HEdge} (he : e ∈ t.edges) {source target : Nat}
    (hj : Joins e source target) (p : AdaptaVerif.Model.Geometry.Pt) (T : List Nat)
    (hT : LeavesAre t.graphV t.graphE T) :
    ∃ t', splitFromNodeAtPoint t e.id source p = some (t', t.next, t.next + 1) ∧
      LeavesAre t'.graphV t'.graphE T := by
  obtain ⟨t', hc, _, hs⟩ := split_tree h he hj p
  exact ⟨t', hc, split_leaves h he hj hs hT⟩

/-! ### merging the far end of a further common edge (`moveJunctionAlongCommonEdge`) -/

/-- One iteration of the merge loop: `e` joins `self` and `src`, the first common edge `e0` joins `self`
    and `tg`; `src` is glued onto `tg` and `e` disappears.  Succeeds on every tree, gives a tree. -/
theorem mergeStep_preserves_tree {t : HTree} (h : Tree t) {e e0 : HEdge} (he : e ∈ t.edges)
    {self tg src : Nat} (hj : Joins e self src) (he0 : e0 ∈ t.edges) (hne : e0.id ≠ e.id)
    (hj0 : Joins e0 self tg) :
    ∃ t', mergeStep t e.id tg src = some t' ∧ Tree t' ∧
      t'.graphV = t.graphV.filter (fun v => v != src) := by
  obtain ⟨t', hc, ht, hs⟩ := mergeStep_tree h he hj he0 hne hj0
  exact ⟨t', hc, ht, hs.graphV⟩

/-- … with the same terminals, provided the two merged nodes are not leaves and `self` keeps at least
    two edges. -/
theorem mergeStep_same_terminals {t : HTree} (h : Tree t) {e e0 : HEdge} (he : e ∈ t.edges)
    {self tg src : Nat} (hj : Joins e self src) (he0 : e0 ∈ t.edges) (hne : e0.id ≠ e.id)
    (hj0 : Joins e0 self tg) (h1 : 2 ≤ deg t.graphE tg) (h2 : 2 ≤ deg t.graphE src)
    (h3 : 3 ≤ deg t.graphE self) (T : List Nat) (hT : LeavesAre t.graphV t.graphE T) :
    ∃ t', mergeStep t e.id tg src = some t' ∧ LeavesAre t'.graphV t'.graphE T := by
  obtain ⟨t', hc, ht, hs⟩ := mergeStep_tree h he hj he0 hne hj0
  have hxs : self ≠ src := h.ne_of_joins he hj
  have hts : tg ≠ src := by
    intro hh
    subst hh
    exact h.no_parallel he he0 hne hj hj0
  exact ⟨t', hc, identify_leaves hs hts hxs h1 h2 (Or.inr h3) hT⟩

/-- `HyperedgeImprover::removeZeroLengthEdges(node, ignored)`: whatever the fuel, the start node and
    the ignored edge, if the traversal returns, the heap is again a well-formed tree. -/
theorem removeZeroLengthEdges_preserves_tree {f : Nat} {s : Imp} {self : Nat} {ign : Option Nat} {s' : Imp}
    (ht : Tree s.t) (h : rzleNode f s self ign = some s') : Tree s'.t :=
  (rzle_inv_all (fun s => Tree s.t) (fun _ _ ht hs => rzleStep_tree ht hs) f).1 s self ign s' ht h

/-- Junction bookkeeping of `removeZeroLengthEdges`.  If the junction map lists exactly the junction
    nodes, no junction is attached twice and no junction reported deleted is attached (`JInv`), then the
    same holds after the traversal; a junction is attached to a surviving node or reported deleted
    afterwards iff it was before (so: a junction newly reported deleted is attached to nothing that
    survives, and survivors ∪ deleted = the junctions of the start); no junction is reported new. -/
theorem removeZeroLengthEdges_junction_bookkeeping {f : Nat} {s : Imp} {self : Nat} {ign : Option Nat}
    {s' : Imp} (ht : Tree s.t) (hi : JInv s) (h : rzleNode f s self ign = some s') :
    JInv s' ∧ (∀ j, (Carried s'.t j ∨ j ∈ s'.delJ) ↔ (Carried s.t j ∨ j ∈ s.delJ)) ∧
      (∀ j ∈ s'.delJ, ¬ Carried s'.t j) ∧ s'.newJ = s.newJ := by
  obtain ⟨_, hJ, hC, hN⟩ := rzleNode_jinv ht hi h
  exact ⟨hJ, hC, hJ.deleted, hN⟩

/-- `removeZeroLengthEdges` keeps the TERMINAL SET.  Side condition `NoLeafZero`: no zero-length edge with
    a non-fixed route ends at a leaf (i.e. no junction / bend sits exactly on a terminal).  It has to hold
    only at the start: every contraction preserves it.  Then for every fuel, start node and ignored edge
    the leaves of the result are exactly the leaves before (`LeavesAre … T` for the same `T`). -/
theorem removeZeroLengthEdges_same_terminals {f : Nat} {s : Imp} {self : Nat} {ign : Option Nat} {s' : Imp}
    (ht : Tree s.t) (hz : NoLeafZero s.t) (T : List Nat) (hT : LeavesAre s.t.graphV s.t.graphE T)
    (h : rzleNode f s self ign = some s') :
    Tree s'.t ∧ NoLeafZero s'.t ∧ LeavesAre s'.t.graphV s'.t.graphE T :=
  (rzle_inv_all (fun x => Tree x.t ∧ NoLeafZero x.t ∧ LeavesAre x.t.graphV x.t.graphE T)
    (fun _ _ hP hstep => rzleStep_terminals hP.1 hP.2.1 hstep T hP.2.2) f).1 s self ign s' ⟨ht, hz, hT⟩ h

/-- The REPAIRED `removeZeroLengthEdges` (fix 6964517; `keepAttrs = true`) keeps the terminal attributes,
    for all trees, every fuel, start node and ignored edge: every terminal (leaf) of the result carries
    the `isConnectorSource` / `isPinDummyEndpoint` / `finalVertex` — and the position — of a terminal of
    the tree before the rewrite.  (False for the code as found: `rzle_drops_isConnectorSource_witness`.) -/
theorem removeZeroLengthEdges_keeps_terminal_attrs {f : Nat} {s : Imp} {self : Nat} {ign : Option Nat}
    {s' : Imp} (ht : Tree s.t) (hk : s.keepAttrs = true) (h : rzleNode f s self ign = some s') :
    ∀ n' ∈ s'.t.nodes, n'.edges.length = 1 →
      ∃ n ∈ s.t.nodes, n.edges.length = 1 ∧
        AdaptaVerif.Lemmas.HyperTreeAttrs.TermAttrs n = AdaptaVerif.Lemmas.HyperTreeAttrs.TermAttrs n' ∧
        n.point = n'.point := by
  have h0 : AdaptaVerif.Lemmas.HyperTreeAttrs.AttrInv s.t s := ⟨ht, hk, fun n' hn' hl => ⟨n', hn', hl, rfl, rfl⟩⟩
  exact ((AdaptaVerif.Lemmas.HyperTreeAttrs.rzle_attrInv_all s.t f).1 s self ign s' h0 h).2.2

/-- the executable form of the side condition (evaluated by the driver on the real states) is sound -/
theorem noLeafZerob_sound {t : HTree} (hw : WF t) (h : noLeafZerob t = true) : NoLeafZero t := by
  intro e he hfree hz a b hj
  have := List.all_eq_true.mp h e he
  rw [hfree, zeroLength_of_zeroLen hw hz] at this
  simp only [Bool.false_or, Bool.not_true] at this
  rcases hj with ⟨j1, j2⟩ | ⟨j1, j2⟩
  · rw [j1, j2] at this
    simp only [Bool.and_eq_true, decide_eq_true_eq] at this
    exact this
  · rw [j1, j2] at this
    simp only [Bool.and_eq_true, decide_eq_true_eq] at this
    exact ⟨this.2, this.1⟩

-- non-vacuity: two junctions joined by a zero-length connector, four terminals: the side condition holds
-- (the traversal merges the junctions, the leaves stay [2,3,4,5]) …
example : NoLeafZero exTwoJunctions := noLeafZerob_sound (wfb_sound (by decide)) (by decide +kernel)
example : LeavesAre exTwoJunctions.graphV exTwoJunctions.graphE [2, 3, 4, 5] :=
  (AdaptaVerif.Props.C12.leavesAre_iff _ _ _).mp (by decide)
-- … and it fails on the witness `exStar` (junction on a terminal)
example : noLeafZerob exStar = false := by decide +kernel

/-- the executable bookkeeping check of the driver implies `JInv` -/
theorem jinvb_sound {s : Imp} (h : jinvb s = true) : JInv s := AdaptaVerif.Lemmas.HyperTreeJunctions.jinvb_sound h

example : JInv (mkImp exTwoJunctions [(1, 0), (2, 1)] [1] true) := jinvb_sound (by decide)

-- non-vacuity: the traversal returns on the examples (and contracts something)
example : ((rzleNode 100 (mkImp exStar [(1, 0)] [1] false) 0 none).map (fun s => s.t.nodes.length)) = some 3 := by
  decide +kernel
example : ((rzleNode 100 (mkImp exTwoJunctions [(1, 0), (2, 1)] [1] true) 0 none).map
    (fun s => [[s.t.nodes.length], s.delJ, s.delC, s.junctions.map (·.1), s.roots])) = some [[5], [2], [1], [1], [1]] := by
  decide +kernel

/-- `HyperedgeImprover::moveJunctionAlongCommonEdge` (with the caller's rewrite of the junction map),
    all branches — nothing to move, common edges split, junction moved (old node kept or freed),
    junction split in two: the heap is again a well-formed tree. -/
theorem moveJunction_preserves_tree {s : Imp} {j : Nat} {r : MoveResult} (ht : Tree s.t)
    (h : moveJunctionStep s j = some r) : Tree r.s.t :=
  AdaptaVerif.Lemmas.HyperTreeMove.moveJunctionStep_tree ht h

/-- the caller's `while ((node = moveJunctionAlongCommonEdge(node, changed)))` loop for one junction -/
theorem moveJunctionFully_preserves_tree {f : Nat} {s : Imp} {j : Nat} {s' : Imp} (ht : Tree s.t)
    (h : moveJunctionFully f s j = some s') : Tree s'.t :=
  AdaptaVerif.Lemmas.HyperTreeMove.moveJunctionFully_tree f s j s' ht h

-- non-vacuity: the junction of `exCommon` moves along the common first segment (one split, one merge)
example : (moveJunctionStep (mkImp exCommon [(1, 0)] [1] false) 1).map
    (fun r => (r.s.t.nodes.length, r.newSelf, r.s.t.leaves)) = some (6, some 1, [3, 4, 5]) := by
  decide +kernel

/-- The junction move keeps the TERMINAL SET.  Side condition `MoveSafe` on the junction node (fixed-route
    edges aside): no leaf neighbour without a junction shares its position with another neighbour or lies
    strictly inside the segment to another neighbour (`pointOnLine`).  Then — all branches, in-scan splits
    included — the leaves of the result are exactly the leaves before. -/
theorem moveJunction_same_terminals {s : Imp} {j : Nat} {r : MoveResult} {T : List Nat} (ht : Tree s.t)
    (hsafe : ∀ self, s.junctions.find? (fun p => p.1 == j) = some (j, self) →
      AdaptaVerif.Lemmas.HyperTreeMoveTerminals.MoveSafe s.t self)
    (hT : LeavesAre s.t.graphV s.t.graphE T) (h : moveJunctionStep s j = some r) :
    LeavesAre r.s.t.graphV r.s.t.graphE T :=
  AdaptaVerif.Lemmas.HyperTreeMoveTerminals.moveJunctionStep_terminals ht hsafe hT h

-- non-vacuity: the side condition holds at the junction of `exCommon` (whose junction does move) and
-- fails on the witness `exOverTerminal`
instance (e : HEdge) (a b : Nat) : Decidable (Joins e a b) := by unfold Joins; infer_instance
example : AdaptaVerif.Lemmas.HyperTreeMoveTerminals.MoveSafe exCommon 0 := by
  unfold AdaptaVerif.Lemmas.HyperTreeMoveTerminals.MoveSafe
  decide +kernel
example : ¬ AdaptaVerif.Lemmas.HyperTreeMoveTerminals.MoveSafe exOverTerminal 0 := by
  unfold AdaptaVerif.Lemmas.HyperTreeMoveTerminals.MoveSafe
  decide +kernel

/-- Junction bookkeeping of the junction move (one call + the caller's map rewrite), all branches.  With
    fresh junction numbers (`JFresh`: every attached or deleted junction is below the counter the next
    `new JunctionRef` gets; `NewJFresh`: likewise the reported-new ones): the bookkeeping is consistent
    again, the junctions attached to nodes of the result are exactly the old ones plus the ones newly
    reported in the new-junction list, nothing is reported deleted. -/
theorem moveJunction_junction_bookkeeping {s : Imp} {j : Nat} {r : MoveResult} (ht : Tree s.t) (hi : JInv s)
    (hF : AdaptaVerif.Lemmas.HyperTreeMove.JFresh s) (hN : AdaptaVerif.Lemmas.HyperTreeMove.NewJFresh s)
    (h : moveJunctionStep s j = some r) :
    JInv r.s ∧ AdaptaVerif.Lemmas.HyperTreeMove.JFresh r.s ∧ AdaptaVerif.Lemmas.HyperTreeMove.NewJFresh r.s ∧
      (∀ j, Carried r.s.t j ↔ (Carried s.t j ∨ (j ∈ r.s.newJ ∧ j ∉ s.newJ))) ∧
      r.s.delJ = s.delJ ∧ (∃ L, r.s.newJ = s.newJ ++ L) := by
  have hk := AdaptaVerif.Lemmas.HyperTreeMove.moveJunctionStep_fullyKeeps ht
    ((jinv_iff ht.1).mp hi) hF hN h
  refine ⟨(jinv_iff hk.tree.1).mpr hk.jinv, hk.jfresh, hk.newJFresh,
    ?_, hk.delJ, hk.newJ⟩
  intro j
  rw [carried_iff, carried_iff]
  exact hk.junctions j

-- non-vacuity of the freshness hypotheses
example : AdaptaVerif.Lemmas.HyperTreeMove.JFresh (mkImp exCommon [(1, 0)] [1] true) :=
  ⟨by decide, by decide⟩
example : AdaptaVerif.Lemmas.HyperTreeMove.NewJFresh (mkImp exCommon [(1, 0)] [1] true) := by
  intro j hj; cases hj

/-- the rewriting steps of `HyperedgeImprover::execute` that act on the tree structure, plus the
    coordinate changes of the shift-segment moves (which do not touch the structure) -/
inductive Rewrite : Imp → Imp → Prop
  | rzle {f : Nat} {s : Imp} {n : Nat} {ign : Option Nat} {s' : Imp} :
      rzleNode f s n ign = some s' → Rewrite s s'
  | move {s : Imp} {j : Nat} {r : MoveResult} : moveJunctionStep s j = some r → Rewrite s r.s
  | shift {s : Imp} (n : Nat) (p : AdaptaVerif.Model.Geometry.Pt) :
      Rewrite s { s with t := s.t.modNode n (fun x => { x with point := p }) }

/-- any finite sequence of rewrites -/
inductive Rewrites : Imp → Imp → Prop
  | refl (s : Imp) : Rewrites s s
  | step {s s' s'' : Imp} : Rewrites s s' → Rewrite s' s'' → Rewrites s s''

/-- The modelled rewrites compose: from a tree, any finite sequence of zero-length-edge removals,
    junction moves and coordinate shifts — in any order, from any nodes, with any fuel — gives a
    well-formed tree. -/
theorem improve_preserves_tree {s s' : Imp} (ht : Tree s.t) (h : Rewrites s s') : Tree s'.t := by
  induction h with
  | refl => exact ht
  | step _ hr ih =>
    cases hr with
    | rzle h1 => exact removeZeroLengthEdges_preserves_tree ih h1
    | move h1 => exact moveJunction_preserves_tree ih h1
    | shift n p => exact Relabel.tree (Relabel.modNode _ _ (fun _ => rfl) (fun _ => rfl)) ih

/-- Composition with the junction bookkeeping.  `Good` = well-formed tree ∧ consistent bookkeeping (`JInv`)
    ∧ fresh junction numbers.  Along any finite sequence of modelled rewrites `Good` is kept, and the
    junctions are conserved (`Conserved`): a junction is attached to a node of the result or reported
    deleted iff it was attached or reported deleted at the start or is newly reported in the new-junction
    list; with `JInv.deleted` of the result: what is reported deleted is attached to nothing that survives,
    and new-junction list ∪ survivors = the junctions attached to nodes of the result. -/
theorem improve_junction_bookkeeping {s s' : Imp} (hg : Good s) (h : Rewrites s s') :
    Good s' ∧ Conserved s s' := by
  induction h with
  | refl => exact ⟨hg, Conserved.refl _⟩
  | step _ hr ih =>
    obtain ⟨hg', hc'⟩ := ih
    cases hr with
    | rzle h1 =>
      obtain ⟨a, b⟩ := rzleNode_good hg' h1
      exact ⟨a, hc'.trans b⟩
    | move h1 =>
      obtain ⟨a, b⟩ := moveJunctionStep_good hg' h1
      exact ⟨a, hc'.trans b⟩
    | shift n p =>
      obtain ⟨a, b⟩ := shift_good hg' n p
      exact ⟨a, hc'.trans b⟩

example : Good (mkImp exTwoJunctions [(1, 0), (2, 1)] [1] true) :=
  ⟨tree_of_checks exTwoJunctions_checks.1 exTwoJunctions_checks.2, jinvb_sound (by decide), ⟨by decide, by decide⟩,
   fun j hj => by cases hj⟩

/-! ### side conditions: closed witnesses

The as-coded rewrites do NOT keep the set of leaves without the side conditions of
`contract_same_terminals` / `mergeStep_same_terminals`; the C++ callers do not establish them. -/

/-- `removeZeroLengthEdges`, junction sitting on a terminal (zero-length connector between a junction
    node and a leaf): the leaf is spliced into the junction node — the tree loses the terminal. -/
theorem rzle_drops_leaf_at_junction_witness :
    exStar.leaves = [1, 2, 3] ∧
    (rzleNode 100 (mkImp exStar [(1, 0)] [1] false) 0 none).map (fun s => s.t.leaves) = some [2, 3] := by
  decide +kernel

/-- `removeZeroLengthEdges` AS FOUND (`rzleNodeOld`, before fix 6964517), zero-length LAST segment of a
    connector whose source is the terminal: the far node (the leaf, `other`) is the one deleted, so its
    `isConnectorSource` flag is lost — the surviving leaf is not marked as a connector source any more
    (`writeEdgesToConns` then does not reverse that connector's route: defect F1 of report bF). -/
theorem rzle_drops_isConnectorSource_witness :
    (exZeroTail.nodes.filter (·.isConnectorSource)).map (·.id) = [2] ∧
    (rzleNodeOld 100 (mkImp exZeroTail [(1, 0)] [1] false) 0 none).map
      (fun s => (s.t.leaves, (s.t.nodes.filter (·.isConnectorSource)).map (·.id))) = some ([1, 3, 4], []) := by
  decide +kernel

-- … and the repaired traversal (the model since 6964517) hands the flag to the surviving leaf 1
example : (rzleNode 100 (mkImp exZeroTail [(1, 0)] [1] false) 0 none).map
    (fun s => (s.t.leaves, (s.t.nodes.filter (·.isConnectorSource)).map (·.id))) = some ([1, 3, 4], [1]) := by
  decide +kernel

/-- `moveJunctionAlongCommonEdge`, a second connector running over a terminal's end point: the terminal
    node becomes the junction node (degree 2), the tree loses the terminal. -/
theorem move_turns_terminal_into_junction_witness :
    exOverTerminal.leaves = [1, 3, 4] ∧
    (moveJunctionStep (mkImp exOverTerminal [(1, 0)] [1] false) 1).map
      (fun r => (r.s.t.leaves, r.newSelf, r.s.t.junctionsOf)) = some ([3, 4], some 1, [1]) := by
  decide +kernel

/-! ### joint non-vacuity: ALL hypotheses of a theorem on one instance, and the theorem instantiated on it -/

-- non-vacuity (joint) of `contract_preserves_tree`, `contract_same_terminals`, `identify_deg`: the edge between the two
-- junction nodes of `exTwoJunctions` (both of degree 3)
example :
    let e : HEdge := { id := 6, e1 := some 0, e2 := some 1, conn := some 1, hasFixedRoute := false }
    Tree exTwoJunctions ∧ e ∈ exTwoJunctions.edges ∧ Joins e 0 1 ∧ 2 ≤ deg exTwoJunctions.graphE 0 ∧
    2 ≤ deg exTwoJunctions.graphE 1 ∧ LeavesAre exTwoJunctions.graphV exTwoJunctions.graphE [2, 3, 4, 5] ∧
    (∃ t', contract exTwoJunctions e.id 0 1 = some t' ∧ LeavesAre t'.graphV t'.graphE [2, 3, 4, 5]) ∧
    (∃ t', IdentifySpec exTwoJunctions e 0 0 1 t' ∧ deg t'.graphE 0 = 4) := by
  intro e
  have ht : Tree exTwoJunctions := tree_of_checks exTwoJunctions_checks.1 exTwoJunctions_checks.2
  have he : e ∈ exTwoJunctions.edges := List.Mem.head _
  have hj : Joins e 0 1 := Or.inl ⟨rfl, rfl⟩
  have h0 : 2 ≤ deg exTwoJunctions.graphE 0 := by decide
  have h1 : 2 ≤ deg exTwoJunctions.graphE 1 := by decide
  have hT : LeavesAre exTwoJunctions.graphV exTwoJunctions.graphE [2, 3, 4, 5] :=
    (AdaptaVerif.Props.C12.leavesAre_iff _ _ _).mp (by decide)
  refine ⟨ht, he, hj, h0, h1, hT, contract_same_terminals ht he hj h0 h1 _ hT, ?_⟩
  obtain ⟨t', _, _, hs⟩ := contract_tree ht he hj
  refine ⟨t', hs, ?_⟩
  rw [identify_deg hs (by decide) (by decide) 0]
  decide

-- non-vacuity (joint) of `contract_leaf_shift`: the leaf 2 of `exZeroTail` and its neighbour 1 of degree 2
example :
    let e : HEdge := { id := 6, e1 := some 1, e2 := some 2, conn := some 1, hasFixedRoute := false }
    Tree exZeroTail ∧ e ∈ exZeroTail.edges ∧ Joins e 1 2 ∧ deg exZeroTail.graphE 1 = 2 ∧ deg exZeroTail.graphE 2 = 1 ∧
    ∃ t', contract exZeroTail e.id 1 2 = some t' ∧ 1 ∈ t'.graphV ∧ deg t'.graphE 1 = 1 := by
  intro e
  have ht : Tree exZeroTail := tree_of_checks exZeroTail_checks.1 exZeroTail_checks.2
  have he : e ∈ exZeroTail.edges := List.Mem.tail _ (List.Mem.head _)
  have hj : Joins e 1 2 := Or.inl ⟨rfl, rfl⟩
  have h1 : deg exZeroTail.graphE 1 = 2 := by decide
  have h2 : deg exZeroTail.graphE 2 = 1 := by decide
  refine ⟨ht, he, hj, h1, h2, ?_⟩
  obtain ⟨t', hc, hV⟩ := contract_preserves_tree ht he hj
  obtain ⟨t'', hc', hl⟩ := contract_leaf_shift ht he hj h1 h2
  rw [hc] at hc'; cases hc'
  have hm : 1 ∈ t'.graphV := by rw [hV.2]; decide
  exact ⟨t', hc, hm, (hl 1 hm).mpr (Or.inl rfl)⟩

-- non-vacuity (joint) of `split_preserves_tree`, `split_same_terminals`
example :
    let e : HEdge := { id := 5, e1 := some 0, e2 := some 2, conn := some 2, hasFixedRoute := false }
    Tree exStar ∧ e ∈ exStar.edges ∧ Joins e 0 2 ∧ LeavesAre exStar.graphV exStar.graphE [1, 2, 3] ∧
    ∃ t', splitFromNodeAtPoint exStar e.id 0 ⟨5, 0⟩ = some (t', exStar.next, exStar.next + 1) ∧
      LeavesAre t'.graphV t'.graphE [1, 2, 3] := by
  intro e
  have ht : Tree exStar := tree_of_checks exStar_checks.1 exStar_checks.2
  have he : e ∈ exStar.edges := List.Mem.tail _ (List.Mem.head _)
  have hj : Joins e 0 2 := Or.inl ⟨rfl, rfl⟩
  have hT : LeavesAre exStar.graphV exStar.graphE [1, 2, 3] := (AdaptaVerif.Props.C12.leavesAre_iff _ _ _).mp (by decide)
  exact ⟨ht, he, hj, hT, split_same_terminals ht he hj ⟨5, 0⟩ _ hT⟩

-- non-vacuity (joint) of `mergeStep_preserves_tree`, `mergeStep_same_terminals`: `exCommon`, self = the junction node 0
-- (degree 3), e = 8 to the bend 2, e0 = 7 to the bend 1 (both of degree 2)
example :
    let e : HEdge := { id := 8, e1 := some 0, e2 := some 2, conn := some 2, hasFixedRoute := false }
    let e0 : HEdge := { id := 7, e1 := some 0, e2 := some 1, conn := some 1, hasFixedRoute := false }
    Tree exCommon ∧ e ∈ exCommon.edges ∧ Joins e 0 2 ∧ e0 ∈ exCommon.edges ∧ e0.id ≠ e.id ∧ Joins e0 0 1 ∧
    2 ≤ deg exCommon.graphE 1 ∧ 2 ≤ deg exCommon.graphE 2 ∧ 3 ≤ deg exCommon.graphE 0 ∧
    LeavesAre exCommon.graphV exCommon.graphE [3, 4, 5] ∧
    ∃ t', mergeStep exCommon e.id 1 2 = some t' ∧ LeavesAre t'.graphV t'.graphE [3, 4, 5] := by
  intro e e0
  have ht : Tree exCommon := tree_of_checks exCommon_checks.1 exCommon_checks.2
  have he : e ∈ exCommon.edges := List.Mem.tail _ (List.Mem.head _)
  have hj : Joins e 0 2 := Or.inl ⟨rfl, rfl⟩
  have he0 : e0 ∈ exCommon.edges := List.Mem.head _
  have hne : e0.id ≠ e.id := by decide
  have hj0 : Joins e0 0 1 := Or.inl ⟨rfl, rfl⟩
  have h1 : 2 ≤ deg exCommon.graphE 1 := by decide
  have h2 : 2 ≤ deg exCommon.graphE 2 := by decide
  have h3 : 3 ≤ deg exCommon.graphE 0 := by decide
  have hT : LeavesAre exCommon.graphV exCommon.graphE [3, 4, 5] := (AdaptaVerif.Props.C12.leavesAre_iff _ _ _).mp (by decide)
  exact ⟨ht, he, hj, he0, hne, hj0, h1, h2, h3, hT, mergeStep_same_terminals ht he hj he0 hne hj0 h1 h2 h3 _ hT⟩

-- non-vacuity (joint) of the `removeZeroLengthEdges_*` theorems: ALL hypotheses on `exTwoJunctions`, a traversal that
-- returns and does contract (6 nodes → 5), the theorems instantiated on it
example :
    let s : Imp := mkImp exTwoJunctions [(1, 0), (2, 1)] [1] true
    Tree s.t ∧ NoLeafZero s.t ∧ JInv s ∧ s.keepAttrs = true ∧ LeavesAre s.t.graphV s.t.graphE [2, 3, 4, 5] ∧
    ∃ s', rzleNode 100 s 0 none = some s' ∧ s'.t.nodes.length = 5 ∧ Tree s'.t ∧
      LeavesAre s'.t.graphV s'.t.graphE [2, 3, 4, 5] ∧ JInv s' ∧ s'.delJ = [2] ∧ ¬ Carried s'.t 2 ∧
      (∀ n' ∈ s'.t.nodes, n'.edges.length = 1 → ∃ n ∈ s.t.nodes, n.edges.length = 1 ∧ n.point = n'.point) := by
  intro s
  have ht : Tree s.t := tree_of_checks exTwoJunctions_checks.1 exTwoJunctions_checks.2
  have hz : NoLeafZero s.t := noLeafZerob_sound ht.1 (by decide +kernel)
  have hi : JInv s := jinvb_sound (by decide)
  have hT : LeavesAre s.t.graphV s.t.graphE [2, 3, 4, 5] := (AdaptaVerif.Props.C12.leavesAre_iff _ _ _).mp (by decide)
  have hd : (rzleNode 100 s 0 none).map (fun s' => (s'.t.nodes.length, s'.delJ)) = some (5, [2]) := by decide +kernel
  refine ⟨ht, hz, hi, rfl, hT, ?_⟩
  match h : rzleNode 100 s 0 none with
  | none => rw [h] at hd; cases hd
  | some s' =>
    rw [h] at hd
    simp only [Option.map_some, Option.some.injEq, Prod.mk.injEq] at hd
    have hb := removeZeroLengthEdges_junction_bookkeeping ht hi h
    have ha := removeZeroLengthEdges_keeps_terminal_attrs ht rfl h
    refine ⟨s', rfl, hd.1, removeZeroLengthEdges_preserves_tree ht h,
      (removeZeroLengthEdges_same_terminals ht hz _ hT h).2.2, hb.1, hd.2, hb.2.2.1 2 (by rw [hd.2]; exact List.Mem.head _), ?_⟩
    intro n' hn' hl
    obtain ⟨n, hn, h1, _, h3⟩ := ha n' hn' hl
    exact ⟨n, hn, h1, h3⟩

-- non-vacuity (joint) of the `moveJunction_*` theorems: ALL hypotheses on `exCommon` (junction 1 at node 0), a move that
-- does happen (6 nodes stay 6: one split, one merge; `newSelf = some 1`), the theorems instantiated on it
example :
    let s : Imp := mkImp exCommon [(1, 0)] [1] false
    Good s ∧ LeavesAre s.t.graphV s.t.graphE [3, 4, 5] ∧
    (∀ self, s.junctions.find? (fun p => p.1 == 1) = some (1, self) →
      AdaptaVerif.Lemmas.HyperTreeMoveTerminals.MoveSafe s.t self) ∧
    ∃ r, moveJunctionStep s 1 = some r ∧ r.newSelf = some 1 ∧ Tree r.s.t ∧ LeavesAre r.s.t.graphV r.s.t.graphE [3, 4, 5] ∧
      JInv r.s ∧ r.s.delJ = s.delJ ∧ Rewrites s r.s ∧ Good r.s := by
  intro s
  have ht : Tree s.t := tree_of_checks exCommon_checks.1 exCommon_checks.2
  have hi : JInv s := jinvb_sound (by decide)
  have hF : AdaptaVerif.Lemmas.HyperTreeMove.JFresh s := ⟨by decide, by decide⟩
  have hN : AdaptaVerif.Lemmas.HyperTreeMove.NewJFresh s := fun j hj => by cases hj
  have hg : Good s := ⟨ht, hi, hF, hN⟩
  have hT : LeavesAre s.t.graphV s.t.graphE [3, 4, 5] := (AdaptaVerif.Props.C12.leavesAre_iff _ _ _).mp (by decide)
  have hsafe : ∀ self, s.junctions.find? (fun p => p.1 == 1) = some (1, self) →
      AdaptaVerif.Lemmas.HyperTreeMoveTerminals.MoveSafe s.t self := by
    intro self hf
    have : self = 0 := by
      have h0 : s.junctions.find? (fun p => p.1 == 1) = some (1, 0) := by decide
      rw [h0] at hf; simp at hf; exact hf.symm
    subst this
    show AdaptaVerif.Lemmas.HyperTreeMoveTerminals.MoveSafe exCommon 0
    unfold AdaptaVerif.Lemmas.HyperTreeMoveTerminals.MoveSafe
    decide +kernel
  have hd : (moveJunctionStep s 1).map (fun r => r.newSelf) = some (some 1) := by decide +kernel
  refine ⟨hg, hT, hsafe, ?_⟩
  match h : moveJunctionStep s 1 with
  | none => rw [h] at hd; cases hd
  | some r =>
    rw [h] at hd
    simp only [Option.map_some, Option.some.injEq] at hd
    have hb := moveJunction_junction_bookkeeping ht hi hF hN h
    have hrw : Rewrites s r.s := Rewrites.step (Rewrites.refl s) (Rewrite.move h)
    exact ⟨r, rfl, hd, moveJunction_preserves_tree ht h, moveJunction_same_terminals ht hsafe hT h, hb.1, hb.2.2.2.2.1,
      hrw, (improve_junction_bookkeeping hg hrw).1⟩

-- non-vacuity of `moveJunctionFully_preserves_tree`: the caller's loop returns on `exCommon` (junction ends at node 1)
example : (moveJunctionFully 10 (mkImp exCommon [(1, 0)] [1] false) 1).map (fun s => (s.t.nodes.length, s.t.leaves, s.junctions)) =
    some (6, [3, 4, 5], [(1, 1)]) := by
  decide +kernel

end AdaptaVerif.Props.C12Ops
