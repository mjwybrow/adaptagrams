/-
C14 (final routing of doHOLA) — properties of the rule (`Model/FinalSegLimits.lean`) by which libavoid
decides how far the first / last segment of an orthogonal connector may be shifted by the nudging stage.
-/
import AdaptaVerif.Lemmas.FinalSegLimits

namespace AdaptaVerif.Props.C14Limits
open AdaptaVerif.Check.RouteRect AdaptaVerif.Model.FinalSegLimits
open AdaptaVerif.Lemmas.FinalSegLimits

/-- the limits computed by the loop lie inside the extent of EVERY shape that contains either end of the
    segment -/
theorem shapeLimits_within (dimX : Bool) (a z : P) (shapes : List Rect) (s : Rect) (hs : s ∈ shapes)
    (hin : insideBounds a s = true ∨ insideBounds z s = true) :
    Rect.lo s dimX ≤ (shapeLimits dimX a z shapes).lo ∧
      (shapeLimits dimX a z shapes).hi ≤ Rect.hi s dimX :=
  ⟨((lo_le_iff dimX a z shapes _).1 (le_refl _)).2 s hs hin,
   ((le_hi_iff dimX a z shapes _).1 (le_refl _)).2 s hs hin⟩

/-- the two `endsInShapes` bits say exactly whether the respective end lies in some shape -/
theorem shapeLimits_flags (dimX : Bool) (a z : P) (shapes : List Rect) :
    (shapeLimits dimX a z shapes).first = shapes.any (insideBounds a) ∧
    (shapeLimits dimX a z shapes).last = shapes.any (insideBounds z) :=
  ⟨first_eq dimX a z shapes, last_eq dimX a z shapes⟩

/-- the final limits lie inside the extent of every shape that contains either end of the segment -/
theorem finalLimits_within (dimX : Bool) (a z : P) (shapes : List Rect) (s : Rect) (hs : s ∈ shapes)
    (hin : insideBounds a s = true ∨ insideBounds z s = true) :
    Rect.lo s dimX ≤ (finalLimits dimX a z shapes).lo ∧
      (finalLimits dimX a z shapes).hi ≤ Rect.hi s dimX :=
  ⟨((finalLimits_lo_le_iff dimX a z shapes _).1 (le_refl _)).1.2 s hs hin,
   ((finalLimits_le_hi_iff dimX a z shapes _).1 (le_refl _)).1.2 s hs hin⟩

/-- any position within the final limits keeps the LAST point of the segment inside the shape it lies in -/
theorem finalLimits_end_stays_inside (dimX : Bool) (a z : P) (shapes : List Rect) (s : Rect)
    (hs : s ∈ shapes) (hz : insideBounds z s = true) (x : Rat)
    (hlo : (finalLimits dimX a z shapes).lo ≤ x) (hhi : x ≤ (finalLimits dimX a z shapes).hi) :
    insideBounds (P.setCo z dimX x) s = true := by
  have h := finalLimits_within dimX a z shapes s hs (Or.inr hz)
  exact insideBounds_setCo dimX z s x hz (le_trans h.1 hlo) (le_trans hhi h.2)

/-- any position within the final limits keeps the FIRST point of the segment inside the shape it lies in -/
theorem finalLimits_start_stays_inside (dimX : Bool) (a z : P) (shapes : List Rect) (s : Rect)
    (hs : s ∈ shapes) (ha : insideBounds a s = true) (x : Rat)
    (hlo : (finalLimits dimX a z shapes).lo ≤ x) (hhi : x ≤ (finalLimits dimX a z shapes).hi) :
    insideBounds (P.setCo a dimX x) s = true := by
  have h := finalLimits_within dimX a z shapes s hs (Or.inl ha)
  exact insideBounds_setCo dimX a s x ha (le_trans h.1 hlo) (le_trans hhi h.2)

/-- a segment neither end of which lies in a shape may move by at most `freeConnBuffer` either way -/
theorem finalLimits_free (dimX : Bool) (a z : P) (shapes : List Rect)
    (hfree : shapes.any (insideBounds a) = false ∧ shapes.any (insideBounds z) = false) :
    P.co a dimX - freeConnBuffer ≤ (finalLimits dimX a z shapes).lo ∧
      (finalLimits dimX a z shapes).hi ≤ P.co a dimX + freeConnBuffer := by
  have hno : ∀ r ∈ shapes, ¬ hit a z r := fun r hr hh => by
    simp only [List.any_eq_false] at hfree
    exact hh.elim (hfree.1 r hr) (hfree.2 r hr)
  exact ⟨((finalLimits_lo_le_iff dimX a z shapes _).1 (le_refl _)).2 hno,
    ((finalLimits_le_hi_iff dimX a z shapes _).1 (le_refl _)).2 hno⟩

/-- the loop does not depend on the direction in which the connector was declared -/
theorem shapeLimits_symm (dimX : Bool) (a z : P) (shapes : List Rect) :
    (shapeLimits dimX a z shapes).lo = (shapeLimits dimX z a shapes).lo ∧
    (shapeLimits dimX a z shapes).hi = (shapeLimits dimX z a shapes).hi ∧
    (shapeLimits dimX a z shapes).first = (shapeLimits dimX z a shapes).last ∧
    (shapeLimits dimX a z shapes).last = (shapeLimits dimX z a shapes).first :=
  ⟨eq_of_forall_ge_iff fun B => by rw [lo_le_iff, lo_le_iff]; simp only [hit_comm a z],
   eq_of_forall_le_iff fun B => by rw [le_hi_iff, le_hi_iff]; simp only [hit_comm a z],
   by rw [first_eq, last_eq], by rw [first_eq, last_eq]⟩

/-- the final limits do not depend on the direction of the connector (both ends of the segment have the
    same coordinate in the shift dimension) -/
theorem finalLimits_symm (dimX : Bool) (a z : P) (shapes : List Rect)
    (hpos : P.co a dimX = P.co z dimX) :
    (finalLimits dimX a z shapes).lo = (finalLimits dimX z a shapes).lo ∧
    (finalLimits dimX a z shapes).hi = (finalLimits dimX z a shapes).hi :=
  have h := finalLimits_comm dimX z a shapes hpos.symm
  ⟨h.1, h.2.1⟩

/-- knowing only some of the obstacles gives limits that are at least as wide -/
theorem shapeLimits_mono_subset (dimX : Bool) (a z : P) (l₁ l₂ : List Rect) (h : ∀ r ∈ l₁, r ∈ l₂) :
    (shapeLimits dimX a z l₁).lo ≤ (shapeLimits dimX a z l₂).lo ∧
      (shapeLimits dimX a z l₂).hi ≤ (shapeLimits dimX a z l₁).hi :=
  ⟨lo_mono dimX a z a z l₁ l₂ (fun r hr hh => ⟨h r hr, hh⟩),
   hi_mono dimX a z a z l₁ l₂ (fun r hr hh => ⟨h r hr, hh⟩)⟩

theorem shapeLimits_mono_sublist (dimX : Bool) (a z : P) (l₁ l₂ : List Rect) (h : l₁.Sublist l₂) :
    (shapeLimits dimX a z l₁).lo ≤ (shapeLimits dimX a z l₂).lo ∧
      (shapeLimits dimX a z l₂).hi ≤ (shapeLimits dimX a z l₁).hi :=
  shapeLimits_mono_subset dimX a z l₁ l₂ (fun _ hr => h.subset hr)

/-! ### non-vacuity: a vertical last segment from the free bend (10,50) to the point (10,5) inside the
shape [7,13]×[2,8]; a second shape does not contain either end -/

example : finalLimits true ⟨10, 50⟩ ⟨10, 5⟩ [⟨7, 2, 13, 8⟩, ⟨20, 0, 30, 10⟩] = ⟨7, 13, false, true⟩ := by
  decide +kernel

example : (finalLimits true ⟨10, 50⟩ ⟨10, 5⟩ [⟨7, 2, 13, 8⟩, ⟨20, 0, 30, 10⟩]).isFixed = false := by
  decide +kernel

/-- the "forgot the last point" variant is different: neither bit is set and the free buffer applies -/
example : (shapeLimits true ⟨10, 50⟩ ⟨10, 50⟩ [⟨7, 2, 13, 8⟩, ⟨20, 0, 30, 10⟩]).first = false := by
  decide +kernel

example : (finalLimits true ⟨10, 50⟩ ⟨10, 50⟩ [⟨7, 2, 13, 8⟩, ⟨20, 0, 30, 10⟩]).hi = 25 := by
  decide +kernel

example : (finalLimits true ⟨10, 50⟩ ⟨10, 50⟩ [⟨7, 2, 13, 8⟩, ⟨20, 0, 30, 10⟩]).lo = -5 := by
  decide +kernel

/-- the hypotheses of `finalLimits_end_stays_inside` are satisfiable: x = 12 is within the limits -/
example : insideBounds (P.setCo ⟨10, 5⟩ true 12) ⟨7, 2, 13, 8⟩ = true :=
  finalLimits_end_stays_inside true ⟨10, 50⟩ ⟨10, 5⟩ [⟨7, 2, 13, 8⟩, ⟨20, 0, 30, 10⟩] ⟨7, 2, 13, 8⟩
    (by decide +kernel) (by decide +kernel) 12 (by decide +kernel) (by decide +kernel)

-- non-vacuity of finalLimits_start_stays_inside: the same segment declared the other way round, x = 8
example : insideBounds (P.setCo ⟨10, 5⟩ true 8) ⟨7, 2, 13, 8⟩ = true :=
  finalLimits_start_stays_inside true ⟨10, 5⟩ ⟨10, 50⟩ [⟨7, 2, 13, 8⟩, ⟨20, 0, 30, 10⟩] ⟨7, 2, 13, 8⟩
    (by decide +kernel) (by decide +kernel) 8 (by decide +kernel) (by decide +kernel)

-- non-vacuity of finalLimits_free: neither end of (10,50)-(10,40) lies in a shape
example : P.co (⟨10, 50⟩ : P) true - freeConnBuffer ≤ (finalLimits true ⟨10, 50⟩ ⟨10, 40⟩ [⟨7, 2, 13, 8⟩, ⟨20, 0, 30, 10⟩]).lo ∧
    (finalLimits true ⟨10, 50⟩ ⟨10, 40⟩ [⟨7, 2, 13, 8⟩, ⟨20, 0, 30, 10⟩]).hi ≤ P.co (⟨10, 50⟩ : P) true + freeConnBuffer :=
  finalLimits_free true ⟨10, 50⟩ ⟨10, 40⟩ [⟨7, 2, 13, 8⟩, ⟨20, 0, 30, 10⟩] (by decide +kernel)

end AdaptaVerif.Props.C14Limits
