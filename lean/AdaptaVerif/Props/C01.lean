/-
Property C01 — VPSC: every constraint is satisfied on return or is reported unsatisfiable.

Theorems only (the lemmas are in `Lemmas/Vpsc.lean` for the checkers and `Lemmas/Vpsc*.lean` for the
model; `Lemmas/VpscFinal.lean` is the last of them).
All statements are over unbounded numbers of variables / constraints / arbitrary rational data.

Non-vacuity: hypotheses that are plain `Prop`s get an `example` with a concrete instance.
Hypotheses of the form "the executable checker / model returned X" are not closed by plain `decide`
(`Rat` arithmetic does not reduce in the elaborator; one example below uses `decide +kernel`), so they
are witnessed by `#guard` lines (evaluated at every build; the build fails if the instance does not
meet the hypothesis) and, at run time, by the driver's `sys.feasible` / `sys.infeasible` / `model.*`
counters in the evidence file.
-/
import AdaptaVerif.Lemmas.Vpsc
import AdaptaVerif.Lemmas.VpscModel
import AdaptaVerif.Lemmas.VpscFeasible
import AdaptaVerif.Lemmas.VpscFlag
import AdaptaVerif.Lemmas.VpscFinal
namespace AdaptaVerif.Props.C01
open AdaptaVerif.Check.Vpsc AdaptaVerif.Spec.Vpsc AdaptaVerif.Model.Vpsc
open AdaptaVerif.Lemmas.Vpsc AdaptaVerif.Lemmas.VpscModel

/-! ## (1) feasibility: certificates, `Check.feasible` -/

/-- **cycle_sum**: a closed walk of positive total gap in the constraint graph (equalities count in
    both directions) makes the system infeasible — for every choice of non-zero scales. -/
theorem cycle_sum (scale : Nat → Rat) (hs : ∀ i, scale i ≠ 0) (cs : List C) (h : PosCycle cs) :
    ¬ Feasible scale cs := by
  obtain ⟨cyc, hsub, hc, hpos⟩ := h
  rw [feasible_iff_edges scale hs]
  exact pos_cycle_infeasible_edges _ cyc hsub hc hpos

example : PosCycle [⟨0, 1, 1, false⟩, ⟨1, 0, 1, false⟩] :=
  ⟨[⟨0, 1, 1⟩, ⟨1, 0, 1⟩], by simp [edgesOf], ⟨_, _, rfl, by simp [walkEnd]⟩, by simp [sumW]⟩

/-- ε-version used for the tolerance of the solver: if every constraint edge of a closed walk holds
    up to `ε` at some scaled placement `u`, its total gap is at most `ε · length`. -/
theorem cycle_sum_eps (u : Nat → Rat) (ε : Rat) (cyc : List Edge) (hc : ClosedWalk cyc)
    (hall : ∀ e ∈ cyc, u e.a + e.w - ε ≤ u e.b) : sumW cyc ≤ ε * (cyc.length : Rat) :=
  closed_walk_sum u ε cyc hc hall

/-- potentials that pass `holdsAll` are a feasible placement (after un-scaling) -/
theorem potentials_feasible (scale : Nat → Rat) (hs : ∀ i, scale i ≠ 0) (cs : List C) (u : Array Rat)
    (h : holdsAll (arrFn u) (edgesOf cs) = true) : Feasible scale cs := by
  rw [feasible_iff_edges scale hs]
  exact ⟨arrFn u, (holdsAll_iff _ _).1 h⟩

example : holdsAll (arrFn #[0, 1]) (edgesOf [⟨0, 1, 1, false⟩]) = true := by
  simp [holdsAll, arrFn, edgesOf]

/-- **`Check.feasible` is sound when it answers "feasible"** (all n, all constraint lists, with
    equalities and arbitrary non-zero scales). -/
theorem feasible_sound (scale : Nat → Rat) (hs : ∀ i, scale i ≠ 0) (n : Nat) (cs : List C)
    (u : Array Rat) (h : feasible n cs = .feasible u) : Feasible scale cs := by
  unfold feasible at h
  simp only at h
  split at h
  · rename_i hh
    simp only [Verdict.feasible.injEq] at h
    subst h
    exact potentials_feasible scale hs cs _ hh
  · split at h
    · split at h <;> simp at h
    · simp at h

#guard (match feasible 3 [⟨0, 1, 1, false⟩, ⟨1, 2, 1, true⟩, ⟨2, 0, -3, false⟩] with
        | .feasible _ => true | _ => false)

/-- **`Check.feasible` is sound when it answers "infeasible"**: the system has a positive-gap cycle
    and no placement satisfies it. -/
theorem infeasible_sound (scale : Nat → Rat) (hs : ∀ i, scale i ≠ 0) (n : Nat) (cs : List C)
    (cyc : List Edge) (h : feasible n cs = .infeasible cyc) :
    PosCycle cs ∧ ¬ Feasible scale cs := by
  unfold feasible at h
  simp only at h
  split at h
  · simp at h
  · split at h
    · split at h
      · rename_i hc
        simp only [Verdict.infeasible.injEq] at h
        subst h
        have := isPosCycle_spec _ _ hc
        have hp : PosCycle cs := ⟨_, this.1, this.2.1, this.2.2⟩
        exact ⟨hp, cycle_sum scale hs cs hp⟩
      · simp at h
    · simp at h

#guard (match feasible 3 [⟨0, 1, 1, false⟩, ⟨1, 2, 1, false⟩, ⟨2, 0, -1, false⟩] with
        | .infeasible _ => true | _ => false)

/-- **The parenthetical of the property, in full**: a system of separation constraints (equalities
    and non-zero scales included, any number of variables and constraints) is feasible iff its
    constraint graph has no closed walk of positive total gap.  (`→` is `cycle_sum`; `←` is proved by
    eliminating one variable at a time, `Lemmas/VpscFeasible.lean`.) -/
theorem feasible_iff_no_pos_cycle (scale : Nat → Rat) (hs : ∀ i, scale i ≠ 0) (cs : List C) :
    Feasible scale cs ↔ ¬ PosCycle cs := by
  constructor
  · exact fun h hp => cycle_sum scale hs cs hp h
  · intro hnp
    rw [feasible_iff_edges scale hs]
    apply AdaptaVerif.Lemmas.VpscFeasible.exists_potential
    intro cyc hmem hc
    by_contra hlt
    exact hnp ⟨cyc, hmem, hc, lt_of_not_ge hlt⟩

example : Feasible (fun _ => 1) [⟨0, 1, 1, false⟩] :=
  ⟨fun i => i, by simp [Holds]⟩

/-- **`Check.feasible` decides feasibility whenever it produces a certificate**: unless it answers
    `unknown`, it answers `infeasible` exactly when no placement exists, exactly when there is a
    positive-gap cycle.  (That it never answers `unknown` — termination of the certificate *search*
    within n+1 Bellman–Ford rounds — is not proved; the driver reports an `unknown` as a broken tie;
    none occurred in any run.) -/
theorem feasible_decides (scale : Nat → Rat) (hs : ∀ i, scale i ≠ 0) (n : Nat) (cs : List C)
    (hk : feasible n cs ≠ .unknown) :
    ((∃ cyc, feasible n cs = .infeasible cyc) ↔ ¬ Feasible scale cs) ∧
    (¬ Feasible scale cs ↔ PosCycle cs) := by
  refine ⟨⟨?_, ?_⟩, ?_⟩
  · rintro ⟨cyc, h⟩
    exact (infeasible_sound scale hs n cs cyc h).2
  · intro hnf
    cases hv : feasible n cs with
    | feasible u => exact absurd (feasible_sound scale hs n cs u hv) hnf
    | infeasible cyc => exact ⟨cyc, rfl⟩
    | unknown => exact absurd hv hk
  · rw [feasible_iff_no_pos_cycle scale hs cs, not_not]

#guard (match feasible 4 [⟨0, 1, 1, false⟩, ⟨1, 2, 1, true⟩, ⟨2, 3, 0, false⟩, ⟨3, 1, -1, false⟩] with
        | .unknown => false | _ => true)

/-! ## (V) the post-condition checker run on the implementation's output -/

/-- **`checkPost` decides exactly** "every constraint not flagged unsatisfiable holds within `tol`
    (inequalities: `slack ≥ −tol`; equalities: `|slack| ≤ tol`) at the given positions". -/
theorem checkPost_sound (tol : Rat) (scale pos : Nat → Rat) (cs : List (C × Bool)) :
    checkPost tol scale pos cs = true ↔
      ∀ p ∈ cs, p.2 = false → HoldsWithin tol scale pos p.1 := by
  simp only [checkPost, List.all_eq_true, Bool.or_eq_true, okWithin_iff]
  exact forall₂_congr fun p _ => by cases p.2 <;> simp

/-! ## (2) the model: post-condition of `satisfy` / `solve` -/

/-- **satisfy_post**: if the model's `IncSolver::satisfy` returns normally, every constraint that is
    not flagged unsatisfiable has `scale_r·pos_r − gap − scale_l·pos_l ≥ ZERO_UPPERBOUND` at the
    reported positions (this is the exit scan of the code; all states, all histories — `st` is
    arbitrary). -/
theorem satisfy_post (st st' : St) (pos : Array Rat) (ret : Bool)
    (h : st.satisfy = (st', .ok pos ret)) :
    pos = st'.positions ∧
    ∀ c ∈ st'.cons, c.unsat = false → ZERO_UPPERBOUND ≤ slackAt st'.vars pos c := by
  have := satisfy_ok st st' pos ret h
  exact ⟨this.1, (scanOk_iff _ _ _).1 this.2⟩

/-- the same for `IncSolver::solve` (satisfy; then satisfy until the cost changes by ≤ 1e-4) -/
theorem solve_post (st st' : St) (pos : Array Rat) (ret : Bool)
    (h : st.solve = (st', .ok pos ret)) :
    pos = st'.positions ∧
    ∀ c ∈ st'.cons, c.unsat = false → ZERO_UPPERBOUND ≤ slackAt st'.vars pos c := by
  have := solve_ok st st' pos ret h
  exact ⟨this.1, (scanOk_iff _ _ _).1 this.2⟩

def exampleSt : St :=
  St.init #[(2, 1, 1), (1, 1, 1), (0, 2, 1)] #[mkCon 0 1 1 false, mkCon 1 2 1 false, mkCon 2 0 1 false]

#guard (match exampleSt.satisfy with | (_, .ok _ _) => true | _ => false)
#guard (match exampleSt.solve with | (_, .ok _ _) => true | _ => false)

/-! ## (3) flag completeness -/

/-- **flag_complete**: if the constraints known to the solver contain a closed walk whose total gap
    exceeds `length · |ZERO_UPPERBOUND|` and `satisfy` returns normally, then some constraint on that
    walk is flagged unsatisfiable (the solver cannot silently return on an infeasible cycle). -/
theorem flag_complete (st st' : St) (pos : Array Rat) (ret : Bool)
    (h : st.satisfy = (st', .ok pos ret))
    (cyc : List Con) (hmem : ∀ c ∈ cyc, c ∈ st'.cons) (hc : ClosedWalk (cyc.map conEdge))
    (hgap : (cyc.length : Rat) * (-ZERO_UPPERBOUND) < sumW (cyc.map conEdge)) :
    ∃ c ∈ cyc, c.unsat = true :=
  scan_flags_cycle st'.vars st'.cons pos (satisfy_ok st st' pos ret h).2 cyc hmem hc hgap

theorem flag_complete_solve (st st' : St) (pos : Array Rat) (ret : Bool)
    (h : st.solve = (st', .ok pos ret))
    (cyc : List Con) (hmem : ∀ c ∈ cyc, c ∈ st'.cons) (hc : ClosedWalk (cyc.map conEdge))
    (hgap : (cyc.length : Rat) * (-ZERO_UPPERBOUND) < sumW (cyc.map conEdge)) :
    ∃ c ∈ cyc, c.unsat = true :=
  scan_flags_cycle st'.vars st'.cons pos (solve_ok st st' pos ret h).2 cyc hmem hc hgap

-- the 3-cycle of `exampleSt` has total gap 3 > 3e-10 and the model does return (and flags one edge)
#guard (match exampleSt.satisfy with
        | (st', .ok _ _) => st'.cons.any (·.unsat) && st'.cons.size == 3 | _ => false)

/-! ## (4) block_inv over all histories, eq_post, flag_sound

`Hist st` : `st` is reachable through the public API — `IncSolver(vs, cs)`, `addConstraint`, changing a
desired position, `satisfy()`, `solve()`, in any order and number — from well-formed input (constraints
refer to existing variables and are not pre-flagged).

`Inv st` (`Lemmas/VpscInv.lean`, structure `InvC`) is the full block invariant:
  * `Variable::in/out` hold exactly the constraints entering/leaving the variable;
  * every active constraint joins two variables of one block and is tight (`offset_r − gap − offset_l = 0`);
  * the active constraints form a forest (each one is a bridge of the active graph) that spans every
    block (variables of one block are connected by active constraints): per block, a spanning tree;
  * every constraint is active, flagged, or on the `inactive` list;
  * inequality-only: a flagged constraint is justified by a positive-gap cycle.
The model's loops carry fuel; `fuelOut` records that some loop or traversal ran out of it (the driver
reports that as a broken tie; it never happened).  A normal return (`.ok`) implies `fuelOut = false`.
-/

open AdaptaVerif.Lemmas.VpscFinal AdaptaVerif.Lemmas.VpscInv AdaptaVerif.Lemmas.VpscSolve in
/-- **block_inv**: the block invariant holds in every reachable state (unless the model has reported
    running out of fuel) — over all histories, all n, m, data. -/
theorem block_inv (st : St) (h : Hist st) : st.fuelOut = true ∨ Inv st := hist_J h

open AdaptaVerif.Lemmas.VpscFinal AdaptaVerif.Lemmas.VpscInv AdaptaVerif.Lemmas.VpscSolve in
/-- … in particular in the state in which `satisfy` / `solve` return normally. -/
theorem block_inv_on_return (st st' : St) (pos : Array Rat) (ret : Bool) (h : Hist st)
    (hs : st.satisfy = (st', .ok pos ret) ∨ st.solve = (st', .ok pos ret)) : Inv st' :=
  (final_on_return h hs).1.inv

open AdaptaVerif.Lemmas.VpscMerge AdaptaVerif.Lemmas.VpscSplit AdaptaVerif.Lemmas.VpscInv in
/-- the two structural steps: `merge` across a constraint joining two different blocks, and `split`
    on an active constraint (the two new blocks are exactly the two components of the active tree minus
    that edge), preserve the invariant in any state -/
theorem block_inv_merge_split (st : St) (ci : Nat) (h : Inv st) :
    (ci < st.cons.size → blk st.vars (st.cons[ci]!).l ≠ blk st.vars (st.cons[ci]!).r →
      Inv (st.mergeAcross ci).1) ∧
    ((st.cons[ci]!).active = true →
      (st.split (blk st.vars (st.cons[ci]!).l) ci).1.fuelOut = false →
      InvC (st.split (blk st.vars (st.cons[ci]!).l) ci).1.vars
        (st.split (blk st.vars (st.cons[ci]!).l) ci).1.cons
        (st.split (blk st.vars (st.cons[ci]!).l) ci).1.blocks.size (st.inactive.push ci)) :=
  ⟨fun hci hne => mergeAcross_inv st ci h hci hne,
   fun hact hfo =>
    (split_spec st ci st.inactive h (AdaptaVerif.Lemmas.VpscLoop.active_lt _ _ hact) hact rfl hfo).1⟩

open AdaptaVerif.Lemmas.VpscFinal AdaptaVerif.Lemmas.VpscSolve in
/-- **eq_post**: after any history, when `satisfy` or `solve` returns normally, every equality that is
    not flagged unsatisfiable is active and holds *exactly* at the reported positions
    (`scale_r·pos_r − gap − scale_l·pos_l = 0`; scales non-zero).  Together with `satisfy_post` this is
    the first sentence of the property for the model. -/
theorem eq_post (st st' : St) (pos : Array Rat) (ret : Bool) (h : Hist st)
    (hs : st.satisfy = (st', .ok pos ret) ∨ st.solve = (st', .ok pos ret))
    (hsc : ∀ i : Nat, i < st'.vars.size → (st'.vars[i]!).scale ≠ 0)
    (j : Nat) (hj : j < st'.cons.size) (heq : (st'.cons[j]!).eq = true)
    (hun : (st'.cons[j]!).unsat = false) :
    (st'.cons[j]!).active = true ∧ slackAt st'.vars pos (st'.cons[j]!) = 0 := by
  have hF := final_on_return h hs
  rw [hF.2]
  exact ⟨(final_eq hF.1 j hj heq hun).1, final_eq_positions hF.1 hsc j hj heq hun⟩

open AdaptaVerif.Lemmas.VpscFinal AdaptaVerif.Lemmas.VpscSolve AdaptaVerif.Lemmas.VpscFlag in
/-- **flag_sound** (inequality-only systems): after any history, when `satisfy` or `solve` returns
    normally, a flagged constraint implies that the constraints known to the solver contain a
    positive-gap cycle, hence no placement satisfies them (for any non-zero scales). -/
theorem flag_sound (scale : Nat → Rat) (hscale : ∀ i, scale i ≠ 0)
    (st st' : St) (pos : Array Rat) (ret : Bool) (h : Hist st)
    (hs : st.satisfy = (st', .ok pos ret) ∨ st.solve = (st', .ok pos ret))
    (hineq : ∀ j : Nat, j < st'.cons.size → (st'.cons[j]!).eq = false)
    (j : Nat) (hj : j < st'.cons.size) (hun : (st'.cons[j]!).unsat = true) :
    PosCycle (st'.cons.toList.map toC) ∧ ¬ Feasible scale (st'.cons.toList.map toC) := by
  have hinv := block_inv_on_return st st' pos ret h hs
  have hp := hinv.flags hineq j hj hun
  exact ⟨hp, cycle_sum scale hscale _ hp⟩

open AdaptaVerif.Lemmas.VpscFinal AdaptaVerif.Lemmas.VpscSolve AdaptaVerif.Lemmas.VpscFlag in
/-- **"flagged iff infeasible" for the model, up to the solver's tolerance** (inequality-only, any
    history, normal return of `satisfy` or `solve`):
    (→) if some constraint is flagged, the system is infeasible;
    (←) if the system contains a cycle whose total gap exceeds `length·|ZERO_UPPERBOUND|`, some
        constraint on it is flagged. -/
theorem flagged_iff_infeasible (scale : Nat → Rat) (hscale : ∀ i, scale i ≠ 0)
    (st st' : St) (pos : Array Rat) (ret : Bool) (h : Hist st)
    (hs : st.satisfy = (st', .ok pos ret) ∨ st.solve = (st', .ok pos ret))
    (hineq : ∀ j : Nat, j < st'.cons.size → (st'.cons[j]!).eq = false) :
    ((∃ j, j < st'.cons.size ∧ (st'.cons[j]!).unsat = true) →
        ¬ Feasible scale (st'.cons.toList.map toC)) ∧
    (∀ cyc : List Con, (∀ c ∈ cyc, c ∈ st'.cons) → ClosedWalk (cyc.map conEdge) →
        (cyc.length : Rat) * (-ZERO_UPPERBOUND) < sumW (cyc.map conEdge) →
        ∃ c ∈ cyc, c.unsat = true) := by
  refine ⟨?_, ?_⟩
  · rintro ⟨j, hj, hun⟩
    exact (flag_sound scale hscale st st' pos ret h hs hineq j hj hun).2
  · intro cyc hmem hc hgap
    rcases hs with hs | hs
    · exact flag_complete st st' pos ret hs cyc hmem hc hgap
    · exact flag_complete_solve st st' pos ret hs cyc hmem hc hgap

-- non-vacuity: a reachable state, a history with an equality that returns normally
example : AdaptaVerif.Lemmas.VpscFinal.Hist exampleSt :=
  AdaptaVerif.Lemmas.VpscFinal.Hist.init _ _ (by
    intro c hc
    simp only [List.mem_toArray, List.mem_cons, List.not_mem_nil, or_false] at hc
    rcases hc with rfl | rfl | rfl <;> simp [mkCon])

def exampleEq : St :=
  St.init #[(3, 1, 1), (0, 1, 2), (5, 1, 1)] #[mkCon 0 1 1 true, mkCon 1 2 1 false]

#guard (match exampleEq.solve with
        | (st', .ok _ _) => st'.cons.all (fun c => !c.unsat) && st'.invOk | _ => false)

open AdaptaVerif.Lemmas.VpscFinal in
/-- non-vacuity of `eq_post`: all its hypotheses hold together on a concrete history — `IncSolver(vs, cs)`
    with scales 1, 2, 1 and the equality `x0 + 1 == x1`, then `solve()`: it returns normally, every variable
    in range has a non-zero scale (the in-range form; the unbounded `∀ i, (vars[i]!).scale ≠ 0` is false on
    every state because `vars[i]!` is `default` with scale 0 beyond the end), constraint 0 is an unflagged
    equality.  (Kernel evaluation of the Rat model: `decide +kernel`.) -/
example : ∃ (st st' : St) (pos : Array Rat) (ret : Bool) (j : Nat), Hist st ∧
    (st.satisfy = (st', .ok pos ret) ∨ st.solve = (st', .ok pos ret)) ∧
    (∀ i : Nat, i < st'.vars.size → (st'.vars[i]!).scale ≠ 0) ∧
    j < st'.cons.size ∧ (st'.cons[j]!).eq = true ∧ (st'.cons[j]!).unsat = false ∧
    ¬ (∀ i : Nat, (st'.vars[i]!).scale ≠ 0) := by
  -- one kernel evaluation of the solver run; the four facts are read off it
  have hev : (match exampleEq.solve with | (_, .ok _ _) => true | _ => false) = true ∧
      (∀ i : Nat, i < exampleEq.solve.1.vars.size → (exampleEq.solve.1.vars[i]!).scale ≠ 0) ∧
      (0 < exampleEq.solve.1.cons.size ∧ (exampleEq.solve.1.cons[0]!).eq = true ∧
        (exampleEq.solve.1.cons[0]!).unsat = false) ∧
      ¬ (exampleEq.solve.1.vars[3]!).scale ≠ 0 := by decide +kernel
  obtain ⟨hok, hsc, hj, hbad⟩ := hev
  have hH : Hist exampleEq := Hist.init _ _ (by
    intro c hc
    simp only [List.mem_toArray, List.mem_cons, List.not_mem_nil, or_false] at hc
    rcases hc with rfl | rfl <;> simp [mkCon])
  rcases h : exampleEq.solve with ⟨st', o⟩
  rw [h] at hok hsc hj hbad
  cases o with
  | ok pos ret => exact ⟨exampleEq, st', pos, ret, 0, hH, Or.inr h, hsc, hj.1, hj.2.1, hj.2.2, fun hall => hbad (hall 3)⟩
  | _ => simp at hok

#guard (match ((exampleEq.solve.1.addConstraint (mkCon 2 0 1 false)).setDesired 0 7).satisfy with
        | (st', .ok _ _) => st'.cons.any (·.unsat) && st'.invOk | _ => false)

/-- positions inside a block are determined by offsets: the slack of a constraint whose ends share a
    block is `offset_r − gap − offset_l`, whatever the block position -/
theorem block_slack_offsets (st : St) (c : Con)
    (hb : (st.vars[c.l]!).block = (st.vars[c.r]!).block) :
    st.uval c.r - c.gap - st.uval c.l = (st.vars[c.r]!).offset - c.gap - (st.vars[c.l]!).offset :=
  slack_same_block st c hb

/-- `scale_i · position_i = ps.scale·posn + offset_i` (scale ≠ 0): ties `Constraint::slack()` as the
    solver evaluates it to the exit scan on reported positions -/
theorem scaled_position (st : St) (i : Nat) (hs : (st.vars[i]!).scale ≠ 0) :
    (st.vars[i]!).scale * st.pos i = st.uval i :=
  scale_mul_pos st i hs

end AdaptaVerif.Props.C01
