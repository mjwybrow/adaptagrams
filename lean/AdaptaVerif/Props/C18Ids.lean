import AdaptaVerif.Model.TglfIds
import AdaptaVerif.Lemmas.TglfIds
/-!
C18 — property theorems about the node ids `Graph::writeTglf` writes (Model/TglfIds.lean, tied to
graphs.cpp by exact comparison of the ids in the written text on every generated graph).

"Writing a graph … to TGLF and reading it back yields an equivalent graph" needs, before anything else,
that two nodes are never written under one id.
-/
namespace AdaptaVerif.Props.C18Ids
open AdaptaVerif.Model.TglfIds AdaptaVerif.Lemmas.TglfIds

/-- **Distinct nodes are written under distinct ids**, for every node list in map order, whichever
    nodes carry external ids (all, none, or any subset), with `useExternalIds` on or off. -/
theorem written_ids_injective (useExt : Bool) (ns : List NodeId) (hw : WellFormed ns) :
    (writtenIds useExt ns).Nodup := by
  obtain ⟨hs, hr, hd⟩ := hw
  unfold writtenIds
  cases useExt with
  | false =>
    simp only [Bool.false_eq_true, if_false]
    rw [List.nodup_iff_pairwise_ne, List.pairwise_map]
    exact hs.imp (fun h => by omega)
  | true =>
    simp only [if_true]
    rw [List.nodup_iff_pairwise_ne, List.pairwise_map]
    have key : ∀ a ∈ ns, ∀ b ∈ ns, a.id < b.id → (a.ext = -1 ∨ b.ext = -1 ∨ a.ext ≠ b.ext) →
        writtenId ns a ≠ writtenId ns b := by
      intro a ha b hb hab hext
      have hma := ext_le_maxExt ns a ha
      have hmb := ext_le_maxExt ns b hb
      have hm1 := maxExt_ge_neg_one ns
      unfold writtenId baseId
      rcases hr a ha with ea | ea <;> rcases hr b hb with eb | eb
      · -- both lack an external id
        have : a.ext < 0 := by omega
        have : b.ext < 0 := by omega
        simp only [*]; split <;> omega
      · -- a lacks, b has
        have h1 : a.ext < 0 := by omega
        have h2 : ¬ b.ext < 0 := by omega
        have hfl := firstLacking_le ns hs a ha ea
        simp only [h1, h2, if_true, if_false]; split <;> omega
      · have h1 : ¬ a.ext < 0 := by omega
        have h2 : b.ext < 0 := by omega
        have hfl := firstLacking_le ns hs b hb eb
        simp only [h1, h2, if_true, if_false]; split <;> omega
      · have h1 : ¬ a.ext < 0 := by omega
        have h2 : ¬ b.ext < 0 := by omega
        simp only [h1, h2, if_false]
        rcases hext with h | h | h <;> omega
    have hboth : ns.Pairwise (fun a b => a.id < b.id ∧ (a.ext = -1 ∨ b.ext = -1 ∨ a.ext ≠ b.ext)) :=
      hs.and hd
    exact hboth.imp_of_mem (fun ha hb h => key _ ha _ hb h.1 h.2)

/-- external ids are written unchanged -/
theorem external_id_kept (ns : List NodeId) (n : NodeId) (h : 0 ≤ n.ext) : writtenId ns n = n.ext := by
  unfold writtenId; have : ¬ n.ext < 0 := by omega
  simp [this]

/-- internal ids are not shifted when that cannot collide ("to make debugging easier") -/
theorem no_shift_when_safe (ns : List NodeId) (n : NodeId) (hn : n.ext = -1)
    (h : firstLacking ns > maxExt ns) : writtenId ns n = n.id := by
  unfold writtenId baseId; simp [hn, h]

-- non-vacuity of no_shift_when_safe (and external_id_kept): a well-formed graph whose first node lacking an external id has an
-- internal id above every external id; nothing is shifted
example : (⟨5, -1⟩ : NodeId).ext = -1 ∧ firstLacking [⟨0, 0⟩, ⟨1, 3⟩, ⟨5, -1⟩] > maxExt [⟨0, 0⟩, ⟨1, 3⟩, ⟨5, -1⟩] ∧
    WellFormed [⟨0, 0⟩, ⟨1, 3⟩, ⟨5, -1⟩] ∧ writtenIds true [⟨0, 0⟩, ⟨1, 3⟩, ⟨5, -1⟩] = [0, 3, 5] := by
  refine ⟨by decide, by decide, ⟨by decide, by decide, by decide⟩, by decide⟩

/-- Non-vacuity: a mixed graph (external ids 0, 1, 3 and an added node with internal id 3) is well formed -/
def mixed : List NodeId := [⟨0, 0⟩, ⟨1, 1⟩, ⟨2, 3⟩, ⟨3, -1⟩]
example : WellFormed mixed ∧ writtenIds true mixed = [0, 1, 3, 7] := by
  refine ⟨⟨by decide, by decide, by decide⟩, by decide⟩

/-- Why the comparison must be strict: with `≥` (first internal id lacking an external id EQUAL to the
    largest external id counts as "no shift needed") the same graph writes two nodes under id 3. -/
theorem ge_variant_collides :
    WellFormed mixed ∧ ¬ (mixed.map (fun n => if n.ext < 0 then baseIdGe mixed + n.id else n.ext)).Nodup := by
  refine ⟨⟨by decide, by decide, by decide⟩, by decide⟩

end AdaptaVerif.Props.C18Ids
