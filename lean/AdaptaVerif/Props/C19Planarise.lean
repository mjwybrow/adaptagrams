/-
C19 — "planarising an orthogonally routed graph yields a graph in which no two edges cross and every original
node is still present and still connected to its former neighbours through chains of new nodes": property
theorems about the executable model of `dialect::OrthoPlanariser`, with their witnesses and non-vacuity examples.

  Model  : Model/Planarise.lean — `planarise` = buildUniqueBendPoints, EdgeSegment constructor, computeNodeGroups,
           partition, CompareActiveEvents, the computeCrossings sweep with its event/segment re-pointing, as coded.
  Tie    : Driver/C19Planarise.lean — every run the real `OrthoPlanariser::planarise` is run on the `planx-*`
           classes of harness/c19_planarise.h and bend nodes, overlap-free graph and planar graph must equal
           the model's (new nodes renamed in creation order), exactly.

What is proved about the code as modelled (section numbers below):
  (0)–(1) the comparator, `std::sort`, for all inputs;  (2) original nodes kept, all inputs;
  (3)–(5) the crossing sweep `computeCrossings` on ALL segment lists satisfying `Good`: reported crossings = the sweep
          condition (sound + complete), connections survive, no two result edges cross;
  (6)     the whole `planarise` from the route segments on, hypothesis `GoodA` (collinear route segments may overlap);
  (7)     the whole `planarise` on the raw input, hypothesis `SepInput ∧ NoCentreInside` (decidable `sepInputB`):
          no two edges cross; every node kept; every edge realised by a chain of bend / crossing nodes only
          (`…_partial`: "in route order" is not part of the statement);
  (8)     closed witnesses: the length hypothesis is necessary (known finding C19-planarise-shortseg, both faces), the
          asymmetric treatment of T-touches.
Every hypothesis has an executable form (`goodB`, `goodAB`, `sepInputB`) with a soundness theorem; the driver evaluates the
conclusions on the LIBRARY's output whenever the executable hypothesis holds.
-/
import AdaptaVerif.Lemmas.StrictWeakOrder
import AdaptaVerif.Lemmas.PlanariseSweepParts
import AdaptaVerif.Lemmas.PlanariseGood
import AdaptaVerif.Lemmas.PlanariseConn
import AdaptaVerif.Lemmas.PlanariseNoCross
import AdaptaVerif.Lemmas.PlanariseEdges
import AdaptaVerif.Lemmas.PlanariseInputB
namespace AdaptaVerif.Props.C19Planarise
open AdaptaVerif.Model.Planarise AdaptaVerif.Lemmas.Planarise AdaptaVerif.Check.Planarise

def wA : Node := ⟨0, ⟨0, 0⟩⟩
def wB : Node := ⟨1, ⟨60, 40⟩⟩
def wC : Node := ⟨2, ⟨-20, 20⟩⟩
def wD : Node := ⟨3, ⟨100, 20⟩⟩

/-! ### (0) the comparator -/

/-- On y-coordinates that are equal or more than the tolerance apart, `CompareActiveEvents` is the
lexicographic order on (y, type) with CLOSE < SUSTAIN < OPEN. -/
theorem compareActive_lex (ya yb : Rat) (ta tb : EvType)
    (h : ya = yb ∨ ya + 1 < yb ∨ yb + 1 < ya) :
    compareActive ya ta yb tb = true ↔ (ya < yb ∨ (ya = yb ∧ ta.rank < tb.rank)) := by
  unfold compareActive tolY
  split
  · grind
  · split
    · grind
    · simp only [decide_eq_true_eq]; grind

/-- Root cause of the known finding C19-planarise-shortseg, for every vertical segment not longer than the
tolerance: its CLOSE event (upper end `y1`) is ordered BEFORE its own OPEN event (lower end `y0`). -/
theorem short_vertical_close_before_open (y0 y1 : Rat) (_h0 : y0 ≤ y1) (h1 : y1 ≤ y0 + 1) :
    compareActive y1 .close y0 .opn = true ∧ compareActive y0 .opn y1 .close = false := by
  unfold compareActive tolY
  constructor
  · split
    · rfl
    · split
      · grind
      · simp [EvType.rank]
  · split
    · grind
    · split
      · rfl
      · simp [EvType.rank]

/-- With the tolerance the comparator is not a strict weak order (incomparability is not transitive):
SUSTAIN events at y = 0, 3/4, 3/2. `std::sort` with such a comparator is undefined behaviour in C++. -/
theorem compareActive_incomparability_not_transitive :
    compareActive 0 .sustain (3/4) .sustain = false ∧ compareActive (3/4) .sustain 0 .sustain = false ∧
    compareActive (3/4) .sustain (3/2) .sustain = false ∧ compareActive (3/2) .sustain (3/4) .sustain = false ∧
    compareActive 0 .sustain (3/2) .sustain = true := by decide +kernel

/-! ### (1) the sort, for every input -/

/-- `std::sort` (as insertion sort) returns a permutation of its input, for EVERY comparator. -/
theorem stdSort_perm {α : Type} (lt : α → α → Bool) (l : List α) : (stdSort lt l).Perm l :=
  AdaptaVerif.Lemmas.Planarise.stdSort_perm lt l

/-- For a strict weak order the result is sorted: no later element is less than an earlier one. -/
theorem stdSort_sorted {α : Type} (lt : α → α → Bool) (h : AdaptaVerif.Lemmas.SWO.IsSWO lt) (l : List α) :
    (stdSort lt l).Pairwise (fun a b => lt b a = false) :=
  stdSort_pairwise l (h.sortsBy _)

-- non-vacuity of stdSort_sorted: strict weak orders exist (`<` on Nat)
example : AdaptaVerif.Lemmas.SWO.IsSWO (fun a b : Nat => decide (a < b)) :=
  ⟨by simp, by simp; omega, by simp; omega⟩

/-! ### (2) original nodes are kept -/

/-- Every original node (same id, same centre) is a node of the planar graph, for every input. -/
theorem planarise_preserves_nodes (inp : Input) : ∀ n ∈ inp.nodes, n ∈ (planarise inp).nodes := by
  intro n hn
  simp only [planarise]
  exact List.mem_append_left _ (List.mem_append_left _ hn)


/-! ### (3) the sweep `computeCrossings` is sound and complete

Hypothesis `Good S` (Lemmas/PlanariseSweep.lean; decidable form `goodB`, evaluated by the driver on the segment list
the LIBRARY built from its overlap-free graph): every segment is axis-parallel, of positive length and stored as the
`EdgeSegment` constructor stores it; any two x-coordinates (any two y-coordinates) of segment ends are equal or MORE
THAN 1 APART (1 = the largest tolerance: in particular every segment is longer than the comparator's tolerance);
two segments on one line do not overlap (they may share an end).  All three parts are needed: `short_segment_missorted`
(length), and an overlap of verticals would overwrite the single `openV` pointer.

The condition the sweep implements is  h.lo < v.cc ≤ h.hi  ∧  v.lo < h.cc < v.hi : it is a proper crossing, OR the
right end of the horizontal lies on the interior of the vertical (`ttouch_asymmetric`: a SUSTAIN event is still active
in the x-part in which its segment closes). -/

/-- the condition under which the sweep reports a crossing of horizontal `h` and vertical `v` -/
def SweepCross (h v : Seg) : Prop :=
  h.ori = .H ∧ v.ori = .V ∧ h.lo < v.cc ∧ v.cc ≤ h.hi ∧ v.lo < h.cc ∧ h.cc < v.hi

/-- `h` and `v` properly cross (the open segments meet transversally) -/
def ProperCross (h v : Seg) : Prop :=
  h.ori = .H ∧ v.ori = .V ∧ h.lo < v.cc ∧ v.cc < h.hi ∧ v.lo < h.cc ∧ h.cc < v.hi

/-- **Soundness**, all segment lists: every crossing node lies at the meeting point of a horizontal and a vertical
segment of the input that satisfy the sweep condition. -/
theorem crossings_sound (S : List Seg) (nextId : Nat) (hG : Good S) :
    ∀ c ∈ (computeCrossings S nextId).cross, ∃ h ∈ S, ∃ v ∈ S, SweepCross h v ∧ c.p = ⟨v.cc, h.cc⟩ := by
  intro c hc
  obtain ⟨i, k, si, sk, a, b, h1, h2, h3, h4, h5, h6, h7⟩ :=
    (computeCrossings_spec hG nextId c.p).1 (List.mem_map.2 ⟨c, hc, rfl⟩)
  exact ⟨si, List.mem_of_getElem? a, sk, List.mem_of_getElem? b, ⟨h1, h2, h3, h4, h5, h6⟩, h7⟩

/-- **Completeness**, all segment lists: every pair satisfying the sweep condition gets a crossing node at its meeting point. -/
theorem crossings_complete (S : List Seg) (nextId : Nat) (hG : Good S) :
    ∀ h ∈ S, ∀ v ∈ S, SweepCross h v → ∃ c ∈ (computeCrossings S nextId).cross, c.p = ⟨v.cc, h.cc⟩ := by
  intro h hh v hv ⟨h1, h2, h3, h4, h5, h6⟩
  obtain ⟨i, hi⟩ := List.getElem?_of_mem hh
  obtain ⟨k, hk⟩ := List.getElem?_of_mem hv
  have := (computeCrossings_spec hG nextId ⟨v.cc, h.cc⟩).2 ⟨i, k, h, v, hi, hk, h1, h2, h3, h4, h5, h6, rfl⟩
  obtain ⟨c, hc, hcp⟩ := List.mem_map.1 this
  exact ⟨c, hc, hcp⟩

/-- If no horizontal segment ends (right end) on the interior of a vertical one, the reported points are exactly the
proper crossings. -/
theorem crossings_iff_proper (S : List Seg) (nextId : Nat) (hG : Good S)
    (hT : ∀ h ∈ S, ∀ v ∈ S, h.ori = .H → v.ori = .V → ¬ (h.hi = v.cc ∧ v.lo < h.cc ∧ h.cc < v.hi)) (p : Pt) :
    p ∈ (computeCrossings S nextId).cross.map (·.p) ↔ ∃ h ∈ S, ∃ v ∈ S, ProperCross h v ∧ p = ⟨v.cc, h.cc⟩ := by
  constructor
  · intro hp
    obtain ⟨c, hc, rfl⟩ := List.mem_map.1 hp
    obtain ⟨h, hh, v, hv, ⟨h1, h2, h3, h4, h5, h6⟩, hcp⟩ := crossings_sound S nextId hG c hc
    refine ⟨h, hh, v, hv, ⟨h1, h2, h3, ?_, h5, h6⟩, hcp⟩
    have := hT h hh v hv h1 h2
    grind
  · rintro ⟨h, hh, v, hv, ⟨h1, h2, h3, h4, h5, h6⟩, rfl⟩
    obtain ⟨c, hc, hcp⟩ := crossings_complete S nextId hG h hh v hv ⟨h1, h2, h3, Rat.le_of_lt h4, h5, h6⟩
    exact List.mem_map.2 ⟨c, hc, hcp⟩

/-- the executable test the driver applies is sound for the hypothesis -/
theorem goodB_sound (S : List Seg) (h : goodB S = true) : Good S := AdaptaVerif.Lemmas.Planarise.goodB_sound h

/-- non-vacuity: a 3×2 grid (three horizontals crossed by two verticals) satisfies the hypothesis, and the sweep
reports its six crossings -/
def gridSegs : List Seg :=
  [mkSeg ⟨0, ⟨0, 0⟩⟩ ⟨1, ⟨30, 0⟩⟩, mkSeg ⟨2, ⟨0, 10⟩⟩ ⟨3, ⟨30, 10⟩⟩, mkSeg ⟨4, ⟨0, 20⟩⟩ ⟨5, ⟨30, 20⟩⟩,
   mkSeg ⟨6, ⟨10, -5⟩⟩ ⟨7, ⟨10, 25⟩⟩, mkSeg ⟨8, ⟨20, -5⟩⟩ ⟨9, ⟨20, 25⟩⟩]
example : Good gridSegs := goodB_sound _ (by decide +kernel)
example : ((computeCrossings gridSegs 10).cross.map (·.p)).length = 6 := by decide +kernel
-- non-vacuity of crossings_iff_proper: the grid also satisfies the no-T-touch hypothesis `hT` (jointly with `Good`), and
-- the equivalence is not between two empty sides: (10, 0) is a reported point
example : ∀ h ∈ gridSegs, ∀ v ∈ gridSegs, h.ori = .H → v.ori = .V → ¬ (h.hi = v.cc ∧ v.lo < h.cc ∧ h.cc < v.hi) := by
  decide +kernel
example : (⟨10, 0⟩ : Pt) ∈ (computeCrossings gridSegs 10).cross.map (·.p) := by decide +kernel


/-! ### (4) connections survive the cuts

`Joined segs a b`: some segment of `segs` has end nodes `a` and `b`.  `Linked segs l`: the nodes of `l` are
consecutively joined.  `Reach segs new a b`: `a` and `b` are linked through intermediate nodes that are all in `new`. -/

/-- One cut (the SUSTAIN arm of the sweep: `setNewClosingNode` on both segments + two continuation segments)
preserves every connection, for ALL states: if the two cut segments end at `c1`, `c2` and the continuation
segments are built from (cr, c1), (cr, c2), whatever was joined is still joined, directly or through `cr`. -/
theorem cut_preserves_connections (segs : List Seg) (a1 a2 : Nat) (t1 t2 : Seg) (cr : Node)
    (h1 : segs[a1]? = some t1) (h2 : segs[a2]? = some t2) (hne : a1 ≠ a2) (new : List Node) (a b : Node)
    (h : Reach segs new a b) :
    Reach (((segs.set a1 (t1.setNewClosing cr)).set a2 (t2.setNewClosing cr)) ++ [mkSeg cr t1.cn] ++ [mkSeg cr t2.cn])
      (cr :: new) a b := by
  have l2 := (List.getElem?_eq_some_iff.1 h2).1
  have r := reach_cut (t := t2) (a := a2) (by
    rw [(lookup_set_append _ _ (List.getElem?_eq_some_iff.1 h1).1).2.2 a2 (Ne.symm hne) (Nat.ne_of_lt l2)]; exact h2)
    cr (reach_cut h1 cr h)
  rw [List.set_append_left _ _ (by simpa using l2)] at r
  exact r.mono (fun m hm => (List.mem_cons.1 hm).elim (fun h => List.mem_cons.2 (Or.inl h)) id)

-- non-vacuity of cut_preserves_connections: the hypotheses hold jointly on the grid (cut of horizontal 0 and vertical 3,
-- the connection 0–1 of the horizontal)
example : gridSegs[0]? = some (mkSeg ⟨0, ⟨0, 0⟩⟩ ⟨1, ⟨30, 0⟩⟩) ∧ gridSegs[3]? = some (mkSeg ⟨6, ⟨10, -5⟩⟩ ⟨7, ⟨10, 25⟩⟩) ∧
    (0 : Nat) ≠ 3 ∧ Reach gridSegs [] ⟨0, ⟨0, 0⟩⟩ ⟨1, ⟨30, 0⟩⟩ := by
  refine ⟨by decide +kernel, by decide +kernel, by decide,
    Reach.edge ⟨mkSeg ⟨0, ⟨0, 0⟩⟩ ⟨1, ⟨30, 0⟩⟩, by decide +kernel, ?_⟩⟩
  left; constructor <;> decide +kernel

/-- **Connections, crossing-removal stage, all segment lists.**  After `computeCrossings` every segment of the input
(= every edge of the overlap-free graph) is still connected end to end by a chain of final segments whose intermediate
nodes are all crossing nodes created by the sweep.  (Whole pipeline: section 7.) -/
theorem sweep_preserves_connections (S : List Seg) (nextId : Nat) (hG : Good S) :
    ∀ s ∈ S, ∃ mids : List Node, (∀ m ∈ mids, m ∈ (computeCrossings S nextId).cross) ∧
      Linked (computeCrossings S nextId).segs (s.on :: mids ++ [s.cn]) := by
  intro s hs
  obtain ⟨i, hi⟩ := List.getElem?_of_mem hs
  exact linked_of_reach (computeCrossings_reach hG nextId i s hi)

/-- input of `short_segment_disconnects`: the jog of `jogInput (1/2)` and two horizontal edges C→D (y = 20),
E→F (y = 30) that end at x = 40, left of the second vertical (replay: harness case `planx-jog-witness`) -/
def jogInput2 : Input :=
  { nodes := [wA, wB, ⟨2, ⟨-20, 20⟩⟩, ⟨3, ⟨40, 20⟩⟩, ⟨4, ⟨-20, 30⟩⟩, ⟨5, ⟨40, 30⟩⟩],
    edges := [⟨wA, wB, [⟨0, 0⟩, ⟨20, 0⟩, ⟨20, 1/2⟩, ⟨60, 1/2⟩, ⟨60, 40⟩]⟩,
              ⟨⟨2, ⟨-20, 20⟩⟩, ⟨3, ⟨40, 20⟩⟩, [⟨-20, 20⟩, ⟨40, 20⟩]⟩,
              ⟨⟨4, ⟨-20, 30⟩⟩, ⟨5, ⟨40, 30⟩⟩, [⟨-20, 30⟩, ⟨40, 30⟩]⟩] }

/-- The hypothesis is needed for the connections too (second face of the known finding): two spurious crossings on
the short jog re-close the REVERSED continuation segment, the jog edge 6–7 becomes 6–9, 7–10, 7–10, and the original
adjacency A–B is no longer realised by a chain of new nodes (`chainB` = the driver's check). -/
theorem short_segment_disconnects :
    (planarise jogInput2).edges = [(0, 6), (7, 8), (2, 9), (4, 10), (6, 9), (8, 1), (9, 3), (7, 10), (10, 5), (7, 10)] ∧
    chainB [0, 1, 2, 3, 4, 5] (planarise jogInput2).edges 0 1 = false := by
  decide +kernel


/-! ### (5) no two edges of the result cross -/

/-- **No crossing, crossing-removal stage, all segment lists**: after `computeCrossings` no horizontal piece `p` and
vertical piece `q` of the final segment list (one planar-graph edge each) cross transversally
(`PiecesCross p q`: the line of `q` strictly between the ends of `p` and the line of `p` strictly between the ends
of `q`).  Proof: every final piece lies inside one original segment (`piece_within`), a crossing of two pieces would
satisfy the sweep condition, so by completeness a crossing node sits there — but no crossing node lies strictly
inside a piece (invariant `Pc.ni`, kept by every cut).
This is the statement for `removeEdgeCrossings` on ANY segment list satisfying `Good`; the whole pipeline is
`planarise_no_crossing` (section 6) and `planarise_no_crossing_of_input` (section 7). -/
theorem sweep_no_crossing (S : List Seg) (nextId : Nat) (hG : Good S) :
    ∀ p ∈ (computeCrossings S nextId).segs, ∀ q ∈ (computeCrossings S nextId).segs, ¬ PiecesCross p q :=
  no_pieces_cross hG nextId

/-- every edge of the result is a sub-segment of one input segment (so parallel pieces can only touch or overlap
where the input segments did: never, by `Good`, except at shared ends) -/
theorem sweep_pieces_within (S : List Seg) (nextId : Nat) (hG : Good S) :
    ∀ t ∈ (computeCrossings S nextId).segs, ∃ s ∈ S,
      (s.ori = .H ∧ t.on.p.y = s.cc ∧ t.cn.p.y = s.cc ∧ s.lo ≤ t.on.p.x ∧ t.on.p.x ≤ s.hi ∧ s.lo ≤ t.cn.p.x ∧ t.cn.p.x ≤ s.hi) ∨
      (s.ori = .V ∧ t.on.p.x = s.cc ∧ t.cn.p.x = s.cc ∧ s.lo ≤ t.on.p.y ∧ t.on.p.y ≤ s.hi ∧ s.lo ≤ t.cn.p.y ∧ t.cn.p.y ≤ s.hi) := by
  intro t ht
  obtain ⟨j, sj, hsj, h⟩ := piece_within hG nextId t ht
  exact ⟨sj, List.mem_of_getElem? hsj, h⟩

/-- non-vacuity of `PiecesCross`: the two input segments of the grid do cross before the sweep -/
example : PiecesCross (mkSeg ⟨0, ⟨0, 0⟩⟩ ⟨1, ⟨30, 0⟩⟩) (mkSeg ⟨6, ⟨10, -5⟩⟩ ⟨7, ⟨10, 25⟩⟩) := by
  unfold PiecesCross; decide +kernel


/-! ### (6) the whole `planarise`, from the route segments on

`segsAOf inp` = the segments `buildSegments` makes from the routes after `buildUniqueBendPoints` (node centre to bend
node to … to node centre); `segsBOf inp` = the segments of the overlap-free graph handed to the sweep.
Hypothesis `GoodA (segsAOf inp)` (decidable form `goodAB`, evaluated by the driver): every route segment is axis-parallel
of positive length, end coordinates equal or more than 1 apart, and a node is identified by its position and by its id.
Collinear route segments MAY overlap, nest or abut — that is what `removeEdgeOverlaps` is for. -/

/-- `removeEdgeOverlaps` delivers what the sweep needs: the overlap-free graph is axis-parallel, separated and
overlap-free, for every input whose route segments satisfy `GoodA`. -/
theorem overlap_removal_good (inp : Input) (hA : GoodA (segsAOf inp)) : Good (segsBOf inp) := pipeline_good hA

/-- **Crossings of the whole pipeline**: the crossing nodes of `planarise inp` lie exactly at the points where a
horizontal and a vertical edge of the overlap-free graph satisfy the sweep condition. -/
theorem planarise_crossings (inp : Input) (hA : GoodA (segsAOf inp)) (p : Pt) :
    p ∈ (planarise inp).crossNodes.map (·.p) ↔
      ∃ h ∈ segsBOf inp, ∃ v ∈ segsBOf inp, SweepCross h v ∧ p = ⟨v.cc, h.cc⟩ := by
  obtain ⟨_, h2, _⟩ := planarise_segs inp
  rw [h2, List.map_reverse, List.mem_reverse]
  have hG := pipeline_good hA
  constructor
  · intro hp
    obtain ⟨c, hc, rfl⟩ := List.mem_map.1 hp
    exact crossings_sound _ _ hG c hc
  · rintro ⟨h, hh, v, hv, hs, rfl⟩
    obtain ⟨c, hc, hcp⟩ := crossings_complete _ _ hG h hh v hv hs
    exact List.mem_map.2 ⟨c, hc, hcp⟩

/-- **No two edges of `planarise inp` cross.** -/
theorem planarise_no_crossing (inp : Input) (hA : GoodA (segsAOf inp)) :
    ∀ p ∈ (planarise inp).segs, ∀ q ∈ (planarise inp).segs, ¬ PiecesCross p q := by
  rw [(planarise_segs inp).1]
  exact no_pieces_cross (pipeline_good hA) _

/-- **Every route segment of every edge is still connected end to end in `planarise inp`**, by a chain of planar-graph
edges whose intermediate nodes are crossing nodes or ends of route segments lying strictly inside this segment (on its
line, strictly between its ends).  Together with `planarise_preserves_nodes`, and since consecutive route segments of an
edge share their bend node, this is the clause "every original node is still present and still connected to its former
neighbours through chains of new nodes" — the intermediate segment ends are bend nodes, not original nodes, exactly when
no route passes through the centre of a third node (`NoCentreInside`; composed in section 7). -/
theorem planarise_preserves_connections (inp : Input) (hA : GoodA (segsAOf inp)) :
    ∀ s ∈ segsAOf inp, ∃ mids : List Node,
      (∀ m ∈ mids, m ∈ (planarise inp).crossNodes ∨
        ((∃ t ∈ segsAOf inp, m = t.on ∨ m = t.cn) ∧ ccOf s.ori m = s.cc ∧
          vcOf s.ori s.on < vcOf s.ori m ∧ vcOf s.ori m < vcOf s.ori s.cn)) ∧
      Linked (planarise inp).segs (s.on :: mids ++ [s.cn]) := by
  intro s hs
  obtain ⟨inner, hin, hr⟩ := pipeline_connections hA s hs
  obtain ⟨mids, h1, h2⟩ := linked_of_reach hr
  refine ⟨mids, ?_, h2⟩
  intro m hm
  rcases List.mem_append.1 (h1 m hm) with h | h
  · exact Or.inl h
  · exact Or.inr (hin m h)

/-- the executable test the driver applies to the route segments is sound for `GoodA` -/
theorem goodAB_sound (S : List Seg) (h : goodAB S = true) : GoodA S := AdaptaVerif.Lemmas.Planarise.goodAB_sound h

/-- two edges whose routes share the horizontal line y = 0 and overlap on [20, 40] (each has a bend strictly inside the
other's segment), and a vertical edge crossing the overlap at (30, 0) -/
def overlapInput : Input :=
  { nodes := [⟨0, ⟨0, 20⟩⟩, ⟨1, ⟨40, 20⟩⟩, ⟨2, ⟨20, -20⟩⟩, ⟨3, ⟨60, -20⟩⟩, ⟨4, ⟨30, -30⟩⟩, ⟨5, ⟨30, 30⟩⟩],
    edges := [⟨⟨0, ⟨0, 20⟩⟩, ⟨1, ⟨40, 20⟩⟩, [⟨0, 20⟩, ⟨0, 0⟩, ⟨40, 0⟩, ⟨40, 20⟩]⟩,
              ⟨⟨2, ⟨20, -20⟩⟩, ⟨3, ⟨60, -20⟩⟩, [⟨20, -20⟩, ⟨20, 0⟩, ⟨60, 0⟩, ⟨60, -20⟩]⟩,
              ⟨⟨4, ⟨30, -30⟩⟩, ⟨5, ⟨30, 30⟩⟩, [⟨30, -30⟩, ⟨30, 30⟩]⟩] }

/-- non-vacuity: overlapping routes satisfy the hypothesis (overlaps are allowed in `GoodA`), and the one crossing of
the vertical edge with the merged line is found -/
example : GoodA (segsAOf overlapInput) := goodAB_sound _ (by decide +kernel)
example : (planarise overlapInput).crossNodes.map (·.p) = [⟨30, 0⟩] := by decide +kernel


/-! ### (7) the whole `planarise` on the raw input

Hypothesis on the input (`SepInput inp ∧ NoCentreInside inp`, decidable form `sepInputB`, evaluated by the driver):
node ids and node centres pairwise distinct; every edge joins two nodes of the graph and its route runs from the source
centre to the target centre in axis-parallel steps of positive length; any two x-coordinates (y-coordinates) occurring in
centres or route points are equal or MORE THAN 1 APART; no interior route point is a node centre and no node centre lies
strictly inside a route segment.  Routes of different edges may share lines, overlap, nest, touch and cross. -/

/-- a separated input gives route segments satisfying `GoodA` (so section 6 applies) -/
theorem separated_input_good (inp : Input) (hS : SepInput inp) : GoodA (segsAOf inp) := sepInput_goodA hS

/-- **No two edges of the planarised graph cross**, for every separated orthogonally routed input. -/
theorem planarise_no_crossing_of_input (inp : Input) (hS : SepInput inp) :
    ∀ p ∈ (planarise inp).segs, ∀ q ∈ (planarise inp).segs, ¬ PiecesCross p q :=
  planarise_no_crossing inp (sepInput_goodA hS)

/-- **Every original node is still present and still connected to its former neighbours through chains of new nodes**,
for every separated orthogonally routed input: each node of the input is a node of the result, and for every edge
(u, v) there are new nodes m₁ … mₖ (bend nodes or crossing nodes — never original nodes) with u – m₁ – … – mₖ – v
consecutively joined by edges of the result.
`_partial` only in that the brief's "in route order" is not part of the statement. -/
theorem planarise_preserves_nodes_and_connections_partial (inp : Input) (hS : SepInput inp) (hN : NoCentreInside inp) :
    (∀ n ∈ inp.nodes, n ∈ (planarise inp).nodes) ∧
    ∀ e ∈ inp.edges, ∃ mids : List Node,
      (∀ m ∈ mids, m ∈ (planarise inp).crossNodes ∨ m ∈ (planarise inp).bendNodes) ∧
      Linked (planarise inp).segs (e.src :: mids ++ [e.tgt]) := by
  refine ⟨planarise_preserves_nodes inp, ?_⟩
  intro e he
  obtain ⟨mids, h1, h2⟩ := linked_of_reach (edges_connected hS hN e he)
  exact ⟨mids, fun m hm => List.mem_append.1 (h1 m hm), h2⟩

/-- bend nodes are new: their ids are fresh, so none of them is a node of the input -/
theorem new_nodes_fresh (inp : Input) (hS : SepInput inp) :
    ∀ m ∈ (planarise inp).bendNodes, ∀ n ∈ inp.nodes, m.id ≠ n.id := by
  intro m hm n hn
  rw [planarise_bendNodes] at hm
  have h1 := ((segsA_ends hS).1.ge m hm).1
  have h2 := firstFreeId_gt inp.nodes n hn
  omega

/-- the executable test the driver applies to the input is sound for the hypothesis -/
theorem sepInputB_sound (inp : Input) (h : sepInputB inp = true) : SepInput inp ∧ NoCentreInside inp :=
  AdaptaVerif.Lemmas.Planarise.sepInputB_sound h

/-- non-vacuity: the overlapping-routes input satisfies the hypothesis -/
example : SepInput overlapInput ∧ NoCentreInside overlapInput := sepInputB_sound _ (by decide +kernel)

/-! ### (8) closed witnesses -/

/-- edge A→B routed (0,0) (20,0) (20,d) (60,d) (60,40) — a vertical jog of length `d` at x = 20 — and the
straight horizontal edge C→D at y = 20 (replay: harness `--mode shortseg` for d = 1/2) -/
def jogInput (d : Rat) : Input :=
  { nodes := [wA, wB, wC, wD],
    edges := [⟨wA, wB, [⟨0, 0⟩, ⟨20, 0⟩, ⟨20, d⟩, ⟨60, d⟩, ⟨60, 40⟩]⟩, ⟨wC, wD, [⟨-20, 20⟩, ⟨100, 20⟩]⟩] }

/-- Known finding C19-planarise-shortseg reproduced in the model: with a jog of length 1/2 (< tolerance 1) the
sweep reports a crossing at (20,20), where edge C→D passes 19.5 above the upper end of the jog, and the jog
edge 4–5 of the overlap-free graph is replaced by the two overlapping edges 4–7 and 5–7.
(Hence the length hypothesis of `crossings_sound` is necessary.) -/
theorem short_segment_missorted :
    (planarise (jogInput (1/2))).crossNodes = [⟨7, ⟨20, 20⟩⟩, ⟨8, ⟨60, 20⟩⟩] ∧
    (planarise (jogInput (1/2))).edges = [(0, 4), (5, 6), (2, 7), (4, 7), (6, 8), (7, 8), (5, 7), (8, 3), (8, 1)] := by
  decide +kernel

/-- Control: with a jog of length 2 only the genuine crossing (60,20) is reported and the jog edge 4–5 survives. -/
theorem long_segment_sorted :
    (planarise (jogInput 2)).crossNodes = [⟨7, ⟨60, 20⟩⟩] ∧
    (planarise (jogInput 2)).edges = [(0, 4), (5, 6), (2, 7), (4, 5), (6, 7), (7, 3), (7, 1)] := by
  decide +kernel

/-- A horizontal edge whose RIGHT end node lies on the interior of a vertical edge gets a crossing node at that
very point (joined to the end node by a zero-length edge); a LEFT end touching a vertical gets none.
As coded: a SUSTAIN event is still active in the x-part in which its segment closes. -/
theorem ttouch_asymmetric :
    (planarise { nodes := [⟨0, ⟨0, 0⟩⟩, ⟨1, ⟨0, 40⟩⟩, ⟨2, ⟨-20, 20⟩⟩, ⟨3, ⟨0, 20⟩⟩],
                 edges := [⟨⟨0, ⟨0, 0⟩⟩, ⟨1, ⟨0, 40⟩⟩, [⟨0, 0⟩, ⟨0, 40⟩]⟩,
                           ⟨⟨2, ⟨-20, 20⟩⟩, ⟨3, ⟨0, 20⟩⟩, [⟨-20, 20⟩, ⟨0, 20⟩]⟩] }).crossNodes = [⟨4, ⟨0, 20⟩⟩] ∧
    (planarise { nodes := [⟨0, ⟨0, 0⟩⟩, ⟨1, ⟨0, 40⟩⟩, ⟨2, ⟨20, 20⟩⟩, ⟨3, ⟨0, 20⟩⟩],
                 edges := [⟨⟨0, ⟨0, 0⟩⟩, ⟨1, ⟨0, 40⟩⟩, [⟨0, 0⟩, ⟨0, 40⟩]⟩,
                           ⟨⟨2, ⟨20, 20⟩⟩, ⟨3, ⟨0, 20⟩⟩, [⟨20, 20⟩, ⟨0, 20⟩]⟩] }).crossNodes = [] := by
  decide +kernel

end AdaptaVerif.Props.C19Planarise
