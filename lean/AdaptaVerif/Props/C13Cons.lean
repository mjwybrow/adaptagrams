/-
C13: which constraints a `TopologyConstraints` instance creates, and what the two `satisfy()`
rewrites do (Model/TopoCons.lean; proofs in Lemmas/TopoCons*.lean).  Everything is quantified over ALL scenes (node lists, paths, axis `d`) and over every order
`std::sort` may give to events that `CompareEvents` leaves unordered (`tb` / `bO` / `bC`).

  scan_*            the plane-scan state machine (`scan`: sorted events, open node map, open segment list)
                    creates exactly the constraints of the closed form `consClosed`; both open lists are
                    empty at the end (the constructor's two final asserts)
  generated_sound   a generated StraightConstraint joins a segment and a node one of whose sides lies on a
                    scan line meeting the segment's span, with `nodeLeft` = the side the node centre is on
  straight_complete every visible (segment, node side) pair gets its constraint - with the as-coded
                    exceptions as explicit hypotheses; `endnode_blind_spot*` and `parallel_segment_*` are
                    those exceptions as theorems (= the registered findings C13-endnode-visibility and
                    C13-parallel-segment-bend), each with a closed witness scene
  slack_is_gap, solve_step_*   the TriConstraint of a generated constraint measures the gap between the
                    segment's line and the node's facing side on the scan line; composed with
                    `solve_move_safe`: a `solve()` move phase keeps every such gap ≥ 0, hence a node with
                    constraints on both of its scan lines stays wholly on its side of the segment
  bend_*            every interior EdgePoint has its BendConstraint unless both incident segments are
                    parallel to the scan line; its slack is the offset of the far end from the extension
                    of the reference segment
  nonOverlap_*      the separation constraints the scan creates at NodeClose events are sound and - the scan-line
                    chain lemma - transitively separate every pair of nodes sharing a scan line
  bendSatisfy_*, straightSatisfy_*, *_preserves_sides   the two rewrites keep the path's end points, remove
                    exactly the straightened bend / insert exactly the corner the segment touched, rebuild
                    the StraightConstraints of the new segments with `createStraight` (nothing transferable
                    is lost, every other constraint goes to exactly the half `destIsLeft` chooses), and -
                    applied in the tight configuration - replace every scan-line crossing by one crossing at
                    the same place (the side of every node w.r.t. the edge is unchanged)
-/
import AdaptaVerif.Lemmas.TopoConsScan
import AdaptaVerif.Lemmas.TopoConsGen
import AdaptaVerif.Lemmas.TopoConsRewrite
import AdaptaVerif.Lemmas.TopoConsTight
import AdaptaVerif.Lemmas.TopoConsBend
import AdaptaVerif.Lemmas.TopoConsNonOverlap
namespace AdaptaVerif.Props.C13Cons
open AdaptaVerif.Model.TopoCons AdaptaVerif.Model.TopoTransfer AdaptaVerif.Check.Topo
open AdaptaVerif.Lemmas.TopoConsScan (bOof bCof)
open AdaptaVerif.Lemmas.TopoConsGen (triOf w0 w1 w2 w1' wSg pA pB pC pSg idLt ctlIni ctlFin)
open AdaptaVerif.Lemmas.TopoConsRewrite (SplitKeeps toFirstHalf exNode exSt)
open AdaptaVerif.Lemmas.TopoConsTight (exPos)
open AdaptaVerif.Lemmas.TopoConsBend (offLine)
open AdaptaVerif.Model.Tri (TriConstraint minAlpha moveStep)
open AdaptaVerif.Spec.Tri (Feasible)
open AdaptaVerif.Lemmas.TopoConsNonOverlap (OpenAtClose Sep e0 e1 e2 ePos)

/-! ### the scan -/

/-- **The state machine is its closed form.** For every order of the events that `CompareEvents` leaves unordered (`tb`, injective on the NodeOpen resp. NodeClose events), the scan over the sorted event list creates exactly the constraints `consClosed` lists per node event. `hkeys` = the constructor's `COLA_ASSERT(r.second)`: two nodes open at the same time never have the same centre. -/
theorem scan_mem_iff (d : Nat) (tb : Ev → Nat) (nodes : List Node) (segs : List Seg)
    (hids : nodes.Pairwise (fun a b => a.id ≠ b.id))
    (hsegs : segs.Pairwise (fun a b => ¬ (a.edge = b.edge ∧ a.idx = b.idx)))
    (hpos : ∀ n ∈ nodes, n.r.lo (conj d) < n.r.hi (conj d))
    (htbO : ∀ m ∈ nodes, ∀ n ∈ nodes, m.id ≠ n.id → tb (.nodeOpen m) ≠ tb (.nodeOpen n))
    (htbC : ∀ m ∈ nodes, ∀ n ∈ nodes, m.id ≠ n.id → tb (.nodeClose m) ≠ tb (.nodeClose n))
    (hkeys : ∀ m ∈ nodes, ∀ n ∈ nodes, m.id ≠ n.id →
      m.r.lo (conj d) < n.r.hi (conj d) → n.r.lo (conj d) < m.r.hi (conj d) →
      m.r.centre d ≠ n.r.centre d)
    (x : Seg × SC) :
    x ∈ (scan d tb nodes segs).out ↔ x ∈ consClosed d (bOof tb) (bCof tb) nodes segs :=
  AdaptaVerif.Lemmas.TopoConsScan.scan_mem_iff d tb nodes segs hids hsegs hpos htbO htbC hkeys x

-- non-vacuity of the hypotheses of `scan_mem_iff` (the control scene of the harness; stable tie order) and what the
-- closed form gives there: the two StraightConstraints between the edge and node 1 (BL corner at y=21, TL corner at y=34)
private def tbId : Ev → Nat
  | .nodeOpen n => n.id | .nodeClose n => n.id | .segOpen _ => 0 | .segClose _ => 0
example :
    [w0, w1', w2].Pairwise (fun a b => a.id ≠ b.id) ∧
    [wSg].Pairwise (fun a b => ¬ (a.edge = b.edge ∧ a.idx = b.idx)) ∧
    (∀ n ∈ [w0, w1', w2], n.r.lo (conj 0) < n.r.hi (conj 0)) ∧
    (∀ m ∈ [w0, w1', w2], ∀ n ∈ [w0, w1', w2], m.id ≠ n.id → tbId (.nodeOpen m) ≠ tbId (.nodeOpen n)) ∧
    (∀ m ∈ [w0, w1', w2], ∀ n ∈ [w0, w1', w2], m.id ≠ n.id → tbId (.nodeClose m) ≠ tbId (.nodeClose n)) ∧
    (∀ m ∈ [w0, w1', w2], ∀ n ∈ [w0, w1', w2], m.id ≠ n.id →
      m.r.lo (conj 0) < n.r.hi (conj 0) → n.r.lo (conj 0) < m.r.hi (conj 0) → m.r.centre 0 ≠ n.r.centre 0) ∧
    ((consClosed 0 (bOof tbId) (bCof tbId) [w0, w1', w2] [wSg]).map fun x => (x.2.node.id, x.2.pos, x.2.ri, x.2.nodeLeft)) =
      [(1, 21, 2, false), (1, 34, 3, false)] := by
  decide +kernel

/-- The same with `hkeys` replaced by "the duplicate-key assertion of `NodeOpen::process` did not fire". -/
theorem scan_mem_iff_of_not_dupKey (d : Nat) (tb : Ev → Nat) (nodes : List Node) (segs : List Seg)
    (hids : nodes.Pairwise (fun a b => a.id ≠ b.id))
    (hsegs : segs.Pairwise (fun a b => ¬ (a.edge = b.edge ∧ a.idx = b.idx)))
    (hpos : ∀ n ∈ nodes, n.r.lo (conj d) < n.r.hi (conj d))
    (htbO : ∀ m ∈ nodes, ∀ n ∈ nodes, m.id ≠ n.id → tb (.nodeOpen m) ≠ tb (.nodeOpen n))
    (htbC : ∀ m ∈ nodes, ∀ n ∈ nodes, m.id ≠ n.id → tb (.nodeClose m) ≠ tb (.nodeClose n))
    (hdup : (scan d tb nodes segs).dupKey = false)
    (x : Seg × SC) :
    x ∈ (scan d tb nodes segs).out ↔ x ∈ consClosed d (bOof tb) (bCof tb) nodes segs :=
  have sc : AdaptaVerif.Lemmas.TopoConsScan.Scene d tb nodes segs := ⟨⟨hids, hsegs, hpos⟩, htbO, htbC⟩
  AdaptaVerif.Lemmas.TopoConsScan.scan_mem_iff_scene sc
    ((AdaptaVerif.Lemmas.TopoConsScan.scan_dupKey_false_iff sc).1 hdup) x

/-- `COLA_ASSERT(openNodes.empty())` at the end of the constructor holds for every scene. -/
theorem scan_openNodes_empty (d : Nat) (tb : Ev → Nat) (nodes : List Node) (segs : List Seg)
    (hids : nodes.Pairwise (fun a b => a.id ≠ b.id))
    (hsegs : segs.Pairwise (fun a b => ¬ (a.edge = b.edge ∧ a.idx = b.idx)))
    (hpos : ∀ n ∈ nodes, n.r.lo (conj d) < n.r.hi (conj d)) :
    (scan d tb nodes segs).openNodes = [] :=
  (AdaptaVerif.Lemmas.TopoConsScan.scan_ends_empty tb ⟨hids, hsegs, hpos⟩).1

/-- `COLA_ASSERT(openSegments.empty())` at the end of the constructor holds for every scene. -/
theorem scan_openSegs_empty (d : Nat) (tb : Ev → Nat) (nodes : List Node) (segs : List Seg)
    (hids : nodes.Pairwise (fun a b => a.id ≠ b.id))
    (hsegs : segs.Pairwise (fun a b => ¬ (a.edge = b.edge ∧ a.idx = b.idx)))
    (hpos : ∀ n ∈ nodes, n.r.lo (conj d) < n.r.hi (conj d)) :
    (scan d tb nodes segs).openSegs = [] :=
  (AdaptaVerif.Lemmas.TopoConsScan.scan_ends_empty tb ⟨hids, hsegs, hpos⟩).2

-- non-vacuity of `scan_mem_iff_of_not_dupKey`, `scan_openNodes_empty`, `scan_openSegs_empty` (and the state-machine side
-- of `scan_mem_iff`): in the control scene above (whose `hids`/`hsegs`/`hpos`/`htbO`/`htbC` are shown there) the
-- duplicate-key flag stays false, the state machine emits the two constraints of the closed form, and both open lists
-- end empty.  (`scan` sorts with `List.mergeSort`, which `decide` cannot unfold - evaluated by `#guard`.)
#guard (scan 0 tbId [w0, w1', w2] [wSg]).dupKey = false ∧
    ((scan 0 tbId [w0, w1', w2] [wSg]).out.map fun x => (x.2.node.id, x.2.pos, x.2.ri, x.2.nodeLeft)) =
      [(1, 21, 2, false), (1, 34, 3, false)] ∧
    (scan 0 tbId [w0, w1', w2] [wSg]).openNodes = [] ∧ (scan 0 tbId [w0, w1', w2] [wSg]).openSegs = []

/-- `scanNO` is `scan` with the `cs.push_back` of `NodeClose::process` recorded. -/
theorem scanNO_fst (d : Nat) (tb : Ev → Nat) (nodes : List Node) (segs : List Seg) :
    (scanNO d tb nodes segs).1 = scan d tb nodes segs :=
  AdaptaVerif.Lemmas.TopoConsScan.scanNO_fst d tb nodes segs

/-- The state machine pushes exactly the non-overlap constraints of the closed form `nonOverlapClosed` (for every event order `std::sort` may produce). -/
theorem scanNO_mem_iff (d : Nat) (tb : Ev → Nat) (nodes : List Node) (segs : List Seg)
    (hids : nodes.Pairwise (fun a b => a.id ≠ b.id))
    (hsegs : segs.Pairwise (fun a b => ¬ (a.edge = b.edge ∧ a.idx = b.idx)))
    (hpos : ∀ n ∈ nodes, n.r.lo (conj d) < n.r.hi (conj d))
    (htbO : ∀ m ∈ nodes, ∀ n ∈ nodes, m.id ≠ n.id → tb (.nodeOpen m) ≠ tb (.nodeOpen n))
    (htbC : ∀ m ∈ nodes, ∀ n ∈ nodes, m.id ≠ n.id → tb (.nodeClose m) ≠ tb (.nodeClose n))
    (hkeys : ∀ m ∈ nodes, ∀ n ∈ nodes, m.id ≠ n.id →
      m.r.lo (conj d) < n.r.hi (conj d) → n.r.lo (conj d) < m.r.hi (conj d) →
      m.r.centre d ≠ n.r.centre d)
    (c : NOC) :
    c ∈ (scanNO d tb nodes segs).2 ↔ c ∈ nonOverlapClosed d (bCof tb) nodes :=
  AdaptaVerif.Lemmas.TopoConsScan.scanNO_mem_iff_scene ⟨⟨hids, hsegs, hpos⟩, htbO, htbC⟩ hkeys c

-- non-vacuity of `scanNO_mem_iff`: three nodes in a row sharing the scan lines 0 < y < 2 (no segments): all hypotheses
-- hold and both sides are the two neighbour constraints (e0,e1), (e1,e2)
example :
    [e0, e1, e2].Pairwise (fun a b => a.id ≠ b.id) ∧
    ([] : List Seg).Pairwise (fun a b => ¬ (a.edge = b.edge ∧ a.idx = b.idx)) ∧
    (∀ n ∈ [e0, e1, e2], n.r.lo (conj 0) < n.r.hi (conj 0)) ∧
    (∀ m ∈ [e0, e1, e2], ∀ n ∈ [e0, e1, e2], m.id ≠ n.id → tbId (.nodeOpen m) ≠ tbId (.nodeOpen n)) ∧
    (∀ m ∈ [e0, e1, e2], ∀ n ∈ [e0, e1, e2], m.id ≠ n.id → tbId (.nodeClose m) ≠ tbId (.nodeClose n)) ∧
    (∀ m ∈ [e0, e1, e2], ∀ n ∈ [e0, e1, e2], m.id ≠ n.id →
      m.r.lo (conj 0) < n.r.hi (conj 0) → n.r.lo (conj 0) < m.r.hi (conj 0) → m.r.centre 0 ≠ n.r.centre 0) ∧
    nonOverlapClosed 0 (bCof tbId) [e0, e1, e2] = [mkNOC 0 e0 e1, mkNOC 0 e1 e2] := by
  decide +kernel
#guard (scanNO 0 tbId [e0, e1, e2] []).2 = [mkNOC 0 e0 e1, mkNOC 0 e1 e2]

/-! ### what is generated -/

/-- **Soundness of the generation.** Every generated StraightConstraint is between a segment of the scene (not parallel to the scan line, not attached to the node's centre) and a node of the scene, at a scan position that is the node's low or high side and lies within the segment's span (so the node's extent and the segment's span overlap in the scan direction); `nodeLeft` says on which side of the segment's line the node centre is at construction, `ri` is the node corner on that scan line facing the segment, `p`, `g` are the TriConstraint members of the C++. -/
theorem generated_sound (d : Nat) (bO bC : Node → Node → Bool) (nodes : List Node) (segs : List Seg)
    (x : Seg × SC) (hx : x ∈ consClosed d bO bC nodes segs) :
    x.1 ∈ segs ∧ x.2.node ∈ nodes ∧ x.1.parallel d = false ∧ x.1.connected x.2.node = false ∧
    (x.2.pos = x.2.node.r.lo (conj d) ∨ x.2.pos = x.2.node.r.hi (conj d)) ∧
    x.1.lo d ≤ x.2.pos ∧ x.2.pos ≤ x.1.hi d ∧
    (x.2.nodeLeft = true ↔ x.2.node.r.centre d < x.1.inter d x.2.pos) ∧
    x.2.ri = cornerFor d x.2.node x.2.pos x.2.nodeLeft ∧ x.2.ri < 4 ∧
    x.2.p = x.1.param d x.2.pos ∧
    x.2.g = straightG d x.1 x.2.node x.2.p x.2.nodeLeft ∧
    createStraight d x.1 x.2.node x.2.pos = some x.2 :=
  AdaptaVerif.Lemmas.TopoConsGen.generated_sound d bO bC nodes segs x hx

/-- **Completeness at NodeOpen events** (relative to visibility, the as-coded exceptions are the
    hypotheses `hvis`, `hcorner`). -/
theorem straight_complete_open (d : Nat) (bO : Node → Node → Bool) (nodes : List Node)
    (segs : List Seg) (n : Node) (sg : Seg) (hn : n ∈ nodes) (hsg : sg ∈ segs)
    (hspan : sg.lo d ≤ n.r.lo (conj d) ∧ n.r.lo (conj d) < sg.hi d)
    (hnc : sg.connected n = false)
    (hvis : ∀ m ∈ nodes, m.id ≠ n.id → m.r.lo (conj d) < n.r.lo (conj d) →
      n.r.lo (conj d) < m.r.hi (conj d) →
      ¬ ((sg.inter d (n.r.lo (conj d)) < m.r.centre d ∧ m.r.centre d < n.r.centre d) ∨
         (n.r.centre d < m.r.centre d ∧ m.r.centre d < sg.inter d (n.r.lo (conj d)))))
    (hcorner :
      ¬ (n.id = sg.s.node.id ∧
          cornerFor d n (n.r.lo (conj d)) (decide (n.r.centre d < sg.inter d (n.r.lo (conj d))))
            = sg.s.ri) ∧
      ¬ (n.id = sg.e.node.id ∧
          cornerFor d n (n.r.lo (conj d)) (decide (n.r.centre d < sg.inter d (n.r.lo (conj d))))
            = sg.e.ri)) :
    ∃ c, (sg, c) ∈ consAtOpen d bO nodes segs n ∧ c.node = n ∧ c.pos = n.r.lo (conj d) ∧
      (c.nodeLeft = true ↔ n.r.centre d < sg.inter d (n.r.lo (conj d))) := by
  have _ := hn  -- not needed at a single event: `n ∈ nodes` only places the event in `consClosed` (`straight_complete`)
  exact ⟨_, AdaptaVerif.Lemmas.TopoConsGen.mkSC_mem_consAtOpen hsg hspan hnc hvis hcorner, rfl, rfl,
    AdaptaVerif.Lemmas.TopoConsGen.mkSC_nodeLeft⟩

/-- **Completeness at NodeClose events.** -/
theorem straight_complete_close (d : Nat) (bC : Node → Node → Bool) (nodes : List Node)
    (segs : List Seg) (n : Node) (sg : Seg) (hn : n ∈ nodes) (hsg : sg ∈ segs)
    (hspan : sg.lo d < n.r.hi (conj d) ∧ n.r.hi (conj d) ≤ sg.hi d)
    (hnc : sg.connected n = false)
    (hvis : ∀ m ∈ nodes, m.id ≠ n.id → m.r.lo (conj d) < n.r.hi (conj d) →
      n.r.hi (conj d) < m.r.hi (conj d) →
      ¬ ((sg.inter d (n.r.hi (conj d)) < m.r.centre d ∧ m.r.centre d < n.r.centre d) ∨
         (n.r.centre d < m.r.centre d ∧ m.r.centre d < sg.inter d (n.r.hi (conj d)))))
    (hcorner :
      ¬ (n.id = sg.s.node.id ∧
          cornerFor d n (n.r.hi (conj d)) (decide (n.r.centre d < sg.inter d (n.r.hi (conj d))))
            = sg.s.ri) ∧
      ¬ (n.id = sg.e.node.id ∧
          cornerFor d n (n.r.hi (conj d)) (decide (n.r.centre d < sg.inter d (n.r.hi (conj d))))
            = sg.e.ri)) :
    ∃ c, (sg, c) ∈ consAtClose d bC nodes segs n ∧ c.node = n ∧ c.pos = n.r.hi (conj d) ∧
      (c.nodeLeft = true ↔ n.r.centre d < sg.inter d (n.r.hi (conj d))) := by
  have _ := hn  -- not needed at a single event: `n ∈ nodes` only places the event in `consClosed` (`straight_complete`)
  exact ⟨_, AdaptaVerif.Lemmas.TopoConsGen.mkSC_mem_consAtClose hsg hspan hnc hvis hcorner, rfl, rfl,
    AdaptaVerif.Lemmas.TopoConsGen.mkSC_nodeLeft⟩

/-- **Completeness relative to the property.** If the scan line along a side of node `n` meets the span of segment `sg` (`hpos`), `sg` is not attached to `n`'s centre, no other node whose extent strictly contains the scan line has its centre strictly between the segment and `n` (`hvis`: visible), and the facing corner is not already the segment's own end bend (`hcorner`), then the constraint (sg, n, pos) exists, on the side the node is on. Non-vacuity: `endnode_blind_spot_control`. -/
theorem straight_complete (d : Nat) (bO bC : Node → Node → Bool) (nodes : List Node)
    (segs : List Seg) (n : Node) (sg : Seg) (hn : n ∈ nodes) (hsg : sg ∈ segs)
    (hnc : sg.connected n = false) (pos : Rat)
    (hpos : (pos = n.r.lo (conj d) ∧ sg.lo d ≤ pos ∧ pos < sg.hi d) ∨
            (pos = n.r.hi (conj d) ∧ sg.lo d < pos ∧ pos ≤ sg.hi d))
    (hvis : ∀ m ∈ nodes, m.id ≠ n.id → m.r.lo (conj d) < pos → pos < m.r.hi (conj d) →
      ¬ ((sg.inter d pos < m.r.centre d ∧ m.r.centre d < n.r.centre d) ∨
         (n.r.centre d < m.r.centre d ∧ m.r.centre d < sg.inter d pos)))
    (hcorner :
      ¬ (n.id = sg.s.node.id ∧
          cornerFor d n pos (decide (n.r.centre d < sg.inter d pos)) = sg.s.ri) ∧
      ¬ (n.id = sg.e.node.id ∧
          cornerFor d n pos (decide (n.r.centre d < sg.inter d pos)) = sg.e.ri)) :
    ∃ c, (sg, c) ∈ consClosed d bO bC nodes segs ∧ c.node = n ∧ c.pos = pos ∧
      (c.nodeLeft = true ↔ n.r.centre d < sg.inter d pos) :=
  AdaptaVerif.Lemmas.TopoConsGen.straight_complete d bO bC nodes segs n sg hn hsg hnc pos hpos hvis hcorner

-- non-vacuity of `straight_complete` (the `_open` / `_close` forms have its hypotheses at one scan line each, and
-- `endnode_blind_spot_control` has both constraints): the theorem applied in the control scene to node 1 at its closing scan line 34
example : ∃ c, (wSg, c) ∈ consClosed 0 idLt idLt [w0, w1', w2] [wSg] ∧ c.node = w1' ∧ c.pos = 34 ∧
    (c.nodeLeft = true ↔ w1'.r.centre 0 < wSg.inter 0 34) :=
  straight_complete 0 idLt idLt [w0, w1', w2] [wSg] w1' wSg (by simp) (by simp) (by decide +kernel) 34
    (Or.inr (by decide +kernel))
    (by
      intro m hm
      simp only [List.mem_cons, List.not_mem_nil, or_false] at hm
      rcases hm with rfl | rfl | rfl <;> decide +kernel)
    (by decide +kernel)

/-- **As-coded exception 1 (finding C13-endnode-visibility).** If the scan-line neighbour `m` of `n` has its centre beyond the segment's crossing point and the scan line strictly inside its extent, NO constraint between `sg` and `n` is created at this event - whatever `m` is, in particular when `m` is the segment's own end node, inside which the segment runs and which hides nothing. -/
theorem endnode_blind_spot (d : Nat) (bO : Node → Node → Bool) (nodes : List Node) (segs : List Seg)
    (n m : Node) (sg : Seg)
    (hL : leftNb d n (openNodesAtOpen d bO n nodes) = some m)
    (hx : sg.inter d (n.r.lo (conj d)) < m.r.centre d)
    (hm : m.r.lo (conj d) < n.r.lo (conj d) ∧ n.r.lo (conj d) < m.r.hi (conj d)) :
    ∀ c, (sg, c) ∉ consAtOpen d bO nodes segs n :=
  AdaptaVerif.Lemmas.TopoConsGen.endnode_blind_spot d bO nodes segs n m sg hL hx hm

-- non-vacuity of `endnode_blind_spot` (NodeOpen / left neighbour): the witness scene mirrored in y; the segment is open
-- at the event and not attached to the node, so the conclusion is not empty for a trivial reason
example :
    let m0 : Node := ⟨0, ⟨0, 20, 0, 20⟩⟩
    let m1 : Node := ⟨1, ⟨22, 35, 2, 15⟩⟩
    let m2 : Node := ⟨2, ⟨-40, -20, -60, -40⟩⟩
    let sg : Seg := ⟨0, 0, ⟨m0, 4⟩, ⟨m2, 4⟩⟩
    leftNb 0 m1 (openNodesAtOpen 0 idLt m1 [m0, m1, m2]) = some m0 ∧
    sg.inter 0 (m1.r.lo (conj 0)) < m0.r.centre 0 ∧
    (m0.r.lo (conj 0) < m1.r.lo (conj 0) ∧ m1.r.lo (conj 0) < m0.r.hi (conj 0)) ∧
    sg ∈ openSegsAtOpen 0 (m1.r.lo (conj 0)) [sg] ∧ sg.connected m1 = false := by
  decide +kernel

theorem endnode_blind_spot_right (d : Nat) (bO : Node → Node → Bool) (nodes : List Node)
    (segs : List Seg) (n m : Node) (sg : Seg)
    (hR : rightNb d n (openNodesAtOpen d bO n nodes) = some m)
    (hx : m.r.centre d < sg.inter d (n.r.lo (conj d)))
    (hm : m.r.lo (conj d) < n.r.lo (conj d) ∧ n.r.lo (conj d) < m.r.hi (conj d)) :
    ∀ c, (sg, c) ∉ consAtOpen d bO nodes segs n :=
  open AdaptaVerif.Lemmas.TopoConsGen in
  not_mem_nodeEventCons_of_blocks
    (Or.inr (blocks_eq_true_iff.mpr ⟨m, hR, by simpa using hx, hm.1, hm.2⟩))

-- non-vacuity of `endnode_blind_spot_right` (NodeOpen / right neighbour): the same scene mirrored in x
example :
    let m0 : Node := ⟨0, ⟨-20, 0, 0, 20⟩⟩
    let m1 : Node := ⟨1, ⟨-35, -22, 2, 15⟩⟩
    let m2 : Node := ⟨2, ⟨20, 40, -60, -40⟩⟩
    let sg : Seg := ⟨0, 0, ⟨m0, 4⟩, ⟨m2, 4⟩⟩
    rightNb 0 m1 (openNodesAtOpen 0 idLt m1 [m0, m1, m2]) = some m0 ∧
    m0.r.centre 0 < sg.inter 0 (m1.r.lo (conj 0)) ∧
    (m0.r.lo (conj 0) < m1.r.lo (conj 0) ∧ m1.r.lo (conj 0) < m0.r.hi (conj 0)) ∧
    sg ∈ openSegsAtOpen 0 (m1.r.lo (conj 0)) [sg] ∧ sg.connected m1 = false ∧
    consAtOpen 0 idLt [m0, m1, m2] [sg] m1 = [] := by
  decide +kernel

theorem endnode_blind_spot_close (d : Nat) (bC : Node → Node → Bool) (nodes : List Node)
    (segs : List Seg) (n m : Node) (sg : Seg)
    (hL : leftNb d n (openNodesAtClose d bC n nodes) = some m)
    (hx : sg.inter d (n.r.hi (conj d)) < m.r.centre d)
    (hm : m.r.lo (conj d) < n.r.hi (conj d) ∧ n.r.hi (conj d) < m.r.hi (conj d)) :
    ∀ c, (sg, c) ∉ consAtClose d bC nodes segs n :=
  open AdaptaVerif.Lemmas.TopoConsGen in
  not_mem_nodeEventCons_of_blocks
    (Or.inl (blocks_eq_true_iff.mpr ⟨m, hL, by simpa using hx, hm.1, hm.2⟩))

-- non-vacuity of `endnode_blind_spot_close` (NodeClose / left neighbour): the witness scene itself
example :
    leftNb 0 w1 (openNodesAtClose 0 idLt w1 [w0, w1, w2]) = some w0 ∧
    wSg.inter 0 (w1.r.hi (conj 0)) < w0.r.centre 0 ∧
    (w0.r.lo (conj 0) < w1.r.hi (conj 0) ∧ w1.r.hi (conj 0) < w0.r.hi (conj 0)) ∧
    wSg ∈ openSegsAtClose 0 (w1.r.hi (conj 0)) [wSg] ∧ wSg.connected w1 = false := by
  decide +kernel

theorem endnode_blind_spot_close_right (d : Nat) (bC : Node → Node → Bool) (nodes : List Node)
    (segs : List Seg) (n m : Node) (sg : Seg)
    (hR : rightNb d n (openNodesAtClose d bC n nodes) = some m)
    (hx : m.r.centre d < sg.inter d (n.r.hi (conj d)))
    (hm : m.r.lo (conj d) < n.r.hi (conj d) ∧ n.r.hi (conj d) < m.r.hi (conj d)) :
    ∀ c, (sg, c) ∉ consAtClose d bC nodes segs n :=
  open AdaptaVerif.Lemmas.TopoConsGen in
  not_mem_nodeEventCons_of_blocks
    (Or.inr (blocks_eq_true_iff.mpr ⟨m, hR, by simpa using hx, hm.1, hm.2⟩))

-- non-vacuity of `endnode_blind_spot_close_right` (NodeClose / right neighbour): the witness scene mirrored in x
example :
    let m0 : Node := ⟨0, ⟨-20, 0, 0, 20⟩⟩
    let m1 : Node := ⟨1, ⟨-35, -22, 5, 18⟩⟩
    let m2 : Node := ⟨2, ⟨20, 40, 40, 60⟩⟩
    let sg : Seg := ⟨0, 0, ⟨m0, 4⟩, ⟨m2, 4⟩⟩
    rightNb 0 m1 (openNodesAtClose 0 idLt m1 [m0, m1, m2]) = some m0 ∧
    m0.r.centre 0 < sg.inter 0 (m1.r.hi (conj 0)) ∧
    (m0.r.lo (conj 0) < m1.r.hi (conj 0) ∧ m1.r.hi (conj 0) < m0.r.hi (conj 0)) ∧
    sg ∈ openSegsAtClose 0 (m1.r.hi (conj 0)) [sg] ∧ sg.connected m1 = false ∧
    consAtClose 0 idLt [m0, m1, m2] [sg] m1 = [] := by
  decide +kernel

/-- Closed witness (the scene of harness case `witness-endnode-visibility`, nodes [0,20]², [22,35]x[5,18], [-40,-20]x[40,60], edge 0→2, XDIM): node 1 and the segment satisfy every hypothesis of `straight_complete` at node 1's closing scan line except that the segment's own start node 0 lies between - and the constructor creates no constraint at all, for every tie order. -/
theorem endnode_blind_spot_witness (bO bC : Node → Node → Bool) :
    -- node 1 faces the segment at its closing scan line 18 ...
    (wSg.lo 0 < w1.r.hi (conj 0) ∧ w1.r.hi (conj 0) ≤ wSg.hi 0) ∧
    wSg.connected w1 = false ∧
    (¬ (w1.id = wSg.s.node.id ∧
        cornerFor 0 w1 (w1.r.hi (conj 0)) (decide (w1.r.centre 0 < wSg.inter 0 (w1.r.hi (conj 0)))) = wSg.s.ri) ∧
     ¬ (w1.id = wSg.e.node.id ∧
        cornerFor 0 w1 (w1.r.hi (conj 0)) (decide (w1.r.centre 0 < wSg.inter 0 (w1.r.hi (conj 0)))) = wSg.e.ri)) ∧
    -- ... the only node between them on that scan line is the segment's own start node ...
    (∀ m ∈ [w0, w1, w2], m ≠ wSg.s.node → m.id ≠ w1.id → m.r.lo (conj 0) < w1.r.hi (conj 0) →
      w1.r.hi (conj 0) < m.r.hi (conj 0) →
      ¬ ((wSg.inter 0 (w1.r.hi (conj 0)) < m.r.centre 0 ∧ m.r.centre 0 < w1.r.centre 0) ∨
         (w1.r.centre 0 < m.r.centre 0 ∧ m.r.centre 0 < wSg.inter 0 (w1.r.hi (conj 0))))) ∧
    wSg.s = ⟨w0, 4⟩ ∧
    -- ... at the opening scan line 5 the segment is not yet open
    ¬ (wSg.lo 0 ≤ w1.r.lo (conj 0)) ∧
    -- yet no constraint at all is generated
    consClosed 0 bO bC [w0, w1, w2] [wSg] = [] := by
  open AdaptaVerif.Lemmas.TopoConsGen in
  refine ⟨by decide +kernel, by decide +kernel, by decide +kernel, ?_, rfl, by decide +kernel, ?_⟩
  · intro m hm hne
    simp only [List.mem_cons, List.not_mem_nil, or_false] at hm
    rcases hm with rfl | rfl | rfl
    · exact absurd rfl hne
    · intro h; exact absurd rfl h
    · intro _ h; exact absurd h (by decide +kernel)
  · exact w_consClosed bO bC

/-- Control (harness case `control-shared-scanline`): with node 1 moved off node 0's scan lines both constraints exist. -/
theorem endnode_blind_spot_control (bO bC : Node → Node → Bool) :
    (∃ c, (wSg, c) ∈ consClosed 0 bO bC [w0, w1', w2] [wSg] ∧ c.node = w1' ∧ c.pos = 21 ∧
      c.nodeLeft = false) ∧
    (∃ c, (wSg, c) ∈ consClosed 0 bO bC [w0, w1', w2] [wSg] ∧ c.node = w1' ∧ c.pos = 34 ∧
      c.nodeLeft = false) ∧
    (∃ x ∈ consClosed 0 bO bC [w0, w1', w2] [wSg], x.2.node.id = 1) := by
  obtain ⟨hO, hC⟩ := AdaptaVerif.Lemmas.TopoConsGen.wctl_mem bO bC
  exact ⟨⟨_, hO, rfl, by decide +kernel, by decide +kernel⟩, ⟨_, hC, rfl, by decide +kernel, by decide +kernel⟩,
    ⟨_, hO, rfl⟩⟩

/-- **As-coded exception 2 (finding C13-parallel-segment-bend).** A segment parallel to the scan line gets no StraightConstraint at all. -/
theorem parallel_segment_no_constraint (d : Nat) (bO bC : Node → Node → Bool) (nodes : List Node)
    (segs : List Seg) (sg : Seg) (hp : sg.parallel d = true) :
    ∀ x ∈ consClosed d bO bC nodes segs, x.1 ≠ sg := by
  intro x hx heq
  have := (generated_sound d bO bC nodes segs x hx).2.2.1
  rw [heq, hp] at this
  cases this

/-- Closed witness: a horizontal segment from (10,10) to (40,10), node [20,30]x[12,22] two units above it, XDIM: nothing is generated. -/
theorem parallel_segment_witness (bO bC : Node → Node → Bool) :
    consClosed 0 bO bC [pA, pB, pC] [pSg] = [] ∧
    pSg.s.pos 0 = 10 ∧ pSg.e.pos 0 = 40 ∧ pSg.s.pos 1 = 10 ∧ pSg.e.pos 1 = 10 ∧
    pSg.connected pC = false ∧ pC.r.lo 0 = 20 ∧ pC.r.hi 0 = 30 ∧ pC.r.lo 1 = 12 := by
  open AdaptaVerif.Lemmas.TopoConsGen in
  refine ⟨?_, by decide +kernel, by decide +kernel, by decide +kernel, by decide +kernel,
    by decide +kernel, by decide +kernel, by decide +kernel, by decide +kernel⟩
  exact consClosed_nil_of_all_parallel 0 bO bC _ _
    fun sg hsg => List.mem_singleton.mp hsg ▸ pSg_parallel

/-! ### what the constraints mean, and the step-level safety theorem -/

/-- The slack of the TriConstraint of a StraightConstraint, at ANY node positions `x`, is the signed distance on the scan line between the moved segment's line and the facing side of the moved node. -/
theorem slack_is_gap (d : Nat) (sg : Seg) (n : Node) (pos : Rat) (c : SC)
    (h : createStraight d sg n pos = some c) (x : Pos) :
    (triOf sg c).slackAt x = gap d (sg.movedTo d x) (n.movedTo d x) pos c.nodeLeft :=
  AdaptaVerif.Lemmas.TopoConsGen.slack_is_gap d sg n pos c h x

/-- **Generation composed with `solve_move_safe`.** If all constraints (the generated straight ones and any others, e.g. the bend constraints) are feasible, then after the move phase of `solve()` every generated (segment, node, scan line) still has the node's facing side on its side of the segment's line. -/
theorem solve_step_keeps_generated_sides (d : Nat) (bO bC : Node → Node → Bool) (nodes : List Node)
    (segs : List Seg) (extra : List AdaptaVerif.Model.Tri.TriConstraint)
    (ini fin : AdaptaVerif.Model.Tri.Pos)
    (hini : AdaptaVerif.Spec.Tri.Feasible
      ((consClosed d bO bC nodes segs).map (fun x => triOf x.1 x.2) ++ extra) ini) :
    ∀ x ∈ consClosed d bO bC nodes segs,
      0 ≤ gap d
        (x.1.movedTo d (AdaptaVerif.Model.Tri.moveStep
          ((consClosed d bO bC nodes segs).map (fun x => triOf x.1 x.2) ++ extra) ini fin))
        (x.2.node.movedTo d (AdaptaVerif.Model.Tri.moveStep
          ((consClosed d bO bC nodes segs).map (fun x => triOf x.1 x.2) ++ extra) ini fin))
        x.2.pos x.2.nodeLeft :=
  fun _ hx => AdaptaVerif.Lemmas.TopoConsGen.gap_nonneg_of_feasible
    (AdaptaVerif.Lemmas.TopoConsGen.triOf_mem_system d bO bC nodes segs extra)
    (AdaptaVerif.Lemmas.Tri.moveStep_feasible _ ini fin hini) hx

/-- The gap is affine along the node's side: non-negative on both of the node's scan lines ⇒ non-negative on every scan line in between. -/
theorem node_stays_off_segment (d : Nat) (sg : Seg) (n : Node) (b : Bool) (x : Pos)
    (hlo : 0 ≤ gap d (sg.movedTo d x) (n.movedTo d x) (n.r.lo (conj d)) b)
    (hhi : 0 ≤ gap d (sg.movedTo d x) (n.movedTo d x) (n.r.hi (conj d)) b) :
    ∀ q, (n.movedTo d x).r.lo (conj d) ≤ q → q ≤ (n.movedTo d x).r.hi (conj d) →
      0 ≤ gap d (sg.movedTo d x) (n.movedTo d x) q b :=
  AdaptaVerif.Lemmas.TopoConsGen.node_stays_off_segment d sg n b x hlo hhi

/-- **Step-level safety.** A node that has StraightConstraints with a segment on both of its scan lines (same side) is, after the move phase of `solve()`, still wholly on that side of the segment's line: the move takes no node across a segment. (Non-vacuity: the examples at the end of Lemmas/TopoConsGen - control scene, node 2 dragged to x = 100, the step is cut at α = 6/13.) -/
theorem solve_step_node_stays_off_segment (d : Nat) (bO bC : Node → Node → Bool)
    (nodes : List Node) (segs : List Seg) (extra : List AdaptaVerif.Model.Tri.TriConstraint)
    (ini fin : AdaptaVerif.Model.Tri.Pos)
    (hini : AdaptaVerif.Spec.Tri.Feasible
      ((consClosed d bO bC nodes segs).map (fun x => triOf x.1 x.2) ++ extra) ini)
    (n : Node) (sg : Seg) (c1 c2 : SC) (b : Bool)
    (h1 : (sg, c1) ∈ consClosed d bO bC nodes segs) (h2 : (sg, c2) ∈ consClosed d bO bC nodes segs)
    (hn1 : c1.node = n) (hn2 : c2.node = n)
    (hp1 : c1.pos = n.r.lo (conj d)) (hp2 : c2.pos = n.r.hi (conj d))
    (hb1 : c1.nodeLeft = b) (hb2 : c2.nodeLeft = b) :
    let x' := AdaptaVerif.Model.Tri.moveStep
      ((consClosed d bO bC nodes segs).map (fun x => triOf x.1 x.2) ++ extra) ini fin
    ∀ q, (n.movedTo d x').r.lo (conj d) ≤ q → q ≤ (n.movedTo d x').r.hi (conj d) →
      0 ≤ gap d (sg.movedTo d x') (n.movedTo d x') q b :=
  AdaptaVerif.Lemmas.TopoConsGen.node_off_segment_of_feasible
    (AdaptaVerif.Lemmas.TopoConsGen.triOf_mem_system d bO bC nodes segs extra)
    (AdaptaVerif.Lemmas.Tri.moveStep_feasible _ ini fin hini) h1 h2 hn1 hn2 hp1 hp2 hb1 hb2

/-- **Generation + move, end to end.** If a segment's span covers a node's extent across the scan direction, the node is visible from the segment on both of its scan lines (no other node strictly straddling the scan line has its centre between them), the facing corners are not the segment's own end bends and the node centre is on the same side `b` on both scan lines, then - for every order of equal events, any further constraints `extra` and any solver result `fin` - after the move phase of `solve()` the whole facing side of the node is still on side `b` of the segment's line. (Non-vacuity: the example after the theorem in namespace `Lemmas.TopoConsStep` of Lemmas/TopoConsGen.lean, the harness's control scene.) -/
theorem solve_step_visible_pair_safe (d : Nat) (bO bC : Node → Node → Bool)
    (nodes : List Node) (segs : List Seg) (extra : List AdaptaVerif.Model.Tri.TriConstraint)
    (ini fin : AdaptaVerif.Model.Tri.Pos)
    (hini : AdaptaVerif.Spec.Tri.Feasible
      ((consClosed d bO bC nodes segs).map (fun x => triOf x.1 x.2) ++ extra) ini)
    (n : Node) (sg : Seg) (hn : n ∈ nodes) (hsg : sg ∈ segs) (hnc : sg.connected n = false)
    -- the segment's span covers the node's extent across the scan direction
    (hspanLo : sg.lo d ≤ n.r.lo (conj d) ∧ n.r.lo (conj d) < sg.hi d)
    (hspanHi : sg.lo d < n.r.hi (conj d) ∧ n.r.hi (conj d) ≤ sg.hi d)
    -- visible on both scan lines of the node
    (hvisLo : ∀ m ∈ nodes, m.id ≠ n.id → m.r.lo (conj d) < n.r.lo (conj d) → n.r.lo (conj d) < m.r.hi (conj d) →
      ¬ ((sg.inter d (n.r.lo (conj d)) < m.r.centre d ∧ m.r.centre d < n.r.centre d) ∨
         (n.r.centre d < m.r.centre d ∧ m.r.centre d < sg.inter d (n.r.lo (conj d)))))
    (hvisHi : ∀ m ∈ nodes, m.id ≠ n.id → m.r.lo (conj d) < n.r.hi (conj d) → n.r.hi (conj d) < m.r.hi (conj d) →
      ¬ ((sg.inter d (n.r.hi (conj d)) < m.r.centre d ∧ m.r.centre d < n.r.centre d) ∨
         (n.r.centre d < m.r.centre d ∧ m.r.centre d < sg.inter d (n.r.hi (conj d)))))
    -- the facing corners are not the segment's own end bends
    (hcornerLo :
      ¬ (n.id = sg.s.node.id ∧
          cornerFor d n (n.r.lo (conj d)) (decide (n.r.centre d < sg.inter d (n.r.lo (conj d)))) = sg.s.ri) ∧
      ¬ (n.id = sg.e.node.id ∧
          cornerFor d n (n.r.lo (conj d)) (decide (n.r.centre d < sg.inter d (n.r.lo (conj d)))) = sg.e.ri))
    (hcornerHi :
      ¬ (n.id = sg.s.node.id ∧
          cornerFor d n (n.r.hi (conj d)) (decide (n.r.centre d < sg.inter d (n.r.hi (conj d)))) = sg.s.ri) ∧
      ¬ (n.id = sg.e.node.id ∧
          cornerFor d n (n.r.hi (conj d)) (decide (n.r.centre d < sg.inter d (n.r.hi (conj d)))) = sg.e.ri))
    -- the node centre is on the same side `b` of the segment's line on both scan lines
    (b : Bool) (hbLo : b = decide (n.r.centre d < sg.inter d (n.r.lo (conj d))))
    (hbHi : b = decide (n.r.centre d < sg.inter d (n.r.hi (conj d)))) :
    let x' := AdaptaVerif.Model.Tri.moveStep
      ((consClosed d bO bC nodes segs).map (fun x => triOf x.1 x.2) ++ extra) ini fin
    ∀ q, (n.movedTo d x').r.lo (conj d) ≤ q → q ≤ (n.movedTo d x').r.hi (conj d) →
      0 ≤ gap d (sg.movedTo d x') (n.movedTo d x') q b :=
  AdaptaVerif.Lemmas.TopoConsStep.solve_step_visible_pair_safe d bO bC nodes segs extra ini fin hini n sg hn hsg hnc hspanLo hspanHi hvisLo hvisHi hcornerLo hcornerHi b hbLo hbHi

-- non-vacuity of `solve_step_visible_pair_safe` (its hypotheses contain those of `solve_step_keeps_generated_sides`,
-- and it rests on the same lemmas as `solve_step_node_stays_off_segment` / `node_stays_off_segment`): the theorem applied to the
-- control scene, node 2 dragged to x = 100 (the step is cut at α = 6/13), node 1 stays right (b = false) of the edge
example :
    let x' := moveStep ((consClosed 0 idLt idLt [w0, w1', w2] [wSg]).map (fun x => triOf x.1 x.2) ++ []) ctlIni ctlFin
    ∀ q, (w1'.movedTo 0 x').r.lo (conj 0) ≤ q → q ≤ (w1'.movedTo 0 x').r.hi (conj 0) →
      0 ≤ gap 0 (wSg.movedTo 0 x') (w1'.movedTo 0 x') q false :=
  solve_step_visible_pair_safe 0 idLt idLt [w0, w1', w2] [wSg] [] ctlIni ctlFin
    (by unfold Feasible; decide +kernel) w1' wSg (by simp) (by simp) (by decide +kernel)
    (by decide +kernel) (by decide +kernel)
    (by
      intro m hm
      simp only [List.mem_cons, List.not_mem_nil, or_false] at hm
      rcases hm with rfl | rfl | rfl <;> decide +kernel)
    (by
      intro m hm
      simp only [List.mem_cons, List.not_mem_nil, or_false] at hm
      rcases hm with rfl | rfl | rfl <;> decide +kernel)
    (by decide +kernel) (by decide +kernel) false (by decide +kernel) (by decide +kernel)

/-! ### bend constraints -/

/-- Every interior EdgePoint whose two incident segments are not both parallel to the scan line has its BendConstraint (`createBend_none_iff` says when `createBend` gives none). -/
theorem bend_complete (d : Nat) (pts : List EPt) (i : Nat) (u v w : EPt) (b : BC)
    (hu : pts[i]? = some u) (hv : pts[i + 1]? = some v) (hw : pts[i + 2]? = some w)
    (hb : createBend d (i + 1) u v w = some b) : b ∈ bendCons d pts :=
  AdaptaVerif.Lemmas.TopoConsBend.bend_complete d pts i u v w b hu hv hw hb

/-- ... and every BendConstraint of a path is the one `createBend` makes for an interior point. -/
theorem bend_sound (d : Nat) (pts : List EPt) (b : BC) (hb : b ∈ bendCons d pts) :
    ∃ i u v w, pts[i]? = some u ∧ pts[i + 1]? = some v ∧ pts[i + 2]? = some w ∧
      createBend d (i + 1) u v w = some b ∧ b.idx = i + 1 := by
  open AdaptaVerif.Lemmas.TopoConsBend in
  obtain ⟨i, u, v, w, hu, hv, hw, h⟩ := mem_bendCons.mp hb
  exact ⟨i, u, v, w, hu, hv, hw, h, createBend_idx h⟩

/-- No BendConstraint exactly when both incident segments are parallel to the scan line (`EdgePoint::createBendConstraint`). -/
theorem createBend_none_iff (d idx : Nat) (u v w : EPt) :
    createBend d idx u v w = none ↔
      (v.pos (conj d) = u.pos (conj d) ∧ w.pos (conj d) = v.pos (conj d)) :=
  AdaptaVerif.Lemmas.TopoConsBend.createBend_none_iff d idx u v w

/-- The slack of a BendConstraint at ANY node positions is the offset, in the scan axis, of the far end point from the extension of the reference segment to that point's scan line. -/
theorem bend_slack_is_offset (d idx : Nat) (u v w : EPt) (b : BC)
    (h : createBend d idx u v w = some b) (x : Pos) :
    AdaptaVerif.Model.Tri.slack b.p b.g b.leftOf (x b.u) (x b.v) (x b.w) =
      if b.rev = false then
        offLine d b.p b.leftOf (u.movedTo d x) (v.movedTo d x) (w.movedTo d x)
      else
        offLine d b.p b.leftOf (w.movedTo d x) (v.movedTo d x) (u.movedTo d x) := by
  rcases AdaptaVerif.Lemmas.TopoConsBend.createBend_isBendOf h with ⟨hr, hb⟩ | ⟨hr, hb⟩
  · rw [if_pos hr]; exact hb.slack x
  · rw [if_neg (by rw [hr]; decide)]; exact hb.slack x

/-- ... so it is zero exactly when the three points are collinear (the bend has become straight). -/
theorem bend_slack_zero_iff_collinear (d idx : Nat) (u v w : EPt) (b : BC)
    (h : createBend d idx u v w = some b) (hr : b.rev = false) (x : Pos) :
    AdaptaVerif.Model.Tri.slack b.p b.g b.leftOf (x b.u) (x b.v) (x b.w) = 0 ↔
      ((v.movedTo d x).pos d - (u.movedTo d x).pos d) *
          ((w.movedTo d x).pos (conj d) - (u.movedTo d x).pos (conj d)) -
        ((w.movedTo d x).pos d - (u.movedTo d x).pos d) *
          ((v.movedTo d x).pos (conj d) - (u.movedTo d x).pos (conj d)) = 0 := by
  rcases AdaptaVerif.Lemmas.TopoConsBend.createBend_isBendOf h with ⟨_, hb⟩ | ⟨hr', _⟩
  · exact hb.slack_zero_iff x
  · rw [hr] at hr'; cases hr'

-- joint non-vacuity of the hypotheses of `bend_complete`, `bend_sound`, `bend_slack_is_offset`,
-- `bend_slack_zero_iff_collinear`: a path centre(n0) -> TR corner of n1 -> centre(n2) whose in-segment is the longer one in
-- the scan direction (`rev = false`); its only BendConstraint is the one `createBend` makes at index 1
example :
    let n0 : Node := ⟨0, ⟨0, 10, 0, 10⟩⟩
    let n1 : Node := ⟨1, ⟨20, 30, 40, 50⟩⟩
    let n2 : Node := ⟨2, ⟨50, 60, 20, 30⟩⟩
    let pts : List EPt := [⟨n0, 4⟩, ⟨n1, 0⟩, ⟨n2, 4⟩]
    let b : BC := { idx := 1, leftOf := true, rev := false, u := 0, v := 1, w := 2, p := 4 / 9, g := 20 / 9 }
    pts[0]? = some ⟨n0, 4⟩ ∧ pts[0 + 1]? = some ⟨n1, 0⟩ ∧ pts[0 + 2]? = some ⟨n2, 4⟩ ∧
    createBend 0 (0 + 1) ⟨n0, 4⟩ ⟨n1, 0⟩ ⟨n2, 4⟩ = some b ∧ b.rev = false ∧ bendCons 0 pts = [b] := by
  decide +kernel

/-! ### the two rewrites -/

/-- `BendConstraint::satisfy` removes the point at index `i`, an interior point. -/
theorem bendSatisfy_pts {d : Nat} {st st' : EdgeSt} {i : Nat} (h : bendSatisfy d st i = some st') :
    0 < i ∧ i + 1 < st.pts.length ∧ st'.pts = st.pts.eraseIdx i ∧ st'.id = st.id := by
  open AdaptaVerif.Lemmas.TopoConsRewrite in
  obtain ⟨hi, u, v, w, hu, hv, hw⟩ := bendSatisfy_lookups h
  obtain rfl := bendSatisfy_eq h hu hv hw
  exact ⟨hi, (List.getElem?_eq_some_iff.mp hw).1, rfl, rfl⟩

/-- ... and removes exactly the straightened bend: every other point stays pinned to the same (node, corner). -/
theorem bendSatisfy_removes_exactly {d : Nat} {st st' : EdgeSt} {i : Nat}
    (h : bendSatisfy d st i = some st') :
    st'.pts.length + 1 = st.pts.length ∧
      ∀ k, st'.pts[k]? = if k < i then st.pts[k]? else st.pts[k + 1]? := by
  obtain ⟨hi, hlen, hp, _⟩ := bendSatisfy_pts h
  rw [hp]
  constructor
  · rw [List.length_eraseIdx]; split <;> omega
  · intro k
    rw [List.getElem?_eraseIdx]

/-- ... keeps both end points of the path, -/
theorem bendSatisfy_ends {d : Nat} {st st' : EdgeSt} {i : Nat} (h : bendSatisfy d st i = some st') :
    st'.pts.head? = st.pts.head? ∧ st'.pts.getLast? = st.pts.getLast? := by
  obtain ⟨hi, hlen, hp, _⟩ := bendSatisfy_pts h
  rw [hp]
  exact AdaptaVerif.Lemmas.TopoConsRewrite.ends_eraseIdx hi hlen

/-- Constraint bookkeeping of the merge: other segments untouched; every constraint of the merged segment is `createStraight` on the merged segment (hence sound as in `generated_sound`); the node the bend turned around gets its StraightConstraint at the bend's scan position; nothing transferable is lost; one list per segment. -/
theorem bendSatisfy_scs {d : Nat} {st st' : EdgeSt} {i : Nat} {u v w : EPt}
    (h : bendSatisfy d st i = some st')
    (hu : st.pts[i - 1]? = some u) (hv : st.pts[i]? = some v) (hw : st.pts[i + 1]? = some w) :
    (i - 1 ≤ st.scs.length → st'.scs.take (i - 1) = st.scs.take (i - 1)) ∧
    st'.scs.drop i = st.scs.drop (i + 1) ∧
    (∀ c ∈ st'.scs.getD (i - 1) [], createStraight d ⟨st.id, i - 1, u, w⟩ c.node c.pos = some c) ∧
    (i - 1 ≤ st.scs.length →
      ∀ c, createStraight d ⟨st.id, i - 1, u, w⟩ v.node (v.pos (conj d)) = some c →
        c ∈ st'.scs.getD (i - 1) []) ∧
    (i - 1 ≤ st.scs.length →
      ∀ c ∈ st.scs.getD (i - 1) [] ++ st.scs.getD i [], ∀ c',
        transfer d ⟨st.id, i - 1, u, w⟩ c = some c' → c' ∈ st'.scs.getD (i - 1) []) ∧
    (st.scs.length + 1 = st.pts.length → st'.scs.length + 1 = st'.pts.length) := by
  open AdaptaVerif.Lemmas.TopoConsRewrite in
  obtain ⟨hi, hlen, _⟩ := bendSatisfy_pts h
  obtain rfl := bendSatisfy_eq h hu hv hw
  obtain ⟨n, rfl⟩ : ∃ n, i = n + 1 := ⟨i - 1, by omega⟩
  simp only [Nat.add_sub_cancel]
  refine ⟨fun hwf => splice_take _ _ _ _ hwf, splice_drop_succ _ _ _, fun c hc => ?_,
    fun hwf c hc => ?_, fun hwf c hc c' hc' => ?_, fun hwf => ?_⟩
  · rcases List.mem_append.mp (splice_getD_mem _ _ _ hc) with h1 | h1
    · exact created_of_mem_filterMap_transfer h1
    · exact createStraight_self (Option.mem_toList.mp h1)
  · rw [splice_getD _ _ _ _ _ hwf]
    exact List.mem_append_right _ (Option.mem_toList.mpr hc)
  · rw [splice_getD _ _ _ _ _ hwf]
    exact List.mem_append_left _ (List.mem_filterMap.mpr ⟨c, hc, hc'⟩)
  · simp only [List.length_append, List.length_take, List.length_drop, List.length_cons,
      List.length_nil, List.length_eraseIdx]
    rw [if_pos (by omega)]
    omega

/-- `StraightConstraint::satisfy` inserts the constraint's (node, corner) between the ends of segment `j`. -/
theorem straightSatisfy_pts {d : Nat} {st st' : EdgeSt} {j k : Nat}
    (h : straightSatisfy d st j k = some st') :
    j + 1 < st.pts.length ∧ ∃ c, (st.scs.getD j [])[k]? = some c ∧
      st'.pts = st.pts.take (j + 1) ++ [⟨c.node, c.ri⟩] ++ st.pts.drop (j + 1) ∧ st'.id = st.id :=
  AdaptaVerif.Lemmas.TopoConsRewrite.straightSatisfy_pts h

theorem straightSatisfy_ends {d : Nat} {st st' : EdgeSt} {j k : Nat}
    (h : straightSatisfy d st j k = some st') :
    st'.pts.head? = st.pts.head? ∧ st'.pts.getLast? = st.pts.getLast? := by
  open AdaptaVerif.Lemmas.TopoConsRewrite in
  obtain ⟨hlen, c, hc, _⟩ := straightSatisfy_pts h
  rw [straightSatisfy_insertIdx h hc]
  exact ends_insertIdx _ (by omega) hlen

theorem straightSatisfy_keeps_points {d : Nat} {st st' : EdgeSt} {j k : Nat}
    (h : straightSatisfy d st j k = some st') :
    st'.pts.eraseIdx (j + 1) = st.pts ∧ st'.pts.length = st.pts.length + 1 := by
  open AdaptaVerif.Lemmas.TopoConsRewrite in
  obtain ⟨hlen, c, hc, _⟩ := straightSatisfy_pts h
  rw [straightSatisfy_insertIdx h hc]
  exact ⟨List.eraseIdx_insertIdx_self _, List.length_insertIdx_of_le_length (by omega) _⟩

/-- The inserted bend is a corner (never CENTRE) of the constraint's node: the corner on the constraint's scan line on the side facing the segment. -/
theorem straightSatisfy_bend_at_corner {d : Nat} {st st' : EdgeSt} {j k : Nat}
    (h : straightSatisfy d st j k = some st') :
    ∃ a b c, st.pts[j]? = some a ∧ st.pts[j + 1]? = some b ∧ (st.scs.getD j [])[k]? = some c ∧
      st'.pts[j]? = some a ∧ st'.pts[j + 1]? = some ⟨c.node, c.ri⟩ ∧ st'.pts[j + 2]? = some b ∧
      (createStraight d ⟨st.id, j, a, b⟩ c.node c.pos = some c →
        c.ri < 4 ∧
        (⟨c.node, c.ri⟩ : EPt).pos d = (if c.nodeLeft then c.node.r.hi d else c.node.r.lo d) ∧
        ((c.pos = c.node.r.lo (conj d) ∨ c.pos = c.node.r.hi (conj d)) →
          c.node.r.lo (conj d) < c.node.r.hi (conj d) →
          (⟨c.node, c.ri⟩ : EPt).pos (conj d) = c.pos)) := by
  open AdaptaVerif.Lemmas.TopoConsRewrite in
  obtain ⟨a, b, c, ha, hb, hc⟩ := straightSatisfy_lookups h
  have hlen : j + 1 < st.pts.length := (List.getElem?_eq_some_iff.mp hb).1
  have hp := straightSatisfy_insertIdx h hc
  refine ⟨a, b, c, ha, hb, hc, ?_, ?_, ?_, created_bend_at_corner⟩
  · rw [hp, List.getElem?_insertIdx_of_lt (by omega)]; exact ha
  · rw [hp, List.getElem?_insertIdx_self, if_pos (by omega)]
  · rw [hp, List.getElem?_insertIdx_of_gt (by omega)]; exact hb

/-- When the constraint is tight (gap 0), the new bend lies on the old segment. -/
theorem straightSatisfy_bend_on_segment {d : Nat} {st st' : EdgeSt} {j k : Nat} {a b : EPt} {c : SC}
    (_h : straightSatisfy d st j k = some st')
    (_ha : st.pts[j]? = some a) (_hb : st.pts[j + 1]? = some b) (_hc : (st.scs.getD j [])[k]? = some c)
    (hcr : createStraight d ⟨st.id, j, a, b⟩ c.node c.pos = some c)
    (htight : gap d ⟨st.id, j, a, b⟩ c.node c.pos c.nodeLeft = 0) :
    (⟨c.node, c.ri⟩ : EPt).pos d = (⟨st.id, j, a, b⟩ : Seg).inter d c.pos :=
  AdaptaVerif.Lemmas.TopoConsRewrite.created_bend_on_segment hcr htight

/-- Constraint bookkeeping of the split: other segments untouched; the constraints of the halves are `createStraight` on the halves; every other constraint of the split segment is offered to exactly the half `destIsLeft` (Model/TopoTransfer, regenerated from the C++) chooses, the satisfied one to none. -/
theorem straightSatisfy_scs {d : Nat} {st st' : EdgeSt} {j k : Nat} {a b : EPt} {c : SC}
    (h : straightSatisfy d st j k = some st')
    (ha : st.pts[j]? = some a) (hb : st.pts[j + 1]? = some b) (hc : (st.scs.getD j [])[k]? = some c) :
    st'.scs.take j = st.scs.take j ∧
    st'.scs.drop (j + 2) = st.scs.drop (j + 1) ∧
    (∀ c' ∈ st'.scs.getD j [],
      createStraight d ⟨st.id, j, a, ⟨c.node, c.ri⟩⟩ c'.node c'.pos = some c') ∧
    (∀ c' ∈ st'.scs.getD (j + 1) [],
      createStraight d ⟨st.id, j + 1, ⟨c.node, c.ri⟩, b⟩ c'.node c'.pos = some c') ∧
    (∀ c'', c'' ∈ st'.scs.getD j [] ↔
      ∃ k' c', k' ≠ k ∧ (st.scs.getD j [])[k']? = some c' ∧
        toFirstHalf d ⟨st.id, j, a, ⟨c.node, c.ri⟩⟩ ⟨st.id, j + 1, ⟨c.node, c.ri⟩, b⟩ c' = true ∧
        transfer d ⟨st.id, j, a, ⟨c.node, c.ri⟩⟩ c' = some c'') ∧
    (∀ c'', c'' ∈ st'.scs.getD (j + 1) [] ↔
      ∃ k' c', k' ≠ k ∧ (st.scs.getD j [])[k']? = some c' ∧
        toFirstHalf d ⟨st.id, j, a, ⟨c.node, c.ri⟩⟩ ⟨st.id, j + 1, ⟨c.node, c.ri⟩, b⟩ c' = false ∧
        transfer d ⟨st.id, j + 1, ⟨c.node, c.ri⟩, b⟩ c' = some c'') ∧
    (st.scs.length + 1 = st.pts.length → st'.scs.length + 1 = st'.pts.length) := by
  open AdaptaVerif.Lemmas.TopoConsRewrite in
  have hj : j < st.scs.length := lt_length_of_getD hc
  obtain ⟨_, hlen'⟩ := straightSatisfy_keeps_points h
  obtain rfl := straightSatisfy_eq h ha hb hc
  dsimp only at hlen' ⊢
  refine ⟨splice_take _ _ _ _ (by omega), splice_drop _ _ _ _ _ (by omega) rfl, fun c' hc' => ?_,
    fun c' hc' => ?_, fun c'' => ?_, fun c'' => ?_, fun hwf => ?_⟩
  · rw [splice_getD _ _ _ _ _ (by omega)] at hc'
    exact created_of_mem_filterMap_transfer hc'
  · rw [splice_getD_succ _ _ _ _ _ _ (by omega)] at hc'
    exact created_of_mem_filterMap_transfer hc'
  · rw [splice_getD _ _ _ _ _ (by omega)]
    exact mem_others_filterMap _ _ c''
  · rw [splice_getD_succ _ _ _ _ _ _ (by omega), mem_others_filterMap]
    simp only [Bool.not_eq_true']
  · rw [hlen']
    simp only [List.length_append, List.length_take, List.length_drop, List.length_cons,
      List.length_nil]
    omega

/-- Inserting or deleting a vertex that lies ON a leg replaces one crossing of any scan line by exactly one crossing at the same place. -/
theorem split_preserves_crossings (as ac bs bc t c : Rat) (h0 : 0 ≤ t) (h1 : t ≤ 1) (hne : ac ≠ bc) :
    (crossesLine ac bc c = true ↔
      (crossesLine ac (ac + t * (bc - ac)) c = true ∨ crossesLine (ac + t * (bc - ac)) bc c = true)) ∧
    ¬ (crossesLine ac (ac + t * (bc - ac)) c = true ∧ crossesLine (ac + t * (bc - ac)) bc c = true) ∧
    (crossesLine ac (ac + t * (bc - ac)) c = true →
      crossingAt as ac (as + t * (bs - as)) (ac + t * (bc - ac)) c = crossingAt as ac bs bc c) ∧
    (crossesLine (ac + t * (bc - ac)) bc c = true →
      crossingAt (as + t * (bs - as)) (ac + t * (bc - ac)) bs bc c = crossingAt as ac bs bc c) :=
  AdaptaVerif.Lemmas.TopoConsRewrite.splitKeeps_of_param c h0 h1 hne rfl rfl

/-- **Sides are preserved by the split**: applied to a tight constraint, the legs (a, bend), (bend, b) cross every scan line `c0` exactly where (a, b) did. -/
theorem straightSatisfy_preserves_sides {d : Nat} {st st' : EdgeSt} {j k : Nat} {a b : EPt} {c : SC}
    (_h : straightSatisfy d st j k = some st')
    (_ha : st.pts[j]? = some a) (_hb : st.pts[j + 1]? = some b) (_hc : (st.scs.getD j [])[k]? = some c)
    (hcr : createStraight d ⟨st.id, j, a, b⟩ c.node c.pos = some c)
    (htight : gap d ⟨st.id, j, a, b⟩ c.node c.pos c.nodeLeft = 0)
    (hev : c.pos = c.node.r.lo (conj d) ∨ c.pos = c.node.r.hi (conj d))
    (hrect : c.node.r.lo (conj d) < c.node.r.hi (conj d))
    (hlo : (⟨st.id, j, a, b⟩ : Seg).lo d ≤ c.pos) (hhi : c.pos ≤ (⟨st.id, j, a, b⟩ : Seg).hi d)
    (c0 : Rat) :
    SplitKeeps (a.pos d) (a.pos (conj d)) (b.pos d) (b.pos (conj d))
      ((⟨c.node, c.ri⟩ : EPt).pos d) ((⟨c.node, c.ri⟩ : EPt).pos (conj d)) c0 :=
  open AdaptaVerif.Lemmas.TopoConsRewrite in
  splitKeeps_on_segment (sg := ⟨st.id, j, a, b⟩)
    (AdaptaVerif.Lemmas.TopoConsGen.createStraight_some hcr).2.1 hlo hhi
    (created_bend_on_segment hcr htight) ((created_bend_at_corner hcr).2.2 hev hrect) c0

/-- **Sides are preserved by the merge**: if the removed bend lies on the leg from `u` to `w`. -/
theorem bendSatisfy_preserves_sides {d : Nat} {st st' : EdgeSt} {i : Nat} {u v w : EPt} {t : Rat}
    (_h : bendSatisfy d st i = some st')
    (_hu : st.pts[i - 1]? = some u) (_hv : st.pts[i]? = some v) (_hw : st.pts[i + 1]? = some w)
    (h0 : 0 ≤ t) (h1 : t ≤ 1) (hne : u.pos (conj d) ≠ w.pos (conj d))
    (hvs : v.pos d = u.pos d + t * (w.pos d - u.pos d))
    (hvc : v.pos (conj d) = u.pos (conj d) + t * (w.pos (conj d) - u.pos (conj d))) (c0 : Rat) :
    SplitKeeps (u.pos d) (u.pos (conj d)) (w.pos d) (w.pos (conj d)) (v.pos d) (v.pos (conj d)) c0 :=
  AdaptaVerif.Lemmas.TopoConsRewrite.splitKeeps_of_param c0 h0 h1 hne hvs hvc

-- joint non-vacuity of the hypotheses of `straightSatisfy_*` (in particular `straightSatisfy_scs`,
-- `straightSatisfy_bend_on_segment`, `straightSatisfy_preserves_sides`) and of `slack_is_gap`, `tight_*` below: node 1
-- touches the only segment centre(node 0) -> centre(node 2) of `exSt` with its bottom right corner; the stored constraint
-- is the one `createStraight` makes, it is tight (gap 0 = slack 0 at the construction centres `exPos`), the event position
-- is the node's low side, inside the segment's span; the state is well formed (one constraint list per segment)
example :
    let a : EPt := ⟨exNode 0 0 0, 4⟩
    let b : EPt := ⟨exNode 2 20 20, 4⟩
    let c : SC := ⟨exNode 1 8 10, 1, 10, true, 9 / 20, -1⟩
    straightSatisfy 0 exSt 0 0 = some ⟨7, [a, ⟨exNode 1 8 10, 1⟩, b], [[], []]⟩ ∧
    exSt.pts[0]? = some a ∧ exSt.pts[0 + 1]? = some b ∧ (exSt.scs.getD 0 [])[0]? = some c ∧
    createStraight 0 ⟨exSt.id, 0, a, b⟩ c.node c.pos = some c ∧
    gap 0 ⟨exSt.id, 0, a, b⟩ c.node c.pos c.nodeLeft = 0 ∧
    (c.pos = c.node.r.lo (conj 0) ∨ c.pos = c.node.r.hi (conj 0)) ∧
    c.node.r.lo (conj 0) < c.node.r.hi (conj 0) ∧
    (⟨exSt.id, 0, a, b⟩ : Seg).lo 0 ≤ c.pos ∧ c.pos ≤ (⟨exSt.id, 0, a, b⟩ : Seg).hi 0 ∧
    (triOf ⟨exSt.id, 0, a, b⟩ c).slackAt exPos = 0 ∧
    exSt.scs.length + 1 = exSt.pts.length := by
  decide +kernel

-- joint non-vacuity of the hypotheses of `bendSatisfy_*` (in particular `bendSatisfy_scs`, `bendSatisfy_preserves_sides`):
-- the inverse rewrite - the bend at node 1's bottom right corner (10,10) lies on the leg (1,1) -> (21,21) at t = 9/20;
-- the merged segment gets node 1's StraightConstraint back
example :
    let u : EPt := ⟨exNode 0 0 0, 4⟩
    let v : EPt := ⟨exNode 1 8 10, 1⟩
    let w : EPt := ⟨exNode 2 20 20, 4⟩
    let st : EdgeSt := ⟨7, [u, v, w], [[], []]⟩
    bendSatisfy 0 st 1 = some ⟨7, [u, w], [[⟨exNode 1 8 10, 1, 10, true, 9 / 20, -1⟩]]⟩ ∧
    st.pts[1 - 1]? = some u ∧ st.pts[1]? = some v ∧ st.pts[1 + 1]? = some w ∧
    (0 : Rat) ≤ 9 / 20 ∧ (9 / 20 : Rat) ≤ 1 ∧ u.pos (conj 0) ≠ w.pos (conj 0) ∧
    v.pos 0 = u.pos 0 + 9 / 20 * (w.pos 0 - u.pos 0) ∧
    v.pos (conj 0) = u.pos (conj 0) + 9 / 20 * (w.pos (conj 0) - u.pos (conj 0)) ∧
    st.scs.length + 1 = st.pts.length := by
  decide +kernel

/-! ### the whole `solve()` step: the satisfied constraint is tight -/

/-- When the move is cut short (minTAlpha < 1) a constraint attaining the minimum - the `minT` that `solve()` then satisfies - has slack exactly 0 at the positions reached. -/
theorem solve_step_satisfied_is_tight (d : Nat) (bO bC : Node → Node → Bool) (nodes : List Node)
    (segs : List Seg) (extra : List TriConstraint) (ini fin : AdaptaVerif.Model.Tri.Pos)
    (hini : Feasible ((consClosed d bO bC nodes segs).map (fun x => triOf x.1 x.2) ++ extra) ini)
    (hlt : minAlpha ((consClosed d bO bC nodes segs).map (fun x => triOf x.1 x.2) ++ extra)
      ini fin < 1) :
    ∃ t ∈ (consClosed d bO bC nodes segs).map (fun x => triOf x.1 x.2) ++ extra,
      t.msa ini fin =
        minAlpha ((consClosed d bO bC nodes segs).map (fun x => triOf x.1 x.2) ++ extra) ini fin ∧
      t.slackAt
        (moveStep ((consClosed d bO bC nodes segs).map (fun x => triOf x.1 x.2) ++ extra) ini fin)
        = 0 :=
  AdaptaVerif.Lemmas.Tri.moveStep_stops_tight _ ini fin hini hlt

/-- If that constraint is a StraightConstraint, the corner `StraightConstraint::satisfy` inserts lies on the moved segment's line ... -/
theorem tight_bend_on_moved_segment {d : Nat} {sg : Seg} {n : Node} {pos : Rat} {c : SC}
    (h : createStraight d sg n pos = some c) (x : Pos) (htight : (triOf sg c).slackAt x = 0) :
    (⟨c.node.movedTo d x, c.ri⟩ : EPt).pos d = (sg.movedTo d x).inter d pos :=
  AdaptaVerif.Lemmas.TopoConsTight.tight_bend_on_moved_segment h x htight

/-- ... on the constraint's scan line, -/
theorem tight_bend_on_scanline {d : Nat} {sg : Seg} {n : Node} {pos : Rat} {c : SC}
    (h : createStraight d sg n pos = some c) (x : Pos)
    (hev : pos = n.r.lo (conj d) ∨ pos = n.r.hi (conj d))
    (hrect : n.r.lo (conj d) < n.r.hi (conj d)) :
    (⟨c.node.movedTo d x, c.ri⟩ : EPt).pos (conj d) = pos :=
  AdaptaVerif.Lemmas.TopoConsTight.tight_bend_on_scanline h x hev hrect

/-- ... so the split replaces every scan-line crossing of the moved leg by one crossing at the same place. -/
theorem tight_split_preserves_sides {d : Nat} {sg : Seg} {n : Node} {pos : Rat} {c : SC}
    (h : createStraight d sg n pos = some c) (x : Pos) (htight : (triOf sg c).slackAt x = 0)
    (hev : pos = n.r.lo (conj d) ∨ pos = n.r.hi (conj d))
    (hrect : n.r.lo (conj d) < n.r.hi (conj d))
    (hlo : sg.lo d ≤ pos) (hhi : pos ≤ sg.hi d) (c0 : Rat) :
    SplitKeeps ((sg.movedTo d x).s.pos d) ((sg.movedTo d x).s.pos (conj d))
      ((sg.movedTo d x).e.pos d) ((sg.movedTo d x).e.pos (conj d))
      ((⟨c.node.movedTo d x, c.ri⟩ : EPt).pos d) ((⟨c.node.movedTo d x, c.ri⟩ : EPt).pos (conj d))
      c0 :=
  AdaptaVerif.Lemmas.TopoConsTight.tight_split_preserves_sides h x htight hev hrect hlo hhi c0

/-- The three facts for a generated constraint that is tight after the move phase of `solve()`. -/
theorem solve_step_straight_satisfy_preserves_sides (d : Nat) (bO bC : Node → Node → Bool)
    (nodes : List Node) (segs : List Seg) (extra : List TriConstraint)
    (ini fin : AdaptaVerif.Model.Tri.Pos)
    (hpos : ∀ n ∈ nodes, n.r.lo (conj d) < n.r.hi (conj d))
    (y : Seg × SC) (hy : y ∈ consClosed d bO bC nodes segs)
    (htight : (triOf y.1 y.2).slackAt
      (moveStep ((consClosed d bO bC nodes segs).map (fun x => triOf x.1 x.2) ++ extra) ini fin) = 0) :
    let x' := moveStep ((consClosed d bO bC nodes segs).map (fun x => triOf x.1 x.2) ++ extra) ini fin
    (⟨y.2.node.movedTo d x', y.2.ri⟩ : EPt).pos d = (y.1.movedTo d x').inter d y.2.pos ∧
    (⟨y.2.node.movedTo d x', y.2.ri⟩ : EPt).pos (conj d) = y.2.pos ∧
    ∀ c0 : Rat,
      SplitKeeps ((y.1.movedTo d x').s.pos d) ((y.1.movedTo d x').s.pos (conj d))
        ((y.1.movedTo d x').e.pos d) ((y.1.movedTo d x').e.pos (conj d))
        ((⟨y.2.node.movedTo d x', y.2.ri⟩ : EPt).pos d)
        ((⟨y.2.node.movedTo d x', y.2.ri⟩ : EPt).pos (conj d)) c0 :=
  AdaptaVerif.Lemmas.TopoConsTight.tight_generated_preserves_sides hpos hy _ htight

/-- **One `solve()` step, end to end**: from a feasible state with minTAlpha < 1 some constraint attains the minimum and is tight after the move; it is one of the other (bend / caller's) constraints or a generated StraightConstraint, and in the latter case satisfying it inserts a bend ON the moved segment and preserves the side of every node. -/
theorem solve_step_tight_generated_or_extra (d : Nat) (bO bC : Node → Node → Bool)
    (nodes : List Node) (segs : List Seg) (extra : List TriConstraint)
    (ini fin : AdaptaVerif.Model.Tri.Pos)
    (hpos : ∀ n ∈ nodes, n.r.lo (conj d) < n.r.hi (conj d))
    (hini : Feasible ((consClosed d bO bC nodes segs).map (fun x => triOf x.1 x.2) ++ extra) ini)
    (hlt : minAlpha ((consClosed d bO bC nodes segs).map (fun x => triOf x.1 x.2) ++ extra)
      ini fin < 1) :
    let cs := (consClosed d bO bC nodes segs).map (fun x => triOf x.1 x.2) ++ extra
    let x' := moveStep cs ini fin
    ∃ t ∈ cs, t.msa ini fin = minAlpha cs ini fin ∧ t.slackAt x' = 0 ∧
      (t ∈ extra ∨ ∃ y ∈ consClosed d bO bC nodes segs, t = triOf y.1 y.2 ∧
        (⟨y.2.node.movedTo d x', y.2.ri⟩ : EPt).pos d = (y.1.movedTo d x').inter d y.2.pos ∧
        (⟨y.2.node.movedTo d x', y.2.ri⟩ : EPt).pos (conj d) = y.2.pos ∧
        ∀ c0 : Rat,
          SplitKeeps ((y.1.movedTo d x').s.pos d) ((y.1.movedTo d x').s.pos (conj d))
            ((y.1.movedTo d x').e.pos d) ((y.1.movedTo d x').e.pos (conj d))
            ((⟨y.2.node.movedTo d x', y.2.ri⟩ : EPt).pos d)
            ((⟨y.2.node.movedTo d x', y.2.ri⟩ : EPt).pos (conj d)) c0) :=
  AdaptaVerif.Lemmas.TopoConsTight.solve_step_tight_generated_or_extra d bO bC nodes segs extra ini fin hpos hini hlt

-- non-vacuity of `solve_step_satisfied_is_tight`, `solve_step_tight_generated_or_extra` (and, through the latter, of
-- `solve_step_straight_satisfy_preserves_sides`): the control scene with node 2 dragged to x = 100 is feasible at the
-- initial centres, the move is cut short (minTAlpha = 6/13), all nodes have positive height; with `extra = []` the theorem
-- then yields a GENERATED constraint that is tight after the move
example :
    Feasible ((consClosed 0 idLt idLt [w0, w1', w2] [wSg]).map (fun x => triOf x.1 x.2) ++ []) ctlIni ∧
    minAlpha ((consClosed 0 idLt idLt [w0, w1', w2] [wSg]).map (fun x => triOf x.1 x.2) ++ [])
      ctlIni ctlFin = 6 / 13 ∧
    (∀ n ∈ [w0, w1', w2], n.r.lo (conj 0) < n.r.hi (conj 0)) := by
  refine ⟨?_, by decide +kernel, by decide +kernel⟩
  unfold Feasible
  decide +kernel

example : ∃ y ∈ consClosed 0 idLt idLt [w0, w1', w2] [wSg],
    (triOf y.1 y.2).slackAt
      (moveStep ((consClosed 0 idLt idLt [w0, w1', w2] [wSg]).map (fun x => triOf x.1 x.2) ++ []) ctlIni ctlFin) = 0 := by
  obtain ⟨t, _, _, ht, hex | ⟨y, hy, rfl, _⟩⟩ :=
    solve_step_tight_generated_or_extra 0 idLt idLt [w0, w1', w2] [wSg] [] ctlIni ctlFin (by decide +kernel)
      (by unfold Feasible; decide +kernel) (by decide +kernel)
  · exact absurd hex (List.not_mem_nil)
  · exact ⟨y, hy, ht⟩

/-! ### the non-overlap constraints of the scan -/

/-- Every separation constraint `NodeClose::createNonOverlapConstraint` creates is between two nodes of the scene, the left one having the smaller centre, one of them still open when the other closes, with gap = half the two lengths + 1e-7. -/
theorem nonOverlap_sound (d : Nat) (bC : Node → Node → Bool) (nodes : List Node) (c : NOC)
    (hc : c ∈ nonOverlapClosed d bC nodes) :
    c.left ∈ nodes ∧ c.right ∈ nodes ∧ c.left.id ≠ c.right.id ∧
    c.left.r.centre d < c.right.r.centre d ∧
    c.gap = (c.left.r.len d + c.right.r.len d) / 2 + noGapEps ∧
    (OpenAtClose d bC c.right c.left ∨ OpenAtClose d bC c.left c.right) := by
  open AdaptaVerif.Lemmas AdaptaVerif.Lemmas.TopoConsNonOverlap in
  obtain ⟨n, hn, hcn⟩ := mem_nonOverlapClosed.1 hc
  rcases mem_nonOverlapAtClose.1 hcn with ⟨l, hl, rfl⟩ | ⟨r, hr, rfl⟩
  · obtain ⟨hlo, hlt⟩ := TopoConsScan.leftNb_some hl
    obtain ⟨hln, hid, hopen⟩ := mem_openNodesAtClose_iff.1 hlo
    exact ⟨hln, hn, hid, hlt, rfl, Or.inl hopen⟩
  · obtain ⟨hro, hlt⟩ := TopoConsScan.rightNb_some hr
    obtain ⟨hrn, hid, hopen⟩ := mem_openNodesAtClose_iff.1 hro
    exact ⟨hn, hrn, Ne.symm hid, hlt, rfl, Or.inr hopen⟩

/-- ... so (nodes of positive height) their extents across the scan direction overlap strictly: only nodes that share a scan line are kept apart. -/
theorem nonOverlap_sound_overlap (d : Nat) (bC : Node → Node → Bool) (nodes : List Node)
    (hpos : ∀ n ∈ nodes, n.r.lo (conj d) < n.r.hi (conj d)) (c : NOC)
    (hc : c ∈ nonOverlapClosed d bC nodes) :
    c.left.r.lo (conj d) < c.right.r.hi (conj d) ∧ c.right.r.lo (conj d) < c.left.r.hi (conj d) ∧
    max (c.left.r.lo (conj d)) (c.right.r.lo (conj d)) <
      min (c.left.r.hi (conj d)) (c.right.r.hi (conj d)) := by
  obtain ⟨hl, hr, _, _, _, hopen⟩ := nonOverlap_sound d bC nodes c hc
  have h1 := hpos _ hl
  have h2 := hpos _ hr
  have key : c.left.r.lo (conj d) < c.right.r.hi (conj d) ∧
      c.right.r.lo (conj d) < c.left.r.hi (conj d) := by
    rcases hopen with h | h
    · exact ⟨h.1, lt_of_lt_of_le h2 h.hi_le⟩
    · exact ⟨lt_of_lt_of_le h1 h.hi_le, h.1⟩
  exact ⟨key.1, key.2, max_lt (lt_min h1 key.1) (lt_min key.2 h2)⟩

/-- A constraint holds at node positions `x` iff the two moved rectangles are at least 1e-7 apart in the scan axis. -/
theorem noc_holds_iff_sep (d : Nat) (l r : Node) (x : Pos) : (mkNOC d l r).holds x ↔ Sep d x l r :=
  AdaptaVerif.Lemmas.TopoConsNonOverlap.noc_holds_iff_sep d l r x

/-- **The scan-line chain lemma.** The constraints between scan-line neighbours at NodeClose events transitively separate EVERY pair of nodes that share a scan line: if all generated constraints hold at `x` then any two nodes whose extents across the scan direction overlap strictly are at least 1e-7 apart in the scan axis (`hkeys` = the constructor's unique-key assertion, `hbC` = equal-position NodeClose events are processed in some order, `hw` = non-negative widths). -/
theorem nonOverlap_complete (d : Nat) (bC : Node → Node → Bool) (nodes : List Node)
    (hids : nodes.Pairwise (fun a b => a.id ≠ b.id))
    (hw : ∀ n ∈ nodes, 0 ≤ n.r.len d)
    (hkeys : ∀ m ∈ nodes, ∀ n ∈ nodes, m.id ≠ n.id → m.r.lo (conj d) < n.r.hi (conj d) →
      n.r.lo (conj d) < m.r.hi (conj d) → m.r.centre d ≠ n.r.centre d)
    (hbC : ∀ m ∈ nodes, ∀ n ∈ nodes, m.id ≠ n.id → m.r.hi (conj d) = n.r.hi (conj d) →
      bC m n = true ∨ bC n m = true)
    (x : Pos) (hx : ∀ c ∈ nonOverlapClosed d bC nodes, c.holds x)
    (m n : Node) (hm : m ∈ nodes) (hn : n ∈ nodes) (hid : m.id ≠ n.id)
    (hov : m.r.lo (conj d) < n.r.hi (conj d) ∧ n.r.lo (conj d) < m.r.hi (conj d))
    (hc : m.r.centre d < n.r.centre d) :
    (m.movedTo d x).r.hi d + noGapEps ≤ (n.movedTo d x).r.lo d :=
  AdaptaVerif.Lemmas.TopoConsNonOverlap.nonOverlap_complete d bC nodes hids hw hkeys hbC x hx m n hm hn hid hov hc

/-- The constraints are linear: satisfied at the initial positions and at the VPSC solution, they are satisfied at every point `solve()` may move to. -/
theorem solve_move_keeps_nonOverlap (d : Nat) (bC : Node → Node → Bool) (nodes : List Node)
    (ini fin : Pos) (α : Rat)
    (hini : ∀ c ∈ nonOverlapClosed d bC nodes, c.holds ini)
    (hfin : ∀ c ∈ nonOverlapClosed d bC nodes, c.holds fin) (h0 : 0 ≤ α) (h1 : α ≤ 1) :
    ∀ c ∈ nonOverlapClosed d bC nodes, c.holds (AdaptaVerif.Model.Tri.posOnLine ini fin α) :=
  fun c hc => AdaptaVerif.Lemmas.TopoConsNonOverlap.noc_holds_on_line c ini fin α (hini c hc) (hfin c hc) h0 h1

-- non-vacuity of `nonOverlap_sound`, `nonOverlap_sound_overlap`, `solve_move_keeps_nonOverlap` (for `nonOverlap_complete`
-- see the instantiated example at the end of Lemmas/TopoConsNonOverlap): the row scene has two constraints, and they hold
-- at two different position vectors
example :
    nonOverlapClosed 0 idLt [e0, e1, e2] = [mkNOC 0 e0 e1, mkNOC 0 e1 e2] ∧
    (∀ n ∈ [e0, e1, e2], n.r.lo (conj 0) < n.r.hi (conj 0)) ∧
    (∀ c ∈ nonOverlapClosed 0 idLt [e0, e1, e2], c.holds ePos) ∧
    (∀ c ∈ nonOverlapClosed 0 idLt [e0, e1, e2], c.holds (fun i => 10 * ePos i)) := by
  have hE : nonOverlapClosed 0 idLt [e0, e1, e2] = [mkNOC 0 e0 e1, mkNOC 0 e1 e2] := by decide +kernel
  refine ⟨hE, by decide +kernel, ?_, ?_⟩ <;>
  · intro c hc
    rw [hE] at hc
    simp only [List.mem_cons, List.not_mem_nil, or_false] at hc
    rcases hc with rfl | rfl <;> (unfold NOC.holds; decide +kernel)

end AdaptaVerif.Props.C13Cons
