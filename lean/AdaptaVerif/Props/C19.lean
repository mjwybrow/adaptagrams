/-
C19 — libdialect graph decompositions: property theorems (only theorems + non-vacuity examples).

Statement (properties.jsonl): peeling a connected graph yields trees and a core such that every
node belongs to the core or to exactly one tree (roots being the only shared nodes), every tree
is acyclic and connected, every edge is in exactly one part, a non-empty core has no node of
degree one; connected-component extraction partitions nodes and edges the same way.
(Symmetric tree layout: Props/C19Layout.lean; planarisation: Props/C19Planarise.lean. The
geometric checkers of Check/GraphParts.lean validate both per run.)

  Spec   : Spec/UGraph.lean (Reach, Connected, IsCycle, Acyclic, Simple, IsTree),
           Spec/GraphParts.lean (ExactlyOne, PeelSpec, CompsSpec)
  Model  : Model/Peel.lean (peel, getConnComps)     Checkers : Check/GraphParts.lean
  Proofs : Lemmas/Peel*.lean
All model theorems quantify over every finite simple graph; `peel`/`getConnComps` run on fuel and
are shown total (`peel_total`, `getConnComps_total`), so "= some out" is never vacuous.
-/
import AdaptaVerif.Lemmas.PeelCheck
import AdaptaVerif.Lemmas.PeelLeaf
import AdaptaVerif.Lemmas.PeelModel2
import AdaptaVerif.Lemmas.PeelBuckets
namespace AdaptaVerif.Props.C19
open AdaptaVerif.Spec.UGraph AdaptaVerif.Spec.GraphParts
open AdaptaVerif.Model.Peel (peel peelB getConnComps PeelOut TreeOut Comp degree)
open AdaptaVerif.Check.GraphParts (isTree connectedB simpleB peelOk componentsOk)
open AdaptaVerif.Lemmas

/-! ### (1) the executable checkers decide the spec -/

/-- the tree checker is sound for every node/edge list -/
theorem isTree_sound {ns : List Nat} {es : List (Nat × Nat)} (h : isTree ns es = true) :
    IsTree ns es := PeelCheck.isTree_sound h

/-- … and complete on simple graphs: `isTree g = true ↔ Connected g ∧ Acyclic g` (∧ non-empty) -/
theorem isTree_iff {ns : List Nat} {es : List (Nat × Nat)} (hs : Simple ns es) :
    isTree ns es = true ↔ (ns ≠ [] ∧ Connected ns es ∧ Acyclic es) :=
  ⟨fun h => PeelCheck.isTree_sound h, fun h => PeelCheck.isTree_complete hs h⟩

example : IsTree [0, 1, 2] [(0, 1), (2, 1)] := isTree_sound (by decide)

theorem connectedB_iff {ns : List Nat} {es : List (Nat × Nat)} :
    connectedB ns es = true ↔ Connected ns es :=
  ⟨PeelCheck.connectedB_sound, PeelCheck.connectedB_complete⟩

theorem simpleB_iff {ns : List Nat} {es : List (Nat × Nat)} :
    simpleB ns es = true ↔ Simple ns es :=
  ⟨PeelCheck.simpleB_sound, PeelCheck.simpleB_complete⟩

-- the acyclicity clause of the spec is not hollow: a triangle is connected and simple but `Acyclic` fails for it
example : ¬ Acyclic [(0, 1), (1, 2), (2, 0)] := by
  intro h
  have := (isTree_iff (ns := [0, 1, 2]) (simpleB_iff.1 (by decide))).2
    ⟨by decide, connectedB_iff.1 (by decide), h⟩
  exact absurd this (by decide)

/-- Rank/parent witness ⇒ no simple cycle ("each removed leaf has exactly one neighbour, removed
    strictly later or never"): the core of both the tree checker and the peel proof. -/
theorem acyclic_of_rank (es : List (Nat × Nat)) (p : Nat → Nat) (r : Nat → Int)
    (h : ∀ a b, (a, b) ∈ es → (p a = b ∧ r a < r b) ∨ (p b = a ∧ r b < r a)) : Acyclic es :=
  PeelRank.acyclic_of_rank es p r h

example : Acyclic [(1, 0), (1, 2)] :=
  acyclic_of_rank _ (fun _ => 1) (fun v => if v = 1 then 1 else 0) (by
    intro a b h
    simp only [List.mem_cons, Prod.mk.injEq, List.mem_nil_iff, or_false] at h
    rcases h with ⟨rfl, rfl⟩ | ⟨rfl, rfl⟩ <;> decide)

/-- a finite tree with at least two nodes has a leaf (what makes peeling of a tree terminate in
    a single node / a single edge) -/
theorem tree_has_leaf {ns : List Nat} {es : List (Nat × Nat)} (hs : Simple ns es)
    (ht : IsTree ns es) (h2 : 2 ≤ ns.length) : ∃ v, v ∈ ns ∧ degree es v = 1 :=
  PeelLeaf.tree_has_leaf hs ht h2

-- non-vacuity of tree_has_leaf: the path 0–1–2–3 satisfies all three hypotheses
example : ∃ v, v ∈ [0, 1, 2, 3] ∧ degree [(0, 1), (1, 2), (2, 3)] v = 1 :=
  tree_has_leaf (simpleB_iff.1 (by decide)) (isTree_sound (by decide)) (by decide)

/-- the peel checker run on the C++ output is sound for the property text -/
theorem peelOk_sound {ns : List Nat} {es : List (Nat × Nat)} {trees : List TreeOut}
    {coreN : List Nat} {coreE : List (Nat × Nat)} (h : peelOk ns es trees coreN coreE = true) :
    PeelSpec ns es trees coreN coreE := PeelCheck.peelOk_sound h

example : PeelSpec [0, 1, 2, 3] [(0, 1), (1, 2), (2, 0), (2, 3)]
    [⟨[2, 3], [(2, 3)], 2⟩] [0, 1, 2] [(0, 1), (1, 2), (2, 0)] := peelOk_sound (by decide)

/-- the components checker run on the C++ output is sound for the property text -/
theorem componentsOk_sound {ns : List Nat} {es : List (Nat × Nat)} {cs : List Comp}
    (h : componentsOk ns es cs = true) : CompsSpec ns es cs := PeelCheck.componentsOk_sound h

example : CompsSpec [0, 1, 2] [(0, 1)] [⟨[0, 1], [(0, 1)]⟩, ⟨[2], []⟩] :=
  componentsOk_sound (by decide)

/-! ### (2) the peel model satisfies the property, for every connected finite simple graph -/

/-- the fuel given to the model always suffices -/
theorem peel_total (ns : List Nat) (es : List (Nat × Nat)) : ∃ out, peel ns es = some out :=
  PeelModel.peel_total ns es

/-- every clause of the peel property: node partition with roots as the only shared nodes, edge
    partition, every tree connected and acyclic, core without degree-one nodes -/
theorem peel_spec {ns : List Nat} {es : List (Nat × Nat)} {out : PeelOut} (hs : Simple ns es)
    (hc : Connected ns es) (h : peel ns es = some out) :
    PeelSpec ns es out.trees out.coreNodes out.coreEdges :=
  PeelModel.peel_spec hs hc h (PeelModel.peel_root_mem hs hc h) (PeelModel.peel_shared hs hc h)

example : ∃ out, peel [0, 1, 2, 3] [(0, 1), (1, 2), (2, 0), (2, 3)] = some out ∧
    PeelSpec [0, 1, 2, 3] [(0, 1), (1, 2), (2, 0), (2, 3)] out.trees out.coreNodes out.coreEdges :=
  let ⟨out, h⟩ := peel_total _ _
  ⟨out, h, peel_spec (simpleB_iff.1 (by decide)) (connectedB_iff.1 (by decide)) h⟩

/-- the literal mirror of the C++ loop with explicit degree buckets (`NodeBuckets`: takeLeaves,
    moveNode(degree+1, degree), severNodes) computes exactly what the degree-based model does,
    for every node and edge list; so all theorems about `peel` hold for `peelB` -/
theorem peelB_eq_peel (ns : List Nat) (es : List (Nat × Nat)) : peelB ns es = peel ns es :=
  PeelBuckets.peelB_eq_peel' ns es

/-- the core clause needs no connectivity: the core is the induced subgraph on the surviving
    nodes and none of them has degree one -/
theorem peel_core {ns : List Nat} {es : List (Nat × Nat)} {out : PeelOut} (hs : Simple ns es)
    (h : peel ns es = some out) :
    out.coreNodes.Sublist ns ∧ out.coreNodes.Nodup ∧
    out.coreEdges = es.filter (fun e => out.coreNodes.contains e.1 && out.coreNodes.contains e.2) ∧
    NoDegreeOne out.coreNodes out.coreEdges := PeelModel.peel_core hs h

-- non-vacuity of peel_core: a simple graph that is NOT connected (triangle + a separate edge)
example : ∃ out, peel [0, 1, 2, 3, 4] [(0, 1), (1, 2), (2, 0), (3, 4)] = some out ∧
    NoDegreeOne out.coreNodes out.coreEdges :=
  let ⟨out, h⟩ := peel_total _ _
  ⟨out, h, (peel_core (simpleB_iff.1 (by decide)) h).2.2.2⟩

/-- a tree input peels away completely into one tree (core = its centre, or empty for a double
    centre) that contains every node and every edge -/
theorem peel_tree_input {ns : List Nat} {es : List (Nat × Nat)} {out : PeelOut} (hs : Simple ns es)
    (ht : IsTree ns es) (h2 : 2 ≤ ns.length) (h : peel ns es = some out) :
    out.coreNodes.length ≤ 1 ∧ out.coreEdges = [] ∧
    ∃ t, out.trees = [t] ∧ (∀ v, v ∈ ns → v ∈ t.nodes) ∧ (∀ e, e ∈ es → HasEdge t.edges e) :=
  PeelModel.peel_tree_input (fun _ _ => PeelLeaf.tree_noDegreeOne_small) hs ht h2 h

example : ∃ out, peel [0, 1, 2, 3] [(0, 1), (1, 2), (2, 3)] = some out ∧ out.coreNodes.length ≤ 1 :=
  let ⟨out, h⟩ := peel_total _ _
  ⟨out, h, (peel_tree_input (simpleB_iff.1 (by decide)) (isTree_sound (by decide)) (by decide) h).1⟩

/-! ### (3) the getConnComps model computes the connected components, for every finite graph -/

theorem getConnComps_total (ns : List Nat) (es : List (Nat × Nat)) :
    ∃ cs, getConnComps ns es = some cs := PeelComps.getConnComps_total ns es

/-- nodes and edges partitioned, each part connected by its own edges, no edge between parts -/
theorem getConnComps_spec {ns : List Nat} {es : List (Nat × Nat)} {cs : List Comp}
    (hE : ∀ e, e ∈ es → e.1 ∈ ns ∧ e.2 ∈ ns) (h : getConnComps ns es = some cs) :
    CompsSpec ns es cs := PeelComps.getConnComps_compsSpec h hE

/-- each part is exactly a reachability class -/
theorem getConnComps_classes {ns : List Nat} {es : List (Nat × Nat)} {cs : List Comp}
    (hE : ∀ e, e ∈ es → e.1 ∈ ns ∧ e.2 ∈ ns) (h : getConnComps ns es = some cs) :
    ∀ c, c ∈ cs → ∀ u, u ∈ c.nodes → ∀ x, x ∈ c.nodes ↔ Reach es u x :=
  PeelComps.comps_class (PeelComps.comps_spec h hE)

example : ∃ cs, getConnComps [0, 1, 2] [(0, 1)] = some cs ∧ CompsSpec [0, 1, 2] [(0, 1)] cs :=
  let ⟨cs, h⟩ := getConnComps_total _ _
  ⟨cs, h, getConnComps_spec (by decide) h⟩

end AdaptaVerif.Props.C19
