/-
Property C02 — VPSC solve() returns the unique weighted least-squares optimum; order independence.

The theorems are universal (all n, all constraint lists, all rational data); they are about the
mathematical problem `Spec/Qp.lean` and about the executable certificate checker
`Check.Kkt.checkKkt` that the driver runs on the exact oracle optimum of every test case. That
the floating-point C++ returns (an approximation of) this optimum is decided per run by the
certified oracle (translation validation), not proved.
-/
import AdaptaVerif.Lemmas.QpCheck

namespace AdaptaVerif.Props.C02
open AdaptaVerif.Spec.Qp AdaptaVerif.Check.Kkt AdaptaVerif.Lemmas.Qp

/-- **KKT sufficiency.** A feasible placement with multipliers (`≥ 0` on inequalities, free on
    equalities) satisfying stationarity and complementary slackness minimises the cost over all
    feasible placements. -/
theorem kkt_sufficient (P : Problem) (hWF : WF P) (x : Nat → Rat) (lam : List Rat)
    (h : KKT P x lam) : ∀ y, Feasible P y → cost P x ≤ cost P y :=
  (kkt_optimal P x lam hWF h).2

example : ∀ y, Feasible exP y → cost exP exX ≤ cost exP y := kkt_sufficient exP ex_wf exX [1] ex_kkt

/-- **ε-version** (what a solver that only splits when `lm < -ε` can promise): multipliers
    `≥ -ε` give optimality up to `ε · (total inequality slack of the competitor)`. -/
theorem kkt_sufficient_eps (eps : Rat) (P : Problem) (hWF : WF P) (x : Nat → Rat) (lam : List Rat)
    (h : KKTeps eps P x lam) :
    ∀ y, Feasible P y → cost P x ≤ cost P y + eps * ineqSlackSum P y := by
  intro y hy
  have := kktEps_gap eps P hWF x lam h y hy
  have := wsq_nonneg hWF y x
  linarith

example : ∀ y, Feasible exP y → cost exP exX ≤ cost exP y + (1/10000) * ineqSlackSum exP y :=
  kkt_sufficient_eps (1/10000) exP ex_wf exX [1] (kktEps_of_kkt (by norm_num) ex_kkt)

/-- **How far an ε-KKT point can be from the optimum.** If `xs` is the exact optimum (with its
    multipliers) and `x` satisfies the KKT conditions with multipliers `≥ -ε` — the fixed points
    of a solver that splits only when `lm < -ε`, ε = 1e-4 in libvpsc — then
    `Σ w_i (x_i - xs_i)^2 ≤ ε · Σ_{inequalities} slack_c(xs)`: an *absolute* ε bounds the
    *weighted* distance, so small weights allow large deviations. -/
theorem eps_kkt_distance (eps : Rat) (P : Problem) (hWF : WF P) (xs : Nat → Rat) (lams : List Rat)
    (hs : KKT P xs lams) (x : Nat → Rat) (lam : List Rat) (h : KKTeps eps P x lam) :
    sumTo P.n (fun i => P.w i * ((x i - xs i) * (x i - xs i))) ≤ eps * ineqSlackSum P xs := by
  -- the gap inequality in both directions; of the two (equal) squared distances one is dropped
  have h1 := kktEps_gap eps P hWF x lam h xs hs.2.1
  have h2 := kktEps_gap 0 P hWF xs lams ((kkt_iff_eps0 P xs lams).mp hs) x h.2.1
  have := wsq_nonneg hWF xs x
  linarith

example : sumTo 2 (fun i => exP.w i * ((exX i - exX i) * (exX i - exX i))) ≤ (1/10000) * ineqSlackSum exP exX :=
  eps_kkt_distance (1/10000) exP ex_wf exX [1] ex_kkt exX [1] (kktEps_of_kkt (by norm_num) ex_kkt)

/-- **Uniqueness.** Two optimal placements agree on every variable (strict convexity: `w > 0`). -/
theorem kkt_unique (P : Problem) (hWF : WF P) (x y : Nat → Rat)
    (hx : IsOptimum P x) (hy : IsOptimum P y) : ∀ i, i < P.n → x i = y i :=
  optimum_unique P hWF x y hx hy

example : ∀ y, IsOptimum exP y → ∀ i, i < 2 → exX i = y i :=
  fun y hy => kkt_unique exP ex_wf exX y (kkt_optimal exP exX [1] ex_wf ex_kkt) hy

/-- **Soundness of the certificate checker** used by the driver: if `checkKkt` accepts
    `(x, lam)` then the problem is well formed, `x` is an optimum, and every optimum equals `x`. -/
theorem checkKkt_sound (P : Problem) (x : Nat → Rat) (lam : List Rat)
    (h : checkKkt P x lam = true) :
    WF P ∧ IsOptimum P x ∧ ∀ y, IsOptimum P y → ∀ i, i < P.n → y i = x i := by
  obtain ⟨hWF, hk⟩ := checkKkt_kkt P x lam h
  exact ⟨hWF, kkt_optimum_unique hWF hk⟩

example : IsOptimum exP exX := (checkKkt_sound exP exX [1] ex_check).2.1

/-- **Order independence.** Rename the variables by a permutation `σ` of `{0..n-1}` (inverse
    `τ`) and list the (renamed) constraints in any order `cons'`: the optimum of the permuted
    problem is the permuted optimum. -/
theorem order_independent (P : Problem) (hWF : WF P) (σ τ : Nat → Nat) (cons' : List Con)
    (hp : IsPerm P.n σ τ) (hc : cons'.Perm (P.cons.map (Con.rename σ)))
    (x x' : Nat → Rat) (hx : IsOptimum P x) (hx' : IsOptimum (P.permute τ cons') x') :
    ∀ i, i < P.n → x' (σ i) = x i :=
  optimum_unique P hWF _ x (optimum_pull P σ τ cons' hWF hp (fun _ => hc.mem_iff) x' hx') hx

example : ∀ x', IsOptimum (exP.permute exSwap [{ l := 1, r := 0, gap := 0, eq := false }]) x' →
    ∀ i, i < 2 → x' (exSwap i) = exX i :=
  fun x' hx' => order_independent exP ex_wf exSwap exSwap _ exSwap_perm (by decide)
    exX x' (kkt_optimal exP exX [1] ex_wf ex_kkt) hx'

/-- **Translation equivariance.** If both ends of every constraint have the same scale (in
    particular if all scales are 1), shifting every desired position by `t` shifts the optimum
    by `t`. -/
theorem translation_equivariant (P : Problem) (t : Rat)
    (hs : ∀ c ∈ P.cons, P.s c.l = P.s c.r) (x : Nat → Rat) (hx : IsOptimum P x) :
    IsOptimum (P.shift t) (fun i => x i + t) :=
  (optimum_shift_iff P t hs x).mp hx

example : IsOptimum (exP.shift 5) (fun i => exX i + 5) :=
  translation_equivariant exP 5 (by decide) exX (kkt_optimal exP exX [1] ex_wf ex_kkt)

/-- **Block position.** For a rigid block whose member `k` sits at `a k * p + b k`, the position
    `(AD - AB) / A2` computed by `Block::updateWeightedPosition` minimises the block's cost. -/
theorem block_posn_opt (m : Nat) (w a b d : Nat → Rat)
    (hA : 0 < sumTo m (fun k => w k * a k * a k)) (p : Rat) :
    blockCost m w a b d (blockPosn m w a b d) ≤ blockCost m w a b d p := by
  rw [blockCost_expand m w a b d p, blockCost_expand m w a b d (blockPosn m w a b d)]
  exact quad_min hA _ _ p

example : ∀ p : Rat, blockCost 2 (fun _ => 1) (fun _ => 1) (fun _ => 0) (fun i => if i = 0 then 1 else 0)
      (blockPosn 2 (fun _ => 1) (fun _ => 1) (fun _ => 0) (fun i => if i = 0 then 1 else 0)) ≤
    blockCost 2 (fun _ => 1) (fun _ => 1) (fun _ => 0) (fun i => if i = 0 then 1 else 0) p :=
  block_posn_opt 2 _ _ _ _ (by norm_num [sumTo])

end AdaptaVerif.Props.C02
