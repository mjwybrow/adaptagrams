/-
C10 — tie theorems: the scalar kernels of `NudgingShiftSegment` as regenerated from /repo's
cola/libavoid/orthogonal.cpp by cpp2lean on every run (Gen/NudgeK.lean, job `nudgek`) are the hand
models of Model/NudgeRegion.lean that the region model and the theorems of Props/C10Region.lean use.

`toK o dim s` (Lemmas/NudgeBridge.lean) builds the object the generated code reads (Model/NudgeKeys.SegK: a two-point display
route, index list {0, 1}, the router options as fields) from a model segment `s`, for nudging
dimension `dim` ∈ {0, 1}. Generated kernels compute in exact rationals; the model's rounding `rnd`
only occurs in `createVar` (zigzag centre) and the bridge for it is stated for `rnd = id`.
Not regenerated (translator limits; hand models tied through the hook dump only):
`CmpLineOrder::operator()` (map lookups, optional out-pointer), `updatePositionsFromSolver`, the body of
`nudgeOrthogonalRoutes` itself.
-/
import AdaptaVerif.Lemmas.NudgeBridge
namespace AdaptaVerif.Props.C10Tie
open AdaptaVerif.Model.Nudge AdaptaVerif.Model.NudgeRegion AdaptaVerif.Model.NudgeKeys
open AdaptaVerif.Gen AdaptaVerif.Lemmas.NudgeBridge AdaptaVerif.Lemmas.GenLoopBridge

/-- constants read from orthogonal.cpp / scanline.h on every run = the model's constants -/
theorem gen_constants_are_model :
    NudgeK.k_freeSegmentID = (freeSegmentID : Int) ∧ NudgeK.k_fixedSegmentID = (fixedSegmentID : Int) ∧
    NudgeK.k_channelLeftID = (channelLeftID : Int) ∧ NudgeK.k_channelRightID = (channelRightID : Int) ∧
    NudgeK.k_freeWeight = freeWeight ∧ NudgeK.k_strongWeight = strongWeight ∧
    NudgeK.k_strongerWeight = strongerWeight ∧ NudgeK.k_fixedWeight = fixedWeight ∧
    NudgeK.k_CHANNEL_MAX = channelMax := by
  refine ⟨rfl, rfl, rfl, rfl, rfl, rfl, rfl, rfl, rfl⟩

/-- `lowPoint()[dim]`, `lowPoint()[altDim]`, `highPoint()[altDim]` of the object are `pos`, `lo`, `hi` -/
theorem gen_points_are_model (o : ROpts) (dim : Nat) (hd : dim < 2) (s : RSeg) :
    (NudgeK.lowPoint (toK o dim s)).getD dim default = s.pos ∧
    (NudgeK.highPoint (toK o dim s)).getD dim default = s.pos ∧
    (NudgeK.lowPoint (toK o dim s)).getD ((dim + 1) % 2) default = s.lo ∧
    (NudgeK.highPoint (toK o dim s)).getD ((dim + 1) % 2) default = s.hi ∧
    NudgeK.lowPoint_pre (toK o dim s) = true ∧ NudgeK.highPoint_pre (toK o dim s) = true :=
  ⟨ptOf_dim hd _ _, ptOf_dim hd _ _, ptOf_alt hd _ _, ptOf_alt hd _ _, rfl, rfl⟩

theorem gen_overlapsWith_is_model (o : ROpts) (dim : Nat) (hd : dim < 2) (a b : RSeg) :
    NudgeK.overlapsWith (toK o dim b) dim (toK o dim a) = overlapsWith o a b := by
  simp only [NudgeK.overlapsWith, overlapsWith, limitsMeet, ite_eq_cond]
  simp only [lowPoint_toK, highPoint_toK, ptOf_alt hd, earlyExit_cond, earlyExit_some, earlyExit_none]
  simp only [toK, cond_true_false]
  rfl

theorem gen_overlapsWith_no_assertion (o : ROpts) (dim : Nat) (a b : RSeg) :
    NudgeK.overlapsWith_pre (toK o dim b) dim (toK o dim a) = true := by
  have h2 : (dim + 1) % 2 < 2 := Nat.mod_lt _ (by decide)
  simp only [NudgeK.overlapsWith_pre, ite_eq_cond]
  simp only [lowPoint_toK, highPoint_toK, lowPoint_pre_toK, highPoint_pre_toK, ptOf_length, h2, earlyExitPre_true,
    decide_true, Bool.and_self, Bool.or_true, Bool.cond_self]

theorem gen_canAlignWith_is_model (o : ROpts) (dim : Nat) (a b : RSeg) :
    NudgeK.canAlignWith (toK o dim b) dim (toK o dim a) = canAlignWith a b ∧
    NudgeK.canAlignWith_pre (toK o dim b) dim (toK o dim a) = true := by
  constructor
  · simp only [NudgeK.canAlignWith, canAlignWith, hasCps_toK]
    simp only [toK]
    by_cases hc : a.conn = b.conn <;> simp [hc]
  · simp only [NudgeK.canAlignWith_pre]
    (repeat' split) <;> rfl

/-- `fixedOrder(bool& isFixed)`: the returned order, and the flag is only ever SET
    (`CmpLineOrder` passes one flag to two consecutive calls and relies on this) -/
theorem gen_fixedOrder_is_model (o : ROpts) (dim : Nat) (hd : dim < 2) (s : RSeg) (isFixed : Bool) :
    NudgeK.fixedOrder isFixed (toK o dim s) = ((fixedOrder o.base s).1, isFixed || (fixedOrder o.base s).2) ∧
    NudgeK.fixedOrder_pre isFixed (toK o dim s) = true := by
  constructor
  · simp only [NudgeK.fixedOrder, fixedOrder, NudgeK.nudgeDistance, ite_eq_cond]
    simp only [lowPoint_toK]
    simp only [toK, ptOf_dim hd, Bool.apply_cond Prod.fst, Bool.apply_cond Prod.snd]
    cases s.fixed || decide (s.pos - s.minLim < o.base) && decide (s.maxLim - s.pos < o.base) <;>
      cases decide (s.pos - s.minLim < o.base) <;> cases decide (s.maxLim - s.pos < o.base) <;> simp
  · simp only [NudgeK.fixedOrder_pre, NudgeK.nudgeDistance_pre, ite_eq_cond]
    simp only [lowPoint_toK, lowPoint_pre_toK]
    simp only [toK, ptOf_length, hd, decide_true, Bool.and_self, Bool.cond_self]

theorem gen_order_is_model (o : ROpts) (dim : Nat) (hd : dim < 2) (s : RSeg) :
    NudgeK.zigzag (toK o dim s) = s.zigzag ∧ NudgeK.immovable (toK o dim s) = !s.zigzag ∧
    NudgeK.lowC (toK o dim s) = lowC s ∧ NudgeK.highC (toK o dim s) = highC s ∧
    NudgeK.order (toK o dim s) = order s ∧ NudgeK.order_pre (toK o dim s) = true := by
  have hl : NudgeK.lowC (toK o dim s) = lowC s := by
    simp only [NudgeK.lowC, lowC, ite_eq_cond]
    simp only [zigzag_toK, lowPoint_toK]
    simp only [toK, ptOf_dim hd, cond_true_false]
  have hh : NudgeK.highC (toK o dim s) = highC s := by
    simp only [NudgeK.highC, highC, ite_eq_cond]
    simp only [zigzag_toK, lowPoint_toK]
    simp only [toK, ptOf_dim hd, cond_true_false]
  refine ⟨rfl, rfl, hl, hh, ?_, ?_⟩
  · simp only [NudgeK.order, hl, hh, order]
  · simp only [NudgeK.order_pre, NudgeK.lowC_pre, NudgeK.highC_pre, NudgeK.zigzag_pre, ite_eq_cond]
    simp only [lowPoint_toK, lowPoint_pre_toK]
    simp only [toK, ptOf_length, hd, decide_true, Bool.and_self, Bool.or_true, Bool.cond_self]

/-- `createSolverVariable(justUnifying)`: the variable the C++ creates (id, desired position, weight,
    scale 1) is the model's `createVar`, and its two assertions are `createVarPre`. The generated kernel
    computes the zigzag centre `min + (max − min) / 2` exactly, so the bridge is for `rnd = id`. -/
theorem gen_createSolverVariable_is_model (o : ROpts) (hr : ∀ r, o.rnd r = r) (dim : Nat) (hd : dim < 2) (s : RSeg) :
    (NudgeK.createSolverVariable o.justUnifying (toK o dim s)).var_ =
      some ⟨((createVar o s).id : Int), (createVar o s).desired, (createVar o s).weight, 1⟩ ∧
    NudgeK.createSolverVariable_pre o.justUnifying (toK o dim s) = createVarPre o s := by
  constructor
  · simp only [NudgeK.createSolverVariable, createVar, ite_eq_cond]
    simp only [zigzag_toK, hasCps_toK, lowPoint_toK, hr]
    -- the generated code carries (id, position, weight) through the branches as a tuple, the model returns a record
    simp only [toK, ptOf_dim hd, Bool.apply_cond Prod.fst, Bool.apply_cond Prod.snd, Bool.apply_cond Var.id,
      Bool.apply_cond Var.desired, Bool.apply_cond Var.weight, Bool.apply_cond (Nat.cast : Nat → Int), Bool.cond_self]
    rfl
  · simp only [NudgeK.createSolverVariable_pre, createVarPre, ite_eq_cond]
    simp only [zigzag_toK, hasCps_toK, lowPoint_toK, lowPoint_pre_toK, NudgeK.zigzag_pre]
    simp only [toK, ptOf_length, hd, decide_true, Bool.and_self, Bool.true_and, Bool.and_true, Bool.cond_self]
    rfl

/-- `hasCheckpointAtPosition(position, altDim)` -/
theorem gen_hasCheckpointAtPosition_is_model (o : ROpts) (dim : Nat) (hd : dim < 2) (s : RSeg) (position : Rat) :
    NudgeK.hasCheckpointAtPosition position ((dim + 1) % 2) (toK o dim s) = s.hasCpAt position := by
  unfold NudgeK.hasCheckpointAtPosition
  rw [Nat.sub_zero, hasCp_loop, loopExit_scanE, ite_eq_cond, cond_true_false]
  rcases dim_cases hd with rfl | rfl <;>
    simp [toK, ptOf, RSeg.hasCpAt, List.any_map, Function.comp_def] <;> (congr 1)

/-- … and its in-bounds obligations (`cp < checkpoints.size()`, coordinate index `< 2`) hold: the `getD` reads of the
    regenerated kernel never fall back to the default on the object of a model segment -/
theorem gen_hasCheckpointAtPosition_no_assertion (o : ROpts) (dim : Nat) (s : RSeg) (d : Nat) (hd : d < 2) (position : Rat) :
    NudgeK.hasCheckpointAtPosition_pre position d (toK o dim s) = true := by
  unfold NudgeK.hasCheckpointAtPosition_pre
  rw [Nat.sub_zero, hasCp_loop_pre position d (toK o dim s) _ (fun c hc => by rw [toK_cp_len o dim s c hc]; exact hd),
    loopExitPre_of _ _ (fun _ => rfl)]
  rfl

/-- `shouldAlignWith` (calls the regenerated `overlapsWith`, `lowPoint`, `highPoint`,
    `hasCheckpointAtPosition`) -/
theorem gen_shouldAlignWith_is_model (o : ROpts) (dim : Nat) (hd : dim < 2) (a b : RSeg) :
    NudgeK.shouldAlignWith (toK o dim b) dim (toK o dim a) = shouldAlignWith o a b := by
  simp only [NudgeK.shouldAlignWith, shouldAlignWith, ite_eq_cond]
  simp only [gen_overlapsWith_is_model o dim hd, gen_hasCheckpointAtPosition_is_model o dim hd, lowPoint_toK, highPoint_toK,
    ptOf_alt hd, ptOf_dim hd, earlyExit_cond, earlyExit_some, earlyExit_none, hasCps_toK, absR_eq_absQ, if_true, promoted_ne,
    promoted_ne_one]
  simp only [toK, cond_true_false]
  by_cases h1 : a.lo = b.hi <;> by_cases h2 : a.hi = b.lo <;>
    simp only [h1, h2, decide_true, decide_false, cond_true, cond_false, if_true, if_false, Bool.true_and, Bool.false_and] <;>
    rfl

/-- … and all its in-bounds obligations hold (point reads, the two calls of `hasCheckpointAtPosition`, the call of
    `overlapsWith`) -/
theorem gen_shouldAlignWith_no_assertion (o : ROpts) (dim : Nat) (hd : dim < 2) (a b : RSeg) :
    NudgeK.shouldAlignWith_pre (toK o dim b) dim (toK o dim a) = true := by
  have h2 : (dim + 1) % 2 < 2 := Nat.mod_lt _ (by decide)
  simp only [NudgeK.shouldAlignWith_pre, ite_eq_cond]
  simp only [gen_overlapsWith_no_assertion o dim, gen_hasCheckpointAtPosition_no_assertion o dim _ _ h2,
    lowPoint_toK, highPoint_toK, lowPoint_pre_toK, highPoint_pre_toK, ptOf_length, h2, hd, earlyExitPre_true,
    decide_true, Bool.and_self, Bool.or_true, Bool.cond_self]

-- non-vacuity of the hypothesis `hr` of `gen_createSolverVariable_is_model` (exact arithmetic: `rnd = id`), on a zigzag
-- segment (the only branch that rounds): the centre of [0, 30]
example : (NudgeK.createSolverVariable false (toK ⟨false, true, false, 0, fun _ _ => false, false, 10, id⟩ 0
      ⟨1, 0, 100, 5, 0, 30, false, false, false, false, true, false, []⟩)).var_ =
    some ⟨0, 15, freeWeight, 1⟩ := by
  rw [(gen_createSolverVariable_is_model ⟨false, true, false, 0, fun _ _ => false, false, 10, id⟩ (fun _ => rfl) 0 (by decide)
    ⟨1, 0, 100, 5, 0, 30, false, false, false, false, true, false, []⟩).1]
  decide +kernel

end AdaptaVerif.Props.C10Tie
