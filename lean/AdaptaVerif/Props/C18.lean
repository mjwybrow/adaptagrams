/-
C18 — libdialect: separation-constraint transforms commute with geometry and compose like the
symmetry group of the square; storing under (a,b) vs the negation under (b,a); TGLF round trip.

All theorems are about the hand-written model `AdaptaVerif.Model.Sep` (tied to the C++ by the
exhaustive / random correspondence of driver mode c18) and hold for **all** inputs: every SepPair
(any gap types, relations, gaps of either sign including ±0, any flag / precision), every placement,
every extra boundary gap, every matrix state.

`Sat extra sp p` (Spec/Sep.lean) = the two `vpsc::Constraint`s generated for `sp` hold for the
placement `p` (centres and sizes of src and tgt); `sat_iff_vpsc` ties it to the id-level
`generateSeparationConstraint`.
-/
import AdaptaVerif.Lemmas.SepTglf
namespace AdaptaVerif.Props.C18
open AdaptaVerif.Num AdaptaVerif.Model.Sep AdaptaVerif.Spec.Sep AdaptaVerif.Lemmas.Sep
open AdaptaVerif.Model.Sep.SepMatrix

/-- `Sat` is exactly "the constraints produced by `SepPair::generateSeparationConstraint` in the two
    dimensions hold", for arbitrary node sizes and positions indexed by node id. -/
theorem sat_iff_vpsc (extra : Rat) (sp : SepPair) (size : Nat → Dim → Rat) (posX posY : Nat → Rat) :
    Sat extra sp { sx := posX sp.src, sy := posY sp.src, sw := size sp.src .x, sh := size sp.src .y,
                   tx := posX sp.tgt, ty := posY sp.tgt, tw := size sp.tgt .x, th := size sp.tgt .y } ↔
    (∀ c, sp.generateSeparationConstraint .x extra size = some c → VCon.holds c posX) ∧
    (∀ c, sp.generateSeparationConstraint .y extra size = some c → VCon.holds c posY) :=
  and_congr (conHolds_iff_holds _ sp.src sp.tgt posX) (conHolds_iff_holds _ sp.src sp.tgt posY)

/-! ## (1) equivariance -/

/-- For every SepPair, each of the eight symmetries `tf`, every placement and extra boundary gap:
    the placement satisfies the pair iff the transformed placement (centres through the plane map,
    widths/heights exchanged by the axis-swapping symmetries) satisfies the transformed pair. -/
theorem transform_equivariant (extra : Rat) (sp : SepPair) (tf : SepTransform) (p : Placement) :
    Sat extra sp p ↔ Sat extra (sp.transform tf) (p.apply tf) := by
  -- a transform exchanges the two dimensions or not, and reflects some of them (`conHolds_neg`)
  cases tf <;>
    simp only [Sat, SepPair.transform, Placement.apply, SepTransform.applyPt,
      SepTransform.swapsAxes, conHolds_neg, Bool.false_eq_true, if_false, if_true] <;>
    first
      | exact Iff.rfl
      | exact and_comm

/-- Matrix level: `SepMatrix::transform(tf)` commutes with the placement transform for the record of
    every id pair `k` (an absent record constrains nothing), in every matrix state. -/
theorem transform_equivariant_matrix (m : SepMatrix) (tf : SepTransform) (k : Nat × Nat) (pl : Placement) :
    SatOpt m.extraBdryGap (m.lookup k) pl ↔
      SatOpt (m.transform tf).extraBdryGap ((m.transform tf).lookup k) (pl.apply tf) := by
  have hl : (m.transform tf).lookup k = (m.lookup k).map (·.transform tf) := lookup_mapPairs m _ k
  rw [hl]
  show _ ↔ SatOpt m.extraBdryGap _ _
  cases m.lookup k with
  | none => simp [SatOpt]
  | some sp => exact transform_equivariant m.extraBdryGap sp tf pl

/-! ## (2) the transforms compose like the symmetry group of the square — with plain equality -/

/-- full 8×8 composition table: doing `b` and then `a` **equals** (all fields, including the sign
    bits of zero gaps, flag and precision) doing `a.comp b` -/
theorem transform_group (a b : SepTransform) (sp : SepPair) :
    (sp.transform b).transform a = sp.transform (a.comp b) := by
  cases a <;> cases b <;> simp only [SepPair.transform, SepTransform.comp, SZ.neg_neg]

/-- `comp` is the product of the dihedral group D4 realised on the plane: it is the composition of
    the eight plane maps, these are pairwise distinct, and `comp` is associative with identity
    `ident` and inverses. -/
theorem transform_group_is_D4 :
    (∀ a b x y, SepTransform.applyPt a (SepTransform.applyPt b x y).1 (SepTransform.applyPt b x y).2
        = SepTransform.applyPt (a.comp b) x y) ∧
    (∀ a b : SepTransform, a.applyPt 1 2 = b.applyPt 1 2 → a = b) ∧
    (∀ a b c : SepTransform, (a.comp b).comp c = a.comp (b.comp c)) ∧
    (∀ a : SepTransform, SepTransform.ident.comp a = a ∧ a.comp .ident = a) ∧
    (∀ a : SepTransform, ∃ b, a.comp b = .ident ∧ b.comp a = .ident) := by
  refine ⟨applyPt_comp, applyPt_injective, comp_assoc, ?_, ?_⟩
  · intro a; cases a <;> exact ⟨rfl, rfl⟩
  · intro a
    have table : ∀ a ∈ SepTransform.all, ∃ b ∈ SepTransform.all, a.comp b = .ident ∧ b.comp a = .ident := by
      decide
    obtain ⟨b, _, hb⟩ := table a (mem_all a)
    exact ⟨b, hb⟩

/-- the action on placements is a group action too -/
theorem placement_action (a b : SepTransform) (p : Placement) :
    (p.apply b).apply a = p.apply (a.comp b) := by
  simp only [Placement.apply, swapsAxes_comp, ← applyPt_comp]
  cases a.swapsAxes <;> cases b.swapsAxes <;> rfl

/-- four quarter turns (either sense) give back the original constraint -/
theorem four_quarter_turns (sp : SepPair) :
    (((sp.transform .rotate90cw).transform .rotate90cw).transform .rotate90cw).transform .rotate90cw = sp ∧
    (((sp.transform .rotate90acw).transform .rotate90acw).transform .rotate90acw).transform .rotate90acw = sp := by
  simp only [transform_group]
  exact ⟨rfl, rfl⟩

/-- two equal flips (and two half turns) give back the original constraint -/
theorem equal_flips_cancel (sp : SepPair) :
    (sp.transform .flipv).transform .flipv = sp ∧ (sp.transform .fliph).transform .fliph = sp ∧
    (sp.transform .flipmd).transform .flipmd = sp ∧ (sp.transform .flipod).transform .flipod = sp ∧
    (sp.transform .rotate180).transform .rotate180 = sp := by
  simp only [transform_group]
  exact ⟨rfl, rfl, rfl, rfl, rfl⟩

/-! ## (3) storing under (a,b) vs the negation under (b,a): fresh pair -/

/-- On any matrix that has no record for `{a,b}` yet (in particular a fresh matrix), with either flag
    semantics (`fixedFlag`, see `getSepPair`): `addSep(a,b,gt,sd,st,gap)` and
    `addSep(b,a,gt,negateSepDir sd,st,gap)` both succeed and leave observationally equivalent
    matrices (every pair of ids is satisfied by the same placements). -/
theorem flip_storage_fresh (fixedFlag : Bool) (m : SepMatrix) (a b : Nat) (hab : a ≠ b)
    (hfresh : m.lookup (key a b) = none) (gt : GapType) (sd : SepDir) (st : SepType) (g : SZ) :
    ∃ m₁ m₂, m.addSep fixedFlag a b gt sd st g = some m₁ ∧
      m.addSep fixedFlag b a gt (negateSepDir sd) st g = some m₂ ∧ MatrixEquiv m₁ m₂ :=
  flip_storage fixedFlag m a b hab (Or.inr hfresh) gt sd st g

example : ∃ m₁ m₂, SepMatrix.empty.addSep false 4 17 .bdry .west .ineq ⟨false, 200⟩ = some m₁ ∧
    SepMatrix.empty.addSep false 17 4 .bdry .east .ineq ⟨false, 200⟩ = some m₂ ∧ MatrixEquiv m₁ m₂ :=
  flip_storage_fresh false .empty 4 17 (by decide) (by decide) .bdry .west .ineq ⟨false, 200⟩

/-! ## (4) … after a history

Full statement (`flip_storage_history`): for **every** matrix state `m` (so after any history of
operations), `a ≠ b`: `addSep(a,b,…,sd,…)` ≈ `addSep(b,a,…,negateSepDir sd,…)`.

It is FALSE of the code as found (`fixedFlag = false`: `getSepPair` wrote `flippedRetrieval`
only when it created the pair): see the witness below, replayed on the C++ by the harness
(class `flip-history`, first case). It is TRUE once the flag is written on every retrieval
(`fixedFlag = true`), which is what /repo does since fix e3a1189. -/

/-- the state after the one-call history `addSep(1, 0, CENTRE, EAST, INEQ, 5)` -/
def witnessState : SepMatrix :=
  runOps false .empty [.addSep 1 0 .centre .east .ineq ⟨false, 5⟩]

/-- what the code as found stored for `addSep(0, 1, CENTRE, EAST, INEQ, 10)` in that state -/
def witnessAfter : SepMatrix :=
  runOps false witnessState [.addSep 0 1 .centre .east .ineq ⟨false, 10⟩]

/-- the stored pair is "tgt WEST of src by ≥ 10" (sign bit set), and `writeTglf` says `C W >=` -/
theorem flip_storage_history_witness_stored :
    witnessAfter.lookup (0, 1) = some
      { src := 0, tgt := 1, xgt := .centre, xst := .ineq, xgap := ⟨true, 10⟩,
        ygt := .centre, yst := .eq, ygap := ⟨false, 0⟩, flippedRetrieval := true } ∧
    (witnessAfter.writeTglf.map (·.map fun l => (l.src, l.tgt, l.gt, l.dir, l.isEq)))
      = some [(0, 1, .centre, .W, false)] := by
  decide

/-- what the code as found stored for the opposite request under (1, 0):
    `addSep(1, 0, CENTRE, WEST, INEQ, 10)` -/
def witnessAfterFlipped : SepMatrix :=
  runOps false witnessState [.addSep 1 0 .centre .west .ineq ⟨false, 10⟩]

/-- the requested constraint "1 is EAST of 0 by ≥ 10" is satisfied by 0 at (0,0), 1 at (10,0) —
    the stored one is not: the code as found violated the history version of flip storage -/
theorem flip_storage_history_witness :
    ∃ m₁ m₂, witnessState.addSep false 0 1 .centre .east .ineq ⟨false, 10⟩ = some m₁ ∧
      witnessState.addSep false 1 0 .centre .west .ineq ⟨false, 10⟩ = some m₂ ∧
      ¬ MatrixEquiv m₁ m₂ := by
  refine ⟨witnessAfter, witnessAfterFlipped, by decide, by decide, ?_⟩
  intro h
  have h1 := h (0, 1) ⟨0, 0, 1, 1, 10, 0, 1, 1⟩
  have l1 := flip_storage_history_witness_stored.1
  have l2 : witnessAfterFlipped.lookup (0, 1) = some
      { src := 0, tgt := 1, xgt := .centre, xst := .ineq, xgap := ⟨false, 10⟩,
        ygt := .centre, yst := .eq, ygap := ⟨false, 0⟩, flippedRetrieval := true } := by decide
  rw [l1, l2] at h1
  simp only [SatOpt] at h1
  exact absurd h1 (by decide +kernel)

/-- Second trigger of the stale flag, confirmed on the C++ as found as well: `checkSepPair` (behind the
    read-only queries `getCardinalDir`, `areHAligned`, `areVAligned`) writes the flag into the *stored* pair. After
    `addSep(0,1,C,EAST,≥,5); getCardinalDir(1,0)` the request `addSep(0,1,C,EAST,≥,10)` — same
    orientation as the one that created the pair — is stored as `W ≥ 10`. -/
theorem flip_storage_query_witness :
    (runOps false .empty
      [.addSep 0 1 .centre .east .ineq ⟨false, 5⟩, .getCardinalDir 1 0,
       .addSep 0 1 .centre .east .ineq ⟨false, 10⟩]).lookup (0, 1) = some
      { src := 0, tgt := 1, xgt := .centre, xst := .ineq, xgap := ⟨true, 10⟩,
        ygt := .centre, yst := .eq, ygap := ⟨false, 0⟩, flippedRetrieval := true } ∧
    (runOps true .empty
      [.addSep 0 1 .centre .east .ineq ⟨false, 5⟩, .getCardinalDir 1 0,
       .addSep 0 1 .centre .east .ineq ⟨false, 10⟩]).lookup (0, 1) = some
      { src := 0, tgt := 1, xgt := .centre, xst := .ineq, xgap := ⟨false, 10⟩,
        ygt := .centre, yst := .eq, ygap := ⟨false, 0⟩, flippedRetrieval := false } := by
  decide

/-- hence the history statement is false for the flag semantics as found (`fixedFlag = false`) -/
theorem flip_storage_history_false_as_coded :
    ¬ ∀ (m : SepMatrix) (a b : Nat), a ≠ b → ∀ (gt : GapType) (sd : SepDir) (st : SepType) (g : SZ),
      ∃ m₁ m₂, m.addSep false a b gt sd st g = some m₁ ∧
        m.addSep false b a gt (negateSepDir sd) st g = some m₂ ∧ MatrixEquiv m₁ m₂ := by
  intro h
  obtain ⟨m₁, m₂, h₁, h₂, he⟩ := h witnessState 0 1 (by decide) .centre .east .ineq ⟨false, 10⟩
  obtain ⟨n₁, n₂, k₁, k₂, hn⟩ := flip_storage_history_witness
  rw [h₁] at k₁
  have k₂' : witnessState.addSep false 1 0 .centre (negateSepDir .east) .ineq ⟨false, 10⟩ = some n₂ := k₂
  rw [h₂] at k₂'
  cases k₁; cases k₂'
  exact hn he

/-- (4) for the repaired `getSepPair` (flag written on every retrieval): in **every** matrix state,
    storing under (a,b) and storing the opposite direction under (b,a) are observationally
    equivalent (`IMPL_FLAG = "fixed"` in check/props/C18.py compares the C++ with this semantics). -/
theorem flip_storage_history (m : SepMatrix) (a b : Nat) (hab : a ≠ b) (gt : GapType) (sd : SepDir)
    (st : SepType) (g : SZ) :
    ∃ m₁ m₂, m.addSep true a b gt sd st g = some m₁ ∧
      m.addSep true b a gt (negateSepDir sd) st g = some m₂ ∧ MatrixEquiv m₁ m₂ :=
  flip_storage true m a b hab (Or.inl rfl) gt sd st g

/-- non-vacuity: the repaired semantics on the very state of the witness -/
example : ∃ m₁ m₂, witnessState.addSep true 0 1 .centre .east .ineq ⟨false, 10⟩ = some m₁ ∧
    witnessState.addSep true 1 0 .centre .west .ineq ⟨false, 10⟩ = some m₂ ∧ MatrixEquiv m₁ m₂ :=
  flip_storage_history witnessState 0 1 (by decide) .centre .east .ineq ⟨false, 10⟩

/-! ## (5) TGLF round trip -/

/-- For every stored pair (`src < tgt`, the SepMatrix invariant) whose gaps — and the matrix's extra
    boundary gap, which is non-negative — are multiples of `10^-tglfPrecision`: if `writeTglf`
    produces lines (it throws only for the "constrained to coincide" pair), the SEPCO reader applied
    to exactly these lines on a fresh graph (extra gap 0; either flag semantics) stores a pair that
    the same placements satisfy. Covers the `C X == 0` / `C Y == 0` forms, cardinal and lateral
    letters, BDRY gaps with the extra gap folded into the written number, and ±0 gaps. -/
theorem tglf_roundtrip (fixedFlag : Bool) (sp : SepPair) (extra : Rat) (ls : List TglfLine)
    (hlt : sp.src < sp.tgt)
    (hx : IsMultipleOfPrec sp.tglfPrecision sp.xgap) (hy : IsMultipleOfPrec sp.tglfPrecision sp.ygap)
    (he : RatMultiple sp.tglfPrecision extra)
    (hw : sp.writeTglf extra = some ls) :
    ∃ m, readSepcos fixedFlag ls = some m ∧ m.extraBdryGap = 0 ∧
      ∀ pl, SatOpt 0 (m.lookup (sp.src, sp.tgt)) pl ↔ Sat extra sp pl := by
  have ids := writeTglf_ids sp extra ls hw
  refine ⟨_, readFrom_eq fixedFlag ls (fun l h => by rw [(ids l h).1, (ids l h).2]; exact hlt) .empty fun _ _ => rfl,
    readPure_extra .empty ls, fun pl => ?_⟩
  -- all lines are for `(src, tgt)`: the record read back is their decoding on a fresh pair
  rw [satOpt_lookup, startPair_readPure, List.filter_eq_self.mpr fun l h => by simp [ids l h]]
  exact decoded_sat sp extra ls hx hy he hw pl

/-- "17 lies WEST of 4 by at least 200.5 between boundaries" (with extra gap 1.5 in the matrix) -/
def roundtripExample : SepPair :=
  { src := 4, tgt := 17, xgt := .bdry, xst := .ineq, xgap := ⟨true, 401 / 2⟩,
    ygt := .centre, yst := .eq, ygap := ⟨true, 0⟩ }

/-- non-vacuity: the example is written (as one line) and all hypotheses hold -/
example : (∃ ls, roundtripExample.writeTglf (3 / 2) = some ls) ∧
    roundtripExample.src < roundtripExample.tgt ∧
    IsMultipleOfPrec 3 roundtripExample.xgap ∧ IsMultipleOfPrec 3 roundtripExample.ygap ∧
    RatMultiple 3 (3 / 2) := by
  refine ⟨?_, by decide, ?_, ?_, ?_⟩
  · simp [roundtripExample, SepPair.writeTglf, SZ.isZero, SZ.signbit]
  · exact ⟨200500, by decide +kernel⟩
  · exact ⟨0, by decide +kernel⟩
  · exact ⟨1500, by decide +kernel⟩

-- the theorem instantiated on the example (written lines exist, are read back, and the stored pair is equivalent)
example : ∃ ls m, roundtripExample.writeTglf (3 / 2) = some ls ∧ readSepcos false ls = some m ∧
    ∀ pl, SatOpt 0 (m.lookup (4, 17)) pl ↔ Sat (3 / 2) roundtripExample pl := by
  have hw : ∃ ls, roundtripExample.writeTglf (3 / 2) = some ls := by
    simp [roundtripExample, SepPair.writeTglf, SZ.isZero, SZ.signbit]
  obtain ⟨ls, hls⟩ := hw
  obtain ⟨m, h1, _, h3⟩ := tglf_roundtrip false roundtripExample (3 / 2) ls (by decide)
    ⟨200500, by decide +kernel⟩ ⟨0, by decide +kernel⟩
    ⟨1500, by decide +kernel⟩ hls
  exact ⟨ls, m, hls, h1, h3⟩

/-- Matrix level. For every well-formed matrix (`MatrixOK`: no two records under one key, every
    record filed under `(src, tgt)` with `src < tgt`, gaps and the extra boundary gap multiples of
    `10^-tglfPrecision` of the record): if `SepMatrix::writeTglf` produces the SEPCO lines `ls`, then
    `readSepcos` on an empty matrix (a fresh graph, extra gap 0; either flag semantics) accepts them
    and the matrix read back is `MatrixEquiv` to the original: for every id pair the same placements
    satisfy both (records without any constraint are simply absent after the round trip).
    Every matrix reachable by an `Op` history satisfies the structural part of `MatrixOK`
    (`reachable_structOK`); the multiples part is a hypothesis on the values. -/
theorem tglf_roundtrip_matrix (fixedFlag : Bool) (m : SepMatrix) (hm : MatrixOK m) (ls : List TglfLine)
    (hw : m.writeTglf = some ls) :
    ∃ m', readSepcos fixedFlag ls = some m' ∧ m'.extraBdryGap = 0 ∧ MatrixEquiv m' m := by
  rw [writeTglf_eq_writeL] at hw
  have hlt : ∀ l ∈ ls, l.src < l.tgt := fun l hl => by
    obtain ⟨e, he, h1, h2⟩ := mem_writeL _ _ ls hw l hl
    rw [h1, h2]; exact (hm.entries e he).lt
  have hex := readPure_extra .empty ls
  refine ⟨_, readFrom_eq fixedFlag ls hlt .empty fun _ _ => rfl, hex, fun (s, t) pl => ?_⟩
  rw [satOpt_lookup, satOpt_lookup, hex, startPair_readPure]
  exact decoded_list m.extraBdryGap s t pl m.pairs hm.nodup hm.entries ls hw

/-- Every state reachable from the empty matrix by any `Op` history (17 operation kinds, either flag
    semantics) is sorted by key and files each record under its own `(src, tgt)` with `src < tgt`. -/
theorem reachable_structOK (fixedFlag : Bool) (ops : List Op) : StructOK (runOps fixedFlag .empty ops) :=
  structOK_runOps fixedFlag ops _ ⟨List.Pairwise.nil, fun e he => by cases he⟩

/-- The matrix-level round trip for every reachable state whose stored values are multiples of
    `10^-precision` (`ValuesOK`). -/
theorem tglf_roundtrip_reachable (histFlag readFlag : Bool) (ops : List Op)
    (hv : ValuesOK (runOps histFlag .empty ops)) (ls : List TglfLine)
    (hw : (runOps histFlag .empty ops).writeTglf = some ls) :
    ∃ m', readSepcos readFlag ls = some m' ∧ m'.extraBdryGap = 0 ∧
      MatrixEquiv m' (runOps histFlag .empty ops) :=
  tglf_roundtrip_matrix readFlag _ (matrixOK_of_structOK _ (reachable_structOK histFlag ops) hv) ls hw

/-- a two-record history with extra gap 2: "1 WEST of 0, boundaries ≥ 200 apart" (addressed in
    reverse), "2 below-right of 0" -/
def roundtripHistory : List Op :=
  [.setExtraBdryGap 2, .addSep 1 0 .bdry .east .ineq ⟨false, 200⟩,
   .addSep 0 2 .centre .right .ineq ⟨false, 7⟩, .addSep 0 2 .bdry .down .eq ⟨true, 0⟩]

-- non-vacuity of tglf_roundtrip_reachable AND tglf_roundtrip_matrix: the history's state (two records) has the values
-- property, is `MatrixOK`, and is written
example : ValuesOK (runOps true .empty roundtripHistory) ∧ MatrixOK (runOps true .empty roundtripHistory) ∧
    (runOps true .empty roundtripHistory).pairs.length = 2 ∧
    ∃ ls, (runOps true .empty roundtripHistory).writeTglf = some ls := by
  have hp : (runOps true .empty roundtripHistory).pairs =
      [((0, 1), { src := 0, tgt := 1, xgt := .bdry, xst := .ineq, xgap := ⟨true, 200⟩, ygt := .centre,
                  yst := .eq, ygap := ⟨false, 0⟩, flippedRetrieval := true }),
       ((0, 2), { src := 0, tgt := 2, xgt := .centre, xst := .ineq, xgap := ⟨false, 7⟩, ygt := .bdry,
                  yst := .eq, ygap := ⟨true, 0⟩, flippedRetrieval := false })] := by decide
  have he : (runOps true .empty roundtripHistory).extraBdryGap = 2 := by decide
  have hv : ValuesOK (runOps true .empty roundtripHistory) := by
    intro e hmem
    rw [hp] at hmem
    rw [he]
    simp only [List.mem_cons, List.not_mem_nil, or_false] at hmem
    rcases hmem with rfl | rfl
    · exact ⟨⟨200000, by decide +kernel⟩, ⟨0, by decide +kernel⟩, ⟨2000, by decide +kernel⟩⟩
    · exact ⟨⟨7000, by decide +kernel⟩, ⟨0, by decide +kernel⟩, ⟨2000, by decide +kernel⟩⟩
  refine ⟨hv, matrixOK_of_structOK _ (reachable_structOK true roundtripHistory) hv, by rw [hp]; rfl, ?_⟩
  rw [writeTglf_eq_writeL, hp, he]
  simp [writeL, SepPair.writeTglf, SZ.isZero, SZ.signbit]

end AdaptaVerif.Props.C18
