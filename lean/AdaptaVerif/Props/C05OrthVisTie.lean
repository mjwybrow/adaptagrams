/-
C05 — tie of `Model/OrthVis.lean` to the C++ by regeneration: `LineSegment::overlaps` (orthogonal.cpp), the
test by which `SegmentListWrapper::insert` decides which candidate segments are merged, is regenerated from
/repo's source on every run (`Gen/OrthVisK.lean`, job `orthvis` of tools/cpp2lean/jobs_orthvis.py) and proved
equal to the model's `Seg.overlaps`.
-/
import AdaptaVerif.Gen.OrthVisK
import AdaptaVerif.Model.OrthVis
import AdaptaVerif.Lemmas.GenLoopBridge

namespace AdaptaVerif.Props.C05OrthVisTie
open AdaptaVerif.Model.OrthVis AdaptaVerif.Model.CmpKeys

/-- a model segment as the record the generated kernel reads (`shapeSide` is not read by `overlaps`) -/
def keyOf (s : Seg) : LineSegKey := ⟨s.b, s.p, s.f, false⟩

/-- the generated `LineSegment::overlaps` is the model's `Seg.overlaps` on every pair of segments whose
    receiver satisfies the class invariant `begin ≤ finish` (both constructors establish it; the first
    clause of the C++ — "lines are exactly equal" — is then subsumed by the second) -/
theorem gen_overlaps_is_model (a b : Seg) (wa : a.b ≤ a.f) :
    AdaptaVerif.Gen.OrthVisK.lineSegmentOverlaps (keyOf b) (keyOf a) = a.overlaps b := by
  unfold AdaptaVerif.Gen.OrthVisK.lineSegmentOverlaps Seg.overlaps keyOf AdaptaVerif.Gen.earlyExit
  simp only
  by_cases hp : a.p = b.p
  · cases hX : ((decide (a.b ≥ b.b) && decide (a.b ≤ b.f)) || (decide (b.b ≥ a.b) && decide (b.b ≤ a.f)))
    · have hne : ¬ (a.b = b.b ∧ a.f = b.f) := by
        rintro ⟨e1, e2⟩
        rw [← e1, ← e2] at hX
        simp [wa] at hX
      simp [hp, hne]
    · simp [hp]
  · simp [hp]

/-- the kernel has no reachable assertion -/
theorem gen_overlaps_pre (a b : Seg) :
    AdaptaVerif.Gen.OrthVisK.lineSegmentOverlaps_pre (keyOf b) (keyOf a) = true := by
  unfold AdaptaVerif.Gen.OrthVisK.lineSegmentOverlaps_pre
  simp only [ite_self, AdaptaVerif.Lemmas.GenLoopBridge.earlyExitPre_true, Bool.and_self]

-- `gen_overlaps_is_model` is not an equation between constants: both answers occur (receiver well formed)
example : AdaptaVerif.Gen.OrthVisK.lineSegmentOverlaps (keyOf ⟨1, 3, 1, []⟩) (keyOf ⟨0, 2, 1, []⟩) = true ∧
    AdaptaVerif.Gen.OrthVisK.lineSegmentOverlaps (keyOf ⟨3, 4, 1, []⟩) (keyOf ⟨0, 2, 1, []⟩) = false := by decide +kernel

end AdaptaVerif.Props.C05OrthVisTie
