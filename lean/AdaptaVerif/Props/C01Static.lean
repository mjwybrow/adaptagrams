/-
Property C01, the STATIC solver `vpsc::Solver` (solve_VPSC.cpp `Solver::satisfy/refine/solve`, blocks.cpp
`mergeLeft/mergeRight/split`, block.cpp heaps + `CompareConstraints`): theorems about its executable
model `Model/VpscStatic.lean`, which the C01 driver runs against the real solver on every case
(positions, active set, block partition, return value / throw, under the margin guard).

All statements are for every number of variables / constraints and arbitrary rational data.
What is NOT proved (and why the names below carry no claim about it): that on an acyclic inequality
system `satisfy` never throws (the VPSC paper's merge invariant — it needs the argument that blocks to the
left only ever move left, through the lazily repaired heaps); here that is observed, case by case, by the
correspondence with the real solver plus the proven post-condition checker (and 1.5 million adversarial
DAGs, all weights/gap styles, on which the real solver never threw).  The model contains no dynamic check
and no modelling shortcut: heaps are the pairing heaps of pairing_heap.h with the comparator evaluated on
the live state.
-/
import AdaptaVerif.Lemmas.VpscStatic
import AdaptaVerif.Lemmas.VpscStaticOrder
import AdaptaVerif.Lemmas.VpscStaticRun
import AdaptaVerif.Lemmas.VpscStaticTotal
import AdaptaVerif.Lemmas.VpscStaticFuel
import AdaptaVerif.Lemmas.VpscStaticMove
import AdaptaVerif.Lemmas.VpscKktOpt
import AdaptaVerif.Props.C02Model
import AdaptaVerif.Gen.Comparators
namespace AdaptaVerif.Props.C01Static
open AdaptaVerif.Model.Vpsc AdaptaVerif.Model.VpscStatic AdaptaVerif.Model.CmpKeys
open AdaptaVerif.Lemmas.VpscInv AdaptaVerif.Lemmas.VpscStatic AdaptaVerif.Lemmas.VpscKktOpt
open AdaptaVerif.Lemmas.VpscStaticMem
open AdaptaVerif.Gen.Comparators (compareConstraints)
open AdaptaVerif.Spec.Qp (KKT IsOptimum)

/-- `DBL_MAX` -/
def DBLMAX : Rat := 179769313486231570814527423731704356798070567525844996598917476803157260780028538760589558632766878171540458953514382464234321326889464182768467546703537516986049910576551282076245490090389328944075868508455133942304583236903222948165808559332123348274797826204144723168738177180919299881250404026184124858368

/-- what `CompareConstraints` reads of constraint `ci` in a state of the static solver -/
def keyOf (st : St) (hs : HS) (ci : Nat) : ConKey :=
  { blockTs := (hs.bts[blkOf st (st.cons[ci]!).l]! : Nat), ts := (hs.cts[ci]! : Nat),
    lblock := blkOf st (st.cons[ci]!).l, rblock := blkOf st (st.cons[ci]!).r,
    slack := rawSlack st ci, lid := ((st.cons[ci]!).l : Nat), rid := ((st.cons[ci]!).r : Nat) }

/-- **the model's heap order is the regenerated `CompareConstraints::operator()`** evaluated on the
    current state (finite slacks; `-DBL_MAX` = the model's `none` key for out-of-date / internal
    constraints).  A change of the comparison in constraint.cpp changes `compareConstraints` and breaks
    this theorem. -/
theorem gen_compareConstraints_is_model (st : St) (hs : HS) (a b : Nat)
    (ha : -DBLMAX < rawSlack st a) (hb : -DBLMAX < rawSlack st b) :
    conLt st hs a b = compareConstraints (keyOf st hs a) (keyOf st hs b) := by
  unfold conLt key compareConstraints keyOf stale internal idLt
  unfold DBLMAX at ha hb
  generalize rawSlack st a = x at *
  generalize rawSlack st b = y at *
  simp only [Bool.or_eq_true, decide_eq_true_eq, beq_iff_eq]
  by_cases h1 : hs.cts[a]! < hs.bts[blkOf st (st.cons[a]!).l]! ∨ blkOf st (st.cons[a]!).l = blkOf st (st.cons[a]!).r <;>
  by_cases h2 : hs.cts[b]! < hs.bts[blkOf st (st.cons[b]!).l]! ∨ blkOf st (st.cons[b]!).l = blkOf st (st.cons[b]!).r <;>
  simp only [h1, h2, if_true, if_false] <;> grind

open AdaptaVerif.Lemmas.VpscStaticOrder in
/-- **static_totalOrder_topological**: for `Solver(vs, cs)` on well-formed input whose constraint graph is
    acyclic, `Blocks::totalOrder()` (the depth-first search `dfsVisit` from every variable without
    incoming constraint, finished variables pushed to the front) does not run out of fuel and returns a
    topological order: no variable twice, every variable listed, and for every constraint the left
    variable strictly before the right variable.  All n, m, constraint multigraphs (duplicates included). -/
theorem static_totalOrder_topological (vs : Array (Rat × Rat × Rat)) (cs : Array Con)
    (hv : ∀ c ∈ cs, c.l < vs.size ∧ c.r < vs.size ∧ c.unsat = false)
    (hac : Acyclic (SSt.init vs cs).st) :
    (totalOrder (SSt.init vs cs).st).2 = true ∧
    (totalOrder (SSt.init vs cs).st).1.Nodup ∧
    (∀ v, v < (SSt.init vs cs).st.vars.size → v ∈ (totalOrder (SSt.init vs cs).st).1) ∧
    ∀ ci, ci < (SSt.init vs cs).st.cons.size →
      Before (totalOrder (SSt.init vs cs).st).1 ((SSt.init vs cs).st.cons[ci]!).l ((SSt.init vs cs).st.cons[ci]!).r := by
  have hI := init_inv vs cs hv
  have hok := totalOrder_ok (SSt.init vs cs).st hI
  exact ⟨hok, totalOrder_topological (SSt.init vs cs).st hI hac hok⟩

open AdaptaVerif.Lemmas.VpscStaticOrder in
/-- `totalOrder` never runs out of the model's fuel, whatever the graph (cycles included) -/
theorem static_totalOrder_total (vs : Array (Rat × Rat × Rat)) (cs : Array Con)
    (hv : ∀ c ∈ cs, c.l < vs.size ∧ c.r < vs.size ∧ c.unsat = false) :
    (totalOrder (SSt.init vs cs).st).2 = true :=
  totalOrder_ok (SSt.init vs cs).st (init_inv vs cs hv)

-- non-vacuity: an acyclic system (0 → 2, 0 → 1, 1 → 3) and its order
#guard (totalOrder (SSt.init #[(10, 1, 1), (0, 1, 1), (-100, 1000, 1), (-50, 1, 1)]
          #[mkCon 0 2 1 false, mkCon 0 1 1 false, mkCon 1 3 1 false]).st) == ([0, 1, 3, 2], true)

/-- the slack the solver evaluates is the slack at the reported positions (non-zero scales) -/
theorem rawSlack_positions (st : St) (ci : Nat)
    (hs : ∀ i : Nat, i < st.vars.size → (st.vars[i]!).scale ≠ 0)
    (hl : (st.cons[ci]!).l < st.vars.size) (hr : (st.cons[ci]!).r < st.vars.size) :
    rawSlack st ci =
      (st.vars[(st.cons[ci]!).r]!).scale * st.pos (st.cons[ci]!).r - (st.cons[ci]!).gap -
      (st.vars[(st.cons[ci]!).l]!).scale * st.pos (st.cons[ci]!).l := by
  unfold rawSlack
  simp only
  rw [AdaptaVerif.Lemmas.VpscModel.scale_mul_pos st _ (hs _ hr),
    AdaptaVerif.Lemmas.VpscModel.scale_mul_pos st _ (hs _ hl)]

open AdaptaVerif.Lemmas.VpscNonVac in
/-- non-vacuity of `rawSlack_positions`: `nvSt` (Lemmas/VpscNonVac.lean; scales 1 and 2), constraint 0 -/
example : ∃ (st : St) (ci : Nat), (∀ i : Nat, i < st.vars.size → (st.vars[i]!).scale ≠ 0) ∧
    (st.cons[ci]!).l < st.vars.size ∧ (st.cons[ci]!).r < st.vars.size ∧ ci < st.cons.size :=
  ⟨nvSt, 0, nvSt_scale, by simp [nvSt_cons, nvSt_vars], by simp [nvSt_cons, nvSt_vars], by simp [nvSt_cons]⟩
open AdaptaVerif.Lemmas.VpscNonVac in
example := rawSlack_positions nvSt 0 nvSt_scale (by simp [nvSt_cons, nvSt_vars]) (by simp [nvSt_cons, nvSt_vars])

/-- **static_satisfy_post**: if the model's `Solver::satisfy()` returns normally, the reported positions
    are those of the final state and every constraint has slack ≥ ZERO_UPPERBOUND there (any start state). -/
theorem static_satisfy_post (s s' : SSt) (pos : Array Rat) (ret : Bool)
    (h : s.satisfy = (s', .ok pos ret)) :
    pos = s'.st.positions ∧ s'.bad = false ∧
    ∀ ci : Nat, ci < s'.st.cons.size → ZERO_UPPERBOUND ≤ rawSlack s'.st ci := by
  have hc := satisfy_ok s pos ret (by rw [h])
  rw [h] at hc
  exact ⟨hc.2.2, hc.1, (scanStatic_iff _).1 hc.2.1⟩

/-- **static_solve_post**: the same for `Solver::solve()` = `satisfy(); refine();` (the scan at the end of
    `refine`) -/
theorem static_solve_post (s s' : SSt) (pos : Array Rat) (ret : Bool)
    (h : s.solve = (s', .ok pos ret)) :
    pos = s'.st.positions ∧ s'.bad = false ∧
    ∀ ci : Nat, ci < s'.st.cons.size → ZERO_UPPERBOUND ≤ rawSlack s'.st ci := by
  have hc := solve_ok s pos ret (by rw [h])
  rw [h] at hc
  exact ⟨hc.2.2, hc.1, (scanStatic_iff _).1 hc.2.1⟩

/-- **static_satisfy_total**: `Solver(vs, cs); satisfy()` on well-formed input always terminates within the
    model's fuel: the result is a normal return (then `static_satisfy_post` applies) or the exit scan's throw,
    never "out of fuel" — for every n, m, data, graph (cycles included).  So the theorems about normal
    returns of `satisfy` are not vacuous for lack of fuel. -/
theorem static_satisfy_total (vs : Array (Rat × Rat × Rat)) (cs : Array Con)
    (hv : ∀ c ∈ cs, c.l < vs.size ∧ c.r < vs.size ∧ c.unsat = false) :
    (∃ s pos ret, (SSt.init vs cs).satisfy = (s, .ok pos ret)) ∨ (∃ s, (SSt.init vs cs).satisfy = (s, .threw)) :=
  ok_or_threw (init_satisfy_total vs cs hv) (satisfy_outcome_bad _)

/-- **static_solve_total**: the same for `Solver(vs, cs); solve()` = `satisfy(); refine()`: the tree
    traversals of `refine` stay within their fuel too — `compute_dfdv` walks a non-backtracking walk in the
    active forest, i.e. a path of fewer than n constraints; every call of `populateSplitBlock` marks a
    variable that was still in the old block; every round of `mergeLeft` / `mergeRight` the block they are on
    gains a variable.  The result is a normal return or the throw of the exit scan, never "out of fuel" (all n, m,
    data, graphs).  So NO theorem about a normal return of the static solver's model is vacuous for lack of fuel. -/
theorem static_solve_total (vs : Array (Rat × Rat × Rat)) (cs : Array Con)
    (hv : ∀ c ∈ cs, c.l < vs.size ∧ c.r < vs.size ∧ c.unsat = false) :
    (∃ s pos ret, (SSt.init vs cs).solve = (s, .ok pos ret)) ∨ (∃ s, (SSt.init vs cs).solve = (s, .threw)) :=
  ok_or_threw (init_solve_total vs cs hv) (solve_outcome_bad _)

/-- **tree_traversals_total**: the two tree traversals shared by the static and the incremental solver model
    never exhaust their fuel `n + 1` in a state whose in/out lists are exact and whose active constraints form
    a forest (`InvC`, any `inactive` list — so also in every state of `Props/C01.block_inv`): `Block::findMinLM`
    (`compute_dfdv`) and `Block::split` (`populateSplitBlock`) leave `fuelOut` as it was. -/
theorem tree_traversals_total (st : St) {n : Nat} {ia : Array Nat} (hI : InvC st.vars st.cons n ia) :
    (∀ b, (st.findMinLM b).1.fuelOut = st.fuelOut) ∧
    (∀ old ci, ci < st.cons.size → old < st.blocks.size → (st.split old ci).1.fuelOut = st.fuelOut) :=
  ⟨fun b => AdaptaVerif.Lemmas.VpscStaticFuel.findMinLM_fuel st hI b,
   fun old ci h1 h2 => AdaptaVerif.Lemmas.VpscStaticFuel.split_fuel st hI old ci h1 h2⟩

/-- **static_satisfy_fixed_point**: if every constraint already holds at the start (`Solver(vs, cs)` places
    every variable at its desired position), `satisfy()` merges nothing and returns those positions: a feasible
    start is a fixed point of the static solver (every heap hands back a satisfied constraint or none). -/
theorem static_satisfy_fixed_point (vs : Array (Rat × Rat × Rat)) (cs : Array Con)
    (hv : ∀ c ∈ cs, c.l < vs.size ∧ c.r < vs.size ∧ c.unsat = false)
    (hfeas : ∀ ci : Nat, 0 ≤ rawSlack (SSt.init vs cs).st ci) :
    ∃ s', (SSt.init vs cs).satisfy =
        (s', .ok (SSt.init vs cs).st.positions ((SSt.init vs cs).st.cons.any (·.active))) ∧
      s'.st = (SSt.init vs cs).st.cleanup := by
  exact satisfy_idle _ hfeas (AdaptaVerif.Lemmas.VpscStaticOrder.totalOrder_ok _ (init_inv vs cs hv)) rfl
    (bad_false _ (init_bad vs cs)).1

-- non-vacuity: 0 ≤ 3 - 1 - 0
#guard (let s := SSt.init #[(0, 1, 1), (3, 1, 1)] #[mkCon 0 1 1 false]
        decide (0 ≤ rawSlack s.st 0) &&
        (match s.satisfy with | (_, .ok p a) => p[0]! == 0 && p[1]! == 3 && !a | _ => false))

/-- **static_merge_total**: from ANY state satisfying `WF` (during `satisfy` or inside `refine`), `mergeLeft`
    and `mergeRight` on a block that owns a variable end by themselves — they do not touch either fuel flag —
    and re-establish `WF`: every round of their `while` loops merges two different owning blocks, of which
    there are at most `n`, and the model's loop fuel is `m + n + 2`. -/
theorem static_merge_total (s : SSt) (b : Nat) (hw : WF s) (ho : Owns s.st b) :
    ((mergeLeft s b).hs.fuelOut = s.hs.fuelOut ∧ (mergeLeft s b).st.fuelOut = s.st.fuelOut ∧ WF (mergeLeft s b)) ∧
    ((mergeRight s b).hs.fuelOut = s.hs.fuelOut ∧ (mergeRight s b).st.fuelOut = s.st.fuelOut ∧ WF (mergeRight s b)) :=
  ⟨⟨((mergeLeft_keeps s b).2 hw ho).2, (mergeLeft_keeps s b).1.fo, ((mergeLeft_keeps s b).2 hw ho).1⟩,
   ⟨((mergeRight_keeps s b).2 hw ho).2, (mergeRight_keeps s b).1.fo, ((mergeRight_keeps s b).2 hw ho).1⟩⟩

/-- **static_block_inv_steps**: from ANY state satisfying the invariant `WF` (block invariant, sound member
    lists, sound heap contents), `mergeLeft(r)` / `mergeRight(l)` on a block that owns a variable and
    `Blocks::split(b, ·, ·, c)` (for an active constraint `c` of block `b`) lead to a state satisfying it
    (or one of the tree traversals of the split ran out of fuel). -/
theorem static_block_inv_steps (s : SSt) (h : WF s) :
    (∀ r, Owns s.st r → SW (mergeLeft s r)) ∧ (∀ l, Owns s.st l → SW (mergeRight s l)) ∧
    (∀ b c, (s.st.cons[c]!).active = true → blkOf s.st (s.st.cons[c]!).l = b → SW (splitStatic s b c)) :=
  ⟨fun r ho => Or.inr ((mergeLeft_keeps s r).2 h ho).1, fun l ho => Or.inr ((mergeRight_keeps s l).2 h ho).1,
   fun b c ha hb => Or.inr ((splitStatic_pres s b c ha fun _ => hb).keep trivial h).wf⟩

/-- **static_block_inv**: `Solver(vs, cs)` on well-formed input followed by `satisfy()` or `solve()`:
    on a normal return the final state satisfies `WF`:
    (`ic`) in/out lists exact; every active constraint joins two variables of one block and is tight in
    offsets; the active constraints form a forest (each is a bridge) that connects any two variables of one
    block (blocks = connected components of the active graph = spanning trees);
    (`mem`) the member list `Block::vars` of every block that owns a variable lists only its own variables;
    (`hin`, `hout`) every constraint in the in-heap (out-heap) of such a block ends (starts) in it.
    All n, m, weights, desired positions, gaps, scales; no hypothesis on the graph (cycles, duplicates,
    equalities included); no dynamic check in the model. -/
theorem static_block_inv (vs : Array (Rat × Rat × Rat)) (cs : Array Con)
    (hv : ∀ c ∈ cs, c.l < vs.size ∧ c.r < vs.size ∧ c.unsat = false)
    (doSolve : Bool) (s' : SSt) (pos : Array Rat) (ret : Bool)
    (h : (if doSolve then (SSt.init vs cs).solve else (SSt.init vs cs).satisfy) = (s', .ok pos ret)) :
    WF s' := by
  have hk : Pres (SSt.init vs cs) s' → WF s' := fun p => (p.keep trivial (init_WF vs cs hv)).wf
  cases doSolve with
  | true =>
    simp only [if_true] at h
    exact hk (by have := solve_pres (SSt.init vs cs); rwa [h] at this)
  | false =>
    simp only [Bool.false_eq_true, if_false] at h
    exact hk (by have := satisfy_pres (SSt.init vs cs); rwa [h] at this)

/-- **static_merge_applicable**: in a state satisfying `WF`, the constraint that `findMinInConstraint`
    returns for a block `r` owning a variable enters `r` from ANOTHER block, and the one
    `findMinOutConstraint` returns leaves `l` for another block — the lazy repair of the heaps (internal
    constraints dropped at the root, out-of-date ones re-inserted) never hands back a constraint the merge
    could not be applied to. -/
theorem static_merge_applicable (s : SSt) (h : WF s) (b c : Nat) (ho : Owns s.st b) :
    ((findMinIn s.st s.hs b).2 = some c →
      blkOf s.st (s.st.cons[c]!).r = b ∧ blkOf s.st (s.st.cons[c]!).l ≠ b) ∧
    ((findMinOut s.st s.hs b).2 = some c →
      blkOf s.st (s.st.cons[c]!).l = b ∧ blkOf s.st (s.st.cons[c]!).r ≠ b) := by
  constructor
  · intro hc
    obtain ⟨hm, hx⟩ := (findMinIn_spec s.st s.hs b).2 c hc
    have h1 := (heapsOK_iff.1 (inOK_iff.1 h.hin) b ho c hm).2
    exact ⟨h1, fun e => internal_false s.st c hx (e.trans h1.symm)⟩
  · intro hc
    obtain ⟨hm, hx⟩ := (findMinOut_spec s.st s.hs b).2 c hc
    have h1 := (heapsOK_iff.1 (outOK_iff.1 h.hout) b ho c hm).2
    exact ⟨h1, fun e => internal_false s.st c hx (h1.trans e.symm)⟩

/-- **static_active_tight**: in a state satisfying the invariant every active constraint has slack exactly
    0 as the solver evaluates it, whatever the block positions. -/
theorem static_active_tight (st : St) (h : IC st) (ci : Nat) (hci : ci < st.cons.size)
    (ha : (st.cons[ci]!).active = true) : rawSlack st ci = 0 := by
  obtain ⟨hb, ht⟩ := h.tight ci hci ha
  unfold rawSlack
  simp only
  rw [AdaptaVerif.Lemmas.VpscModel.slack_same_block st (st.cons[ci]!) hb]
  exact ht

open AdaptaVerif.Lemmas.VpscStaticMove in
/-- **static_merge_moves_apart**: the merge step of `mergeLeft` / `mergeRight` (and of the incremental solver),
    `dst->merge(src, c, dist)` in either direction, across a VIOLATED constraint `c` (slack `s < 0`) whose two
    blocks `L ∋ c.left`, `R ∋ c.right` are different, sit at the positions `updateWeightedPosition` gives them,
    have exact member lists, unit scales and positive total weights `W_L`, `W_R`: every variable of `L` moves
    LEFT by `|s|·W_R/(W_L+W_R)` and every variable of `R` moves RIGHT by `|s|·W_L/(W_L+W_R)` — the two blocks
    move apart by exactly the violation, each in proportion to the other's weight, whichever of the two
    survives.  (The step of the VPSC `satisfy` argument "the left block only moves left".) -/
theorem static_merge_moves_apart (st : St) (c dst src : Nat) (d : Rat)
    (hne : blk st.vars (st.cons[c]!).l ≠ blk st.vars (st.cons[c]!).r)
    (hsd : (src = blk st.vars (st.cons[c]!).l ∧ dst = blk st.vars (st.cons[c]!).r ∧
              d = offs st.vars (st.cons[c]!).r - offs st.vars (st.cons[c]!).l - (st.cons[c]!).gap) ∨
           (src = blk st.vars (st.cons[c]!).r ∧ dst = blk st.vars (st.cons[c]!).l ∧
              d = -(offs st.vars (st.cons[c]!).r - offs st.vars (st.cons[c]!).l - (st.cons[c]!).gap)))
    (hd : dst < st.blocks.size)
    (hA : ∀ x ∈ (st.blocks[dst]!).vars, x < st.vars.size ∧ blk st.vars x = dst ∧ (st.vars[x]!).scale = 1)
    (hB : ∀ x ∈ (st.blocks[src]!).vars, x < st.vars.size ∧ blk st.vars x = src ∧ (st.vars[x]!).scale = 1)
    (hA0 : 0 < (st.blocks[dst]!).vars.size) (hB0 : 0 < (st.blocks[src]!).vars.size)
    (hfd : (st.blocks[dst]!).scale = 1 ∧ (st.blocks[dst]!).posn = (blockPosn st.vars (st.blocks[dst]!).vars).2)
    (hfs : (st.blocks[src]!).scale = 1 ∧ (st.blocks[src]!).posn = (blockPosn st.vars (st.blocks[src]!).vars).2)
    (hWA : 0 < wsum st.vars (st.blocks[dst]!).vars) (hWB : 0 < wsum st.vars (st.blocks[src]!).vars)
    (hviol : rawSlack st c < 0) :
    (∀ x ∈ (st.blocks[blk st.vars (st.cons[c]!).l]!).vars,
      (mergeDir st c dst src d).pos x - st.pos x =
        rawSlack st c * wsum st.vars (st.blocks[blk st.vars (st.cons[c]!).r]!).vars /
          (wsum st.vars (st.blocks[dst]!).vars + wsum st.vars (st.blocks[src]!).vars) ∧
      (mergeDir st c dst src d).pos x ≤ st.pos x) ∧
    (∀ x ∈ (st.blocks[blk st.vars (st.cons[c]!).r]!).vars,
      (mergeDir st c dst src d).pos x - st.pos x =
        -(rawSlack st c) * wsum st.vars (st.blocks[blk st.vars (st.cons[c]!).l]!).vars /
          (wsum st.vars (st.blocks[dst]!).vars + wsum st.vars (st.blocks[src]!).vars) ∧
      st.pos x ≤ (mergeDir st c dst src d).pos x) := by
  have hdne : dst ≠ src := by
    rcases hsd with ⟨a, b, _⟩ | ⟨a, b, _⟩
    · rw [a, b]; exact fun e => hne e.symm
    · rw [a, b]; exact hne
  have hW : 0 < wsum st.vars (st.blocks[dst]!).vars + wsum st.vars (st.blocks[src]!).vars := by linarith
  obtain ⟨m1, m2⟩ := mergeDir_moves st c dst src d hdne hd hA hB hA0 hB0 hfd hfs (ne_of_gt hWA) (ne_of_gt hWB)
    (ne_of_gt hW)
  have hslack : rawSlack st c =
      ((st.blocks[blk st.vars (st.cons[c]!).r]!).scale * (st.blocks[blk st.vars (st.cons[c]!).r]!).posn +
        offs st.vars (st.cons[c]!).r) - (st.cons[c]!).gap -
      ((st.blocks[blk st.vars (st.cons[c]!).l]!).scale * (st.blocks[blk st.vars (st.cons[c]!).l]!).posn +
        offs st.vars (st.cons[c]!).l) := rfl
  have hs : ∀ {w W : Rat}, 0 < w → 0 < W → rawSlack st c * w / W ≤ 0 ∧ 0 ≤ -(rawSlack st c) * w / W := by
    intro w W hw hW'
    have := div_nonpos_of_nonpos_of_nonneg (mul_nonpos_of_nonpos_of_nonneg (le_of_lt hviol) (le_of_lt hw))
      (le_of_lt hW')
    rw [neg_mul, neg_div]
    exact ⟨this, by linarith⟩
  -- the claimed displacement `e` of a variable, with its sign
  have fin : ∀ {p p' w W : Rat}, 0 < w → 0 < W →
      (p' - p = rawSlack st c * w / W → p' - p = rawSlack st c * w / W ∧ p' ≤ p) ∧
      (p' - p = -(rawSlack st c) * w / W → p' - p = -(rawSlack st c) * w / W ∧ p ≤ p') :=
    fun hw hW' => ⟨fun e => ⟨e, by have := (hs hw hW').1; linarith⟩, fun e => ⟨e, by have := (hs hw hW').2; linarith⟩⟩
  rcases hsd with ⟨rfl, rfl, rfl⟩ | ⟨rfl, rfl, rfl⟩
  · -- the right block survives
    have ht : (st.blocks[blk st.vars (st.cons[c]!).r]!).posn - (st.blocks[blk st.vars (st.cons[c]!).l]!).posn +
        (offs st.vars (st.cons[c]!).r - offs st.vars (st.cons[c]!).l - (st.cons[c]!).gap) = rawSlack st c := by
      rw [hslack, hfd.1, hfs.1]; ring
    rw [ht] at m1 m2
    exact ⟨fun x hx => (fin hWA hW).1 (m2 x hx), fun x hx => (fin hWB hW).2 (by rw [m1 x hx]; ring)⟩
  · -- the left block survives
    have ht : (st.blocks[blk st.vars (st.cons[c]!).l]!).posn - (st.blocks[blk st.vars (st.cons[c]!).r]!).posn +
        -(offs st.vars (st.cons[c]!).r - offs st.vars (st.cons[c]!).l - (st.cons[c]!).gap) = -rawSlack st c := by
      rw [hslack, hfd.1, hfs.1]; ring
    rw [ht] at m1 m2
    exact ⟨fun x hx => (fin hWB hW).1 (by rw [m1 x hx]; ring), fun x hx => (fin hWA hW).2 (m2 x hx)⟩

-- non-vacuity: v0 (desired 3, weight 1) + 1 ≤ v1 (desired 0, weight 2), slack −4: left moves −4·2/3, right +4·1/3
#guard (let st := St.init #[(3, 1, 1), (0, 2, 1)] #[mkCon 0 1 1 false]
        let st' := mergeDir st 0 1 0 (-1)
        rawSlack st 0 == -4 && st'.pos 0 - st.pos 0 == -8/3 && st'.pos 1 - st.pos 1 == 4/3 &&
        rawSlack st' 0 == 0)

/-- **static_quiescent_is_optimum**: `quiescent_is_optimum` (Props/C02Model) for states of the static
    solver: block invariant (proved above for every normal return) + blocks at their stationary positions
    + every constraint holds + no active inequality with a negative tree multiplier ⇒ the positions
    satisfy KKT with the tree multipliers and are THE optimum.  (Feasibility and the sign condition are what
    `refine()` tests when it leaves its loop with `solved = true`, but only up to `ZERO_UPPERBOUND` and
    `LAGRANGIAN_TOLERANCE`; here they are asked exactly.  They are evaluated on model states by `#guard`
    below, not proved as invariants — hence a conditional theorem.) -/
theorem static_quiescent_is_optimum (st : St) (hinv : IC st)
    (hw : ∀ i : Nat, i < st.vars.size → 0 < (st.vars[i]!).weight)
    (hs : ∀ i : Nat, i < st.vars.size → (st.vars[i]!).scale ≠ 0)
    (hstat : BlockStationary st) (hq : Quiescent 0 st) :
    KKT (problemOf st) st.pos (lamList st) ∧
    IsOptimum (problemOf st) st.pos ∧
    ∀ y, IsOptimum (problemOf st) y → ∀ i, i < st.vars.size → y i = st.pos i :=
  AdaptaVerif.Props.C02Model.quiescent_is_optimum
    { st with inactive := Array.range st.cons.size } hinv hw hs hstat ⟨hq.holds, hq.sign⟩

open AdaptaVerif.Lemmas.VpscNonVac in
/-- non-vacuity of `static_quiescent_is_optimum`: every hypothesis holds on `nvSt` (read as a state of the
    static solver: `IC` is `InvC` with every constraint allowed to be inactive) -/
example : ∃ st : St, IC st ∧ (∀ i : Nat, i < st.vars.size → 0 < (st.vars[i]!).weight) ∧
    (∀ i : Nat, i < st.vars.size → (st.vars[i]!).scale ≠ 0) ∧ BlockStationary st ∧ Quiescent 0 st :=
  ⟨nvSt, InvC.toRange nvSt_inv, nvSt_weight, nvSt_scale, nvSt_stationary, nvSt_quiescent 0⟩
open AdaptaVerif.Lemmas.VpscNonVac in
example := static_quiescent_is_optimum nvSt (InvC.toRange nvSt_inv) nvSt_weight nvSt_scale nvSt_stationary
  (nvSt_quiescent 0)

/-- a diamond with a drag: satisfy merges, refine splits -/
def exampleS : SSt :=
  SSt.init #[(10, 1, 1), (0, 1, 1), (-100, 1000, 1), (-50, 1, 1)]
    #[mkCon 0 2 1 false, mkCon 0 1 1 false, mkCon 1 3 1 false]

#guard (match exampleS.satisfy with | (s, .ok _ _) => invOkStatic s.st && !s.bad | _ => false)
#guard (match exampleS.solve with | (s, .ok _ _) => invOkStatic s.st && !s.bad && s.hs.nSplit ≥ 1 | _ => false)
-- `satisfy` alone stops short of the optimum here; `solve` (= satisfy + refine) moves v1
#guard (match exampleS.satisfy, exampleS.solve with
        | (_, .ok p1 _), (_, .ok p2 _) => p1[1]! != p2[1]! | _, _ => false)
-- the final state of `solve` is quiescent in the executable sense: every constraint holds exactly, every
-- block's q-sum is 0, no multiplier below 0
#guard (let st := exampleS.solve.1.st
        (List.range st.blocks.size).all (fun b =>
          ((List.range st.vars.size).filter (fun x => (st.vars[x]!).block == b)).foldl
            (fun acc x => acc + st.dfdv x / (st.vars[x]!).scale) 0 == 0) &&
        (List.range st.cons.size).all (fun ci => decide (0 ≤ rawSlack st ci)) &&
        st.order.all (fun b => match (st.findMinLM b).2 with | none => true | some (_, l, _) => decide (0 ≤ l)))

/-- out-of-date time stamp at a heap root (the `st-stale` motif of the harness) -/
def exampleStale : SSt :=
  SSt.init #[(10, 1, 1), (20, 1, 1), (0, 1, 1), (0, 1, 1)]
    #[mkCon 0 2 1 false, mkCon 0 1 1 false, mkCon 2 3 1 false, mkCon 1 3 1 false]
#guard (match exampleStale.solve with | (s, .ok _ _) => s.hs.nStale == 1 && invOkStatic s.st | _ => false)

/-- **known finding C01-static-eq, reproduced by the model**: the static solver never reads
    `Constraint::equality` when it merges: v0 desired 0, v1 desired 5, `v0 + 1 == v1`: `solve()` returns
    (0, 5) with the equality inactive (slack 4 ≠ 0), where the incremental solver returns (2, 3). -/
def exampleEq : SSt := SSt.init #[(0, 1, 1), (5, 1, 1)] #[mkCon 0 1 1 true]
#guard (match exampleEq.solve with
        | (s, .ok p _) => p[0]! == 0 && p[1]! == 5 && !(s.st.cons[0]!).active && rawSlack s.st 0 == 4
        | _ => false)
#guard (match (St.init #[(0, 1, 1), (5, 1, 1)] #[mkCon 0 1 1 true]).solve with
        | (_, .ok p _) => p[0]! == 2 && p[1]! == 3 | _ => false)

-- the input of `exampleS` is well-formed (the hypothesis `hv` of the theorems from `Solver(vs, cs)`)
example : ∀ c ∈ (#[mkCon 0 2 1 false, mkCon 0 1 1 false, mkCon 1 3 1 false] : Array Con),
    c.l < 4 ∧ c.r < 4 ∧ c.unsat = false := by
  intro c hc
  simp only [Array.mem_def, List.mem_cons, List.not_mem_nil, or_false] at hc
  rcases hc with rfl | rfl | rfl <;> simp [mkCon]

end AdaptaVerif.Props.C01Static
