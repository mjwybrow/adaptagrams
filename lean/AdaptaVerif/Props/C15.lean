/-
C15 (A) — object-lifetime logic of `Avoid::Router`: property theorems over the executable model
`Model/Lifecycle.lean` (spec predicates in `Spec/Lifecycle.lean`, helper lemmas in
`Lemmas/Lifecycle*.lean`).
-/
import AdaptaVerif.Lemmas.LifecycleInv
import AdaptaVerif.Lemmas.LifecycleQueue
namespace AdaptaVerif.Props.C15
open AdaptaVerif.Model.Lifecycle AdaptaVerif.Spec.Lifecycle AdaptaVerif.Lemmas.Lifecycle

/-! ### P0 — negative witnesses: documented-legal histories that hit a defect class (K1, K2, K4).
The classes K3 (re-entrant `processTransaction` with transactions off) and K5 (3-argument `ConnRef`
constructor with transactions off) were repaired upstream (/repo 448bcee, f871b2f, 3650d5c, e0e5881):
histories of these kinds are strictly legal and fault-free, see
`formerly_excluded_transactions_off_histories_are_legal_and_fault_free`. -/

/-- K1: `~Router` only frees active objects; a queued, never processed addition leaks. -/
theorem k1_destroy_with_queued_add_leaks :
    LegalDocHist [.newShape 1, .deleteRouter] = true ∧
    LegalHist [.newShape 1, .deleteRouter] = false ∧
    (run [.newShape 1, .deleteRouter]).leaked = [1] := by decide

/-- K2: deleteShape asserts while the shape's addition is still queued. -/
theorem k2_delete_with_queued_add_asserts :
    LegalDocHist [.newShape 1, .deleteShape 1] = true ∧
    LegalHist [.newShape 1, .deleteShape 1] = false ∧
    (run [.newShape 1, .deleteShape 1]).faults = [.assertPendingAdd 1] := by decide

/-- K4: a queued connector-end change names a shape that is deleted in the same transaction. -/
theorem k4_queued_end_names_deleted_shape :
    LegalDocHist [.newShape 1, .newPin 2 1 1, .newConn 3 none none true, .processTransaction,
      .setEndpoint 3 false (some ⟨1, 1⟩), .deleteShape 1, .processTransaction] = true ∧
    LegalHist [.newShape 1, .newPin 2 1 1, .newConn 3 none none true, .processTransaction,
      .setEndpoint 3 false (some ⟨1, 1⟩), .deleteShape 1, .processTransaction] = false ∧
    (run [.newShape 1, .newPin 2 1 1, .newConn 3 none none true, .processTransaction,
      .setEndpoint 3 false (some ⟨1, 1⟩), .deleteShape 1, .processTransaction]).faults
      = [.useAfterFree 1] := by
  decide

/-- Four transactions-off histories of the kinds that failed before the upstream repairs (K3: deleting a
    junction that owns a pin, moving a shape with an attached connector, a pin constructor on a shape
    with an attached connector; K5: `ConnRef(router, src, dst)`), each extended to an orderly end: they
    are strictly legal, raise no fault and leak nothing. -/
theorem formerly_excluded_transactions_off_histories_are_legal_and_fault_free :
    (LegalHist [.setTransactionUse false, .newJunction 1 2, .deleteJunction 1, .deleteRouter] = true ∧
     (run [.setTransactionUse false, .newJunction 1 2, .deleteJunction 1, .deleteRouter]).faults = [] ∧
     (run [.setTransactionUse false, .newJunction 1 2, .deleteJunction 1, .deleteRouter]).leaked = []) ∧
    (LegalHist [.setTransactionUse false, .newShape 1, .newPin 2 1 1,
       .newConn 3 (some ⟨1, 1⟩) none false, .moveShape 1, .deleteRouter] = true ∧
     (run [.setTransactionUse false, .newShape 1, .newPin 2 1 1,
       .newConn 3 (some ⟨1, 1⟩) none false, .moveShape 1, .deleteRouter]).faults = [] ∧
     (run [.setTransactionUse false, .newShape 1, .newPin 2 1 1,
       .newConn 3 (some ⟨1, 1⟩) none false, .moveShape 1, .deleteRouter]).leaked = []) ∧
    (LegalHist [.setTransactionUse false, .newShape 1, .newPin 2 1 1,
       .newConn 3 (some ⟨1, 1⟩) none false, .newPin 4 1 1, .deleteRouter] = true ∧
     (run [.setTransactionUse false, .newShape 1, .newPin 2 1 1,
       .newConn 3 (some ⟨1, 1⟩) none false, .newPin 4 1 1, .deleteRouter]).faults = [] ∧
     (run [.setTransactionUse false, .newShape 1, .newPin 2 1 1,
       .newConn 3 (some ⟨1, 1⟩) none false, .newPin 4 1 1, .deleteRouter]).leaked = []) ∧
    (LegalHist [.setTransactionUse false, .newConn 1 none none true, .deleteRouter] = true ∧
     (run [.setTransactionUse false, .newConn 1 none none true, .deleteRouter]).faults = [] ∧
     (run [.setTransactionUse false, .newConn 1 none none true, .deleteRouter]).leaked = []) := by
  decide

/-- The junction-move refresh (`JunctionRef::moveAttachedConns` → `modifyConnector(…,
    connPinMoveUpdate = true)`, /repo e0e5881) does not overwrite a queued user change: connector 3's
    source is attached to junction 1; the user queues "source := free point", then moves the junction
    in the same transaction; afterwards the source is the free point — the user change wins.  Control:
    without the queued user change the same move re-attaches the source to the junction. -/
theorem junction_move_keeps_queued_user_endpoint :
    LegalHist [.newJunction 1 2, .newConn 3 (some ⟨1, 0⟩) none true, .processTransaction,
      .setEndpoint 3 false none, .moveJunction 1, .processTransaction] = true ∧
    ((run [.newJunction 1 2, .newConn 3 (some ⟨1, 0⟩) none true, .processTransaction]).conns.find?
      (·.id == 3)).map (·.src) = some (some { anchor := 1, cls := 0, pin := some 2 }) ∧
    ((run [.newJunction 1 2, .newConn 3 (some ⟨1, 0⟩) none true, .processTransaction,
      .setEndpoint 3 false none, .moveJunction 1, .processTransaction]).conns.find?
      (·.id == 3)).map (·.src) = some none ∧
    ((run [.newJunction 1 2, .newConn 3 (some ⟨1, 0⟩) none true, .processTransaction,
      .moveJunction 1, .processTransaction]).conns.find?
      (·.id == 3)).map (·.src) = some (some { anchor := 1, cls := 0, pin := some 2 }) := by
  decide

/-- A strictly legal history after which the queue holds a ConnectionPinChange entry whose pin has
    been freed (the code never dereferences these entries; `NoDanglingAction` excludes them). -/
theorem pinChange_entry_may_dangle :
    LegalHist [.newShape 1, .newPin 2 1 1, .processTransaction, .deletePin 2] = true ∧
    (run [.newShape 1, .newPin 2 1 1, .processTransaction, .deletePin 2]).actions.any
      (fun a => a.type == .pinChange &&
        (run [.newShape 1, .newPin 2 1 1, .processTransaction, .deletePin 2]).freed.contains a.obj)
      = true := by
  decide

/-! ### P1 — strict legality implies documented legality -/

theorem legal_implies_legalDoc (h : List Op) (hl : LegalHist h = true) : LegalDocHist h = true :=
  legalFrom_mono (fun _ _ => legal_legalDoc) init h hl

example : LegalHist [.newShape 1, .newPin 2 1 1, .newJunction 4 5,
    .newConn 3 (some ⟨1, 1⟩) (some ⟨4, 0⟩) true, .processTransaction, .moveShape 1, .deleteShape 1,
    .processTransaction, .deleteRouter] = true := by decide

example : LegalHist [.setTransactionUse false, .newShape 1, .newConn 2 none none false, .moveShape 1,
    .deleteShape 1, .deleteRouter] = true := by decide

/-! ### P2 — after every documented-legal history the live sets are exactly
"created minus freed", nothing is freed twice, and no connector end or pin refers to a freed
obstacle / pin.  (Holds for all documented-legal histories, including those that hit K1, K2, K4:
the defects are about *when* things are dereferenced, not about the bookkeeping.) -/

theorem live_sets_refine (h : List Op) (hl : LegalDocHist h = true) : LiveSetsRefine (run h) :=
  core_liveSetsRefine (doc_run h hl).core

theorem freed_once (h : List Op) (hl : LegalDocHist h = true) : FreedOnce (run h) :=
  core_freedOnce (doc_run h hl).core

theorem conn_ends_valid (h : List Op) (hl : LegalDocHist h = true) : ConnEndsValid (run h) :=
  core_connEndsValid (doc_run h hl).core

example : LegalDocHist [.newShape 1, .newPin 2 1 1, .newJunction 4 5,
    .newConn 3 (some ⟨1, 1⟩) (some ⟨4, 0⟩) true, .processTransaction, .moveShape 1, .deleteShape 1,
    .processTransaction, .deleteRouter] = true := by decide

example : LegalDocHist [.setTransactionUse false, .newShape 1, .newPin 2 1 1,
    .newConn 3 (some ⟨1, 1⟩) none false, .deletePin 2, .deleteShape 1, .deleteRouter] = true := by decide

/-! ### P3 — between operations no queued action that `processActions` dereferences names a freed
object (ConnectionPinChange entries excepted, see `pinChange_entry_may_dangle`) -/

theorem no_dangling_action (h : List Op) (hl : LegalDocHist h = true) : NoDanglingAction (run h) :=
  (doc_run h hl).nd

/-- non-vacuity: a documented-legal history that ends with a non-empty queue holding obstacle and
    connector actions -/
example : LegalDocHist [.newShape 1, .newPin 2 1 1, .newJunction 4 5, .processTransaction,
      .newConn 3 (some ⟨1, 1⟩) (some ⟨4, 0⟩) false, .moveShape 1, .deleteJunction 4] = true ∧
    (run [.newShape 1, .newPin 2 1 1, .newJunction 4 5, .processTransaction,
      .newConn 3 (some ⟨1, 1⟩) (some ⟨4, 0⟩) false, .moveShape 1, .deleteJunction 4]).actions.length = 3 := by
  decide

/-! ### P4 — `~Router` after a strictly legal history releases everything that was ever created
(with `freed_once`: exactly once).  Fails for documented-legal histories: `k1_…_leaks`. -/

theorem all_released (h : List Op) (hl : LegalHist (h ++ [Op.deleteRouter]) = true) :
    AllReleased (run (h ++ [.deleteRouter])) :=
  allReleased_of (strict_run _ hl).core (dead_of_deleteRouter h) (released_run _ hl (dead_of_deleteRouter h))

example : LegalHist ([.newShape 1, .newPin 2 1 1, .newJunction 4 5,
    .newConn 3 (some ⟨1, 1⟩) (some ⟨4, 0⟩) true, .processTransaction, .moveShape 1, .deleteShape 1,
    .processTransaction] ++ [Op.deleteRouter]) = true := by decide

example : LegalHist ([.setTransactionUse false, .newShape 1, .newConn 2 none none false, .moveShape 1,
    .deleteShape 1] ++ [Op.deleteRouter]) = true := by decide

/-- general form: in a strictly legal history, a dead router holds nothing -/
theorem no_leak (h : List Op) (hl : LegalHist h = true) (hdead : (run h).alive = false) :
    (run h).leaked = [] := by
  have := released_run h hl hdead
  unfold St.leaked
  rw [if_neg (by simp [hdead])]
  exact this

example : LegalHist [.newShape 1, .newConn 2 none none true, .processTransaction, .deleteRouter] = true ∧
    (run [.newShape 1, .newConn 2 none none true, .processTransaction, .deleteRouter]).alive = false := by
  decide

/-! ### P5 — a strictly legal history never reaches a point where the C++ would dereference a freed
object or trip one of the internal assertions.  (`Legal` = documented preconditions + the
restrictions that avoid K1, K2, K4 and, for P9, K6; each restriction is necessary: `k1_…`, `k2_…`, `k4_…`,
`k6_…`.  Transaction use may be switched at any time, also with work queued: the next mutator then
processes the whole queue.)

Invariant carried between operations (`Lemmas.Lifecycle.Inv` at `σ := True`): `Core []`, `NoDanglingAction`,
the queue is well-formed (`QW`): (a) no obstacle that a queued entry uses — one it adds or moves, one a queued
`ConnEnd` names — has a queued removal, (b) no obstacle is removed twice; and `faults = []`.
`processActions_faults` shows that the three passes of `Router::processActions` raise no fault on
such a queue, whether transactions are on or off. -/

theorem no_fault (h : List Op) (hl : LegalHist h = true) : NoFault (run h) :=
  (strict_run h hl).nofault trivial

example : LegalHist [.newShape 1, .newPin 2 1 1, .newJunction 4 5,
    .newConn 3 (some ⟨1, 1⟩) (some ⟨4, 0⟩) true, .processTransaction, .moveShape 1, .deleteShape 1,
    .processTransaction, .deleteRouter] = true := by decide

example : LegalHist [.setTransactionUse false, .newShape 1, .newConn 2 none none false, .moveShape 1,
    .deleteShape 1, .deleteRouter] = true := by decide

/-- non-vacuity: transactions switched off while obstacle, pin and connector actions are queued; the
    next mutator (a junction constructor, i.e. two `processTransaction` calls) processes them -/
example : LegalHist [.newShape 1, .newPin 2 1 1, .newJunction 4 5, .newJunction 8 9, .processTransaction,
      .newConn 3 (some ⟨1, 1⟩) (some ⟨4, 0⟩) true, .moveShape 1, .deleteJunction 8,
      .setTransactionUse false, .newJunction 6 7, .moveShape 1, .deleteRouter] = true ∧
    (run [.newShape 1, .newPin 2 1 1, .newJunction 4 5, .newJunction 8 9, .processTransaction,
      .newConn 3 (some ⟨1, 1⟩) (some ⟨4, 0⟩) true, .moveShape 1, .deleteJunction 8,
      .setTransactionUse false]).actions.length = 3 := by decide

/-! ### P6 — checkpoint vertices (`ConnRef::m_checkpoint_vertices`, a separate id space with its own
`vcreated` / `vfreed` logs).  `setRoutingCheckpoints` deletes the connector's old vertices and creates
one per new checkpoint (it queues nothing); `~ConnRef` deletes the connector's vertices.

Invariant carried between operations (`Lemmas.Lifecycle.CpOk`, the field `cp` of `Inv`): `CheckpointsOwned` plus "freed ⊆
created".  Every connector rewrite of the model (`detachAnchor`, `unpin`, `setEnd`, `reroute`) keeps
`id` and `cps`, so only `addConn` (owns nothing), `freeConn` (frees exactly what it owns) and
`setCheckpoints` (frees what it owns, then owns the fresh vertices; the connector ids are pairwise
different by `Core []`, so exactly one connector is rewritten) matter. -/

/-- after every documented-legal history the vertices owned by the connectors are exactly the
    checkpoint vertices created and not freed; none is owned twice, none is freed twice -/
theorem checkpoints_owned (h : List Op) (hl : LegalDocHist h = true) : CheckpointsOwned (run h) :=
  cpOk_owned (doc_run h hl).cp

/-- `~Router` after a strictly legal history has freed every checkpoint vertex ever created (with
    `checkpoints_owned`: exactly once).  Strict legality matters as in P4: an inactive connector is
    not freed by `~Router`, and its checkpoint vertices go with it. -/
theorem checkpoints_released (h : List Op) (hl : LegalHist (h ++ [Op.deleteRouter]) = true) :
    CheckpointsReleased (run (h ++ [.deleteRouter])) :=
  checkpointsReleased_of (strict_run _ hl).cp (dead_of_deleteRouter h) (released_run _ hl (dead_of_deleteRouter h))

/-- non-vacuity: checkpoints set before and after the connector becomes active, replaced, cleared and
    set again; all five vertices are created once and freed once -/
example : LegalHist [.newConn 1 none none true, .setRoutingCheckpoints 1 [10, 11], .processTransaction,
      .setRoutingCheckpoints 1 [12], .setRoutingCheckpoints 1 [], .setRoutingCheckpoints 1 [13, 14],
      .deleteRouter] = true ∧
    (run [.newConn 1 none none true, .setRoutingCheckpoints 1 [10, 11], .processTransaction,
      .setRoutingCheckpoints 1 [12], .setRoutingCheckpoints 1 [], .setRoutingCheckpoints 1 [13, 14],
      .deleteRouter]).vcreated = [10, 11, 12, 13, 14] ∧
    (run [.newConn 1 none none true, .setRoutingCheckpoints 1 [10, 11], .processTransaction,
      .setRoutingCheckpoints 1 [12], .setRoutingCheckpoints 1 [], .setRoutingCheckpoints 1 [13, 14],
      .deleteRouter]).vfreed = [10, 11, 12, 13, 14] := by decide

/-- non-vacuity of `checkpoints_owned` mid-history: two connectors own disjoint vertex lists -/
example : LegalDocHist [.newConn 1 none none true, .newConn 2 none none false,
      .setRoutingCheckpoints 1 [10, 11], .setRoutingCheckpoints 2 [12], .setRoutingCheckpoints 1 [13]] = true ∧
    (run [.newConn 1 none none true, .newConn 2 none none false,
      .setRoutingCheckpoints 1 [10, 11], .setRoutingCheckpoints 2 [12], .setRoutingCheckpoints 1 [13]]).allCps
      = [13, 12] ∧
    (run [.newConn 1 none none true, .newConn 2 none none false,
      .setRoutingCheckpoints 1 [10, 11], .setRoutingCheckpoints 2 [12], .setRoutingCheckpoints 1 [13]]).vfreed
      = [10, 11] := by decide

/-! ### P7 — clusters (`Avoid::ClusterRef`).  Clusters take their ids from the router's common id space and
are part of `allocated` / `created` / `freed`, so `live_sets_refine`, `freed_once`, `all_released` and
`no_leak` above already speak about them.  What is specific to clusters: they never go through the
action queue — the constructor links the cluster into `Router::clusterRefs` at once, `deleteCluster`
unlinks and frees it at once — and `~Router` frees the ones still linked (/repo def6b3d). -/

/-- after every documented-legal history every allocated cluster is linked in `clusterRefs`: the public
    list is exactly the set of live clusters (what the harness prints as `ok` is all there is) -/
theorem clusters_linked (h : List Op) (hl : LegalDocHist h = true) : ClustersLinked (run h) :=
  (doc_run h hl).core.clActive

/-- `~Router` leaves no cluster behind — for every DOCUMENTED-legal history (no strictness needed:
    clusters are never "queued", so the K1 restriction does not concern them) -/
theorem clusters_released (h : List Op) (hl : LegalDocHist h = true) (hdead : (run h).alive = false) :
    ClustersReleased (run h) :=
  ⟨hdead, clusters_nil_of_dead h hl hdead⟩

/-- non-vacuity: clusters created before and after shapes, one re-polygonised, one deleted in the middle,
    two alive at `~Router`; all three ids are created once and freed once, and the history is even
    strictly legal, so `no_leak` / `all_released` apply to it -/
example : LegalHist [.newCluster 1 [], .newShape 2, .newCluster 3 [], .processTransaction, .setClusterPoly 1 [],
      .newCluster 4 [], .deleteCluster 3, .deleteShape 2, .deleteRouter] = true ∧
    (run [.newCluster 1 [], .newShape 2, .newCluster 3 [], .processTransaction, .setClusterPoly 1 [],
      .newCluster 4 [], .deleteCluster 3, .deleteShape 2]).clusters.map (·.id) = [1, 4] ∧
    (run [.newCluster 1 [], .newShape 2, .newCluster 3 [], .processTransaction, .setClusterPoly 1 [],
      .newCluster 4 [], .deleteCluster 3, .deleteShape 2, .deleteRouter]).freed = [3, 2, 1, 4] ∧
    (run [.newCluster 1 [], .newShape 2, .newCluster 3 [], .processTransaction, .setClusterPoly 1 [],
      .newCluster 4 [], .deleteCluster 3, .deleteShape 2, .deleteRouter]).leaked = [] := by decide

-- non-vacuity of clusters_released: both hypotheses jointly (documented-legal, router dead), two clusters alive at `~Router`
example : ClustersReleased (run [.newCluster 1 [], .newShape 2, .processTransaction, .newCluster 4 [2], .deleteRouter]) :=
  clusters_released _ (by decide) (by decide)

/-- a cluster id cannot be reused while the router lives, and a deleted cluster cannot be used again -/
example : LegalDocHist [.newCluster 1 [], .newShape 1] = false ∧
    LegalDocHist [.newCluster 1 [], .deleteCluster 1, .setClusterPoly 1 []] = false ∧
    LegalDocHist [.newCluster 1 [], .deleteCluster 1, .deleteCluster 1] = false := by decide

/-- **The machine as the code was before /repo def6b3d (`stepOld`: `deleteCluster` only unlinks, `~Router`
    ignores `clusterRefs`) violates `no_leak`, `all_released`, `clusters_linked` and `clusters_released`**
    on strictly legal histories: a cluster alive at `~Router` leaks, and a cluster handed to
    `deleteCluster` leaks as well (it is unlinked but stays allocated — and `~ClusterRef` aborts when the
    user calls it, so nobody can free it).  The same histories are strictly legal and leak-free for the
    current machine `step`.  Reverting def6b3d therefore turns the proved `no_leak` into a statement about
    the wrong machine; the machine that matches the reverted code is refuted here by evaluation. -/
theorem pre_fix_router_leaks_clusters :
    -- (a) cluster alive at ~Router
    (LegalHistOld [.newCluster 1 [], .deleteRouter] = true ∧
     (runOld [.newCluster 1 [], .deleteRouter]).alive = false ∧
     (runOld [.newCluster 1 [], .deleteRouter]).leaked = [1] ∧
     ¬ AllReleased (runOld [.newCluster 1 [], .deleteRouter]) ∧
     ¬ ClustersReleased (runOld [.newCluster 1 [], .deleteRouter])) ∧
    -- (b) cluster deleted with Router::deleteCluster, then ~Router
    (LegalHistOld [.newCluster 1 [], .deleteCluster 1, .deleteRouter] = true ∧
     (runOld [.newCluster 1 [], .deleteCluster 1, .deleteRouter]).leaked = [1] ∧
     (runOld [.newCluster 1 [], .deleteCluster 1, .deleteRouter]).freed = [] ∧
     ¬ ClustersLinked (runOld [.newCluster 1 [], .deleteCluster 1])) ∧
    -- (c) the current machine on the same histories
    (LegalHist [.newCluster 1 [], .deleteRouter] = true ∧
     (run [.newCluster 1 [], .deleteRouter]).leaked = [] ∧
     LegalHist [.newCluster 1 [], .deleteCluster 1, .deleteRouter] = true ∧
     (run [.newCluster 1 [], .deleteCluster 1, .deleteRouter]).leaked = [] ∧
     (run [.newCluster 1 [], .deleteCluster 1, .deleteRouter]).freed = [1]) := by
  refine ⟨⟨by decide, by decide, by decide, ?_, ?_⟩, ⟨by decide, by decide, by decide, ?_⟩, by decide⟩
  · intro h; have := h.2 1 (by decide); revert this; decide
  · intro h; have := h.2; revert this; decide
  · intro h; have := h ⟨1, false, []⟩ (by decide); revert this; decide

/-- **Universal form**: the pre-def6b3d machine never releases a cluster, in ANY history (legal or not, whatever
    else happens, including `deleteCluster` of that very cluster): once `new ClusterRef` has run on a live router
    its id stays allocated, so every history that ends with a dead router has leaked every cluster it created.
    (For the current machine `no_leak` proves the opposite for all strictly legal histories.) -/
theorem pre_fix_router_leaks_every_cluster (h1 h2 : List Op) (k : Id) (refs : List Id)
    (hal : (runOld h1).alive = true)
    (hdead : (runOld (h1 ++ Op.newCluster k refs :: h2)).alive = false) :
    k ∈ (runOld (h1 ++ Op.newCluster k refs :: h2)).leaked := by
  have hk : k ∈ kids (runOld (h1 ++ Op.newCluster k refs :: h2)) := by
    unfold runOld
    rw [List.foldl_append, List.foldl_cons]
    apply kids_runOld_mono
    exact kids_stepOld_newCluster _ hal k refs
  unfold St.leaked
  rw [if_neg (by simp [hdead])]
  rw [allocated_eq]
  exact List.mem_append_right _ hk

/-- non-vacuity: the hypotheses are satisfiable, with the cluster deleted by `Router::deleteCluster` before `~Router` -/
example : (runOld [.newShape 1]).alive = true ∧
    (runOld ([.newShape 1] ++ Op.newCluster 2 [] :: [.deleteCluster 2, .deleteRouter])).alive = false := by decide

/-! ### P8 — API calls without lifetime effect, and `ConnRef::setRoutingType`.  `apiRouter` / `apiConn` /
`apiObst` are the identity of the model on a legal call (`setClusterPoly` only replaces the cluster's references);
all theorems above quantify over histories that contain them anywhere.  `touchConn` queues a bare ConnChange through
`Router::modifyConnector(conn)`: it is processed like every other queue entry and changes no live set. -/

/-- calls without lifetime effect leave the whole state alone when they are documented-legal -/
theorem api_calls_are_identity (s : St) :
    (LegalDoc s .apiRouter = true → step s .apiRouter = s) ∧
    (∀ c, LegalDoc s (.apiConn c) = true → step s (.apiConn c) = s) ∧
    (∀ o, LegalDoc s (.apiObst o) = true → step s (.apiObst o) = s) := by
  refine ⟨fun h => ?_, fun c h => ?_, fun o h => ?_⟩ <;> have hal := alive_of_legalDoc h <;>
    simp only [LegalDoc, hal, Bool.true_and, Bool.and_eq_true] at h <;> unfold step <;> rw [if_neg (by simp [hal])]
  · exact if_neg (by simp [h])
  · exact if_neg (by simp [h.1])

-- non-vacuity of api_calls_are_identity: the three premises hold in a reachable, non-initial state
example : LegalDoc (run [.newShape 1, .newConn 2 none none true, .processTransaction]) .apiRouter = true ∧
    LegalDoc (run [.newShape 1, .newConn 2 none none true, .processTransaction]) (.apiConn 2) = true ∧
    LegalDoc (run [.newShape 1, .newConn 2 none none true, .processTransaction]) (.apiObst 1) = true := by decide

/-- non-vacuity, and `touchConn` in both transaction modes: the bare ConnChange stays queued with
    transactions on and is processed at once with transactions off; a connector deleted while its bare
    ConnChange is queued takes the entry with it (`removeObjectFromQueuedActions`) -/
example : LegalHist [.newShape 1, .newConn 2 none none true, .processTransaction, .apiRouter, .apiConn 2,
      .apiObst 1, .touchConn 2, .touchConn 2, .deleteConn 2, .deleteRouter] = true ∧
    (run [.newShape 1, .newConn 2 none none true, .processTransaction, .touchConn 2, .touchConn 2]).actions
      = [{ type := .connChange, obj := 2 }] ∧
    (run [.newShape 1, .newConn 2 none none true, .processTransaction, .touchConn 2, .deleteConn 2]).actions = [] ∧
    (run [.setTransactionUse false, .newConn 2 none none true, .touchConn 2]).actions = [] := by decide

/-! ### P9 — cluster boundaries that reference obstacle vertices (`Avoid::ReferencingPolygon`: a boundary point
that carries an obstacle id is stored as a pointer to that obstacle's polygon plus a vertex number, so that the
boundary follows the shape).  `Cluster.refs` are the referenced obstacles; `St.routeClusters` — part of every
transaction that does something — records in `refFaults` each reference of a linked cluster that points into a freed
obstacle at the moment the router reads the boundary.

Invariant carried between operations (`Lemmas.Lifecycle.RC`, the field `rc` of `Inv`): every reference names an
obstacle that stays — allocated, no removal queued; a transaction only frees obstacles with a queued removal
(`okeys_processTransaction`), so nothing dangles when `routeClusters` runs.  Strict legality adds restriction K6 to
`deleteShape` / `deleteJunction` (no cluster boundary references the obstacle); documented legality already demands
that a new boundary only references obstacles the caller may still use. -/

/-- K6: a documented-legal history in which a cluster boundary references the corners of a shape that is then
    deleted: the next transaction reads the freed polygon.  Deleting (or re-polygonising) the cluster first is
    strictly legal and clean. -/
theorem k6_cluster_boundary_references_deleted_shape :
    LegalDocHist [.newShape 1, .processTransaction, .newCluster 2 [1], .deleteShape 1, .processTransaction] = true ∧
    LegalHist [.newShape 1, .processTransaction, .newCluster 2 [1], .deleteShape 1, .processTransaction] = false ∧
    (run [.newShape 1, .processTransaction, .newCluster 2 [1], .deleteShape 1, .processTransaction]).refFaults = [1] ∧
    LegalHist [.newShape 1, .processTransaction, .newCluster 2 [1], .deleteCluster 2, .deleteShape 1,
      .processTransaction, .deleteRouter] = true ∧
    (run [.newShape 1, .processTransaction, .newCluster 2 [1], .deleteCluster 2, .deleteShape 1,
      .processTransaction, .deleteRouter]).refFaults = [] ∧
    LegalHist [.newShape 1, .newShape 3, .processTransaction, .newCluster 2 [1], .setClusterPoly 2 [3],
      .deleteShape 1, .processTransaction, .deleteRouter] = true ∧
    (run [.newShape 1, .newShape 3, .processTransaction, .newCluster 2 [1], .setClusterPoly 2 [3],
      .deleteShape 1, .processTransaction, .deleteRouter]).refFaults = [] := by decide

/-- a boundary cannot reference a shape whose addition is still queued (`ReferencingPolygon`'s constructor asserts
    that it finds the id in `m_obstacles`) or one already handed to `deleteShape` -/
example : LegalDocHist [.newShape 1, .newCluster 2 [1]] = false ∧
    LegalDocHist [.newShape 1, .processTransaction, .deleteShape 1, .newCluster 2 [1]] = false ∧
    LegalDocHist [.newShape 1, .processTransaction, .moveShape 1, .newCluster 2 [1]] = true := by decide

/-- in a strictly legal history the router never reads a cluster-boundary reference into a freed obstacle -/
theorem no_dangling_cluster_ref (h : List Op) (hl : LegalHist h = true) : NoDanglingClusterRef (run h) :=
  (strict_run h hl).noref trivial

/-- … because, while the router lives, every referenced obstacle is allocated and has no removal queued -/
theorem cluster_refs_valid (h : List Op) (hl : LegalHist h = true) : ClusterRefsValid (run h) := by
  intro _ k hk r hr
  obtain ⟨h1, h2⟩ := stays_def.1 ((strict_run h hl).rc trivial k hk r hr)
  exact ⟨h1, noRemove_iff.2 h2⟩

/-- non-vacuity: references held across moves of the referenced shapes, a queued removal of an unreferenced
    shape, transactions switched off, the cluster alive at `~Router` -/
example : LegalHist [.newShape 1, .newShape 3, .newShape 5, .processTransaction, .newCluster 2 [1, 3], .moveShape 1,
      .deleteShape 5, .setTransactionUse false, .moveShape 3, .newCluster 4 [3], .deleteCluster 2, .deleteRouter] = true ∧
    ((run [.newShape 1, .newShape 3, .newShape 5, .processTransaction, .newCluster 2 [1, 3], .moveShape 1,
      .deleteShape 5, .setTransactionUse false, .moveShape 3, .newCluster 4 [3]]).clusters.map (·.refs))
      = [[1, 3], [3]] := by decide

end AdaptaVerif.Props.C15
