/-
C06 — which connectors a transaction looks at again.  Property theorems about `Model/Reroute.lean`
(the reroute decision of `Router::processActions` / `rerouteAndCallbackConnectors` as coded; tied to
router.cpp by Driver/C06.lean: per transaction the model's rerouted set = `ConnRef::needsRepaint()`,
and — with the guarded hook — flags, `m_route_dist` and the static-graph flag at the start of routing).

* noop:        `noop_flags_nothing`, `settings_only_transaction_keeps_flags`, `txnOf_spec` (the decision runs exactly
               at the processing points of the queue model)
* safety:      `skip_sound_registration` (a connector that is NOT flagged: none of its registered edges has an
               end at a removed/moved obstacle, none is reported blocked by an added/moved shape, its ends
               did not change; positive form `touched_or_blocked_edge_flags`), `skip_sound_leg` (… hence, for
               strictly convex counter-clockwise shapes in general position, the edge does not enter the shape),
               `covered_after_routing`,
               `covered_preserved` (the invariant "every leg of the route is registered"),
               `skip_sound_route_valid(_rect)` (the old route is valid for the new scene), `new_scene_obstacle_cases`
               (what the new scene consists of, from Model/ActionQueue.runPasses), `skip_sound_scene` (assembled:
               `RouteValid` for the shapes of `runPasses sc acts`), `skip_unsound_through_corners_witness`
* flags stick: `flag_persists` (never routed / no path found / end changed earlier), `endpoint_change_flags`,
               `orthogonal_always_rerouted`
* contains:    `contains_incremental_eq_scratch` (Router::contains maintained by the three loops = its from-scratch
               meaning; the driver compares the real map with the from-scratch set after every processing point)
* removal:     `removal_estimate_min_horizontal/_vertical` (start and end not both on the side's line: the as-coded
               point minimises the detour over the side, for EVERY norm-like length, wherever they lie),
               `removal_flag_complete`, `removal_complete_shorter_path` (the API promise: the as-coded test flags
               whenever a path through a point of a side of the removed obstacle would be shorter),
               `removal_witness_flagged` (the scene that defeats the estimate taken without |b|, |d|),
               `estLess_sound` (the driver's three-valued comparison never contradicts an exact one)
-/
import AdaptaVerif.Lemmas.Reroute
import AdaptaVerif.Lemmas.RerouteGeom
import AdaptaVerif.Lemmas.RerouteEstimateModel
import AdaptaVerif.Lemmas.RerouteScene
import AdaptaVerif.Lemmas.RerouteContains
import AdaptaVerif.Props.C06
import AdaptaVerif.Props.C03
import Mathlib.Data.Rat.Cast.Order
namespace AdaptaVerif.Props.C06Reroute
open AdaptaVerif.Model.Geometry (Pt)
open AdaptaVerif.Model.Reroute
open AdaptaVerif.Model.ActionQueue (Action Kind End State Op)
open AdaptaVerif.Check.Route (lerp Poly polyEdges segHitsOriented segHitsInterior legs)
open AdaptaVerif.Spec.Route (InsideOriented)
open AdaptaVerif.Lemmas.Reroute AdaptaVerif.Lemmas.RerouteGeom AdaptaVerif.Lemmas.RerouteEstimate
open AdaptaVerif.Lemmas.VisSound (ConvexCycle)

/-! ### a closed scene (used for non-vacuity and by `removal_witness_flagged`) -/

namespace Witness
def O : List Pt := [⟨14, 0⟩, ⟨14, 14⟩, ⟨0, 14⟩, ⟨0, 0⟩]          -- obstacle 1 = [0,14]², to be removed
def B : List Pt := [⟨-4, 6⟩, ⟨-4, 12⟩, ⟨-5, 12⟩, ⟨-5, 6⟩]       -- obstacle 2 = [−5,−4]×[6,12]
def s : Pt := ⟨-12, 3⟩
def t : Pt := ⟨16, 22⟩
def oldRoute : List Pt := [s, ⟨-5, 12⟩, t]                       -- shortest route while O is there: bends at B only
def newRoute : List Pt := [s, ⟨-4, 6⟩, t]                        -- obstacle-free once O is gone, strictly shorter
def rp : Polys := fun id => if id = 1 then O else if id = 2 then B else []
/-- connector 3 routed along `oldRoute` (path vertices: its source, corner 2 of obstacle 2, its target) -/
def rst0 : RState :=
  routedOne 3 [(s, VKey.ofEnd 3 .src), (⟨-5, 12⟩, ⟨2, 2, false⟩), (t, VKey.ofEnd 3 .tar)] (addConn true 3 {})
def acts : List Action := [{ kind := .remove, id := 1 }]
end Witness

/-! ### no-op -/

/-- **noop_flags_nothing.** A `processTransaction()` with nothing queued processes nothing: the model state
    is unchanged (`noop_txn` of Props/C06) and no connector is looked at (`decide? = none`). -/
theorem noop_flags_nothing (lt3 : Lt3) (rpOld rpNew : Polys) (st : State) (rst : RState) (hq : st.queue = []) :
    decide? lt3 rpOld rpNew st .processTransaction rst = none ∧
      AdaptaVerif.Model.ActionQueue.step st .processTransaction = st := by
  refine ⟨?_, (AdaptaVerif.Props.C06.noop_txn st hq).2⟩
  simp [decide?, txnOf, hq]

/-- **txnOf_spec.** The reroute decision runs exactly at the processing points of the queue model: if
    `txnOf st op = some pre` the call performs `processActions pre` (and `pre` has something queued), and if it
    is `none` the call leaves the scene as the queueing part left it — nothing is processed, no connector is
    looked at. -/
theorem txnOf_spec (st : State) (op : Op) :
    (∀ pre, txnOf st op = some pre →
        AdaptaVerif.Model.ActionQueue.step st op = AdaptaVerif.Model.ActionQueue.processActions pre ∧ pre.queue ≠ []) ∧
    (txnOf st op = none →
        (AdaptaVerif.Model.ActionQueue.step st op).scene = (AdaptaVerif.Model.ActionQueue.enqueue st op).1.scene) := by
  cases op
  case processTransaction =>
    simp only [txnOf, AdaptaVerif.Model.ActionQueue.step, AdaptaVerif.Model.ActionQueue.processTransaction,
      AdaptaVerif.Model.ActionQueue.enqueue]
    cases hq : st.queue.isEmpty <;> simp
    intro e; rw [e] at hq; simp at hq
  all_goals exact txnOf_enqueued (AdaptaVerif.Model.ActionQueue.enqueue st _)

/-- a transaction with an empty action list (only `m_settings_changes`) raises no flag -/
theorem settings_only_transaction_keeps_flags (lt3 : Lt3) (rpOld rpNew : Polys) (rst : RState)
    (h : ∀ c ∈ rst.conns, c.alerted = false) : flagTxn lt3 rpOld rpNew [] rst = rst := by
  unfold flagTxn deliver
  simp only [List.foldl_nil]
  have : rst.conns.map (fun c => if c.alerted then { c with alerted := false, needsReroute := true } else c) = rst.conns := by
    conv_rhs => rw [← List.map_id rst.conns]
    apply List.map_congr_left
    intro c hc
    simp [h c hc]
  rw [this]

example : ∀ c ∈ (addConn true 7 {}).conns, c.alerted = false := by decide

/-! ### soundness of skipping -/

/-- **skip_sound_registration.** Let connector `cid` exist and NOT be flagged when routing starts (no entry
    with that id has `needsReroute`).  Then for every registration `r` of `cid` (an edge its path was
    registered on) and every action of the transaction:
    (a) no end of the edge is a corner of a removed or moved obstacle;
    (b) the as-coded `newBlockingShape` test does not report the edge blocked by any added or moved shape;
    (c) no end point of `cid` was changed, and no end of the edge is a changed connector end;
    and the registration is still there afterwards. -/
theorem skip_sound_registration (cid : Nat) (lt3 : Lt3) (rpOld rpNew : Polys) (acts : List Action) (rst : RState)
    (r : Reg) (hex : ∃ c ∈ rst.conns, c.id = cid) (hr : r ∈ rst.regs) (hc : r.conn = cid)
    (hquiet : ∀ c ∈ (flagTxn lt3 rpOld rpNew acts rst).conns, c.id = cid → c.needsReroute = false) :
    (∀ a ∈ acts, (a.kind = .remove ∨ a.kind = .move) → r.touchesObst a.id = false) ∧
    (∀ a ∈ acts, (a.kind = .add ∨ a.kind = .move) → edgeBlocked (rpNew a.id) r = false) ∧
    (∀ a ∈ acts, a.kind = .connChange → ∀ u ∈ a.conns, a.id ≠ cid ∧ r.touchesKey (VKey.ofEnd a.id u.1) = false) ∧
    r ∈ (flagTxn lt3 rpOld rpNew acts rst).regs := by
  rcases flagTxn_reg cid lt3 rpOld rpNew acts rst r hex hr hc with ⟨c, hcm, hid, hn⟩ | h
  · rw [hquiet c hcm hid] at hn; exact absurd hn (by simp)
  · exact h

/-- **touched_or_blocked_edge_flags** (positive form of (a) and (b)): if an edge on which `cid` is registered has
    an end at a corner of a removed / moved obstacle, or is reported blocked by an added / moved shape, then
    `cid` is flagged when routing starts. -/
theorem touched_or_blocked_edge_flags (cid : Nat) (lt3 : Lt3) (rpOld rpNew : Polys) (acts : List Action) (rst : RState)
    (r : Reg) (hex : ∃ c ∈ rst.conns, c.id = cid) (hr : r ∈ rst.regs) (hc : r.conn = cid) (a : Action) (ha : a ∈ acts)
    (h : ((a.kind = .remove ∨ a.kind = .move) ∧ r.touchesObst a.id = true) ∨
         ((a.kind = .add ∨ a.kind = .move) ∧ edgeBlocked (rpNew a.id) r = true)) :
    ∃ c ∈ (flagTxn lt3 rpOld rpNew acts rst).conns, c.id = cid ∧ c.needsReroute = true := by
  rcases flagTxn_reg cid lt3 rpOld rpNew acts rst r hex hr hc with hf | ⟨h1, h2, _, _⟩
  · exact hf
  · rcases h with ⟨hk, ht⟩ | ⟨hk, hb⟩
    · rw [h1 a ha hk] at ht; exact Bool.noConfusion ht
    · rw [h2 a ha hk] at hb; exact Bool.noConfusion hb

/-- **skip_sound_leg.** … and therefore, if the added / moved shape is a strictly convex counter-clockwise
    polygon, no vertex of it lies in the open edge and the ends of the edge are not strictly inside it (the
    known weakness of the `segmentShapeIntersect` loop, finding C06-block-diagonal, is exactly the excluded
    case), no point of the edge is strictly inside the shape. -/
theorem skip_sound_leg (poly : Poly) (r : Reg) (hlen : 3 ≤ poly.length) (hC : ConvexCycle (polyEdges poly))
    (hb : edgeBlocked poly r = false)
    (ha : ¬ InsideOriented 1 0 poly r.pu) (hb' : ¬ InsideOriented 1 0 poly r.pv)
    (hnov : ∀ v ∈ poly, ∀ t : Rat, 0 < t → t < 1 → lerp r.pu r.pv t ≠ v) :
    ∀ t : Rat, 0 ≤ t → t ≤ 1 → ¬ InsideOriented 1 0 poly (lerp r.pu r.pv t) := by
  intro t h0 h1 hin
  have := edgeBlocked_false_sound poly r hlen hC hb ha hb' hnov
  rw [(AdaptaVerif.Lemmas.Route.segHitsOriented_iff 1 0 poly r.pu r.pv).mpr ⟨t, h0, h1, hin⟩] at this
  exact Bool.noConfusion this

/-- **skip_unsound_through_corners_witness.** The hypothesis "no vertex of the shape in the open edge" cannot be
    dropped: an edge running exactly through two opposite corners of a square is NOT reported blocked by the
    as-coded `newBlockingShape` test although it crosses the interior (known finding C06-block-diagonal; the
    same weakness as `visible_unsound_witness` of Props/C03). -/
theorem skip_unsound_through_corners_witness :
    edgeBlocked [⟨2, 1⟩, ⟨2, 2⟩, ⟨1, 2⟩, ⟨1, 1⟩]
      { conn := 1, u := VKey.ofEnd 1 .src, v := VKey.ofEnd 1 .tar, pu := ⟨0, 0⟩, pv := ⟨3, 3⟩ } = false ∧
    segHitsInterior [⟨2, 1⟩, ⟨2, 2⟩, ⟨1, 2⟩, ⟨1, 1⟩] (⟨0, 0⟩ : Pt) ⟨3, 3⟩ = true := by
  constructor <;> decide +kernel

/-- **covered_after_routing.** `generatePath` of a polyline connector establishes the invariant -/
theorem covered_after_routing (cid : Nat) (path : List (Pt × VKey)) (rst : RState)
    (hp : (rst.conns.find? (·.id == cid)).any (·.poly) = true) :
    Covered (routedOne cid path rst).regs cid (path.map (·.1)) := by
  intro l hl
  obtain ⟨r, hr, h⟩ := regsOfPath_covers cid path l hl
  refine ⟨r, ?_, h⟩
  unfold routedOne
  simp only [hp, if_true]
  exact List.mem_append_right _ hr

/-- **covered_preserved.** … and a transaction that does not flag the connector keeps it -/
theorem covered_preserved (cid : Nat) (route : List Pt) (lt3 : Lt3) (rpOld rpNew : Polys) (acts : List Action)
    (rst : RState) (hex : ∃ c ∈ rst.conns, c.id = cid) (hcov : Covered rst.regs cid route)
    (hquiet : ∀ c ∈ (flagTxn lt3 rpOld rpNew acts rst).conns, c.id = cid → c.needsReroute = false) :
    Covered (flagTxn lt3 rpOld rpNew acts rst).regs cid route := by
  intro l hl
  obtain ⟨r, hr, hc, h⟩ := hcov l hl
  exact ⟨r, (skip_sound_registration cid lt3 rpOld rpNew acts rst r hex hr hc hquiet).2.2.2, hc, h⟩

/-- **skip_sound_route_valid** (the safety half of C06 for the reroute decision).  Connector `cid` has the
    route `route`, every leg of which is registered (`Covered`), and is not flagged by the transaction.  The
    shapes of the new scene are each either a shape of the old scene or an added / moved obstacle with its new
    routing polygon, all strictly convex counter-clockwise, and the route is in general position w.r.t. them
    (no leg end strictly inside, no vertex in an open leg).  If the route was valid for the old scene — no leg
    enters a shape's interior — it is valid for the new scene. -/
theorem skip_sound_route_valid (cid : Nat) (route : List Pt) (lt3 : Lt3) (rpOld rpNew : Polys)
    (acts : List Action) (rst : RState) (hex : ∃ c ∈ rst.conns, c.id = cid) (hcov : Covered rst.regs cid route)
    (hquiet : ∀ c ∈ (flagTxn lt3 rpOld rpNew acts rst).conns, c.id = cid → c.needsReroute = false)
    (oldShapes newShapes : List Poly)
    (hold : ∀ l ∈ legs route, ∀ s ∈ oldShapes, segHitsOriented 1 0 s l.1 l.2 = false)
    (hnew : ∀ s ∈ newShapes, s ∈ oldShapes ∨ ∃ a ∈ acts, (a.kind = .add ∨ a.kind = .move) ∧ rpNew a.id = s)
    (hconv : ∀ s ∈ newShapes, 3 ≤ s.length ∧ ConvexCycle (polyEdges s))
    (hgen : ∀ l ∈ legs route, ∀ s ∈ newShapes, ¬ InsideOriented 1 0 s l.1 ∧ ¬ InsideOriented 1 0 s l.2 ∧
      ∀ v ∈ s, ∀ t : Rat, 0 < t → t < 1 → lerp l.1 l.2 t ≠ v) :
    ∀ l ∈ legs route, ∀ s ∈ newShapes, segHitsOriented 1 0 s l.1 l.2 = false := by
  intro ⟨p, q⟩ hl s hs
  rcases hnew s hs with ho | ⟨a, ha, hk, rfl⟩
  · exact hold _ hl s ho
  · obtain ⟨r, hr, hc, rfl, rfl⟩ := hcov _ hl
    obtain ⟨g1, g2, g3⟩ := hgen _ hl _ hs
    exact edgeBlocked_false_sound _ r (hconv _ hs).1 (hconv _ hs).2
      ((skip_sound_registration cid lt3 rpOld rpNew acts rst r hex hr hc hquiet).2.1 a ha hk) g1 g2 g3

open AdaptaVerif.Lemmas.Route (rectPoly) in
open AdaptaVerif.Spec.Route (RouteValid StrictlyInside SegHits) in
/-- **skip_sound_route_valid_rect** (rectangles — the shapes of the correspondence harness; conclusion in terms of
    the C03 specification, so `routeValid_complete` of Props/C03 applies).  If the route of a connector that the
    transaction does not flag was `RouteValid` for the old scene, every leg of it is registered, the new scene
    consists of old shapes and added / moved rectangles, and the route is in general position w.r.t. them, then
    it is `RouteValid` for the new scene. -/
theorem skip_sound_route_valid_rect (cid : Nat) (route : List Pt) (lt3 : Lt3) (rpOld rpNew : Polys)
    (acts : List Action) (rst : RState) (hex : ∃ c ∈ rst.conns, c.id = cid) (hcov : Covered rst.regs cid route)
    (hquiet : ∀ c ∈ (flagTxn lt3 rpOld rpNew acts rst).conns, c.id = cid → c.needsReroute = false)
    (oldShapes newShapes : List Poly) (src dst : Pt)
    (hold : RouteValid oldShapes [] src dst route)
    (hnew : ∀ s ∈ newShapes, s ∈ oldShapes ∨ ∃ a ∈ acts, (a.kind = .add ∨ a.kind = .move) ∧ rpNew a.id = s)
    (hrect : ∀ s ∈ newShapes, ∃ x0 y0 x1 y1 : Rat, x0 < x1 ∧ y0 < y1 ∧ s = rectPoly x0 y0 x1 y1)
    (hgen : ∀ l ∈ legs route, ∀ s ∈ newShapes, ¬ StrictlyInside s l.1 ∧ ¬ StrictlyInside s l.2 ∧
      ∀ v ∈ s, ∀ t : Rat, 0 < t → t < 1 → lerp l.1 l.2 t ≠ v) :
    RouteValid newShapes [] src dst route := by
  obtain ⟨h1, h2, h3, h4⟩ := hold
  refine ⟨h1, h2, h3, ?_⟩
  intro ⟨p, q⟩ hl i hi _ hhit
  have hs : newShapes[i] ∈ newShapes := List.getElem_mem hi
  rcases hnew _ hs with ho | ⟨a, ha, hk, hp⟩
  · obtain ⟨j, hj, he⟩ := List.getElem_of_mem ho
    exact h4 _ hl j hj (by simp) (by rw [he]; exact hhit)
  · obtain ⟨r, hr, hc, rfl, rfl⟩ := hcov _ hl
    have hb := (skip_sound_registration cid lt3 rpOld rpNew acts rst r hex hr hc hquiet).2.1 a ha hk
    obtain ⟨x0, y0, x1, y1, hx, hy, hsr⟩ := hrect _ hs
    obtain ⟨g1, g2, g3⟩ := hgen _ hl _ hs
    rw [hp, hsr] at hb
    rw [hsr] at g1 g2 g3 hhit
    exact edgeBlocked_false_sound_rect x0 y0 x1 y1 hx hy r hb g1 g2 g3 hhit

open AdaptaVerif.Lemmas.RerouteScene in
/-- **new_scene_obstacle_cases** (discharges `hnew` above from the scene model of Model/ActionQueue): every
    obstacle object the scene holds after `processActions` is either an obstacle of the old scene at which no
    action of the transaction was aimed — unchanged, same geometry — or the target of an Add or Move action
    (a removed one is gone). -/
theorem new_scene_obstacle_cases (sc : AdaptaVerif.Model.ActionQueue.Scene) (acts : List Action)
    (o : AdaptaVerif.Model.ActionQueue.Obst) (ho : o ∈ (AdaptaVerif.Model.ActionQueue.runPasses sc acts).obsts) :
    (o ∈ sc.obsts ∧ ∀ a ∈ acts, ¬ Targets a o.id) ∨
      (∃ a ∈ acts, (a.kind = .add ∨ a.kind = .move) ∧ a.id = o.id) := by
  by_cases h : ∃ a ∈ acts, Targets a o.id
  · right
    obtain ⟨a, ha, hk, hid⟩ := h
    cases hkk : a.kind
    · exact ⟨a, ha, Or.inr hkk, hid⟩
    · exact ⟨a, ha, Or.inl hkk, hid⟩
    · exact absurd rfl (runPasses_removed sc acts o.id ⟨a, ha, hkk, hid⟩ o ho)
    · exact absurd hkk hk
  · have hn : ∀ a ∈ acts, ¬ Targets a o.id := fun a ha ht => h ⟨a, ha, ht⟩
    exact Or.inl ⟨(runPasses_untouched sc acts o hn).mp ho, hn⟩

/-- the shapes of a scene of Model/ActionQueue as polygons: active, non-junction obstacles (shapeBufferDistance 0:
    the routing polygon is the polygon) -/
def shapePolys (sc : AdaptaVerif.Model.ActionQueue.Scene) : List Poly :=
  (sc.obsts.filter fun o => o.active && !o.isJ).map fun o => o.geom.map fun p => (⟨p.x, p.y⟩ : Pt)

/-- routing polygon by obstacle id, read off a scene -/
def rpOf (sc : AdaptaVerif.Model.ActionQueue.Scene) : Polys := fun id =>
  match AdaptaVerif.Model.ActionQueue.findObst sc id with
  | some o => o.geom.map fun p => (⟨p.x, p.y⟩ : Pt)
  | none => []

open AdaptaVerif.Lemmas.Route (rectPoly) in
open AdaptaVerif.Spec.Route (RouteValid StrictlyInside) in
/-- **skip_sound_scene** (assembled on the scene model of Model/ActionQueue; `acts` = the sorted queue, so that
    `runPasses sc acts` is the scene after `processActions`).  A connector that the transaction does not flag,
    every leg of whose route is registered, and whose route was valid for the shapes of the old scene `sc`, has a
    valid route for the shapes of the new scene — obstacle ids unique, shapes rectangles, route in general
    position w.r.t. the new shapes. -/
theorem skip_sound_scene (cid : Nat) (route : List Pt) (lt3 : Lt3) (rpOld : Polys) (acts : List Action)
    (rst : RState) (sc : AdaptaVerif.Model.ActionQueue.Scene)
    (hex : ∃ c ∈ rst.conns, c.id = cid) (hcov : Covered rst.regs cid route)
    (hquiet : ∀ c ∈ (flagTxn lt3 rpOld (rpOf (AdaptaVerif.Model.ActionQueue.runPasses sc acts)) acts rst).conns,
      c.id = cid → c.needsReroute = false)
    (huniq : ∀ o ∈ (AdaptaVerif.Model.ActionQueue.runPasses sc acts).obsts,
      ∀ o' ∈ (AdaptaVerif.Model.ActionQueue.runPasses sc acts).obsts, o.id = o'.id → o = o')
    (src dst : Pt) (hold : RouteValid (shapePolys sc) [] src dst route)
    (hrect : ∀ s ∈ shapePolys (AdaptaVerif.Model.ActionQueue.runPasses sc acts),
      ∃ x0 y0 x1 y1 : Rat, x0 < x1 ∧ y0 < y1 ∧ s = rectPoly x0 y0 x1 y1)
    (hgen : ∀ l ∈ legs route, ∀ s ∈ shapePolys (AdaptaVerif.Model.ActionQueue.runPasses sc acts),
      ¬ StrictlyInside s l.1 ∧ ¬ StrictlyInside s l.2 ∧ ∀ v ∈ s, ∀ t : Rat, 0 < t → t < 1 → lerp l.1 l.2 t ≠ v) :
    RouteValid (shapePolys (AdaptaVerif.Model.ActionQueue.runPasses sc acts)) [] src dst route := by
  refine skip_sound_route_valid_rect cid route lt3 rpOld _ acts rst hex hcov hquiet (shapePolys sc) _ src dst hold
    ?_ hrect hgen
  intro s hs
  unfold shapePolys at hs
  obtain ⟨o, ho, rfl⟩ := List.mem_map.mp hs
  obtain ⟨homem, hoact⟩ := List.mem_filter.mp ho
  rcases new_scene_obstacle_cases sc acts o homem with ⟨hin, _⟩ | ⟨a, ha, hk, hid⟩
  · left
    unfold shapePolys
    exact List.mem_map.mpr ⟨o, List.mem_filter.mpr ⟨hin, hoact⟩, rfl⟩
  · right
    refine ⟨a, ha, hk, ?_⟩
    unfold rpOf
    rw [hid, AdaptaVerif.Lemmas.RerouteScene.findObst_of_mem _ o homem huniq]

-- non-vacuity of `skip_sound_scene`: a square is moved far away from a straight two-point route
namespace NV
def sc : AdaptaVerif.Model.ActionQueue.Scene := { obsts := [{ id := 1, isJ := false, geom := [⟨12, 10⟩, ⟨12, 12⟩, ⟨10, 12⟩, ⟨10, 10⟩], active := true }] }
def acts : List Action := [{ kind := .move, id := 1, geom := [⟨22, 20⟩, ⟨22, 22⟩, ⟨20, 22⟩, ⟨20, 20⟩] }]
def route : List Pt := [⟨0, 0⟩, ⟨5, 0⟩]
def rst : RState := routedOne 3 [(⟨0, 0⟩, VKey.ofEnd 3 .src), (⟨5, 0⟩, VKey.ofEnd 3 .tar)] (addConn true 3 {})
end NV

open NV in
open AdaptaVerif.Lemmas.Route (rectPoly strictlyInside_rect_iff) in
open AdaptaVerif.Spec.Route (RouteValid StrictlyInside) in
example : RouteValid (shapePolys (AdaptaVerif.Model.ActionQueue.runPasses sc acts)) [] ⟨0, 0⟩ ⟨5, 0⟩ route := by
  have hsh : shapePolys (AdaptaVerif.Model.ActionQueue.runPasses sc acts) = [rectPoly 20 20 22 22] := by decide +kernel
  refine skip_sound_scene 3 route (estLess 30 0) (rpOf sc) acts rst sc (by decide) ?_ (by decide +kernel) (by decide +kernel)
    ⟨0, 0⟩ ⟨5, 0⟩ (AdaptaVerif.Props.C03.routeValid_sound _ _ _ _ _ (by decide +kernel)) ?_ ?_
  · exact covered_after_routing 3 _ (addConn true 3 {}) (by decide)
  · rw [hsh]
    exact fun s hs => ⟨20, 20, 22, 22, by norm_num, by norm_num, List.mem_singleton.mp hs⟩
  · rw [hsh]
    intro l hl s hs
    obtain rfl := List.mem_singleton.mp hs
    obtain rfl : l = (⟨0, 0⟩, ⟨5, 0⟩) := by simpa [route, legs] using hl
    exact ⟨(AdaptaVerif.Lemmas.Route.strictlyInside_iff _ _).not.mp (by decide +kernel),
      (AdaptaVerif.Lemmas.Route.strictlyInside_iff _ _).not.mp (by decide +kernel),
      fun v hv t _ _ => AdaptaVerif.Lemmas.Route.lerp_ne_of_y _ _ v t rfl
        ((by decide +kernel : ∀ v ∈ rectPoly 20 20 22 22, v.y ≠ 0) v hv)⟩

-- non-vacuity: the closed scene `Witness` satisfies `Covered` and the "not flagged" hypothesis
example : Covered Witness.rst0.regs 3 Witness.oldRoute :=
  covered_after_routing 3 _ (addConn true 3 {}) (by decide)
example : ∀ c ∈ (flagTxn (estLess 30 0) Witness.rp Witness.rp [] Witness.rst0).conns,
    c.id = 3 → c.needsReroute = false := by decide +kernel

/-! ### flags stick -/

/-- **flag_persists.** A connector whose flag is up when a transaction starts (never routed: the constructor
    sets it; no path found; makePathInvalid earlier) is flagged when routing starts. -/
theorem flag_persists (cid : Nat) (lt3 : Lt3) (rpOld rpNew : Polys) (acts : List Action) (rst : RState)
    (h : ∃ c ∈ rst.conns, c.id = cid ∧ c.needsReroute = true) :
    ∃ c ∈ (flagTxn lt3 rpOld rpNew acts rst).conns, c.id = cid ∧ c.flagged = true := by
  obtain ⟨c, hc, hid, hn⟩ := h
  obtain ⟨c', hc', hid', hn'⟩ := flagTxn_needs cid lt3 rpOld rpNew acts rst ⟨c, hc, hid⟩ (Or.inl ⟨c, hc, hid, Or.inl hn⟩)
  exact ⟨c', hc', hid', by simp [ConnSt.flagged, hn']⟩

-- a new connector is flagged
example : ∃ c ∈ (addConn true 7 {}).conns, c.id = 7 ∧ c.needsReroute = true := by decide

/-- **endpoint_change_flags.** A queued end-point update of connector `cid` flags it. -/
theorem endpoint_change_flags (cid : Nat) (lt3 : Lt3) (rpOld rpNew : Polys) (acts : List Action) (rst : RState)
    (hex : ∃ c ∈ rst.conns, c.id = cid) (a : Action) (ha : a ∈ acts) (hk : a.kind = .connChange) (hid : a.id = cid)
    (hne : a.conns ≠ []) (r : Reg) (hr : r ∈ rst.regs) (hc : r.conn = cid) :
    ∃ c ∈ (flagTxn lt3 rpOld rpNew acts rst).conns, c.id = cid ∧ c.needsReroute = true :=
  -- the registration `r` is not used: `makePathInvalid` flags the connector whether or not it is registered on an edge
  flagTxn_needs cid lt3 rpOld rpNew acts rst hex
    (Or.inr (Or.inl (List.any_eq_true.2 ⟨a, ha, eq_true_of_ne_false fun h => (inv3_eq_false a cid).1 h hk hne hid⟩)))

/-- **orthogonal_always_rerouted.** `m_false_path` (set by `generatePath` for every orthogonal connector) is
    never reset by `processActions`: such a connector is flagged in every processed transaction. -/
theorem orthogonal_always_rerouted (cid : Nat) (lt3 : Lt3) (rpOld rpNew : Polys) (acts : List Action) (rst : RState)
    (h : ∃ c ∈ rst.conns, c.id = cid ∧ c.falsePath = true) :
    ∃ c ∈ (flagTxn lt3 rpOld rpNew acts rst).conns, c.id = cid ∧ c.flagged = true := by
  obtain ⟨c, hc, hid, hf⟩ := flagTxn_FalseP cid lt3 rpOld rpNew acts rst h
  exact ⟨c, hc, hid, by simp [ConnSt.flagged, hf]⟩

-- an orthogonal connector has `falsePath` after its first routing
example : ∃ c ∈ (routedOne 7 [(⟨0, 0⟩, VKey.ofEnd 7 .src), (⟨3, 0⟩, VKey.ofEnd 7 .tar)] (addConn false 7 {})).conns,
    c.id = 7 ∧ c.falsePath = true := by decide

/-! ### `Router::contains`: incremental = from scratch -/

open AdaptaVerif.Lemmas.RerouteContains in
/-- **contains_incremental_eq_scratch.** If before the transaction every entry of `Router::contains` has its
    from-scratch meaning for the old scene (ids = the active obstacles whose routing polygon strictly contains
    the end point), then after `processActions` — erase per removed / moved obstacle, conditional insert per
    added / moved obstacle with its NEW polygon, regeneration per updated end point — every entry has its
    from-scratch meaning for the new scene.  Hypotheses on the scene transition (what the three loops of
    Model/ActionQueue do to the active set): an obstacle is active afterwards iff it was active and is not the
    target of a Remove / Move, or it is the target of an Add / Move; a freshly added obstacle was not active;
    an obstacle at which no action is aimed keeps its routing polygon. -/
theorem contains_incremental_eq_scratch (activeOld activeNew : List Nat) (rpOld rpNew : Polys)
    (acts : List Action) (cs : List CEntry)
    (hA : ∀ o, o ∈ activeNew ↔ ((o ∈ activeOld ∧ ∀ a ∈ acts, ¬ (isRM a = true ∧ a.id = o)) ∨
                                 ∃ a ∈ acts, isAM a = true ∧ a.id = o))
    (hC : ∀ o, (∃ a ∈ acts, isAM a = true ∧ a.id = o) → (∀ a ∈ acts, ¬ (isRM a = true ∧ a.id = o)) → o ∉ activeOld)
    (hB : ∀ o, (∀ a ∈ acts, ¬ (isRM a = true ∧ a.id = o)) → (¬ ∃ a ∈ acts, isAM a = true ∧ a.id = o) → rpNew o = rpOld o)
    (hold : ∀ e ∈ cs, e.scratch activeOld rpOld) :
    ∀ e ∈ cTxn activeNew rpNew acts cs, e.scratch activeNew rpNew := by
  intro e he
  rw [cTxn_eq] at he
  obtain ⟨e0, he0, rfl⟩ := List.mem_map.mp he
  apply fold3_scratch
  obtain ⟨p, m⟩ := fold12_spec rpNew acts e0
  have h0 := hold e0 he0
  intro o
  rw [m, p, h0 o]
  constructor
  · rintro (⟨⟨hact, hin⟩, hrm⟩ | ⟨a, ha, ham, hid, hin⟩)
    · by_cases hamx : ∃ a ∈ acts, isAM a = true ∧ a.id = o
      · exact absurd hact (hC o hamx hrm)
      · rw [hB o hrm hamx]
        exact ⟨(hA o).mpr (Or.inl ⟨hact, hrm⟩), hin⟩
    · exact ⟨(hA o).mpr (Or.inr ⟨a, ha, ham, hid⟩), hin⟩
  · rintro ⟨hnew, hin⟩
    by_cases hamx : ∃ a ∈ acts, isAM a = true ∧ a.id = o
    · obtain ⟨a, ha, ham, hid⟩ := hamx
      exact Or.inr ⟨a, ha, ham, hid, hin⟩
    · rcases (hA o).mp hnew with ⟨hact, hrm⟩ | h
      · rw [hB o hrm hamx] at hin
        exact Or.inl ⟨⟨hact, hin⟩, hrm⟩
      · exact absurd h hamx

-- non-vacuity: obstacle 1 (a square around the end point) is moved away, obstacle 2 is added around it
example :
    (cTxn [2, 1] (fun o => if o = 2 then [⟨3, -3⟩, ⟨3, 3⟩, ⟨-3, 3⟩, ⟨-3, -3⟩] else [⟨13, -3⟩, ⟨13, 3⟩, ⟨7, 3⟩, ⟨7, -3⟩])
      [{ kind := .move, id := 1 }, { kind := .add, id := 2 }]
      [{ key := VKey.ofEnd 9 .src, pt := ⟨0, 0⟩, ids := [1] }]).map (·.ids) = [[2]] := by decide +kernel

/-! ### completeness for removal: the "could be shorter" estimate -/

section Removal
variable {K : Type} [Field K] [LinearOrder K] [IsStrictOrderedRing K]

/-- **removal_estimate_min_horizontal.** Horizontal side (p1, p2), start `s` and end `t` not both on its line:
    the point the code picks minimises |s − q| + |q − t| over all points q of the side — for every length `N`
    with the properties `IsNorm` (in particular the Euclidean one over ℝ), wherever `s` and `t` lie. -/
theorem removal_estimate_min_horizontal (N : K → K → K) (hN : IsNorm N) (s t p1 p2 : Pt)
    (hy : p1.y = p2.y) (hx : p1.x ≠ p2.x) (hs : 0 < |s.y - p1.y| + |t.y - p1.y|) :
    ∃ xp, sidePoint s t p1 p2 = .at xp ∧
      ∀ q : Pt, q.y = p1.y → rmin p1.x p2.x ≤ q.x → q.x ≤ rmax p1.x p2.x →
        D N s xp + D N xp t ≤ D N s q + D N q t := by
  refine ⟨⟨clamp (rmin p1.x p2.x) (rmax p1.x p2.x)
    ((|s.y - p1.y| * t.x + s.x * |t.y - p1.y|) / (|s.y - p1.y| + |t.y - p1.y|)), p1.y⟩, ?_, ?_⟩
  · unfold sidePoint
    rw [if_pos hy, sideX_off_line _ _ _ _ _ _ (ne_of_gt hs)]
    simp only [hx, if_false]
  · intro q hqy h0 h1
    have hq : q = ⟨q.x, p1.y⟩ := by cases q; simp_all
    rw [hq, D_detour_h N hN s t _ p1.y, D_detour_h N hN s t q.x p1.y]
    have := detour_model_min_abs N hN s.x (s.y - p1.y) t.x (t.y - p1.y) _ _ hs (rmin_le_rmax _ _) q.x h0 h1
    simp only [Rat.cast_sub] at this
    exact this

/-- **removal_estimate_min_vertical.** The same for a vertical side. -/
theorem removal_estimate_min_vertical (N : K → K → K) (hN : IsNorm N) (s t p1 p2 : Pt)
    (hy : p1.y ≠ p2.y) (hx : p1.x = p2.x) (hs : 0 < |s.x - p1.x| + |t.x - p1.x|) :
    ∃ xp, sidePoint s t p1 p2 = .at xp ∧
      ∀ q : Pt, q.x = p1.x → rmin p1.y p2.y ≤ q.y → q.y ≤ rmax p1.y p2.y →
        D N s xp + D N xp t ≤ D N s q + D N q t := by
  refine ⟨⟨p1.x, clamp (rmin p1.y p2.y) (rmax p1.y p2.y)
    ((|s.x - p1.x| * t.y + s.y * |t.x - p1.x|) / (|s.x - p1.x| + |t.x - p1.x|))⟩, ?_, ?_⟩
  · unfold sidePoint
    rw [if_neg hy, if_pos hx, sideX_off_line _ _ _ _ _ _ (ne_of_gt hs)]
  · intro q hqx h0 h1
    have hq : q = ⟨p1.x, q.y⟩ := by cases q; simp_all
    rw [hq, D_detour_v N hN s t _ p1.x, D_detour_v N hN s t q.y p1.x]
    have := detour_model_min_abs N hN s.y (s.x - p1.x) t.y (t.x - p1.x) _ _ hs (rmin_le_rmax _ _) q.y h0 h1
    simp only [Rat.cast_sub] at this
    exact this

-- non-vacuity of `IsNorm` without real numbers: the 1-norm on ℚ
example : IsNorm (fun u v : Rat => |u| + |v|) := isNorm_l1

/-- **removal_flag_complete** (the API promise).
    `poly` = routing polygon of the removed / moved-away obstacle, all sides axis-parallel; `route` the current
    route from `s` to `t` of length `L`; the comparison oracle answers "shorter" whenever the detour really is
    shorter than `L`.  If some point `q` of a side `e` (on whose line `s` and `t` do not both lie) satisfies
    |s − q| + |q − t| < L — which, by the triangle inequality, every path from `s` to `t` through `q` that is
    shorter than the current route implies — then test (c) flags the connector. -/
theorem removal_flag_complete (N : K → K → K) (hN : IsNorm N) (lt3 : Lt3) (poly route : List Pt)
    (s t : Pt) (hh : route.head? = some s) (hl : route.getLast? = some t) (L : K)
    (horacle : ∀ xp, D N s xp + D N xp t < L → lt3 s t xp route = some true)
    (hR : Rectilinear (polyEdges poly)) (e : Pt × Pt) (he : e ∈ polyEdges poly) (q : Pt)
    (hside : (e.1.y = e.2.y ∧ e.1.x ≠ e.2.x ∧ 0 < |s.y - e.1.y| + |t.y - e.1.y| ∧
                q.y = e.1.y ∧ rmin e.1.x e.2.x ≤ q.x ∧ q.x ≤ rmax e.1.x e.2.x) ∨
             (e.1.y ≠ e.2.y ∧ e.1.x = e.2.x ∧ 0 < |s.x - e.1.x| + |t.x - e.1.x| ∧
                q.x = e.1.x ∧ rmin e.1.y e.2.y ≤ q.y ∧ q.y ≤ rmax e.1.y e.2.y))
    (hshort : D N s q + D N q t < L) :
    couldBeShorter lt3 poly route = some true := by
  unfold couldBeShorter
  rw [hh, hl]
  simp only
  rcases hside with ⟨hy, hx, hs, q1, q2, q3⟩ | ⟨hy, hx, hs, q1, q2, q3⟩
  · obtain ⟨xp, hsp, hmin⟩ := removal_estimate_min_horizontal N hN s t e.1 e.2 hy hx hs
    exact sideFlags_complete lt3 route s t _ hR e he xp hsp (horacle xp (lt_of_le_of_lt (hmin q q1 q2 q3) hshort))
  · obtain ⟨xp, hsp, hmin⟩ := removal_estimate_min_vertical N hN s t e.1 e.2 hy hx hs
    exact sideFlags_complete lt3 route s t _ hR e he xp hsp (horacle xp (lt_of_le_of_lt (hmin q q1 q2 q3) hshort))

/-- **removal_complete_shorter_path.** … in the words of the property: if ANY path from `s` to `t`
    (a polyline `p1 ++ q :: p2`) that is shorter than the current route passes through a point `q` of a side of
    the removed obstacle (on whose line `s` and `t` do not both lie), the connector is flagged. -/
theorem removal_complete_shorter_path (N : K → K → K) (hN : IsNorm N) (lt3 : Lt3) (poly route : List Pt)
    (s t : Pt) (hh : route.head? = some s) (hl : route.getLast? = some t) (L : K)
    (horacle : ∀ xp, D N s xp + D N xp t < L → lt3 s t xp route = some true)
    (hR : Rectilinear (polyEdges poly)) (e : Pt × Pt) (he : e ∈ polyEdges poly) (q : Pt)
    (hside : (e.1.y = e.2.y ∧ e.1.x ≠ e.2.x ∧ 0 < |s.y - e.1.y| + |t.y - e.1.y| ∧
                q.y = e.1.y ∧ rmin e.1.x e.2.x ≤ q.x ∧ q.x ≤ rmax e.1.x e.2.x) ∨
             (e.1.y ≠ e.2.y ∧ e.1.x = e.2.x ∧ 0 < |s.x - e.1.x| + |t.x - e.1.x| ∧
                q.x = e.1.x ∧ rmin e.1.y e.2.y ≤ q.y ∧ q.y ≤ rmax e.1.y e.2.y))
    (p1 p2 : List Pt) (hs : (p1 ++ [q]).head? = some s) (ht : (q :: p2).getLast? = some t)
    (hshorter : polyLen N (p1 ++ q :: p2) < L) :
    couldBeShorter lt3 poly route = some true :=
  removal_flag_complete N hN lt3 poly route s t hh hl L horacle hR e he q hside
    (lt_of_le_of_lt (through_point_lower_bound N hN s t q p1 p2 hs ht) hshorter)

/-- **estLess_sound.** The driver's three-valued comparison (rational enclosures of the square roots) never
    contradicts the exact one: for every Euclidean length function `len` on an ordered field (K = ℝ), if it
    answers `some b` then `|s − xp| + |xp − t| < Σ legs` holds iff `b`. -/
theorem estLess_sound (len : Pt → Pt → K) (hE : IsEuclid len) (k : Nat) (m : Rat) (hm : 0 ≤ m) (s t xp : Pt)
    (route : List Pt) (b : Bool) (h : estLess k m s t xp route = some b) :
    (len s xp + len xp t < routeLen len route) ↔ b = true := by
  unfold estLess at h
  by_cases hr : route = [s, xp, t]
  · simp only [hr, if_true, Option.some.injEq] at h
    subst h; subst hr
    simp [routeLen, legs]
  · simp only [hr, if_false] at h
    obtain ⟨l1, u1⟩ := seg_encl len hE k s xp
    obtain ⟨l2, u2⟩ := seg_encl len hE k xp t
    obtain ⟨rl, ru⟩ := route_encl len hE k route
    have hm' : (0 : K) ≤ (m : K) := by exact_mod_cast hm
    by_cases c1 : segHi k s xp + segHi k xp t + m < routeLo k route
    · simp only [c1, if_true, Option.some.injEq] at h
      subst h
      have : ((segHi k s xp + segHi k xp t + m : Rat) : K) < ((routeLo k route : Rat) : K) := Rat.cast_lt.mpr c1
      push_cast at this
      simp only [iff_true]
      linarith
    · simp only [c1, if_false] at h
      by_cases c2 : routeHi k route + m ≤ segLo k s xp + segLo k xp t
      · simp only [c2, if_true, Option.some.injEq] at h
        subst h
        have : ((routeHi k route + m : Rat) : K) ≤ ((segLo k s xp + segLo k xp t : Rat) : K) := Rat.cast_le.mpr c2
        push_cast at this
        simp only [Bool.false_eq_true, iff_false, not_lt]
        linarith
      · simp only [c2, if_false] at h
        exact absurd h (by simp)

end Removal

/-! ### the closed scene `Witness` (replayed against the C++: harness case 1000002) -/

open Witness in
/-- **removal_witness_flagged.** The scene that defeats the estimate taken with signed offsets, as it stood before
    /repo 852e306 (the route bends at B only; deleting O opens a strictly shorter route through sides of O whose
    lines separate `s` from `t`): with the offsets in absolute value test (c) flags the connector, certainly
    (enclosures, margin 0). -/
theorem removal_witness_flagged :
    ((legs oldRoute).all fun l => !segHitsInterior O l.1 l.2 && !segHitsInterior B l.1 l.2) = true ∧
    ((flagTxn (estLess 30 0) rp rp acts rst0).conns.map fun c => (c.id, c.needsReroute, c.alerted, c.unsure))
      = [(3, true, false, false)] ∧
    ((legs newRoute).all fun l => !segHitsInterior B l.1 l.2) = true ∧
    routeHi 30 newRoute < routeLo 30 oldRoute := by
  refine ⟨by decide +kernel, by decide +kernel, by decide +kernel, by decide +kernel⟩

/-! ### non-vacuity: joint instances of the hypotheses of the theorems above -/

section NonVacuity
open AdaptaVerif.Model.Geometry (inPoly)
open AdaptaVerif.Lemmas.Route (rectPoly)
open AdaptaVerif.Lemmas.RerouteContains

-- non-vacuity of `txnOf_spec` (both branches occur)
example : (txnOf (AdaptaVerif.Model.ActionQueue.run AdaptaVerif.Model.ActionQueue.init [.addObst false 1 [⟨0, 0⟩, ⟨4, 0⟩, ⟨4, 4⟩, ⟨0, 4⟩]])
    .processTransaction).isSome = true ∧
    txnOf AdaptaVerif.Model.ActionQueue.init (.addObst false 1 [⟨0, 0⟩, ⟨4, 0⟩, ⟨4, 4⟩, ⟨0, 4⟩]) = none := by decide +kernel

-- non-vacuity of `touched_or_blocked_edge_flags`, first disjunct: in the `Witness` state the first registered edge of
-- connector 3 ends at a corner of obstacle 2, which is removed
example := touched_or_blocked_edge_flags 3 (estLess 30 0) Witness.rp Witness.rp [{ kind := .remove, id := 2 }] Witness.rst0
  (Witness.rst0.regs[0]'(by decide +kernel)) (by decide +kernel) (List.getElem_mem _) (by decide +kernel)
  { kind := .remove, id := 2 } (by simp) (Or.inl ⟨Or.inl rfl, by decide +kernel⟩)
-- … second disjunct: a square [-9,-7]×[5,8] added across that edge
example := touched_or_blocked_edge_flags 3 (estLess 30 0) Witness.rp
  (fun id => if id = 5 then rectPoly (-9) 5 (-7) 8 else Witness.rp id) [{ kind := .add, id := 5 }] Witness.rst0
  (Witness.rst0.regs[0]'(by decide +kernel)) (by decide +kernel) (List.getElem_mem _) (by decide +kernel)
  { kind := .add, id := 5 } (by simp) (Or.inr ⟨Or.inl rfl, by decide +kernel⟩)

-- non-vacuity of `endpoint_change_flags`
example := endpoint_change_flags 3 (estLess 30 0) Witness.rp Witness.rp
  [{ kind := .connChange, id := 3, conns := [(.src, .pt ⟨0, 0⟩)] }] Witness.rst0 (by decide +kernel)
  { kind := .connChange, id := 3, conns := [(.src, .pt ⟨0, 0⟩)] } (by simp) rfl rfl (by simp)
  (Witness.rst0.regs[0]'(by decide +kernel)) (List.getElem_mem _) (by decide +kernel)

-- non-vacuity of `covered_preserved` and `skip_sound_registration` (all hypotheses; one Move action): the scene `NV`
example := covered_preserved 3 NV.route (estLess 30 0) (rpOf NV.sc) (rpOf (AdaptaVerif.Model.ActionQueue.runPasses NV.sc NV.acts))
  NV.acts NV.rst (by decide) (covered_after_routing 3 _ (addConn true 3 {}) (by decide)) (by decide +kernel)
example := skip_sound_registration 3 (estLess 30 0) (rpOf NV.sc) (rpOf (AdaptaVerif.Model.ActionQueue.runPasses NV.sc NV.acts))
  NV.acts NV.rst (NV.rst.regs[0]'(by decide +kernel)) (by decide) (List.getElem_mem _) (by decide +kernel) (by decide +kernel)

-- non-vacuity of `skip_sound_leg` and `skip_sound_route_valid` (strictly convex counter-clockwise shapes): the scene `NV`,
-- old shape the square [10,12]², new shape the square [20,22]² (the Move action of `NV.acts`)
example : ∀ l ∈ legs NV.route, ∀ s ∈ [rectPoly 20 20 22 22], segHitsOriented 1 0 s l.1 l.2 = false := by
  have hC := AdaptaVerif.Lemmas.VisSound.rect_convexCycle 20 20 22 22 (by norm_num) (by norm_num)
  have hnov : ∀ v ∈ rectPoly 20 20 22 22, ∀ t : Rat, 0 < t → t < 1 → lerp (⟨0, 0⟩ : Pt) ⟨5, 0⟩ t ≠ v :=
    fun v hv t _ _ => AdaptaVerif.Lemmas.Route.lerp_ne_of_y _ _ v t rfl
      ((by decide +kernel : ∀ v ∈ rectPoly 20 20 22 22, v.y ≠ 0) v hv)
  have hleg := skip_sound_leg (rectPoly 20 20 22 22) (NV.rst.regs[0]'(by decide +kernel)) (by decide) hC (by decide +kernel)
    (by unfold InsideOriented; decide +kernel) (by unfold InsideOriented; decide +kernel) hnov
  refine skip_sound_route_valid 3 NV.route (estLess 30 0) (rpOf NV.sc)
    (rpOf (AdaptaVerif.Model.ActionQueue.runPasses NV.sc NV.acts)) NV.acts NV.rst (by decide)
    (covered_after_routing 3 _ (addConn true 3 {}) (by decide)) (by decide +kernel)
    [rectPoly 10 10 12 12] [rectPoly 20 20 22 22] (by decide +kernel) ?_ ?_ ?_
  · intro s hs
    rw [List.mem_singleton] at hs; subst hs
    exact Or.inr ⟨_, List.mem_singleton.mpr rfl, Or.inr rfl, by decide +kernel⟩
  · intro s hs
    rw [List.mem_singleton] at hs; subst hs
    exact ⟨by decide, hC⟩
  · intro l hl s hs
    rw [List.mem_singleton] at hs; subst hs
    have hl' : l = (⟨0, 0⟩, ⟨5, 0⟩) := by simpa [NV.route, legs] using hl
    subst hl'
    exact ⟨by unfold InsideOriented; decide +kernel, by unfold InsideOriented; decide +kernel, hnov⟩

namespace NVC
def sq0 : List Pt := [⟨3, -3⟩, ⟨3, 3⟩, ⟨-3, 3⟩, ⟨-3, -3⟩]          -- around the end point (0,0)
def sq1 : List Pt := [⟨13, -3⟩, ⟨13, 3⟩, ⟨7, 3⟩, ⟨7, -3⟩]          -- away from it
def rpOld : Polys := fun o => if o = 1 then sq0 else sq1
def rpNew : Polys := fun o => if o = 2 then sq0 else sq1
def acts : List Action := [{ kind := .move, id := 1 }, { kind := .add, id := 2 }]
def cs : List CEntry := [{ key := VKey.ofEnd 9 .src, pt := ⟨0, 0⟩, ids := [1] }]
end NVC

open NVC in
-- non-vacuity of `contains_incremental_eq_scratch` (all four hypotheses): obstacle 1 (around the end point) is moved
-- away, obstacle 2 is added around it; old active set [1], new active set [2, 1]
example : ∀ e ∈ cTxn [2, 1] rpNew acts cs, e.scratch [2, 1] rpNew := by
  refine contains_incremental_eq_scratch [1] [2, 1] rpOld rpNew acts cs ?_ ?_ ?_ ?_
  · intro o
    simp only [acts, isRM, isAM, List.mem_cons, List.not_mem_nil, or_false, forall_eq_or_imp, forall_eq, exists_eq_or_imp,
      exists_eq_left]
    constructor
    · rintro (rfl | rfl)
      · exact Or.inr (Or.inr ⟨by decide, rfl⟩)
      · exact Or.inr (Or.inl ⟨by decide, rfl⟩)
    · rintro (⟨rfl, _⟩ | ⟨_, rfl⟩ | ⟨_, rfl⟩) <;> simp
  · intro o _ h2 ho
    simp only [List.mem_singleton] at ho
    subst ho
    exact h2 { kind := .move, id := 1 } (by simp [acts]) ⟨by decide, rfl⟩
  · intro o h1 h2
    have n1 : o ≠ 1 := fun e => h1 { kind := .move, id := 1 } (by simp [acts]) ⟨by decide, e.symm⟩
    have n2 : o ≠ 2 := fun e => h2 ⟨{ kind := .add, id := 2 }, by simp [acts], by decide, e.symm⟩
    simp [rpNew, rpOld, n1, n2]
  · intro e he
    simp only [cs, List.mem_singleton] at he
    subst he
    intro o
    simp only [List.mem_singleton]
    constructor
    · rintro rfl; exact ⟨rfl, by decide +kernel⟩
    · rintro ⟨h, _⟩; exact h

-- non-vacuity of `removal_flag_complete` / `removal_complete_shorter_path` (hence of `removal_estimate_min_horizontal`) over
-- K = ℚ with the 1-norm and an oracle that always answers "shorter": removed box [4,6]×[0,4], current route
-- (0,5) → (5,20) → (10,5) of length L = 40, the path (0,5) → (5,4) → (10,5) through the top side has length 12
example : couldBeShorter (fun _ _ _ _ => some true) (rectPoly 4 0 6 4) [⟨0, 5⟩, ⟨5, 20⟩, ⟨10, 5⟩] = some true := by
  refine removal_complete_shorter_path (fun u v : Rat => |u| + |v|) isNorm_l1 (fun _ _ _ _ => some true) (rectPoly 4 0 6 4)
    [⟨0, 5⟩, ⟨5, 20⟩, ⟨10, 5⟩] ⟨0, 5⟩ ⟨10, 5⟩ rfl rfl 40 (fun _ _ => rfl) (by unfold Rectilinear; decide +kernel)
    (⟨6, 4⟩, ⟨4, 4⟩) (by simp [rectPoly, polyEdges]) ⟨5, 4⟩ (Or.inl ⟨rfl, by decide +kernel, ?_, rfl, by decide +kernel, by decide +kernel⟩)
    [⟨0, 5⟩] [⟨10, 5⟩] rfl rfl ?_
  · norm_num
  · simp only [List.cons_append, List.nil_append, polyLen, D]
    norm_num [abs_of_nonneg, abs_of_nonpos]

-- … and through a vertical side (`removal_estimate_min_vertical`): the same box, start (8,0) and end (8,4) right of the
-- side x = 6, the path via (6,2) has length 8 < 40
example : couldBeShorter (fun _ _ _ _ => some true) (rectPoly 4 0 6 4) [⟨8, 0⟩, ⟨30, 2⟩, ⟨8, 4⟩] = some true := by
  refine removal_flag_complete (fun u v : Rat => |u| + |v|) isNorm_l1 (fun _ _ _ _ => some true) (rectPoly 4 0 6 4)
    [⟨8, 0⟩, ⟨30, 2⟩, ⟨8, 4⟩] ⟨8, 0⟩ ⟨8, 4⟩ rfl rfl 40 (fun _ _ => rfl) (by unfold Rectilinear; decide +kernel)
    (⟨6, 0⟩, ⟨6, 4⟩) (by simp [rectPoly, polyEdges]) ⟨6, 2⟩ (Or.inr ⟨by decide +kernel, rfl, ?_, rfl, by decide +kernel, by decide +kernel⟩) ?_
  · norm_num
  · simp only [D]
    norm_num [abs_of_nonneg, abs_of_nonpos]

-- non-vacuity of `estLess_sound`: the hypothesis `estLess … = some b` occurs with both answers (`IsEuclid` holds for
-- K = ℝ, `len p q = √dist2`; checked in scratch only — `Real.sqrt` is not imported here)
example : estLess 30 0 ⟨0, 0⟩ ⟨10, 0⟩ ⟨5, 1⟩ [⟨0, 0⟩, ⟨5, 20⟩, ⟨10, 0⟩] = some true ∧
    estLess 30 0 ⟨0, 0⟩ ⟨10, 0⟩ ⟨5, 30⟩ [⟨0, 0⟩, ⟨5, 20⟩, ⟨10, 0⟩] = some false := by decide +kernel

end NonVacuity

end AdaptaVerif.Props.C06Reroute
