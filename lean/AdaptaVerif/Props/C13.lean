/-
C13 — libtopology: layout steps never pull an edge through a node.

Part 1 (this section): theorems about the model of `TriConstraint::slack` / `maxSafeAlpha` and of
the move phase of `TopologyConstraints::solve()` (Model/Tri.lean), for all rational data.
Part 2: soundness of the executable checkers the driver runs on the real library's states
(Check/RouteRect.lean, Check/Topo.lean).
Only property theorems live here; helper lemmas are in Lemmas/Tri.lean, Lemmas/Topo*.lean.
-/
import AdaptaVerif.Model.Tri
import AdaptaVerif.Spec.Tri
import AdaptaVerif.Lemmas.Tri
import AdaptaVerif.Check.Topo
import AdaptaVerif.Lemmas.Topo
import AdaptaVerif.Lemmas.RouteRect
import Mathlib.Tactic.Linarith
import Mathlib.Tactic.Ring
import Mathlib.Tactic.FieldSimp
import Mathlib.Algebra.Order.Field.Basic
namespace AdaptaVerif.Props.C13
open AdaptaVerif.Model.Tri AdaptaVerif.Spec.Tri AdaptaVerif.Lemmas.Tri

/-! ## Part 1: TriConstraint -/

/-- `TriConstraint::slack` is an affine function of the three positions (u,v,w). -/
theorem slack_affine (p g : Rat) (l : Bool) : IsAffine3 (slack p g l) := by
  refine ⟨sgn l * (1 - p), sgn l * p, - sgn l, sgn l * g, ?_⟩
  intro u v w; rw [slack_eq]; ring

example : slack (1/2) 3 true 0 4 1 = 4 := by decide +kernel
example : slack (1/2) 3 false 0 4 1 = -4 := by decide +kernel

/-- Along the straight move initial → final of *all* nodes the slack of a constraint is the
    affine interpolation of its end values. -/
theorem slack_affine_on_line (c : TriConstraint) (ini fin : Pos) (α : Rat) :
    c.slackAt (posOnLine ini fin α) = c.slackAt ini + α * (c.slackAt fin - c.slackAt ini) :=
  slackAt_posOnLine c ini fin α

/-- `numerator/denominator` of `maxSafeAlpha` is the root of the slack along the segment
    initial → final, for both values of `leftOf` (the only hypothesis is the code's own guard:
    the denominator is non-zero). -/
theorem maxSafeAlpha_formula (p g : Rat) (l : Bool) (u1 u2 v1 v2 w1 w2 : Rat)
    (hden : msaDen p u1 u2 v1 v2 w1 w2 ≠ 0) :
    let α := msaNum p g u1 v1 w1 / msaDen p u1 u2 v1 v2 w1 w2
    slack p g l (u1 + α * (u2 - u1)) (v1 + α * (v2 - v1)) (w1 + α * (w2 - w1)) = 0 := by
  intro α
  have hne : slack p g l u1 v1 w1 - slack p g l u2 v2 w2 ≠ 0 := by
    intro h; apply hden; rw [den_eq_zero_iff p g l]; linarith
  rw [slack_line]
  show _ + (msaNum p g u1 v1 w1 / msaDen p u1 u2 v1 v2 w1 w2) * _ = 0
  rw [num_div_den p g l]
  field_simp
  ring

/-- …and that root is what `maxSafeAlpha` returns whenever the final positions violate the
    constraint, the denominator is non-zero and the quotient is not negative. -/
theorem maxSafeAlpha_returns_root (p g : Rat) (l : Bool) (u1 u2 v1 v2 w1 w2 : Rat)
    (hviol : slack p g l u2 v2 w2 < 0) (hden : msaDen p u1 u2 v1 v2 w1 w2 ≠ 0)
    (hpos : 0 ≤ msaNum p g u1 v1 w1 / msaDen p u1 u2 v1 v2 w1 w2) :
    maxSafeAlpha p g l u1 u2 v1 v2 w1 w2 = msaNum p g u1 v1 w1 / msaDen p u1 u2 v1 v2 w1 w2 := by
  unfold maxSafeAlpha
  simp only []
  rw [if_neg (by simpa using hviol), if_neg hden, if_neg (not_lt.mpr hpos)]

-- non-vacuity: u,v fixed at 0 and 4, p=1/2, w moves from 1 to 5 across the point 2 (leftOf)
example : maxSafeAlpha (1/2) 0 true 0 0 4 4 1 5 = 1/4 := by decide +kernel
example : slack (1/2) 0 true 0 4 (1 + (1/4) * (5 - 1)) = 0 := by decide +kernel
example : maxSafeAlpha (1/2) 0 false 0 0 4 4 3 (-1) = 1/4 := by decide +kernel

/-- A constraint that is feasible initially and violated finally makes `maxSafeAlpha` return a
    value in `[0,1)`; in particular the `msa<0` branch (and its assertion) is not reached in exact
    arithmetic. -/
theorem maxSafeAlpha_range (p g : Rat) (l : Bool) (u1 u2 v1 v2 w1 w2 : Rat)
    (h1 : 0 ≤ slack p g l u1 v1 w1) (h2 : slack p g l u2 v2 w2 < 0) :
    0 ≤ maxSafeAlpha p g l u1 u2 v1 v2 w1 w2 ∧ maxSafeAlpha p g l u1 u2 v1 v2 w1 w2 < 1
      ∧ maxSafeAlphaAssertOk p g l u1 u2 v1 v2 w1 w2 = true := by
  have hd : 0 < slack p g l u1 v1 w1 - slack p g l u2 v2 w2 := by linarith
  rw [msa_of_violated p g l _ _ _ _ _ _ h1 h2]
  refine ⟨div_nonneg h1 (le_of_lt hd), ?_, ?_⟩
  · rw [div_lt_one hd]; linarith
  · unfold maxSafeAlphaAssertOk
    simp only []
    rw [if_neg (by simpa using h2)]
    split
    · rfl
    · rw [num_div_den p g l, if_neg (not_lt.mpr (div_nonneg h1 (le_of_lt hd)))]

/-- **The reason the move phase of `solve()` cannot push a node across a segment.**
    If every constraint has slack ≥ 0 at the initial positions and `0 ≤ α ≤ 1` does not exceed
    `maxSafeAlpha` of any constraint that is violated at the final positions, then every constraint
    has slack ≥ 0 at `initial + α (final − initial)`. -/
theorem maxSafeAlpha_safe (cs : List TriConstraint) (ini fin : Pos) (α : Rat)
    (hini : Feasible cs ini) (h0 : 0 ≤ α) (h1 : α ≤ 1)
    (hα : ∀ c ∈ cs, c.slackAt fin < 0 → α ≤ c.msa ini fin) :
    SafeStep cs ini fin α :=
  safeStep_of_le_msa cs ini fin α hini h0 h1 hα

-- non-vacuity: two constraints on nodes 0,1,2 (w must stay left of the midpoint of u,v and right
-- of u); w wants to go from 1 to 5; α = 1/4 is admitted and keeps both feasible
example :
    let cs := [({ u := 0, v := 1, w := 2, p := 1/2, g := 0, leftOf := true } : TriConstraint),
               { u := 0, v := 0, w := 2, p := 0, g := 0, leftOf := false }]
    let ini : Pos := fun i => if i = 1 then 4 else if i = 2 then 1 else 0
    let fin : Pos := fun i => if i = 1 then 4 else if i = 2 then 5 else 0
    (∀ c ∈ cs, 0 ≤ c.slackAt ini) ∧ minAlpha cs ini fin = 1/4 := by
  decide +kernel

/-- `maxSafeAlpha` is the *largest* safe step of a constraint violated at the final positions. -/
theorem maxSafeAlpha_maximal (p g : Rat) (l : Bool) (u1 u2 v1 v2 w1 w2 α : Rat)
    (h1 : 0 ≤ slack p g l u1 v1 w1) (h2 : slack p g l u2 v2 w2 < 0)
    (hα : maxSafeAlpha p g l u1 u2 v1 v2 w1 w2 < α) :
    slack p g l (u1 + α * (u2 - u1)) (v1 + α * (v2 - v1)) (w1 + α * (w2 - w1)) < 0 := by
  have hd : 0 < slack p g l u1 v1 w1 - slack p g l u2 v2 w2 := by linarith
  rw [msa_of_violated p g l _ _ _ _ _ _ h1 h2, div_lt_iff₀ hd] at hα
  rw [slack_line]; linarith

-- joint non-vacuity of `maxSafeAlpha_formula`, `maxSafeAlpha_returns_root`, `maxSafeAlpha_range`, `maxSafeAlpha_maximal`:
-- u, v fixed at 0 and 4, p = 1/2, w moves from 1 to 5 (feasible initially, violated finally, denominator ≠ 0, root 1/4 ≥ 0);
-- α = 1/2 exceeds the root, and the theorem gives a violated constraint there
example :
    (0 : Rat) ≤ slack (1/2) 0 true 0 4 1 ∧ slack (1/2) 0 true 0 4 5 < 0 ∧
    msaDen (1/2) 0 0 4 4 1 5 ≠ 0 ∧ (0 : Rat) ≤ msaNum (1/2) 0 0 4 1 / msaDen (1/2) 0 0 4 4 1 5 ∧
    maxSafeAlpha (1/2) 0 true 0 0 4 4 1 5 < 1/2 := by
  decide +kernel
example : slack (1/2) 0 true (0 + 1/2 * (0 - 0)) (4 + 1/2 * (4 - 4)) (1 + 1/2 * (5 - 1)) < 0 :=
  maxSafeAlpha_maximal (1/2) 0 true 0 0 4 4 1 5 (1/2) (by decide +kernel) (by decide +kernel)
    (by decide +kernel)

/-- The minimum computed by the loop in `solve()` is at most 1 and at most every `maxSafeAlpha`. -/
theorem minAlpha_le (cs : List TriConstraint) (ini fin : Pos) :
    minAlpha cs ini fin ≤ 1 ∧ ∀ c ∈ cs, minAlpha cs ini fin ≤ c.msa ini fin :=
  ⟨(minAlphaFrom_least 1 cs ini fin).1, (minAlphaFrom_least 1 cs ini fin).2.1⟩

/-- Move phase of `solve()`: from a feasible configuration the nodes are moved to a feasible
    configuration, whatever the solver's final positions are. -/
theorem solve_move_safe (cs : List TriConstraint) (ini fin : Pos) (hini : Feasible cs ini) :
    Feasible cs (moveStep cs ini fin) :=
  moveStep_feasible cs ini fin hini

/-- When the move is cut short (`minTAlpha < 1`), the constraint that attains the minimum — the
    `minT` that `solve()` then satisfies by splitting / merging — is exactly tight (slack 0) at the
    positions reached: segments are split and bends removed only in the collinear configuration. -/
theorem solve_move_stops_tight (cs : List TriConstraint) (ini fin : Pos) (hini : Feasible cs ini)
    (hlt : minAlpha cs ini fin < 1) :
    ∃ c ∈ cs, c.msa ini fin = minAlpha cs ini fin ∧ c.slackAt (moveStep cs ini fin) = 0 :=
  moveStep_stops_tight cs ini fin hini hlt

-- non-vacuity of `solve_move_stops_tight` (and `solve_move_safe`): the two-constraint system of the example after
-- `maxSafeAlpha_safe` is feasible initially and has minAlpha = 1/4 < 1; the theorem instantiated on it
example :
    let cs := [({ u := 0, v := 1, w := 2, p := 1/2, g := 0, leftOf := true } : TriConstraint),
               { u := 0, v := 0, w := 2, p := 0, g := 0, leftOf := false }]
    let ini : Pos := fun i => if i = 1 then 4 else if i = 2 then 1 else 0
    let fin : Pos := fun i => if i = 1 then 4 else if i = 2 then 5 else 0
    ∃ c ∈ cs, c.msa ini fin = minAlpha cs ini fin ∧ c.slackAt (moveStep cs ini fin) = 0 := by
  intro cs ini fin
  exact solve_move_stops_tight cs ini fin (by unfold Feasible; decide +kernel) (by decide +kernel)

/-! ## Part 2: soundness (and completeness) of the state checkers run on the real library -/

section Checkers
open AdaptaVerif.Check.RouteRect AdaptaVerif.Check.Topo AdaptaVerif.Lemmas.RouteRect
open AdaptaVerif.Lemmas.Topo

/-- some point of some segment of the path lies strictly inside the rectangle (shrunk by 1e-6) of
    a node that is not one of the two end nodes of the path -/
def SegThroughNode (nodes : List NodeRect) (path : List PathPt) : Prop :=
  ∃ ab ∈ legs path, ∃ nk ∈ nodes.zipIdx, nk.2 ≠ srcNode path ∧ nk.2 ≠ dstNode path ∧
    ∃ t : Rat, 0 ≤ t ∧ t ≤ 1 ∧ StrictlyInside (nk.1.toRect.shrink eps) (lerp ab.1.pt ab.2.pt t)

/-- `noSegmentThroughNode` decides exactly "no segment of the path meets the interior of a
    non-end node": an accepted state has no such point, a rejected state has one. -/
theorem noSegmentThroughNode_iff (nodes : List NodeRect) (path : List PathPt) :
    noSegmentThroughNode nodes path = true ↔ ¬ SegThroughNode nodes path := by
  unfold noSegmentThroughNode SegThroughNode legHitsNode
  simp only [List.all_eq_true, Bool.or_eq_true, decide_eq_true_eq, Bool.not_eq_true']
  constructor
  · rintro h ⟨ab, hab, nk, hnk, hs, hd, t, h0, h1, hin⟩
    rcases h ab hab nk hnk with (hh | hh) | hh
    · exact hs hh
    · exact hd hh
    · exact segHitsOpenRect_sound _ _ _ hh t h0 h1 hin
  · intro h ab hab nk hnk
    by_cases hs : nk.2 = srcNode path
    · exact Or.inl (Or.inl hs)
    by_cases hd : nk.2 = dstNode path
    · exact Or.inl (Or.inr hd)
    right
    by_contra hne
    obtain ⟨t, h0, h1, hin⟩ := (segHitsOpenRect_iff _ _ _).mp (Bool.eq_true_of_not_eq_false hne)
    exact h ⟨ab, hab, nk, hnk, hs, hd, t, h0, h1, hin⟩

-- non-vacuity: a path 0 → 2 whose straight segment crosses node 1 is rejected, the detour around
-- node 1's top-right corner is accepted
example :
    let nodes : List NodeRect := [⟨0, 2, 0, 2⟩, ⟨4, 6, 0, 2⟩, ⟨8, 10, 0, 2⟩]
    noSegmentThroughNode nodes [⟨0, 4, 1, 1⟩, ⟨2, 4, 9, 1⟩] = false ∧
    noSegmentThroughNode nodes [⟨0, 4, 1, 1⟩, ⟨1, 3, 4, 2⟩, ⟨1, 0, 6, 2⟩, ⟨2, 4, 9, 1⟩] = true := by
  decide +kernel

/-- two node rectangles overlap by more than 1e-6 in both axes: their interiors, each shrunk by
    half the tolerance on every side, have a common point -/
def OverlapBy (a b : NodeRect) : Prop :=
  Overlap1 a.minX a.maxX b.minX b.maxX ∧ Overlap1 a.minY a.maxY b.minY b.maxY

theorem overlapBoth_iff (a b : NodeRect) : overlapBoth a b = true ↔ OverlapBy a b := by
  unfold overlapBoth OverlapBy
  rw [Bool.and_eq_true, overlap1_iff, overlap1_iff]

/-- `noNodeOverlap` accepts exactly the node lists in which no two rectangles overlap. -/
theorem noNodeOverlap_iff (nodes : List NodeRect) :
    noNodeOverlap nodes = true ↔ nodes.Pairwise (fun a b => ¬ OverlapBy a b) := by
  induction nodes with
  | nil => simp [noNodeOverlap]
  | cons a rest ih =>
    simp only [noNodeOverlap, Bool.and_eq_true, List.all_eq_true, Bool.not_eq_true',
      List.pairwise_cons, ih, Bool.eq_false_iff, ne_eq, overlapBoth_iff]

example : noNodeOverlap [⟨0, 2, 0, 2⟩, ⟨2, 4, 0, 2⟩, ⟨1, 3, 2, 4⟩] = true ∧
    noNodeOverlap [⟨0, 2, 0, 2⟩, ⟨1, 3, 1, 3⟩] = false := by decide +kernel

/-- the path has at least two points, starts at the CENTRE point of node `src`, ends at the CENTRE
    point of node `dst`, and those points coincide (1e-6) with the centres of the rectangles -/
def EndsAt (nodes : List NodeRect) (src dst : Nat) (path : List PathPt) : Prop :=
  2 ≤ path.length ∧
    (∃ a, path.head? = some a ∧ isCentreOf nodes src a = true) ∧
    (∃ a, path.getLast? = some a ∧ isCentreOf nodes dst a = true)

theorem endsUnchanged_iff (nodes : List NodeRect) (src dst : Nat) (path : List PathPt) :
    endsUnchanged nodes src dst path = true ↔ EndsAt nodes src dst path := by
  unfold endsUnchanged EndsAt
  simp only [Bool.and_eq_true, decide_eq_true_eq]
  constructor
  · rintro ⟨⟨h1, h2⟩, h3⟩
    refine ⟨h1, ?_, ?_⟩
    · cases hh : path.head? with
      | none => rw [hh] at h2; exact Bool.noConfusion h2
      | some a => rw [hh] at h2; exact ⟨a, rfl, h2⟩
    · cases hl : path.getLast? with
      | none => rw [hl] at h3; exact Bool.noConfusion h3
      | some a => rw [hl] at h3; exact ⟨a, rfl, h3⟩
  · rintro ⟨h1, ⟨a, ha, hca⟩, ⟨b, hb, hcb⟩⟩
    rw [ha, hb]; exact ⟨⟨h1, hca⟩, hcb⟩

/-- an end point accepted by `isCentreOf` is pinned to node `k` as CENTRE and lies within 1e-6 of
    the centre of that node's rectangle -/
theorem isCentreOf_sound (nodes : List NodeRect) (k : Nat) (a : PathPt)
    (h : isCentreOf nodes k a = true) :
    a.node = k ∧ a.ri = 4 ∧ ∃ n, nodes[k]? = some n ∧
      absR (a.x - n.cx) ≤ eps ∧ absR (a.y - n.cy) ≤ eps := by
  unfold isCentreOf at h
  simp only [Bool.and_eq_true, decide_eq_true_eq] at h
  obtain ⟨⟨h1, h2⟩, h3⟩ := h
  refine ⟨h1, h2, ?_⟩
  cases hn : nodes[k]? with
  | none => rw [hn] at h3; exact Bool.noConfusion h3
  | some n =>
    rw [hn] at h3
    unfold nearPt at h3
    simp only [Bool.and_eq_true, decide_eq_true_eq] at h3
    exact ⟨n, rfl, h3.1, h3.2⟩

/-- the bend `v` between `u` and `w` is pinned to a corner (not CENTRE) of an existing node, lies
    within 1e-6 of that corner of the node's rectangle, and the turn u→v→w is around the node:
    the turn direction and the sides of the node centre w.r.t. both segments are never clearly
    opposite (`turnsAround`) -/
def BendOK (nodes : List NodeRect) (u v w : PathPt) : Prop :=
  v.ri < 4 ∧ ∃ n, nodes[v.node]? = some n ∧
    absR (v.x - cornerX n v.ri) ≤ eps ∧ absR (v.y - cornerY n v.ri) ≤ eps ∧
    turnsAround u v w n.cx n.cy = true

theorem bendOk_iff (nodes : List NodeRect) (uvw : PathPt × PathPt × PathPt) :
    bendOk nodes uvw = true ↔ BendOK nodes uvw.1 uvw.2.1 uvw.2.2 := by
  unfold bendOk BendOK
  simp only [Bool.and_eq_true, decide_eq_true_eq]
  constructor
  · rintro ⟨h1, h2⟩
    refine ⟨h1, ?_⟩
    cases hn : nodes[uvw.2.1.node]? with
    | none => rw [hn] at h2; exact Bool.noConfusion h2
    | some n =>
      rw [hn] at h2
      unfold nearPt at h2
      simp only [Bool.and_eq_true, decide_eq_true_eq] at h2
      exact ⟨n, rfl, h2.1.1, h2.1.2, h2.2⟩
  · rintro ⟨h1, n, hn, hx, hy, ht⟩
    refine ⟨h1, ?_⟩
    rw [hn]
    unfold nearPt
    simp only [Bool.and_eq_true, decide_eq_true_eq]
    exact ⟨⟨hx, hy⟩, ht⟩

/-- `bendsAtCorners` accepts exactly the paths all of whose interior points are good bends. -/
theorem bendsAtCorners_iff (nodes : List NodeRect) (path : List PathPt) :
    bendsAtCorners nodes path = true ↔
      ∀ uvw ∈ triples path, BendOK nodes uvw.1 uvw.2.1 uvw.2.2 := by
  unfold bendsAtCorners
  simp only [List.all_eq_true, bendOk_iff]

/-- What `turnsAround` excludes: with exact data (tolerance aside) a left turn (`s > τ`) whose
    node centre is clearly to the right of either segment, or a right turn with the centre clearly
    to the left, is rejected. -/
theorem turnsAround_excludes_wrong_side (u v w : PathPt) (cx cy : Rat)
    (h : turnsAround u v w cx cy = true) :
    let s := cross u.x u.y v.x v.y w.x w.y
    let a := cross u.x u.y v.x v.y cx cy
    let b := cross v.x v.y w.x w.y cx cy
    let τ := 4 * eps * (l1 u.x u.y v.x v.y + l1 v.x v.y w.x w.y + l1 v.x v.y cx cy + eps)
    (τ < s → ¬ a < -τ ∧ ¬ b < -τ) ∧ (s < -τ → ¬ τ < a ∧ ¬ τ < b) := by
  unfold turnsAround notOpposite at h
  simp only [Bool.and_eq_true, Bool.not_eq_true', Bool.and_eq_false_iff, decide_eq_false_iff_not] at h
  obtain ⟨⟨_, h2⟩, h3⟩ := h
  intro s a b τ
  constructor
  · intro hs
    exact ⟨fun ha => by rcases h2.1 with h' | h' <;> [exact h' hs; exact h' ha],
           fun hb => by rcases h3.1 with h' | h' <;> [exact h' hs; exact h' hb]⟩
  · intro hs
    exact ⟨fun ha => by rcases h2.2 with h' | h' <;> [exact h' hs; exact h' ha],
           fun hb => by rcases h3.2 with h' | h' <;> [exact h' hs; exact h' hb]⟩

-- non-vacuity: the detour around node 1 = [4,6]x[0,2] over its top corners is accepted, the same
-- polyline pinned to the bottom corners (bending away from the node) is rejected
example :
    let nodes : List NodeRect := [⟨0, 2, 0, 2⟩, ⟨4, 6, 0, 2⟩, ⟨8, 10, 0, 2⟩]
    bendsAtCorners nodes [⟨0, 4, 1, 1⟩, ⟨1, 3, 4, 2⟩, ⟨1, 0, 6, 2⟩, ⟨2, 4, 9, 1⟩] = true ∧
    bendsAtCorners nodes [⟨0, 4, 1, 1⟩, ⟨1, 2, 4, 2⟩, ⟨1, 1, 6, 2⟩, ⟨2, 4, 9, 1⟩] = false := by
  decide +kernel

/-- The crossing count used by `sideSignature` does not depend on how the path is subdivided:
    inserting (bend split) or deleting (bend merge) a vertex `v` whose conj-coordinate lies between
    those of its neighbours — which `assertConvexBend`'s monotonicity and our `turnsAround` state —
    replaces one crossing of the scan line by exactly one crossing. -/
theorem sideSignature_split_invariant (ac vc bc c : Rat)
    (hmono : (ac ≤ vc ∧ vc ≤ bc) ∨ (bc ≤ vc ∧ vc ≤ ac)) :
    (crossesLine ac bc c = true ↔ (crossesLine ac vc c = true ∨ crossesLine vc bc c = true)) ∧
      ¬ (crossesLine ac vc c = true ∧ crossesLine vc bc c = true) :=
  crossesLine_split ac vc bc c hmono

/-- Where a crossing happens is where the segment is: the reported position is the scan
    coordinate of the point of the segment whose conj-coordinate is `c`. -/
theorem crossingAt_on_segment (as ac bs bc c : Rat) (h : bc ≠ ac) :
    let t := (c - ac) / (bc - ac)
    crossingAt as ac bs bc c = as + t * (bs - as) ∧ ac + t * (bc - ac) = c := by
  intro t
  have h' : bc - ac ≠ 0 := sub_ne_zero.mpr h
  refine ⟨rfl, ?_⟩
  show ac + (c - ac) / (bc - ac) * (bc - ac) = c
  rw [div_mul_cancel₀ _ h']; ring

/-- Basis of the side check across a two-pass (x then y) resize step: with the half-open rule a
    segment crosses a scan line iff exactly one of its two ends is "low" (≤ the line).  Hence along
    a path the crossings contributed by an interior vertex that changes its low status appear or
    vanish in pairs at that vertex, and the parity of the crossings before a node centre can change
    only when an *end point* of the path passes over the ray (`endFlip`, computed from the node
    rectangles) or the path passes over the centre. -/
theorem crossesLine_iff_exactly_one_end_low (ac bc c : Rat) :
    crossesLine ac bc c = (decide (ac ≤ c) != decide (bc ≤ c)) :=
  crossesLine_eq_low_xor ac bc c

/-- A closed boundary path accepted by `cycleClosed` has at least two segments and ends at the
    point (node, corner) it starts from. -/
theorem cycleClosed_sound (path : List PathPt) (h : cycleClosed path = true) :
    3 ≤ path.length ∧ ∃ a b, path.head? = some a ∧ path.getLast? = some b ∧
      a.node = b.node ∧ a.ri = b.ri := by
  unfold cycleClosed at h
  simp only [Bool.and_eq_true, decide_eq_true_eq] at h
  refine ⟨h.1, ?_⟩
  cases ha : path.head? with
  | none => rw [ha] at h; exact absurd h.2 (by simp)
  | some a =>
    cases hb : path.getLast? with
    | none => rw [ha, hb] at h; exact absurd h.2 (by simp)
    | some b =>
      rw [ha, hb] at h
      simp only [Bool.and_eq_true, decide_eq_true_eq] at h
      exact ⟨a, b, rfl, rfl, h.2.1, h.2.2⟩

/-- The list dump accepted by `cycleListConsistent` says: walking firstSegment → lastSegment meets
    exactly `nSegments` segments, lastSegment ends where firstSegment starts, the `outSegment` ring
    from the first point closes after `nSegments` steps, and the printed path has `nSegments+1`
    points. -/
theorem cycleListConsistent_sound (info : List Nat) (path : List PathPt)
    (h : cycleListConsistent info path = true) :
    ∃ n, info = [n, n, 1, 1, n, 1] ∧ path.length = n + 1 := by
  unfold cycleListConsistent at h
  match info, h with
  | [nSeg, walked, reachedLast, closed, ring, ringClosed], h =>
    simp only [Bool.and_eq_true, decide_eq_true_eq] at h
    obtain ⟨⟨⟨⟨⟨h1, h2⟩, h3⟩, h4⟩, h5⟩, h6⟩ := h
    exact ⟨nSeg, by rw [h1, h2, h3, h4, h5], h6⟩

-- non-vacuity of `cycleClosed_sound`, `cycleListConsistent_sound`: a closed three-segment boundary path
example :
    cycleClosed [⟨0, 0, 2, 2⟩, ⟨1, 3, 4, 2⟩, ⟨2, 1, 3, 0⟩, ⟨0, 0, 2, 2⟩] = true ∧
    cycleListConsistent [3, 3, 1, 1, 3, 1] [⟨0, 0, 2, 2⟩, ⟨1, 3, 4, 2⟩, ⟨2, 1, 3, 0⟩, ⟨0, 0, 2, 2⟩] = true := by
  decide +kernel

/-- All four state invariants at once (`stateOk` bundles the component checkers the driver's `firstViolation`
    evaluates, edge by edge, after every layout step).  `stateOk` pairs paths with `ends` by `List.zip`, which silently
    drops the paths beyond `ends.length`; the last clause says that with enough `ends` EVERY path is covered. -/
theorem stateOk_sound (ends : List (Nat × Nat)) (s : State) (h : stateOk ends s = true) :
    s.nodes.Pairwise (fun a b => ¬ OverlapBy a b) ∧
    (∀ pe ∈ s.paths.zip ends,
      ¬ SegThroughNode s.nodes pe.1 ∧ EndsAt s.nodes pe.2.1 pe.2.2 pe.1 ∧
      ∀ uvw ∈ triples pe.1, BendOK s.nodes uvw.1 uvw.2.1 uvw.2.2) ∧
    (s.paths.length ≤ ends.length → ∀ (i : Nat) (path : List PathPt), s.paths[i]? = some path → ∃ e : Nat × Nat, ends[i]? = some e ∧
      ¬ SegThroughNode s.nodes path ∧ EndsAt s.nodes e.1 e.2 path ∧
      ∀ uvw ∈ triples path, BendOK s.nodes uvw.1 uvw.2.1 uvw.2.2) := by
  unfold stateOk at h
  simp only [Bool.and_eq_true, List.all_eq_true] at h
  have main : ∀ pe ∈ s.paths.zip ends,
      ¬ SegThroughNode s.nodes pe.1 ∧ EndsAt s.nodes pe.2.1 pe.2.2 pe.1 ∧
      ∀ uvw ∈ triples pe.1, BendOK s.nodes uvw.1 uvw.2.1 uvw.2.2 := fun pe hpe => by
    obtain ⟨⟨h1, h2⟩, h3⟩ := h.2 pe hpe
    exact ⟨(noSegmentThroughNode_iff _ _).mp h1, (endsUnchanged_iff _ _ _ _).mp h2,
           (bendsAtCorners_iff _ _).mp h3⟩
  refine ⟨(noNodeOverlap_iff _).mp h.1, main, fun hlen i path hp => ?_⟩
  obtain ⟨hi, rfl⟩ := List.getElem?_eq_some_iff.mp hp
  have hi' : i < ends.length := Nat.lt_of_lt_of_le hi hlen
  have hz : (s.paths.zip ends)[i]? = some (s.paths[i], ends[i]) := by
    rw [List.getElem?_zip_eq_some]
    exact ⟨List.getElem?_eq_getElem hi, List.getElem?_eq_getElem hi'⟩
  exact ⟨ends[i], List.getElem?_eq_getElem hi', main _ (List.mem_of_getElem? hz)⟩

-- non-vacuity of `stateOk_sound`, `isCentreOf_sound`, `turnsAround_excludes_wrong_side` (and the accepting side of
-- `endsUnchanged_iff`): the detour state of the examples above is accepted as a whole, with one (path, ends) pair actually
-- checked; its first bend is a strict right turn (s = -2 < -τ) around node 1's centre (5,1)
example :
    let nodes : List NodeRect := [⟨0, 2, 0, 2⟩, ⟨4, 6, 0, 2⟩, ⟨8, 10, 0, 2⟩]
    let path : List PathPt := [⟨0, 4, 1, 1⟩, ⟨1, 3, 4, 2⟩, ⟨1, 0, 6, 2⟩, ⟨2, 4, 9, 1⟩]
    isCentreOf nodes 0 ⟨0, 4, 1, 1⟩ = true ∧ endsUnchanged nodes 0 2 path = true ∧
    turnsAround ⟨0, 4, 1, 1⟩ ⟨1, 3, 4, 2⟩ ⟨1, 0, 6, 2⟩ 5 1 = true ∧
    stateOk [(0, 2)] ⟨nodes, [path]⟩ = true ∧
    (([path] : List (List PathPt)).zip [((0 : Nat), (2 : Nat))]).length = 1 := by
  decide +kernel

end Checkers

end AdaptaVerif.Props.C13
