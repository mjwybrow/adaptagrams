/-
C10 — the region model of `nudgeOrthogonalRoutes` (Model/NudgeRegion.lean: what the code hands to the
VPSC solver for one region, tied to the C++ on every run through the hook dump and, for the scalar
kernels, through Props/C10Tie.lean). Property theorems only (helpers: Lemmas/NudgeRegion.lean).

The abstract theorems of Props/C10.lean are lifted, not restated: the constraint generator is generic
in the segment type (`genG`); `genCons_is_genG` shows the abstract model of Props/C10 is one instance,
`regionCons` (the real segment record with the real `overlapsWith` / `shouldAlignWith` /
`canAlignWith` / common-end rules) is the other, and both get their theorems from the same lemmas.

For ALL ordered segment lists, options, separation distances and solver outputs, in file order: separation and alignment
in one attempt (`genG_constraint`, `region_separation_R`, `region_alignment_R`); the retry loop (`retry_invariant` and what it
gives in EVERY attempt: `retry_separation`, `retry_limits`; the distances that occur: `retry_distance_threshold`,
`retry_distance_bounds`; what a satisfied round means: `satisfied_no_retry`, `satisfied_close`); the pass carries nothing
from one region to the next; the write-back rule; the unifying pass; region formation and `linesort` (soundness of the two
checks the driver applies to the dumped regions, for ANY overlap predicate resp. ANY comparator agreeing with the rules of
`CmpLineOrder` that need no point order); non-vacuity.
-/
import AdaptaVerif.Lemmas.NudgeRegion
import AdaptaVerif.Props.C10
namespace AdaptaVerif.Props.C10Region
open AdaptaVerif.Model.Nudge AdaptaVerif.Model.NudgeRegion AdaptaVerif.Lemmas.NudgeRegion
open AdaptaVerif.Spec.Nudge

/-- the abstract model of Model/Nudge.lean is an instance of the generic generator -/
theorem genCons_is_genG (p : Params) (segs : List Seg) : genCons p segs = genG (absP p) segs :=
  AdaptaVerif.Lemmas.Nudge.genCons_eq p segs

/-- generic: the constraint of an ordered overlapping pair (not both fixed) holds in every assignment
    that satisfies the generated list -/
theorem genG_constraint {α : Type} (g : GenP α) (segs : List α) (sol : Sol) (h : ∀ c ∈ genG g segs, c.holds sol)
    (j i : Nat) (a b : α) (hj : segs[j]? = some a) (hi : segs[i]? = some b) (hji : j < i)
    (hov : g.ov b a = true) (hfix : g.fixed b = false ∨ g.fixed a = false) :
    if (g.gap a b).2 then sol.x j + (g.gap a b).1 = sol.x i else sol.x j + (g.gap a b).1 ≤ sol.x i := by
  have := h _ (sep_mem_genG g segs j i a b hj hi hji hov hfix)
  simpa [Cons.holds] using this

/-- Props/C10.region_separation, obtained from the generic theorem through `genCons_is_genG` -/
theorem region_separation_again (p : Params) (segs : List Seg) (sol : Sol) (h : AllHold p segs sol)
    (j i : Nat) (a b : Seg) (hj : segs[j]? = some a) (hi : segs[i]? = some b) (hji : j < i)
    (hov : overlaps b a = true) (hfix : b.fixed = false ∨ a.fixed = false) (hfull : FullGap p a b) :
    sol.x j + p.sepDist ≤ sol.x i := by
  have h' : ∀ c ∈ genG (absP p) segs, c.holds sol := by
    rw [← genCons_is_genG]; exact h
  have := genG_constraint (absP p) segs sol h' j i a b hj hi hji hov hfix
  have hg : (absP p).gap a b = (p.sepDist, false) := AdaptaVerif.Lemmas.Nudge.gapFor_full p a b hfull
  rw [hg] at this
  simpa using this

/-- the numbered constraint handed to the solver means the structured one -/
theorem flat_holds_iff (segs : List RSeg) (pos : Nat → Rat) (c : Cons) :
    (flat segs c).holds pos ↔ c.holds (solOf segs pos) := by
  cases c with
  | sep j i gap eq => cases eq <;> simp [flat, FCon.holds, Cons.holds, solOf]
  | lower i l => simp [flat, FCon.holds, Cons.holds, solOf]
  | upper i u => simp [flat, FCon.holds, Cons.holds, solOf]

/-- real region, one attempt with distance `d`: ordered overlapping segments of different connectors
    (not exempted by the common-end-point rule) are at least `d` apart in every solver output that
    satisfies the constraints handed to the solver -/
theorem region_separation_R (o : ROpts) (d : Rat) (segs : List RSeg) (pos : Nat → Rat)
    (h : AllHoldF ((regionCons o d segs).map (flat segs)) pos)
    (j i : Nat) (a b : RSeg) (hj : segs[j]? = some a) (hi : segs[i]? = some b) (hji : j < i)
    (hov : overlapsWith o b a = true) (hfix : b.fixed = false ∨ a.fixed = false) (hfull : FullGapR o a b) :
    pos (varIdx segs j) + d ≤ pos (varIdx segs i) := by
  have hm := sep_mem_genG (regionP o d) segs j i a b hj hi hji hov hfix
  have hg : (regionP o d).gap a b = (d, false) := gapOf_full o d a b hfull
  rw [hg] at hm
  have := h _ (List.mem_map_of_mem hm)
  simpa [flat, FCon.holds] using this

/-- pairs the code aligns (`shouldAlignWith`, or a shared path with a common end point while
    nudgeSharedPathsWithCommonEndPoint is off) are held at the same position -/
theorem region_alignment_R (o : ROpts) (d : Rat) (segs : List RSeg) (pos : Nat → Rat)
    (h : AllHoldF ((regionCons o d segs).map (flat segs)) pos)
    (j i : Nat) (a b : RSeg) (hj : segs[j]? = some a) (hi : segs[i]? = some b) (hji : j < i)
    (hov : overlapsWith o b a = true) (hfix : b.fixed = false ∨ a.fixed = false)
    (halign : gapOf o d a b = (0, true)) :
    pos (varIdx segs j) = pos (varIdx segs i) := by
  have hm := sep_mem_genG (regionP o d) segs j i a b hj hi hji hov hfix
  have hg : (regionP o d).gap a b = (0, true) := halign
  rw [hg] at hm
  have := h _ (List.mem_map_of_mem hm)
  simpa [flat, FCon.holds] using this

/-! ### the retry loop -/

/-- in exact arithmetic the hypothesis `hmono` of the retry theorems holds for every non-negative
    ideal nudging distance (the code asserts `baseSepDist >= 0`) -/
theorem reduction_nonincreasing_exact (o : ROpts) (hr : ∀ r, o.rnd r = r) (hb : 0 ≤ o.base) (s : Rat) :
    nextSep o s ≤ s := nextSep_le_exact o hr hb s

/-- invariant of the retry loop, for every sequence of solver answers.
    `hmono` (the reduction does not increase the distance) is asked only for the distances that OCCUR, i.e. at the states
    of the loop (the unbounded form `∀ s : Rat, nextSep o s ≤ s` is false for the rounding the driver passes —
    `roundDouble`, e.g. base 10, s = 2^60 − 1/4: see the `example` below;
    for exact arithmetic `reduction_nonincreasing_exact` gives it for all `s`) -/
theorem retry_invariant (o : ROpts) (segs : List RSeg) (vars : List Var)
    (hmono : ∀ s, Reach o vars (initState o segs) s → nextSep o s.sepDist ≤ s.sepDist)
    (st : NState) (hreach : Reach o vars (initState o segs) st) :
    StateInv (initState o segs).cons st := by
  induction hreach with
  | start => exact stateInv_init o segs
  | step fps hprev hstep _ ih => exact nudgeStep_inv o vars _ _ fps _ hstep (hmono _ hprev) ih

-- the unbounded form of `hmono` is NOT satisfiable with IEEE rounding (closed witness, kernel-evaluated)
example : ¬ (∀ s, nextSep ⟨false, true, false, 0, fun _ _ => false, false, 10, roundDouble⟩ s ≤ s) :=
  fun h => absurd (h ((2 ^ 60 : Rat) - 1 / 4)) (by decide +kernel)

/-- in every attempt of the retry loop: a solver output satisfying the constraints of that attempt
    separates ordered overlapping segments of different connectors by the distance of that attempt -/
theorem retry_separation (o : ROpts) (segs : List RSeg) (vars : List Var) (hb : 0 < o.base)
    (hmono : ∀ s, Reach o vars (initState o segs) s → nextSep o s.sepDist ≤ s.sepDist)
    (st : NState) (hreach : Reach o vars (initState o segs) st)
    (pos : Nat → Rat) (h : AllHoldF st.cons pos)
    (j i : Nat) (a b : RSeg) (hj : segs[j]? = some a) (hi : segs[i]? = some b) (hji : j < i)
    (hov : overlapsWith o b a = true) (hfix : b.fixed = false ∨ a.fixed = false) (hfull : FullGapR o a b) :
    pos (varIdx segs j) + st.sepDist ≤ pos (varIdx segs i) := by
  have hinv := retry_invariant o segs vars hmono st hreach
  have hm := sep_mem_genG (regionP o o.base) segs j i a b hj hi hji hov hfix
  have hg : (regionP o o.base).gap a b = (o.base, false) := gapOf_full o o.base a b hfull
  rw [hg] at hm
  exact (stateInv_holds hinv h _ (List.mem_map_of_mem hm) rfl).2 hb

/-- the loop only goes round again with a distance above the threshold 0.0001 -/
theorem retry_distance_threshold (o : ROpts) (segs : List RSeg) (vars : List Var)
    (st : NState) (hreach : Reach o vars (initState o segs) st) :
    st.sepDist = o.base ∨ tolD < st.sepDist := by
  cases hreach with
  | start => left; rfl
  | step fps _ hstep hr => right; exact (nudgeStep_retry o vars _ fps _ hstep hr).1

/-- exact arithmetic (`rnd = id`): every attempt is made with one of the distances
    base − k·base/10, k ≤ 9, hence with at least a tenth of the ideal nudging distance
    (lifts Props/C10.sepAfter_bounds to the loop of the model) -/
theorem retry_distance_bounds (o : ROpts) (hr : ∀ r, o.rnd r = r) (hb : 0 < o.base) (segs : List RSeg)
    (vars : List Var) (st : NState) (hreach : Reach o vars (initState o segs) st) :
    o.base / 10 ≤ st.sepDist ∧ st.sepDist ≤ o.base ∧ 0 < st.sepDist := by
  obtain ⟨k, hk, hk9⟩ := reach_sepAfter o hr hb vars (initState o segs) rfl st hreach
  obtain ⟨h1, h2⟩ := AdaptaVerif.Props.C10.sepAfter_bounds o.base hb k hk9
  rw [hk]
  refine ⟨h1, ?_, h2⟩
  unfold sepAfter
  have h10 : 0 ≤ o.base / 10 := by positivity
  have : 0 ≤ (k : Rat) * (o.base / 10) := mul_nonneg (by positivity) h10
  linarith

/-- the channel constraints survive the gap rewriting: in every attempt, a free segment whose
    channel-edge variables ended within `tol` of the limits is itself within `tol` of the limits -/
theorem retry_limits (o : ROpts) (segs : List RSeg) (vars : List Var)
    (hmono : ∀ s, Reach o vars (initState o segs) s → nextSep o s.sepDist ≤ s.sepDist)
    (st : NState) (hreach : Reach o vars (initState o segs) st)
    (pos : Nat → Rat) (h : AllHoldF st.cons pos) (tol : Rat)
    (i : Nat) (s : RSeg) (hi : segs[i]? = some s) (hf : s.fixed = false) :
    (∀ l, s.lower = some l → absQ (pos (clIdx segs i) - l) ≤ tol → l - tol ≤ pos (varIdx segs i)) ∧
    (∀ u, s.upper = some u → absQ (pos (crIdx segs i) - u) ≤ tol → pos (varIdx segs i) ≤ u + tol) := by
  have hinv := retry_invariant o segs vars hmono st hreach
  constructor
  · intro l hl habs
    have hm := lower_mem_genG (regionP o o.base) segs i s l hi hf hl
    have hh := (stateInv_holds hinv h _ (List.mem_map_of_mem hm) rfl).1 (le_refl 0)
    simp only [flat] at hh
    have := absQ_le habs
    linarith [this.1]
  · intro u hu habs
    have hm := upper_mem_genG (regionP o o.base) segs i s u hi hf hu
    have hh := (stateInv_holds hinv h _ (List.mem_map_of_mem hm) rfl).1 (le_refl 0)
    simp only [flat] at hh
    have := absQ_le habs
    linarith [this.2]

/-- a satisfied round ends the loop and leaves distance and constraints as they were solved -/
theorem satisfied_no_retry (o : ROpts) (vars : List Var) (st : NState) (fps : List Rat)
    (out : StepOut NState) (hstep : nudgeStep o vars st fps = some out) (hs : out.satisfied = true) :
    out.retry = false ∧ out.next.sepDist = st.sepDist ∧ out.next.cons = st.cons := by
  obtain ⟨sat, rs, _, ⟨_, rfl⟩ | ⟨_, rfl⟩⟩ := nudgeStep_cases o vars st fps out hstep
  · exact ⟨rfl, rfl, rfl⟩
  · cases hs

/-- the `satisfied` test: in a satisfied round every solver variable that is not a free segment (fixed
    segments, channel edges) ended within 0.0001 of its desired position.  (Stated over `vars.zip fps`: variables
    and solver answers are paired positionally, so "every variable" needs `fps.length = vars.length` — the driver
    passes one final position per variable; a shorter `fps` leaves the unpaired variables untested.) -/
theorem satisfied_close (o : ROpts) (vars : List Var) (st : NState) (fps : List Rat)
    (out : StepOut NState) (hstep : nudgeStep o vars st fps = some out) (hs : out.satisfied = true) :
    ∀ vf ∈ vars.zip fps, vf.1.id ≠ freeSegmentID → absQ (vf.2 - vf.1.desired) ≤ tolD := by
  obtain ⟨sat, rs, hscan, ⟨hsat, _⟩ | ⟨_, rfl⟩⟩ := nudgeStep_cases o vars st fps out hstep
  · have := (scanVars_true_iff vars fps st.ranges).1 ⟨rs, hsat ▸ hscan⟩
    intro vf hvf hid
    obtain ⟨i, hlt, hget⟩ := List.mem_iff_getElem.mp hvf
    have hu := this (vf, i) (by rw [List.mem_zipIdx_iff_getElem?, List.getElem?_eq_getElem hlt, hget])
    unfold varUnsat at hu
    simp only [Bool.and_eq_false_iff, bne_eq_false_iff_eq, decide_eq_false_iff_not, not_lt] at hu
    exact hu.resolve_left hid
  · cases hs

/-! ### the pass: no state is carried from one region to the next -/

/-- in a nudging pass (`runPass`: the loop over the regions of one dimension) the FIRST attempt of every region
    is made with the ideal nudging distance and the constraints generated with it — whatever the regions
    processed before it were, and whatever the solver answered for them (a region that had to reduce its
    distance, or gave up at ~0, does not hand that distance on; seeded change C10-5 moved the declaration
    of `sepDist` out of the per-region loop) -/
theorem first_attempt_uses_base_distance (o : ROpts) (before after : List (List RSeg × List (List Rat)))
    (segs : List RSeg) (answers : List (List Rat)) :
    ∃ tail, (runPass o (before ++ (segs, answers) :: after))[before.length]? = some (initState o segs :: tail) ∧
      (initState o segs).sepDist = o.base ∧
      (initState o segs).cons = (regionCons o o.base segs).map (flat segs) ∧ (initState o segs).ranges = [] := by
  have hget : (before ++ (segs, answers) :: after)[before.length]? = some (segs, answers) := by simp
  unfold runPass
  rw [List.getElem?_map, hget]
  cases answers with
  | nil => exact ⟨[], rfl, rfl, rfl, rfl⟩
  | cons fps rest => exact ⟨_, rfl, rfl, rfl, rfl⟩

/-- the whole trace of a region depends on that region alone -/
theorem pass_regions_independent (o : ROpts) (before before' after after' : List (List RSeg × List (List Rat)))
    (r : List RSeg × List (List Rat)) :
    (runPass o (before ++ r :: after))[before.length]? = (runPass o (before' ++ r :: after'))[before'.length]? := by
  unfold runPass
  simp

/-- every solver call of every region of a pass happens in a state covered by the retry theorems
    (`retry_separation`, `retry_limits`, … with the region's own start state) -/
theorem pass_states_reachable (o : ROpts) (regions : List (List RSeg × List (List Rat))) (k : Nat)
    (segs : List RSeg) (answers : List (List Rat)) (hk : regions[k]? = some (segs, answers)) (tr : List NState)
    (htr : (runPass o regions)[k]? = some tr) :
    ∀ s ∈ tr, Reach o (regionVars o segs) (initState o segs) s := by
  unfold runPass at htr
  rw [List.getElem?_map, hk] at htr
  simp only [Option.map_some, Option.some.injEq] at htr
  subst htr
  exact regionTrace_reach o _ _ answers _ Reach.start

/-- non-vacuity: a narrow region (two attempts: 10, then 9) followed by a wide one: the wide one starts at 10 -/
example :
    (runPass ⟨false, true, false, 0, fun _ _ => false, false, 10, id⟩
      [([⟨3, 0, 100, 5, 0, 5, false, false, false, false, false, false, []⟩,
         ⟨4, 50, 150, 5, 0, 5, false, false, false, false, false, false, []⟩], [[0, 0, 5, 10, 0, 10], [0, 0, 5, 9, 0, 9]]),
       ([⟨1, 0, 100, 5, 0, 30, false, false, false, false, false, false, []⟩,
         ⟨2, 50, 150, 5, 0, 30, false, false, false, false, false, false, []⟩], [[0, 0, 30, 10, 0, 30]])]).map
      (fun tr => tr.map (·.sepDist)) = [[10, 9, 8], [10]] := by
  decide +kernel

/-! ### write-back -/

/-- fixed segments are never written -/
theorem written_fixed (sat : Bool) (s : RSeg) (x : Rat) (hf : s.fixed = true) : written sat s x = s.pos := by
  unfold written; simp [hf]

/-- nothing is written when the region ended unsatisfied -/
theorem written_unsatisfied (s : RSeg) (x : Rat) : written false s x = s.pos := by
  unfold written; simp

/-- a written position is inside `[minSpaceLimit, maxSpaceLimit]` -/
theorem written_in_limits (s : RSeg) (x : Rat) (hf : s.fixed = false) (hlu : s.minLim ≤ s.maxLim) :
    s.minLim ≤ written true s x ∧ written true s x ≤ s.maxLim := by
  unfold written clampR
  simp only [hf, if_true, Bool.false_eq_true, if_false]
  exact ⟨le_min (le_max_right _ _) hlu, min_le_right _ _⟩

/-- clamping moves a position that is within `tol` of the limit range by at most `tol` -/
theorem written_close (s : RSeg) (x tol : Rat) (ht : 0 ≤ tol) (hf : s.fixed = false) (hlu : s.minLim ≤ s.maxLim)
    (h1 : s.minLim - tol ≤ x) (h2 : x ≤ s.maxLim + tol) :
    -tol ≤ written true s x - x ∧ written true s x - x ≤ tol := by
  have _ := hlu  -- closeness does not depend on the limits being ordered
  unfold written clampR
  simp only [hf, if_true, Bool.false_eq_true, if_false]
  have lo : x - tol ≤ min (max x s.minLim) s.maxLim := le_min (le_trans (by linarith) (le_max_left _ _)) (by linarith)
  have hi : min (max x s.minLim) s.maxLim ≤ x + tol := le_trans (min_le_left _ _) (max_le (by linarith) (by linarith))
  constructor <;> linarith

/-- after write-back the separation of the successful attempt survives up to 2·tol, for two segments
    whose written positions are within `tol` of the solver's (for free segments: `written_close` with
    `retry_limits`; for fixed ones: the `satisfied` test) -/
theorem applied_separation_R (o : ROpts) (segs : List RSeg) (vars : List Var) (hb : 0 < o.base)
    (hmono : ∀ s, Reach o vars (initState o segs) s → nextSep o s.sepDist ≤ s.sepDist)
    (st : NState) (hreach : Reach o vars (initState o segs) st)
    (pos : Nat → Rat) (h : AllHoldF st.cons pos) (tol : Rat)
    (j i : Nat) (a b : RSeg) (hj : segs[j]? = some a) (hi : segs[i]? = some b) (hji : j < i)
    (hov : overlapsWith o b a = true) (hfix : b.fixed = false ∨ a.fixed = false) (hfull : FullGapR o a b)
    (ha : -tol ≤ written true a (pos (varIdx segs j)) - pos (varIdx segs j) ∧
          written true a (pos (varIdx segs j)) - pos (varIdx segs j) ≤ tol)
    (hbb : -tol ≤ written true b (pos (varIdx segs i)) - pos (varIdx segs i) ∧
          written true b (pos (varIdx segs i)) - pos (varIdx segs i) ≤ tol) :
    written true a (pos (varIdx segs j)) + (st.sepDist - 2 * tol) ≤ written true b (pos (varIdx segs i)) := by
  have := retry_separation o segs vars hb hmono st hreach pos h j i a b hj hi hji hov hfix hfull
  linarith [ha.1, ha.2, hbb.1, hbb.2]

/-! ### the unifying pass -/

/-- the unifying pass, for every sequence of solver answers: every constraint it ever hands to the solver is
    an equality with gap 0 between two DIFFERENT variables that both carry the weight `freeWeight` (by `createVar`:
    zigzag centres, and free final segments while nudgeOrthogonalSegmentsConnectedToShapes is off); fixed segments,
    checkpoint segments and the other strong-weight segments (free non-final segments that are no zigzag, final
    segments under that option) are never tied to anything in this pass -/
theorem unify_only_free_equalities (o : ROpts) (segs : List RSeg) (st : UState)
    (h : UReach o (unifyVars o segs) (unifyInit o segs) st) :
    ∀ c ∈ st.cons, c.eq = true ∧ c.gap = 0 ∧ c.left ≠ c.right ∧
      (∃ v, (unifyVars o segs)[c.left]? = some v ∧ v.weight = freeWeight) ∧
      (∃ v, (unifyVars o segs)[c.right]? = some v ∧ v.weight = freeWeight) := by
  have key : (∀ p ∈ st.pots, p ∈ (unifyInit o segs).pots) ∧
      (∀ c ∈ st.cons, c.eq = true ∧ c.gap = 0 ∧ c.left ≠ c.right ∧ (c.left, c.right) ∈ (unifyInit o segs).pots) := by
    induction h with
    | start => exact ⟨fun p hp => hp, fun c hc => by simp [unifyInit] at hc⟩
    | step fps _ hstep ih =>
      obtain ⟨hp, hc⟩ := unifyStep_shape o _ _ fps _ hstep
      refine ⟨fun p hpm => ih.1 p (hp p hpm), ?_⟩
      intro c hcm
      rcases hc c hcm with hold | ⟨he, hg, hne, hmem⟩
      · exact ih.2 c hold
      · exact ⟨he, hg, hne, ih.1 _ hmem⟩
  intro c hc
  obtain ⟨he, hg, hne, hmem⟩ := key.2 c hc
  obtain ⟨ha, hb⟩ := unifyInit_pots o segs c.left c.right hmem
  exact ⟨he, hg, hne, ha, hb⟩

/-- non-vacuity: a unifying round on three free zigzag segments adds the equality of the two closest ones -/
example :
    (unifyStep ⟨false, true, false, 0, fun _ _ => false, true, 10, id⟩
      (unifyVars ⟨false, true, false, 0, fun _ _ => false, true, 10, id⟩
        [⟨1, 0, 100, 5, 0, 30, false, false, false, false, true, false, []⟩,
         ⟨2, 50, 150, 5, 0, 34, false, false, false, false, true, false, []⟩,
         ⟨3, 60, 160, 5, 0, 50, false, false, false, false, false, true, []⟩])
      (unifyInit ⟨false, true, false, 0, fun _ _ => false, true, 10, id⟩
        [⟨1, 0, 100, 5, 0, 30, false, false, false, false, true, false, []⟩,
         ⟨2, 50, 150, 5, 0, 34, false, false, false, false, true, false, []⟩,
         ⟨3, 60, 160, 5, 0, 50, false, false, false, false, false, true, []⟩])
      [15, 17, 25]).map (fun out => (out.retry, out.next.cons, out.next.pots)) =
    some (true, [⟨0, 1, 0, true⟩], [(0, 1), (1, 2), (0, 2)]) := by
  decide +kernel

/-! ### region formation: soundness of the cross-region check the driver runs on every pass -/

theorem overlapsWith_symm (o : ROpts) (a b : RSeg) : overlapsWith o a b = overlapsWith o b a := by
  have hm : limitsMeet a b = limitsMeet b a := Bool.and_comm _ _
  unfold overlapsWith
  rw [hm, Bool.and_comm (decide (a.lo < b.hi)), Bool.or_comm (decide (a.lo = b.hi)), Bool.and_comm b.sBend,
    Bool.and_comm b.zBend, Bool.and_comm b.finalSeg, show decide (b.conn = a.conn) = decide (a.conn = b.conn) from
      decide_eq_decide.2 eq_comm]

/-- the loop that grows `currentRegion` (restart after every addition), ∀ overlap predicates and lists:
    when it stops, no segment left in the list overlaps any segment of the region -/
theorem region_formation_closed {α : Type} (ov : α → α → Bool) (l : List α) :
    ∀ x ∈ (formRegion ov l).2, ∀ t ∈ (formRegion ov l).1, ov x t = false := by
  cases l with
  | nil => intro x hx; cases hx
  | cons y rest => exact formLoop_closed ov rest.length [y] rest (Nat.le_refl _)

/-- hence no segment of a later region of the pass overlaps a segment of an earlier one: the check the
    driver applies to the dumped regions of every pass cannot alarm on a correct implementation -/
theorem regions_do_not_overlap {α : Type} (ov : α → α → Bool) : ∀ (fuel : Nat) (l : List α),
    List.Pairwise (fun r1 r2 => ∀ x ∈ r2, ∀ t ∈ r1, ov x t = false) (formAll ov fuel l) := by
  intro fuel
  induction fuel with
  | zero => intro l; exact List.Pairwise.nil
  | succ n ih =>
    intro l
    cases l with
    | nil => exact List.Pairwise.nil
    | cons y rest =>
      unfold formAll
      refine List.Pairwise.cons ?_ (ih _)
      intro r2 hr2 x hx t ht
      exact region_formation_closed ov (y :: rest) x (formAll_mem ov n _ r2 hr2 x hx) t ht

/-- non-vacuity: three segments, the first and third overlap only through the second: one region of all three
    (the restart finds the third), a fourth far away forms its own -/
example : formAll (fun (a b : Nat × Nat) => decide (a.1 < b.2) && decide (b.1 < a.2)) 4 [(0, 10), (18, 30), (8, 20), (50, 60)] =
    [[(0, 10), (8, 20), (18, 30)], [(50, 60)]] := by
  decide +kernel

/-! ### linesort: soundness of the order check the driver runs on every dumped region -/

/-- `linesort` (insertion with a partial comparator, deferral of incomparable elements) with ANY
    comparator — in particular `CmpLineOrder` with point orders that are not modelled — that agrees with
    the position / fixedOrder / order rules wherever they decide, never leaves a segment directly
    before one that the rules put before it: the check `orderViolation` the driver applies to every
    dumped nudging region cannot alarm on a correct implementation (∀ comparators, list sizes,
    deferral histories) -/
theorem linesort_respects_rules (nd : Rat) (cmp : RSeg → RSeg → Bool × Bool)
    (hagree : ∀ x y r, ruleCmp nd x y = some r → cmp x y = (r, true))
    (fuel : Nat) (orig : List RSeg) (sz d : Nat) :
    orderViolation nd (linesortLoop cmp fuel orig [] sz d) = none := by
  apply orderViolation_none_of_isChain
  apply List.IsChain.imp _ (isChain_linesortLoop cmp fuel orig [] sz d .nil)
  intro x y hxy hr
  have hyx : cmp y x = (true, true) := hagree y x true hr
  rcases hxy with h | h
  · have := hagree x y false (ruleCmp_asymm nd y x hr)
    rw [this] at h
    cases h
  · exact h hyx

/-- the rule of `fixedOrder`'s flag at the call site: the flag of the pair is the OR of the two
    (seeded change C10-2 made it the second one's only) -/
theorem ruleCmp_fixed_rule (nd : Rat) (x y : RSeg) (hp : x.pos = y.pos)
    (hf : (fixedOrder nd x).2 = true ∨ (fixedOrder nd y).2 = true) (hne : (fixedOrder nd x).1 ≠ (fixedOrder nd y).1) :
    ruleCmp nd x y = some (decide ((fixedOrder nd x).1 < (fixedOrder nd y).1)) := by
  unfold ruleCmp
  have n1 : ¬ (x.pos ≠ y.pos) := fun h => h hp
  rw [if_neg n1]
  have : (((fixedOrder nd x).2 || (fixedOrder nd y).2) && decide ((fixedOrder nd x).1 ≠ (fixedOrder nd y).1)) = true := by
    simp only [Bool.and_eq_true, Bool.or_eq_true, decide_eq_true_eq]
    exact ⟨hf, hne⟩
  simp only [this, if_true]

/-- non-vacuity: a comparator that agrees with the rules exists (the rules themselves, undecided pairs
    incomparable), and the check does alarm on a wrongly ordered pair -/
example : ∃ cmp : RSeg → RSeg → Bool × Bool, ∀ x y r, ruleCmp 10 x y = some r → cmp x y = (r, true) :=
  ⟨fun x y => match ruleCmp 10 x y with | some r => (r, true) | none => (false, false), by
    intro x y r h; simp [h]⟩

example : (orderViolation 10
    [⟨1, 0, 100, 7, 0, 30, false, false, false, false, false, false, []⟩,
     ⟨2, 50, 150, 5, 0, 30, false, false, false, false, false, false, []⟩]).isSome = true := by
  decide +kernel

/-! ### non-vacuity (closed witnesses, decided by the kernel) -/

/-- a wide channel [0,30], two free segments of connectors 1 and 2 whose extents overlap, distance 10:
    the start state is reachable, a solver output (x₀ = 0, x₁ = 10, channel edges at 0 / 30) satisfies all
    constraints handed to the solver, the pair overlaps and gets the full gap -/
example :
    AllHoldF (initState ⟨false, true, false, 0, fun _ _ => false, false, 10, id⟩
      [⟨1, 0, 100, 5, 0, 30, false, false, false, false, false, false, []⟩,
       ⟨2, 50, 150, 5, 0, 30, false, false, false, false, false, false, []⟩]).cons
      (fun k => if k = 3 then 10 else if k = 2 ∨ k = 5 then 30 else 0) := by
  unfold AllHoldF FCon.holds
  decide +kernel

example :
    overlapsWith ⟨false, true, false, 0, fun _ _ => false, false, 10, id⟩
      ⟨2, 50, 150, 5, 0, 30, false, false, false, false, false, false, []⟩
      ⟨1, 0, 100, 5, 0, 30, false, false, false, false, false, false, []⟩ = true ∧
    FullGapR ⟨false, true, false, 0, fun _ _ => false, false, 10, id⟩
      ⟨1, 0, 100, 5, 0, 30, false, false, false, false, false, false, []⟩
      ⟨2, 50, 150, 5, 0, 30, false, false, false, false, false, false, []⟩ := by
  unfold FullGapR
  decide +kernel

/-- a narrow channel [0,5]: the solver can only answer with a displaced channel edge (variable 5 at 10
    instead of 5); the round is unsatisfied, asks for a retry with distance 9 and rewrites exactly the
    one positive gap: the retry theorems are about states that do occur -/
example :
    (nudgeStep ⟨false, true, false, 0, fun _ _ => false, false, 10, id⟩
      (regionVars ⟨false, true, false, 0, fun _ _ => false, false, 10, id⟩
        [⟨1, 0, 100, 5, 0, 5, false, false, false, false, false, false, []⟩,
         ⟨2, 50, 150, 5, 0, 5, false, false, false, false, false, false, []⟩])
      (initState ⟨false, true, false, 0, fun _ _ => false, false, 10, id⟩
        [⟨1, 0, 100, 5, 0, 5, false, false, false, false, false, false, []⟩,
         ⟨2, 50, 150, 5, 0, 5, false, false, false, false, false, false, []⟩])
      [0, 0, 5, 10, 0, 10]).map (fun out => (out.satisfied, out.retry, out.next.sepDist, out.next.cons)) =
    some (false, true, 9, [⟨1, 0, 0, false⟩, ⟨0, 2, 0, false⟩, ⟨4, 3, 0, false⟩, ⟨0, 3, 9, false⟩, ⟨3, 5, 0, false⟩]) := by
  decide +kernel

/-- a satisfied round on the wide channel (every channel edge and nothing else is tested) -/
example :
    (nudgeStep ⟨false, true, false, 0, fun _ _ => false, false, 10, id⟩
      (regionVars ⟨false, true, false, 0, fun _ _ => false, false, 10, id⟩
        [⟨1, 0, 100, 5, 0, 30, false, false, false, false, false, false, []⟩,
         ⟨2, 50, 150, 5, 0, 30, false, false, false, false, false, false, []⟩])
      (initState ⟨false, true, false, 0, fun _ _ => false, false, 10, id⟩
        [⟨1, 0, 100, 5, 0, 30, false, false, false, false, false, false, []⟩,
         ⟨2, 50, 150, 5, 0, 30, false, false, false, false, false, false, []⟩])
      [0, 0, 30, 10, 0, 30]).map (fun out => (out.satisfied, out.retry)) = some (true, false) := by
  decide +kernel

/-- write-back clamps into the limits, leaves fixed segments alone -/
example : written true ⟨1, 0, 100, 5, 0, 30, false, false, false, false, false, false, []⟩ (-1 / 10000) = 0 ∧
    written true ⟨1, 0, 100, 5, 5, 5, true, true, false, false, false, false, []⟩ 7 = 5 := by
  decide +kernel

/-! ### joint non-vacuity: ALL hypotheses of a theorem on one instance, and the theorem instantiated on it -/

-- non-vacuity (joint) of `region_separation_R` (wide channel, first attempt)
example :
    let o : ROpts := ⟨false, true, false, 0, fun _ _ => false, false, 10, id⟩
    let a : RSeg := ⟨1, 0, 100, 5, 0, 30, false, false, false, false, false, false, []⟩
    let b : RSeg := ⟨2, 50, 150, 5, 0, 30, false, false, false, false, false, false, []⟩
    ∃ pos, AllHoldF ((regionCons o 10 [a, b]).map (flat [a, b])) pos ∧ overlapsWith o b a = true ∧ FullGapR o a b ∧
      pos (varIdx [a, b] 0) + 10 ≤ pos (varIdx [a, b] 1) := by
  intro o a b
  have hov : overlapsWith o b a = true := by decide +kernel
  have hfg : FullGapR o a b := by unfold FullGapR; decide +kernel
  have hA : AllHoldF ((regionCons o 10 [a, b]).map (flat [a, b]))
      (fun k => if k = 3 then 10 else if k = 2 ∨ k = 5 then 30 else 0) := by
    unfold AllHoldF FCon.holds; decide +kernel
  exact ⟨_, hA, hov, hfg, region_separation_R o 10 [a, b] _ hA 0 1 a b rfl rfl (by decide) hov (Or.inl rfl) hfg⟩

-- non-vacuity (joint) of `region_alignment_R`: shared path with a common end point, option off: equality
example :
    let o : ROpts := ⟨false, false, false, 0, fun _ _ => true, false, 10, id⟩
    let a : RSeg := ⟨1, 0, 100, 5, 0, 30, false, false, false, false, false, false, []⟩
    let b : RSeg := ⟨2, 50, 150, 5, 0, 30, false, false, false, false, false, false, []⟩
    ∃ pos, AllHoldF ((regionCons o 10 [a, b]).map (flat [a, b])) pos ∧ overlapsWith o b a = true ∧
      gapOf o 10 a b = (0, true) ∧ pos (varIdx [a, b] 0) = pos (varIdx [a, b] 1) := by
  intro o a b
  have hov : overlapsWith o b a = true := by decide +kernel
  have hg : gapOf o 10 a b = (0, true) := by decide +kernel
  have hA : AllHoldF ((regionCons o 10 [a, b]).map (flat [a, b]))
      (fun k => if k = 0 ∨ k = 3 then 5 else if k = 2 ∨ k = 5 then 30 else 0) := by
    unfold AllHoldF FCon.holds; decide +kernel
  exact ⟨_, hA, hov, hg, region_alignment_R o 10 [a, b] _ hA 0 1 a b rfl rfl (by decide) hov (Or.inl rfl) hg⟩

-- non-vacuity (joint) of `retry_invariant`, `retry_separation`, `retry_limits`, `applied_separation_R`,
-- `retry_distance_threshold`, `retry_distance_bounds`: the narrow channel, the state reached AFTER one retry
-- (distance 9, not the start state), a solver output satisfying its rewritten constraints
example :
    let o : ROpts := ⟨false, true, false, 0, fun _ _ => false, false, 10, id⟩
    let a : RSeg := ⟨1, 0, 100, 5, 0, 5, false, false, false, false, false, false, []⟩
    let b : RSeg := ⟨2, 50, 150, 5, 0, 5, false, false, false, false, false, false, []⟩
    ∃ st pos, Reach o (regionVars o [a, b]) (initState o [a, b]) st ∧ st.sepDist = 9 ∧ st ≠ initState o [a, b] ∧
    AllHoldF st.cons pos ∧ overlapsWith o b a = true ∧ FullGapR o a b ∧ (∀ s, nextSep o s ≤ s) ∧ 0 < o.base ∧
    (∀ r, o.rnd r = r) ∧ a.fixed = false ∧ a.lower = some 0 ∧
    pos (varIdx [a, b] 0) + st.sepDist ≤ pos (varIdx [a, b] 1) ∧
    (absQ (pos (clIdx [a, b] 0) - 0) ≤ 0 → 0 - 0 ≤ pos (varIdx [a, b] 0)) ∧
    written true a (pos (varIdx [a, b] 0)) + (st.sepDist - 2 * 4) ≤ written true b (pos (varIdx [a, b] 1)) := by
  intro o a b
  have hm : ∀ s, nextSep o s ≤ s := reduction_nonincreasing_exact o (fun _ => rfl) (by decide +kernel)
  have hb : 0 < o.base := by decide +kernel
  have hov : overlapsWith o b a = true := by decide +kernel
  have hfg : FullGapR o a b := by unfold FullGapR; decide +kernel
  have hd : (nudgeStep o (regionVars o [a, b]) (initState o [a, b]) [0, 0, 5, 10, 0, 10]).map
      (fun out => (out.retry, out.next.sepDist, out.next.cons)) =
      some (true, 9, [⟨1, 0, 0, false⟩, ⟨0, 2, 0, false⟩, ⟨4, 3, 0, false⟩, ⟨0, 3, 9, false⟩, ⟨3, 5, 0, false⟩]) := by
    decide +kernel
  match hs : nudgeStep o (regionVars o [a, b]) (initState o [a, b]) [0, 0, 5, 10, 0, 10] with
  | none => rw [hs] at hd; cases hd
  | some out =>
    rw [hs] at hd
    simp only [Option.map_some, Option.some.injEq, Prod.mk.injEq] at hd
    obtain ⟨h1, h2, h3⟩ := hd
    have hr := Reach.step (o := o) [0, 0, 5, 10, 0, 10] Reach.start hs h1
    have hm' : ∀ s, Reach o (regionVars o [a, b]) (initState o [a, b]) s → nextSep o s.sepDist ≤ s.sepDist :=
      fun s _ => hm s.sepDist
    have hA : AllHoldF out.next.cons (fun k => if k = 3 ∨ k = 2 ∨ k = 5 then 9 else 0) := by
      rw [h3]; unfold AllHoldF FCon.holds; decide +kernel
    refine ⟨out.next, _, hr, h2, ?_, hA, hov, hfg, hm, hb, fun _ => rfl, rfl, by decide +kernel,
      retry_separation o [a, b] _ hb hm' _ hr _ hA 0 1 a b rfl rfl (by decide) hov (Or.inl rfl) hfg,
      (retry_limits o [a, b] _ hm' _ hr _ hA 0 0 a rfl rfl).1 0 (by decide +kernel),
      applied_separation_R o [a, b] _ hb hm' _ hr _ hA 4 0 1 a b rfl rfl (by decide) hov (Or.inl rfl) hfg
        (by decide +kernel) (by decide +kernel)⟩
    intro he; rw [he] at h2; revert h2; decide +kernel

-- non-vacuity of `ruleCmp_fixed_rule`: a fixed segment and a free one limited from below, at the same position
example :
    let x : RSeg := ⟨1, 0, 100, 5, 5, 5, true, false, false, false, false, false, []⟩
    let y : RSeg := ⟨2, 50, 150, 5, 0, 30, false, false, false, false, false, false, []⟩
    ruleCmp 10 x y = some true := by
  intro x y
  have h := ruleCmp_fixed_rule 10 x y rfl (Or.inl (by decide +kernel)) (by decide +kernel)
  rw [h]; decide +kernel

-- non-vacuity of `unify_only_free_equalities`: a state reachable by one round that does hold a constraint
example :
    let o : ROpts := ⟨false, true, false, 0, fun _ _ => false, true, 10, id⟩
    let segs : List RSeg := [⟨1, 0, 100, 5, 0, 30, false, false, false, false, true, false, []⟩,
         ⟨2, 50, 150, 5, 0, 34, false, false, false, false, true, false, []⟩,
         ⟨3, 60, 160, 5, 0, 50, false, false, false, false, false, true, []⟩]
    ∃ st, UReach o (unifyVars o segs) (unifyInit o segs) st ∧ st.cons = [⟨0, 1, 0, true⟩] := by
  intro o segs
  have hd : (unifyStep o (unifyVars o segs) (unifyInit o segs) [15, 17, 25]).map (fun out => out.next.cons) =
      some [⟨0, 1, 0, true⟩] := by decide +kernel
  match hs : unifyStep o (unifyVars o segs) (unifyInit o segs) [15, 17, 25] with
  | none => rw [hs] at hd; cases hd
  | some out =>
    rw [hs] at hd
    simp only [Option.map_some, Option.some.injEq] at hd
    exact ⟨out.next, UReach.step [15, 17, 25] UReach.start hs, hd⟩

-- `linesort_respects_rules` is about non-trivial outputs: the rule comparator sorts the wrongly ordered pair
example :
    (linesortLoop (fun x y => match ruleCmp 10 x y with | some r => (r, true) | none => (false, false)) 4
      [⟨1, 0, 100, 7, 0, 30, false, false, false, false, false, false, []⟩,
       ⟨2, 50, 150, 5, 0, 30, false, false, false, false, false, false, []⟩] [] 2 0).map (·.conn) = [2, 1] := by
  decide +kernel

-- non-vacuity of `hmono` WITH IEEE rounding: for the ideal distance 10 and `rnd = roundDouble`, every
-- region, every variable list and every sequence of solver answers: the distances that occur are 10, 9, …, 1 and the
-- reduction never increases them
example (segs : List RSeg) (vars : List Var) :
    let o : ROpts := ⟨false, true, false, 0, fun _ _ => false, false, 10, roundDouble⟩
    ∀ s, Reach o vars (initState o segs) s → nextSep o s.sepDist ≤ s.sepDist := by
  intro o
  -- the list is closed under a reduction that is followed by a retry, and the reduction decreases each of its members
  have hclosed : ∀ d ∈ ([10, 9, 8, 7, 6, 5, 4, 3, 2, 1] : List Rat), tolD < nextSep o d →
      nextSep o d ∈ ([10, 9, 8, 7, 6, 5, 4, 3, 2, 1] : List Rat) := by decide +kernel
  have hle : ∀ d ∈ ([10, 9, 8, 7, 6, 5, 4, 3, 2, 1] : List Rat), nextSep o d ≤ d := by decide +kernel
  have key : ∀ s, Reach o vars (initState o segs) s → s.sepDist ∈ ([10, 9, 8, 7, 6, 5, 4, 3, 2, 1] : List Rat) := by
    intro s h
    induction h with
    | start => exact List.Mem.head _
    | step fps _ hstep hret ih =>
      obtain ⟨h1, h2, _⟩ := nudgeStep_retry o vars _ fps _ hstep hret
      rw [h2] at h1 ⊢
      exact hclosed _ ih h1
  exact fun s h => hle _ (key s h)

end AdaptaVerif.Props.C10Region
