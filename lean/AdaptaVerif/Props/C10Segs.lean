/-
C10 / C11 — segment construction for nudging: property theorems about `Model/NudgeSegs.lean`, the executable model of
`buildOrthogonalNudgingSegments` (cola/libavoid/orthogonal.cpp) and of the sweep of `buildOrthogonalChannelInfo`
(cola/libavoid/scanline.cpp).  The model is tied to the C++ on every run: the driver recomputes, from the state read at the
start of every nudging pass, the segment list and compares it with the regions the hook dumps (Driver/C10.lean, `checkPassSegs`).

All theorems quantify over ALL routes (any number of points, any coordinates), checkpoint caches, obstacle lists and options.
(a) first / last segments; (b) checkpoints; (c) limits contain the position, bends; (d) symmetries (reversing a connector,
transposition); (e) the channel sweep; (f) `mergeWith`.  Proof work: Lemmas/NudgeSegs{,Spec,Rev,Swap}.lean.
The rule for first / last segments is `Model/FinalSegLimits.lean` (imported by the model, not copied): the theorems
of Props/C14Limits.lean (`finalLimits_within`, `finalLimits_end_stays_inside`, …) apply to this model verbatim.
-/
import AdaptaVerif.Lemmas.NudgeSegsSpec
import AdaptaVerif.Lemmas.NudgeSegsRev
import AdaptaVerif.Lemmas.NudgeSegsSwap
import AdaptaVerif.Lemmas.NudgeSegs
import AdaptaVerif.Props.C14Limits
namespace AdaptaVerif.Props.C10Segs
open AdaptaVerif.Model AdaptaVerif.Model.NudgeSegs AdaptaVerif.Model.NudgeRegion AdaptaVerif.Model.FinalSegLimits
open AdaptaVerif.Lemmas

/-! ### (a) first and last segments -/

/-- option nudgeOrthogonalSegmentsConnectedToShapes OFF: the first and the last segment of every connector are fixed
    (no room: limits = position), whatever the obstacles -/
theorem end_segment_fixed_without_option (lims : List Rect) (dim : Nat) (c : Conn) (i : Nat) (s : MSeg)
    (hend : i = 1 ∨ i + 1 = c.ps.length) (h : segAt false lims dim c i = some s) :
    s.seg.fixed = true ∧ s.seg.minLim = s.seg.pos ∧ s.seg.maxLim = s.seg.pos := by
  obtain ⟨a, b, _, _, _, _, _, rfl | ⟨_, hnf, _⟩ | ⟨hmid, _⟩⟩ := NudgeSegsSpec.segAt_inv false lims dim c i s h
  · exact ⟨rfl, rfl, rfl⟩
  · cases hnf
  · exact absurd hend hmid

/-- option ON: a first / last segment (`a`, `b` its two route points, in route order) is either fixed, or a final segment
    limited to the extent of EVERY shape rectangle that contains one of its two ends and, when no rectangle contains an end,
    to ±15 around its position; `endsInShape` says whether some rectangle contains an end.  Junctions are degenerate
    rectangles (position twice): an end on a junction gives limits = position, i.e. the fixed alternative — unless the
    junction sits at the origin: its rectangle is then the all-zero "invalid" one of `insideBounds` and contains nothing. -/
theorem end_segment_rule (lims : List Rect) (dim : Nat) (c : Conn) (i : Nat) (s : MSeg) (a b : Pt)
    (hend : i = 1 ∨ i + 1 = c.ps.length) (ha : c.ps[i - 1]? = some a) (hb : c.ps[i]? = some b)
    (h : segAt true lims dim c i = some s) :
    (s.seg.fixed = true ∧ s.seg.minLim = s.seg.pos ∧ s.seg.maxLim = s.seg.pos) ∨
    (s.seg.fixed = false ∧ s.seg.finalSeg = true ∧ s.seg.sBend = false ∧ s.seg.zBend = false ∧
      s.seg.minLim = (finalLimits (decide (dim = 0)) a b lims).lo ∧ s.seg.maxLim = (finalLimits (decide (dim = 0)) a b lims).hi ∧
      s.seg.endsInShape = (lims.any (insideBounds a) || lims.any (insideBounds b)) ∧
      (∀ r ∈ lims, insideBounds a r = true ∨ insideBounds b r = true →
        Rect.lo r (decide (dim = 0)) ≤ s.seg.minLim ∧ s.seg.maxLim ≤ Rect.hi r (decide (dim = 0))) ∧
      (lims.any (insideBounds a) = false ∧ lims.any (insideBounds b) = false →
        s.seg.pos - 15 ≤ s.seg.minLim ∧ s.seg.maxLim ≤ s.seg.pos + 15)) := by
  obtain ⟨a', b', _, ha', hb', _, hg, hk⟩ := NudgeSegsSpec.segAt_inv true lims dim c i s h
  cases ha.symm.trans ha'; cases hb.symm.trans hb'
  rcases hk with rfl | ⟨_, _, rfl⟩ | ⟨hmid, _⟩
  · exact Or.inl ⟨rfl, rfl, rfl⟩
  · have hfl := FinalSegLimits.finalLimits_flags (decide (dim = 0)) a b lims
    refine Or.inr ⟨rfl, rfl, rfl, rfl, rfl, rfl, by rw [← hfl.1, ← hfl.2]; rfl,
      fun r hr hin => AdaptaVerif.Props.C14Limits.finalLimits_within (decide (dim = 0)) a b lims r hr hin, fun hfree => ?_⟩
    have hw := AdaptaVerif.Props.C14Limits.finalLimits_free (decide (dim = 0)) a b lims hfree
    rw [NudgeSegsSpec.co_eq] at hw
    rw [hg.1]
    exact hw
  · exact absurd hend hmid

/-- BOTH ends symmetrically: the last segment of a connector gets exactly what the first segment of the reversed connector
    gets (indexes mirrored).  (Seeds C14-5 — `ps[i-1]` tested twice — and C12-4 break exactly this in the C++.) -/
theorem last_segment_is_first_of_reversed (nf : Bool) (lims : List Rect) (dim : Nat) (c : Conn) (hc : NudgeSegsRev.CacheOk c)
    (hn : 2 ≤ c.ps.length) :
    segAt nf lims dim c.rev 1 = (segAt nf lims dim c (c.ps.length - 1)).map (MSeg.mirror c.ps.length) :=
  NudgeSegsRev.segAt_rev nf lims dim c hc (i := c.ps.length - 1) (k := 1) (by omega) (Nat.le_refl 1) (by omega)

/-! ### (b) checkpoints -/

/-- option off: a route segment with a checkpoint on it (ends included) becomes a fixed shift segment: no room, and no
    checkpoints recorded on it (seed C10-4 copies them) -/
theorem checkpoint_segment_is_fixed (lims : List Rect) (dim : Nat) (c : Conn) (i : Nat) (s : MSeg)
    (h : segAt false lims dim c i = some s) (hcp : cpsOnSegment c.cache (i - 1) 0 ≠ []) :
    s.seg.fixed = true ∧ s.seg.minLim = s.seg.pos ∧ s.seg.maxLim = s.seg.pos ∧ s.seg.cps = [] := by
  obtain ⟨a, b, _, _, _, _, _, rfl | ⟨_, hnf, _⟩ | ⟨_, _, _, _, _, h0 | h0, _⟩⟩ := NudgeSegsSpec.segAt_inv false lims dim c i s h
  · exact ⟨rfl, rfl, rfl, rfl⟩
  · cases hnf
  · exact absurd h0 hcp
  · cases h0

/-- a shiftable middle segment: every checkpoint on the FOLLOWING segment (corner at this segment excluded) and on the
    PRECEDING one bounds the limit on its own side: a smaller coordinate bounds `minLim` from below, a larger one bounds
    `maxLim` from above — so the segment cannot be shifted past the checkpoint (seeds C10 / C11-4 write `max` for `min`) -/
theorem adjacent_checkpoint_bounds (nf : Bool) (lims : List Rect) (dim : Nat) (c : Conn) (i : Nat) (s : MSeg)
    (h : segAt nf lims dim c i = some s) (hmid : ¬ (i = 1 ∨ i + 1 = c.ps.length)) (hfree : s.seg.fixed = false)
    (cp : Pt) (hcp : cp ∈ cpsOnSegment c.cache i 1 ∨ cp ∈ cpsOnSegment c.cache (i - 2) 2) :
    (cp.c dim < s.seg.pos → cp.c dim ≤ s.seg.minLim) ∧ (s.seg.pos < cp.c dim → s.seg.maxLim ≤ cp.c dim) := by
  obtain ⟨a, b, _, _, _, heq, hg, rfl | ⟨hend, _⟩ | ⟨_, pv, nx, _, _, _, rfl⟩⟩ := NudgeSegsSpec.segAt_inv nf lims dim c i s h
  · cases hfree
  · exact absurd hend hmid
  · have hm : cp ∈ (NudgeSegsSpec.adjAt c i pv nx).next ++ (NudgeSegsSpec.adjAt c i pv nx).prev := List.mem_append.2 hcp
    rw [hg.1]
    exact ⟨fun hlt => ((NudgeSegsSpec.midW_minLim_le_iff ..).1 le_rfl).1.2 cp hm (heq ▸ hlt),
      fun hgt => ((NudgeSegsSpec.midW_le_maxLim_iff ..).1 le_rfl).1.2 cp hm (heq ▸ hgt)⟩

/-- Cache entries whose index lies beyond the route (`> 2·(n−1)`) are never selected for any segment of the route: they protect
    nothing.  Such entries EXIST in the C++: `simplifyOrthogonalRoutes` replaces the display route by `displayRoute().simplify()`
    through `ConnRef::set_route`, which copies the points only, so after a simplification that removed points (the unifying pass
    aligned two segments) the cache keeps the indexes of the longer route (counted by the driver: `segtie.cache-stale`;
    reports/bN1.md, finding 4). -/
theorem stale_cache_entries_protect_nothing (cache : List (Nat × Pt)) (n s mode : Nat) (hs : s + 2 ≤ n) :
    cpsOnSegment cache s mode = cpsOnSegment (cache.filter (fun e => decide (e.1 ≤ 2 * (n - 1)))) s mode := by
  unfold cpsOnSegment
  simp only [List.filter_filter]
  congr 1
  apply List.filter_congr
  intro e _
  by_cases h1 : mode = 1 <;> by_cases h2 : mode = 2 <;> simp [h1, h2] <;> omega

/-! ### (c) consistency of the limits; bends -/

/-- every generated segment (positions within ±CHANNEL_MAX): minLim ≤ pos ≤ maxLim -/
theorem limits_contain_pos (nf : Bool) (lims : List Rect) (dim : Nat) (c : Conn) (i : Nat) (s : MSeg)
    (h : segAt nf lims dim c i = some s) (h1 : -NudgeRegion.channelMax ≤ s.seg.pos) (h2 : s.seg.pos ≤ NudgeRegion.channelMax) :
    s.seg.minLim ≤ s.seg.pos ∧ s.seg.pos ≤ s.seg.maxLim := by
  obtain ⟨a, b, _, _, _, heq, hg, rfl | ⟨_, _, rfl⟩ | ⟨_, pv, nx, _, _, _, rfl⟩⟩ := NudgeSegsSpec.segAt_inv nf lims dim c i s h
  · exact ⟨le_refl _, le_refl _⟩
  · rw [hg.1] at h1 h2 ⊢
    have hco : P.co a (decide (dim = 0)) = P.co b (decide (dim = 0)) := by rw [NudgeSegsSpec.co_eq, NudgeSegsSpec.co_eq]; exact heq
    have := FinalSegLimits.finalLimits_contain (decide (dim = 0)) a b lims hco
      (by rw [NudgeSegsSpec.co_eq, ← NudgeSegsSpec.channelMax_eq]; exact h1) (by rw [NudgeSegsSpec.co_eq, ← NudgeSegsSpec.channelMax_eq]; exact h2)
    rw [NudgeSegsSpec.co_eq] at this
    exact this
  · rw [hg.1, heq] at h1 h2 ⊢
    have hf := NudgeSegsSpec.midW_flags dim (NudgeSegsSpec.winOf c i a b none) (NudgeSegsSpec.adjAt c i pv nx)
    exact ⟨(NudgeSegsSpec.midW_minLim_le_iff ..).2 ⟨⟨h1, fun _ _ h => le_of_lt h⟩, fun hz => le_of_lt (hf.1.1 hz).2.1,
        fun hs => le_of_lt (hf.2.1 hs).2.1⟩,
      (NudgeSegsSpec.midW_le_maxLim_iff ..).2 ⟨⟨h2, fun _ _ h => le_of_lt h⟩, fun hz => le_of_lt (hf.1.1 hz).2.2,
        fun hs => le_of_lt (hf.2.1 hs).2.2⟩⟩

/-- … also after the channel sweep, for every segment handed to `nudgeOrthogonalRoutes` -/
theorem pass_limits_contain_pos (tie pz nf : Bool) (obs : List Obs) (dim : Nat) (conns : List Conn) (s : MSeg)
    (hs : s ∈ passSegs tie pz nf obs dim conns) (h1 : -NudgeRegion.channelMax ≤ s.seg.pos) (h2 : s.seg.pos ≤ NudgeRegion.channelMax) :
    s.seg.minLim ≤ s.seg.pos ∧ s.seg.pos ≤ s.seg.maxLim := by
  simp only [passSegs, List.mem_map] at hs
  obtain ⟨s0, hs0, rfl⟩ := hs
  apply NudgeSegsChannel.withChannel_contains_pos
  simp only [buildSegs] at hs0
  split at hs0
  · simp at hs0
  · simp only [List.mem_flatMap, connSegs, List.mem_filterMap] at hs0
    obtain ⟨c, _, i, _, hi⟩ := hs0
    exact limits_contain_pos _ _ _ _ _ _ hi h1 h2

/-- s-bend / z-bend: only shiftable middle segments are zigzags, never both; the limits lie between the positions of the two
    adjoining segments and the flags say on which side each of them lies -/
theorem zigzag_limits (nf : Bool) (lims : List Rect) (dim : Nat) (c : Conn) (i : Nat) (s : MSeg) (pv nx : Pt)
    (h : segAt nf lims dim c i = some s) (hz : s.seg.sBend = true ∨ s.seg.zBend = true)
    (hpv : c.ps[i - 2]? = some pv) (hnx : c.ps[i + 1]? = some nx) :
    s.seg.fixed = false ∧ s.seg.finalSeg = false ∧ ¬ (s.seg.sBend = true ∧ s.seg.zBend = true) ∧
    min (pv.c dim) (nx.c dim) ≤ s.seg.minLim ∧ s.seg.maxLim ≤ max (pv.c dim) (nx.c dim) ∧
    (s.seg.zBend = true → pv.c dim < s.seg.pos ∧ s.seg.pos < nx.c dim) ∧
    (s.seg.sBend = true → nx.c dim < s.seg.pos ∧ s.seg.pos < pv.c dim) := by
  obtain ⟨a, b, _, _, _, heq, hg, rfl | ⟨_, _, rfl⟩ | ⟨_, pv', nx', hpv', hnx', _, rfl⟩⟩ := NudgeSegsSpec.segAt_inv nf lims dim c i s h
  · rcases hz with hz | hz <;> cases hz
  · rcases hz with hz | hz <;> cases hz
  · cases hpv.symm.trans hpv'; cases hnx.symm.trans hnx'
    have hf := NudgeSegsSpec.midW_flags dim (NudgeSegsSpec.winOf c i a b none) (NudgeSegsSpec.adjAt c i pv nx)
    have hlo := (NudgeSegsSpec.midW_minLim_le_iff dim (NudgeSegsSpec.winOf c i a b none) (NudgeSegsSpec.adjAt c i pv nx) _).1 le_rfl
    have hhi := (NudgeSegsSpec.midW_le_maxLim_iff dim (NudgeSegsSpec.winOf c i a b none) (NudgeSegsSpec.adjAt c i pv nx) _).1 le_rfl
    rw [hg.1, heq]
    refine ⟨rfl, rfl, fun ⟨hs, hz'⟩ => absurd (hf.1.1 hz').2.1 (not_lt.2 (le_of_lt (hf.2.1 hs).2.2)), ?_, ?_,
      fun hz' => (hf.1.1 hz').2, fun hs => (hf.2.1 hs).2⟩
    · rcases hz with hs | hz'
      · exact min_le_of_right_le (hlo.2.2 hs)
      · exact min_le_of_left_le (hlo.2.1 hz')
    · rcases hz with hs | hz'
      · exact le_max_of_le_left (hhi.2.2 hs)
      · exact le_max_of_le_right (hhi.2.1 hz')

/-- what a shift segment is: a route segment of positive length running in the processed dimension -/
theorem segment_geometry (nf : Bool) (lims : List Rect) (dim : Nat) (c : Conn) (i : Nat) (s : MSeg)
    (h : segAt nf lims dim c i = some s) :
    ∃ a b, 1 ≤ i ∧ c.ps[i - 1]? = some a ∧ c.ps[i]? = some b ∧ a.c dim = b.c dim ∧ s.seg.pos = a.c dim ∧ s.seg.conn = c.id ∧
      s.seg.lo = min (a.c (alt dim)) (b.c (alt dim)) ∧ s.seg.hi = max (a.c (alt dim)) (b.c (alt dim)) ∧ s.seg.lo < s.seg.hi ∧
      ((s.idxLow = i - 1 ∧ s.idxHigh = i) ∨ (s.idxLow = i ∧ s.idxHigh = i - 1)) := by
  obtain ⟨a, b, hi, ha, hb, heq, hg, _⟩ := NudgeSegsSpec.segAt_inv nf lims dim c i s h
  exact ⟨a, b, hi, ha, hb, heq, hg⟩

/-! ### (d) symmetries -/

/-- reversing a connector (points in the opposite order, checkpoint cache re-indexed): the same segments in the opposite
    order, indexes mirrored, s-bend ↔ z-bend, the checkpoints of a segment in the opposite order, everything else — limits,
    fixed, final, endsInShape, single — equal -/
theorem segs_reverse_symmetry (nf : Bool) (lims : List Rect) (dim : Nat) (c : Conn) (hc : NudgeSegsRev.CacheOk c) :
    connSegs nf lims dim c.rev = ((connSegs nf lims dim c).map (MSeg.mirror c.ps.length)).reverse := by
  have hn : c.rev.ps.length = c.ps.length := List.length_reverse
  unfold connSegs
  rw [hn, List.map_filterMap]
  refine NudgeSegsRev.filterMap_range_mirror _ _ _ ?_ ?_ (NudgeSegsRev.segAt_zero nf lims dim c.rev) ?_
  · rw [NudgeSegsRev.segAt_zero]; rfl
  · rw [NudgeSegsRev.segAt_length]; rfl
  · intro j h1 h2
    exact NudgeSegsRev.segAt_rev nf lims dim c hc (i := c.ps.length - j) (k := j) (by omega) h1 (by omega)

/-- transposition (x ↔ y in every point and rectangle, other dimension processed): the same segment list, limits after the
    sweep included; for every `dim` (`alt 0 = 1`, `alt 1 = 0`) -/
theorem segs_transpose_invariant (tie pz nf : Bool) (obs : List Obs) (dim : Nat) (conns : List Conn) :
    passSegs tie pz nf (obs.map Obs.swap) (alt dim) (conns.map Conn.swap) = passSegs tie pz nf obs dim conns := by
  unfold passSegs
  rw [NudgeSegsSwap.buildSegs_swap, NudgeSegsSwap.scanObs_swap]

/-! ### (e) the channel sweep -/

/-- the sweep only tightens the limits it is given -/
theorem channel_only_tightens (tie : Bool) (so : List SO) (s : MSeg) :
    s.seg.minLim ≤ (withChannel tie so s).seg.minLim ∧ (withChannel tie so s).seg.maxLim ≤ s.seg.maxLim :=
  NudgeSegsChannel.withChannel_tightens tie so s

/-- a fixed segment keeps `[pos, pos]` -/
theorem channel_keeps_fixed (tie : Bool) (so : List SO) (s : MSeg) (h : s.seg.minLim = s.seg.pos ∧ s.seg.maxLim = s.seg.pos) :
    (withChannel tie so s).seg.minLim = s.seg.pos ∧ (withChannel tie so s).seg.maxLim = s.seg.pos := by
  have t := NudgeSegsChannel.withChannel_tightens tie so s
  have c := NudgeSegsChannel.withChannel_contains_pos tie so s ⟨le_of_eq h.1, le_of_eq h.2.symm⟩
  have hp : (withChannel tie so s).seg.pos = s.seg.pos := rfl
  rw [hp] at c
  constructor <;> grind

/-- every lower (upper) bound the sweep applies is the far (near) side of an obstacle of the scan line that lies at or before
    (after) the segment and whose extent meets the segment's extent — whatever the address order of equal scan-line nodes -/
theorem channel_bounds_are_facing_obstacle_sides (tie : Bool) (so : List SO) (p lo hi : Rat) (hlh : lo ≤ hi)
    (hwf : ∀ o ∈ so, o.amin ≤ o.amax) :
    (∀ x ∈ scanMinBounds tie so p lo hi, ∃ o ∈ so, x = o.mx ∧ o.mx ≤ p ∧ o.amin ≤ hi ∧ lo ≤ o.amax) ∧
    (∀ x ∈ scanMaxBounds tie so p lo hi, ∃ o ∈ so, x = o.mn ∧ p ≤ o.mn ∧ o.amin ≤ hi ∧ lo ≤ o.amax) :=
  ⟨fun x hx =>
      have ⟨o, ho, e, h1, h⟩ := NudgeSegsChannel.scanMinBounds_mem tie so p lo hi x hx
      ⟨o, ho, e, h1, NudgeSegsChannel.scan_extent_meets lo hi o hlh (hwf o ho) h⟩,
    fun x hx =>
      have ⟨o, ho, e, h1, h⟩ := NudgeSegsChannel.scanMaxBounds_mem tie so p lo hi x hx
      ⟨o, ho, e, h1, NudgeSegsChannel.scan_extent_meets lo hi o hlh (hwf o ho) h⟩⟩

/-- As coded, `firstObstacleAbove` walks the scan line in the order of the obstacles' MID coordinates and stops at the first one
    lying completely before the segment; with overlapping obstacles that is not the nearest side.  Closed witness: a segment
    at 10 with extent [0,10]; obstacle A = [4,6] (mid 5) and obstacle B = [0,8] (mid 4), both spanning [-5,15] in the other
    dimension (their Open / Close events lie outside the segment's extent, so `markShiftSegments…` never sees the segment):
    the sweep's only lower bound is A's side 6 although B reaches up to 8 — the segment may be shifted into B.
    (Not a clause of the property text; overlapping shapes only.) -/
theorem sweep_orders_by_mid_witness :
    let a : SO := ⟨5, 4, 6, -5, 15⟩
    let b : SO := ⟨4, 0, 8, -5, 15⟩
    scanMinBounds false [a, b] 10 0 10 = [6, 6] ∧ scanMinBounds true [a, b] 10 0 10 = [6, 6] ∧ b.mx ≤ 10 ∧ 6 < b.mx := by
  decide +kernel

/-! ### (f) `linesort` merging two aligned segments of one connector (`mergeWith`) -/

/-- the merged segment may move only where BOTH could; when that interval is not empty its new position lies in it, and
    between the two old positions if those were inside it; flags and checkpoints are the survivor's -/
theorem merge_respects_limits (a b : RSeg) :
    (mergeSeg a b).minLim = max a.minLim b.minLim ∧ (mergeSeg a b).maxLim = min a.maxLim b.maxLim ∧
    (a.minLim ≤ (mergeSeg a b).minLim ∧ b.minLim ≤ (mergeSeg a b).minLim ∧ (mergeSeg a b).maxLim ≤ a.maxLim ∧ (mergeSeg a b).maxLim ≤ b.maxLim) ∧
    ((mergeSeg a b).minLim ≤ (mergeSeg a b).maxLim → (mergeSeg a b).minLim ≤ (mergeSeg a b).pos ∧ (mergeSeg a b).pos ≤ (mergeSeg a b).maxLim) ∧
    ((mergeSeg a b).minLim ≤ min a.pos b.pos → max a.pos b.pos ≤ (mergeSeg a b).maxLim →
      min a.pos b.pos ≤ (mergeSeg a b).pos ∧ (mergeSeg a b).pos ≤ max a.pos b.pos) ∧
    (mergeSeg a b).fixed = a.fixed ∧ (mergeSeg a b).finalSeg = a.finalSeg ∧ (mergeSeg a b).cps = a.cps ∧ (mergeSeg a b).conn = a.conn := by
  have hmid := NudgeSegsSpec.mid_between a.pos b.pos
  refine ⟨rfl, rfl, ⟨le_max_left _ _, le_max_right _ _, min_le_left _ _, min_le_right _ _⟩, ?_, ?_, rfl, rfl, rfl, rfl⟩
  · exact fun h => ⟨le_min h (le_max_left _ _), min_le_left _ _⟩
  · exact fun h1 h2 => ⟨le_min (le_trans min_le_max h2) (le_trans hmid.1 (le_max_right _ _)),
      le_trans (min_le_right _ _) (max_le (le_trans h1 min_le_max) hmid.2)⟩

/-! ### non-vacuity: closed witnesses, evaluated by the kernel -/

/-- a Z-shaped connector with a checkpoint strictly inside its first segment -/
def zc : Conn := { id := 7, fixedRoute := false, ps := [⟨0, 0⟩, ⟨0, 10⟩, ⟨20, 10⟩, ⟨20, 30⟩], cache := [(1, ⟨0, 5⟩)] }

-- the middle segment is a z-bend limited by the checkpoint (5) below and the last segment (30) above
example : (segAt false [] 1 zc 2).map (fun s => (s.seg.zBend, s.seg.sBend, s.seg.minLim, s.seg.maxLim, s.seg.fixed)) = some (true, false, 5, 30, false) := by
  decide +kernel
-- travelled the other way round it is an s-bend with the same limits
example : (segAt false [] 1 zc.rev 2).map (fun s => (s.seg.zBend, s.seg.sBend, s.seg.minLim, s.seg.maxLim, s.seg.fixed)) = some (false, true, 5, 30, false) := by
  decide +kernel
-- the first segment carries the checkpoint: fixed
example : (segAt false [] 0 zc 1).map (fun s => (s.seg.fixed, s.seg.minLim, s.seg.maxLim)) = some (true, 0, 0) := by decide +kernel
example : cpsOnSegment zc.cache 0 0 ≠ [] := by decide +kernel
example : NudgeSegsRev.CacheOk zc := by intro e he; simp [zc] at he; subst he; decide
-- option on, source inside a shape [-5,5]×[-8,8]: final segment limited to the shape's extent
example : (segAt true [⟨-5, -8, 5, 8⟩] 0 zc 1).map (fun s => (s.seg.fixed, s.seg.finalSeg, s.seg.endsInShape, s.seg.minLim, s.seg.maxLim)) =
    some (false, true, true, -5, 5) := by decide +kernel
-- option on, free target: ±15; an obstacle [8,12]×[12,20] facing the last segment (x = 20, y ∈ [10,30]) tightens 5 to 12
example : (passSegs false false true [⟨.shape, ⟨-5, -8, 5, 8⟩, ⟨-5, -8, 5, 8⟩, true⟩, ⟨.shape, ⟨8, 12, 12, 20⟩, ⟨8, 12, 12, 20⟩, true⟩] 0 [{ zc with cache := [] }]).map
      (fun s => (s.seg.minLim, s.seg.maxLim)) = [(-5, 5), (12, 35)] := by decide +kernel

/-! ### joint non-vacuity: ALL hypotheses of a theorem on one instance, and the theorem instantiated on it -/

/-- the middle (z-bend) segment of `zc` in dimension 1 -/
def zcMid : MSeg := ⟨1, 2, ⟨7, 0, 20, 10, 5, 30, false, false, false, false, false, true, []⟩⟩
/-- the first segment of `zc` in dimension 0, option off (fixed: end segment, and it carries the checkpoint) -/
def zcFirstOff : MSeg := ⟨0, 1, ⟨7, 0, 10, 0, 0, 0, true, false, false, false, false, false, []⟩⟩
/-- the first segment of `zc` in dimension 0, option on, source inside the shape [-5,5]×[-8,8] -/
def zcFirstOn : MSeg := ⟨0, 1, ⟨7, 0, 10, 0, -5, 5, false, true, true, false, false, false, []⟩⟩

-- non-vacuity (joint) of `end_segment_fixed_without_option`, `checkpoint_segment_is_fixed`
example : segAt false [] 0 zc 1 = some zcFirstOff ∧ (1 = 1 ∨ 1 + 1 = zc.ps.length) ∧ cpsOnSegment zc.cache (1 - 1) 0 ≠ [] ∧
    zcFirstOff.seg.fixed = true ∧ zcFirstOff.seg.cps = [] :=
  have h : segAt false [] 0 zc 1 = some zcFirstOff := by decide +kernel
  have hc : cpsOnSegment zc.cache (1 - 1) 0 ≠ [] := by decide +kernel
  ⟨h, Or.inl rfl, hc, (end_segment_fixed_without_option [] 0 zc 1 _ (Or.inl rfl) h).1,
    (checkpoint_segment_is_fixed [] 0 zc 1 _ h hc).2.2.2⟩

-- non-vacuity (joint) of `end_segment_rule` (the second alternative: a final segment limited to the shape)
example : segAt true [⟨-5, -8, 5, 8⟩] 0 zc 1 = some zcFirstOn ∧ zc.ps[1 - 1]? = some ⟨0, 0⟩ ∧ zc.ps[1]? = some ⟨0, 10⟩ ∧
    zcFirstOn.seg.fixed = false ∧ -5 ≤ zcFirstOn.seg.minLim ∧ zcFirstOn.seg.maxLim ≤ 5 := by
  have h : segAt true [⟨-5, -8, 5, 8⟩] 0 zc 1 = some zcFirstOn := by decide +kernel
  refine ⟨h, rfl, rfl, rfl, ?_⟩
  rcases end_segment_rule [⟨-5, -8, 5, 8⟩] 0 zc 1 _ ⟨0, 0⟩ ⟨0, 10⟩ (Or.inl rfl) rfl rfl h with hf | hr
  · exact absurd hf.1 (by decide)
  · exact hr.2.2.2.2.2.2.2.1 ⟨-5, -8, 5, 8⟩ (List.mem_singleton.mpr rfl) (Or.inl (by decide +kernel))

-- non-vacuity (joint) of `adjacent_checkpoint_bounds`, `zigzag_limits`, `limits_contain_pos`, `segment_geometry`:
-- the middle segment of `zc`, the checkpoint (0,5) on the preceding segment
example : segAt false [] 1 zc 2 = some zcMid ∧ ¬ (2 = 1 ∨ 2 + 1 = zc.ps.length) ∧ zcMid.seg.fixed = false ∧
    (⟨0, 5⟩ : Pt) ∈ cpsOnSegment zc.cache (2 - 2) 2 ∧ Pt.c ⟨0, 5⟩ 1 < zcMid.seg.pos ∧ Pt.c ⟨0, 5⟩ 1 ≤ zcMid.seg.minLim ∧
    zcMid.seg.zBend = true ∧ zc.ps[2 - 2]? = some ⟨0, 0⟩ ∧ zc.ps[2 + 1]? = some ⟨20, 30⟩ ∧
    Pt.c ⟨0, 0⟩ 1 < zcMid.seg.pos ∧ zcMid.seg.minLim ≤ zcMid.seg.pos := by
  have h : segAt false [] 1 zc 2 = some zcMid := by decide +kernel
  have hm : ¬ (2 = 1 ∨ 2 + 1 = zc.ps.length) := by decide
  have hcp : (⟨0, 5⟩ : Pt) ∈ cpsOnSegment zc.cache (2 - 2) 2 := by decide +kernel
  have hlt : Pt.c ⟨0, 5⟩ 1 < zcMid.seg.pos := by decide +kernel
  exact ⟨h, hm, rfl, hcp, hlt, (adjacent_checkpoint_bounds false [] 1 zc 2 _ h hm rfl _ (Or.inr hcp)).1 hlt, rfl, rfl, rfl,
    ((zigzag_limits false [] 1 zc 2 _ ⟨0, 0⟩ ⟨20, 30⟩ h (Or.inr rfl) rfl rfl).2.2.2.2.2.1 rfl).1,
    (limits_contain_pos false [] 1 zc 2 _ h (by decide +kernel) (by decide +kernel)).1⟩

-- non-vacuity of `last_segment_is_first_of_reversed` (both sides are `some`)
example : segAt false [] 0 zc.rev 1 = (segAt false [] 0 zc (zc.ps.length - 1)).map (MSeg.mirror zc.ps.length) ∧
    (segAt false [] 0 zc.rev 1).isSome = true :=
  ⟨last_segment_is_first_of_reversed false [] 0 zc (by intro e he; simp [zc] at he; subst he; decide) (by decide),
    by decide +kernel⟩

-- non-vacuity of `pass_limits_contain_pos`: a segment of a pass after the sweep (limit tightened to 12 by the obstacle)
example : ∃ s ∈ passSegs false false true [⟨.shape, ⟨-5, -8, 5, 8⟩, ⟨-5, -8, 5, 8⟩, true⟩, ⟨.shape, ⟨8, 12, 12, 20⟩, ⟨8, 12, 12, 20⟩, true⟩] 0
      [{ zc with cache := [] }], s.seg.minLim = 12 ∧ s.seg.pos = 20 ∧ s.seg.minLim ≤ s.seg.pos :=
  have hm : (⟨2, 3, ⟨7, 10, 30, 20, 12, 35, false, true, false, false, false, false, []⟩⟩ : MSeg) ∈
      passSegs false false true [⟨.shape, ⟨-5, -8, 5, 8⟩, ⟨-5, -8, 5, 8⟩, true⟩, ⟨.shape, ⟨8, 12, 12, 20⟩, ⟨8, 12, 12, 20⟩, true⟩] 0
        [{ zc with cache := [] }] := by decide +kernel
  ⟨_, hm, rfl, rfl, (pass_limits_contain_pos false false true _ 0 _ _ hm (by decide +kernel) (by decide +kernel)).1⟩

-- non-vacuity of `channel_bounds_are_facing_obstacle_sides`: its hypotheses hold on the obstacles of `sweep_orders_by_mid_witness`, and a bound exists
example : (∀ o ∈ [(⟨5, 4, 6, -5, 15⟩ : SO), ⟨4, 0, 8, -5, 15⟩], o.amin ≤ o.amax) ∧
    (6 : Rat) ∈ scanMinBounds false [⟨5, 4, 6, -5, 15⟩, ⟨4, 0, 8, -5, 15⟩] 10 0 10 := by
  refine ⟨?_, by decide +kernel⟩
  intro o ho; simp at ho; rcases ho with rfl | rfl <;> decide +kernel

end AdaptaVerif.Props.C10Segs
