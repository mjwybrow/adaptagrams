/-
C07 / C08 — the control flow of `ConstrainedFDLayout::makeFeasible` (Model/MakeFeasible.lean).

The theorems quantify over ALL work lists (any number of compound constraints, sub-constraints,
alternatives, any data) — the model is the priority loop of makeFeasible over the IncSolver model of
Model/Vpsc.lean.  The model is tied to the C++ on every run by the C07 harness/driver: the `satisfied`
flags of every sub-constraint, the final rectangles and (with tools/briefs/hook_c07.patch) the whole trial
log are compared exactly whenever every solver decision was clear of rounding noise.

What is shown
  * `makeFeasible_accepted_hold` — every constraint makeFeasible keeps (`valid[dim]`) holds to the solver's
    tolerance at a position vector that agrees with the returned node positions (work lists whose combined
    items raise no flag); `kept_equalities_exact` — at the same vector every kept equality holds exactly;
    `nonoverlap_phase_accepted_hold` — both survive the lazily generated non-overlap item;
  * `accepted_trial_kept`, `marked_satisfied_has_accepted_trial` — a sub-constraint is marked satisfied only
    through an accepted trial whose constraint is kept (or it belongs to a combined item);
  * `trial_accepted_iff`, `makeFeasible_dropped_only_if_flagged`, `alternatives_exhausted` — a sub-constraint
    is dropped only if every one of its alternatives was tried and each trial ended with an `unsatisfiable`
    flag somewhere in `valid[dim]` (or `satisfy()` threw);
  * `rejected_inequality_infeasible`, `drop_justified_ineq` — where everything kept and the tried constraint
    are inequalities, such a flag means that they contain a positive-gap cycle: the drop is justified;
  * `violated_unreported_iff_dropped` — the characterisation that narrows the known finding
    `C07-makeFeasible-no-report`: in the model, "violated after makeFeasible" happens ONLY to dropped
    sub-constraints (and to what a combined, unchecked FixedRelativeConstraint solve flagged);
  * closed witnesses (kernel-evaluated, and replayed against the real library by the harness classes
    `mfwit-*`): a SATISFIABLE two-node scene in which makeFeasible drops a constraint
    (`satisfiable_scene_dropped`), that the same scene in the other order is accepted
    (`drop_depends_on_order`), that the drop is the SOLVER's flag on a consistent equality
    (`solver_flags_consistent_equality`), and that a combined item silently breaks an accepted constraint
    while everything is marked satisfied (`combined_breaks_accepted`).
-/
import AdaptaVerif.Lemmas.MakeFeasibleLog
import AdaptaVerif.Lemmas.MakeFeasibleInv
import AdaptaVerif.Lemmas.MakeFeasibleDrop
import AdaptaVerif.Lemmas.MakeFeasibleNoc
namespace AdaptaVerif.Props.C07MakeFeasible
open AdaptaVerif.Model.MakeFeasible AdaptaVerif.Model.Vpsc
open AdaptaVerif.Model.Compound (Dim Rect CC mkFixedRel)
open AdaptaVerif.Lemmas.MakeFeasibleLog AdaptaVerif.Lemmas.MakeFeasibleInv
open AdaptaVerif.Lemmas.MakeFeasibleDrop AdaptaVerif.Lemmas.MakeFeasibleNoc AdaptaVerif.Lemmas.MakeFeasibleEq
open AdaptaVerif.Spec.Vpsc (Feasible PosCycle)
open AdaptaVerif.Lemmas.VpscFlag (toC)

/-! ## (1) accepted constraints hold -/

/-- **makeFeasible_accepted_hold**: for every well-formed work list, if no combined (unchecked) solve left an
    `unsatisfiable` flag behind and the run neither escaped nor ran out of fuel, then in each dimension there
    is a position vector `g` that agrees with the returned positions of the `n` node variables and at which
    EVERY constraint kept in `valid[dim]` has slack ≥ ZERO_UPPERBOUND (= −1e-10).  (`g` is existential
    because a rejected trial restores the node variables only: the auxiliary variables of alignments and
    boundaries keep the values of the failed solve, `g` is the vector of the last kept solve.) -/
theorem makeFeasible_accepted_hold (n : Nat) (vx vy : Array (Rat × Rat × Rat)) (items : List Item)
    (hwf : itemsWf vx.size vy.size items = true)
    (hclean : (makeFeasible n vx vy items).combineFlags = #[])
    (hesc : (makeFeasible n vx vy items).escaped = false)
    (hfuel : (makeFeasible n vx vy items).fuelOut = false) (d : Dim) :
    ∃ g : Array Rat, (∀ i : Nat, i < n → g[i]! = (makeFeasible n vx vy items).nodePos d i) ∧
      ∀ c ∈ ((makeFeasible n vx vy items).dim d).valid,
        ZERO_UPPERBOUND ≤ slackOf ((makeFeasible n vx vy items).dim d).vars g c := by
  obtain ⟨g, _, hg, hc⟩ := ((makeFeasible_good n vx vy items hwf hclean hesc hfuel).1 d).wit
  exact ⟨g, hg, hc⟩

/-- **kept_equalities_exact**: with non-zero scales (they are all 1 in makeFeasible) the SAME witness vector
    satisfies every kept inequality to −1e-10 and every kept EQUALITY exactly (`slack = 0`): accepted alignment,
    distribution, equality-separation and fixed-relative constraints hold exactly at the returned node positions
    (through `Hist`, `Final`, `final_eq` of the IncSolver model, applied at in-range indices only). -/
theorem kept_equalities_exact (n : Nat) (vx vy : Array (Rat × Rat × Rat)) (items : List Item)
    (hwf : itemsWf vx.size vy.size items = true)
    (hsx : ∀ i : Nat, i < vx.size → (vx[i]!).2.2 ≠ 0) (hsy : ∀ i : Nat, i < vy.size → (vy[i]!).2.2 ≠ 0)
    (hclean : (makeFeasible n vx vy items).combineFlags = #[])
    (hesc : (makeFeasible n vx vy items).escaped = false)
    (hfuel : (makeFeasible n vx vy items).fuelOut = false) (d : Dim) :
    ∃ g : Array Rat, (∀ i : Nat, i < n → g[i]! = (makeFeasible n vx vy items).nodePos d i) ∧
      ∀ c ∈ ((makeFeasible n vx vy items).dim d).valid,
        ZERO_UPPERBOUND ≤ slackOf ((makeFeasible n vx vy items).dim d).vars g c ∧
        (c.eq = true → slackOf ((makeFeasible n vx vy items).dim d).vars g c = 0) :=
  let ⟨hg, ex, ey⟩ := makeFeasible_good n vx vy items hwf hclean hesc hfuel
  eq_wit hg ex ey hsx hsy d

/-- the constraint of every accepted trial is kept in `valid` of its dimension until the end
    (`valid[dim]` is popped only for the constraint just rejected) -/
theorem accepted_trial_kept (n : Nat) (vx vy : Array (Rat × Rat × Rat)) (items : List Item) :
    ∀ t ∈ (makeFeasible n vx vy items).log, t.accepted = true →
      t.con ∈ ((makeFeasible n vx vy items).dim t.dim).valid :=
  (makeFeasible_logOk n vx vy items).kept

/-- a sub-constraint is marked satisfied (`_subConstraintInfo[i]->satisfied = true`) only through an accepted
    trial of that sub-constraint — or because it belongs to a combined item, which is marked without trial -/
theorem marked_satisfied_has_accepted_trial (n : Nat) (vx vy : Array (Rat × Rat × Rat)) (items : List Item) :
    ∀ m ∈ (makeFeasible n vx vy items).marks, m.2.2 = true →
      (∃ t ∈ (makeFeasible n vx vy items).log, t.cc = m.1 ∧ t.sub = m.2.1 ∧ t.accepted = true) ∨
      m.1 ∈ combinedCCs items :=
  (makeFeasible_inv n vx vy items).marksTrue

/-! ## (2) dropped only if flagged -/

/-- one trial is accepted iff `satisfy()` returned normally and NO constraint of `valid[dim]` (the new one
    included) carries the `unsatisfiable` flag afterwards -/
theorem trial_accepted_iff (n : Nat) (ds : DimSt) (c : Con) (own : Nat × Nat) :
    (ds.tryCon n c own).accepted = true ↔
      (∃ pos ret, ((ds.solverFor c).satisfy).2 = .ok pos ret) ∧
      ((ds.solverFor c).satisfy).1.cons.any (·.unsat) = false :=
  by rw [(tryCon_spec n ds c own).2.2.1, Bool.and_eq_true, (tryCon_spec n ds c own).2.1, Bool.not_eq_true']

/-- **makeFeasible_dropped_only_if_flagged**: a sub-constraint ends up dropped (marked unsatisfied) only if
    a trial of it was rejected, and every rejected trial of the whole run saw an `unsatisfiable` flag in
    `valid[dim]` after the solve, or `satisfy()` did not return (threw) -/
theorem makeFeasible_dropped_only_if_flagged (n : Nat) (vx vy : Array (Rat × Rat × Rat)) (items : List Item) :
    (∀ p ∈ (makeFeasible n vx vy items).dropped,
      ∃ t ∈ (makeFeasible n vx vy items).log, t.cc = p.1 ∧ t.sub = p.2 ∧ t.accepted = false) ∧
    (∀ t ∈ (makeFeasible n vx vy items).log, t.accepted = false → t.flagged = true ∨ t.returned = false) ∧
    (∀ t ∈ (makeFeasible n vx vy items).log, t.accepted = true → t.flagged = false ∧ t.returned = true) :=
  ⟨makeFeasible_dropped n vx vy items,
   fun t ht => ((makeFeasible_logOk n vx vy items).fields t ht).2,
   fun t ht => ((makeFeasible_logOk n vx vy items).fields t ht).1⟩

/-- the alternatives loop of one sub-constraint: if it ends with `subConstraintSatisfiable = false`, EVERY
    alternative was tried, in order, and rejected (all states `mf`, all alternative lists) -/
theorem alternatives_exhausted (mf : MF) (cc sub : Nat) (alts : List Alt)
    (h : (mf.tryAlts cc sub 0 alts).2 = false) (j : Nat) (hj : j < alts.length) :
    ∃ t ∈ (mf.tryAlts cc sub 0 alts).1.log,
      t.cc = cc ∧ t.sub = sub ∧ t.alt = j ∧ t.con = alts[j].con ∧ t.dim = alts[j].dim ∧ t.accepted = false := by
  obtain ⟨t, ht, h1, h2, h3, h4⟩ := tryAlts_false cc sub alts mf 0 h j hj
  exact ⟨t, ht, h1, h2, by omega, h4⟩

/-! ## (2b) in an inequality-only dimension every drop is justified -/

/-- **rejected_inequality_infeasible**: in any state satisfying the invariant `Good` (every reachable state of
    a run without combined flags, `makeFeasible_good`), if everything kept so far in a dimension and the tried
    constraint are INEQUALITIES and the trial is rejected after `satisfy()` returned, then the kept constraints
    together with the tried one contain a positive-gap cycle: no placement satisfies them, for any non-zero
    scales.  So silent drops in SATISFIABLE scenes can only come from equalities (alignments, equality
    separations, distributions, fixed-relative offsets) — cf. `solver_flags_consistent_equality` — or from the
    unchecked combined branch (`combined_breaks_accepted`). -/
theorem rejected_inequality_infeasible (n : Nat) (ds : DimSt) (c : Con) (own : Nat × Nat) (h : Good n ds)
    (hc : c.l < ds.vars.size ∧ c.r < ds.vars.size ∧ c.unsat = false)
    (hineq : ∀ c' ∈ ds.valid, c'.eq = false) (hceq : c.eq = false)
    (hrej : (ds.tryCon n c own).accepted = false) (hret : (ds.tryCon n c own).returned = true)
    (scale : Nat → Rat) (hscale : ∀ i, scale i ≠ 0) :
    PosCycle ((ds.valid.push c).toList.map toC) ∧ ¬ Feasible scale ((ds.valid.push c).toList.map toC) :=
  ⟨tryCon_reject_posCycle n ds c own h hc hineq hceq hrej hret,
   tryCon_reject_infeasible n ds c own h hc hineq hceq hrej hret scale hscale⟩

/-- … in particular after any work list (any prefix of a run): the next inequality alternative is rejected
    only if it is infeasible together with what makeFeasible holds in that dimension -/
theorem drop_justified_ineq (n : Nat) (vx vy : Array (Rat × Rat × Rat)) (items : List Item)
    (hwf : itemsWf vx.size vy.size items = true)
    (hclean : (makeFeasible n vx vy items).combineFlags = #[])
    (hesc : (makeFeasible n vx vy items).escaped = false)
    (hfuel : (makeFeasible n vx vy items).fuelOut = false)
    (a : Alt) (own : Nat × Nat) (ha : Alt.wf vx.size vy.size a = true) (hceq : a.con.eq = false)
    (hineq : ∀ c' ∈ ((makeFeasible n vx vy items).dim a.dim).valid, c'.eq = false)
    (hrej : (((makeFeasible n vx vy items).dim a.dim).tryCon n a.con own).accepted = false)
    (hret : (((makeFeasible n vx vy items).dim a.dim).tryCon n a.con own).returned = true)
    (scale : Nat → Rat) (hscale : ∀ i, scale i ≠ 0) :
    ¬ Feasible scale ((((makeFeasible n vx vy items).dim a.dim).valid.push a.con).toList.map toC) := by
  obtain ⟨hg, ex, ey⟩ := makeFeasible_good n vx vy items hwf hclean hesc hfuel
  have hc := wf_dim (mf := makeFeasible n vx vy items) (by rw [ex, ey]; exact ha)
  exact tryCon_reject_infeasible n _ a.con own (hg a.dim) hc hineq hceq hrej hret scale hscale

/-! ## (3) the characterisation -/

/-- **violated_unreported_iff_dropped** (the model's makeFeasible, work lists whose combined items raise no
    flag): there are position vectors `gx`, `gy` agreeing with the returned node positions such that
    every constraint of every ACCEPTED trial holds (slack ≥ −1e-10) — so a sub-constraint whose tried
    constraint is violated at the returned positions was not accepted; and a sub-constraint that is
    marked satisfied outside combined items has an accepted trial.  "violated ∧ marked satisfied" therefore
    never happens to a constraint that went through the trial loop: violated ⇒ dropped. -/
theorem violated_unreported_iff_dropped (n : Nat) (vx vy : Array (Rat × Rat × Rat)) (items : List Item)
    (hwf : itemsWf vx.size vy.size items = true)
    (hclean : (makeFeasible n vx vy items).combineFlags = #[])
    (hesc : (makeFeasible n vx vy items).escaped = false)
    (hfuel : (makeFeasible n vx vy items).fuelOut = false) :
    ∃ g : Dim → Array Rat,
      (∀ d i, i < n → (g d)[i]! = (makeFeasible n vx vy items).nodePos d i) ∧
      (∀ t ∈ (makeFeasible n vx vy items).log, t.accepted = true →
          ZERO_UPPERBOUND ≤ slackOf ((makeFeasible n vx vy items).dim t.dim).vars (g t.dim) t.con) ∧
      (∀ t ∈ (makeFeasible n vx vy items).log,
          slackOf ((makeFeasible n vx vy items).dim t.dim).vars (g t.dim) t.con < ZERO_UPPERBOUND →
          t.accepted = false) := by
  obtain ⟨gx, hgx, hcx⟩ := makeFeasible_accepted_hold n vx vy items hwf hclean hesc hfuel .x
  obtain ⟨gy, hgy, hcy⟩ := makeFeasible_accepted_hold n vx vy items hwf hclean hesc hfuel .y
  let g : Dim → Array Rat := fun d => match d with | .x => gx | .y => gy
  have hg : ∀ d, (∀ i, i < n → (g d)[i]! = (makeFeasible n vx vy items).nodePos d i) ∧
      ∀ c ∈ ((makeFeasible n vx vy items).dim d).valid,
        ZERO_UPPERBOUND ≤ slackOf ((makeFeasible n vx vy items).dim d).vars (g d) c :=
    fun d => by cases d; exacts [⟨hgx, hcx⟩, ⟨hgy, hcy⟩]
  have hacc := fun t ht ha => (hg t.dim).2 _ (accepted_trial_kept n vx vy items t ht ha)
  refine ⟨g, fun d => (hg d).1, hacc, fun t ht hlt => ?_⟩
  cases ha : t.accepted with
  | false => rfl
  | true => exact absurd (lt_of_lt_of_le hlt (hacc t ht ha)) (lt_irrefl _)

/-! ## (3b) the lazily generated non-overlap constraints (C08's half of makeFeasible) -/

/-- **nonoverlap_phase_accepted_hold**: the non-overlap item (`MF.runNoc`: pairs sorted by live overlap, four
    alternatives by cost, the same trial as for user constraints, pairs re-queued at the back) preserves the
    invariant: if the loop terminates (`some`; `none` is the known livelock of a rigidly overlapping pair), then
    every constraint kept in `valid[dim]` — user constraints AND the accepted separations `x_a + (w_a+w_b)/2 +
    1e-9 ≤ x_b` — holds at a vector agreeing with the returned node positions; all sizes of scenes, all data. -/
theorem nonoverlap_phase_accepted_hold (n : Nat) (vx vy : Array (Rat × Rat × Rat)) (items : List Item)
    (half : Array (Rat × Rat)) (cc fuel : Nat) (mf' : MF) (noc' : Noc)
    (hwf : itemsWf vx.size vy.size items = true) (hn : half.size ≤ vx.size ∧ half.size ≤ vy.size)
    (hrun : MF.runNoc cc fuel (makeFeasible n vx vy items) (Noc.ofSizes half) = some (mf', noc'))
    (hclean : mf'.combineFlags = #[]) (hesc : mf'.escaped = false) (hfuel : mf'.fuelOut = false) (d : Dim) :
    ∃ g : Array Rat, (∀ i : Nat, i < n → g[i]! = mf'.nodePos d i) ∧
      ∀ c ∈ (mf'.dim d).valid, ZERO_UPPERBOUND ≤ slackOf (mf'.dim d).vars g c := by
  obtain ⟨g, _, hg, hc⟩ :=
    ((makeFeasible_noc_good n vx vy items half cc fuel mf' noc' hwf hn hrun hclean hesc hfuel).1 d).wit
  exact ⟨g, hg, hc⟩

/-- two coincident 10×10 nodes under makeFeasible's default borders (half sizes 6): the four alternatives cost the
    same, the stable sort keeps `left` first, it is accepted: node 1 ends up 12 + 1e-9 to the left of node 0 -/
theorem nonoverlap_two_coincident :
    (MF.runNoc 0 100 (makeFeasible 2 #[(0, 1, 1), (0, 1, 1)] #[(0, 1, 1), (0, 1, 1)] [])
        (Noc.ofSizes #[(6, 6), (6, 6)])).map (fun r => (r.1.nodePos .x 0 - r.1.nodePos .x 1, r.1.nodePos .y 0, r.1.log.size, r.2.done)) =
      some (12 + 1 / 1000000000, 0, 1, true) := by
  decide +kernel

/-! ## (4) closed witnesses — evaluated by the kernel, replayed on the real library (`mfwit-*`) -/

def sq (cx cy : Rat) : Rect := { minX := cx - 5, maxX := cx + 5, minY := cy - 5, maxY := cy + 5 }

/-- makeFeasible of the model on a scene of user constraints, as the driver runs it -/
def runScene (rects : Array Rect) (ccs : List CC) (order : List Nat) : Option MF :=
  (mkScene rects ccs order).map fun s => makeFeasible s.n s.vx s.vy s.items

/-- two coincident 10×10 nodes; cc0: `x1 − 3 = x0` (equality), cc1: `x0 + 1 ≤ x1`.  Satisfiable: x = (0, 3). -/
def satScene : Option MF :=
  runScene #[sq 0 0, sq 0 0] [.separation .x 1 0 (-3) true, .separation .x 0 1 1 false] [0, 1]
/-- the same two constraints in the other list order -/
def satSceneSwapped : Option MF :=
  runScene #[sq 0 0, sq 0 0] [.separation .x 0 1 1 false, .separation .x 1 0 (-3) true] [0, 1]

/-- **satisfiable_scene_dropped**: a satisfiable scene (x0 = 0, x1 = 3 satisfies both constraints exactly)
    from which makeFeasible DROPS cc0: it processes cc1 first (back of the list), x becomes (−1/2, 1/2), then
    the equality cc0 is rejected; the returned positions violate it. -/
theorem satisfiable_scene_dropped :
    satScene.map (fun m => (m.dropped, m.nodePos .x 0, m.nodePos .x 1)) = some ([(0, 0)], -1/2, 1/2) ∧
    ((3 : Rat) - 3 = 0 ∧ (0 : Rat) + 1 ≤ 3) := by
  refine ⟨by decide +kernel, by decide +kernel⟩

/-- **drop_depends_on_order**: with the two constraints swapped in the list, both are accepted (x = (−3/2, 3/2)):
    the drop is an artefact of the incremental solve order, not of the constraint set -/
theorem drop_depends_on_order :
    satSceneSwapped.map (fun m => (m.dropped, m.nodePos .x 0, m.nodePos .x 1)) = some ([], -3/2, 3/2) := by
  decide +kernel

/-- **solver_flags_consistent_equality**: WHY the drop happens — it is the solver's flagging, not the greedy
    order of makeFeasible.  The incremental solver, holding `x0 + 1 ≤ x1` active in one block, is handed the
    consistent equality `x1 − 3 = x0`; `satisfy()` finds both ends in one block and a directed active path from
    the equality's right end to its left end, takes that for a cycle and flags the EQUALITY unsatisfiable
    (`nFlagPath = 1`): an equality is treated as the inequality `left + gap ≤ right` only.  The flagged
    constraint is the new one itself, the inequality stays unflagged; a fresh solver given both constraints at
    once flags nothing. -/
theorem solver_flags_consistent_equality :
    let s1 := (St.init #[(0, 1, 1), (0, 1, 1)] #[mkCon 0 1 1 false]).satisfy.1
    let s2 := (s1.addConstraint (mkCon 1 0 (-3) true)).satisfy.1
    (s2.cons.map (·.unsat)) = #[false, true] ∧ s2.nFlagPath = 1 ∧
    ((St.init #[(0, 1, 1), (0, 1, 1)] #[mkCon 0 1 1 false, mkCon 1 0 (-3) true]).satisfy.1.cons.map (·.unsat))
      = #[false, false] := by
  decide +kernel

/-- nodes at x = 0 and x = −5; cc0 = FixedRelativeConstraint{0,1} (keeps x1 − x0 = −5), cc1: `x0 + 10 ≤ x1` -/
def combinedScene : Option MF :=
  runScene #[sq 0 0, sq (-5) 0]
    [mkFixedRel #[sq 0 0, sq (-5) 0] [0, 1] false, .separation .x 0 1 10 false] [0, 1]

/-- **combined_breaks_accepted**: the second mechanism behind the finding.  cc1 is tried and ACCEPTED; then
    the FixedRelativeConstraint — a combined item — is added without a trial and solved; the solver flags cc1's
    constraint, nobody looks at the flag: nothing is dropped, every sub-constraint is marked satisfied, and the
    returned positions (0, −5) violate the accepted cc1 by 15.  (So `makeFeasible_accepted_hold` needs its
    hypothesis `combineFlags = #[]`; the model records the flagged owner: `brokenCCs = [1]`.) -/
theorem combined_breaks_accepted :
    combinedScene.map (fun m => (m.dropped, m.nodePos .x 0, m.nodePos .x 1)) = some ([], 0, -5) ∧
    combinedScene.map (fun m => m.marks.toList) = some [(1, 0, true), (0, 0, true), (0, 1, true)] ∧
    combinedScene.map (fun m => m.brokenCCs) = some [1] ∧
    ¬ ((0 : Rat) + 10 ≤ -5) := by
  -- the scene is evaluated once, all five observables compared in one Boolean
  have h : combinedScene.map (fun m => m.dropped == [] && m.nodePos .x 0 == 0 && m.nodePos .x 1 == -5 &&
      m.marks.toList == [(1, 0, true), (0, 0, true), (0, 1, true)] && m.brokenCCs == [1]) = some true := by
    decide +kernel
  generalize combinedScene = s at h
  cases s with
  | none => cases h
  | some m =>
    simp only [Option.map_some, Option.some.injEq, Bool.and_eq_true, beq_iff_eq] at h
    simp only [Option.map_some, Option.some.injEq, Prod.mk.injEq]
    exact ⟨⟨h.1.1.1.1, h.1.1.1.2, h.1.1.2⟩, h.1.2, h.2, by decide +kernel⟩

-- non-vacuity of the hypotheses of (1)/(3): a scene with a drop and no combined flag, well-formed work list
example : (satScene.map fun m => (m.combineFlags.size, m.escaped, m.fuelOut)) = some (0, false, false) := by
  decide +kernel
example : itemsWf 2 2 [{ cc := 1, subs := [[{ dim := .x, con := mkCon 0 1 1 false }]] },
                        { cc := 0, subs := [[{ dim := .x, con := mkCon 1 0 (-3) true }]] }] = true := by
  decide +kernel

-- non-vacuity of (2b): x0 + 1 ≤ x1 kept, then x1 + 1 ≤ x0 tried: rejected, satisfy() returned, all inequalities
example :
    let ds := ((MF.init 2 #[(0, 1, 1), (0, 1, 1)] #[(0, 1, 1), (0, 1, 1)]).x.tryCon 2 (mkCon 0 1 1 false)).ds
    ((ds.tryCon 2 (mkCon 1 0 1 false)).accepted, (ds.tryCon 2 (mkCon 1 0 1 false)).returned,
      ds.valid.all (fun c => !c.eq)) = (false, true, true) := by
  decide +kernel

end AdaptaVerif.Props.C07MakeFeasible
