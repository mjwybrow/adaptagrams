/-
C04, segment penalty > 0 — the optimum of  length + penalty · bends  over libavoid's OWN search space.

The polyline A* of makepath.cpp runs on states (vertex, previous vertex); `Check.OwnGraph.Space` holds its moves
(enabled visibility edges dumped from the live router), the bend count of `cost()` and the admissibility
predicate `validateBendPoint`.  The theorems say that a certificate accepted by `checkOwn` encloses the optimum over
ALL admissible routes of that space (any number of vertices, any weights inside the enclosures, any ordered field).
The driver uses it to separate a failure of the SEARCH (route dearer than the certified optimum of the space the
search itself explores: kind `search-not-minimal`) from the known limitation that the visibility graph is pruned
for Euclidean shortest paths (route optimal in its own space, dearer than the geometric optimum).
-/
import AdaptaVerif.Lemmas.OwnGraph
namespace AdaptaVerif.Props.C04Own
open AdaptaVerif.Model.Geometry (Pt area2)
open AdaptaVerif.Check.Potential AdaptaVerif.Check.OwnGraph AdaptaVerif.Lemmas.OwnGraph

variable {K : Type} [Field K] [LinearOrder K] [IsStrictOrderedRing K]

/-- weak duality on the (vertex, previous vertex) state space, all spaces, all routes: a potential that is
    feasible on the moves out of the start state and on every admissible move, and at least `lo` on every arrival
    state of t, bounds the cost of every admissible route s → t from below (true lengths ≥ the lower ends). -/
theorem own_lower_bound (S : Space) (π : Nat → Nat → Rat) (s t : Nat) (lo : Rat) (hst : s ≠ t) (h0 : π s S.n = 0)
    (hS : feasStart S π s = true) (hI : feasInner S π = true) (hT : tarLo S π t lo = true)
    (tw : WEdge → K) (hw : ∀ e ∈ S.edges, (e.wlo : K) ≤ tw e) (c : K) (hr : Route S tw t none s c) :
    (lo : K) ≤ c := by
  have := route_lower S π s t lo hst hS hI hT tw hw none s c hr (fun _ => rfl) (by intro p hp; cases hp)
  simp only [code] at this
  rw [h0] at this
  simpa using this

/-- an accepted witness path is an admissible route of the space, and its true cost is at most the bound -/
theorem own_witness_upper_bound (S : Space) (tw : WEdge → K) (hw : ∀ e ∈ S.edges, tw e ≤ (e.whi : K))
    (s t : Nat) (path : List Nat) (hi : Rat) (hh : path.head? = some s) (hl : path.getLast? = some t)
    (hp : routeHi S none path = some hi) : ∃ c, Route S tw t none s c ∧ c ≤ (hi : K) :=
  routeHi_route S tw hw t path none s hi hh hl hp

/-- soundness of the certificate checker: if `checkOwn` returns [lo, hi] then, for every assignment of true
    lengths inside the enclosures, every admissible route s → t of the search space costs ≥ lo and some
    admissible route costs ≤ hi. -/
theorem checkOwn_sound (S : Space) (π : Nat → Nat → Rat) (s t : Nat) (path : List Nat) (lo hi : Rat)
    (h : checkOwn S π s t path = some (lo, hi))
    (tw : WEdge → K) (hw : ∀ e ∈ S.edges, (e.wlo : K) ≤ tw e ∧ tw e ≤ (e.whi : K)) :
    (∀ c, Route S tw t none s c → (lo : K) ≤ c) ∧ (∃ c, Route S tw t none s c ∧ c ≤ (hi : K)) := by
  unfold checkOwn at h
  cases hm : minArrival S π t with
  | none => simp [hm] at h
  | some lo' =>
    simp only [hm] at h
    split at h
    · rename_i hc
      obtain ⟨hst, h0, hS, hI, hT, hh, hl⟩ := hc
      cases hr : routeHi S none path with
      | none => simp [hr] at h
      | some hi' =>
        simp only [hr, Option.map_some, Option.some.injEq, Prod.mk.injEq] at h
        obtain ⟨rfl, rfl⟩ := h
        exact ⟨own_lower_bound S π s t lo' hst h0 hS hI hT tw (fun e he => (hw e he).1),
          own_witness_upper_bound S tw (fun e he => (hw e he).2) s t path hi' hh hl hr⟩
    · simp at h

/-- the `search-not-minimal` verdict is rigorous: a route whose cost exceeds the certified upper end is dearer
    than some admissible route of the search's own space. -/
theorem search_not_minimal_sound (S : Space) (π : Nat → Nat → Rat) (s t : Nat) (path : List Nat) (lo hi : Rat)
    (h : checkOwn S π s t path = some (lo, hi))
    (tw : WEdge → K) (hw : ∀ e ∈ S.edges, (e.wlo : K) ≤ tw e ∧ tw e ≤ (e.whi : K))
    (impl : K) (himpl : (hi : K) < impl) : ∃ c, Route S tw t none s c ∧ c < impl := by
  obtain ⟨c, hc, hle⟩ := (checkOwn_sound S π s t path lo hi h tw hw).2
  exact ⟨c, hc, lt_of_le_of_lt hle himpl⟩

-- non-vacuity: three vertices, the two-leg route (one bend, penalty 1/2) beats the direct edge of length 3;
-- the certificate is accepted with lo = hi = 5/2
example : checkOwn ⟨3, [⟨0, 1, 1, 1⟩, ⟨1, 2, 1, 1⟩, ⟨0, 2, 3, 3⟩], fun _ _ _ => 1, fun _ _ _ => true, 1 / 2⟩
    (fun v p => if v = 1 ∧ p = 0 then 1 else if v = 2 ∧ p = 1 then 5 / 2 else if v = 2 ∧ p = 0 then 3 else 0)
    0 2 [0, 1, 2] = some (5 / 2, 5 / 2) := by decide +kernel

-- non-vacuity of `checkOwn_sound`, `own_lower_bound`, `own_witness_upper_bound`, `search_not_minimal_sound`
-- (all hypotheses jointly, K = ℚ, true length = the common end of the degenerate enclosures): the optimum of the
-- three-vertex space above is exactly 5/2, and an implementation cost of 3 is refuted
example :
    let S : Space := ⟨3, [⟨0, 1, 1, 1⟩, ⟨1, 2, 1, 1⟩, ⟨0, 2, 3, 3⟩], fun _ _ _ => 1, fun _ _ _ => true, 1 / 2⟩
    (∃ c : Rat, Route S (fun e => e.wlo) 2 none 0 c ∧ (5 / 2 : Rat) ≤ c ∧ c ≤ (5 / 2 : Rat)) ∧
    (∃ c : Rat, Route S (fun e => e.whi) 2 none 0 c ∧ c ≤ (5 / 2 : Rat)) ∧
    (∃ c : Rat, Route S (fun e => e.wlo) 2 none 0 c ∧ c < 3) := by
  intro S
  let π : Nat → Nat → Rat :=
    fun v p => if v = 1 ∧ p = 0 then 1 else if v = 2 ∧ p = 1 then 5 / 2 else if v = 2 ∧ p = 0 then 3 else 0
  have hw : ∀ e ∈ S.edges, (e.wlo : Rat) ≤ e.wlo ∧ e.wlo ≤ (e.whi : Rat) := by
    intro e he
    simp only [S, List.mem_cons, List.not_mem_nil, or_false] at he
    rcases he with rfl | rfl | rfl <;> norm_num
  have hck : checkOwn S π 0 2 [0, 1, 2] = some (5 / 2, 5 / 2) := by decide +kernel
  have hs := checkOwn_sound (K := Rat) S π 0 2 [0, 1, 2] (5 / 2) (5 / 2) hck (fun e => e.wlo) hw
  refine ⟨?_, ?_, ?_⟩
  · obtain ⟨c, hr, hle⟩ := hs.2
    refine ⟨c, hr, ?_, hle⟩
    exact own_lower_bound (K := Rat) S π 0 2 (5 / 2) (by decide) (by decide +kernel) (by decide +kernel)
      (by decide +kernel) (by decide +kernel) (fun e => e.wlo) (fun e he => (hw e he).1) c hr
  · exact own_witness_upper_bound (K := Rat) S (fun e => e.whi) (fun _ _ => le_refl _) 0 2 [0, 1, 2] (5 / 2)
      rfl rfl (by decide +kernel)
  · exact search_not_minimal_sound (K := Rat) S π 0 2 [0, 1, 2] (5 / 2) (5 / 2) hck (fun e => e.wlo) hw 3 (by norm_num)

/-- `cost()` charges no bend exactly for a collinear triple passed straight on -/
theorem bendCount_eq_zero_iff (a b c : Pt) :
    bendCount a b c = 0 ↔ area2 a b c = 0 ∧ (b.x - a.x) * (c.x - b.x) + (b.y - a.y) * (c.y - b.y) > 0 := by
  unfold bendCount
  by_cases h1 : area2 a b c = 0
  · by_cases h2 : (b.x - a.x) * (c.x - b.x) + (b.y - a.y) * (c.y - b.y) > 0
    · simp [h1, h2]
    · simp [h1, h2]
  · simp [h1]

theorem bendCount_le_two (a b c : Pt) : bendCount a b c ≤ 2 := by
  unfold bendCount
  split
  · omega
  · split <;> omega

/-- `validateBendPoint` never rejects a collinear triple (so the straight leg through a corner is a move) -/
theorem validBend_collinear (a b c d e : Pt) (h : area2 a b c = 0) : validBend a b c d e = true := by
  unfold validBend sgn
  simp [h]

example : bendCount ⟨0, 0⟩ ⟨1, 1⟩ ⟨3, 3⟩ = 0 ∧ bendCount ⟨0, 0⟩ ⟨1, 1⟩ ⟨3, 2⟩ = 1 ∧ bendCount ⟨0, 0⟩ ⟨2, 2⟩ ⟨1, 1⟩ = 2 := by
  decide +kernel

end AdaptaVerif.Props.C04Own
