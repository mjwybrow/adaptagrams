/-
C13 — the pruning pass of the `TopologyConstraints` constructor (`PruneDegenerate::operator()` with
`validTurn`, cola/libtopology/topology_constraints_constructor.cpp), model `Model/TopoPrune`.
What the pass guarantees for a coincident pair of bend points (the corner of one node lying exactly
on the corner of another): end points stay, a surviving point of the pair turns around its own node,
and in the diagonal-touch configuration exactly the geometry decides — not both can stay.  The two
zero-length branches of the C++ are mirror images (`pruned_reverse`, `markAt_reverse`,
`prune_reverse`); a change to one of them alone breaks these.
-/
import AdaptaVerif.Model.TopoPrune
import AdaptaVerif.Lemmas.TopoPrune
namespace AdaptaVerif.Props.C13Prune
open AdaptaVerif.Model.TopoPrune AdaptaVerif.Lemmas.TopoPrune

/-- the turn is straight, or the centre of `v`'s node is strictly on the inner side of both legs -/
theorem validTurn_iff (u v w : BPt) :
    validTurn u v w = true ↔
      (cross u.x u.y v.x v.y w.x w.y = 0 ∨
        (0 < cross u.x u.y v.x v.y w.x w.y * cross u.x u.y v.x v.y v.cx v.cy ∧
         0 < cross u.x u.y v.x v.y w.x w.y * cross v.x v.y w.x w.y v.cx v.cy)) := by
  unfold validTurn
  by_cases h : cross u.x u.y v.x v.y w.x w.y = 0
  · simp [h]
  · simp [h]

/-! ### symmetry of the rule -/

/-- walking the path backwards does not change the verdict on a turn -/
theorem validTurn_reverse (u v w : BPt) : validTurn u v w = validTurn w v u := validTurn_rev u v w

/-- swapping the axes (x ↔ y, cx ↔ cy in all three points) does not change the verdict -/
theorem validTurn_transpose (u v w : BPt) :
    validTurn ⟨u.y, u.x, u.cy, u.cx⟩ ⟨v.y, v.x, v.cy, v.cx⟩ ⟨w.y, w.x, w.cy, w.cx⟩
      = validTurn u v w := validTurn_tr u v w

/-- mirroring in the y axis (negate x and cx in all three points) does not change the verdict -/
theorem validTurn_mirror (u v w : BPt) :
    validTurn ⟨-u.x, u.y, -u.cx, u.cy⟩ ⟨-v.x, v.y, -v.cx, v.cy⟩ ⟨-w.x, w.y, -w.cx, w.cy⟩
      = validTurn u v w := validTurn_mir u v w

/-- The rule read backwards is the rule: the zero-length `if` branch (`inRule`) and the `else if`
    branch (`outRule`) are mirror images of each other. -/
theorem pruned_reverse (dim : Nat) (n? : Option BPt) (o p q : BPt) (r? : Option BPt) :
    pruned dim n? o p q r? = pruned dim r? q p o n? := pruned_rev dim n? o p q r?

theorem markAt_reverse (dim : Nat) (path : List BPt) (i : Nat) (hi : i < path.length) :
    markAt dim path.reverse i = markAt dim path (path.length - 1 - i) := by
  rw [markAt_eq_markOf, markAt_eq_markOf, markOf_rev]
  have hL : ∀ j, j < path.length → path.reverse[j]? = path[path.length - 1 - j]? :=
    fun j hj => List.getElem?_reverse hj
  have hN : ∀ j, path.length ≤ j → path[j]? = none := fun j hj => List.getElem?_eq_none hj
  have hNr : ∀ j, path.length ≤ j → path.reverse[j]? = none :=
    fun j hj => List.getElem?_eq_none (by simpa using hj)
  have hC : ∀ a b : Nat, a = b → path[a]? = path[b]? := fun a b e => by rw [e]
  congr 1
  · by_cases h : i + 2 < path.length
    · rw [hL _ h, if_neg (by omega)]; exact hC _ _ (by omega)
    · rw [hNr _ (by omega), if_pos (by omega)]
  · by_cases h : i + 1 < path.length
    · rw [hL _ h, if_neg (by omega)]; exact hC _ _ (by omega)
    · rw [hNr _ (by omega), if_pos (by omega)]
  · rw [hL _ hi]
  · by_cases h : i = 0
    · rw [if_pos h, hN _ (by omega)]
    · rw [if_neg h, hL _ (by omega)]; exact hC _ _ (by omega)
  · by_cases h : i < 2
    · rw [if_pos h, hN _ (by omega)]
    · rw [if_neg h, hL _ (by omega)]; exact hC _ _ (by omega)

/-- pruning the reversed path gives the reversed pruned path -/
theorem prune_reverse (dim : Nat) (path : List BPt) :
    prune dim path.reverse = (prune dim path).reverse := by
  rw [prune_eq_keepBy, prune_eq_keepBy]
  apply keepBy_reverse
  intro i hi
  simp only [Nat.zero_add]
  rw [markAt_reverse dim path i hi]

/-- XDIM and YDIM are each other's transpose: pruning the transposed path in the other scan
    dimension gives the transposed result -/
theorem prune_transpose (dim : Nat) (hd : dim < 2) (path : List BPt) :
    prune (1 - dim) (path.map fun a => ⟨a.y, a.x, a.cy, a.cx⟩)
      = (prune dim path).map fun a => ⟨a.y, a.x, a.cy, a.cx⟩ :=
  (pruneSymm_transpose dim hd).prune_eq path

theorem markAt_transpose (dim : Nat) (hd : dim < 2) (path : List BPt) (i : Nat) :
    markAt (1 - dim) (path.map fun a => ⟨a.y, a.x, a.cy, a.cx⟩) i = markAt dim path i :=
  (pruneSymm_transpose dim hd).markAt_eq path i

/-- pruning commutes with mirroring the picture in the y axis -/
theorem prune_mirror (dim : Nat) (path : List BPt) :
    prune dim (path.map fun a => ⟨-a.x, a.y, -a.cx, a.cy⟩)
      = (prune dim path).map fun a => ⟨-a.x, a.y, -a.cx, a.cy⟩ :=
  (pruneSymm_mirror dim).prune_eq path

theorem markAt_mirror (dim : Nat) (path : List BPt) (i : Nat) :
    markAt dim (path.map fun a => ⟨-a.x, a.y, -a.cx, a.cy⟩) i = markAt dim path i :=
  (pruneSymm_mirror dim).markAt_eq path i

/-! ### end points, sublist -/

/-- pruning only removes points -/
theorem prune_sublist (dim : Nat) (path : List BPt) : (prune dim path).Sublist path := by
  unfold prune
  have h := (List.filter_sublist (l := path.zipIdx) (p := fun pi => !markAt dim path pi.2)).map (·.1)
  simpa [List.zipIdx_map_fst] using h

theorem markAt_zero (dim : Nat) (path : List BPt) : markAt dim path 0 = false := by
  simp [markAt]

theorem markAt_last (dim : Nat) (path : List BPt) : markAt dim path (path.length - 1) = false := by
  rw [markAt_eq_markOf, List.getElem?_eq_none (show path.length ≤ path.length - 1 + 1 by omega),
    markOf_none_next]

/-- the first point of a path is never pruned (any path) -/
theorem prune_head? (dim : Nat) (path : List BPt) : (prune dim path).head? = path.head? := by
  rw [prune_eq_keepBy]
  cases path with
  | nil => rfl
  | cons a l =>
    rw [keepBy_cons]
    simp [markAt_zero]

/-- the last point of a path is never pruned (any path): it is the first point of the reversed path -/
theorem prune_getLast? (dim : Nat) (path : List BPt) : (prune dim path).getLast? = path.getLast? := by
  rw [← List.head?_reverse, ← prune_reverse, prune_head?, List.head?_reverse]

/-- the path's end points are unchanged -/
theorem prune_head_last (dim : Nat) (path : List BPt) (_h : 2 ≤ path.length) :
    (prune dim path).head? = path.head? ∧ (prune dim path).getLast? = path.getLast? :=
  ⟨prune_head? dim path, prune_getLast? dim path⟩

/-! ### coincident pairs -/

/-- A point of a coincident pair that survives the pruning pass turns — judged from the point
    BEFORE the pair to the point AFTER the pair — around its own node, or is straight. -/
theorem kept_of_pair_turns_around_own_node (dim : Nat) (path : List BPt) (i : Nat) (n o p q : BPt)
    (hi : 1 ≤ i) (hn : path[i - 1]? = some n) (ho : path[i]? = some o)
    (hp : path[i + 1]? = some p) (hq : path[i + 2]? = some q) (hz : samePos o p = true) :
    (markAt dim path i = false → validTurn n o q = true) ∧
    (markAt dim path (i + 1) = false → validTurn n p q = true) := by
  obtain ⟨m1, m2⟩ := markAt_pair dim path i n o p q hi hn ho hp hq
  rw [m1, m2]
  constructor
  · intro h
    simp only [pruned, outRule, hz, Bool.or_eq_false_iff, Bool.true_and] at h
    simpa using h.2
  · intro h
    simp only [pruned, inRule, hz, Bool.or_eq_false_iff, Bool.true_and] at h
    simpa using h.1.2

/-- For an isolated coincident pair (the segments before and after it have positive length) the
    marks are exactly the negated turn tests: the collinear rule cannot fire (one incident segment
    has length 0), and the other zero-length branch needs the neighbouring segment to be
    degenerate too. -/
theorem mark_of_isolated_pair (dim : Nat) (path : List BPt) (i : Nat) (n o p q : BPt)
    (hi : 1 ≤ i) (hn : path[i - 1]? = some n) (ho : path[i]? = some o)
    (hp : path[i + 1]? = some p) (hq : path[i + 2]? = some q) (hz : samePos o p = true)
    (hno : samePos n o = false) (hpq : samePos p q = false) :
    markAt dim path i = !validTurn n o q ∧ markAt dim path (i + 1) = !validTurn n p q := by
  obtain ⟨m1, m2⟩ := markAt_pair dim path i n o p q hi hn ho hp hq
  rw [m1, m2]
  constructor
  · simp [pruned, collinearRule, inRule, outRule, hz, hno]
  · simp [pruned, collinearRule, inRule, outRule, hz, hpq]

/-! ### diagonal touch: not both points of the pair can stay -/

/-- Two nodes touch diagonally at `X = (o.x,o.y) = (p.x,p.y)` (their centres lie in opposite open
    quadrants seen from `X`), the incoming leg `n → X` runs inside neither of the two quadrants, and
    the turn `n → X → q` is strict.  Then the turn cannot be valid around both nodes. -/
theorem coincident_pair_not_both_valid (n o p q : BPt) (hz : samePos o p = true)
    (hcx : (o.cx - o.x) * (p.cx - p.x) < 0) (hcy : (o.cy - o.y) * (p.cy - p.y) < 0)
    (hno : ¬ (0 < (n.x - o.x) * (o.cx - o.x) ∧ 0 < (n.y - o.y) * (o.cy - o.y)))
    (hnp : ¬ (0 < (n.x - p.x) * (p.cx - p.x) ∧ 0 < (n.y - p.y) * (p.cy - p.y)))
    (hc : cross n.x n.y o.x o.y q.x q.y ≠ 0) :
    ¬ (validTurn n o q = true ∧ validTurn n p q = true) := by
  obtain ⟨hx, hy⟩ := (samePos_iff o p).mp hz
  rintro ⟨h1, h2⟩
  rw [validTurn_iff] at h1 h2
  rw [← hx, ← hy] at h2 hnp
  rw [← hx] at hcx
  rw [← hy] at hcy
  have a1 := (h1.resolve_left hc).1
  have a2 := (h2.resolve_left hc).1
  have hpos := mul_pos_of_same_sign a1 a2
  rw [cross_in_leg, cross_in_leg, neg_mul_neg] at hpos
  have hle := cross_opposite_quadrants (n.x - o.x) (n.y - o.y) (o.cx - o.x) (o.cy - o.y)
    (p.cx - o.x) (p.cy - o.y) hcx hcy hno hnp
  exact absurd hpos (not_lt.mpr hle)

/-- the same with the OUTGOING leg `X → q` running inside neither quadrant: the statement above for
    the path walked backwards -/
theorem coincident_pair_not_both_valid_out (n o p q : BPt) (hz : samePos o p = true)
    (hcx : (o.cx - o.x) * (p.cx - p.x) < 0) (hcy : (o.cy - o.y) * (p.cy - p.y) < 0)
    (hqo : ¬ (0 < (q.x - o.x) * (o.cx - o.x) ∧ 0 < (q.y - o.y) * (o.cy - o.y)))
    (hqp : ¬ (0 < (q.x - p.x) * (p.cx - p.x) ∧ 0 < (q.y - p.y) * (p.cy - p.y)))
    (hc : cross n.x n.y o.x o.y q.x q.y ≠ 0) :
    ¬ (validTurn n o q = true ∧ validTurn n p q = true) := by
  rw [validTurn_rev n o q, validTurn_rev n p q]
  exact coincident_pair_not_both_valid q o p n hz hcx hcy hqo hqp
    (by rw [cross_swap02, neg_ne_zero]; exact hc)

/-- After the constructor's pass no zero-length segment is left at a diagonal-touch pair. -/
theorem coincident_pair_one_is_pruned (dim : Nat) (path : List BPt) (i : Nat) (n o p q : BPt)
    (hi : 1 ≤ i) (hn : path[i - 1]? = some n) (ho : path[i]? = some o)
    (hp : path[i + 1]? = some p) (hq : path[i + 2]? = some q) (hz : samePos o p = true)
    (hcx : (o.cx - o.x) * (p.cx - p.x) < 0) (hcy : (o.cy - o.y) * (p.cy - p.y) < 0)
    (hno : ¬ (0 < (n.x - o.x) * (o.cx - o.x) ∧ 0 < (n.y - o.y) * (o.cy - o.y)))
    (hnp : ¬ (0 < (n.x - p.x) * (p.cx - p.x) ∧ 0 < (n.y - p.y) * (p.cy - p.y)))
    (hc : cross n.x n.y o.x o.y q.x q.y ≠ 0) :
    markAt dim path i = true ∨ markAt dim path (i + 1) = true := by
  have hk := kept_of_pair_turns_around_own_node dim path i n o p q hi hn ho hp hq hz
  have hnb := coincident_pair_not_both_valid n o p q hz hcx hcy hno hnp hc
  by_contra h
  rw [not_or, Bool.not_eq_true, Bool.not_eq_true] at h
  exact hnb ⟨hk.1 h.1, hk.2 h.2⟩

/-- the same from the outgoing leg -/
theorem coincident_pair_one_is_pruned_out (dim : Nat) (path : List BPt) (i : Nat) (n o p q : BPt)
    (hi : 1 ≤ i) (hn : path[i - 1]? = some n) (ho : path[i]? = some o)
    (hp : path[i + 1]? = some p) (hq : path[i + 2]? = some q) (hz : samePos o p = true)
    (hcx : (o.cx - o.x) * (p.cx - p.x) < 0) (hcy : (o.cy - o.y) * (p.cy - p.y) < 0)
    (hqo : ¬ (0 < (q.x - o.x) * (o.cx - o.x) ∧ 0 < (q.y - o.y) * (o.cy - o.y)))
    (hqp : ¬ (0 < (q.x - p.x) * (p.cx - p.x) ∧ 0 < (q.y - p.y) * (p.cy - p.y)))
    (hc : cross n.x n.y o.x o.y q.x q.y ≠ 0) :
    markAt dim path i = true ∨ markAt dim path (i + 1) = true := by
  have hk := kept_of_pair_turns_around_own_node dim path i n o p q hi hn ho hp hq hz
  have hnb := coincident_pair_not_both_valid_out n o p q hz hcx hcy hqo hqp hc
  by_contra h
  rw [not_or, Bool.not_eq_true, Bool.not_eq_true] at h
  exact hnb ⟨hk.1 h.1, hk.2 h.2⟩

/-! ### non-vacuity: the diagonal-touch witness (corner of MTL on the corner of NBR) -/

/-- forward: the second point of the pair (NBR) is pruned, MTL stays -/
example : marks 0 [⟨60,-45,60,-45⟩, ⟨100,30,125,15⟩, ⟨100,30,75,45⟩, ⟨200,100,200,100⟩]
    = [false, false, true, false] := by decide +kernel

/-- backward: again NBR (now the first point of the pair) is pruned -/
example : marks 0 [⟨200,100,200,100⟩, ⟨100,30,75,45⟩, ⟨100,30,125,15⟩, ⟨60,-45,60,-45⟩]
    = [false, true, false, false] := by decide +kernel

example : prune 0 [⟨60,-45,60,-45⟩, ⟨100,30,125,15⟩, ⟨100,30,75,45⟩, ⟨200,100,200,100⟩]
    = [⟨60,-45,60,-45⟩, ⟨100,30,125,15⟩, ⟨200,100,200,100⟩] := by decide +kernel

/-- the hypotheses of `coincident_pair_one_is_pruned` (both legs) are satisfiable: n = A, o = MTL,
    p = NBR, q = B at index 1 of that path -/
example :
    let n : BPt := ⟨60,-45,60,-45⟩
    let o : BPt := ⟨100,30,125,15⟩
    let p : BPt := ⟨100,30,75,45⟩
    let q : BPt := ⟨200,100,200,100⟩
    let path := [n, o, p, q]
    path[1 - 1]? = some n ∧ path[1]? = some o ∧ path[1 + 1]? = some p ∧ path[1 + 2]? = some q ∧
    samePos o p = true ∧ samePos n o = false ∧ samePos p q = false ∧
    (o.cx - o.x) * (p.cx - p.x) < 0 ∧ (o.cy - o.y) * (p.cy - p.y) < 0 ∧
    ¬ (0 < (n.x - o.x) * (o.cx - o.x) ∧ 0 < (n.y - o.y) * (o.cy - o.y)) ∧
    ¬ (0 < (n.x - p.x) * (p.cx - p.x) ∧ 0 < (n.y - p.y) * (p.cy - p.y)) ∧
    ¬ (0 < (q.x - o.x) * (o.cx - o.x) ∧ 0 < (q.y - o.y) * (o.cy - o.y)) ∧
    ¬ (0 < (q.x - p.x) * (p.cx - p.x) ∧ 0 < (q.y - p.y) * (p.cy - p.y)) ∧
    cross n.x n.y o.x o.y q.x q.y ≠ 0 ∧
    validTurn n o q = true ∧ validTurn n p q = false := by decide +kernel

/-- the corollary applied to the witness -/
example :
    markAt 0 [⟨60,-45,60,-45⟩, ⟨100,30,125,15⟩, ⟨100,30,75,45⟩, ⟨200,100,200,100⟩] 1 = true ∨
    markAt 0 [⟨60,-45,60,-45⟩, ⟨100,30,125,15⟩, ⟨100,30,75,45⟩, ⟨200,100,200,100⟩] (1 + 1) = true :=
  coincident_pair_one_is_pruned 0 _ 1 ⟨60,-45,60,-45⟩ ⟨100,30,125,15⟩ ⟨100,30,75,45⟩
    ⟨200,100,200,100⟩ (Nat.le_refl 1) rfl rfl rfl rfl (by decide +kernel) (by decide +kernel)
    (by decide +kernel) (by decide +kernel) (by decide +kernel) (by decide +kernel)

end AdaptaVerif.Props.C13Prune
