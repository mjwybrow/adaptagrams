/-
C04 — the A* search on the polyline problem (Model/PolyAStar.lean: the problem `AStarPathPrivate::search` solves for
a polyline connector, built from libavoid's dumped visibility graph; the loop itself is Part 1 of Model/AStar.lean,
with PENDING / DONE keyed on (vertex, previous vertex) and a queued node improved IN PLACE by a smaller g).
The driver runs this model on every dumped graph and compares its DONE list with the expansion order of the real
search (DebugHandler tap).  The theorems: the modelled discipline returns a cheapest route of the search space
whenever the dumped heuristic passes the per-graph consistency check (exact comparator); the moves of the problem
are exactly the admissible moves of the search space of Check/OwnGraph.lean, charged as `cost()` charges them.
-/
import AdaptaVerif.Lemmas.PolyAStar
namespace AdaptaVerif.Props.C04AStar
open AdaptaVerif.Model.AStar AdaptaVerif.Model.PolyAStar AdaptaVerif.Check.OwnGraph
open AdaptaVerif.Lemmas.AStarSpec AdaptaVerif.Lemmas.PolyAStar

/-- **Optimality of the open-list discipline on the polyline problem**, every dumped graph, every fuel: if the
    heuristic passes `consistent` (h(v) ≤ |vw| + h(w) on the dumped numbers), the penalty is non-negative and the
    comparator is exact (eps = 0), then the node the search returns has the smallest g among ALL routes of the state
    graph from the source to the target that meet the target only at their end — any number of vertices, any bends.
    (In particular a queued (vertex, previous vertex) state that is reached again more cheaply must take its new
    place in the open list: the seeded change C04-4 breaks exactly the refinement of this model by the C++.) -/
theorem poly_search_optimal (g : PolyGraph) (heps : g.eps = 0) (hst : g.src ≠ g.tar) (hpen : 0 ≤ g.S.pen)
    (hc : consistent g = true) (fuel : Nat) (b : Node) (done : List Node)
    (h : search (problem g) fuel (init (problem g)) = .found b done) :
    ∀ u c path, Reach (problem g) g.tar (some u) c path → g.tar ∉ path.tail → b.g ≤ c := by
  have htar : (problem g).tar = g.tar := rfl
  refine AdaptaVerif.Lemmas.AStarOpt.search_optimal_textbook (problem g) (fun v _ => hOf g v) heps hst rfl ?_ ?_ ?_
    fuel b done h
  · intro pv v s hs
    obtain ⟨wd, _, he⟩ := mem_succs g pv v s hs
    obtain ⟨hw, hh, _⟩ := succOf_some g pv v wd s he
    rw [hh, hw]
  · intro pv
    simp [hOf, htar]
  · -- with a non-negative penalty a step costs at least the edge length, so the check gives consistency
    intro pv v s hs
    obtain ⟨wd, hwd, he⟩ := mem_succs g pv v s hs
    obtain ⟨hw, _, _, _, hcost⟩ := succOf_some g pv v wd s he
    have hcs := consistent_spec g hc v wd hwd
    rw [hw]
    cases pv with
    | none =>
      simp only at hcost
      rw [hcost]; exact hcs
    | some p =>
      simp only at hcost
      have hb : (0 : Rat) ≤ g.S.pen * (g.S.bend p v wd.1 : Nat) :=
        Rat.mul_nonneg hpen (by exact_mod_cast Nat.zero_le _)
      rw [hcost.2]
      linarith

/-- **The moves of the problem are the admissible moves of the search space**: an examined edge that survives the
    skip rules does not go straight back, passes `validateBendPoint`, leads to a shape corner or to the target, and
    costs the dumped edge length plus penalty · the bends `cost()` charges (none on the first leg). -/
theorem poly_moves_admissible (g : PolyGraph) (pv : Option Nat) (v : Nat) (s : Succ)
    (h : some s ∈ (problem g).succs pv v) :
    ∃ d, (s.w, d) ∈ g.adj.getD v [] ∧ admissible g.S pv v s.w = true ∧ (g.corner s.w = true ∨ s.w = g.tar) ∧
      s.c = d + g.S.pen * (bendOf g.S pv v s.w : Nat) ∧ s.h = hOf g s.w := by
  obtain ⟨wd, hwd, he⟩ := mem_succs g pv v s h
  obtain ⟨hw, hh, hne, hcor, hcost⟩ := succOf_some g pv v wd s he
  refine ⟨wd.2, by rw [hw]; exact hwd, ?_, by rw [hw]; exact hcor, ?_, by rw [hw]; exact hh⟩
  · cases pv with
    | none => rfl
    | some p =>
      simp only at hcost
      simp only [admissible, Bool.and_eq_true, bne_iff_ne, ne_eq]
      rw [hw]
      exact ⟨fun hk => hne (by rw [hk]), hcost.1⟩
  · cases pv with
    | none =>
      simp only at hcost
      simp [bendOf, hcost]
    | some p =>
      simp only at hcost
      rw [hw]
      simp [bendOf, hcost.2]

-- non-vacuity: source 0, corners 1 and 2, target 3; 0-1-3 (one bend, penalty 1/2) and 0-2-3; consistent heuristic;
-- the model finds the cheaper route with g = 5/2
example :
    let g : PolyGraph :=
      { S := { n := 4, edges := [], bend := (fun _ _ _ => 1), ok := (fun _ _ _ => true), pen := 1 / 2 }
        adj := #[[(1, 1), (2, 2)], [(0, 1), (3, 1)], [(0, 2), (3, 2)], [(1, 1), (2, 2)]]
        hs := #[2, 1, 2, 0]
        corner := (fun v => v == 1 || v == 2)
        src := 0
        tar := 3
        eps := 0 }
    consistent g = true ∧ (run g).cost = some (5 / 2) := by decide +kernel

-- non-vacuity of `poly_search_optimal` (all hypotheses jointly) and of `poly_moves_admissible`, on the graph above:
-- the search is `found`, so every route of the state graph costs at least the returned 5/2; and the move
-- 1 → 3 after 0 → 1 is a successor (one bend, cost 1 + 1/2)
example :
    let g : PolyGraph :=
      { S := { n := 4, edges := [], bend := (fun _ _ _ => 1), ok := (fun _ _ _ => true), pen := 1 / 2 }
        adj := #[[(1, 1), (2, 2)], [(0, 1), (3, 1)], [(0, 2), (3, 2)], [(1, 1), (2, 2)]]
        hs := #[2, 1, 2, 0]
        corner := (fun v => v == 1 || v == 2)
        src := 0
        tar := 3
        eps := 0 }
    (∀ u c path, Reach (problem g) g.tar (some u) c path → g.tar ∉ path.tail → (5 / 2 : Rat) ≤ c) ∧
    (∃ d, ((3 : Nat), d) ∈ g.adj.getD 1 [] ∧ admissible g.S (some 0) 1 3 = true ∧ (3 / 2 : Rat) = d + g.S.pen * (bendOf g.S (some 0) 1 3 : Nat)) := by
  intro g
  have hcost : (run g).cost = some (5 / 2) := by decide +kernel
  constructor
  · cases h : run g with
    | found b done =>
      rw [h] at hcost
      have hb : b.g = 5 / 2 := Option.some.inj hcost
      rw [← hb]
      exact poly_search_optimal g rfl (by decide) (by decide +kernel) (by decide +kernel) (fuel g) b done h
    | noPath => rw [h] at hcost; cases hcost
    | outOfFuel => rw [h] at hcost; cases hcost
  · obtain ⟨d, h1, h2, _, h4, _⟩ := poly_moves_admissible g (some 0) 1 ⟨3, 3 / 2, 0⟩ (by decide +kernel)
    exact ⟨d, h1, h2, h4⟩

end AdaptaVerif.Props.C04AStar
