import AdaptaVerif.Lemmas.Compound
/-
C08 — libcola: overlap avoidance and rectangular-cluster containment hold in the result.

* `sep_no_overlap_1d`, `sep_no_overlap` : a satisfied separation constraint whose gap is the sum of
  the half sizes leaves no overlap in that dimension, hence no 2-D overlap;
* `overlap1_gt`, `pair_none_small_overlap`, `pair_some_separates`, `last_pass_no_overlap` : the
  decision rule of NonOverlapConstraints::generateSeparationConstraints (model `nonOverlapPair`):
  a shape pair either gets a full separation in this dimension or overlaps by at most 0.0005 in the
  other one — so after a projection that satisfies the generated set, no pair overlaps by more
  than the threshold in the other dimension *and* by a positive amount in this one;
* `containment_sound` : satisfied containment constraints put every child rectangle (plus padding)
  and every child cluster (plus margin and padding) between the cluster's two boundary variables;
  `containment_complete` : they never make a placement of the child nodes infeasible;
* `fixedRect_sound`, `fixedRect_complete`, `fixedRect_members_inside` : a cluster built from a node rectangle
  is pinned to that rectangle, so its members lie inside it;
* `sibling_disjoint` : sibling clusters separated through their boundary variables have disjoint members;
* `noOverlapBoth_iff`, `overlapsBoth_iff`, `bbox_contains`, `boxesDisjoint_sound`,
  `noForeignInside_sound` : the checkers run on the implementation's final rectangles are sound
  (and the overlap checker complete) for the specifications in Spec/Compound.lean.
-/
namespace AdaptaVerif.Props.C08
open AdaptaVerif.Model.Compound AdaptaVerif.Spec.Compound AdaptaVerif.Check.Layout
open AdaptaVerif.Lemmas.Compound

/-! ### separation ⇒ no overlap -/

theorem sep_no_overlap_1d (a : Asg) (u v : Nat) (hu hv tol : Rat) (htol : 0 ≤ tol)
    (h : Holds { left := u, right := v, gap := hu + hv, eq := false } a) :
    ¬ Overlap1D tol (a u - hu) (a u + hu) (a v - hv) (a v + hv) := by
  rintro ⟨lo, hi, hlen, _, h2, h3, _⟩
  rw [holds_ineq] at h
  linarith only [h, hlen, h2, h3, htol]

example : Holds { left := 0, right := 1, gap := 3 + 2, eq := false } (fun i => if i = 0 then 0 else 5) := by
  decide +kernel

/-- rectangles given by centres and half sizes: separated in x (or in y) ⇒ they do not overlap by
    more than `tol ≥ 0` in both dimensions -/
theorem sep_no_overlap (r s : Rect) (tol : Rat)
    (h : ¬ Overlap1D tol r.minX r.maxX s.minX s.maxX ∨ ¬ Overlap1D tol r.minY r.maxY s.minY s.maxY) :
    ¬ OverlapBoth tol r s := by
  rintro ⟨hx, hy⟩
  rcases h with h | h
  · exact h hx
  · exact h hy

/-! ### the decision rule of NonOverlapConstraints::generateSeparationConstraints -/

/-- whatever the centres, `Rectangle::overlapX/Y` is at least the true common length -/
theorem overlap1_gt (t uLo uHi uC vLo vHi vC : Rat) (ht : 0 ≤ t)
    (h : Overlap1D t uLo uHi vLo vHi) : overlap1 uLo uHi uC vLo vHi vC > t := by
  obtain ⟨lo, hi, hlen, h1, h2, h3, h4⟩ := h
  unfold overlap1
  by_cases hc : uC ≤ vC
  · have : vLo < uHi := by linarith only [hlen, h2, h3, ht]
    rw [if_pos ⟨hc, this⟩]; linarith only [hlen, h2, h3]
  · have hc' : vC ≤ uC := le_of_lt (not_le.mp hc)
    have : uLo < vHi := by linarith only [hlen, h1, h4, ht]
    rw [if_neg (fun hh => hc hh.1), if_pos ⟨hc', this⟩]; linarith only [hlen, h1, h4]

theorem nonOverlapPair_shape (bbs : Array Rect) (dim : Dim) (i j : Nat) (wi hi wj hj : Rat) :
    nonOverlapPair bbs dim (.shape i wi hi) (.shape j wj hj) =
      if (bbs.getD i default).overlapD (bbs.getD j default) dim.other > overlapThreshold then
        if (bbs.getD i default).centre dim < (bbs.getD j default).centre dim then
          some { left := i, right := j, gap := halfOf dim wi hi + halfOf dim wj hj, eq := false }
        else some { left := j, right := i, gap := halfOf dim wi hi + halfOf dim wj hj, eq := false }
      else none := by
  rfl

/-- no constraint generated for a shape pair ⇒ the rectangles overlap by at most the threshold in
    the other dimension -/
theorem pair_none_small_overlap (bbs : Array Rect) (dim : Dim) (i j : Nat) (wi hi wj hj : Rat)
    (h : nonOverlapPair bbs dim (.shape i wi hi) (.shape j wj hj) = none) :
    ¬ Overlap1D overlapThreshold ((bbs.getD i default).min dim.other) ((bbs.getD i default).max dim.other)
        ((bbs.getD j default).min dim.other) ((bbs.getD j default).max dim.other) := by
  intro hov
  have hgt : (bbs.getD i default).overlapD (bbs.getD j default) dim.other > overlapThreshold :=
    overlap1_gt overlapThreshold _ _ ((bbs.getD i default).centre dim.other) _ _
      ((bbs.getD j default).centre dim.other) (by unfold overlapThreshold; norm_num) hov
  rw [nonOverlapPair_shape, if_pos hgt] at h
  by_cases hc : (bbs.getD i default).centre dim < (bbs.getD j default).centre dim
  · rw [if_pos hc] at h; cases h
  · rw [if_neg hc] at h; cases h

/-- a generated constraint, once satisfied, separates the two shapes in this dimension (with the
    half sizes the shapes were registered with) -/
theorem pair_some_separates (bbs : Array Rect) (dim : Dim) (i j : Nat) (wi hi wj hj : Rat) (c : Sep) (a : Asg)
    (h : nonOverlapPair bbs dim (.shape i wi hi) (.shape j wj hj) = some c) (hc : Holds c a) (tol : Rat) (htol : 0 ≤ tol) :
    ¬ Overlap1D tol (a i - halfOf dim wi hi) (a i + halfOf dim wi hi) (a j - halfOf dim wj hj) (a j + halfOf dim wj hj) := by
  rw [nonOverlapPair_shape] at h
  by_cases hgt : (bbs.getD i default).overlapD (bbs.getD j default) dim.other > overlapThreshold
  · rw [if_pos hgt] at h
    by_cases hlt : (bbs.getD i default).centre dim < (bbs.getD j default).centre dim
    · rw [if_pos hlt] at h
      injection h with h; subst h
      exact sep_no_overlap_1d a i j _ _ tol htol hc
    · rw [if_neg hlt] at h
      injection h with h; subst h
      have hc' : Holds { left := j, right := i, gap := halfOf dim wj hj + halfOf dim wi hi, eq := false } a := by
        rw [holds_ineq] at hc ⊢; linarith only [hc]
      have := sep_no_overlap_1d a j i _ _ tol htol hc'
      rintro ⟨lo, hi2, hlen, h1, h2, h3, h4⟩
      exact this ⟨lo, hi2, hlen, h3, h4, h1, h2⟩
  · rw [if_neg hgt] at h; cases h

/-- Last pass: constraints for `dim` are generated from the current rectangles; the projection moves
    only `dim`-coordinates to `a` and satisfies what was generated. Then the pair does not overlap
    by more than 0.0005 in the other dimension *and* by a positive amount in `dim`. -/
theorem last_pass_no_overlap (bbs : Array Rect) (dim : Dim) (i j : Nat) (wi hi wj hj : Rat) (a : Asg)
    (hsat : ∀ c, nonOverlapPair bbs dim (.shape i wi hi) (.shape j wj hj) = some c → Holds c a) :
    ¬ (Overlap1D overlapThreshold ((bbs.getD i default).min dim.other) ((bbs.getD i default).max dim.other)
          ((bbs.getD j default).min dim.other) ((bbs.getD j default).max dim.other) ∧
       Overlap1D 0 (a i - halfOf dim wi hi) (a i + halfOf dim wi hi) (a j - halfOf dim wj hj) (a j + halfOf dim wj hj)) := by
  rintro ⟨h1, h2⟩
  cases hp : nonOverlapPair bbs dim (.shape i wi hi) (.shape j wj hj) with
  | none => exact pair_none_small_overlap bbs dim i j wi hi wj hj hp h1
  | some c => exact pair_some_separates bbs dim i j wi hi wj hj c a hp (hsat c hp) 0 (le_refl 0) h2

-- non-vacuity of pair_none_small_overlap: two in-range unit squares far apart, no constraint
example : nonOverlapPair #[⟨0, 1, 0, 1⟩, ⟨5, 6, 5, 6⟩] .x (.shape 0 (1/2) (1/2)) (.shape 1 (1/2) (1/2)) = none := by
  decide +kernel

-- non-vacuity of pair_some_separates / last_pass_no_overlap
example : ∃ c a, nonOverlapPair #[⟨0, 2, 0, 2⟩, ⟨1, 3, 1, 3⟩] .x (.shape 0 1 1) (.shape 1 1 1) = some c ∧ Holds c a :=
  ⟨{ left := 0, right := 1, gap := 1 + 1, eq := false }, fun i => if i = 0 then 0 else 2,
   by decide +kernel⟩

example : ¬ (Overlap1D overlapThreshold 0 2 1 3 ∧ Overlap1D 0 (0 - 1) (0 + 1) (2 - 1) (2 + 1)) :=
  last_pass_no_overlap #[⟨0, 2, 0, 2⟩, ⟨1, 3, 1, 3⟩] .x 0 1 1 1 1 1 (fun i => if i = 0 then 0 else 2)
    (by intro c hc
        have : nonOverlapPair #[⟨0, 2, 0, 2⟩, ⟨1, 3, 1, 3⟩] .x (.shape 0 1 1) (.shape 1 1 1)
            = some { left := 0, right := 1, gap := 1 + 1, eq := false } := by decide +kernel
        rw [this] at hc; injection hc with hc; subst hc
        decide +kernel)

/-! ### cluster containment -/

theorem containment_sound (v : Nat) (pMin pMax : Rat) (nodes : List (Nat × Rat)) (children : List (Nat × Rat × Rat))
    (a : Asg) (h : AllHold (containmentSeps v pMin pMax nodes children) a) :
    (∀ p ∈ nodes, a v + pMin ≤ a p.1 - p.2 ∧ a p.1 + p.2 + pMax ≤ a (v + 1)) ∧
    (∀ c ∈ children, a v + pMin + c.2.1 ≤ a c.1 ∧ a (c.1 + 1) + c.2.2 + pMax ≤ a (v + 1)) := by
  unfold containmentSeps at h
  rw [allHold_append, allHold_flatMap, allHold_flatMap] at h
  constructor
  · intro p hp
    have h1 := (holds_ineq ..).1 (h.1 p hp _ List.mem_cons_self)
    have h2 := (holds_ineq ..).1 (h.1 p hp _ (List.mem_cons_of_mem _ List.mem_cons_self))
    constructor <;> linarith only [h1, h2]
  · intro c hc
    have h1 := (holds_ineq ..).1 (h.2 c hc _ List.mem_cons_self)
    have h2 := (holds_ineq ..).1 (h.2 c hc _ (List.mem_cons_of_mem _ List.mem_cons_self))
    constructor <;> linarith only [h1, h2]

example : AllHold (containmentSeps 2 1 1 [(0, 1)] []) (fun i => if i = 0 then 5 else if i = 2 then 0 else 10) := by
  decide +kernel

-- non-vacuity of containment_sound with a child cluster (variables 4,5; margins 1,1) and a node
example : AllHold (containmentSeps 2 1 1 [(0, 1)] [(4, 1, 1)])
    (fun i => if i = 0 then 5 else if i = 2 then 0 else if i = 3 then 20 else if i = 4 then 8 else 12) := by
  decide +kernel

/-- with non-negative padding, a contained node's interval lies inside the cluster's box -/
theorem containment_within (v : Nat) (pMin pMax : Rat) (nodes : List (Nat × Rat)) (children : List (Nat × Rat × Rat))
    (a : Asg) (hp0 : 0 ≤ pMin) (hp1 : 0 ≤ pMax) (h : AllHold (containmentSeps v pMin pMax nodes children) a) :
    ∀ p ∈ nodes, a v ≤ a p.1 - p.2 ∧ a p.1 + p.2 ≤ a (v + 1) := by
  intro p hp
  have := (containment_sound v pMin pMax nodes children a h).1 p hp
  constructor <;> linarith

/-- the cluster's boundary variables can always be placed around any placement of its child nodes
    (leaf cluster): containment never makes a placement infeasible -/
theorem containment_complete (v : Nat) (pMin pMax : Rat) (nodes : List (Nat × Rat)) (x : Asg)
    (hv : ∀ p ∈ nodes, p.1 ≠ v ∧ p.1 ≠ v + 1) :
    ∃ a : Asg, AgreeOff [v, v + 1] a x ∧ AllHold (containmentSeps v pMin pMax nodes []) a := by
  obtain ⟨lo, hlo⟩ := exists_lower (nodes.map fun p => x p.1 - p.2 - pMin)
  obtain ⟨hi, hhi⟩ := exists_upper (nodes.map fun p => x p.1 + p.2 + pMax)
  have hne : v ≠ v + 1 := by omega
  refine ⟨update (update x v lo) (v + 1) hi, agreeOff_update2 x v (v + 1) lo hi, ?_⟩
  unfold containmentSeps
  rw [allHold_append, allHold_flatMap]
  refine ⟨fun p hp c hc => ?_, fun _ h => nomatch h⟩
  have hl := hlo (x p.1 - p.2 - pMin) (List.mem_map.mpr ⟨p, hp, rfl⟩)
  have hh := hhi (x p.1 + p.2 + pMax) (List.mem_map.mpr ⟨p, hp, rfl⟩)
  simp only [List.mem_cons, List.mem_nil_iff, or_false] at hc
  rcases hc with rfl | rfl
  · rw [holds_ineq, update2_left _ _ _ hne, update2_other _ _ _ (hv p hp).1 (hv p hp).2]
    linarith only [hl]
  · rw [holds_ineq, update2_right, update2_other _ _ _ (hv p hp).1 (hv p hp).2]
    linarith only [hh]

/-- Sibling clusters `1` (variables `v1, v1+1`) and `2` (`v2, v2+1`) kept apart by the non-overlap
    constraint between their boundary variables (gap = margins ≥ 0), each containing its child nodes:
    every node of the first ends before every node of the second begins in that dimension. -/
theorem sibling_disjoint (v1 v2 : Nat) (p1Min p1Max p2Min p2Max gap : Rat)
    (nodes1 nodes2 : List (Nat × Rat)) (ch1 ch2 : List (Nat × Rat × Rat)) (a : Asg)
    (hp1 : 0 ≤ p1Max) (hp2 : 0 ≤ p2Min) (hgap : 0 ≤ gap)
    (hc1 : AllHold (containmentSeps v1 p1Min p1Max nodes1 ch1) a)
    (hc2 : AllHold (containmentSeps v2 p2Min p2Max nodes2 ch2) a)
    (hsep : Holds { left := v1 + 1, right := v2, gap := gap, eq := false } a) :
    ∀ p ∈ nodes1, ∀ q ∈ nodes2, a p.1 + p.2 ≤ a q.1 - q.2 := by
  intro p hp q hq
  have h1 := (containment_sound v1 p1Min p1Max nodes1 ch1 a hc1).1 p hp
  have h2 := (containment_sound v2 p2Min p2Max nodes2 ch2 a hc2).1 q hq
  rw [holds_ineq] at hsep
  linarith only [h1.2, h2.1, hsep, hp1, hp2, hgap]

/-- …hence their member intervals share no sub-interval of positive length -/
theorem sibling_no_overlap (v1 v2 : Nat) (p1Min p1Max p2Min p2Max gap : Rat)
    (nodes1 nodes2 : List (Nat × Rat)) (ch1 ch2 : List (Nat × Rat × Rat)) (a : Asg)
    (hp1 : 0 ≤ p1Max) (hp2 : 0 ≤ p2Min) (hgap : 0 ≤ gap)
    (hc1 : AllHold (containmentSeps v1 p1Min p1Max nodes1 ch1) a)
    (hc2 : AllHold (containmentSeps v2 p2Min p2Max nodes2 ch2) a)
    (hsep : Holds { left := v1 + 1, right := v2, gap := gap, eq := false } a) :
    ∀ p ∈ nodes1, ∀ q ∈ nodes2, ¬ Overlap1D 0 (a p.1 - p.2) (a p.1 + p.2) (a q.1 - q.2) (a q.1 + q.2) := by
  intro p hp q hq
  have := sibling_disjoint v1 v2 p1Min p1Max p2Min p2Max gap nodes1 nodes2 ch1 ch2 a hp1 hp2 hgap hc1 hc2 hsep p hp q hq
  rintro ⟨lo, hi, hlen, _, h2, h3, _⟩
  linarith

-- non-vacuity of sibling_disjoint / sibling_no_overlap: cluster 1 = vars 2,3 with node 0, cluster 2 = vars 4,5 with node 1
example : ∃ a : Asg, AllHold (containmentSeps 2 1 1 [(0, 1)] []) a ∧ AllHold (containmentSeps 4 1 1 [(1, 1)] []) a ∧
    Holds { left := 2 + 1, right := 4, gap := 2, eq := false } a :=
  ⟨fun i => if i = 0 then 2 else if i = 1 then 12 else if i = 2 then 0 else if i = 3 then 4 else if i = 4 then 10 else 14,
   by decide +kernel⟩

/-! ### rectangle-based clusters (`RectangularCluster(rectIndex)`) -/

/-- the fixed-rectangle equalities pin the cluster's boundary variables to the two sides of the
    container rectangle: cluster box = container rectangle in that dimension -/
theorem fixedRect_sound (v rect : Nat) (half : Rat) (a : Asg) (h : AllHold (fixedRectSeps v rect half) a) :
    a v = a rect - half ∧ a (v + 1) = a rect + half := by
  have h1 := (holds_eq ..).1 (h _ List.mem_cons_self)
  have h2 := (holds_eq ..).1 (h _ (List.mem_cons_of_mem _ List.mem_cons_self))
  constructor <;> linarith only [h1, h2]

theorem fixedRect_complete (v rect : Nat) (half : Rat) (a : Asg)
    (h : a v = a rect - half ∧ a (v + 1) = a rect + half) : AllHold (fixedRectSeps v rect half) a := by
  intro c hc
  simp only [fixedRectSeps, List.mem_cons, List.mem_nil_iff, or_false] at hc
  rcases hc with rfl | rfl <;> rw [holds_eq] <;> linarith only [h.1, h.2]

/-- …so with the containment constraints (padding 0 for such clusters) every child node's interval
    lies inside the container rectangle's interval -/
theorem fixedRect_members_inside (v rect : Nat) (half : Rat) (nodes : List (Nat × Rat)) (children : List (Nat × Rat × Rat))
    (a : Asg) (hf : AllHold (fixedRectSeps v rect half) a) (hc : AllHold (containmentSeps v 0 0 nodes children) a) :
    ∀ p ∈ nodes, a rect - half ≤ a p.1 - p.2 ∧ a p.1 + p.2 ≤ a rect + half := by
  intro p hp
  obtain ⟨e1, e2⟩ := fixedRect_sound v rect half a hf
  have := (containment_sound v 0 0 nodes children a hc).1 p hp
  constructor <;> linarith [this.1, this.2]

-- non-vacuity of fixedRect_sound / fixedRect_members_inside: container node 1 (half 5) at 10, cluster vars 2,3, member node 0
example : ∃ a : Asg, AllHold (fixedRectSeps 2 1 5) a ∧ AllHold (containmentSeps 2 0 0 [(0, 1)] []) a :=
  ⟨fun i => if i = 0 then 9 else if i = 1 then 10 else if i = 2 then 5 else 15,
   by decide +kernel⟩

theorem withinTol_iff (tol : Rat) (r b : Rect) : withinTol tol r b = true ↔ WithinTol tol r b := by
  unfold withinTol WithinTol
  simp only [Bool.and_eq_true, decide_eq_true_eq, and_assoc]

theorem membersWithin_iff (tol : Rat) (rs : Array Rect) (container : Nat) (members : List Nat) :
    membersWithin tol rs container members = true ↔
      ∀ i ∈ members, WithinTol tol (rs.getD i default) (rs.getD container default) := by
  unfold membersWithin
  simp only [List.all_eq_true, withinTol_iff]

/-! ### checkers on the final rectangles -/

theorem overlapLen_gt_iff (tol aLo aHi bLo bHi : Rat) :
    overlapLen aLo aHi bLo bHi > tol ↔ Overlap1D tol aLo aHi bLo bHi := by
  unfold overlapLen Overlap1D
  rw [minR_eq, maxR_eq]
  constructor
  · intro h
    exact ⟨max aLo bLo, min aHi bHi, h, le_max_left _ _, min_le_left _ _, le_max_right _ _, min_le_right _ _⟩
  · rintro ⟨lo, hi, hlen, h1, h2, h3, h4⟩
    have : hi ≤ min aHi bHi := le_min h2 h4
    have : max aLo bLo ≤ lo := max_le h1 h3
    linarith

theorem overlapsBoth_iff (tol : Rat) (a b : Rect) : overlapsBoth tol a b = true ↔ OverlapBoth tol a b := by
  unfold overlapsBoth OverlapBoth Rect.ovX Rect.ovY
  simp only [Bool.and_eq_true, decide_eq_true_eq, overlapLen_gt_iff]

theorem mem_pairsBelow (n i j : Nat) : (i, j) ∈ pairsBelow n ↔ i < j ∧ j < n := by
  unfold pairsBelow
  simp only [List.mem_flatMap, List.mem_range, List.mem_map, Prod.mk.injEq]
  constructor
  · rintro ⟨j', hj', i', hi', rfl, rfl⟩; exact ⟨hi', hj'⟩
  · rintro ⟨h1, h2⟩; exact ⟨j, h2, i, h1, rfl, rfl⟩

/-- the overlap checker decides the property: `true` iff no two non-exempt rectangles overlap by
    more than `tol` in both dimensions -/
theorem noOverlapBoth_iff (rs : Array Rect) (exempt : Nat → Nat → Bool) (tol : Rat) :
    noOverlapBoth rs exempt tol = true ↔
      ∀ i j, i < j → j < rs.size → exempt i j = false → ¬ OverlapBoth tol (rs.getD i default) (rs.getD j default) := by
  unfold noOverlapBoth
  simp only [List.all_eq_true, Bool.or_eq_true, Bool.not_eq_true', Prod.forall, mem_pairsBelow]
  constructor
  · intro h i j hij hj hex hov
    rcases h i j ⟨hij, hj⟩ with h' | h'
    · rw [h'] at hex; cases hex
    · rw [(overlapsBoth_iff tol _ _).mpr hov] at h'; cases h'
  · intro h i j ⟨hij, hj⟩
    cases hex : exempt i j
    · right
      cases hov : overlapsBoth tol (rs.getD i default) (rs.getD j default)
      · rfl
      · exact absurd ((overlapsBoth_iff tol _ _).mp hov) (h i j hij hj hex)
    · left; rfl

theorem union_within_left (a b : Rect) : Within a (Rect.union a b) := by
  unfold Within Rect.union
  simp only [minR_eq, maxR_eq]
  exact ⟨min_le_left _ _, le_max_left _ _, min_le_left _ _, le_max_left _ _⟩

theorem within_union_right (r a b : Rect) (h : Within r b) : Within r (Rect.union a b) := by
  unfold Within Rect.union at *
  simp only [minR_eq, maxR_eq]
  obtain ⟨h1, h2, h3, h4⟩ := h
  exact ⟨le_trans (min_le_right _ _) h1, le_trans h2 (le_max_right _ _),
         le_trans (min_le_right _ _) h3, le_trans h4 (le_max_right _ _)⟩

/-- the computed member box contains every member rectangle -/
theorem bbox_contains (rs : Array Rect) (m : List Nat) (b : Rect) (h : bbox rs m = some b) :
    ∀ i ∈ m, Within (rs.getD i default) b := by
  induction m generalizing b with
  | nil => simp
  | cons i t ih =>
    intro k hk
    simp only [bbox] at h
    cases hb : bbox rs t with
    | none =>
      rw [hb] at h; simp only [Option.some.injEq] at h; subst h
      cases t with
      | nil =>
        simp only [List.mem_cons, List.mem_nil_iff, or_false] at hk; subst hk
        exact ⟨le_refl _, le_refl _, le_refl _, le_refl _⟩
      | cons j t' =>
        simp only [bbox] at hb
        cases hb' : bbox rs t' <;> rw [hb'] at hb <;> cases hb
    | some b' =>
      rw [hb] at h; simp only [Option.some.injEq] at h; subst h
      rcases List.mem_cons.mp hk with rfl | hk'
      · exact union_within_left _ _
      · exact within_union_right _ _ _ (ih b' hb k hk')

theorem boxesDisjoint_sound (tol : Rat) (rs : Array Rect) (m1 m2 : List Nat) (b1 b2 : Rect)
    (h1 : bbox rs m1 = some b1) (h2 : bbox rs m2 = some b2) (h : boxesDisjoint tol rs m1 m2 = true) :
    ¬ OverlapBoth tol b1 b2 := by
  unfold boxesDisjoint at h
  rw [h1, h2] at h
  simp only [Bool.not_eq_true'] at h
  intro hov
  rw [(overlapsBoth_iff tol _ _).mpr hov] at h; cases h

theorem noForeignInside_sound (tol : Rat) (rs : Array Rect) (members : List Nat) (b : Rect)
    (hb : bbox rs members = some b) (h : noForeignInside tol rs members = true) :
    ∀ i, i < rs.size → i ∉ members →
      ¬ (b.minX + tol < (rs.getD i default).centre .x ∧ (rs.getD i default).centre .x + tol < b.maxX ∧
         b.minY + tol < (rs.getD i default).centre .y ∧ (rs.getD i default).centre .y + tol < b.maxY) := by
  unfold noForeignInside at h
  rw [hb] at h
  simp only [List.all_eq_true, List.mem_range, Bool.or_eq_true, Bool.not_eq_true'] at h
  intro i hi hnm hin
  rcases h i hi with h' | h'
  · exact hnm (by simpa using h')
  · unfold centreInside at h'
    simp only [Bool.and_eq_false_iff, decide_eq_false_iff_not] at h'
    obtain ⟨h1, h2, h3, h4⟩ := hin
    rcases h' with ((h' | h') | h') | h'
    · exact h' h1
    · exact h' h2
    · exact h' h3
    · exact h' h4

-- non-vacuity of bbox_contains / boxesDisjoint_sound / noForeignInside_sound (in-range members)
example : ∃ b1 b2, bbox #[⟨0, 1, 0, 1⟩, ⟨2, 3, 0, 1⟩, ⟨10, 11, 0, 1⟩] [0, 1] = some b1 ∧
    bbox #[⟨0, 1, 0, 1⟩, ⟨2, 3, 0, 1⟩, ⟨10, 11, 0, 1⟩] [2] = some b2 ∧
    boxesDisjoint 0 #[⟨0, 1, 0, 1⟩, ⟨2, 3, 0, 1⟩, ⟨10, 11, 0, 1⟩] [0, 1] [2] = true ∧
    noForeignInside 0 #[⟨0, 1, 0, 1⟩, ⟨2, 3, 0, 1⟩, ⟨10, 11, 0, 1⟩] [0, 1] = true :=
  ⟨⟨0, 3, 0, 1⟩, ⟨10, 11, 0, 1⟩, by decide +kernel⟩

end AdaptaVerif.Props.C08
