/-
C17 — property theorems: all-pairs shortest paths and the layout distance matrix are exact.

Spec (Spec/Apsp.lean): `Walk g i j c` (walks in the undirected multigraph given by the edge list;
self-loops and parallel edges allowed), `IsDist g i j d` (`d` = minimum walk weight, `none` — the
DBL_MAX sentinel — iff there is no walk), `IsApsp g D`, `Valid g` (end points `< n`, weights `≥ 0`).
Models (Model/ShortestPaths.lean): `floydWarshall` (the code in /repo now), `floydWarshallOrig`
(the code before `fix: floyd_warshall keeps the lightest parallel edge and ignores self-loops`),
`dijkstra`/`johnsons` over an abstract min-selection, `layoutD`; `dijkstraHeap`/`johnsonsHeap`: Dijkstra driven
by the pairing-heap model (Model/PairingHeap.lean) exactly as shortest_paths.h drives `PairingHeap<T>`.
-/
import AdaptaVerif.Lemmas.ApspCheck
import AdaptaVerif.Lemmas.ApspComplete
import AdaptaVerif.Lemmas.ApspFWInit
import AdaptaVerif.Lemmas.PairingHeap
import AdaptaVerif.Lemmas.ApspDijkstraHeap
namespace AdaptaVerif.Props.C17
open AdaptaVerif.Model.ShortestPaths AdaptaVerif.Spec.Apsp AdaptaVerif.Check.Apsp AdaptaVerif.Lemmas.Apsp

/-- The spec is well defined: a pair of vertices has at most one distance value. -/
theorem isDist_unique (g : Graph) (i j : Nat) (a b : Dist) (ha : IsDist g i j a) (hb : IsDist g i j b) :
    a = b := IsDist.unique ha hb

/-- The inductive walks are exactly the vertex/edge step lists over the edge list. -/
theorem walk_iff_stepList (g : Graph) (hv : Valid g) (i j : Nat) (c : Rat) :
    Walk g i j c ↔ ∃ steps, IsStepList g i steps j ∧ stepWeight steps = c := by
  constructor
  · exact walk_isStepList hv
  · rintro ⟨steps, hs, rfl⟩; exact isStepList_walk hv steps i j hs

/-- Soundness of the run-time certificate check, for ALL finite graphs and matrices:
    if `checkApsp g D` accepts, then the graph is valid and for all vertices `i j`, `D i j` is the
    minimum weight over all walks from `i` to `j`, `none` (the "unreachable" sentinel) exactly
    when there is no walk; moreover `D` is symmetric with zero diagonal. -/
theorem checkApsp_sound (g : Graph) (D : Nat → Nat → Dist) (h : checkApsp g D = true) :
    Valid g ∧ IsApsp g D ∧ (∀ i j, i < g.n → j < g.n → D i j = D j i) ∧ (∀ i, i < g.n → D i i = some 0) := by
  unfold checkApsp at h
  simp only [Bool.and_eq_true] at h
  obtain ⟨⟨hvalid, hall⟩, hsym⟩ := h
  rw [List.all_eq_true] at hall
  refine ⟨validGraph_valid hvalid, ?_, fun i j hi hj => symmetric_spec hsym hi hj, ?_⟩
  · intro i j hi hj
    exact sourceOk_sound hi (hall i (List.mem_range.mpr hi)) hj
  · intro i hi
    have := hall i (List.mem_range.mpr hi)
    unfold sourceOk at this
    simp only [Bool.and_eq_true, decide_eq_true_eq] at this
    exact this.1.1

/-- non-vacuity: a disconnected multigraph with a self-loop, parallel edges and a zero-weight
    cycle, and its distance matrix, are accepted -/
example : checkApsp ⟨5, [(0, 1, 0), (1, 2, 0), (2, 0, 0), (2, 3, 3/8), (3, 2, 5), (3, 3, 1)]⟩
    (fun i j =>
      if i = 4 ∨ j = 4 then (if i = j then some 0 else none)
      else if i = j then some 0
      else if i = 3 ∨ j = 3 then some (3/8) else some 0) = true := by decide +kernel

/-- Completeness of the check: the exact distance matrix of a valid graph is always
    accepted — so a rejection (driver verdict SPECFAIL) proves that the examined matrix is not the
    shortest-path matrix. -/
theorem checkApsp_complete (g : Graph) (D : Nat → Nat → Dist) (hv : Valid g) (h : IsApsp g D) :
    checkApsp g D = true := by
  unfold checkApsp
  simp only [Bool.and_eq_true]
  refine ⟨⟨valid_validGraph hv, ?_⟩, isApsp_symmetric hv h⟩
  rw [List.all_eq_true]
  intro i hi
  have hi' := List.mem_range.mp hi
  exact sourceOk_complete hv hi' (fun j hj => h i j hi' hj)

/-- the check decides the specification -/
theorem checkApsp_iff (g : Graph) (D : Nat → Nat → Dist) : checkApsp g D = true ↔ Valid g ∧ IsApsp g D :=
  ⟨fun h => ⟨(checkApsp_sound g D h).1, (checkApsp_sound g D h).2.1⟩, fun h => checkApsp_complete g D h.1 h.2⟩

/-- `floyd_warshall` as it is coded now (in-place triple loop; initialisation
    `if (u != v && w < D[u][v]) D[u][v] = D[v][u] = w`) computes exact shortest paths on EVERY valid
    multigraph — parallel edges, self-loops, zero weights, disconnected graphs included. -/
theorem fw_correct (g : Graph) (hv : Valid g) : IsApsp g (floydWarshall g).get :=
  fwLoop_correct hv (fwInit_ok hv)

/-- non-vacuity: a valid multigraph with parallel edges and a self-loop -/
example : Valid ⟨4, [(0, 1, 1), (1, 0, 5), (2, 2, 3), (3, 0, 5/8)]⟩ :=
  validGraph_valid (by decide +kernel)

/-- the multigraph of the example above, for the joint non-vacuity examples below -/
def exG : Graph := ⟨4, [(0, 1, 1), (1, 0, 5), (2, 2, 3), (3, 0, 5/8)]⟩

-- applying a theorem to the closed term `exG` makes the elaborator evaluate `floydWarshall exG` once
set_option maxRecDepth 8000 in
-- non-vacuity of checkApsp_complete / checkApsp_iff (←): `Valid g ∧ IsApsp g D` jointly, by `fw_correct`
example : checkApsp exG (floydWarshall exG).get = true :=
  checkApsp_complete exG _ (validGraph_valid (by decide +kernel)) (fw_correct exG (validGraph_valid (by decide +kernel)))
example : (floydWarshall exG).get 1 3 = some (13/8) ∧ (floydWarshall exG).get 1 2 = none := by decide +kernel

/-- `floyd_warshall` as it was coded before the fix (plain assignment `D[u][v] = D[v][u] = w`)
    is exact on every valid graph WITHOUT parallel edges and self-loops … -/
theorem fwOrig_correct_simple (g : Graph) (hv : Valid g) (hs : Simple g) : IsApsp g (floydWarshallOrig g).get :=
  floydWarshallOrig_eq hs ▸ fw_correct g hv

/-- non-vacuity: a valid simple graph -/
example : Valid ⟨4, [(0, 1, 1), (1, 2, 0), (3, 0, 5/8)]⟩ ∧ Simple ⟨4, [(0, 1, 1), (1, 2, 0), (3, 0, 5/8)]⟩ := by
  refine ⟨validGraph_valid (by decide +kernel), ?_⟩
  unfold Simple SameEnds
  decide +kernel

/-- … but not beyond: two parallel edges 0–1 of weights 1 then 5 — the old assignment kept the
    LAST weight: the result was 5, the distance is 1. (Replayed on the C++ before the fix:
    harness case 0.) -/
theorem fwOrig_parallel_witness :
    (floydWarshallOrig ⟨2, [(0, 1, 1), (0, 1, 5)]⟩).get 0 1 = some 5 ∧
    ¬ IsApsp ⟨2, [(0, 1, 1), (0, 1, 5)]⟩ (floydWarshallOrig ⟨2, [(0, 1, 1), (0, 1, 5)]⟩).get := by
  have h5 : (floydWarshallOrig ⟨2, [(0, 1, 1), (0, 1, 5)]⟩).get 0 1 = some 5 := by decide +kernel
  refine ⟨h5, ?_⟩
  intro h
  have hd := h 0 1 (by decide) (by decide)
  rw [h5] at hd
  have hw : Walk ⟨2, [(0, 1, 1), (0, 1, 5)]⟩ 0 1 (0 + 1) :=
    Walk.snoc (Walk.nil (by decide)) (Or.inl (by simp))
  have := hd.2 _ hw
  norm_num at this

/-- a self-loop of weight 3 overwrote the zero diagonal (harness case 1). -/
theorem fwOrig_selfloop_witness :
    (floydWarshallOrig ⟨1, [(0, 0, 3)]⟩).get 0 0 = some 3 ∧
    ¬ IsApsp ⟨1, [(0, 0, 3)]⟩ (floydWarshallOrig ⟨1, [(0, 0, 3)]⟩).get := by
  have h3 : (floydWarshallOrig ⟨1, [(0, 0, 3)]⟩).get 0 0 = some 3 := by decide +kernel
  refine ⟨h3, ?_⟩
  intro h
  have hd := h 0 0 (by decide) (by decide)
  rw [h3] at hd
  have := hd.2 0 (Walk.nil (by decide))
  norm_num at this

/-- the current code on the two witnesses -/
theorem fw_witnesses_fixed :
    (floydWarshall ⟨2, [(0, 1, 1), (0, 1, 5)]⟩).get 0 1 = some 1 ∧
    (floydWarshall ⟨1, [(0, 0, 3)]⟩).get 0 0 = some 0 := by
  constructor <;> decide +kernel

/-- `dijkstra` over ANY priority queue that hands out a minimum-key element (`SelSpec`: the
    abstraction of `PairingHeap::extractMin`/`decreaseKey`) returns the exact single-source
    distances, for every valid multigraph and every source. -/
theorem dijkstra_correct (sel : Selector) (hsel : SelSpec sel) (g : Graph) (hv : Valid g)
    (s j : Nat) (hs : s < g.n) (hj : j < g.n) : IsDist g s j (Vec.at (dijkstra sel g s) j) :=
  dijkstra_exact hsel hv hs hj

/-- non-vacuity: the selector used by the driver meets the specification -/
theorem selMin_meets_spec : SelSpec selMin := by
  constructor
  · intro d q
    cases q <;> simp [selMin]
  · intro d q u q' hnd h
    cases q with
    | nil => simp [selMin] at h
    | cons x xs =>
      simp only [selMin, Option.some.injEq, Prod.mk.injEq] at h
      obtain ⟨rfl, rfl⟩ := h
      obtain ⟨hmem, hmin⟩ := selMinAux_spec d xs x
      refine ⟨hmem, hmin, fun y => ?_, hnd.erase _, ?_⟩
      · rw [hnd.mem_erase_iff]
        exact ⟨fun h => ⟨h.2, h.1⟩, fun h => ⟨h.2, h.1⟩⟩
      · rw [List.length_erase_of_mem hmem]
        exact Nat.succ_pred_eq_of_pos (List.length_pos_of_mem hmem)

/-- `johnsons` (Dijkstra from every source) returns the exact all-pairs matrix. -/
theorem johnsons_correct (sel : Selector) (hsel : SelSpec sel) (g : Graph) (hv : Valid g) :
    IsApsp g (johnsons sel g).get := by
  intro i j hi hj
  rw [johnsons_get sel g hi j]
  exact dijkstra_exact hsel hv hi hj

/-- all three algorithms agree (on the models) -/
theorem three_agree (sel : Selector) (hsel : SelSpec sel) (g : Graph) (hv : Valid g) (i j : Nat)
    (hi : i < g.n) (hj : j < g.n) :
    (floydWarshall g).get i j = (johnsons sel g).get i j ∧
    (johnsons sel g).get i j = Vec.at (dijkstra sel g i) j :=
  ⟨IsDist.unique (fw_correct g hv i j hi hj) (johnsons_correct sel hsel g hv i j hi hj),
   johnsons_get sel g hi j⟩

/-- The layout's ideal-distance matrix (`computePathLengths` → `readLinearD`): for `i ≠ j` it is
    `idealLength ×` the shortest-path distance in the graph whose edge lengths are the given ones
    with non-positive entries replaced by 1 (all 1 when no lengths are given); the sentinel stays
    for pairs in different components. -/
theorem layoutD_correct (sel : Selector) (hsel : SelSpec sel) (n : Nat) (es : List (Nat × Nat))
    (lens : Option (List Rat)) (ideal : Rat) (hes : ∀ e ∈ es, e.1 < n ∧ e.2 < n)
    (i j : Nat) (hi : i < n) (hj : j < n) (hij : i ≠ j) :
    ∃ d, IsDist (layoutGraph n es lens) i j d ∧
      (layoutD sel n es lens ideal).get i j = d.map (· * ideal) := by
  have hv := layoutGraph_valid n es lens hes
  have hn : (layoutGraph n es lens).n = n := by cases lens <;> rfl
  refine ⟨(johnsons sel (layoutGraph n es lens)).get i j,
    johnsons_correct sel hsel _ hv i j (by rw [hn]; exact hi) (by rw [hn]; exact hj), ?_⟩
  rw [layoutD_get]
  unfold scaleEntry
  rw [if_neg hij]
  cases (johnsons sel (layoutGraph n es lens)).get i j <;> rfl

set_option maxRecDepth 8000 in
-- non-vacuity of dijkstra_correct / johnsons_correct / three_agree: `SelSpec selMin ∧ Valid exG` jointly
example : (floydWarshall exG).get 1 3 = (johnsons selMin exG).get 1 3 ∧
    (johnsons selMin exG).get 1 3 = Vec.at (dijkstra selMin exG 1) 3 :=
  three_agree selMin selMin_meets_spec exG (validGraph_valid (by decide +kernel)) 1 3 (by decide) (by decide)

-- non-vacuity of layoutD_correct: a path 0-1-2 plus the isolated vertex 3, raw lengths 2 and -1 (→ 1), ideal length 10
example : ∃ d, IsDist (layoutGraph 4 [(0, 1), (1, 2)] (some [2, -1])) 0 2 d ∧
    (layoutD selMin 4 [(0, 1), (1, 2)] (some [2, -1]) 10).get 0 2 = d.map (· * 10) :=
  layoutD_correct selMin selMin_meets_spec 4 [(0, 1), (1, 2)] (some [2, -1]) 10
    (by intro e he; simp at he; rcases he with rfl | rfl <;> decide) 0 2 (by decide) (by decide) (by decide)
example : (layoutD selMin 4 [(0, 1), (1, 2)] (some [2, -1]) 10).get 0 2 = some 30 ∧
    (layoutD selMin 4 [(0, 1), (1, 2)] (some [2, -1]) 10).get 0 3 = none := by decide +kernel

/-! ### the pairing heap refines a multiset -/

section Heap
open AdaptaVerif.Model.PairingHeap AdaptaVerif.Lemmas.PairingHeap

/-- the two comparisons used (`std::less` on rational keys for the operation-sequence
    correspondence, `CompareNodes` on distances with DBL_MAX on top for Dijkstra) are strict weak
    orders -/
theorem heap_comparisons_lawful : LtLaws ltRat ∧ LtLaws ltDist := ⟨ltRat_laws, ltDist_laws⟩

/-- Over ALL legal operation sequences (insert / deleteMin / decreaseKey to a not-larger key /
    merge) starting from the empty heap, for any key type and lawful comparison, the model of
    `PairingHeap<T,TCompare>` stays a heap-ordered root, and `findMin` (= what `extractMin`
    returns) is an element of the heap with minimal key. -/
theorem pairingheap_findMin_is_minimum {κ : Type} [DecidableEq κ] (lt : κ → κ → Bool) (hl : LtLaws lt)
    (ops : List (Op κ)) (hlg : LegalSeq lt .nil ops) (k : κ) (i : Nat)
    (hf : findMin (ops.foldl (applyOp lt) .nil) = some (k, i)) :
    (k, i) ∈ elems (ops.foldl (applyOp lt) .nil) ∧ ∀ x ∈ elems (ops.foldl (applyOp lt) .nil), lt x.1 k = false := by
  have hg := good_run hl ops .nil good_nil hlg
  exact findMin_spec hl hg hf

/-- non-vacuity: a legal sequence with a merge, a decreaseKey and equal keys -/
example : LegalSeq ltRat .nil [.insert 3 0, .insert 1 1, .merge [(2, 2), (1, 3)], .decreaseKey 0 (1/2), .deleteMin] ∧
    findMin ([Op.insert 3 0, .insert 1 1, .merge [(2, 2), (1, 3)], .decreaseKey 0 (1/2), .deleteMin].foldl (applyOp ltRat) .nil)
      = some (1, 1) := by
  constructor
  · simp only [LegalSeq, Legal, and_true, true_and, le]
    decide +kernel
  · decide +kernel

/-- The stored multiset changes exactly as the multiset operations prescribe (`List.Perm` on the
    `(key, id)` pairs): insert adds, deleteMin removes the root pair, merge unites, decreaseKey
    replaces one pair `(old, id)` by `(new, id)` (or leaves the heap alone if `id` is absent). -/
theorem pairingheap_refines_multiset {κ : Type} [DecidableEq κ] (lt : κ → κ → Bool) (hl : LtLaws lt)
    (h : PTree κ) (hg : Good lt h) :
    (∀ k i, (elems (Model.PairingHeap.insert lt h k i)).Perm ((k, i) :: elems h)) ∧
    (∀ k i, findMin h = some (k, i) → (elems h).Perm ((k, i) :: elems (deleteMin lt h))) ∧
    (findMin h = none ↔ elems h = []) ∧
    (∀ items, (elems (merge lt h (build lt items))).Perm (elems h ++ elems (build lt items))) ∧
    (∀ i nk, (decreaseKey lt h i nk = h ∧ ∀ x ∈ elems h, x.2 ≠ i) ∨
      ∃ ok rest, (elems h).Perm ((ok, i) :: rest) ∧ (elems (decreaseKey lt h i nk)).Perm ((nk, i) :: rest)) := by
  refine ⟨fun k i => (insert_spec hl hg k i).1, fun k i hf => deleteMin_perm hl hg hf, findMin_none, ?_, ?_⟩
  · intro items
    exact (merge_spec hl hg (good_build hl items)).1
  · intro i nk
    rcases decreaseKey_spec hl hg i nk with e | ⟨ok, rest, h1, h2, _⟩
    · exact Or.inl e
    · exact Or.inr ⟨ok, rest, h1, h2⟩

-- non-vacuity of pairingheap_refines_multiset: a `Good` heap with four elements, two of them with equal keys
example : Good ltRat (build ltRat [(3, 0), (1, 1), (2, 2), (1, 3)]) ∧
    (elems (build ltRat [(3, 0), (1, 1), (2, 2), (1, 3)])).length = 4 :=
  ⟨good_build ltRat_laws _, by decide +kernel⟩

end Heap

/-! ### Dijkstra exactly as coded: driven by the pairing heap -/

/-- `dijkstraHeap` runs Dijkstra the way shortest_paths.h does — all nodes inserted into the
    pairing heap, repeated `extractMin`, relaxation of the neighbours with `decreaseKey` on the
    heap — and returns, for EVERY valid multigraph (weights ≥ 0) and source, the exact
    shortest-path vector.  (Proof: simulation of the abstract-queue run; the invariant "the heap
    holds exactly the pairs (d[v], v) of the unsettled nodes and is heap-ordered" is kept by
    extractMin and by every decreaseKey.) -/
theorem dijkstraHeap_correct (g : Graph) (hv : Valid g) (s j : Nat) (hs : s < g.n) (hj : j < g.n) :
    IsDist g s j (Vec.at (dijkstraHeap g s) j) :=
  dijkstraHeap_exact hv hs hj

theorem johnsonsHeap_get (g : Graph) {i : Nat} (hi : i < g.n) (j : Nat) :
    (johnsonsHeap g).get i j = Vec.at (dijkstraHeap g i) j :=
  Mat.get_rows _ hi j

/-- `johnsons` with the real queue discipline returns the exact all-pairs matrix. -/
theorem johnsonsHeap_correct (g : Graph) (hv : Valid g) : IsApsp g (johnsonsHeap g).get := by
  intro i j hi hj
  rw [johnsonsHeap_get g hi j]
  exact dijkstraHeap_exact hv hi hj

/-- concrete run (parallel edges, self-loop, zero weight, unreachable vertex): distances and the
    order in which nodes leave the heap -/
example : dijkstraHeap ⟨4, [(0, 1, 1), (0, 1, 5), (1, 1, 3), (1, 2, 0)]⟩ 0 = #[some 0, some 1, some 1, none] ∧
    dijkstraHeapOrder ⟨4, [(0, 1, 1), (0, 1, 5), (1, 1, 3), (1, 2, 0)]⟩ 0 = [0, 1, 2, 3] := by
  decide +kernel

set_option maxRecDepth 8000 in
-- non-vacuity of dijkstraHeap_correct (hence johnsonsHeap_correct) on `exG`
example : IsDist exG 1 3 (Vec.at (dijkstraHeap exG 1) 3) := dijkstraHeap_correct exG (validGraph_valid (by decide +kernel)) 1 3 (by decide) (by decide)
example : Vec.at (dijkstraHeap exG 1) 3 = some (13/8) := by decide +kernel

end AdaptaVerif.Props.C17
