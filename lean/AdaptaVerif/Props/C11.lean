/-
C11 — libavoid: pins, junctions and checkpoints are honoured by routes.
Property theorems only (helpers: Lemmas/Pins.lean, Lemmas/PinsAttach.lean).

* about the model of `ShapeConnectionPin::position()` (Model/Pins.lean `pinPosition`), for all
  pin descriptors, boxes and translations: translation equivariance, containment in the bounding
  box, distance `insideOffset` from the chosen side, proportional place under resize;
* about the pin-assignment state machine, for all operation histories: an exclusive pin never
  has two users (guards explicit in `runOk`);
* soundness of the executable checkers the driver runs on the real routes.
-/
import AdaptaVerif.Lemmas.Pins
import AdaptaVerif.Lemmas.PinsAttach
namespace AdaptaVerif.Props.C11
open AdaptaVerif.Model.Pins AdaptaVerif.Spec.Pins AdaptaVerif.Check.Attach
open AdaptaVerif.Lemmas.Pins AdaptaVerif.Lemmas.PinsAttach

/-! ### pin positions -/

/-- shape (bounding box) translated by `t` ⇒ pin position translated by `t`; every kind of pin
    (proportional / absolute, sentinels, inside offset) -/
theorem pin_translation_equivariant (s : PinSpec) (b : Box) (t : P2) :
    pinPosition s (b.translate t) = (pinPosition s b).translate t := by
  simp only [pinPosition, Box.translate, P2.translate, axisPos_translate]

/-- offsets in range ⇒ the pin lies inside or on the shape's bounding box -/
theorem pin_in_box (s : PinSpec) (b : Box) (h : InRange s b) : InBox b (pinPosition s b) := by
  obtain ⟨hx, hy⟩ := h
  have h1 := axisPos_in_range _ _ _ _ _ hx
  have h2 := axisPos_in_range _ _ _ _ _ hy
  exact ⟨h1.1, h1.2, h2.1, h2.2⟩

example : InRange ⟨1, 1, 1/4, true, 5/2, 0⟩ ⟨0, 0, 40, 20⟩ := by
  unfold InRange AxisInRange; decide +kernel

example : InRange ⟨1, -1, 7, false, 1, 0⟩ ⟨10, 10, 50, 30⟩ := by
  unfold InRange AxisInRange; decide +kernel

/-- a pin placed with a side sentinel sits exactly `insideOffset` inside that side
    (x axis; proportional LEFT/RIGHT = 0/1, absolute MIN/MAX = 0/−1 or offset = width) -/
theorem pin_inside_offset_x (s : PinSpec) (b : Box) :
    (s.xOff = 0 → (pinPosition s b).x - b.minX = s.inside) ∧
    ((s.proportional = true ∧ s.xOff = 1) ∨ (s.proportional = false ∧ s.xOff ≠ 0 ∧ (s.xOff = -1 ∨ s.xOff = b.width)) →
      b.maxX - (pinPosition s b).x = s.inside) :=
  axisPos_inside s.proportional s.xOff s.inside b.minX b.maxX

/-- the same for the y axis (TOP/BOTTOM) -/
theorem pin_inside_offset_y (s : PinSpec) (b : Box) :
    (s.yOff = 0 → (pinPosition s b).y - b.minY = s.inside) ∧
    ((s.proportional = true ∧ s.yOff = 1) ∨ (s.proportional = false ∧ s.yOff ≠ 0 ∧ (s.yOff = -1 ∨ s.yOff = b.height)) →
      b.maxY - (pinPosition s b).y = s.inside) :=
  axisPos_inside s.proportional s.yOff s.inside b.minY b.maxY

/-- a proportional pin (not a side sentinel) keeps its relative place under every resize: its
    offset from the min corner is `xOff·width`, `yOff·height` for *every* box -/
theorem pin_resize_proportional (s : PinSpec) (hp : s.proportional = true) (b : Box) :
    (s.xOff ≠ 0 → s.xOff ≠ 1 → (pinPosition s b).x - b.minX = s.xOff * b.width) ∧
    (s.yOff ≠ 0 → s.yOff ≠ 1 → (pinPosition s b).y - b.minY = s.yOff * b.height) := by
  constructor
  · intro h0 h1
    simp only [pinPosition, hp, Box.width]
    exact axisPos_proportional _ _ _ _ h0 h1
  · intro h0 h1
    simp only [pinPosition, hp, Box.height]
    exact axisPos_proportional _ _ _ _ h0 h1

/-- … hence the same ratio in any two boxes of non-zero width -/
theorem pin_resize_proportional_ratio (s : PinSpec) (hp : s.proportional = true)
    (h0 : s.xOff ≠ 0) (h1 : s.xOff ≠ 1) (b1 b2 : Box) (hw1 : b1.width ≠ 0) (hw2 : b2.width ≠ 0) :
    ((pinPosition s b1).x - b1.minX) / b1.width = ((pinPosition s b2).x - b2.minX) / b2.width := by
  rw [(pin_resize_proportional s hp b1).1 h0 h1, (pin_resize_proportional s hp b2).1 h0 h1]
  rw [mul_div_assoc, div_self hw1, mul_div_assoc, div_self hw2]

example : (pinPosition ⟨1, 1/4, 3/4, true, 5, 0⟩ ⟨0, 0, 40, 20⟩) = ⟨10, 15⟩ := by decide +kernel
example : (pinPosition ⟨1, 1/4, 3/4, true, 5, 0⟩ ⟨100, 100, 180, 120⟩) = ⟨120, 115⟩ := by decide +kernel

/-! ### assignment state machine -/

/-- the invariant is preserved from any state that has it -/
theorem exclusive_inv_from (s : State) (ops : List Op) (hs : ExclInv s) (h : runOk s ops) :
    ExclInv (run s ops) := by
  induction ops generalizing s with
  | nil => exact hs
  | cons op ops ih => exact ih (step s op) (inv_step s op hs h.1) h.2

/-- ∀ operation histories (pins added / deleted, shapes deleted, exclusivity toggled, connectors
    routed / released, transactions freeing all pins) that respect the two explicit guards of
    `runOk`: an exclusive pin never has two users. -/
theorem exclusive_inv (ops : List Op) (h : runOk [] ops) : ExclInv (run [] ops) :=
  exclusive_inv_from [] ops (by intro p hp; cases hp) h

example : runOk [] [.addPin 0 0 1 true, .addPin 1 0 1 true, .route 7 (some 0) none, .route 8 (some 0) (some 1),
    .freeAll, .route 8 (some 0) none, .deletePin 0, .setExclusive 1 true] := by
  simp [runOk, Op.ok, step, connUses, routePin, isFree]

/-- whatever the state was (even with the invariant broken by `setExclusive(true)` on a shared
    pin): after the start of a transaction (`freeAll`) and any guarded history it holds -/
theorem exclusive_after_transaction (s : State) (ops : List Op) (h : runOk (step s .freeAll) ops) :
    ExclInv (run s (.freeAll :: ops)) :=
  exclusive_inv_from (step s .freeAll) ops (inv_freeAll s) h

/-- the executable invariant test used by the driver decides `ExclInv` -/
theorem invB_correct (s : State) : invB s = true ↔ ExclInv s := by
  unfold invB ExclInv
  simp only [List.all_eq_true, Bool.or_eq_true, Bool.not_eq_true', decide_eq_true_eq]
  refine forall₂_congr fun p _ => ?_
  cases p.exclusive <;> simp

/-- the first guard is necessary: a connector whose two ends are attached to the same pin class
    of one shape gets the same exclusive pin offered to both ends (the offers are computed
    before either end is recorded) — mirrored from `ConnRef::generatePath`. -/
theorem exclusive_inv_needs_distinct_ends :
    ¬ ExclInv (run [] [.addPin 0 0 1 true, .route 7 (some 0) (some 0)]) := by
  rw [← invB_correct]; decide

/-- the second guard is necessary: `setExclusive(true)` on a pin shared by two connectors -/
theorem exclusive_inv_needs_setExclusive_guard :
    ¬ ExclInv (run [] [.addPin 0 0 1 false, .route 7 (some 0) none, .route 8 (some 0) none, .setExclusive 0 true]) := by
  rw [← invB_correct]; decide

/-! ### checker soundness -/

/-- `pointOnSegment` is exact: it decides membership in the closed segment -/
theorem pointOnSegment_correct (a b c : P2) : pointOnSegment a b c = true ↔ OnSeg a b c :=
  ⟨pointOnSegment_sound a b c, pointOnSegment_complete a b c⟩

example : pointOnSegment ⟨0, 0⟩ ⟨4, 2⟩ ⟨2, 1⟩ = true := by decide +kernel
example : pointOnSegment ⟨0, 0⟩ ⟨4, 2⟩ ⟨6, 3⟩ = false := by decide +kernel

/-- if the checker accepts, the route visits the checkpoints in the given order (inductive
    reading `Visits`), and in particular every checkpoint lies on a segment of the route -/
theorem checkpointsInOrder_correct (route cps : List P2) (h : checkpointsInOrder route cps = true) :
    Visits route cps ∧ ∀ p ∈ cps, OnRoute route p :=
  ⟨checkpointsInOrder_sound route cps h, visits_onRoute (checkpointsInOrder_sound route cps h)⟩

example : checkpointsInOrder [⟨0, 0⟩, ⟨10, 0⟩, ⟨10, 10⟩] [⟨4, 0⟩, ⟨7, 0⟩, ⟨10, 5⟩] = true := by decide +kernel
example : checkpointsInOrder [⟨0, 0⟩, ⟨10, 0⟩, ⟨10, 10⟩] [⟨7, 0⟩, ⟨4, 0⟩] = false := by decide +kernel

/-- if the checker accepts, the leg runs (with positive length) in a direction of the mask -/
theorem dirAllowed_correct (a b : P2) (mask : Nat) (h : dirAllowed a b mask = true) :
    LeavesIn a b mask := by
  unfold dirAllowed at h
  split_ifs at h with hy hx1 hx2 hx hy1
  · exact ⟨3, by norm_num, h, b.x - a.x, by linarith, by simp [dirVec], by simp [dirVec, hy]⟩
  · exact ⟨2, by norm_num, h, a.x - b.x, by linarith, by simp [dirVec], by simp [dirVec, hy]⟩
  · exact ⟨1, by norm_num, h, b.y - a.y, by linarith, by simp [dirVec, hx], by simp [dirVec]⟩
  · have hlt : b.y < a.y := lt_of_le_of_ne (not_lt.mp hy1) (Ne.symm hy)
    exact ⟨0, by norm_num, h, a.y - b.y, by linarith, by simp [dirVec, hx], by simp [dirVec]⟩

example : dirAllowed ⟨0, 0⟩ ⟨0, -3⟩ 1 = true := by decide
example : dirAllowed ⟨0, 0⟩ ⟨0, 3⟩ 1 = false := by decide

/-- `leavesAllowed`: the first leg of non-zero length of the route leaves its start in a
    permitted direction -/
theorem leavesAllowed_correct (route : List P2) (mask : Nat) (h : leavesAllowed route mask = true) :
    ∃ a rest b, route = a :: rest ∧ b ∈ rest ∧ b ≠ a ∧ LeavesIn a b mask := by
  unfold leavesAllowed at h
  match route, h with
  | a :: rest, h =>
    simp only [firstLegEnd] at h
    cases hf : rest.find? (fun q => decide (q ≠ a)) with
    | none => rw [hf] at h; cases h
    | some b =>
      rw [hf] at h
      refine ⟨a, rest, b, rfl, List.mem_of_find?_eq_some hf, ?_, dirAllowed_correct a b mask h⟩
      have := List.find?_some hf
      simpa using this

end AdaptaVerif.Props.C11
