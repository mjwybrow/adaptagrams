/-
C05 / C03 — the static orthogonal visibility graph builder (`Model/OrthVis.lean`, tied to libavoid's
`generateStaticOrthogonalVisGraph` by exact edge-set equality on every scene of the C05 run).
Property theorems for ALL scenes of axis-parallel rectangles and connector end points (any sizes, any
overlaps, any direction flags).  Helper lemmas: `Lemmas/OrthVis*.lean`.
-/
import AdaptaVerif.Lemmas.OrthVisPath
import AdaptaVerif.Lemmas.OrthVisSweep
import AdaptaVerif.Lemmas.Interval

namespace AdaptaVerif.Props.C05OrthVis
open AdaptaVerif.Model.OrthVis AdaptaVerif.Lemmas.OrthVis

def Between (a b t : Rat) : Prop := (a < t ∧ t < b) ∨ (b < t ∧ t < a)

/-- **Soundness of the graph.**  Every edge of the model graph is axis-parallel, and its open segment
    meets the interior of a rectangle (routing box) only if some connector end point lies strictly
    inside that rectangle (an end point inside a shape has to get out of it). -/
theorem graph_edge_sound (s : Scene) : ∀ e ∈ s.graph,
    (e.1.y = e.2.y ∧ ∀ R ∈ s.rects, ∀ t, Between e.1.x e.2.x t → StrictIn R t e.1.y → HasConnIn s.conns R) ∨
    (e.1.x = e.2.x ∧ ∀ R ∈ s.rects, ∀ t, Between e.1.y e.2.y t → StrictIn R e.1.x t → HasConnIn s.conns R) := by
  intro e he
  -- the edge runs from its first to its second vertex, so "between" is "within"
  have key : ∀ {a b t : Rat}, a < b → Between a b t → a ≤ t ∧ t ≤ b := fun hab hb =>
    hb.elim (fun h => ⟨le_of_lt h.1, le_of_lt h.2⟩) fun h => absurd (lt_trans h.1 h.2) (lt_asymm hab)
  exact (graph_edge_closed s e he).imp
    (fun ⟨h1, h2, h3⟩ => ⟨h1, fun R hR t hb => h3 R hR t (key h2 hb).1 (key h2 hb).2⟩)
    (fun ⟨h1, h2, h3⟩ => ⟨h1, fun R hR t hb => h3 R hR t (key h2 hb).1 (key h2 hb).2⟩)

/-- With every end point in free space (none strictly inside a rectangle) no edge of the graph enters any
    rectangle interior. -/
theorem graph_edge_clear (s : Scene) (hfree : ∀ R ∈ s.rects, ¬ HasConnIn s.conns R) : ∀ e ∈ s.graph,
    (e.1.y = e.2.y ∧ ∀ R ∈ s.rects, ∀ t, Between e.1.x e.2.x t → ¬ StrictIn R t e.1.y) ∨
    (e.1.x = e.2.x ∧ ∀ R ∈ s.rects, ∀ t, Between e.1.y e.2.y t → ¬ StrictIn R e.1.x t) := by
  intro e he
  rcases graph_edge_sound s e he with ⟨h1, h2⟩ | ⟨h1, h2⟩
  · exact Or.inl ⟨h1, fun R hR t hb hin => hfree R hR (h2 R hR t hb hin)⟩
  · exact Or.inr ⟨h1, fun R hR t hb hin => hfree R hR (h2 R hR t hb hin)⟩

/-- The driver's executable test on libavoid's dumped edges decides exactly the clause of
    `graph_edge_sound`: horizontal case. -/
theorem hitsH_iff (R : Rect) (y a b : Rat) :
    hitsH R y a b = true ↔ ∃ t, Between a b t ∧ StrictIn R t y := by
  simp only [hitsH, Between, StrictIn, Bool.and_eq_true, decide_eq_true_eq, between_iff,
    ← AdaptaVerif.Lemmas.Interval.openIntervals_meet_iff]
  exact ⟨fun ⟨⟨h0, h1⟩, t, a1, a2, a3, a4⟩ => ⟨t, ⟨a1, a2⟩, a3, a4, h0, h1⟩,
    fun ⟨t, ⟨a1, a2⟩, a3, a4, h0, h1⟩ => ⟨⟨h0, h1⟩, t, a1, a2, a3, a4⟩⟩

/-- `edgeAvoids` accepts an edge iff it is axis-parallel and its open segment misses the open rectangle -/
theorem edgeAvoids_iff (R : Rect) (x1 y1 x2 y2 : Rat) :
    edgeAvoids R x1 y1 x2 y2 = true ↔
      (y1 = y2 ∧ ¬ ∃ t, Between x1 x2 t ∧ StrictIn R t y1) ∨
      (y1 ≠ y2 ∧ x1 = x2 ∧ ¬ ∃ t, Between y1 y2 t ∧ StrictIn R x1 t) := by
  unfold edgeAvoids
  by_cases hy : y1 = y2
  · simp only [hy, beq_self_eq_true, if_true, Bool.not_eq_true', ne_eq, not_true_eq_false, false_and, or_false, true_and]
    rw [← hitsH_iff, Bool.not_eq_true]
  · have : (y1 == y2) = false := by simpa using hy
    simp only [this, Bool.false_eq_true, if_false, hy, false_and, false_or, ne_eq, not_false_eq_true, true_and]
    by_cases hx : x1 = x2
    · simp only [hx, beq_self_eq_true, if_true, Bool.not_eq_true', true_and]
      rw [← Bool.not_eq_true, hitsH_iff]
      constructor
      · rintro h ⟨t, hb, hin⟩; exact h ⟨t, hb, (StrictIn_tr R t x2).mpr hin⟩
      · rintro h ⟨t, hb, hin⟩; exact h ⟨t, hb, (StrictIn_tr R t x2).mp hin⟩
    · have : (x1 == x2) = false := by simpa using hx
      simp [this, hx]

theorem hasConnIn_iff (conns : List Conn) (R : Rect) : hasConnIn conns R = true ↔ HasConnIn conns R := by
  simp only [hasConnIn, HasConnIn, StrictIn, List.any_eq_true, Bool.and_eq_true, decide_eq_true_eq, and_assoc]

/-- the effective flags (after the outside rule) of connector end point `i` allow `f` -/
def Allows (s : Scene) (i : Nat) (f : Dirs → Bool) : Prop := ∃ c, s.fixDirs[i]? = some c ∧ f c.d = true

/-- **Orientation and direction restrictions.**  Every edge of the model graph runs from its first to its
    second vertex towards a strictly larger x (horizontal) or y (vertical) coordinate — in particular no
    edge is degenerate —, it leaves a connector end point only in a direction the end point's effective
    flags allow and reaches one only against such a direction. -/
theorem graph_edge_directed (s : Scene) : ∀ e ∈ s.graph,
    (e.1.y = e.2.y ∧ e.1.x < e.2.x ∧
      (∀ i, e.1.k = .conn i → Allows s i (·.right)) ∧ (∀ i, e.2.k = .conn i → Allows s i (·.left))) ∨
    (e.1.x = e.2.x ∧ e.1.y < e.2.y ∧
      (∀ i, e.1.k = .conn i → Allows s i (·.down)) ∧ (∀ i, e.2.k = .conn i → Allows s i (·.up))) := by
  intro e he
  rcases mem_graph he with ⟨p, _, ab, hab, rfl⟩ | ⟨p, _, ab, hab, rfl⟩
  · exact Or.inl ⟨rfl, lineEdges_lt (toBPs_sorted _ _) _ hab,
      fun i hi => dirsX_eq_true.2.mp ((lineEdge_flags hab).1 i hi), fun i hi => dirsX_eq_true.1.mp ((lineEdge_flags hab).2 i hi)⟩
  · exact Or.inr ⟨rfl, lineEdges_lt (toBPs_sorted _ _) _ hab,
      fun i hi => dirsY_eq_true.2.mp ((lineEdge_flags hab).1 i hi), fun i hi => dirsY_eq_true.1.mp ((lineEdge_flags hab).2 i hi)⟩

/-- **Completeness along a line.**  On every line of the model (horizontal shown; `…_v` vertical) two
    breakpoints at different positions with no breakpoint of that line strictly between them are joined by
    an edge of the graph, unless the lower one is a connector end point that may not be left towards higher
    coordinates or the higher one a connector end point that may not be left towards lower ones. -/
theorem line_adjacent_joined_h (s : Scene) (h : Seg) (vs : List LV) (hl : (h, vs) ∈ s.lines.hs)
    (a b : BP) (ha : a ∈ toBPs (dirsX s.fixDirs) vs) (hb : b ∈ toBPs (dirsX s.fixDirs) vs)
    (hab : a.t < b.t) (hno : ∀ c ∈ toBPs (dirsX s.fixDirs) vs, ¬ (a.t < c.t ∧ c.t < b.t))
    (h1 : a.k.isConn = true → a.up = true) (h2 : b.k.isConn = true → b.dn = true) :
    ((⟨a.t, h.p, a.k⟩, ⟨b.t, h.p, b.k⟩) : GV × GV) ∈ s.graph :=
  hedge_mem_graph hl (lineEdges_adjacent (toBPs_sorted _ vs) ha hb hab hno h1 h2)

theorem line_adjacent_joined_v (s : Scene) (v : Seg) (vs : List LV) (hl : (v, vs) ∈ s.lines.vs)
    (a b : BP) (ha : a ∈ toBPs (dirsY s.fixDirs) vs) (hb : b ∈ toBPs (dirsY s.fixDirs) vs)
    (hab : a.t < b.t) (hno : ∀ c ∈ toBPs (dirsY s.fixDirs) vs, ¬ (a.t < c.t ∧ c.t < b.t))
    (h1 : a.k.isConn = true → a.up = true) (h2 : b.k.isConn = true → b.dn = true) :
    ((⟨v.p, a.t, a.k⟩, ⟨v.p, b.t, b.k⟩) : GV × GV) ∈ s.graph :=
  vedge_mem_graph hl (lineEdges_adjacent (toBPs_sorted _ vs) ha hb hab hno h1 h2)

/-- every live connector end point lies, with its own vertex, on a horizontal line of the model that
    reaches at least to the first blocking rectangle side in each direction its flags allow -/
theorem endpoint_on_hline (s : Scene) (i : Nat) (c : Conn) (hc : s.fixDirs[i]? = some c) (hl : c.d.none = false) :
    ∃ p ∈ s.lines.hs, p.1.p = c.y ∧ (⟨c.x, .conn i⟩ : LV) ∈ p.2 ∧ p.1.b ≤ c.x ∧ c.x ≤ p.1.f ∧
      (c.d.left = true → p.1.b ≤ firstAbove s.lo (activeAt s.rects c.y) c.x c.y) ∧
      (c.d.right = true → firstBelow s.hi (activeAt s.rects c.y) c.x c.y ≤ p.1.f) :=
  AdaptaVerif.Lemmas.OrthVis.endpoint_on_hline s i c hc hl

/-- … and, when it may be left upwards (downwards) and there is room, on a vertical line through it that
    reaches at least to the first blocking side above (below) -/
theorem endpoint_on_vline (s : Scene) (i : Nat) (c : Conn) (hc : s.fixDirs[i]? = some c) :
    (c.d.up = true → firstAbove s.lo (activeAt (s.rects.map Rect.tr) c.x) c.y c.x < c.y →
      ∃ p ∈ s.lines.vs, p.1.p = c.x ∧ (⟨c.y, .conn i⟩ : LV) ∈ p.2 ∧
        p.1.b ≤ firstAbove s.lo (activeAt (s.rects.map Rect.tr) c.x) c.y c.x ∧ c.y ≤ p.1.f) ∧
    (c.d.down = true → c.y < firstBelow s.hi (activeAt (s.rects.map Rect.tr) c.x) c.y c.x →
      ∃ p ∈ s.lines.vs, p.1.p = c.x ∧ (⟨c.y, .conn i⟩ : LV) ∈ p.2 ∧
        p.1.b ≤ c.y ∧ firstBelow s.hi (activeAt (s.rects.map Rect.tr) c.x) c.y c.x ≤ p.1.f) :=
  -- the segment is written out: left to the unifier, it is found by unfolding `connSegsV`
  ⟨fun hup hroom => connSegV_on_vline s hc (by simp [Dirs.none, hup])
      (r := ⟨firstAbove s.lo (activeAt (s.rects.map Rect.tr) c.x) c.y c.x, c.y, c.x, []⟩)
      (mem_connSegsV_above (c := c.tr) hup hroom) rfl (le_of_lt hroom) (le_refl _),
    fun hdn hroom => connSegV_on_vline s hc (by simp [Dirs.none, hdn])
      (r := ⟨c.y, firstBelow s.hi (activeAt (s.rects.map Rect.tr) c.x) c.y c.x, c.x, []⟩)
      (mem_connSegsV_below (c := c.tr) hdn hroom) rfl (le_refl _) (le_of_lt hroom)⟩

/-- What "the first blocking side" is: `firstBelow` (towards larger x; `firstAbove` symmetric, and the same
    two functions on the transposed scene for y) is at most the near side of every rectangle that the line
    `y = py` crosses strictly and that lies beyond `px`, and it is the sentinel (+∞) or attained by such a
    rectangle of the scan line. -/
theorem firstBelow_is_first_blocking_side (hi : Rat) (rects : List Rect) (px py : Rat) :
    (∀ R ∈ rects, R.y0 < py → py < R.y1 → R.x0 ≥ px → firstBelow hi (activeAt rects py) px py ≤ R.x0) ∧
    (firstBelow hi (activeAt rects py) px py = hi ∨
      ∃ R ∈ rects, R.y0 < py ∧ py < R.y1 ∧ R.x0 ≥ px ∧ firstBelow hi (activeAt rects py) px py = R.x0) :=
  -- `first_block` takes both sentinels; the half used does not mention the other one, any value does (likewise below)
  ⟨fun _ hR h0 h1 hx => (first_block hi hi px hR h0 h1).2 hx, firstBelow_attained hi rects px py⟩

theorem firstAbove_is_first_blocking_side (lo : Rat) (rects : List Rect) (px py : Rat) :
    (∀ R ∈ rects, R.y0 < py → py < R.y1 → R.x1 ≤ px → R.x1 ≤ firstAbove lo (activeAt rects py) px py) ∧
    (firstAbove lo (activeAt rects py) px py = lo ∨
      ∃ R ∈ rects, R.y0 < py ∧ py < R.y1 ∧ R.x1 ≤ px ∧ firstAbove lo (activeAt rects py) px py = R.x1) :=
  ⟨fun _ hR h0 h1 hx => (first_block lo lo px hR h0 h1).1 hx, firstAbove_attained lo rects px py⟩

/-- where a horizontal and a vertical line of the model meet, they share a vertex (same point, same
    kind): the graph can be left from one line onto the other there -/
theorem crossing_shared (s : Scene) (ph pv : Seg × List LV) (hh : ph ∈ s.lines.hs) (hv : pv ∈ s.lines.vs)
    (hc : crosses ph.1 pv.1 = true) :
    ∃ k, (⟨pv.1.p, k⟩ : LV) ∈ ph.2 ∧ (⟨ph.1.p, k⟩ : LV) ∈ pv.2 := by
  obtain ⟨⟨t, k⟩, hq, hqt⟩ : ∃ q ∈ ph.2, q.t = pv.1.p := by
    rw [(mem_lines_hs.mp hh).2]
    exact exists_at_foldl_ensure _ _ _
      (List.mem_map.mpr ⟨pv.1, List.mem_filter.mpr ⟨(mem_lines_vs.mp hv).1, hc⟩, rfl⟩)
  obtain rfl : t = pv.1.p := hqt
  exact ⟨k, hq, vline_receives hv hh (mem_vFrom.mpr ⟨hc, rfl, hq⟩)⟩

/-- every rectangle side (without other boxes overlapping it) lies, with both corner vertices, on a
    horizontal line of the model that extends to the nearest box side to the left and to the right -/
theorem side_on_hline (s : Scene) (i : Nat) (v : Rect) (hv : s.rects[i]? = some v) (y : Rat) (hy : y = v.y0 ∨ y = v.y1)
    (hn : (findLimits s.lo s.hi (activeAt (s.rects.eraseIdx i) y) v y).minLimitMax ≥
          (findLimits s.lo s.hi (activeAt (s.rects.eraseIdx i) y) v y).maxLimitMin) :
    ∃ p ∈ s.lines.hs, p.1.p = y ∧ (⟨v.x0, .node⟩ : LV) ∈ p.2 ∧ (⟨v.x1, .node⟩ : LV) ∈ p.2 ∧
      p.1.b ≤ (findLimits s.lo s.hi (activeAt (s.rects.eraseIdx i) y) v y).minLimit ∧
      (findLimits s.lo s.hi (activeAt (s.rects.eraseIdx i) y) v y).maxLimit ≤ p.1.f := by
  obtain ⟨p, hp, yp, hb, hf, hvs⟩ := rawH_on_hline s
    (side_mem_rawH hv hy (sideSegsH_normal hn ▸ List.mem_singleton.mpr rfl))
  exact ⟨p, hp, yp, hvs _ List.mem_cons_self, hvs _ (List.mem_cons_of_mem _ List.mem_cons_self), hb, hf⟩

/-- For pairwise separated routing boxes (the scenes the C05 property quantifies over) the sweep never
    stops early at a box side: each of the four sides of every box lies, with both corner vertices, on a line
    of the model that extends on either side to the nearest box side in the scan line (`findLimits`:
    `minLimit` = the largest right side ≤ the box's left side among the boxes meeting that line, `maxLimit`
    symmetric), or to infinity.  (Horizontal sides; the vertical sides are the same statement about the
    transposed scene, whose lines are `s.lines.vs`.) -/
theorem side_on_hline_separated (s : Scene) (i : Nat) (v : Rect) (hv : s.rects[i]? = some v)
    (hsep : ∀ (j k : Nat) (a b : Rect), j ≠ k → s.rects[j]? = some a → s.rects[k]? = some b → Sep a b)
    (hw : v.x0 ≤ v.x1) (hh : v.y0 ≤ v.y1) (y : Rat) (hy : y = v.y0 ∨ y = v.y1) :
    ∃ p ∈ s.lines.hs, p.1.p = y ∧ (⟨v.x0, .node⟩ : LV) ∈ p.2 ∧ (⟨v.x1, .node⟩ : LV) ∈ p.2 ∧
      p.1.b ≤ (findLimits s.lo s.hi (activeAt (s.rects.eraseIdx i) y) v y).minLimit ∧
      (findLimits s.lo s.hi (activeAt (s.rects.eraseIdx i) y) v y).maxLimit ≤ p.1.f :=
  side_on_hline s i v hv y hy (separated_normal s.lo s.hi s.rects i v hv hsep hw hh y hy)

/-- **A path along a line.**  Take a line of the model (horizontal shown), its breakpoints in set order
    split into position groups, and any run `mid` of consecutive groups each of which carries a dummy vertex
    (every breakpoint position does, except a connector end point inside a shape or without room): the
    chosen dummy vertices `ns`, in order, form a path of graph edges along the line. -/
theorem line_nodes_chain_h (s : Scene) (h : Seg) (vs : List LV) (hl : (h, vs) ∈ s.lines.hs)
    (pre mid post : List (List BP)) (hg : groupsOf (toBPs (dirsX s.fixDirs) vs) = pre ++ mid ++ post)
    (ns : List BP) (hp : Picks mid ns) :
    ∀ e ∈ pairs ns, ((⟨e.1.t, h.p, e.1.k⟩, ⟨e.2.t, h.p, e.2.k⟩) : GV × GV) ∈ s.graph := by
  intro e he
  refine hedge_mem_graph hl (a := e.1) (b := e.2) ?_
  unfold lineEdges
  rw [hg]
  exact groupEdges_node_chain [] pre mid post ns hp e he

theorem line_nodes_chain_v (s : Scene) (v : Seg) (vs : List LV) (hl : (v, vs) ∈ s.lines.vs)
    (pre mid post : List (List BP)) (hg : groupsOf (toBPs (dirsY s.fixDirs) vs) = pre ++ mid ++ post)
    (ns : List BP) (hp : Picks mid ns) :
    ∀ e ∈ pairs ns, ((⟨v.p, e.1.t, e.1.k⟩, ⟨v.p, e.2.t, e.2.k⟩) : GV × GV) ∈ s.graph := by
  intro e he
  refine vedge_mem_graph hl (a := e.1) (b := e.2) ?_
  unfold lineEdges
  rw [hg]
  exact groupEdges_node_chain [] pre mid post ns hp e he

/-- a live connector end point that is not inside a shape and has room to the left or to the right (in a
    direction its flags allow) is accompanied, on its horizontal line, by a dummy vertex at the same point —
    the vertex through which other routes may pass ("paths won't route through connector end point
    vertices") and from which its line continues -/
theorem endpoint_dummy_on_hline (s : Scene) (i : Nat) (c : Conn) (hc : s.fixDirs[i]? = some c) (hl : c.d.none = false)
    (hfree : insideShape (activeAt s.rects c.y) c.x = false)
    (hroom : (c.d.left = true ∧ firstAbove s.lo (activeAt s.rects c.y) c.x c.y < c.x) ∨
             (c.d.right = true ∧ c.x < firstBelow s.hi (activeAt s.rects c.y) c.x c.y)) :
    ∃ p ∈ s.lines.hs, p.1.p = c.y ∧ (⟨c.x, .conn i⟩ : LV) ∈ p.2 ∧ (⟨c.x, .node⟩ : LV) ∈ p.2 := by
  obtain ⟨p, hp, yp, _, _, hvs⟩ := rawH_on_hline s (conn_mem_rawH hc hl)
  refine ⟨p, hp, yp, hvs _ List.mem_cons_self, hvs _ ?_⟩
  simp only [connSegH, hfree, Bool.not_false, Bool.true_and]
  rcases hroom with ⟨h1, h2⟩ | ⟨h1, h2⟩ <;> simp [h1, h2]

/-- **Meaning of one pass of `setLongRangeVisibilityFlags`.**  The `i`-th breakpoint of a line (in the order
    of the breakpoint set) gets the CONN bit iff a connector end point, and the EDGE bit iff a shape-corner
    vertex, is among the breakpoints strictly before it (`sc`/`se`: already seen before the list starts). -/
theorem scanMask_spec (eb cb : Nat) (sc se : Bool) (l : List (Bool × Bool)) (i : Nat) (h : i < l.length) :
    (scanMask eb cb sc se l)[i]? =
      some ((if sc || (l.take i).any (·.1) then cb else 0) + (if se || (l.take i).any (·.2) then eb else 0)) := by
  induction l generalizing sc se i with
  | nil => simp at h
  | cons a r ih =>
    obtain ⟨c, e⟩ := a
    cases i with
    | zero => simp only [scanMask, List.getElem?_cons_zero, List.take_zero, List.any_nil, Bool.or_false]
    | succ j =>
      simp only [scanMask, List.getElem?_cons_succ, List.take_succ_cons, List.any_cons]
      rw [ih (sc || c) (se || e) j (Nat.lt_of_succ_lt_succ h)]
      simp [Bool.or_assoc]

/-- **The lines of the model are the connected components** of the candidate segments: any two different
    horizontal lines (and any two different vertical lines) of the model are well formed and do not meet —
    a point of the plane lies on at most one horizontal and one vertical line.  (`SegmentListWrapper::insert`
    keeps its list pairwise non-overlapping, whatever the insertion order.) -/
theorem lines_disjoint (s : Scene) :
    Disjoint (s.lines.hs.map (·.1)) ∧ Disjoint (s.lines.vs.map (·.1)) := by
  rw [lines_hs_fst, lines_vs_fst]
  exact segs_disjoint s

/-- **The declarative scan line is what the sweep maintains.**  Run the event loop of
    `generateStaticOrthogonalVisGraph` (`sweepLines`: positions in increasing order; pass 1 inserts the
    rectangles opening at the position, pass 2 looks at the scan line, pass 3 removes those closing there) over
    any strictly increasing list of positions that contains every rectangle's `y0` and `y1`: at every position
    `p` pass 2 sees exactly the rectangles with `y0 ≤ p ≤ y1`, i.e. `activeAt rects p` — for every list of
    rectangles with `y0 ≤ y1`, whatever the order of the events at one position.  (The horizontal sweep is the
    same statement about the transposed rectangles.) -/
theorem sweep_scanline_is_activeAt (rects : List Rect) (hwf : ∀ r ∈ rects, r.y0 ≤ r.y1) (ps : List Rat)
    (hsort : ps.Pairwise (· < ·)) (hcov : ∀ r ∈ rects, r.y0 ∈ ps ∧ r.y1 ∈ ps) :
    ∀ x ∈ sweepLines rects ps [],
      (∀ i, i ∈ x.2 ↔ ∃ r, rects[i]? = some r ∧ r.y0 ≤ x.1 ∧ x.1 ≤ r.y1) ∧
      (∀ r, r ∈ activeAt rects x.1 ↔ ∃ i ∈ x.2, rects[i]? = some r) := by
  intro x hx
  -- the empty scan line satisfies the invariant: every rectangle's Open position is still to come
  have h1 := sweepLines_spec rects hwf ps [] hsort (fun r hr => ⟨Or.inl (hcov r hr).1, Or.inl (hcov r hr).2⟩)
    (fun _ => ⟨fun h => absurd h List.not_mem_nil, fun ⟨r, hr, h0, _⟩ =>
      absurd (h0 _ (hcov r (List.mem_of_getElem? hr)).1) (lt_irrefl _)⟩) x hx
  exact ⟨h1, activeAt_iff_indices h1⟩

/-- **A path along a line, general form.**  On every line of the model (horizontal; `line_path_v`
    vertical): from a breakpoint `a` one reaches every breakpoint `b` at a higher position by graph edges
    along that line, provided all breakpoints strictly between them are dummy vertices (routes do not pass
    through connector end point vertices) and, if `a` / `b` are connector end points, their flags allow
    leaving `a` towards higher and `b` towards lower coordinates. -/
theorem line_path_h (s : Scene) (h : Seg) (vs : List LV) (hl : (h, vs) ∈ s.lines.hs) (a b : BP)
    (ha : a ∈ toBPs (dirsX s.fixDirs) vs) (hb : b ∈ toBPs (dirsX s.fixDirs) vs) (hab : a.t < b.t)
    (h1 : a.k.isConn = true → a.up = true) (h2 : b.k.isConn = true → b.dn = true)
    (hmid : ∀ c ∈ toBPs (dirsX s.fixDirs) vs, a.t < c.t → c.t < b.t → c.k.isConn = false) :
    HPath s.graph h.p ⟨a.t, h.p, a.k⟩ ⟨b.t, h.p, b.k⟩ :=
  HPath_of_reach s h vs hl (line_reach (toBPs_sorted _ vs) ha hb hab h1 h2 hmid)

theorem line_path_v (s : Scene) (v : Seg) (vs : List LV) (hl : (v, vs) ∈ s.lines.vs) (a b : BP)
    (ha : a ∈ toBPs (dirsY s.fixDirs) vs) (hb : b ∈ toBPs (dirsY s.fixDirs) vs) (hab : a.t < b.t)
    (h1 : a.k.isConn = true → a.up = true) (h2 : b.k.isConn = true → b.dn = true)
    (hmid : ∀ c ∈ toBPs (dirsY s.fixDirs) vs, a.t < c.t → c.t < b.t → c.k.isConn = false) :
    VPath s.graph v.p ⟨v.p, a.t, a.k⟩ ⟨v.p, b.t, b.k⟩ :=
  VPath_of_reach s v vs hl (line_reach (toBPs_sorted _ vs) ha hb hab h1 h2 hmid)

/-- **Hanan-type statement, collinear case (`hanan_path_exists_partial`).**  Two live connector end points
    `A` (number `i`) and `B` (number `j`) on one horizontal line `y`, `A` left of `B`, `A` may be left to the
    Right and `B` to the Left (effective flags), boxes of positive width, no box crossed by the open segment
    between them (every box that the line `y` crosses strictly lies left of `A` or right of `B`), and no
    other live end point on the line strictly between them.  Then the model graph contains a path from `A`'s
    vertex to `B`'s vertex running entirely along the line `y` — by `graph_edge_directed` every step goes
    towards larger x, so its length is `B.x − A.x` and it has no bend: a minimum of length + penalty·bends
    over ALL orthogonal paths.  (The vertical case is the same statement about the transposed scene.)
    Missing for the full Hanan statement: paths with bends (an exchange argument pushing an optimal path onto
    the lines of the model). -/
theorem hanan_path_exists_partial (s : Scene) (i j : Nat) (A B : Conn)
    (hA : s.fixDirs[i]? = some A) (hB : s.fixDirs[j]? = some B)
    (hy : A.y = B.y) (hx : A.x < B.x) (hAr : A.d.right = true) (hBl : B.d.left = true)
    (hwf : ∀ R ∈ s.rects, R.x0 < R.x1)
    (hclear : ∀ R ∈ s.rects, R.y0 < A.y → A.y < R.y1 → R.x1 ≤ A.x ∨ B.x ≤ R.x0)
    (hothers : ∀ (k : Nat) (c : Conn), s.fixDirs[k]? = some c → c.y = A.y → A.x < c.x → c.x < B.x → False) :
    HPath s.graph A.y ⟨A.x, A.y, .conn i⟩ ⟨B.x, A.y, .conn j⟩ := by
  -- A's line reaches B
  obtain ⟨pA, hpA, yA, vA, bA, fA⟩ := row_contains s i A hA (by simp [Dirs.none, hAr]) B.x
    (fixDirs_bounds s B (List.mem_of_getElem? hB)).1 ⟨fun _ => hAr, fun h => absurd h (lt_asymm hx)⟩ hwf
    fun R hR h0 h1 =>
      (hclear R hR h0 h1).imp (fun h => ⟨h, le_trans h (le_of_lt hx)⟩) fun h => ⟨le_trans (le_of_lt hx) h, h⟩
  obtain ⟨pB, hpB, yB, vB, bB, fB, _, _⟩ := endpoint_on_hline s j B hB (by simp [Dirs.none, hBl])
  -- both lines contain the point (B.x, y): they are the same line
  have hpair : pA = pB := hline_eq_of_meets s hpA hpB ⟨by rw [yA, yB, hy], B.x, bA, fA, bB, fB⟩
  rw [← hpair] at vB
  have := line_path_h s pA.1 pA.2 hpA _ _ (mem_toBPs_of_mem vA) (mem_toBPs_of_mem vB) hx
    (fun _ => dirsX_eq_true.2.mpr ⟨A, hA, hAr⟩) (fun _ => dirsX_eq_true.1.mpr ⟨B, hB, hBl⟩)
    fun c hc h1 h2 => hline_dummies s pA hpA _ (fun t => A.x < t ∧ t < B.x)
      (fun k c' hc' ey hq => hothers k c' hc' (ey.trans yA) hq.1 hq.2) c hc ⟨h1, h2⟩
  rwa [yA] at this

/-- **Hanan-type statement, one bend (`hanan_path_exists_L_partial`).**  End points `A` (number `i`) and `B`
    (number `j`), `B` to the right of and below `A` (larger x, larger y); `A` may be left to the Right, `B`
    upwards; boxes of positive size; the two legs of the L over the corner `(B.x, A.y)` cross no box (every
    box the row `A.y` crosses strictly lies left of `A` or right of the corner, every box the column `B.x`
    crosses strictly lies above the corner or below `B`) and carry no other live end point (corner
    included).  Then the model graph contains the L-shaped path: along the row `A.y` from `A`'s vertex to a
    DUMMY vertex at the corner, and along the column `B.x` from that vertex to `B`'s vertex.  Every step goes
    towards larger x resp. y (`graph_edge_directed`), so its length is the Manhattan distance and it has one
    bend — the minimum of length + penalty·bends over all orthogonal paths between two points that are not
    on a common row or column.  (The other three orientations and the corner `(A.x, B.y)` are mirror images;
    missing for the full Hanan statement: two and more bends.) -/
theorem hanan_path_exists_L_partial (s : Scene) (i j : Nat) (A B : Conn)
    (hA : s.fixDirs[i]? = some A) (hB : s.fixDirs[j]? = some B)
    (hx : A.x < B.x) (hy : A.y < B.y) (hAr : A.d.right = true) (hBu : B.d.up = true)
    (hwf : ∀ R ∈ s.rects, R.x0 < R.x1 ∧ R.y0 < R.y1)
    (hrow : ∀ R ∈ s.rects, R.y0 < A.y → A.y < R.y1 → R.x1 ≤ A.x ∨ B.x ≤ R.x0)
    (hcol : ∀ R ∈ s.rects, R.x0 < B.x → B.x < R.x1 → R.y1 ≤ A.y ∨ B.y ≤ R.y0)
    (hothersRow : ∀ (k : Nat) (c : Conn), s.fixDirs[k]? = some c → c.y = A.y → A.x < c.x → c.x ≤ B.x → False)
    (hothersCol : ∀ (k : Nat) (c : Conn), s.fixDirs[k]? = some c → c.x = B.x → A.y ≤ c.y → c.y < B.y → False) :
    HPath s.graph A.y ⟨A.x, A.y, .conn i⟩ ⟨B.x, A.y, .node⟩ ∧
    VPath s.graph B.x ⟨B.x, A.y, .node⟩ ⟨B.x, B.y, .conn j⟩ := by
  -- the row of A and the column of B contain the corner
  obtain ⟨pA, hpA, yA, vA, bA, fA⟩ := row_contains s i A hA (by simp [Dirs.none, hAr]) B.x
    (fixDirs_bounds s B (List.mem_of_getElem? hB)).1 ⟨fun _ => hAr, fun h => absurd h (lt_asymm hx)⟩
    (fun R hR => (hwf R hR).1) fun R hR h0 h1 =>
      (hrow R hR h0 h1).imp (fun h => ⟨h, le_trans h (le_of_lt hx)⟩) fun h => ⟨le_trans (le_of_lt hx) h, h⟩
  obtain ⟨pv, hpv, xv, vBv, bv, fv⟩ := column_contains s j B hB A.y
    (fixDirs_bounds s A (List.mem_of_getElem? hA)).2 ⟨fun _ => hBu, fun h => absurd h (lt_asymm hy)⟩ (ne_of_lt hy)
    (fun R hR => (hwf R hR).2) fun R hR h0 h1 =>
      (hcol R hR h0 h1).imp (fun h => ⟨h, le_trans h (le_of_lt hy)⟩) fun h => ⟨le_trans (le_of_lt hy) h, h⟩
  -- the corner vertex is shared and is a dummy vertex
  have hcr : crosses pA.1 pv.1 = true := by
    rw [crosses_iff, yA, xv]
    exact ⟨bv, fv, bA, fA⟩
  obtain ⟨k, hk1, hk2⟩ := crossing_shared s pA pv hpA hpv hcr
  rw [xv] at hk1
  rw [yA] at hk2
  obtain rfl : k = .node := by
    cases k with
    | node => rfl
    | conn k' =>
      obtain ⟨c', hc', ex, ey⟩ := conn_vertex_provenance s pA hpA B.x k' hk1
      exact (hothersRow k' c' hc' (ey.trans yA) (ex ▸ hx) (le_of_eq ex)).elim
  constructor
  · have := line_path_h s pA.1 pA.2 hpA _ _ (mem_toBPs_of_mem vA) (mem_toBPs_of_mem hk1) hx
      (fun _ => dirsX_eq_true.2.mpr ⟨A, hA, hAr⟩) (fun h => Bool.noConfusion h)
      fun c hc h1 h2 => hline_dummies s pA hpA _ (fun t => A.x < t ∧ t < B.x)
        (fun k c' hc' ey hq => hothersRow k c' hc' (ey.trans yA) hq.1 (le_of_lt hq.2)) c hc ⟨h1, h2⟩
    rwa [yA] at this
  · have := line_path_v s pv.1 pv.2 hpv _ _ (mem_toBPs_of_mem hk2) (mem_toBPs_of_mem vBv) hy
      (fun h => Bool.noConfusion h) (fun _ => dirsY_eq_true.1.mpr ⟨B, hB, hBu⟩)
      fun c hc h1 h2 => vline_dummies s pv hpv _ (fun t => A.y < t ∧ t < B.y)
        (fun k c' hc' ex hq => hothersCol k c' hc' (ex.trans xv) (le_of_lt hq.1) hq.2) c hc ⟨h1, h2⟩
    rwa [xv] at this

/-- one leg: between two breakpoints of a horizontal line, in either order -/
theorem leg_h (s : Scene) (p : Seg × List LV) (hl : p ∈ s.lines.hs) (a b : BP)
    (ha : a ∈ toBPs (dirsX s.fixDirs) p.2) (hb : b ∈ toBPs (dirsX s.fixDirs) p.2) (hne : a.t ≠ b.t)
    (fa : a.k.isConn = true → (if a.t < b.t then a.up else a.dn) = true)
    (fb : b.k.isConn = true → (if a.t < b.t then b.dn else b.up) = true)
    (hmid : ∀ c ∈ toBPs (dirsX s.fixDirs) p.2, (a.t < c.t ∧ c.t < b.t) ∨ (b.t < c.t ∧ c.t < a.t) → c.k.isConn = false) :
    UPath s.graph ⟨a.t, p.1.p, a.k⟩ ⟨b.t, p.1.p, b.k⟩ :=
  (line_reach_either (toBPs_sorted _ p.2) ha hb hne fa fb hmid).elim
    (fun r => UPath.of_HPath (HPath_of_reach s p.1 p.2 hl r))
    (fun r => (UPath.of_HPath (HPath_of_reach s p.1 p.2 hl r)).symm)

theorem leg_v (s : Scene) (p : Seg × List LV) (hl : p ∈ s.lines.vs) (a b : BP)
    (ha : a ∈ toBPs (dirsY s.fixDirs) p.2) (hb : b ∈ toBPs (dirsY s.fixDirs) p.2) (hne : a.t ≠ b.t)
    (fa : a.k.isConn = true → (if a.t < b.t then a.up else a.dn) = true)
    (fb : b.k.isConn = true → (if a.t < b.t then b.dn else b.up) = true)
    (hmid : ∀ c ∈ toBPs (dirsY s.fixDirs) p.2, (a.t < c.t ∧ c.t < b.t) ∨ (b.t < c.t ∧ c.t < a.t) → c.k.isConn = false) :
    UPath s.graph ⟨p.1.p, a.t, a.k⟩ ⟨p.1.p, b.t, b.k⟩ :=
  (line_reach_either (toBPs_sorted _ p.2) ha hb hne fa fb hmid).elim
    (fun r => UPath.of_VPath (VPath_of_reach s p.1 p.2 hl r))
    (fun r => (UPath.of_VPath (VPath_of_reach s p.1 p.2 hl r)).symm)

/-- **One bend, general form.**  A horizontal line `ph` and a vertical line `pv` of the model that cross; `a`
    a breakpoint of `ph`, `b` a breakpoint of `pv`, both away from the crossing point; the vertex the two
    lines share at the crossing is a dummy vertex; on both legs only dummy vertices lie strictly between the
    end of the leg and the crossing; a connector end point at the end of a leg may be left towards the
    crossing.  Then the graph contains the route `a` — crossing — `b` (edges walked in either direction):
    every orthogonal two-leg polyline along lines of the model, bending where they cross, is a route in the
    graph, in all four orientations.  Together with `line_path_*` (no bend) this reduces the Hanan statement
    to plane geometry: that some optimal path consists of such legs. -/
theorem bend_path (s : Scene) (ph pv : Seg × List LV) (hh : ph ∈ s.lines.hs) (hv : pv ∈ s.lines.vs)
    (hc : crosses ph.1 pv.1 = true)
    (hnode : ∀ k, (⟨pv.1.p, .conn k⟩ : LV) ∉ ph.2)
    (a b : BP) (ha : a ∈ toBPs (dirsX s.fixDirs) ph.2) (hb : b ∈ toBPs (dirsY s.fixDirs) pv.2)
    (hane : a.t ≠ pv.1.p) (hbne : b.t ≠ ph.1.p)
    (fa : a.k.isConn = true → (if a.t < pv.1.p then a.up else a.dn) = true)
    (fb : b.k.isConn = true → (if ph.1.p < b.t then b.dn else b.up) = true)
    (hmidh : ∀ c ∈ toBPs (dirsX s.fixDirs) ph.2,
      (a.t < c.t ∧ c.t < pv.1.p) ∨ (pv.1.p < c.t ∧ c.t < a.t) → c.k.isConn = false)
    (hmidv : ∀ c ∈ toBPs (dirsY s.fixDirs) pv.2,
      (ph.1.p < c.t ∧ c.t < b.t) ∨ (b.t < c.t ∧ c.t < ph.1.p) → c.k.isConn = false) :
    UPath s.graph ⟨a.t, ph.1.p, a.k⟩ ⟨pv.1.p, b.t, b.k⟩ := by
  obtain ⟨k, hk1, hk2⟩ := crossing_shared s ph pv hh hv hc
  obtain rfl : k = .node := by
    cases k with
    | node => rfl
    | conn k' => exact absurd hk1 (hnode k')
  exact (leg_h s ph hh a _ ha (mem_toBPs_of_mem hk1) hane fa (fun h => Bool.noConfusion h) hmidh).trans
    (leg_v s pv hv _ b (mem_toBPs_of_mem hk2) hb (fun e => hbne e.symm) (fun h => Bool.noConfusion h) fb hmidv)

def Btw (a b t : Rat) : Prop := (a < t ∧ t < b) ∨ (b < t ∧ t < a)

/-- **Hanan-type statement, one bend, all orientations (`hanan_one_bend_partial`).**  End points `A`
    (number `i`) and `B` (number `j`) on different rows and different columns; corner `(B.x, A.y)` (for the
    other corner exchange `A` and `B`); `A` may be left horizontally towards the corner and `B` vertically
    towards it (effective flags); boxes of positive size; the row `A.y` between `A` and the corner and the
    column `B.x` between the corner and `B` cross no box and carry no other live end point (corner included).
    Then the model graph contains the route `A` — corner — `B` (`UPath`: edges walked in either direction),
    which has Manhattan length and one bend: a minimum of length + penalty·bends over all orthogonal paths
    between two points in general position. -/
theorem hanan_one_bend_partial (s : Scene) (i j : Nat) (A B : Conn)
    (hA : s.fixDirs[i]? = some A) (hB : s.fixDirs[j]? = some B)
    (hxne : A.x ≠ B.x) (hyne : A.y ≠ B.y)
    (hAf : (A.x < B.x → A.d.right = true) ∧ (B.x < A.x → A.d.left = true))
    (hBf : (A.y < B.y → B.d.up = true) ∧ (B.y < A.y → B.d.down = true))
    (hwf : ∀ R ∈ s.rects, R.x0 < R.x1 ∧ R.y0 < R.y1)
    (hrow : ∀ R ∈ s.rects, R.y0 < A.y → A.y < R.y1 → (R.x1 ≤ A.x ∧ R.x1 ≤ B.x) ∨ (A.x ≤ R.x0 ∧ B.x ≤ R.x0))
    (hcol : ∀ R ∈ s.rects, R.x0 < B.x → B.x < R.x1 → (R.y1 ≤ A.y ∧ R.y1 ≤ B.y) ∨ (A.y ≤ R.y0 ∧ B.y ≤ R.y0))
    (hothersRow : ∀ (k : Nat) (c : Conn), s.fixDirs[k]? = some c → c.y = A.y → Btw A.x B.x c.x ∨ c.x = B.x → False)
    (hothersCol : ∀ (k : Nat) (c : Conn), s.fixDirs[k]? = some c → c.x = B.x → Btw A.y B.y c.y ∨ c.y = A.y → False) :
    UPath s.graph ⟨A.x, A.y, .conn i⟩ ⟨B.x, B.y, .conn j⟩ := by
  have hlA : A.d.none = false := by
    rcases lt_or_gt_of_ne hxne with h | h
    · simp [Dirs.none, hAf.1 h]
    · simp [Dirs.none, hAf.2 h]
  -- the row of A and the column of B contain the corner
  obtain ⟨pA, hpA, yA, vA, bA, fA⟩ := row_contains s i A hA hlA B.x
    (fixDirs_bounds s B (List.mem_of_getElem? hB)).1 hAf (fun R hR => (hwf R hR).1) hrow
  obtain ⟨pv, hpv, xv, vB, bv, fv⟩ := column_contains s j B hB A.y
    (fixDirs_bounds s A (List.mem_of_getElem? hA)).2 hBf hyne (fun R hR => (hwf R hR).2) hcol
  have hcr : crosses pA.1 pv.1 = true := by
    rw [crosses_iff, yA, xv]
    exact ⟨bv, fv, bA, fA⟩
  -- no end point vertex at the corner, none strictly inside the legs
  have hnode : ∀ k, (⟨pv.1.p, .conn k⟩ : LV) ∉ pA.2 := by
    intro k hk
    rw [xv] at hk
    obtain ⟨c', hc', ex, ey⟩ := conn_vertex_provenance s pA hpA B.x k hk
    exact hothersRow k c' hc' (ey.trans yA) (Or.inr ex)
  have := bend_path s pA pv hpA hpv hcr hnode _ _ (mem_toBPs_of_mem vA) (mem_toBPs_of_mem vB)
    (xv ▸ hxne) (yA ▸ fun e => hyne e.symm)
    (fun _ => xv ▸ dirsX_towards hA hxne hAf) (fun _ => yA ▸ dirsY_from hB hyne hBf)
    (hline_dummies s pA hpA _ (fun t => (A.x < t ∧ t < pv.1.p) ∨ (pv.1.p < t ∧ t < A.x))
      fun k c' hc' ey hq => hothersRow k c' hc' (ey.trans yA) (Or.inl (xv ▸ hq)))
    (vline_dummies s pv hpv _ (fun t => (pA.1.p < t ∧ t < B.y) ∨ (B.y < t ∧ t < pA.1.p))
      fun k c' hc' ex hq => hothersCol k c' hc' (ex.trans xv) (Or.inl (yA ▸ hq)))
  rwa [yA, xv] at this

/-! ### non-vacuity: a closed scene (one routing box, one connector with a restricted source) -/

/-- box [2,4]×[2,4]; source (0,3) may only be left to the Right, target (6,3) in all directions -/
def demoScene : Scene :=
  ⟨[⟨2, 2, 4, 4⟩], [⟨0, 3, ⟨false, false, false, true⟩⟩, ⟨6, 3, ⟨true, true, true, true⟩⟩]⟩

-- the outside rule gives the source (on the first position of the horizontal sweep) Up|Down as well
#guard demoScene.fixDirs.map (·.d) == [⟨true, true, false, true⟩, ⟨true, true, true, true⟩]
-- the source's horizontal line stops at the box, it is joined to the dummy vertex there
#guard demoScene.graph.contains (⟨0, 3, .conn 0⟩, ⟨2, 3, .node⟩)
-- and, by the outside rule, to the top and bottom lines of the box
#guard demoScene.graph.contains (⟨0, 2, .node⟩, ⟨0, 3, .conn 0⟩) && demoScene.graph.contains (⟨0, 3, .conn 0⟩, ⟨0, 4, .node⟩)
-- nothing crosses the box
#guard demoScene.graph.all fun e => edgeAvoids ⟨2, 2, 4, 4⟩ e.1.x e.1.y e.2.x e.2.y
#guard !demoScene.graph.isEmpty

/-- non-vacuity of `hanan_path_exists_partial`: box [2,4]×[5,7] beside the line y = 3, end points (0,3) and
    (6,3) with all directions; the hypotheses hold and the straight path is there -/
def demoScene2 : Scene :=
  ⟨[⟨2, 5, 4, 7⟩], [⟨0, 3, ⟨true, true, true, true⟩⟩, ⟨6, 3, ⟨true, true, true, true⟩⟩]⟩

#guard demoScene2.fixDirs[0]? == some ⟨0, 3, ⟨true, true, true, true⟩⟩ &&
       demoScene2.fixDirs[1]? == some ⟨6, 3, ⟨true, true, true, true⟩⟩
#guard demoScene2.rects.all fun R => decide (R.x0 < R.x1) && (!(decide (R.y0 < 3) && decide (3 < R.y1)) || decide (R.x1 ≤ 0) || decide (6 ≤ R.x0))
#guard demoScene2.graph.contains (⟨0, 3, .conn 0⟩, ⟨2, 3, .node⟩) && demoScene2.graph.contains (⟨2, 3, .node⟩, ⟨4, 3, .node⟩) &&
       demoScene2.graph.contains (⟨4, 3, .node⟩, ⟨6, 3, .conn 1⟩)

/-- non-vacuity of `hanan_path_exists_L_partial`: box [2,4]×[5,7], `A` = (0,3), `B` = (6,9): the row y = 3 and
    the column x = 6 miss the box; the hypotheses hold and the L-shaped path over (6,3) is there -/
def demoScene3 : Scene :=
  ⟨[⟨2, 5, 4, 7⟩], [⟨0, 3, ⟨true, true, true, true⟩⟩, ⟨6, 9, ⟨true, true, true, true⟩⟩]⟩

#guard demoScene3.fixDirs[0]? == some ⟨0, 3, ⟨true, true, true, true⟩⟩ &&
       demoScene3.fixDirs[1]? == some ⟨6, 9, ⟨true, true, true, true⟩⟩
#guard demoScene3.rects.all fun R => decide (R.x0 < R.x1) && decide (R.y0 < R.y1) &&
       (!(decide (R.y0 < 3) && decide (3 < R.y1)) || decide (R.x1 ≤ 0) || decide (6 ≤ R.x0)) &&
       (!(decide (R.x0 < 6) && decide (6 < R.x1)) || decide (R.y1 ≤ 3) || decide (9 ≤ R.y0))
#guard demoScene3.graph.contains (⟨0, 3, .conn 0⟩, ⟨2, 3, .node⟩) && demoScene3.graph.contains (⟨4, 3, .node⟩, ⟨6, 3, .node⟩) &&
       demoScene3.graph.contains (⟨6, 3, .node⟩, ⟨6, 5, .node⟩) && demoScene3.graph.contains (⟨6, 7, .node⟩, ⟨6, 9, .conn 1⟩)

-- non-vacuity of `sweep_scanline_is_activeAt`: two boxes sharing a side line; the scan line at the three positions
#guard (sweepLines [⟨0, 0, 1, 2⟩, ⟨3, 2, 4, 5⟩] [0, 2, 5] []).map (·.2) == [[0], [0, 1], [1]]

-- non-vacuity of `hanan_one_bend_partial` in another orientation: `demoScene3` with the roles exchanged,
-- A = (6,9) (number 1), B = (0,3) (number 0), corner (0,9): the route B — (0,9) — A is in the graph
#guard demoScene3.graph.contains (⟨0, 3, .conn 0⟩, ⟨0, 5, .node⟩) && demoScene3.graph.contains (⟨0, 7, .node⟩, ⟨0, 9, .node⟩) &&
       demoScene3.graph.contains (⟨0, 9, .node⟩, ⟨2, 9, .node⟩) && demoScene3.graph.contains (⟨4, 9, .node⟩, ⟨6, 9, .conn 1⟩)

/-- witness for the crossing rule "horizontal line finishes on a vertical line" (case ovis-overlap 3499 of
    seed 1): boxes [3,7]×[3,5], [0,4]×[5,7], [3,6]×[4,8]; an end point at (3,5) that may not be left to the
    Left.  The row y = 5 ends at x = 3 with only the end point's vertex there; the column x = 3 has its own end
    vertex (a box corner) at (3,5).  Repaired order: that vertex is a break point of the row too, so the row's
    dummy vertices (0,5) and (3,5) are joined.  As found: the row had no dummy vertex at (3,5) and the edge
    was missing (and on the level of vertex objects the column's vertex was cut off from the row). -/
def demoSceneFinish : Scene :=
  ⟨[⟨3, 3, 7, 5⟩, ⟨0, 5, 4, 7⟩, ⟨3, 4, 6, 8⟩],
   [⟨3, 5, ⟨true, true, false, true⟩⟩, ⟨-1/2, 3, ⟨true, true, true, true⟩⟩]⟩

#guard demoSceneFinish.graph.contains (⟨0, 5, .node⟩, ⟨3, 5, .node⟩)
#guard !demoSceneFinish.graphAsFound.contains (⟨0, 5, .node⟩, ⟨3, 5, .node⟩)
-- the repair only adds edges here, and what it adds enters no box
#guard demoSceneFinish.graphAsFound.all demoSceneFinish.graph.contains
#guard demoSceneFinish.graph.all fun e => demoSceneFinish.rects.all fun R =>
  hasConnIn demoSceneFinish.conns R || edgeAvoids R e.1.x e.1.y e.2.x e.2.y

/-! ### non-vacuity: the hypotheses of the theorems above hold JOINTLY on closed scenes, and the theorems
    are instantiated there.  The `hanan_*` theorems run through `bend_path`, `leg_h/v`, `line_path_h/v`,
    `crossing_shared` and (in `Lemmas/OrthVisPath.lean`) `endpoint_on_hline`, `connSegV_on_vline`, so their instances witness those
    as well. -/

abbrev allD : Dirs := ⟨true, true, true, true⟩
-- non-vacuity of `hanan_path_exists_partial`
example : HPath demoScene2.graph 3 ⟨0, 3, .conn 0⟩ ⟨6, 3, .conn 1⟩ :=
  hanan_path_exists_partial demoScene2 0 1 ⟨0, 3, allD⟩ ⟨6, 3, allD⟩
    (by decide +kernel) (by decide +kernel) rfl (by decide +kernel) rfl rfl
    (by decide +kernel) (by decide +kernel)
    (fun _ c hk => (by decide +kernel : ∀ c ∈ demoScene2.fixDirs, c.y = 3 → 0 < c.x → c.x < 6 → False) c
      (List.mem_of_getElem? hk))

-- non-vacuity of `hanan_path_exists_L_partial`
example : HPath demoScene3.graph 3 ⟨0, 3, .conn 0⟩ ⟨6, 3, .node⟩ ∧ VPath demoScene3.graph 6 ⟨6, 3, .node⟩ ⟨6, 9, .conn 1⟩ :=
  hanan_path_exists_L_partial demoScene3 0 1 ⟨0, 3, allD⟩ ⟨6, 9, allD⟩
    (by decide +kernel) (by decide +kernel) (by decide +kernel) (by decide +kernel) rfl rfl
    (by decide +kernel) (by decide +kernel) (by decide +kernel)
    (fun _ c hk => (by decide +kernel : ∀ c ∈ demoScene3.fixDirs, c.y = 3 → 0 < c.x → c.x ≤ 6 → False) c
      (List.mem_of_getElem? hk))
    (fun _ c hk => (by decide +kernel : ∀ c ∈ demoScene3.fixDirs, c.x = 6 → 3 ≤ c.y → c.y < 9 → False) c
      (List.mem_of_getElem? hk))

-- non-vacuity of `hanan_one_bend_partial`, two orientations
example : UPath demoScene3.graph ⟨0, 3, .conn 0⟩ ⟨6, 9, .conn 1⟩ :=
  hanan_one_bend_partial demoScene3 0 1 ⟨0, 3, allD⟩ ⟨6, 9, allD⟩
    (by decide +kernel) (by decide +kernel) (by decide +kernel) (by decide +kernel)
    ⟨fun _ => rfl, fun _ => rfl⟩ ⟨fun _ => rfl, fun _ => rfl⟩
    (by decide +kernel) (by decide +kernel) (by decide +kernel)
    (fun _ c hk => (by unfold Btw; decide +kernel :
      ∀ c ∈ demoScene3.fixDirs, c.y = 3 → Btw 0 6 c.x ∨ c.x = 6 → False) c (List.mem_of_getElem? hk))
    (fun _ c hk => (by unfold Btw; decide +kernel :
      ∀ c ∈ demoScene3.fixDirs, c.x = 6 → Btw 3 9 c.y ∨ c.y = 3 → False) c (List.mem_of_getElem? hk))

example : UPath demoScene3.graph ⟨6, 9, .conn 1⟩ ⟨0, 3, .conn 0⟩ :=
  hanan_one_bend_partial demoScene3 1 0 ⟨6, 9, allD⟩ ⟨0, 3, allD⟩
    (by decide +kernel) (by decide +kernel) (by decide +kernel) (by decide +kernel)
    ⟨fun _ => rfl, fun _ => rfl⟩ ⟨fun _ => rfl, fun _ => rfl⟩
    (by decide +kernel) (by decide +kernel) (by decide +kernel)
    (fun _ c hk => (by unfold Btw; decide +kernel :
      ∀ c ∈ demoScene3.fixDirs, c.y = 9 → Btw 6 0 c.x ∨ c.x = 0 → False) c (List.mem_of_getElem? hk))
    (fun _ c hk => (by unfold Btw; decide +kernel :
      ∀ c ∈ demoScene3.fixDirs, c.x = 0 → Btw 9 3 c.y ∨ c.y = 9 → False) c (List.mem_of_getElem? hk))

/-- two separated boxes sharing the side line y = 2 -/
def demoScene4 : Scene := ⟨[⟨0, 0, 1, 2⟩, ⟨3, 2, 4, 5⟩], []⟩

-- non-vacuity of `side_on_hline_separated` (and of `side_on_hline`, which it instantiates)
example : ∃ p ∈ demoScene4.lines.hs, p.1.p = 2 ∧ (⟨0, .node⟩ : LV) ∈ p.2 ∧ (⟨1, .node⟩ : LV) ∈ p.2 ∧
    p.1.b ≤ (findLimits demoScene4.lo demoScene4.hi (activeAt (demoScene4.rects.eraseIdx 0) 2) ⟨0, 0, 1, 2⟩ 2).minLimit ∧
    (findLimits demoScene4.lo demoScene4.hi (activeAt (demoScene4.rects.eraseIdx 0) 2) ⟨0, 0, 1, 2⟩ 2).maxLimit ≤ p.1.f :=
  side_on_hline_separated demoScene4 0 ⟨0, 0, 1, 2⟩ rfl
    (by
      have key : ∀ a ∈ demoScene4.rects, ∀ b ∈ demoScene4.rects, a ≠ b → AdaptaVerif.Lemmas.OrthVis.Sep a b := by
        unfold AdaptaVerif.Lemmas.OrthVis.Sep; decide +kernel
      intro j k a b hne hj hk
      refine key a (List.mem_of_getElem? hj) b (List.mem_of_getElem? hk) ?_
      rintro rfl
      exact hne ((List.getElem?_inj (List.getElem?_eq_some_iff.mp hj).1 (by decide +kernel)).mp (hj.trans hk.symm)))
    (by decide +kernel) (by decide +kernel) 2 (Or.inr rfl)
-- the right limit there is the other box's left side (3), not the sentinel
#guard (findLimits demoScene4.lo demoScene4.hi (activeAt (demoScene4.rects.eraseIdx 0) 2) ⟨0, 0, 1, 2⟩ 2).maxLimit == 3

-- non-vacuity of `line_adjacent_joined_h`: row y = 3 of `demoScene3`, the end point (0,3) and the dummy vertex (2,3)
example : ((⟨0, 3, .conn 0⟩, ⟨2, 3, .node⟩) : GV × GV) ∈ demoScene3.graph :=
  line_adjacent_joined_h demoScene3 _ _ demo_row_mem ⟨0, .conn 0, true, true⟩ ⟨2, .node, true, true⟩
    (List.mem_of_getElem? (i := 1) (by decide +kernel)) (List.mem_of_getElem? (i := 2) (by decide +kernel))
    (by decide +kernel) (by decide +kernel) (fun _ => rfl) (fun _ => rfl)

-- non-vacuity of `line_adjacent_joined_v`: column x = 6 of `demoScene3`, the dummy vertex (6,7) and the end point (6,9)
example : ((⟨6, 7, .node⟩, ⟨6, 9, .conn 1⟩) : GV × GV) ∈ demoScene3.graph :=
  line_adjacent_joined_v demoScene3 _ _ demo_col_mem ⟨7, .node, true, true⟩ ⟨9, .conn 1, true, true⟩
    (List.mem_of_getElem? (i := 2) (by decide +kernel)) (List.mem_of_getElem? (i := 4) (by decide +kernel))
    (by decide +kernel) (by decide +kernel) (fun _ => rfl) (fun _ => rfl)

-- non-vacuity of `line_nodes_chain_h`: the four dummy vertices of row y = 3 of `demoScene3` (three edges)
example : ∀ e ∈ pairs [(⟨0, .node, true, true⟩ : BP), ⟨2, .node, true, true⟩, ⟨4, .node, true, true⟩, ⟨6, .node, true, true⟩],
    ((⟨e.1.t, 3, e.1.k⟩, ⟨e.2.t, 3, e.2.k⟩) : GV × GV) ∈ demoScene3.graph :=
  line_nodes_chain_h demoScene3 _ _ demo_row_mem
    [] [[⟨0, .node, true, true⟩, ⟨0, .conn 0, true, true⟩], [⟨2, .node, true, true⟩], [⟨4, .node, true, true⟩],
        [⟨6, .node, true, true⟩]] [] (by decide +kernel) _
    (.cons List.mem_cons_self rfl (.cons List.mem_cons_self rfl (.cons List.mem_cons_self rfl
      (.cons List.mem_cons_self rfl .nil))))

-- non-vacuity of `line_nodes_chain_v`: column x = 6 of `demoScene3`, a proper middle run (groups 5, 7)
example : ∀ e ∈ pairs [(⟨5, .node, true, true⟩ : BP), ⟨7, .node, true, true⟩],
    ((⟨6, e.1.t, e.1.k⟩, ⟨6, e.2.t, e.2.k⟩) : GV × GV) ∈ demoScene3.graph :=
  line_nodes_chain_v demoScene3 _ _ demo_col_mem
    [[⟨3, .node, true, true⟩]] [[⟨5, .node, true, true⟩], [⟨7, .node, true, true⟩]]
    [[⟨9, .node, true, true⟩, ⟨9, .conn 1, true, true⟩]] (by decide +kernel) _
    (.cons List.mem_cons_self rfl (.cons List.mem_cons_self rfl .nil))

-- non-vacuity of `endpoint_on_hline`, `endpoint_on_vline` (premises of the first implication hold), `endpoint_dummy_on_hline`
example := endpoint_on_hline demoScene3 0 ⟨0, 3, allD⟩ (by decide +kernel) rfl
example := (endpoint_on_vline demoScene3 1 ⟨6, 9, allD⟩ (by decide +kernel)).1 rfl (by decide +kernel)
example := (endpoint_on_vline demoScene3 0 ⟨0, 3, allD⟩ (by decide +kernel)).2 rfl (by decide +kernel)
example := endpoint_dummy_on_hline demoScene3 0 ⟨0, 3, allD⟩ (by decide +kernel) rfl (by decide +kernel)
  (Or.inr ⟨rfl, by decide +kernel⟩)

-- non-vacuity of `crossing_shared`: row y = 3 and column x = 6 of `demoScene3`
example := crossing_shared demoScene3 _ _ demo_row_mem demo_col_mem (by decide +kernel)

-- non-vacuity of `graph_edge_clear`: no end point of `demoScene2` is inside its box (and the graph is not empty)
example := graph_edge_clear demoScene2 (by
  intro R hR h
  rw [← hasConnIn_iff] at h
  revert R; decide +kernel)
#guard !demoScene2.graph.isEmpty

end AdaptaVerif.Props.C05OrthVis
