/-
C06 — tie theorem: `ActionInfo::operator<` (the order `actionList.sort()` of
Router::processActions uses) and the numeric values of `enum ActionType`, both regenerated from
/repo's libavoid/actioninfo.{h,cpp} on every run, are what Model/ActionQueue.lean sorts by.
-/
import AdaptaVerif.Gen.Comparators
import AdaptaVerif.Lemmas.StrictWeakOrder
import AdaptaVerif.Model.ActionQueue
namespace AdaptaVerif.Props.C06Tie
open AdaptaVerif.Gen.Comparators AdaptaVerif.Model.CmpKeys AdaptaVerif.Lemmas.SWO
open AdaptaVerif.Model.ActionQueue

/-- `a < b` in argument order (the generated function takes `rhs` first) -/
abbrev actionLess (a b : ActKey) : Bool := actionLt b a

/-- the second sort key: which id the comparator reads depends on the (common) type -/
def actSubKey (a : ActKey) : Nat :=
  if a.type = k_ConnChange then a.connId else if a.type = k_ConnectionPinChange then a.ptr else a.obstId

theorem gen_actionLt_is_lex : actionLess = cmpBy ActKey.type (cmpBy actSubKey (fun _ _ => false)) := by
  funext a b
  have k6 : k_ConnChange = 6 := rfl
  have k7 : k_ConnectionPinChange = 7 := rfl
  have e6 : ∀ n : Nat, ((n : Int) = ((6 : Nat) : Int)) ↔ n = 6 := by intro n; omega
  have e7 : ∀ n : Nat, ((n : Int) = ((7 : Nat) : Int)) ↔ n = 7 := by intro n; omega
  simp only [actionLess, actionLt, cmpBy, actSubKey, k6, k7, Int.ofNat_lt, Int.natCast_inj, ne_eq, e6, e7]
  grind

theorem actionLt_strict_weak_order : IsSWO actionLess := by
  rw [gen_actionLt_is_lex]; exact swo_cmpBy _ (swo_cmpBy _ swo_false)

/-- the order of two queued actions can depend on a heap address only when both are
    ConnectionPinChange actions (as the comment in actioninfo.cpp claims) -/
theorem actionLt_address_only_for_pin_changes (a b : ActKey) (pa pb : Nat)
    (h : a.type ≠ k_ConnectionPinChange ∨ b.type ≠ k_ConnectionPinChange) :
    actionLess { a with ptr := pa } { b with ptr := pb } = actionLess a b := by
  -- with equal types neither is a ConnectionPinChange, so the second key does not read `ptr`
  have hsub : a.type = b.type →
      actSubKey { a with ptr := pa } = actSubKey a ∧ actSubKey { b with ptr := pb } = actSubKey b := by
    intro ht
    have hb : b.type ≠ k_ConnectionPinChange := h.elim (ht ▸ ·) id
    simp only [actSubKey, hb, ht, if_false, and_self]
  rw [gen_actionLt_is_lex]
  unfold cmpBy
  by_cases ht : a.type = b.type
  · simp only [(hsub ht).1, (hsub ht).2]
  · simp only [ht, ne_eq, not_false_eq_true, if_true]

/-- what the comparator reads of a model action: its type's enum position and the id of its object -/
def actKey (a : Action) : ActKey := { type := a.rank, ptr := 0, connId := a.id, obstId := a.id }

/-- the model's ranks ARE the positions in `enum ActionType` read from actioninfo.h -/
theorem gen_action_ranks_are_model :
    (∀ id, (Action.rank { kind := .move, isJ := false, id := id }) = k_ShapeMove) ∧
    (∀ id, (Action.rank { kind := .add, isJ := false, id := id }) = k_ShapeAdd) ∧
    (∀ id, (Action.rank { kind := .remove, isJ := false, id := id }) = k_ShapeRemove) ∧
    (∀ id, (Action.rank { kind := .move, isJ := true, id := id }) = k_JunctionMove) ∧
    (∀ id, (Action.rank { kind := .add, isJ := true, id := id }) = k_JunctionAdd) ∧
    (∀ id, (Action.rank { kind := .remove, isJ := true, id := id }) = k_JunctionRemove) ∧
    (∀ id, (Action.rank { kind := .connChange, id := id }) = k_ConnChange) := by
  refine ⟨?_, ?_, ?_, ?_, ?_, ?_, ?_⟩ <;> intro id <;> rfl

/-- the model's total preorder `Action.le` (what its stable insertion sort uses) is the negation of
    the generated `operator<` with the arguments swapped: `a ≤ b ↔ ¬ (b < a)` -/
theorem gen_actionLt_is_model (a b : Action) : Action.le a b = !actionLess (actKey b) (actKey a) := by
  have hsub : ∀ x : Action, actSubKey (actKey x) = x.id := by
    intro x
    unfold actSubKey actKey Action.rank
    cases x.kind <;> cases x.isJ <;> rfl
  rw [gen_actionLt_is_lex]
  simp only [Action.le, cmpBy, hsub]
  -- `(actKey x).type` is `x.rank` only by unfolding `actKey`, and `grind` keeps the two apart: the goal in terms of `rank`
  show _ = !(if b.rank ≠ a.rank then decide (b.rank < a.rank) else if b.id ≠ a.id then decide (b.id < a.id) else false)
  grind

example : actionLess ⟨1, 0, 0, 5⟩ ⟨6, 0, 2, 0⟩ = true ∧ actionLess ⟨6, 0, 3, 0⟩ ⟨6, 0, 2, 0⟩ = false := by decide

end AdaptaVerif.Props.C06Tie
