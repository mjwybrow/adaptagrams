/-
C03 — the decision rule of Lee's rotational sweep (`sweepVisible()` / `onBorderIDs` in
cola/libavoid/visibility.cpp, model: Model/LeeSweep.lean) against the route specification of Props/C03.

The sweep decides "is the swept-to point visible from the centre" from the CLOSEST edge of the sorted
status list that does not end at the point: blocked iff that edge is strictly nearer than the point, or
passes exactly through the point while the centre lies on the border of the same shape (`onBorderIDs`).

* `sweepVisible_blocked_of_witness` / `sweepVisible_visible_of_all_farther`: the rule, for ALL sorted
  status lists, relative to the status invariant "some edge not ending at the point is not farther than
  the point" (what the sweep maintains; the tie checks the whole sweep against the C++ on every run).
* `touch_segment_hits_rect`: on an axis-parallel rectangle a segment from the middle of a vertical side
  to any other point of the closed rectangle off that side passes through the interior (spec side).
* `border_recorded_on_vertical_side`: in exactly that situation the initialisation loop records the
  rectangle in `onBorderIDs`;  `touch_rule_agrees_with_spec_rect`: hence rule and spec agree ("blocked")
  for touching axis-parallel rectangles — the case a change of the id looked up in `onBorderIDs` breaks.
* `border_not_recorded_on_horizontal_side`: the loop NEVER records a rectangle whose HORIZONTAL side
  carries the centre (only edges with one end strictly above the initial ray are examined): the rule is
  blind there — one of the known weaknesses (known finding C03-lee-collinear), here a theorem about the model.
-/
import AdaptaVerif.Lemmas.LeeSweep
namespace AdaptaVerif.Props.C03Lee
open AdaptaVerif.Model.Geometry (Pt area2 vecDir pointOnLine strictBetween)
open AdaptaVerif.Check.Route AdaptaVerif.Spec.Route AdaptaVerif.Lemmas.Route
open AdaptaVerif.Model.LeeSweep AdaptaVerif.Lemmas.LeeSweep

/-! ### the rule on sorted status lists -/

/-- **The rule blocks** whenever the sorted status list holds a witness: an edge that does not end at the
    (shape-vertex) point and meets the ray not farther than the point, provided every such edge that passes
    exactly THROUGH the point belongs to a shape on whose border the centre lies. -/
theorem sweepVisible_blocked_of_witness (T : List EP) (p : PP) (onB : List Nat)
    (hconn : p.v.conn = false) (hs : SortedStatus T)
    (e : EP) (he : e ∈ T) (hne : NonEnd p.v.pt e) (hd : e.adist ≤ p.dist)
    (hthrough : ∀ f ∈ T, NonEnd p.v.pt f → f.adist = p.dist → f.obj1 ∈ onB) :
    sweepVisible T p onB = false := by
  obtain ⟨f, rest, h1, h2, h3, h4⟩ := skipEnds_of_mem p.v.pt T e he hne hs
  unfold sweepVisible
  rw [h1]
  simp only [hconn, Bool.false_eq_true, if_false]
  unfold closestBlocks
  by_cases hlt : f.adist < p.dist
  · simp [hlt]
  · have heq : f.adist = p.dist := le_antisymm (le_trans h4 hd) (not_lt.mp hlt)
    have hm := hthrough f h3 h2 heq
    simp [heq, hm]

/-- **The rule lets through** when nothing is in the way: if every edge of the status list that
    does not end at the point meets the ray strictly farther than the point, the point is visible. -/
theorem sweepVisible_visible_of_all_farther (T : List EP) (p : PP) (onB : List Nat)
    (hconn : p.v.conn = false)
    (hfar : ∀ f ∈ T, NonEnd p.v.pt f → p.dist < f.adist) :
    sweepVisible T p onB = true := by
  unfold sweepVisible
  cases hsk : skipEnds p.v.pt T with
  | nil => rfl
  | cons f rest =>
    have hf := hfar f (skipEnds_head _ f rest T hsk).1 (skipEnds_head _ f rest T hsk).2
    simp only [hconn, Bool.false_eq_true, if_false]
    unfold closestBlocks
    have h1 : ¬ f.adist < p.dist := not_lt.mpr (le_of_lt hf)
    have h2 : ¬ p.dist = f.adist := ne_of_lt hf
    simp [h1, h2]

/-- The hypothesis `SortedStatus` of the rule theorems holds in the model (and in the C++: `e.sort()` precedes
    every call of `sweepVisible`): the status list handed to the rule is `sortBy epLt …`, which is sorted by
    the distance at which the current ray meets the edges — for every status list and every swept-to point. -/
theorem model_status_sorted (c : Pt) (T : List EP) (t : PP) :
    SortedStatus (sortBy epLt (T.map (fun e => e.setCurr c t))) :=
  sortBy_epLt_sorted _

/-- One step of the modelled sweep (`sweepStep`, the loop body of `vertexSweep()`): if the sorted status holds a
    witness edge for the swept-to shape vertex `t` (as in `sweepVisible_blocked_of_witness`), the step never
    makes the edge centre–`t` visible (`setDist`): its decision is `addBlocker` or nothing — whatever the
    valid-region cones say. -/
theorem sweepStep_not_visible_of_witness (ign invisG : Bool) (c : SV) (onB : List Nat)
    (st : List EP × List (Nat × Dec)) (t : PP) (hconn : t.v.conn = false)
    (e : EP) (he : e ∈ sortBy epLt (st.1.map (fun e => e.setCurr c.pt t)))
    (hne : NonEnd t.v.pt e) (hd : e.adist ≤ t.dist)
    (hthrough : ∀ f ∈ sortBy epLt (st.1.map (fun e => e.setCurr c.pt t)), NonEnd t.v.pt f → f.adist = t.dist → f.obj1 ∈ onB) :
    ∃ d : Dec, (sweepStep ign invisG c onB st t).2 = (t.v.idx, d) :: st.2 ∧ d ≠ some true := by
  have hv := sweepVisible_blocked_of_witness _ t onB hconn (model_status_sorted c.pt st.1 t) e he hne hd hthrough
  refine ⟨_, rfl, ?_⟩
  rw [hv]
  exact dec_ne_visible _ _

/-! ### touching axis-parallel rectangles -/

/-- Spec side: from the middle of a vertical side of the rectangle to any other point of the closed
    rectangle that is not on that side's line, the segment passes through the open rectangle. -/
theorem touch_segment_hits_rect (x0 y0 x1 y1 : Rat) (hx : x0 < x1) (hy : y0 < y1) (c p : Pt)
    (hcx : c.x = x0 ∨ c.x = x1) (hcy0 : y0 < c.y) (hcy1 : c.y < y1)
    (hpx0 : x0 ≤ p.x) (hpx1 : p.x ≤ x1) (hpy0 : y0 ≤ p.y) (hpy1 : p.y ≤ y1) (hoff : p.x ≠ c.x) :
    segHitsInterior (rectPoly x0 y0 x1 y1) c p = true := by
  rw [segHitsInterior_iff]
  refine ⟨1 / 2, by norm_num, by norm_num, (strictlyInside_rect_iff x0 y0 x1 y1 hx hy _).2 ?_⟩
  have hc : x0 ≤ c.x ∧ c.x ≤ x1 := by
    rcases hcx with h | h <;> rw [h]
    · exact ⟨le_refl _, hx.le⟩
    · exact ⟨hx.le, le_refl _⟩
  obtain ⟨a1, a2⟩ := mid_strict hc.1 hc.2 hpx0 hpx1 (Or.inl (Ne.symm hoff))
  obtain ⟨b1, b2⟩ := mid_strict hcy0.le hcy1.le hpy0 hpy1 (Or.inr ⟨hcy0, hcy1⟩)
  exact ⟨a1, a2, b1, b2⟩

example : segHitsInterior (rectPoly 100 0 200 100) ⟨100, 50⟩ ⟨200, 50⟩ = true :=
  touch_segment_hits_rect 100 0 200 100 (by norm_num) (by norm_num) _ _ (Or.inl rfl)
    (by norm_num) (by norm_num) (by norm_num) (by norm_num) (by norm_num) (by norm_num) (by norm_num)

/-- **`onBorderIDs` records the rectangle** when the sweep centre (a vertex of another shape or a connector
    end) lies strictly inside one of its VERTICAL sides. -/
theorem border_recorded_on_vertical_side (base obj : Nat) (x0 y0 x1 y1 : Rat)
    (c : SV) (hidx : c.idx < base ∨ base + 4 ≤ c.idx) (hfin : c.pt.x < dblMax)
    (hcx : c.pt.x = x0 ∨ c.pt.x = x1) (hcy0 : y0 < c.pt.y) (hcy1 : c.pt.y < y1)
    (vs : List SV) (hsub : ∀ k ∈ shapeVerts base obj (rectPoly x0 y0 x1 y1), k ∈ vs) :
    obj ∈ onBorderIDs c vs := by
  have hA1 : ahead c.pt ⟨x1, y1⟩ = true := (ahead_iff _ _ hfin).mpr hcy1
  have hA2 : ahead c.pt ⟨x0, y1⟩ = true := (ahead_iff _ _ hfin).mpr hcy1
  have hB1 : ahead c.pt ⟨x0, y0⟩ = false := (not_ahead_iff _ _ hfin).mpr hcy0.le
  unfold onBorderIDs
  rw [List.mem_map]
  rw [shapeVerts_rect] at hsub
  rcases hcx with h | h
  · -- left side: the vertex (x0,y0), whose shPrev (x0,y1) is AHEAD
    refine ⟨_, List.mem_filter.mpr ⟨hsub _ (.tail _ (.tail _ (.tail _ (.head _)))), ?_⟩, rfl⟩
    have hne : (base + 2 != c.idx) = true := by
      simp only [bne_iff_ne, ne_eq]; omega
    simp only [recordsBorder, initNbr, hne, hA2, Bool.and_self, if_true]
    unfold pointOnLine strictBetween
    simp [h, hcy0, hcy1]
  · -- right side: the vertex (x1,y0): shPrev (x0,y0) is not AHEAD, shNext (x1,y1) is
    refine ⟨_, List.mem_filter.mpr ⟨hsub _ (.head _), ?_⟩, rfl⟩
    have hne : (base + 1 != c.idx) = true := by
      simp only [bne_iff_ne, ne_eq]; omega
    simp only [recordsBorder, initNbr, hB1, Bool.and_false, Bool.false_eq_true, if_false, hne, hA1, Bool.and_self, if_true]
    unfold pointOnLine strictBetween
    simp [h, hcy0, hcy1]

/-- **The blind spot**: a rectangle is NEVER recorded when the centre lies strictly inside one of its
    HORIZONTAL sides — the initialisation loop only examines edges with one end strictly above the
    initial ray.  (Known weakness of the sweep; the model and the C++ agree on it.) -/
theorem border_not_recorded_on_horizontal_side (base obj : Nat) (x0 y0 x1 y1 : Rat) (hx : x0 < x1) (hy : y0 < y1)
    (c : SV) (hidx : c.idx < base ∨ base + 4 ≤ c.idx) (hfin : c.pt.x < dblMax)
    (hcy : c.pt.y = y0 ∨ c.pt.y = y1) (hcx0 : x0 < c.pt.x) (hcx1 : c.pt.x < x1) :
    ∀ k ∈ shapeVerts base obj (rectPoly x0 y0 x1 y1), recordsBorder c k = false := by
  have hne0 : ¬ x0 = c.pt.x := ne_of_lt hcx0
  have hne1 : ¬ x1 = c.pt.x := fun h => by rw [h] at hcx1; exact lt_irrefl _ hcx1
  have hxx : ¬ x1 = x0 := fun h => by rw [h] at hx; exact lt_irrefl _ hx
  have hxx' : ¬ x0 = x1 := fun h => hxx h.symm
  have hi1 : ¬ base + 1 = c.idx := by omega
  have hi2 : ¬ base + 2 = c.idx := by omega
  rw [shapeVerts_rect]
  intro k hk
  simp only [List.mem_cons, List.not_mem_nil, or_false] at hk
  rcases hcy with h | h
  · -- bottom side: (·,y1) is AHEAD, (·,y0) is not
    have hy1 : ¬ y1 = c.pt.y := fun hh => by rw [h] at hh; rw [hh] at hy; exact lt_irrefl _ hy
    have hA : ∀ x, ahead c.pt ⟨x, y1⟩ = true := fun x => (ahead_iff _ _ hfin).mpr (by simp [h, hy])
    have hB : ∀ x, ahead c.pt ⟨x, y0⟩ = false := fun x => (not_ahead_iff _ _ hfin).mpr h.ge
    rcases hk with rfl | rfl | rfl | rfl <;>
      simp [recordsBorder, initNbr, hA, hB, pointOnLine, hne0, hne1, hxx, hxx', hy1, hi1, hi2]
  · -- top side: nothing is AHEAD
    have hB1 : ∀ x, ahead c.pt ⟨x, y1⟩ = false := fun x => (not_ahead_iff _ _ hfin).mpr h.ge
    have hB0 : ∀ x, ahead c.pt ⟨x, y0⟩ = false := fun x => (not_ahead_iff _ _ hfin).mpr (by rw [h]; exact hy.le)
    rcases hk with rfl | rfl | rfl | rfl <;>
      simp [recordsBorder, initNbr, hB1, hB0]

/-- **Rule = spec on touching axis-parallel rectangles.**  Rectangle B = [x0,x1]×[y0,y1] (shape id `obj`);
    the sweep centre `c` (a vertex of another shape, or a connector end) lies strictly inside a vertical side
    of B; the swept-to shape vertex `p` lies on the closed rectangle, off that side's line (e.g. it is a corner
    of a third shape touching B).  If the sorted status list contains an edge of B that does not end at `p` and
    meets the ray not beyond `p`, and only B's edges pass exactly through `p`, then
    the specification says the segment c–p is blocked by B, and the rule says so too. -/
theorem touch_rule_agrees_with_spec_rect (base obj : Nat) (x0 y0 x1 y1 : Rat) (hx : x0 < x1) (hy : y0 < y1)
    (c : SV) (hidx : c.idx < base ∨ base + 4 ≤ c.idx) (hfin : c.pt.x < dblMax)
    (hcx : c.pt.x = x0 ∨ c.pt.x = x1) (hcy0 : y0 < c.pt.y) (hcy1 : c.pt.y < y1)
    (p : PP) (hconn : p.v.conn = false)
    (hpx0 : x0 ≤ p.v.pt.x) (hpx1 : p.v.pt.x ≤ x1) (hpy0 : y0 ≤ p.v.pt.y) (hpy1 : p.v.pt.y ≤ y1)
    (hoff : p.v.pt.x ≠ c.pt.x)
    (vs : List SV) (hsub : ∀ k ∈ shapeVerts base obj (rectPoly x0 y0 x1 y1), k ∈ vs)
    (T : List EP) (hs : SortedStatus T)
    (e : EP) (he : e ∈ T) (hne : NonEnd p.v.pt e) (hd : e.adist ≤ p.dist)
    (honly : ∀ f ∈ T, NonEnd p.v.pt f → f.adist = p.dist → f.obj1 = obj) :
    segHitsInterior (rectPoly x0 y0 x1 y1) c.pt p.v.pt = true ∧
      sweepVisible T p (onBorderIDs c vs) = false := by
  refine ⟨touch_segment_hits_rect x0 y0 x1 y1 hx hy c.pt p.v.pt hcx hcy0 hcy1 hpx0 hpx1 hpy0 hpy1 hoff, ?_⟩
  apply sweepVisible_blocked_of_witness T p _ hconn hs e he hne hd
  intro f hf hnf hfd
  rw [honly f hf hnf hfd]
  exact border_recorded_on_vertical_side base obj x0 y0 x1 y1 c hidx hfin hcx hcy0 hcy1 vs hsub

/-! ### non-vacuity and the scene of the seeded change -/

namespace Demo
/-- three touching rectangles: A's corner C = (100,50) lies in the middle of B's left side, D's corner
    P = (200,50) in the middle of B's right side; A's top edge, the segment C–P and D's bottom edge are collinear -/
def A : List Pt := rectPoly 40 50 100 110
def B : List Pt := rectPoly 100 0 200 100
def D : List Pt := rectPoly 200 (-10) 260 50
/-- sweep centre: A's vertex C (global index 4, shape id 2) -/
def c : SV := { idx := 4, obj := 2, vn := 0, conn := false, pt := ⟨100, 50⟩, prev := some (7, ⟨40, 50⟩), next := some (5, ⟨100, 110⟩) }
/-- swept-to point: D's vertex P -/
def p : PP := mkPP c.pt { idx := 10, obj := 3, vn := 2, conn := false, pt := ⟨200, 50⟩, prev := some (9, ⟨260, 50⟩), next := some (11, ⟨200, -10⟩) }
/-- B's right side in the status list when the ray reaches P -/
def e : EP := { i1 := 0, p1 := ⟨200, 0⟩, obj1 := 1, i2 := 1, p2 := ⟨200, 100⟩, dist1 := 12500, dist2 := 12500, ang := some ⟨100, 0⟩, adist := 10000 }
end Demo

/-- the hypotheses of `touch_rule_agrees_with_spec_rect` are satisfiable (the seeded scene) -/
example : segHitsInterior Demo.B Demo.c.pt Demo.p.v.pt = true ∧
    sweepVisible [Demo.e] Demo.p (onBorderIDs Demo.c (shapeVerts 0 1 Demo.B)) = false :=
  touch_rule_agrees_with_spec_rect 0 1 100 0 200 100 (by norm_num) (by norm_num) Demo.c (Or.inr (by decide))
    (by decide +kernel) (Or.inl rfl) (by decide +kernel) (by decide +kernel) Demo.p rfl
    (by decide +kernel) (by decide +kernel) (by decide +kernel) (by decide +kernel) (by decide +kernel)
    (shapeVerts 0 1 Demo.B) (fun _ h => h) [Demo.e] (List.pairwise_singleton _ _)
    Demo.e List.mem_cons_self (by unfold NonEnd; decide +kernel) (by decide +kernel)
    (by intro f hf _ _; rw [List.mem_singleton.mp hf]; rfl)

-- non-vacuity of `sweepVisible_visible_of_all_farther` on a non-empty status list: B's right side moved
-- beyond P (squared distance 20000 > 10000)
example : sweepVisible [{ Demo.e with adist := 20000 }] Demo.p [1] = true :=
  sweepVisible_visible_of_all_farther _ Demo.p [1] rfl (by
    intro f hf _; rw [List.mem_singleton.mp hf]; decide +kernel)

-- non-vacuity of `sweepStep_not_visible_of_witness` (all hypotheses jointly): the sweep centred at C reaches P
-- with B's right side in the status list; the step's decision is not "visible"
example : ∃ d : Dec, (sweepStep true true Demo.c [1] ([Demo.e], []) Demo.p).2 = (Demo.p.v.idx, d) :: [] ∧
    d ≠ some true := by
  have h1 : Demo.e.setCurr Demo.c.pt Demo.p = Demo.e := by
    unfold EP.setCurr
    rw [if_neg (by decide +kernel), if_neg (by decide +kernel), if_neg (by decide +kernel)]
  have hT : sortBy epLt ([Demo.e].map (fun e => e.setCurr Demo.c.pt Demo.p)) = [Demo.e] := by
    simp [sortBy, insertBy, h1]
  exact sweepStep_not_visible_of_witness true true Demo.c [1] ([Demo.e], []) Demo.p rfl Demo.e
    (by rw [hT]; exact List.mem_cons_self) (by unfold NonEnd; decide +kernel) (by decide +kernel)
    (by rw [hT]; intro f hf _ _; rw [List.mem_singleton.mp hf]; decide +kernel)

/-- the blind spot is real: centre in the middle of B's TOP side, nothing recorded -/
example : onBorderIDs { idx := 4, obj := 2, vn := 0, conn := false, pt := ⟨150, 100⟩ } (shapeVerts 0 1 Demo.B) = [] := by
  decide +kernel

/-- **The modelled sweep blocks the edge C–P** (C is vertex 0 of A, P is vertex 2 of D; shape ids = creation
    order), here for the creation order B, A, D — the deciding sweep is centred at P and reaches C: the whole
    executable model (`transactionEdges`: sweeps, status list, `onBorderIDs`, `newBlockingShape`) evaluated in
    the kernel.  (Every other order is compared with the C++ by the driver on each run.) -/
theorem demo_scene_edge_blocked_BAD :
    ((2, 0), (3, 2)) ∉ transactionEdges true true [(1, Demo.B), (2, Demo.A), (3, Demo.D)] [] ∧
    ((3, 2), (2, 0)) ∉ transactionEdges true true [(1, Demo.B), (2, Demo.A), (3, Demo.D)] [] :=
  ⟨demoEdges_BAD.1, demoEdges_BAD.2.1⟩

/-- the same for the creation order B, D, A — the deciding sweep is centred at C and reaches P.
    `transactionEdges` lists every edge with the end of smaller GLOBAL index first (here D's vertices precede
    A's), so the edge C–P would appear as ((2,2),(3,0)): both orientations are excluded (the orientation
    ((3,0),(2,2)) alone never occurs in the list, whatever the sweep decides). -/
theorem demo_scene_edge_blocked_BDA :
    ((2, 2), (3, 0)) ∉ transactionEdges true true [(1, Demo.B), (2, Demo.D), (3, Demo.A)] [] ∧
    ((3, 0), (2, 2)) ∉ transactionEdges true true [(1, Demo.B), (2, Demo.D), (3, Demo.A)] [] :=
  ⟨demoEdges_BDA.1, demoEdges_BDA.2.1⟩

-- the two statements are not hollow: the edge lists are not empty, and contain e.g. the edge from B's corner
-- (200,0) to P — in the orientation "smaller global index first"
example : ((1, 0), (3, 2)) ∈ transactionEdges true true [(1, Demo.B), (2, Demo.A), (3, Demo.D)] [] ∧
    ((1, 0), (2, 2)) ∈ transactionEdges true true [(1, Demo.B), (2, Demo.D), (3, Demo.A)] [] :=
  ⟨demoEdges_BAD.2.2, demoEdges_BDA.2.2⟩

end AdaptaVerif.Props.C03Lee
