/-
C14 — libdialect: doHOLA returns a clean orthogonal drawing of the same graph, and the returned
separation constraints are satisfied.

Assurance level: translation validation.  The HOLA pipeline itself is not modelled; each output of
the real `doHOLA()` is decided by the executable checkers of `Check/Drawing.lean`, and the theorems
below state — for ALL drawings, routes, constraint lists and parameters — that a checker answers
`true` exactly when the mathematical clause of `Spec/Drawing.lean` holds.
(Helper lemmas: `Lemmas/Drawing.lean`, `Lemmas/RouteRect.lean`.)
-/
import Mathlib.Tactic.Linarith
import Mathlib.Data.List.Nodup
import AdaptaVerif.Lemmas.Drawing

namespace AdaptaVerif.Props.C14
open AdaptaVerif.Check.RouteRect AdaptaVerif.Check.Drawing AdaptaVerif.Spec.Drawing
open AdaptaVerif.Lemmas.Drawing

/-- clause 1: the checker accepts iff node ids are distinct, the id set is unchanged and the
    multiset of (src,tgt) edges is unchanged -/
theorem sameGraph_correct (before after : Drawing) :
    sameGraph before after = true ↔ SameGraph before after := sameGraph_iff before after

/-- clause 2: the checker accepts iff every returned node equals an input node in id, w and h -/
theorem sizesKept_correct (before after : Drawing) :
    sizesKept before after = true ↔ SizesKept before after := sizesKept_iff before after

/-- clauses 1+2 together: the input node *with the same id* has exactly the returned size -/
theorem sizes_by_id (before after : Drawing)
    (hg : sameGraph before after = true) (hs : sizesKept before after = true) :
    ∀ n ∈ after.nodes, ∀ m ∈ before.nodes, m.id = n.id → m.w = n.w ∧ m.h = n.h := by
  intro n hn m hm hid
  obtain ⟨hnd, _, _⟩ := (sameGraph_iff before after).mp hg
  obtain ⟨m', hm', hid', hw, hh⟩ := (sizesKept_iff before after).mp hs n hn
  have : m = m' := List.inj_on_of_nodup_map hnd hm hm' (by rw [hid, hid'])
  subst this
  exact ⟨hw, hh⟩

/-- clause 3 (any tolerance): the checker accepts iff no two nodes at different list positions
    have a common point strictly inside both boxes shrunk by tol/2 -/
theorem noNodeOverlap_correct (tol : Rat) (d : Drawing) :
    noNodeOverlap tol d = true ↔ NoNodeOverlap tol d := noNodeOverlap_iff tol d

/-- clause 3 at tolerance 0, spelled out: the open boxes of distinct nodes are disjoint -/
theorem noNodeOverlap_zero_sound (d : Drawing) (h : noNodeOverlap 0 d = true) :
    ∀ (i j : Nat) (hi : i < d.nodes.length) (hj : j < d.nodes.length), i ≠ j →
      ∀ p : P, ¬ (StrictlyInside (d.nodes[i]).box p ∧ StrictlyInside (d.nodes[j]).box p) := by
  intro i j hi hj hne p hp
  -- shrinking by 0/2 changes nothing
  have key : ∀ b : Rect, StrictlyInside b p → StrictlyInside (b.shrink (0 / 2)) p := by
    intro b hb
    unfold StrictlyInside Rect.shrink at *
    simp only
    refine ⟨?_, ?_, ?_, ?_⟩ <;> linarith [hb.1, hb.2.1, hb.2.2.1, hb.2.2.2]
  exact (noNodeOverlap_iff 0 d).mp h i j hi hj hne ⟨p, key _ hp.1, key _ hp.2⟩

/-- clause 4: the checker accepts iff the route has ≥ 2 points and every leg is exactly
    horizontal or exactly vertical -/
theorem routeOrthogonal_correct (r : List P) :
    routeOrthogonal r = true ↔ RouteOrthogonal r := routeOrthogonal_iff r

/-- clause 5: the checker accepts iff the first point is within `e` of one end node's box and the
    last point within `e` of the other's -/
theorem routeEndsAt_correct (e : Rat) (s t : Node) (r : List P) :
    routeEndsAt e s t r = true ↔ RouteEndsAt e s t r := routeEndsAt_iff e s t r

/-- clause 6: the checker accepts iff no point of any leg is strictly inside the (shrunk) box of a
    node other than the edge's ends -/
theorem routeAvoidsOthers_correct (s : Rat) (d : Drawing) (e : Edge) :
    routeAvoidsOthers s d e = true ↔ RouteAvoidsOthers s d e := routeAvoidsOthers_iff s d e

/-- clause 7, one dimension: the transcription of `SepPair::generateSeparationConstraint`
    (left/right chosen by the sign bit, BDRY adds half extents + extra gap, `left+gap ≤/= right`)
    is equivalent to the directional reading `σ·(pt-ps) ≥ |gap| + …` of the constraint -/
theorem dimHolds_correct (tol extra : Rat) (c : SepDim) (ps pt ws wt : Rat) :
    dimHolds tol extra c ps pt ws wt = true ↔ DimSat tol extra c ps pt ws wt :=
  dimHolds_iff tol extra c ps pt ws wt

/-- clause 7: the checker accepts iff every SepPair refers to nodes of the drawing and holds in
    both dimensions -/
theorem sepSatisfied_correct (tol extra : Rat) (d : Drawing) (seps : List SepPair) :
    sepSatisfied tol extra d seps = true ↔ SepSatisfied tol extra d seps :=
  sepSatisfied_iff tol extra d seps

/-- the whole property: the driver's verdict function accepts iff all seven clauses hold -/
theorem cleanDrawing_correct (pr : Params) (before after : Drawing) (seps : List SepPair) :
    cleanDrawing pr before after seps = true ↔ CleanDrawing pr before after seps := by
  unfold cleanDrawing CleanDrawing
  simp only [Bool.and_eq_true, sameGraph_iff, sizesKept_iff, noNodeOverlap_iff, List.all_eq_true,
    edgeOk_iff, sepSatisfied_iff, and_assoc]

/-! ### non-vacuity: a drawing that is accepted, and rejected variants -/

def exBefore : Drawing :=
  { nodes := [⟨1, 0, 0, 20, 10⟩, ⟨2, 5, 7, 20, 10⟩, ⟨3, 1, 1, 10, 10⟩],
    edges := [⟨0, 1, 2, []⟩, ⟨1, 3, 2, []⟩] }

/-- 1 at (0,0), 2 at (100,0) (east of 1, aligned), 3 at (100,60) (south of 2) -/
def exAfter : Drawing :=
  { nodes := [⟨1, 0, 0, 20, 10⟩, ⟨2, 100, 0, 20, 10⟩, ⟨3, 100, 60, 10, 10⟩],
    edges := [⟨0, 1, 2, [⟨0, 0⟩, ⟨100, 0⟩]⟩, ⟨1, 3, 2, [⟨100, 60⟩, ⟨100, 0⟩]⟩] }

def exSeps : List SepPair :=
  [ ⟨1, 2, ⟨.ineq, .bdry, false, 0⟩, ⟨.eq, .centre, false, 0⟩⟩,      -- 2 EAST of 1, boundary gap ≥ 0 (+extra)
    ⟨2, 3, ⟨.eq, .centre, false, 0⟩, ⟨.ineq, .centre, false, 50⟩⟩ ]  -- 3 SOUTH of 2, centre gap ≥ 50

def exParams : Params := ⟨0, 5, 1 / 1000000, 1 / 10000, 30⟩

example : cleanDrawing exParams exBefore exAfter exSeps = true := by decide +kernel

-- non-vacuity of sizes_by_id: both hypotheses hold jointly on exBefore / exAfter (node 2 moved, size kept)
example : exBefore.nodes[1].w = exAfter.nodes[1].w ∧ exBefore.nodes[1].h = exAfter.nodes[1].h :=
  sizes_by_id exBefore exAfter (by decide +kernel) (by decide +kernel)
    exAfter.nodes[1] (List.getElem_mem _) exBefore.nodes[1] (List.getElem_mem _) (by decide +kernel)

-- non-vacuity of noNodeOverlap_zero_sound: (5,0) is strictly inside node 1's box, hence not inside node 2's
example : ¬ (StrictlyInside (exAfter.nodes[0]).box ⟨5, 0⟩ ∧ StrictlyInside (exAfter.nodes[1]).box ⟨5, 0⟩) :=
  noNodeOverlap_zero_sound exAfter (by decide +kernel) 0 1 (by decide) (by decide) (by decide) ⟨5, 0⟩
example : StrictlyInside (exAfter.nodes[0]).box ⟨5, 0⟩ := by decide +kernel

/-- a diagonal leg is rejected -/
example : routeOrthogonal [⟨0, 0⟩, ⟨100, 1⟩] = false := by decide +kernel
/-- a route through a third node is rejected -/
example : routeAvoidsOthers (1 / 1000000)
    { exAfter with nodes := exAfter.nodes ++ [⟨4, 50, 0, 10, 10⟩] } ⟨0, 1, 2, [⟨0, 0⟩, ⟨100, 0⟩]⟩ = false := by
  decide +kernel
/-- overlapping nodes are rejected -/
example : noNodeOverlap 0 { exAfter with nodes := exAfter.nodes ++ [⟨4, 105, 3, 10, 10⟩] } = false := by
  decide +kernel
/-- the sign bit matters: `-0` (WEST of) is not satisfied where `+0` (EAST of) is -/
example : dimHolds 0 0 ⟨.ineq, .bdry, true, 0⟩ 0 100 20 20 = false ∧
          dimHolds 0 0 ⟨.ineq, .bdry, false, 0⟩ 0 100 20 20 = true := by decide +kernel
/-- a changed size is rejected -/
example : sizesKept exBefore { exAfter with nodes := [⟨1, 0, 0, 20 + 1 / 1000000000000, 10⟩] } = false := by
  decide +kernel

end AdaptaVerif.Props.C14
