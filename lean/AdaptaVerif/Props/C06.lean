/-
C06 — libavoid: incremental transactions give what routing from scratch gives; no-op transactions
change nothing.  Property theorems (everything else is in Lemmas/ActionQueue*.lean, Lemmas/RouteRect.lean).

Proved here for ALL legal histories, about the model `Model.ActionQueue` (tied to router.cpp by the
per-call scene correspondence of Driver/C06.lean):
  the router's queue + de-duplication + sort + three-loop processing is a refinement of
  "apply every edit immediately to a plain map id ↦ geometry" (`Spec.Scene.applyOp`).
What the code's queue semantics is (and `applyOp` states): a later absolute move wins; a relative
move translates the geometry the object will have after the edits queued so far (queued move's
polygon if there is one, else — including the add-then-move fold — the shape's current polygon), so
relative moves compose additively; delete drops a queued move; the last endpoint value per end wins.
There is NO legal corner in which the queue differs from the immediate semantics on the final scene.
The one behavioural corner is `immediate_mode_fold_corner` below.

NOT proved (audited per history by the driver, level translation_validation): that the incremental
visibility-graph maintenance and the selective reroute produce routes as good as a fresh router's.
-/
import AdaptaVerif.Lemmas.ActionQueueRun
import AdaptaVerif.Lemmas.RouteRect
namespace AdaptaVerif.Props.C06
open AdaptaVerif.Model.ActionQueue AdaptaVerif.Spec.Scene AdaptaVerif.Lemmas.ActionQueue
open AdaptaVerif.Check.RouteRect (P Rect lerp StrictlyInside segHitsOpenRect routeValidRect)

/-- **queue_refines_scene.** For every history of API calls that is legal (documented preconditions,
    `legal`) from the initial router: after a final `processTransaction()` the router shows (`view`:
    active obstacles with polygon/position, connector end vertices) exactly the abstract scene obtained
    by applying every edit immediately, one by one; and nothing is left queued. -/
theorem queue_refines_scene (ops : List Op) (hl : LegalHistory ops) :
    view (processTransaction (run init ops)).scene = applyOps AScene.empty ops ∧
      (processTransaction (run init ops)).queue = [] := by
  obtain ⟨hi, he⟩ := run_spec init ops inv_init hl
  obtain ⟨_, hv, _⟩ := processTransaction_spec (run init ops) hi
  exact ⟨by rw [hv, he, pending_init], processTransaction_queue _⟩

/-- a legal history exercising every de-duplication rule: add-then-move fold, relative move on a
    queued absolute move, second absolute move overwriting, move erased by delete, endpoint
    overwritten, second transaction -/
def demoOps : List Op :=
  [ .addObst false 1 [⟨0, 0⟩, ⟨4, 0⟩, ⟨4, 4⟩, ⟨0, 4⟩],
    .moveRel false 1 10 0,                                            -- folded into the queued Add
    .addObst false 2 [⟨20, 0⟩, ⟨24, 0⟩, ⟨24, 4⟩, ⟨20, 4⟩],
    .addObst true 3 [⟨50, 50⟩],
    .newConn 4, .setEndpoint 4 .src (.pt ⟨-5, 2⟩), .setEndpoint 4 .tar (.pt ⟨40, 2⟩), .setEndpoint 4 .src (.pt ⟨-6, 2⟩),
    .processTransaction,
    .moveAbs false 1 [⟨0, 10⟩, ⟨4, 10⟩, ⟨4, 14⟩, ⟨0, 14⟩] true,       -- pushes a move (firstMove = true)
    .moveRel false 1 1 1,                                             -- uses the QUEUED polygon
    .moveAbs false 1 [⟨0, 20⟩, ⟨4, 20⟩, ⟨4, 24⟩, ⟨0, 24⟩] false,      -- overwrites it, keeps firstMove
    .moveRel false 2 0 7, .delete false 2,                            -- delete erases the queued move
    .moveRel true 3 1 1, .moveAbs true 3 [⟨60, 60⟩] false,
    .processTransaction, .processTransaction ]

example : LegalHistory demoOps := by decide

/-- the general form: from ANY state satisfying the queue invariant (in particular any state reached
    by legal calls, `run_spec`), for any legal continuation -/
theorem queue_refines_scene_from (st : State) (h : Inv st) (ops : List Op) (hl : legalRun st ops = true) :
    view (processTransaction (run st ops)).scene = applyOps (pending st) ops := by
  obtain ⟨hi, he⟩ := run_spec st ops h hl
  obtain ⟨_, hv, _⟩ := processTransaction_spec (run st ops) hi
  rw [hv, he]

example : Inv init := inv_init

/-- **queue invariant.** Along every legal history: at most one queued action per object, queued
    actions refer to existing objects, an obstacle is inactive only while its Add is queued, queued
    endpoint updates of one connector concern distinct ends, connector ids are unique. -/
theorem queue_invariant (ops : List Op) (hl : legalRun init ops = true) : Inv (run init ops) :=
  (run_spec init ops inv_init hl).1

/-- the scene "promised" by the queue (`pending`) tracks the immediate semantics after EVERY call,
    not only at transaction boundaries -/
theorem pending_tracks_immediate (ops : List Op) (hl : legalRun init ops = true) :
    pending (run init ops) = applyOps AScene.empty ops := by
  rw [(run_spec init ops inv_init hl).2, pending_init]

/-- **noop_txn.** `processTransaction()` with nothing queued leaves the whole model state (scene,
    queue, flags) unchanged — as an API call (`step`) and as the function itself. -/
theorem noop_txn (st : State) (hq : st.queue = []) :
    processTransaction st = st ∧ step st .processTransaction = st := by
  have : processTransaction st = st := by simp [processTransaction, hq]
  exact ⟨this, this⟩

example : (processTransaction (run init demoOps)).queue = [] := (queue_refines_scene demoOps (by decide)).2

/-- even without the early return of `processTransaction`, running the three loops of
    `processActions` over an empty list changes nothing -/
theorem noop_processActions (st : State) (hq : st.queue = []) : processActions st = st := by
  cases st with
  | mk scene queue useTxn =>
    simp only at hq
    subst hq
    simp [processActions, sortActions, runPasses, genPinMoves]

/-- **sort_irrelevant_for_scene.** On every reachable state the scene produced by the three loops of
    `processActions` does not depend on the order in which the queue is traversed: any permutation of
    the queue gives the same result as `actionList.sort()`. (So the (type, id) sort matters only for
    the order of the visibility-graph updates, which is not modelled; a mutant that drops the sort is
    not observable through the scene.) -/
theorem sort_irrelevant_for_scene (st : State) (h : Inv st) (l : List Action) (hp : l.Perm st.queue) :
    view (runPasses st.scene l) = view (processActions st).scene :=
  (view_runPasses_perm st h.uniq hp).trans (view_processActions st h).symm

example : Inv (run init (demoOps.take 16)) := queue_invariant _ (by decide)

/-- **immediate_mode.** With transactions off (`setTransactionUse(false)`) and nothing queued, every
    legal call is processed at once: afterwards nothing is queued and the router shows the previous
    scene edited by exactly that call. -/
theorem immediate_mode (st : State) (op : Op) (h : Inv st) (hq : st.queue = []) (hoff : st.useTxn = false)
    (hl : legal st op = true) :
    (step st op).queue = [] ∧ view (step st op).scene = applyOp (view st.scene) op :=
  immediate_step st op h hq hoff hl

/-- … and therefore op by op along a whole history made with transactions off from the start -/
theorem immediate_mode_run (ops : List Op) (hl : legalRun init (.setTransactionUse false :: ops) = true)
    (hno : ∀ op ∈ ops, op ≠ .setTransactionUse true) :
    (run init (.setTransactionUse false :: ops)).queue = [] ∧
      view (run init (.setTransactionUse false :: ops)).scene = applyOps AScene.empty ops := by
  simp only [legalRun, Bool.and_eq_true] at hl
  exact immediate_run ops (step init (.setTransactionUse false)) (step_spec init _ inv_init hl.1).1 rfl rfl hl.2 hno

example : legalRun init (.setTransactionUse false :: demoOps) = true := by decide

/-- **The corner of immediate mode** (checked against the C++ by the harness class
    `txn-off-pending`): if transactions are switched off while an Add is still queued, a move of that
    shape is folded into the Add and `moveShape` returns BEFORE its
    `if (!m_consolidate_actions) processTransaction()` tail (router.cpp:382-389) — so, although
    transactions are off, the call is not processed: the shape stays inactive and the Add queued.
    (The final scene is still the immediate one: `queue_refines_scene`.) -/
theorem immediate_mode_fold_corner :
    let ops : List Op := [ .addObst false 1 [⟨0, 0⟩, ⟨4, 0⟩, ⟨4, 4⟩, ⟨0, 4⟩], .setTransactionUse false,
                           .moveRel false 1 10 0 ]
    legalRun init ops = true ∧ (run init ops).useTxn = false ∧ (run init ops).queue.length = 1 ∧
      (run init ops).scene.obsts.map (·.active) = [false] := by
  decide

/-! ### connector ends attached to connection pins: the pin-move refresh inside `processActions` -/

/-- **pin_move_never_overwrites.** The consolidation rule of `ActionInfo::addConnEndUpdate`: with
    `isConnPinMoveUpdate = true` a list that already holds a change to that end is left EXACTLY as it is
    (whatever the update carries); with `false` (a user change) the end gets the new ConnEnd. -/
theorem pin_move_never_overwrites (us : List (End × CEnd)) (e : End) (p : CEnd) (h : ∃ u ∈ us, u.1 = e) :
    addConnEndUpdate us e p true = us := by
  unfold addConnEndUpdate
  have : us.any (·.1 == e) = true := by
    obtain ⟨u, hu, he⟩ := h
    exact List.any_eq_true.2 ⟨u, hu, by simp [he]⟩
  simp [this]

example : addConnEndUpdate [(End.src, CEnd.pin 2 1)] .src (CEnd.pin 1 1) true = [(End.src, CEnd.pin 2 1)] ∧
    addConnEndUpdate [(End.src, CEnd.pin 2 1)] .src (CEnd.pin 1 1) false = [(End.src, CEnd.pin 1 1)] := by decide

/-- … and a user change always ends up as the value applied to that end -/
theorem user_change_overwrites (us : List (End × CEnd)) (k : Conn) (e : End) (p : CEnd)
    (hd : us.Pairwise fun u v => u.1 ≠ v.1) :
    (k.applyUpdates (addConnEndUpdate us e p false)).getEnd e = some p := by
  rw [applyUpdates_addConnEndUpdate us k e p hd]
  cases e <;> rfl

/-- **pin_moves_preserve_view.** On every reachable state: the pin-move updates that the first loop of
    `processActions` queues (`ShapeRef::moveAttachedConns` / `JunctionRef::moveAttachedConns` for every connector
    end attached to a moved obstacle, merged into the list being traversed with `isConnPinMoveUpdate = true`)
    change NOTHING of what the transaction shows: same obstacles, same connector ends as the three loops
    over the user's queue alone — a user change of the same end queued in this transaction stays in force, and
    an end without one keeps the attachment it has. Hence the flush theorem: the router shows what the user's
    queue promised. -/
theorem pin_moves_preserve_view (st : State) (h : Inv st) :
    view (runPasses st.scene (genPinMoves st.scene (sortActions st.queue)))
        = view (runPasses st.scene (sortActions st.queue)) ∧
      (runPasses st.scene (genPinMoves st.scene (sortActions st.queue))).obsts
        = (runPasses st.scene (sortActions st.queue)).obsts ∧
      view (processActions st).scene = pending st :=
  ⟨view_runPasses_genPinMoves st.scene h.connFind _, obsts_runPasses_genPinMoves _ _, view_processActions st h⟩

/-- **pin_refresh_complete.** Every connector end attached to an obstacle that the transaction MOVES has an
    update in the list the last loop of `processActions` runs over (`genPinMoves` of the sorted queue): either the
    user's queued change of that end or the refresh appended by `moveAttachedConns`. So every end that
    `Obstacle::makeInactive` turned into a manual point in the first loop (the transient state this model does
    not represent) is set again by `updateEndPoint` in the last loop — and by `pin_moves_preserve_view` to the
    right thing. (A C++ change that drops such a refresh breaks the scene tie.) -/
theorem pin_refresh_complete (st : State) (a : Action) (ha : a ∈ st.queue) (hk : a.kind = .move)
    (t : Nat × End × CEnd) (ht : t ∈ attachedEnds st.scene a.id) :
    Covered (genPinMoves st.scene (sortActions st.queue)) t.1 t.2.1 :=
  genPinMoves_covers st.scene _ a (mem_sort.2 ha) hk t ht

/-- **pin_refresh_any_order.** The same for ANY sequence of pin-move updates each of which carries an end that
    a connector of the scene currently has — any visiting order of `Obstacle::m_following_conns` (a
    `std::set<ConnEnd *>`, i.e. heap-address order in the C++), any order of the moved obstacles, repetitions:
    merged into ANY action list `q` they leave what the three loops show unchanged. So the address-dependent
    order of the refresh cannot influence the result. -/
theorem pin_refresh_any_order (st : State) (h : Inv st) (ts : List (Nat × End × CEnd)) (hts : EndsOfScene st.scene ts)
    (q : List Action) :
    view (runPasses st.scene (ts.foldl (fun q t => modifyConnector q t.1 t.2.1 t.2.2 true) q))
      = view (runPasses st.scene q) :=
  view_runPasses_refresh st.scene h.connFind ts hts q

/-- **user_retarget_wins.** In every legal history: once the user has set end `e` of connector `c` to `p`
    (a free point, or a pin class of any obstacle) and does not set that same end again, then — whatever else
    the history does before and after, in the same transaction or in later ones, in either call order: moves
    / resizes of the obstacle the end WAS attached to, of the obstacle it is NOW attached to, deletions,
    other connectors' changes, transactions on or off — after every call the queue promises, and after
    `processTransaction()` the router shows, exactly `p` at that end. In particular the internal pin-move
    refresh of a moved shape never replaces the user's re-target by the old attachment. -/
theorem user_retarget_wins (ops1 ops2 : List Op) (c : Nat) (e : End) (p : CEnd)
    (hl : LegalHistory (ops1 ++ .setEndpoint c e p :: ops2))
    (hlast : ∀ op ∈ ops2, ∀ q, op ≠ .setEndpoint c e q) :
    (((pending (run init (ops1 ++ .setEndpoint c e p :: ops2))).conn c).map fun x => endOf x e) = some (some p) ∧
    (((view (processTransaction (run init (ops1 ++ .setEndpoint c e p :: ops2))).scene).conn c).map
        fun x => endOf x e) = some (some p) := by
  unfold LegalHistory at hl
  rw [legalRun_append, Bool.and_eq_true] at hl
  obtain ⟨hl1, hl2⟩ := hl
  simp only [legalRun, Bool.and_eq_true] at hl2
  have hi1 := (run_spec init ops1 inv_init hl1).1
  have hset := retarget_set (run init ops1) c e p hi1 hl2.1
  have hi2 := (step_spec (run init ops1) _ hi1 hl2.1).1
  have hrun := retarget_kept_run ops2 _ c e p hi2 hl2.2 hlast hset
  have e0 : run init (ops1 ++ .setEndpoint c e p :: ops2)
      = run (step (run init ops1) (.setEndpoint c e p)) ops2 := by
    rw [run_append]; rfl
  rw [e0]
  have hi3 := (run_spec _ ops2 hi2 hl2.2).1
  refine ⟨hrun, ?_⟩
  rw [(processTransaction_spec _ hi3).2.1]
  exact hrun

/-- two shapes with a pin of class 1 each, a connector from pin 1 of shape 1 to a free point, a second
    connector that stays attached to shape 1; then, in ONE transaction, shape 1 is moved and the first
    connector's source is re-targeted to shape 2 — `pinOpsA`: move first, `pinOpsB`: re-target first -/
def pinSetup : List Op :=
  [ .addObst false 1 [⟨0, 0⟩, ⟨4, 0⟩, ⟨4, 4⟩, ⟨0, 4⟩], .newPin 1 1 1 (1/2),
    .addObst false 2 [⟨20, 0⟩, ⟨24, 0⟩, ⟨24, 4⟩, ⟨20, 4⟩], .newPin 2 1 0 (1/2),
    .newConn 3, .setEndpoint 3 .src (.pin 1 1), .setEndpoint 3 .tar (.pt ⟨40, 2⟩),
    .newConn 4, .setEndpoint 4 .src (.pt ⟨-9, 9⟩), .setEndpoint 4 .tar (.pin 1 1),
    .processTransaction ]
def pinOpsA : List Op := pinSetup ++ [ .moveAbs false 1 [⟨0, 10⟩, ⟨4, 10⟩, ⟨4, 14⟩, ⟨0, 14⟩] false, .setEndpoint 3 .src (.pin 2 1) ]
def pinOpsB : List Op := pinSetup ++ [ .setEndpoint 3 .src (.pin 2 1), .moveAbs false 1 [⟨0, 10⟩, ⟨4, 10⟩, ⟨4, 14⟩, ⟨0, 14⟩] false ]

/-- non-vacuity of `pin_refresh_any_order`: ends that the connectors of that state have, in another order, one twice -/
example : ∀ t ∈ [((4 : Nat), End.tar, CEnd.pin 1 1), (3, .src, .pin 1 1), (4, .tar, .pin 1 1)],
    ∃ k ∈ (run init pinOpsA).scene.conns, k.id = t.1 ∧ k.getEnd t.2.1 = some t.2.2 := by
  decide +kernel

/-- non-vacuity of `pin_refresh_complete`: the queued move of shape 1 and an end attached to it -/
example : (∃ a ∈ (run init pinOpsA).queue, a.kind = .move ∧ a.id = 1) ∧
    ((4 : Nat), End.tar, CEnd.pin 1 1) ∈ attachedEnds (run init pinOpsA).scene 1 := by
  decide +kernel

example : LegalHistory (pinOpsA ++ [.processTransaction]) ∧ LegalHistory (pinOpsB ++ [.processTransaction]) := by decide +kernel

/-- the pin-move refresh really happens in these histories (the list the last loop runs over is not the
    user's queue: connector 4 gets an entry of its own, connector 3's entry is left alone), and the result is
    the user's re-target in both call orders; the second connector stays attached -/
example :
    genPinMoves (run init pinOpsA).scene (sortActions (run init pinOpsA).queue) ≠ sortActions (run init pinOpsA).queue ∧
    (findConn (processTransaction (run init pinOpsA)).scene 3).map (·.src) = some (some (.pin 2 1)) ∧
    (findConn (processTransaction (run init pinOpsB)).scene 3).map (·.src) = some (some (.pin 2 1)) ∧
    (findConn (processTransaction (run init pinOpsA)).scene 4).map (·.dst) = some (some (.pin 1 1)) := by decide +kernel

example : LegalHistory ((pinSetup ++ [.moveAbs false 1 [⟨0, 10⟩, ⟨4, 10⟩, ⟨4, 14⟩, ⟨0, 14⟩] false]) ++ .setEndpoint 3 .src (.pin 2 1) :: []) := by
  decide +kernel

example := (user_retarget_wins (pinSetup ++ [.moveAbs false 1 [⟨0, 10⟩, ⟨4, 10⟩, ⟨4, 14⟩, ⟨0, 14⟩] false]) [] 3 .src (.pin 2 1) (by decide +kernel) (by simp)).2

/-- a transaction that leaves a connector end attached to a deleted obstacle is outside the model's domain -/
example : ¬ LegalHistory (pinSetup ++ [.delete false 1, .processTransaction]) ∧
    LegalHistory (pinSetup ++ [.delete false 1, .setEndpoint 3 .src (.pin 2 1), .setEndpoint 4 .tar (.pt ⟨9, 9⟩),
                               .processTransaction]) := by decide +kernel

/-! ### the route validity checker used by the driver (rectangles, exact rationals) -/

/-- **route_check_sound.** If the checker accepts, the route has ≥ 2 points, starts at `src`, ends at
    `dst`, and no point of any leg lies strictly inside any of the rectangles. -/
theorem route_check_sound (rects : List Rect) (src dst : P) (route : List P)
    (h : routeValidRect rects src dst route = true) :
    route.length ≥ 2 ∧ route.head? = some src ∧ route.getLast? = some dst ∧
      ∀ (i : Nat) (hi : i + 1 < route.length), ∀ r ∈ rects, ∀ t : Rat, 0 ≤ t → t ≤ 1 →
        ¬ StrictlyInside r (lerp (route[i]'(Nat.lt_of_succ_lt hi)) (route[i + 1]'hi) t) := by
  unfold routeValidRect at h
  simp only [Bool.and_eq_true, decide_eq_true_eq] at h
  obtain ⟨⟨⟨hlen, hhead⟩, hlast⟩, hlegs⟩ := h
  exact ⟨hlen, hhead, hlast, AdaptaVerif.Lemmas.RouteRect.legsOk_sound rects route hlegs⟩

/-- **seg_check_exact.** The segment test is exact (sound and complete): it answers `true` iff some
    point of the closed segment is strictly inside the open rectangle. -/
theorem seg_check_exact (r : Rect) (p q : P) :
    segHitsOpenRect r p q = true ↔ ∃ t : Rat, 0 ≤ t ∧ t ≤ 1 ∧ StrictlyInside r (lerp p q t) :=
  AdaptaVerif.Lemmas.RouteRect.segHitsOpenRect_iff r p q

/-! ### non-vacuity: joint instances of the hypotheses of the theorems above -/

-- non-vacuity of `queue_refines_scene_from`: a reachable state with three actions queued, legal continuation
example := queue_refines_scene_from (run init (demoOps.take 16)) (queue_invariant _ (by decide)) (demoOps.drop 16) (by decide +kernel)
example : (run init (demoOps.take 16)).queue.length = 3 := by decide +kernel

-- non-vacuity of `sort_irrelevant_for_scene`: that state, the queue traversed backwards
example := sort_irrelevant_for_scene (run init (demoOps.take 16)) (queue_invariant _ (by decide))
  (run init (demoOps.take 16)).queue.reverse (List.reverse_perm _)

-- non-vacuity of `immediate_mode`: transactions off, nothing queued, a legal Add
example := immediate_mode (run init [.setTransactionUse false]) (.addObst false 1 [⟨0, 0⟩, ⟨4, 0⟩, ⟨4, 4⟩, ⟨0, 4⟩])
  (queue_invariant _ (by decide)) (by decide) (by decide) (by decide)

-- non-vacuity of `immediate_mode_run` (both hypotheses)
example := immediate_mode_run demoOps (by decide) (by decide)

-- non-vacuity of `user_change_overwrites`: an update of the other end is queued
example := user_change_overwrites [(End.tar, CEnd.pin 2 1)] { id := 3 } .src (.pt ⟨1, 2⟩) (by simp)

-- non-vacuity of `pin_moves_preserve_view`, `pin_refresh_complete`, `pin_refresh_any_order` (all hypotheses jointly) on
-- the state after `pinOpsA` (a move of shape 1 and a re-target of connector 3 queued)
example := pin_moves_preserve_view (run init pinOpsA) (queue_invariant _ (by decide +kernel))
example := pin_refresh_complete (run init pinOpsA) { kind := .move, id := 1, geom := [⟨0, 10⟩, ⟨4, 10⟩, ⟨4, 14⟩, ⟨0, 14⟩] }
  (List.mem_of_getElem? (i := 0) (by decide +kernel)) rfl (4, .tar, .pin 1 1) (by decide +kernel)
example := pin_refresh_any_order (run init pinOpsA) (queue_invariant _ (by decide +kernel))
  [(4, .tar, .pin 1 1), (3, .src, .pin 1 1), (4, .tar, .pin 1 1)] (by unfold EndsOfScene; decide +kernel) (run init pinOpsA).queue

-- non-vacuity of `route_check_sound`: a route around the box [0,2]×[0,2] is accepted, one through it is not
example : routeValidRect [⟨0, 0, 2, 2⟩] ⟨-1, 1⟩ ⟨3, 1⟩ [⟨-1, 1⟩, ⟨-1, 3⟩, ⟨3, 3⟩, ⟨3, 1⟩] = true ∧
    routeValidRect [⟨0, 0, 2, 2⟩] ⟨-1, 1⟩ ⟨3, 1⟩ [⟨-1, 1⟩, ⟨3, 1⟩] = false := by decide +kernel

end AdaptaVerif.Props.C06
