/-
C03 — libavoid: every route joins its endpoints and stays out of obstacles.
Property theorems (all inputs).  Spec: Spec/Route.lean; checkers: Check/Route.lean; model of the naive
visibility test: Model/Visibility.lean; helper lemmas: Lemmas/Route.lean, Lemmas/RouteGeom.lean, Lemmas/VisSound*.lean.

Polygons are arbitrary vertex lists (any number of vertices, either orientation).  `StrictlyInside` is
the intersection of the open half-planes of the edges, which *is* the interior exactly when the
polygon is convex (`Spec.Route.Convex`); the clipping theorems need no convexity hypothesis.
-/
import AdaptaVerif.Lemmas.RouteGeom
import AdaptaVerif.Lemmas.VisSoundConvex
import AdaptaVerif.Model.Visibility
namespace AdaptaVerif.Props.C03
open AdaptaVerif.Model.Geometry (Pt area2)
open AdaptaVerif.Check.Route AdaptaVerif.Spec.Route AdaptaVerif.Lemmas.Route
open AdaptaVerif.Model.Visibility

/-- (1a) clipping is sound: a reported hit is a real point of the segment strictly inside the polygon -/
theorem segHitsInterior_sound (poly : Poly) (p q : Pt) (h : segHitsInterior poly p q = true) :
    ∃ t : Rat, 0 ≤ t ∧ t ≤ 1 ∧ StrictlyInside poly (lerp p q t) :=
  (segHitsInterior_iff poly p q).mp h

example : ∃ t : Rat, 0 ≤ t ∧ t ≤ 1 ∧ StrictlyInside (rectPoly 1 1 2 2) (lerp ⟨0, 0⟩ ⟨3, 3⟩ t) :=
  segHitsInterior_sound _ _ _ (by decide +kernel)

/-- (1b) clipping is complete: if any point of the closed segment is strictly inside, it is reported
    (all vertex lists, any number of vertices, either orientation) -/
theorem segHitsInterior_complete (poly : Poly) (p q : Pt)
    (h : ∃ t : Rat, 0 ≤ t ∧ t ≤ 1 ∧ StrictlyInside poly (lerp p q t)) : segHitsInterior poly p q = true :=
  (segHitsInterior_iff poly p q).mpr h

/-- (1c) the same with a margin: `segHitsInteriorTol tol` decides "some point of the segment is inside
    with every edge test exceeding tol·‖edge‖₁" -/
theorem segHitsInteriorTol_correct (tol : Rat) (poly : Poly) (p q : Pt) :
    segHitsInteriorTol tol poly p q = true ↔ ∃ t : Rat, 0 ≤ t ∧ t ≤ 1 ∧ InsideBy tol poly (lerp p q t) :=
  segHitsInteriorTol_iff tol poly p q

/-- meaning of `StrictlyInside` on axis-parallel rectangles: the open rectangle -/
theorem strictlyInside_rect (x0 y0 x1 y1 : Rat) (hx : x0 < x1) (hy : y0 < y1) (p : Pt) :
    StrictlyInside (rectPoly x0 y0 x1 y1) p ↔ x0 < p.x ∧ p.x < x1 ∧ y0 < p.y ∧ p.y < y1 :=
  strictlyInside_rect_iff x0 y0 x1 y1 hx hy p

example : StrictlyInside (rectPoly 0 0 2 2) ⟨1, 1⟩ :=
  (strictlyInside_rect 0 0 2 2 (by decide +kernel) (by decide +kernel) ⟨1, 1⟩).mpr (by decide +kernel)

/-- `strictlyInside` (used for the excluded-shape list) decides `StrictlyInside` -/
theorem strictlyInside_correct (poly : Poly) (p : Pt) :
    strictlyInside poly p = true ↔ StrictlyInside poly p :=
  strictlyInside_iff poly p

/-- (2a) the exact checker accepts exactly the valid routes -/
theorem routeValid_sound (shapes : List Poly) (excl : List Nat) (src dst : Pt) (route : List Pt)
    (h : routeValid shapes excl src dst route 0 = true) : RouteValid shapes excl src dst route :=
  (routeValidTol_zero _ _ _ _ _).mp ((routeValid_iff _ _ _ _ _ 0).mp h)

example : RouteValid [rectPoly 1 1 2 2] [] ⟨0, 0⟩ ⟨3, 3⟩ [⟨0, 0⟩, ⟨1, 2⟩, ⟨3, 3⟩] :=
  routeValid_sound _ _ _ _ _ (by decide +kernel)

theorem routeValid_complete (shapes : List Poly) (excl : List Nat) (src dst : Pt) (route : List Pt)
    (h : RouteValid shapes excl src dst route) : routeValid shapes excl src dst route 0 = true :=
  (routeValid_iff _ _ _ _ _ 0).mpr ((routeValidTol_zero _ _ _ _ _).mpr h)

/-- (2b) with a shrink tolerance the checker decides the tolerant spec … -/
theorem routeValid_tol_correct (tol : Rat) (shapes : List Poly) (excl : List Nat) (src dst : Pt) (route : List Pt) :
    routeValid shapes excl src dst route tol = true ↔ RouteValidTol tol shapes excl src dst route :=
  routeValid_iff _ _ _ _ _ tol

/-- (2c) … and a rejection with tolerance ≥ 0 (what the driver reports as SPECFAIL) is a violation of
    the exact property: some leg really contains a point strictly inside a non-excluded shape, or the
    endpoints / point count are wrong. -/
theorem routeValid_reject_sound (tol : Rat) (htol : 0 ≤ tol) (shapes : List Poly) (excl : List Nat)
    (src dst : Pt) (route : List Pt) (h : routeValid shapes excl src dst route tol = false) :
    ¬ RouteValid shapes excl src dst route := by
  intro hv
  have := (routeValid_iff _ _ _ _ _ tol).mpr (routeValid_routeValidTol tol htol _ _ _ _ _ hv)
  rw [h] at this
  exact Bool.false_ne_true this

example : ¬ RouteValid [rectPoly 1 1 2 2] [] ⟨0, 0⟩ ⟨3, 3⟩ [⟨0, 0⟩, ⟨3, 3⟩] :=
  routeValid_reject_sound (1 / 1000000) (by decide +kernel) _ _ _ _ _ (by decide +kernel)

/-- (3) a polyline all of whose legs are edges (in either direction) of a graph whose edges are
    spec-unblocked, and that starts at src and ends at dst, is a valid route -/
theorem path_of_visible_edges_valid (shapes : List Poly) (excl : List Nat) (E : List (Pt × Pt))
    (hE : ∀ e ∈ E, Unblocked shapes excl e.1 e.2) (src dst : Pt) (route : List Pt)
    (hlen : 2 ≤ route.length) (hsrc : route.head? = some src) (hdst : route.getLast? = some dst)
    (hlegs : ∀ l ∈ legs route, l ∈ E ∨ (l.2, l.1) ∈ E) : RouteValid shapes excl src dst route := by
  refine ⟨hlen, hsrc, hdst, fun l hl => ?_⟩
  rcases hlegs l hl with h | h
  · exact hE l h
  · exact unblocked_symm shapes excl l.2 l.1 (hE (l.2, l.1) h)

example : RouteValid [rectPoly 1 1 2 2] [] ⟨0, 0⟩ ⟨3, 3⟩ [⟨0, 0⟩, ⟨1, 2⟩, ⟨3, 3⟩] := by
  have h : ∀ e ∈ [((⟨0, 0⟩ : Pt), (⟨1, 2⟩ : Pt)), (⟨3, 3⟩, ⟨1, 2⟩)], legHitsAny 0 [] [rectPoly 1 1 2 2] 0 e = false := by
    decide +kernel
  refine path_of_visible_edges_valid _ _ _ (fun e he => (legUnblocked_iff 0 [] _ e).mp (h e he)) _ _ _
    (by decide) rfl rfl fun l hl => ?_
  simp only [legs, List.zip_cons_cons, List.zip_nil_right, List.mem_cons, List.not_mem_nil, or_false] at hl
  rcases hl with rfl | rfl
  · left; simp
  · right; simp

/-- the witness scene: rectangle [1,2]², connector (0,0) → (3,3) -/
def witnessRect : Poly := rectPoly 1 1 2 2
def witnessSrc : VVert := connVert [witnessRect] ⟨0, 0⟩
def witnessDst : VVert := connVert [witnessRect] ⟨3, 3⟩

/-- (4) The naive visibility test of the code (`UseLeesAlgorithm = false`) is UNSOUND: it declares
    (0,0) and (3,3) mutually visible although the segment runs through the interior of the rectangle
    [1,2]² (both crossed corners are collinear with the segment, so every `segmentIntersect` is false
    and no endpoint touch is counted).  Hence "visible ⇒ spec-unblocked" is false of the code. -/
theorem visible_unsound_witness :
    visible true [witnessRect] witnessSrc witnessDst = true ∧
    visible false [witnessRect] witnessSrc witnessDst = true ∧
    segHitsInterior witnessRect witnessSrc.pt witnessDst.pt = true := by
  decide +kernel

/-- … stated against the spec: the model-visible pair is not spec-unblocked -/
theorem visible_not_sound :
    ¬ (∀ (ign : Bool) (shapes : List Poly) (a b : VVert),
        visible ign shapes a b = true → Unblocked shapes [] a.pt b.pt) := by
  intro h
  have hu := h true [witnessRect] witnessSrc witnessDst visible_unsound_witness.1
  exact hu 0 (by decide) (by simp) ((segHitsInterior_iff _ _ _).mp visible_unsound_witness.2.2)

/-! ### soundness of the naive visibility test away from its weakness

Full statement of the design (`visible_sound_partial`): for every scene of convex polygons and every pair
(i, j) such that no vertex of a shape lies in the open segment and neither end is strictly inside a
non-exempt shape, `visible ⇒ ¬ segHitsInterior` for every non-exempt shape.

Proved below:
* `visible_sound_boundaryChar_partial` — for every shape whose edge list has the boundary
  characterisation `BoundaryChar` (a point on an edge line and on the inner side of all edges lies on that
  closed edge; every edge starts where another ends).  This is the whole geometric argument.
* `visible_sound_partial` instantiates it for every strictly convex counter-clockwise polygon (every
  corner a strict left turn, `ConvexCycle`), any number of vertices; its conclusion speaks about the
  counter-clockwise interior (`InsideOriented 1`, resp. `segHitsOriented 1 0`), because excluding a
  clockwise interior for such a polygon needs a global argument that is not proved.
* `visible_sound_rect_partial` — for axis-parallel rectangles (`BoundaryChar` proved), with the conclusion
  in terms of the C03 checker `segHitsInterior`.
Interior-disjointness of the shapes is not needed (the argument is per shape). -/

open AdaptaVerif.Lemmas.VisSound in
/-- the shapes `firstBlocker` skips for the pair (i, j): those containing a connector endpoint -/
def exempt (i j : VVert) : List Nat :=
  (if i.isConn then i.contains else []) ++ (if j.isConn then j.contains else [])

open AdaptaVerif.Lemmas.VisSound in
theorem visible_shapeBlocks_false (ign : Bool) (shapes : List Poly) (i j : VVert)
    (hvis : visible ign shapes i j = true) (k : Nat) (hk : k < shapes.length) (hex : k ∉ exempt i j) :
    shapeBlocks shapes[k] i.pt j.pt = false := by
  unfold visible at hvis
  simp only [Bool.and_eq_true, Option.isNone_iff_eq_none] at hvis
  exact firstBlockerFrom_none _ i.pt j.pt shapes 0 hvis.2 k hk (by simpa [exempt] using hex)

open AdaptaVerif.Lemmas.VisSound in
/-- general form: any shape whose edge list has the boundary characterisation -/
theorem visible_sound_boundaryChar_partial (ign : Bool) (shapes : List Poly) (i j : VVert)
    (hvis : visible ign shapes i j = true) (k : Nat) (hk : k < shapes.length) (hex : k ∉ exempt i j)
    (hB : BoundaryChar (AdaptaVerif.Model.Geometry.edges shapes[k]))
    (ha : ∃ e ∈ AdaptaVerif.Model.Geometry.edges shapes[k], F e i.pt ≤ 0)
    (hb : ∃ e ∈ AdaptaVerif.Model.Geometry.edges shapes[k], F e j.pt ≤ 0)
    (hnov : ∀ e ∈ AdaptaVerif.Model.Geometry.edges shapes[k], ∀ t : Rat, 0 < t → t < 1 →
      lerp i.pt j.pt t ≠ e.1 ∧ lerp i.pt j.pt t ≠ e.2) :
    ¬ ∃ t : Rat, 0 ≤ t ∧ t ≤ 1 ∧ ∀ e ∈ AdaptaVerif.Model.Geometry.edges shapes[k], 0 < F e (lerp i.pt j.pt t) := by
  rintro ⟨t, h0, h1, hm⟩
  have hf := visible_shapeBlocks_false ign shapes i j hvis k hk hex
  have ht := shapeBlocksGo_of_interior _ hB i.pt j.pt t h0 h1 hm ha hb hnov
  unfold shapeBlocks at hf
  rw [ht] at hf
  exact Bool.noConfusion hf

open AdaptaVerif.Lemmas.VisSound in
/-- The design's `visible_sound_partial` for strictly convex counter-clockwise polygons of any size:
    if the naive test calls i–j visible then no point of the segment is strictly inside a non-exempt shape
    — provided no vertex of that shape lies in the open segment and neither end is strictly inside it.
    (`_partial`: the conclusion is about the counter-clockwise interior; see the note above.) -/
theorem visible_sound_partial (ign : Bool) (shapes : List Poly) (i j : VVert)
    (hvis : visible ign shapes i j = true) (k : Nat) (hk : k < shapes.length) (hex : k ∉ exempt i j)
    (hlen : 3 ≤ shapes[k].length) (hC : ConvexCycle (polyEdges shapes[k]))
    (ha : ¬ InsideOriented 1 0 shapes[k] i.pt) (hb : ¬ InsideOriented 1 0 shapes[k] j.pt)
    (hnov : ∀ v ∈ shapes[k], ∀ t : Rat, 0 < t → t < 1 → lerp i.pt j.pt t ≠ v) :
    segHitsOriented 1 0 shapes[k] i.pt j.pt = false :=
  segHitsOriented_false_of_loop _ hlen (boundaryChar_of_convexCycle _ hC) _ _
    (shapeBlocks_eq _ _ _ ▸ visible_shapeBlocks_false ign shapes i j hvis k hk hex) ha hb hnov

open AdaptaVerif.Lemmas.VisSound in
/-- rectangles: if the naive test of the code calls i–j visible, the segment does not enter any
    non-exempt rectangle — provided no corner of it lies in the open segment (the known weakness,
    `visible_unsound_witness`) and neither end is strictly inside it. -/
theorem visible_sound_rect_partial (ign : Bool) (shapes : List Poly) (i j : VVert)
    (hvis : visible ign shapes i j = true) (k : Nat) (hk : k < shapes.length) (hex : k ∉ exempt i j)
    (x0 y0 x1 y1 : Rat) (hx : x0 < x1) (hy : y0 < y1) (hrect : shapes[k] = rectPoly x0 y0 x1 y1)
    (ha : ¬ StrictlyInside shapes[k] i.pt) (hb : ¬ StrictlyInside shapes[k] j.pt)
    (hnov : ∀ v ∈ shapes[k], ∀ t : Rat, 0 < t → t < 1 → lerp i.pt j.pt t ≠ v) :
    segHitsInterior shapes[k] i.pt j.pt = false := by
  have h1 := visible_sound_partial ign shapes i j hvis k hk hex (hrect ▸ rectPoly_length x0 y0 x1 y1)
    (hrect ▸ rect_convexCycle x0 y0 x1 y1 hx hy) (fun h => ha (Or.inl h)) (fun h => hb (Or.inl h)) hnov
  rw [hrect] at h1 ⊢
  rw [segHitsInterior_rect x0 y0 x1 y1 hx hy, h1]

-- non-vacuity: rectangle [1,2]², the pair (0,0)–(3,0) is visible and all hypotheses hold
example : segHitsInterior witnessRect (⟨0, 0⟩ : Pt) ⟨3, 0⟩ = false := by
  have hv : visible true [witnessRect] (connVert [witnessRect] ⟨0, 0⟩) (connVert [witnessRect] ⟨3, 0⟩) = true := by
    decide +kernel
  refine visible_sound_rect_partial true [witnessRect] (connVert [witnessRect] ⟨0, 0⟩) (connVert [witnessRect] ⟨3, 0⟩)
    hv 0 (by decide) (by decide +kernel) 1 1 2 2 (by decide +kernel) (by decide +kernel) rfl ?_ ?_ ?_
  · exact (strictlyInside_iff _ _).not.mp (by decide +kernel)
  · exact (strictlyInside_iff _ _).not.mp (by decide +kernel)
  · exact fun v hv t _ _ => lerp_ne_of_y _ _ v t rfl ((by decide +kernel : ∀ v ∈ witnessRect, v.y ≠ 0) v hv)

-- non-vacuity of `visible_sound_partial` (all hypotheses jointly; through it also of
-- `visible_sound_boundaryChar_partial` and `visible_shapeBlocks_false`): the counter-clockwise triangle
-- (0,0),(4,0),(0,3) is a `ConvexCycle`, the pair (0,-1)–(5,-1) below it is visible, no vertex lies on that
-- segment, neither end is inside; and the conclusion is not hollow: the oriented interior is not empty.
open AdaptaVerif.Lemmas.VisSound in
example :
    let tri : Poly := [(⟨0, 0⟩ : Pt), ⟨4, 0⟩, ⟨0, 3⟩]
    segHitsOriented 1 0 tri ⟨0, -1⟩ ⟨5, -1⟩ = false ∧ InsideOriented 1 0 tri ⟨1, 1⟩ := by
  intro tri
  have hC : ConvexCycle (polyEdges tri) := ⟨by decide +kernel, by decide +kernel, by decide +kernel⟩
  have hout : ∀ p : Pt, p.y = -1 → ¬ InsideOriented 1 0 tri p := by
    intro p hp h
    have := h.2 (⟨0, 0⟩, ⟨4, 0⟩) (by simp [tri, polyEdges])
    simp [area2, hp] at this
    linarith
  refine ⟨visible_sound_partial true [tri] (connVert [tri] ⟨0, -1⟩) (connVert [tri] ⟨5, -1⟩)
    (by decide +kernel) 0 (by decide) (by decide +kernel) (by decide) hC (hout _ rfl) (hout _ rfl) ?_,
    by decide, ?_⟩
  · exact fun v hv t _ _ => lerp_ne_of_y _ _ v t rfl ((by decide +kernel : ∀ v ∈ tri, v.y ≠ -1) v hv)
  · intro e he
    simp only [tri, polyEdges, List.cons_append, List.nil_append, List.zip_cons_cons, List.zip_nil_right,
        List.mem_cons, List.not_mem_nil, or_false] at he
    rcases he with rfl | rfl | rfl <;> decide +kernel

end AdaptaVerif.Props.C03
