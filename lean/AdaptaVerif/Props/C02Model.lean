/-
Property C02, model side: theorems about the Rat model of the incremental VPSC solver
(`Model/Vpsc.lean`, tied to the C++ by the C01 correspondence) against the QP specification
`Spec/Qp.lean`.

`problemOf st` is the quadratic program a model state stands for (all its variables and all the
constraints known to the solver); `lamOf st j` is the *tree multiplier* of constraint `j`: the sum of
`q x = dfdv_x / scale_x = 2·w_x·(pos_x − d_x)/s_x` over the variables on the right-hand side of `j` in
the active tree of its block (0 for constraints that are not active).

"returns ⇒ optimum" is FALSE of the code and of the model (see the `f1Witness` `#guard`s at the end: the loop
of `IncSolver::solve` stops on an unchanged cost); what holds is "quiescent ⇒ optimum".
-/
import AdaptaVerif.Lemmas.VpscKktOpt
import AdaptaVerif.Lemmas.VpscKktDfdv
import AdaptaVerif.Lemmas.VpscKktFresh
import AdaptaVerif.Lemmas.VpscFinal
import AdaptaVerif.Lemmas.VpscNonVac
import AdaptaVerif.Props.C02
namespace AdaptaVerif.Props.C02Model
open AdaptaVerif.Model.Vpsc
open AdaptaVerif.Lemmas.VpscInv AdaptaVerif.Lemmas.VpscKkt AdaptaVerif.Lemmas.VpscKktOpt
open AdaptaVerif.Spec.Qp (sumTo Problem KKT KKTeps Feasible IsOptimum WF cost ineqSlackSum)
open AdaptaVerif.Lemmas.Qp

theorem problemOf_wf (st : St) (hinv : Inv st) (hw : ∀ i : Nat, i < st.vars.size → 0 < (st.vars[i]!).weight) :
    WF (problemOf st) := by
  refine ⟨hw, fun c hc => ?_⟩
  obtain ⟨j, hj, rfl⟩ := mem_problemOf_cons hc
  exact ⟨hinv.l_lt j hj, hinv.r_lt j hj⟩

/-- **stationarity of the tree multipliers**: in every state that satisfies the block invariant
    (C01 `block_inv`: every reachable state) and whose blocks sit at their stationary position
    (`Σ_{x∈block} q x = 0`, i.e. `posn = (AD − AB)/A2`), the tree multipliers solve the stationarity
    equations of the weighted least-squares objective at every variable:
    `2·w_v·(pos_v − d_v)/s_v = Σ_{active j, r_j = v} λ_j − Σ_{active j, l_j = v} λ_j`. -/
theorem tree_multipliers_stationary (st : St) (hinv : Inv st) (hstat : BlockStationary st)
    (v : Nat) (hv : v < st.vars.size) :
    sumTo st.cons.size (fun j => if (st.cons[j]!).active = true ∧ (st.cons[j]!).r = v
        then lamOf st j else 0) -
    sumTo st.cons.size (fun j => if (st.cons[j]!).active = true ∧ (st.cons[j]!).l = v
        then lamOf st j else 0) = qOf st v :=
  mult_stationary hinv (qOf st) hstat v hv

/-- **quiescent_is_optimum** (tolerance 0): a state satisfying the block invariant, with blocks at
    their stationary positions, in which every constraint holds exactly and no active inequality has a
    negative multiplier (nothing to merge, nothing to split) satisfies `KKT` of `Spec/Qp.lean` with the
    tree multipliers; hence its positions are THE optimum of the problem (for all n, m, data; positive
    weights, non-zero scales). -/
theorem quiescent_is_optimum (st : St) (hinv : Inv st)
    (hw : ∀ i : Nat, i < st.vars.size → 0 < (st.vars[i]!).weight)
    (hs : ∀ i : Nat, i < st.vars.size → (st.vars[i]!).scale ≠ 0)
    (hstat : BlockStationary st) (hq : Quiescent 0 st) :
    KKT (problemOf st) st.pos (lamList st) ∧
    IsOptimum (problemOf st) st.pos ∧
    ∀ y, IsOptimum (problemOf st) y → ∀ i, i < st.vars.size → y i = st.pos i := by
  have hk : KKT (problemOf st) st.pos (lamList st) :=
    (kkt_iff_eps0 _ _ _).2 (kktEps_of_quiescent 0 st hinv (le_refl 0) hs hstat hq)
  exact ⟨hk, kkt_optimum_unique (problemOf_wf st hinv hw) hk⟩

open AdaptaVerif.Lemmas.VpscNonVac in
/-- non-vacuity of `quiescent_is_optimum`: every hypothesis holds on `nvSt` (Lemmas/VpscNonVac.lean: the
    state `IncSolver(vs, cs)` + merge across `x0 + 2 == x1` reaches; scales 1 and 2, one active constraint);
    the scale hypothesis is the in-range form — the unbounded form is false on every state
    (`nvSt_scale_unbounded_false`) -/
example : ∃ st : St, Inv st ∧ (∀ i : Nat, i < st.vars.size → 0 < (st.vars[i]!).weight) ∧
    (∀ i : Nat, i < st.vars.size → (st.vars[i]!).scale ≠ 0) ∧ BlockStationary st ∧ Quiescent 0 st ∧
    (∃ j, j < st.cons.size ∧ (st.cons[j]!).active = true) ∧ ¬ ∀ i : Nat, (st.vars[i]!).scale ≠ 0 :=
  ⟨nvSt, nvSt_inv, nvSt_weight, nvSt_scale, nvSt_stationary, nvSt_quiescent 0,
    ⟨0, by rw [nvSt_cons]; decide, by rw [nvSt_cons]; rfl⟩, nvSt_scale_unbounded_false⟩
open AdaptaVerif.Lemmas.VpscNonVac in
example := quiescent_is_optimum nvSt nvSt_inv nvSt_weight nvSt_scale nvSt_stationary (nvSt_quiescent 0)

/-- **ε-version** (what the solver's own split test `lm < LAGRANGIAN_TOLERANCE` can promise; take
    `eps = 1e-4 = −LAGRANGIAN_TOLERANCE`): if no active inequality has a multiplier below `−eps`, the
    positions satisfy `KKTeps eps`, cost at most `eps · Σ slack(y)` above any feasible `y`, and lie
    within the `eps_kkt_distance` bound of any exact KKT point. -/
theorem quiescent_is_eps_optimum (eps : Rat) (heps : 0 ≤ eps) (st : St) (hinv : Inv st)
    (hw : ∀ i : Nat, i < st.vars.size → 0 < (st.vars[i]!).weight)
    (hs : ∀ i : Nat, i < st.vars.size → (st.vars[i]!).scale ≠ 0)
    (hstat : BlockStationary st) (hq : Quiescent eps st) :
    KKTeps eps (problemOf st) st.pos (lamList st) ∧
    (∀ y, Feasible (problemOf st) y →
      cost (problemOf st) st.pos ≤ cost (problemOf st) y + eps * ineqSlackSum (problemOf st) y) ∧
    (∀ xs lams, KKT (problemOf st) xs lams →
      sumTo st.vars.size (fun i => (st.vars[i]!).weight * ((st.pos i - xs i) * (st.pos i - xs i))) ≤
        eps * ineqSlackSum (problemOf st) xs) := by
  have hk := kktEps_of_quiescent eps st hinv heps hs hstat hq
  have hWF := problemOf_wf st hinv hw
  exact ⟨hk, C02.kkt_sufficient_eps eps _ hWF _ _ hk,
    fun xs lams hxs => C02.eps_kkt_distance eps _ hWF xs lams hxs _ _ hk⟩

open AdaptaVerif.Lemmas.VpscNonVac in
/-- non-vacuity of `quiescent_is_eps_optimum` (eps = 1e-4 = −LAGRANGIAN_TOLERANCE) on `nvSt` -/
example : ∃ (eps : Rat) (st : St), 0 ≤ eps ∧ Inv st ∧
    (∀ i : Nat, i < st.vars.size → 0 < (st.vars[i]!).weight) ∧
    (∀ i : Nat, i < st.vars.size → (st.vars[i]!).scale ≠ 0) ∧ BlockStationary st ∧ Quiescent eps st :=
  ⟨1 / 10000, nvSt, by norm_num, nvSt_inv, nvSt_weight, nvSt_scale, nvSt_stationary, nvSt_quiescent _⟩
open AdaptaVerif.Lemmas.VpscNonVac in
example := quiescent_is_eps_optimum (1 / 10000) (by norm_num) nvSt nvSt_inv nvSt_weight nvSt_scale
  nvSt_stationary (nvSt_quiescent _)

open AdaptaVerif.Lemmas.VpscKktDfdv in
/-- **dfdv_is_multiplier**: on a state satisfying the block invariant with blocks at their stationary
    position, the tree recursion `compute_dfdv` started at any variable `v0` of a block (as
    `Block::findMinLM` / `findMinLMBetween` do with `vars->front()`), if it does not run out of fuel,
    (a) returns 0 for the root — the block as a whole is stationary —, (b) assigns to every active
    constraint of the block exactly the tree multiplier `lamOf st j`, and (c) leaves every other entry
    of `lm` unchanged (or sets it to its own tree multiplier).  By `tree_multipliers_stationary` these are
    the multipliers that balance `2·w·(pos − desired)` at every variable of the block.
    (All n, m, data, scales ≠ 0; `lm` any array with one entry per constraint.) -/
theorem dfdv_is_multiplier (st : St) (hinv : Inv st) (hstat : BlockStationary st)
    (hs : ∀ i : Nat, i < st.vars.size → (st.vars[i]!).scale ≠ 0)
    (bid fuel : Nat) (lm : Array Rat) (post : Array Nat) (v0 : Nat)
    (hv0 : v0 < st.vars.size) (hb : blk st.vars v0 = bid) (hsz : lm.size = st.cons.size)
    (hok : (computeDfdv st bid fuel lm post v0 none).2.2.2 = true) :
    (computeDfdv st bid fuel lm post v0 none).2.2.1 = 0 ∧
    (∀ j : Nat, j < st.cons.size → (st.cons[j]!).active = true → blk st.vars (st.cons[j]!).l = bid →
      (computeDfdv st bid fuel lm post v0 none).1[j]! = lamOf st j) ∧
    (∀ j : Nat, (computeDfdv st bid fuel lm post v0 none).1[j]! = lm[j]! ∨
      ((st.cons[j]!).active = true ∧ (computeDfdv st bid fuel lm post v0 none).1[j]! = lamOf st j)) := by
  have sp := dfdv_spec hinv hstat hs bid fuel lm post v0 none st.cons.size
    (Or.inl ⟨rfl, le_refl _⟩) hv0 hb hsz hok
  refine ⟨?_, fun j hj ha hbl => ?_, sp.keep⟩
  · rw [sp.val, sideSum_root hinv _ (le_refl _) hv0]
    exact hstat _
  · have hbr : blk st.vars (st.cons[j]!).r = bid := (hinv.tight j hj ha).1 ▸ hbl
    exact sp.done j ⟨Nat.ne_of_lt hj, _, _, ⟨hj, ha, Or.inl ⟨rfl, rfl⟩⟩,
      reachAvoid_of_le (le_refl _) (hinv.conn _ _ hv0 (hinv.l_lt j hj) (hb.trans hbl.symm)),
      reachAvoid_of_le (le_refl _) (hinv.conn _ _ hv0 (hinv.r_lt j hj) (hb.trans hbr.symm))⟩

open AdaptaVerif.Lemmas.VpscNonVac in
/-- non-vacuity of `dfdv_is_multiplier`: on `nvSt`, block 0, started at its front variable 0 with fuel
    `n + 1 = 3` and `lm = #[0]`, all hypotheses hold (the recursion follows the active constraint 0) -/
example : ∃ (st : St) (bid fuel : Nat) (lm : Array Rat) (post : Array Nat) (v0 : Nat),
    Inv st ∧ BlockStationary st ∧ (∀ i : Nat, i < st.vars.size → (st.vars[i]!).scale ≠ 0) ∧
    v0 < st.vars.size ∧ blk st.vars v0 = bid ∧ lm.size = st.cons.size ∧
    (computeDfdv st bid fuel lm post v0 none).2.2.2 = true ∧
    (∃ j, j < st.cons.size ∧ (st.cons[j]!).active = true ∧ blk st.vars (st.cons[j]!).l = bid) :=
  ⟨nvSt, 0, 3, #[0], #[], 0, nvSt_inv, nvSt_stationary, nvSt_scale, by rw [nvSt_vars]; decide,
    by rw [blk, nvSt_vars]; rfl, by rw [nvSt_cons]; rfl, nvSt_dfdv_ok,
    ⟨0, by rw [nvSt_cons]; decide, by rw [nvSt_cons]; rfl, by rw [blk, nvSt_cons, nvSt_vars]; rfl⟩⟩
open AdaptaVerif.Lemmas.VpscNonVac in
example := dfdv_is_multiplier nvSt nvSt_inv nvSt_stationary nvSt_scale 0 3 #[0] #[] 0
  (by rw [nvSt_vars]; decide) (by rw [blk, nvSt_vars]; rfl) (by rw [nvSt_cons]; rfl) nvSt_dfdv_ok

open AdaptaVerif.Lemmas.VpscKktFresh in
/-- **block position = (AD − AB)/A2 is the stationarity of the block as a whole**: a block whose record
    holds the position `Block::updateWeightedPosition` computes from a member list enumerating exactly
    the variables of the block satisfies `Σ_{x∈block} 2·w_x·(pos_x − d_x)/s_x = 0`.
    (`BlockStationary st` = this for every block.  That the member lists are exact and the positions
    fresh at a normal return is not part of C01's `Inv`: it is the hypothesis `hstat` of the theorems
    here.  Of the two, the executable `St.invOk`, which the C01 driver evaluates on every model state it
    visits, checks the member lists; that `posn` is fresh is not among its checks.) -/
theorem block_posn_is_stationarity (st : St) (b : Nat) (members : Array Nat)
    (hmem : ∀ x : Nat, x < st.vars.size → (x ∈ members ↔ blk st.vars x = b))
    (hlt : ∀ x ∈ members, x < st.vars.size) (hnd : members.toList.Nodup)
    (hB : ((st.blocks[b]!).scale, (st.blocks[b]!).posn) = blockPosn st.vars members)
    (hs : ∀ i : Nat, i < st.vars.size → (st.vars[i]!).scale ≠ 0)
    (hA2 : AdaptaVerif.Spec.Qp.listSum (fun i => (st.vars[i]!).weight *
        ((st.vars[members[0]!]!).scale / (st.vars[i]!).scale) *
        ((st.vars[members[0]!]!).scale / (st.vars[i]!).scale)) members.toList ≠ 0) :
    blockSum st.vars (qOf st) b = 0 := by
  rw [blockPosn_eq] at hB
  obtain ⟨hS, hP⟩ := Prod.mk.inj hB
  have hne : 0 < members.size := Nat.pos_of_ne_zero fun h0 =>
    hA2 (by rw [Array.eq_empty_of_size_eq_zero h0]; rfl)
  have hS0 : (st.vars[members[0]!]!).scale ≠ 0 :=
    hs _ (hlt _ (by rw [getElem!_pos members 0 hne]; exact Array.getElem_mem hne))
  -- the block sum as a sum over the member list
  have h1 : blockSum st.vars (qOf st) b = AdaptaVerif.Spec.Qp.listSum (qOf st) members.toList := by
    rw [listSum_indicator st.vars.size _ _ hnd fun a ha => hlt a (Array.mem_toList_iff.mp ha)]
    exact sumTo_congr fun x hx => if_congr ((hmem x hx).symm.trans Array.mem_toList_iff.symm) rfl rfl
  rw [h1]
  -- each term in the (a, b, d) form of PositionStats
  refine listSum_stationary members.toList _ _ _ (qOf st) (2 / (st.vars[members[0]!]!).scale)
    (st.blocks[b]!).posn (fun x hx => ?_) hP hA2
  have hx' := Array.mem_toList_iff.mp hx
  have hxb : (st.vars[x]!).block = b := (hmem x (hlt x hx')).1 hx'
  simp only [qOf, St.dfdv, St.pos, posOf, hxb, hS]
  exact q_term (hs x (hlt x hx')) hS0

open AdaptaVerif.Lemmas.VpscNonVac in
/-- non-vacuity of `block_posn_is_stationarity`: block 0 of `nvSt` with member list `#[0, 1]` (scales 1, 2;
    A2 = 5/4, posn = −2/5) satisfies every hypothesis -/
example : ∃ (st : St) (b : Nat) (members : Array Nat),
    (∀ x : Nat, x < st.vars.size → (x ∈ members ↔ blk st.vars x = b)) ∧
    (∀ x ∈ members, x < st.vars.size) ∧ members.toList.Nodup ∧
    ((st.blocks[b]!).scale, (st.blocks[b]!).posn) = blockPosn st.vars members ∧
    (∀ i : Nat, i < st.vars.size → (st.vars[i]!).scale ≠ 0) ∧
    AdaptaVerif.Spec.Qp.listSum (fun i => (st.vars[i]!).weight *
        ((st.vars[members[0]!]!).scale / (st.vars[i]!).scale) *
        ((st.vars[members[0]!]!).scale / (st.vars[i]!).scale)) members.toList ≠ 0 :=
  ⟨nvSt, 0, #[0, 1], nvSt_members, nvSt_members_lt, by decide, nvSt_posn, nvSt_scale, nvSt_A2⟩
open AdaptaVerif.Lemmas.VpscNonVac in
example := block_posn_is_stationarity nvSt 0 #[0, 1] nvSt_members nvSt_members_lt (by decide) nvSt_posn
  nvSt_scale nvSt_A2

/-! ### "returns ⇒ optimum" is false: the premature stop of `IncSolver::solve`

Known finding C02-incsolver-stops-on-unchanged-cost, reproduced by the model on the corpus witness
(n = 6): the first `solve()` returns normally with `x2 = −7241/12 ≈ −603.42` while constraint 4 still
has multiplier `−29/3 < LAGRANGIAN_TOLERANCE` (so the state is not quiescent); a second `solve()` on the
same solver reaches the optimum `x2 = −601`.  Evaluated at every build. -/

def f1Witness : St :=
  St.init #[(0, 1, 1), (-416, 1, 1), (0, 1, 1), (-848, 1, 1), (-207, 1, 1), (181, 7, 1)]
    #[mkCon 0 5 3055 false, mkCon 2 4 995 false, mkCon 0 4 (5491 / 2) false, mkCon 3 5 1974 false,
      mkCon 3 4 (3329 / 2) false, mkCon 1 3 0 false]

/-- smallest multiplier the model's own `findMinLM` sees over all blocks of a state -/
def minLmOfBlocks (st : St) : List Rat :=
  st.moveBlocks.order.toList.filterMap fun b => (st.moveBlocks.findMinLM b).2.map fun r => r.2.1

-- `solve` returns normally …
#guard (match f1Witness.solve with | (_, .ok _ _) => true | _ => false)
-- … in a state that still has a multiplier below LAGRANGIAN_TOLERANCE (not quiescent) …
#guard (minLmOfBlocks f1Witness.solve.1).any (fun l => l < LAGRANGIAN_TOLERANCE)
-- … at a position that a second solve() changes (so the first result is not the optimum)
#guard (match f1Witness.solve, f1Witness.solve.1.solve with
        | (_, .ok p1 _), (st2, .ok p2 _) =>
          p1[2]! == (-7241 : Rat) / 12 && p2[2]! == (-601 : Rat) &&
          (minLmOfBlocks st2).all (fun l => l ≥ LAGRANGIAN_TOLERANCE)
        | _, _ => false)

-- executable form of `BlockStationary` and of quiescence on the optimum reached by the second solve
-- of the F1 witness: every block's q-sum is 0, every constraint holds, every model multiplier ≥ 0
#guard (let st := f1Witness.solve.1.solve.1
        (List.range st.blocks.size).all (fun b =>
          ((List.range st.vars.size).filter (fun x => (st.vars[x]!).block == b)).foldl
            (fun acc x => acc + st.dfdv x / (st.vars[x]!).scale) 0 == 0) &&
        st.cons.all (fun c => decide (0 ≤ st.uval c.r - c.gap - st.uval c.l)) &&
        (minLmOfBlocks st).all (fun l => l ≥ 0))

end AdaptaVerif.Props.C02Model
