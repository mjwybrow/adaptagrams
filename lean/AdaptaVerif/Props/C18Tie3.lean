/-
C18 — tie theorem for `SepPair::generateSeparationConstraint` (cola/libdialect/constraints.cpp), the function that
turns one SepPair into a `vpsc::Constraint`: as GENERATED by cpp2lean from the source on every run it is the hand
transcription `Model.Sep.SepPair.generateSeparationConstraint` (built on `genCon`) that `sat_iff_vpsc` and the
equivariance / group theorems of Props/C18.lean are about.  (seeded/C18-2 changed exactly this function.)
-/
import AdaptaVerif.Lemmas.SepBridge
import AdaptaVerif.Props.C18
namespace AdaptaVerif.Props.C18Tie3
open AdaptaVerif.Num AdaptaVerif.Model.Sep AdaptaVerif.Spec.Sep AdaptaVerif.Lemmas.SepGenBridge

/-- for every SepPair, dimension, node→variable map `cgr.id2ix`, rectangle sizes and extra boundary gap: the generated
    function returns the model's constraint with node ids replaced by variable indices (`nullptr` ↔ `none`) -/
theorem gen_generateSeparationConstraint_is_model (dim : Dim) (nvars : Nat) (sp : SepPair) (id2ix : Nat → Nat)
    (rsW rsH : Nat → Rat) (extra : Rat) :
    AdaptaVerif.Gen.SepGenK.generateSeparationConstraint dim () () nvars sp id2ix rsW rsH extra =
      (sp.generateSeparationConstraint dim extra (sizeOf id2ix rsW rsH)).map (relabel id2ix) := by
  unfold AdaptaVerif.Gen.SepGenK.generateSeparationConstraint SepPair.generateSeparationConstraint genCon relabel
    AdaptaVerif.Lemmas.SepGenBridge.sizeOf
  simp only [toRat_two]
  have hbeq : ∀ st : SepType, (st == SepType.eq) = decide (st = SepType.eq) := fun _ => rfl
  cases dim
  · by_cases hst : sp.xst = .none <;> cases hsb : sp.xgap.signbit <;> cases hgt : sp.xgt <;>
      simp [hst, hbeq]
  · by_cases hst : sp.yst = .none <;> cases hsb : sp.ygap.signbit <;> cases hgt : sp.ygt <;>
      simp [hst, hbeq]

/-- with variables numbered like the nodes (`id2ix` the identity) it IS the model function -/
theorem gen_generateSeparationConstraint_is_model_id (dim : Dim) (nvars : Nat) (sp : SepPair) (size : Nat → Dim → Rat) (extra : Rat) :
    AdaptaVerif.Gen.SepGenK.generateSeparationConstraint dim () () nvars sp id (fun i => size i .x) (fun i => size i .y) extra =
      sp.generateSeparationConstraint dim extra size := by
  rw [gen_generateSeparationConstraint_is_model]
  have hs : sizeOf id (fun i => size i .x) (fun i => size i .y) = size := by
    funext i d; cases d <;> rfl
  rw [hs]
  cases sp.generateSeparationConstraint dim extra size with
  | none => rfl
  | some c => rfl

/-- its only obligations are the two `vs[·]` accesses -/
theorem gen_generateSeparationConstraint_assertions_hold (dim : Dim) (nvars : Nat) (sp : SepPair) (id2ix : Nat → Nat)
    (rsW rsH : Nat → Rat) (extra : Rat) (hs : id2ix sp.src < nvars) (ht : id2ix sp.tgt < nvars) :
    AdaptaVerif.Gen.SepGenK.generateSeparationConstraint_pre dim () () nvars sp id2ix rsW rsH extra = true := by
  unfold AdaptaVerif.Gen.SepGenK.generateSeparationConstraint_pre
  cases dim
  · cases hsb : sp.xgap.signbit <;> simp [hs, ht]
  · cases hsb : sp.ygap.signbit <;> simp [hs, ht]

/-- `sat_iff_vpsc` stated of the function generated from the source: a placement satisfies the SepPair (the relation the
    equivariance and group theorems are about) iff the constraints the C++ function generates in x and y hold -/
theorem sat_iff_generated_vpsc (extra : Rat) (nvars : Nat) (sp : SepPair) (size : Nat → Dim → Rat) (posX posY : Nat → Rat) :
    Sat extra sp { sx := posX sp.src, sy := posY sp.src, sw := size sp.src .x, sh := size sp.src .y,
                   tx := posX sp.tgt, ty := posY sp.tgt, tw := size sp.tgt .x, th := size sp.tgt .y } ↔
    (∀ c, AdaptaVerif.Gen.SepGenK.generateSeparationConstraint .x () () nvars sp id (fun i => size i .x) (fun i => size i .y) extra = some c →
      VCon.holds c posX) ∧
    (∀ c, AdaptaVerif.Gen.SepGenK.generateSeparationConstraint .y () () nvars sp id (fun i => size i .x) (fun i => size i .y) extra = some c →
      VCon.holds c posY) := by
  rw [gen_generateSeparationConstraint_is_model_id, gen_generateSeparationConstraint_is_model_id]
  exact AdaptaVerif.Props.C18.sat_iff_vpsc extra sp size posX posY

/-- The transcription of this function inside the C14 drawing checker (`Check.Drawing.dimHolds`, clause 7 of the HOLA property)
    decides, at zero tolerance, exactly `conHolds` of the model's `genCon` — the per-dimension core of the function that the
    generated `generateSeparationConstraint` equals. So the two hand transcriptions (Model/Sep.lean, Check/Drawing.lean) and
    the source agree: for every separation type, gap type, signed-zero gap, extra boundary gap, positions and sizes. -/
theorem drawing_dimHolds_iff_generated (extra : Rat) (st : SepType) (gt : GapType) (g : SZ) (ps pt ws wt : Rat) :
    AdaptaVerif.Check.Drawing.dimHolds 0 extra (AdaptaVerif.Lemmas.SepDrawingBridge.dDim st gt g) ps pt ws wt = true ↔
      conHolds (genCon st gt g extra ws wt) ps pt := by
  rw [AdaptaVerif.Lemmas.Sep.genCon_eq]
  obtain ⟨n, m⟩ := g
  cases st <;> cases gt <;> cases n <;>
    simp [AdaptaVerif.Check.Drawing.dimHolds, conHolds, AdaptaVerif.Lemmas.SepDrawingBridge.dDim,
      AdaptaVerif.Lemmas.SepDrawingBridge.dSt, AdaptaVerif.Lemmas.SepDrawingBridge.dGt, SZ.toRat, SZ.signbit] <;> grind

end AdaptaVerif.Props.C18Tie3
