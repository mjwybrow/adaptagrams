/-
C17 — tie theorems: `floyd_warshall` as GENERATED by cpp2lean from /repo's
cola/libcola/shortest_paths.h on every run (template instantiated at `T = double`; three `for`
nests, element assignment into `T** D`, the chained assignment `D[u][v] = D[v][u] = w`,
`std::numeric_limits<T>::max()`, indexed reads of the edge vector and the weight valarray) is the
hand model `floydWarshall` that `fw_correct` (Props/C17.lean) is about — for EVERY graph, for
every content of the caller's (uninitialised) `n × n` array, with and without a weight array —
and its two assertions and all its array accesses are in bounds under the documented preconditions.
Consequently the all-pairs theorem holds of the generated function itself.  Likewise the generated
`dijkstra_init`, the relax loop, the whole `dijkstra(s, vs, d)` (run with the model's pairing heap), `johnsons`
and the top-level `dijkstra(s, n, d, es, eweights)` are the models `adj`, `relaxEdgeH`, `dijkstraHeap`,
`johnsonsHeap` that `dijkstraHeap_correct` / `johnsonsHeap_correct` are about.
-/
import AdaptaVerif.Lemmas.ShortestPathsBridge
import AdaptaVerif.Lemmas.DijkstraRelaxBridge
import AdaptaVerif.Lemmas.DijkstraBridge
import AdaptaVerif.Lemmas.JohnsonsBridge
import AdaptaVerif.Props.C17
import AdaptaVerif.Lemmas.Util.List
namespace AdaptaVerif.Props.C17Tie
open AdaptaVerif.Model.ShortestPaths AdaptaVerif.Spec.Apsp AdaptaVerif.Lemmas.Apsp
open AdaptaVerif.Lemmas.ShortestPathsBridge

/-- call with a weight array: `es[i] = (uᵢ, vᵢ)`, `eweights[i] = wᵢ` for the model graph's edge list -/
theorem gen_floyd_warshall_is_model (g : Graph) (D : Mat) (hD : Mat.WF g.n D) :
    AdaptaVerif.Gen.ShortestPathsK.floyd_warshall g.n D (esOf g.edges) (wsOf g.edges) = floydWarshall g := by
  unfold AdaptaVerif.Gen.ShortestPathsK.floyd_warshall floydWarshall fwInit
  simp only []
  rw [init_eq g.n D hD, edges_eq g.n g.edges, loop_eq]

/-- call with the default (empty) weight array: every edge has weight 1 -/
theorem gen_floyd_warshall_unit_is_model (n : Nat) (es : List (Nat × Nat)) (D : Mat) (hD : Mat.WF n D) :
    AdaptaVerif.Gen.ShortestPathsK.floyd_warshall n D es [] = floydWarshall ⟨n, unitEdges es⟩ := by
  unfold AdaptaVerif.Gen.ShortestPathsK.floyd_warshall floydWarshall fwInit
  simp only []
  rw [init_eq n D hD, edges_unit_eq n es, loop_eq]

/-- `COLA_ASSERT(eweights.size()==0 || eweights.size()==es.size())`, `COLA_ASSERT(u<n&&v<n)` hold and every
    `D[·][·]`, `es[·]`, `eweights[·]` access is in bounds, from the documented preconditions alone -/
theorem gen_floyd_warshall_assertions_hold (n : Nat) (D : Mat) (es : List (Nat × Nat)) (ws : List Dist)
    (hD : Mat.WF n D) (hw : ws.length = 0 ∨ ws.length = es.length) (hes : ∀ e ∈ es, e.1 < n ∧ e.2 < n) :
    AdaptaVerif.Gen.ShortestPathsK.floyd_warshall_pre n D es ws = true := by
  unfold AdaptaVerif.Gen.ShortestPathsK.floyd_warshall_pre
  simp only [Bool.and_true, Bool.and_eq_true, Bool.or_eq_true, decide_eq_true_eq]
  obtain ⟨p1, hinit⟩ := AdaptaVerif.Lemmas.GenLoopBridge.forRange_zero_keeps (Mat.WF n) _ _ n D hD (fun i D' hi h => body2_ok i hi D' h)
  obtain ⟨p2, hedges⟩ := AdaptaVerif.Lemmas.GenLoopBridge.forRange_zero_keeps (Mat.WF n) _ _ es.length _ hinit
    (fun i D' hi h => body3_ok es ws i hi hw (hes _ (Lemmas.Util.getD_mem hi)).1 (hes _ (Lemmas.Util.getD_mem hi)).2 D' h)
  obtain ⟨p3, _⟩ := AdaptaVerif.Lemmas.GenLoopBridge.forRange_zero_keeps (Mat.WF n) _ _ n _ hedges (fun k D' hk h => body6_ok k hk D' h)
  exact ⟨⟨hw, p1⟩, p2, p3⟩

/-- the property, stated of the function generated from the source: on every valid multigraph the matrix
    `floyd_warshall` leaves in `D` holds the exact shortest-path distances (sentinel iff unreachable) -/
theorem gen_floyd_warshall_correct (g : Graph) (hv : Valid g) (D : Mat) (hD : Mat.WF g.n D) :
    IsApsp g (Mat.get (AdaptaVerif.Gen.ShortestPathsK.floyd_warshall g.n D (esOf g.edges) (wsOf g.edges))) ∧
    AdaptaVerif.Gen.ShortestPathsK.floyd_warshall_pre g.n D (esOf g.edges) (wsOf g.edges) = true := by
  refine ⟨by rw [gen_floyd_warshall_is_model g D hD]; exact AdaptaVerif.Props.C17.fw_correct g hv, ?_⟩
  apply gen_floyd_warshall_assertions_hold g.n D _ _ hD
  · right; simp [esOf, wsOf]
  · intro e he
    simp only [esOf, List.mem_map] at he
    obtain ⟨e', he', rfl⟩ := he
    exact ⟨(hv e' he').1, (hv e' he').2.1⟩

/-- non-vacuity: a 3 × 3 array of arbitrary content is well-formed -/
example : Mat.WF 3 #[#[some 7, none, some 1], #[none, none, none], #[some 0, some 2, none]] := by
  refine ⟨rfl, ?_⟩
  intro i r hr
  match i, hr with
  | 0, hr => simp at hr; rw [← hr]; rfl
  | 1, hr => simp at hr; rw [← hr]; rfl
  | 2, hr => simp at hr; rw [← hr]; rfl
  | i + 3, hr => simp at hr

/-! ### `dijkstra_init` (regenerated: indexed loop, `vs[u].neighbours.push_back(&vs[v])`, `vs[u].nweights.push_back(w)`) -/

open AdaptaVerif.Gen AdaptaVerif.Gen.KeysShortest in
/-- the adjacency vectors `dijkstra_init` appends to the node array are the model's `adj` (the list `dijkstra`,
    `dijkstraHeap` and their correctness theorems iterate over), in the same order, a self-loop contributing two
    entries; pointers `&vs[v]` are the indices `v`. Stated for fresh nodes (empty vectors), as `dijkstra`/`johnsons`
    create them (`std::vector<Node<T>> vs(n)`). -/
theorem gen_dijkstra_init_is_adj (edges : List (Nat × Nat × Rat)) (vs : Array NodeK)
    (hv : ∀ e ∈ edges, e.1 < vs.size ∧ e.2.1 < vs.size)
    (hfresh : ∀ u, (aget vs u).neighbours = [] ∧ (aget vs u).nweights = []) (u : Nat) :
    (aget (AdaptaVerif.Gen.ShortestPathsK.dijkstra_init vs (esOf edges) (wsOf edges)) u).neighbours = (adj edges u).map (·.1) ∧
    (aget (AdaptaVerif.Gen.ShortestPathsK.dijkstra_init vs (esOf edges) (wsOf edges)) u).nweights = (adj edges u).map (fun p => some p.2) ∧
    (AdaptaVerif.Gen.ShortestPathsK.dijkstra_init vs (esOf edges) (wsOf edges)).size = vs.size :=
  dijkstra_init_fresh edges vs hv hfresh u

open AdaptaVerif.Gen.KeysShortest in
/-- its three assertions hold and every `vs[·]`, `es[·]`, `eweights[·]` access is in bounds -/
theorem gen_dijkstra_init_assertions_hold (vs : Array NodeK) (es : List (Nat × Nat)) (ws : List Dist)
    (hw : ws.length = 0 ∨ ws.length = es.length) (hes : ∀ e ∈ es, e.1 < vs.size ∧ e.2 < vs.size) :
    AdaptaVerif.Gen.ShortestPathsK.dijkstra_init_pre vs es ws = true := by
  unfold AdaptaVerif.Gen.ShortestPathsK.dijkstra_init_pre
  simp only [Bool.and_true, Bool.and_eq_true, Bool.or_eq_true, decide_eq_true_eq]
  refine ⟨hw, AdaptaVerif.Lemmas.GenLoopBridge.forRangePre_zero_of_inv (fun _ (vs' : Array NodeK) => vs'.size = vs.size) _ _ _ _ rfl ?_⟩
  intro i vs' hi' hsz
  have hu := (hes _ (Lemmas.Util.getD_mem hi')).1
  have hv := (hes _ (Lemmas.Util.getD_mem hi')).2
  have hA := weight_read_ok hw hi'
  constructor
  · unfold AdaptaVerif.Gen.ShortestPathsK.dijkstra_init_body1_pre
    simp only [AdaptaVerif.Lemmas.GenLoopBridge.aset_size, hsz, hi', hu, hv, hA, decide_true, Bool.and_self]
  · unfold AdaptaVerif.Gen.ShortestPathsK.dijkstra_init_body1
    simp only [AdaptaVerif.Lemmas.GenLoopBridge.aset_size, hsz]

/-- non-vacuity: three fresh nodes -/
example : ∀ u, (AdaptaVerif.Gen.aget (Array.replicate 3 (default : AdaptaVerif.Gen.KeysShortest.NodeK)) u).neighbours = [] ∧
    (AdaptaVerif.Gen.aget (Array.replicate 3 (default : AdaptaVerif.Gen.KeysShortest.NodeK)) u).nweights = [] :=
  AdaptaVerif.Lemmas.DijkstraBridge.fresh_replicate 3

/-! ### the relax loop of `dijkstra(s, vs, d)` (regenerated as a fragment: `Node<T>*` = index into `vs`, heap abstract) -/

section Relax
open AdaptaVerif.Gen AdaptaVerif.Gen.KeysShortest AdaptaVerif.Lemmas.DijkstraRelaxBridge AdaptaVerif.Model.PairingHeap

/-- For a node array whose adjacency vectors of `u` are the model's `adj es u` (what `gen_dijkstra_init_is_adj` establishes),
    the generated loop `for (i < u->neighbours.size()) { v = u->neighbours[i]; w = u->nweights[i]; if (u->d != max &&
    v->d > u->d + w) { v->d = u->d + w; Q.decreaseKey(v->qnode, v); } }`, run with the model's pairing heap, is exactly
    `(adj es u).foldl (relaxEdgeH u)` on the distance vector and the heap — the inner loop of `dijkstraHeapLoop`, the model
    `dijkstraHeap_correct` is about — and it does not touch the adjacency vectors or the size of `vs`. -/
theorem gen_dijkstra_relax_is_model (es : List (Nat × Nat × Rat)) (u : Nat) (vs : Array NodeK) (Q : PTree Dist)
    (hnb : (aget vs u).neighbours = (adj es u).map (·.1))
    (hnw : (aget vs u).nweights = (adj es u).map (fun p => some p.2))
    (hval : ∀ p ∈ adj es u, p.1 < vs.size) :
    (dOf (AdaptaVerif.Gen.DijkstraRelaxK.dijkstra_relax vs Q u decKeyM).1,
     (AdaptaVerif.Gen.DijkstraRelaxK.dijkstra_relax vs Q u decKeyM).2) = (adj es u).foldl (relaxEdgeH u) (dOf vs, Q) ∧
    SameAdj vs (AdaptaVerif.Gen.DijkstraRelaxK.dijkstra_relax vs Q u decKeyM).1 :=
  relax_eq es u vs Q hnb hnw hval

/-- all its `vs[·]`, `neighbours[·]`, `nweights[·]` accesses are in bounds, for ANY heap implementation -/
theorem gen_dijkstra_relax_assertions_hold {H : Type} (decKey : H → Nat → Array NodeK → H) (vs : Array NodeK) (Q : H) (u : Nat)
    (hu : u < vs.size) (hlen : (aget vs u).nweights.length = (aget vs u).neighbours.length)
    (hval : ∀ v ∈ (aget vs u).neighbours, v < vs.size) :
    AdaptaVerif.Gen.DijkstraRelaxK.dijkstra_relax_pre vs Q u decKey = true :=
  relax_pre_true decKey vs Q u hu hlen hval

/-- `dijkstra_init` followed by the relax loop, both as generated: on the node array that the generated `dijkstra_init`
    builds from fresh nodes for a graph with valid end points (and on every array that differs from it only in the `d` fields),
    the generated relax loop of any node `u` is the model's fold over `adj`, and all its obligations hold -/
theorem gen_init_then_relax (edges : List (Nat × Nat × Rat)) (vs0 vs : Array NodeK)
    (hv : ∀ e ∈ edges, e.1 < vs0.size ∧ e.2.1 < vs0.size)
    (hfresh : ∀ u, (aget vs0 u).neighbours = [] ∧ (aget vs0 u).nweights = [])
    (hs : SameAdj (AdaptaVerif.Gen.ShortestPathsK.dijkstra_init vs0 (esOf edges) (wsOf edges)) vs)
    (u : Nat) (hu : u < vs0.size) (Q : PTree Dist) :
    (dOf (AdaptaVerif.Gen.DijkstraRelaxK.dijkstra_relax vs Q u decKeyM).1,
     (AdaptaVerif.Gen.DijkstraRelaxK.dijkstra_relax vs Q u decKeyM).2) = (adj edges u).foldl (relaxEdgeH u) (dOf vs, Q) ∧
    AdaptaVerif.Gen.DijkstraRelaxK.dijkstra_relax_pre vs Q u decKeyM = true := by
  obtain ⟨h1, h2, h3⟩ := gen_dijkstra_init_is_adj edges vs0 hv hfresh u
  have hsz : vs.size = vs0.size := by rw [hs.1, h3]
  have hnb : (aget vs u).neighbours = (adj edges u).map (·.1) := by rw [(hs.2 u).1, h1]
  have hnw : (aget vs u).nweights = (adj edges u).map (fun p => some p.2) := by rw [(hs.2 u).2.1, h2]
  have hval : ∀ p ∈ adj edges u, p.1 < vs.size := by
    intro p hp
    rw [hsz]
    obtain ⟨v, w⟩ := p
    rcases (AdaptaVerif.Lemmas.Apsp.adj_mem edges u v w).mp hp with he | he
    · exact (hv _ he).2
    · exact (hv _ he).1
  refine ⟨(gen_dijkstra_relax_is_model edges u vs Q hnb hnw hval).1, ?_⟩
  apply gen_dijkstra_relax_assertions_hold decKeyM vs Q u (by rw [hsz]; exact hu)
  · rw [hnb, hnw]; simp
  · intro v hv'
    rw [hnb] at hv'
    obtain ⟨p, hp, rfl⟩ := List.mem_map.mp hv'
    exact hval p hp

end Relax

/-! ### the whole function `dijkstra(s, vs, d)` (regenerated: loops, `while` on fuel, abstract heap) -/

section Dijkstra
open AdaptaVerif.Gen AdaptaVerif.Gen.KeysShortest AdaptaVerif.Lemmas.DijkstraBridge

/-- The function generated from the source — initialisation `vs[i].id = i; vs[i].d = max`, `vs[s].d = 0`, `Q.insert(&vs[i])` for
    all `i`, then `while (!Q.isEmpty()) { u = Q.extractMin(); d[u->id] = u->d; relax u's neighbours with decreaseKey }` — run
    with the model's pairing heap (`modelOps`: insert / findMin / deleteMin / decreaseKey of Model/PairingHeap.lean, the
    operations tied to the real `PairingHeap<T>` by correspondence) and fuel `n` on a node array carrying the model's adjacency
    lists, leaves exactly `dijkstraHeap g s` in the caller's buffer `d`, WHATEVER the buffer held before (the real callers pass
    uninitialised rows; every entry is overwritten): for EVERY valid multigraph and source. -/
theorem gen_dijkstra_is_model (g : Graph) (hv : Valid g) (s : Nat) (hs : s < g.n) (vs : Array NodeK)
    (hadj : AdjOf g.edges vs) (hsz : vs.size = g.n) (d : Array Dist) (hd : d.size = g.n) :
    (AdaptaVerif.Gen.DijkstraK.dijkstra s vs d modelOps g.n).2 = dijkstraHeap g s :=
  (dijkstra_spec hv hs vs hadj hsz d hd).2.1

/-- … all its obligations hold: `COLA_ASSERT(s<n)`, every `vs[·]`, `d[·]`, `neighbours[·]`, `nweights[·]` access in bounds, and
    the `while` loop is over after `n` iterations (the fuel the theorem above uses is sufficient) -/
theorem gen_dijkstra_assertions_hold (g : Graph) (hv : Valid g) (s : Nat) (hs : s < g.n) (vs : Array NodeK)
    (hadj : AdjOf g.edges vs) (hsz : vs.size = g.n) (d : Array Dist) (hd : d.size = g.n) :
    AdaptaVerif.Gen.DijkstraK.dijkstra_pre s vs d modelOps g.n = true :=
  (dijkstra_spec hv hs vs hadj hsz d hd).1

/-- the single-source property stated of the generated function: every entry it leaves in `d` is the exact distance from `s`
    (`none` = the sentinel iff unreachable) -/
theorem gen_dijkstra_correct (g : Graph) (hv : Valid g) (s : Nat) (hs : s < g.n) (vs : Array NodeK)
    (hadj : AdjOf g.edges vs) (hsz : vs.size = g.n) (d : Array Dist) (hd : d.size = g.n) (j : Nat) (hj : j < g.n) :
    IsDist g s j (Vec.at (AdaptaVerif.Gen.DijkstraK.dijkstra s vs d modelOps g.n).2 j) := by
  rw [gen_dijkstra_is_model g hv s hs vs hadj hsz d hd]
  exact AdaptaVerif.Lemmas.Apsp.dijkstraHeap_exact hv hs hj

/-- the node array the generated `dijkstra_init` builds from fresh nodes satisfies the adjacency hypothesis of the three
    theorems above (so `dijkstra_init` followed by `dijkstra`, both as generated, is covered) -/
theorem gen_dijkstra_init_establishes_adj (g : Graph) (hv : Valid g) (vs0 : Array NodeK) (hsz : vs0.size = g.n)
    (hfresh : ∀ u, (aget vs0 u).neighbours = [] ∧ (aget vs0 u).nweights = []) :
    AdjOf g.edges (AdaptaVerif.Gen.ShortestPathsK.dijkstra_init vs0 (esOf g.edges) (wsOf g.edges)) ∧
    (AdaptaVerif.Gen.ShortestPathsK.dijkstra_init vs0 (esOf g.edges) (wsOf g.edges)).size = g.n :=
  AdaptaVerif.Lemmas.JohnsonsBridge.init_adj_of_fresh g hv vs0 hsz hfresh

end Dijkstra

/-! ### `johnsons` and the top-level `dijkstra(s, n, d, es, eweights)` (regenerated; they call the generated functions above) -/

section Johnsons
open AdaptaVerif.Gen.KeysShortest AdaptaVerif.Lemmas.JohnsonsBridge

/-- `johnsons(n, D, es, eweights)` as generated — `std::vector<Node<T>> vs(n); dijkstra_init(vs, es, eweights);
    for (k < n) dijkstra(k, vs, D[k]);` with the node vector REUSED for every source — run with the model heap and fuel `n`
    fills `D` with the model's `johnsonsHeap g`, whatever `D` held: for every valid multigraph -/
theorem gen_johnsons_is_model (g : Graph) (hv : Valid g) (D : Mat) (hD : Mat.WF g.n D) :
    AdaptaVerif.Gen.JohnsonsK.johnsons g.n D (esOf g.edges) (wsOf g.edges) modelOps g.n = johnsonsHeap g :=
  johnsons_eq g hv D hD

/-- the all-pairs property stated of the generated `johnsons` -/
theorem gen_johnsons_correct (g : Graph) (hv : Valid g) (D : Mat) (hD : Mat.WF g.n D) :
    IsApsp g (Mat.get (AdaptaVerif.Gen.JohnsonsK.johnsons g.n D (esOf g.edges) (wsOf g.edges) modelOps g.n)) := by
  rw [gen_johnsons_is_model g hv D hD]
  exact AdaptaVerif.Props.C17.johnsonsHeap_correct g hv

/-- the top-level `dijkstra(s, n, d, es, eweights)` as generated -/
theorem gen_dijkstraTop_is_model (g : Graph) (hv : Valid g) (s : Nat) (hs : s < g.n) (d : Array Dist) (hd : d.size = g.n) :
    AdaptaVerif.Gen.JohnsonsK.dijkstraTop s g.n d (esOf g.edges) (wsOf g.edges) modelOps g.n = dijkstraHeap g s := by
  unfold AdaptaVerif.Gen.JohnsonsK.dijkstraTop
  simp only []
  obtain ⟨h1, h2⟩ := init_adj g hv
  exact (AdaptaVerif.Lemmas.DijkstraBridge.dijkstra_spec hv hs _ h1 h2 d hd).2.1

end Johnsons

/-! ### joint non-vacuity of the hypotheses above on `Props.C17.exG` (parallel edges, a self-loop, an unreachable vertex).
`hfresh`, `AdjOf` and `SameAdj` quantify over ALL indices `u` and read through the totalising `aget` (`getD default`): they
are satisfiable because the default node is fresh (empty vectors) and, for valid end points, `adj edges u = []` out of range. -/

section NonVacuity
open AdaptaVerif.Gen AdaptaVerif.Gen.KeysShortest AdaptaVerif.Lemmas.DijkstraBridge AdaptaVerif.Lemmas.DijkstraRelaxBridge
open AdaptaVerif.Props.C17 (exG)

-- non-vacuity of gen_floyd_warshall_is_model / gen_floyd_warshall_correct: `Valid g ∧ Mat.WF g.n D` jointly
-- (`@` here and below: applied to the closed `exG` without it, the elaborator unfolds `IsApsp` / `IsDist` in search of
-- optional parameters and evaluates the generated function on the way)
example : IsApsp exG (Mat.get (AdaptaVerif.Gen.ShortestPathsK.floyd_warshall exG.n (Mat.const 4 (some 7))
    (esOf exG.edges) (wsOf exG.edges))) :=
  @And.left _ _ (gen_floyd_warshall_correct exG (validGraph_valid (by decide +kernel)) (Mat.const 4 (some 7)) (Mat.WF_const 4 _))

-- non-vacuity of gen_johnsons_is_model / gen_johnsons_correct
example : IsApsp exG (Mat.get (AdaptaVerif.Gen.JohnsonsK.johnsons exG.n (Mat.const 4 (some 7)) (esOf exG.edges)
    (wsOf exG.edges) modelOps exG.n)) :=
  @gen_johnsons_correct exG (validGraph_valid (by decide +kernel)) (Mat.const 4 (some 7)) (Mat.WF_const 4 _)

-- non-vacuity of gen_dijkstra_is_model / gen_dijkstra_assertions_hold / gen_dijkstra_correct /
-- gen_dijkstra_init_establishes_adj: ALL hypotheses jointly (`AdjOf` is met by the array the generated
-- `dijkstra_init` builds from fresh nodes; the caller's buffer holds garbage)
example : IsDist exG 1 3 (Vec.at (AdaptaVerif.Gen.DijkstraK.dijkstra 1
      (AdaptaVerif.Gen.ShortestPathsK.dijkstra_init (Array.replicate 4 default) (esOf exG.edges) (wsOf exG.edges))
      (Array.replicate 4 (some 9)) modelOps exG.n).2 3) :=
  @gen_dijkstra_correct exG (validGraph_valid (by decide +kernel)) 1 (by decide) _
    (gen_dijkstra_init_establishes_adj exG (validGraph_valid (by decide +kernel)) (Array.replicate 4 default) rfl (fresh_replicate 4)).1
    (gen_dijkstra_init_establishes_adj exG (validGraph_valid (by decide +kernel)) (Array.replicate 4 default) rfl (fresh_replicate 4)).2
    (Array.replicate 4 (some 9)) rfl 3 (by decide)

-- non-vacuity of gen_init_then_relax (and of gen_dijkstra_init_is_adj, gen_dijkstra_relax_is_model,
-- gen_dijkstra_relax_assertions_hold, whose hypotheses its proof derives): node 0 has three adjacency entries
example : AdaptaVerif.Gen.DijkstraRelaxK.dijkstra_relax_pre
      (AdaptaVerif.Gen.ShortestPathsK.dijkstra_init (Array.replicate 4 default) (esOf exG.edges) (wsOf exG.edges))
      AdaptaVerif.Model.PairingHeap.PTree.nil 0 decKeyM = true :=
  (gen_init_then_relax exG.edges (Array.replicate 4 default) _ (by decide +kernel) (fresh_replicate 4) (SameAdj.refl _) 0 (by decide)
    AdaptaVerif.Model.PairingHeap.PTree.nil).2
example : (adj exG.edges 0).length = 3 := by decide +kernel

end NonVacuity

end AdaptaVerif.Props.C17Tie
