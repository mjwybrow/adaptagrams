/-
C05 / C03 — connection of the orthogonal visibility graph model (`Props/C05OrthVis.lean`) with the route
validity specification of C03 (`Spec/Route.lean`, `Props/C03.lean`): with every connector end point in free
space, every edge of the model graph is spec-unblocked (no point of the CLOSED segment strictly inside a
routing box), hence every polyline along edges of the graph is a valid route (`RouteValid`) and is
orthogonal.
-/
import AdaptaVerif.Props.C05OrthVis
import AdaptaVerif.Props.C03

namespace AdaptaVerif.Props.C05OrthVis
open AdaptaVerif.Model.OrthVis AdaptaVerif.Lemmas.OrthVis
open AdaptaVerif.Model.Geometry (Pt)
open AdaptaVerif.Check.Route AdaptaVerif.Spec.Route AdaptaVerif.Lemmas.Route

/-- a routing box as a C03 polygon -/
def polyOf (R : Rect) : Poly := rectPoly R.x0 R.y0 R.x1 R.y1

def ptOf (v : GV) : Pt := ⟨v.x, v.y⟩

def graphPts (s : Scene) : List (Pt × Pt) := s.graph.map fun e => (ptOf e.1, ptOf e.2)

/-- **Every edge of the model graph is spec-unblocked** in the sense of C03 (closed segment, all routing
    boxes, nothing excluded), for scenes whose boxes have positive size and whose connector end points are
    in free space. -/
theorem graph_edge_unblocked (s : Scene) (hwf : ∀ R ∈ s.rects, R.x0 < R.x1 ∧ R.y0 < R.y1)
    (hfree : ∀ R ∈ s.rects, ¬ HasConnIn s.conns R) :
    ∀ l ∈ graphPts s, Unblocked (s.rects.map polyOf) [] l.1 l.2 := by
  intro l hl
  obtain ⟨e, he, rfl⟩ := List.mem_map.mp hl
  intro i hi _ hhit
  obtain ⟨t, h0, h1, hin⟩ := hhit
  have hi' : i < s.rects.length := by simpa using hi
  have hR : s.rects[i] ∈ s.rects := List.getElem_mem hi'
  obtain ⟨wx, wy⟩ := hwf _ hR
  have hget : (s.rects.map polyOf)[i] = polyOf s.rects[i] := by simp
  rw [hget] at hin
  unfold polyOf at hin
  rw [strictlyInside_rect_iff _ _ _ _ wx wy] at hin
  simp only [lerp, ptOf] at hin
  obtain ⟨hx0, hx1, hy0, hy1⟩ := hin
  rcases graph_edge_closed s e he with ⟨hyy, hlt, hc⟩ | ⟨hxx, hlt, hc⟩
  · rw [hyy, sub_self, mul_zero, add_zero] at hy0 hy1
    obtain ⟨m1, m2⟩ := lerp_within (le_of_lt hlt) h0 h1
    exact hfree _ hR (hc _ hR _ m1 m2 ⟨hx0, hx1, by rw [hyy]; exact hy0, by rw [hyy]; exact hy1⟩)
  · rw [hxx, sub_self, mul_zero, add_zero] at hx0 hx1
    obtain ⟨m1, m2⟩ := lerp_within (le_of_lt hlt) h0 h1
    exact hfree _ hR (hc _ hR _ m1 m2 ⟨by rw [hxx]; exact hx0, by rw [hxx]; exact hx1, hy0, hy1⟩)

/-- **Any path in the graph is a valid orthogonal route**: a polyline from `src` to `dst` all of whose legs
    are edges of the model graph (in either direction) satisfies C03's `RouteValid` for the routing boxes
    (nothing excluded) and every leg is axis-parallel. -/
theorem graph_path_valid (s : Scene) (hwf : ∀ R ∈ s.rects, R.x0 < R.x1 ∧ R.y0 < R.y1)
    (hfree : ∀ R ∈ s.rects, ¬ HasConnIn s.conns R) (src dst : Pt) (route : List Pt)
    (hlen : 2 ≤ route.length) (hsrc : route.head? = some src) (hdst : route.getLast? = some dst)
    (hlegs : ∀ l ∈ legs route, l ∈ graphPts s ∨ (l.2, l.1) ∈ graphPts s) :
    RouteValid (s.rects.map polyOf) [] src dst route ∧ routeOrthogonal route = true := by
  refine ⟨AdaptaVerif.Props.C03.path_of_visible_edges_valid _ _ (graphPts s)
    (graph_edge_unblocked s hwf hfree) src dst route hlen hsrc hdst hlegs, ?_⟩
  unfold routeOrthogonal
  rw [List.all_eq_true]
  intro l hl
  have hax : ∀ l' ∈ graphPts s, l'.1.x = l'.2.x ∨ l'.1.y = l'.2.y := by
    intro l' hl'
    obtain ⟨e, he, rfl⟩ := List.mem_map.mp hl'
    rcases graph_edge_directed s e he with ⟨h, _⟩ | ⟨h, _⟩
    · exact Or.inr h
    · exact Or.inl h
  unfold axisParallel
  simp only [Bool.or_eq_true, decide_eq_true_eq]
  rcases hlegs l hl with h | h
  · exact hax l h
  · rcases hax _ h with h' | h'
    · exact Or.inl h'.symm
    · exact Or.inr h'.symm

-- non-vacuity of `graph_edge_unblocked` / `graph_path_valid`: `demoScene2` (box of positive size, both end points in
-- free space, graph not empty); the route (6,3) → (4,3) → (4,5) walks one edge backwards and one forwards
example : RouteValid (demoScene2.rects.map polyOf) [] ⟨6, 3⟩ ⟨4, 5⟩ [⟨6, 3⟩, ⟨4, 3⟩, ⟨4, 5⟩] ∧
    routeOrthogonal [⟨6, 3⟩, ⟨4, 3⟩, ⟨4, 5⟩] = true :=
  graph_path_valid demoScene2 (by decide +kernel)
    (by intro R hR h; rw [← hasConnIn_iff] at h; revert R; decide +kernel)
    ⟨6, 3⟩ ⟨4, 5⟩ [⟨6, 3⟩, ⟨4, 3⟩, ⟨4, 5⟩] (by decide) rfl rfl
    (by
      intro l hl
      obtain ⟨g, hg, hd⟩ := List.any_eq_true.mp ((by decide +kernel :
        ∀ l ∈ legs [(⟨6, 3⟩ : Pt), ⟨4, 3⟩, ⟨4, 5⟩],
          (graphPts demoScene2).any (fun g => decide (g = l) || decide (g = (l.2, l.1))) = true) l hl)
      rcases Bool.or_eq_true_iff.mp hd with h | h
      · exact Or.inl (of_decide_eq_true h ▸ hg)
      · exact Or.inr (of_decide_eq_true h ▸ hg))
example : ∀ l ∈ graphPts demoScene2, Unblocked (demoScene2.rects.map polyOf) [] l.1 l.2 :=
  graph_edge_unblocked demoScene2 (by decide +kernel)
    (by intro R hR h; rw [← hasConnIn_iff] at h; revert R; decide +kernel)
#guard !(graphPts demoScene2).isEmpty

end AdaptaVerif.Props.C05OrthVis
