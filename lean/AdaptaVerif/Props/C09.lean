/-
C09 — libvpsc: removeoverlaps leaves no overlap and changes no size; the constraint sets produced
by generateXConstraints / generateYConstraints are acyclic and separating.

All theorems are about the model `AdaptaVerif.Model.Scanline` (tied to rectangle.cpp by the
correspondence harness) and hold for ALL rectangle arrays (the separation theorems: those that are
non-degenerate as seen through the getters, `GoodAxis`), ALL border values, ALL tie-break ranks (injective
where separation is claimed) and ALL event orders `compare_events` may produce.
-/
import AdaptaVerif.Lemmas.ScanlineCheck
import AdaptaVerif.Lemmas.ScanlineExample
import AdaptaVerif.Lemmas.ScanlineSort
namespace AdaptaVerif.Props.C09
open AdaptaVerif.Model.Scanline AdaptaVerif.Spec.Rects AdaptaVerif.Check.Rects
open AdaptaVerif.Lemmas.Scanline AdaptaVerif.Lemmas.Scanline.Example

/-- the input rectangles are non-degenerate as seen through the getters (the C++ asserts
    `getMinX()<getMaxX()`): extent in the sweep dimension not inverted, length ≥ 0 -/
def GoodAxis (ax : Axis) (n : Nat) : Prop := ∀ i, i < n → 0 ≤ ax.sz i ∧ ax.opn i ≤ ax.cls i

/-! ## (1) acyclicity: every constraint goes up in the (centre, rank) key -/

/-- Every constraint emitted by generateYConstraints / generateXConstraints (either mode) goes
    from a node with smaller scan-line key (centre, rank) to one with a larger key.  Holds for any
    rank function and any event list whatsoever. -/
theorem gen_key_increases (rs : Array Rect) (bx b : Rat) (rank : Nat → Nat) (evs : List Ev) (nl : Bool) :
    (∀ c ∈ generateYConstraints rs bx b rank evs, keyLt (yAxis rs bx b) rank c.l c.r = true) ∧
    (∀ c ∈ generateXConstraints rs bx b rank evs nl, keyLt (xAxis rs bx b) rank c.l c.r = true) := by
  refine ⟨scanPtr_mono _ (keyLt_swo _ _).trans evs [] _ _ (ptrMono_empty _), ?_⟩
  unfold generateXConstraints
  cases nl with
  | true => exact scanNL_mono _ evs [] _ _ (nbrMono_empty _)
  | false => exact scanPtr_mono _ (keyLt_swo _ _).trans evs [] _ _ (ptrMono_empty _)

/-- Hence the constraint graphs are DAGs: no non-empty chain of generated constraints returns to
    its start. -/
theorem gen_acyclic (rs : Array Rect) (bx b : Rat) (rank : Nat → Nat) (evs : List Ev) (nl : Bool) :
    Acyclic (generateYConstraints rs bx b rank evs) ∧
    Acyclic (generateXConstraints rs bx b rank evs nl) :=
  ⟨acyclic_of_mono (keyLt_swo _ rank).irrefl (keyLt_swo _ rank).trans (gen_key_increases rs bx b rank evs nl).1,
   acyclic_of_mono (keyLt_swo _ rank).irrefl (keyLt_swo _ rank).trans (gen_key_increases rs bx b rank evs nl).2⟩

/-- Determinism: the generated constraint lists are functions of (rectangles, borders, rank, event
    order) and depend on the rank only through the ORDER it induces.  Since CmpNodePos breaks ties
    by variable id before looking at heap addresses, any two runs whose variable ids are distinct
    use rank orders that agree (id order), so nothing else - no address - can influence the result:
    two rank functions inducing the same order give identical constraint lists. -/
theorem gen_deterministic_given_rank (rs : Array Rect) (bx b : Rat) (rank rank' : Nat → Nat)
    (h : ∀ i j, rank i < rank j ↔ rank' i < rank' j) (evs : List Ev) (nl : Bool) :
    generateYConstraints rs bx b rank evs = generateYConstraints rs bx b rank' evs ∧
    generateXConstraints rs bx b rank evs nl = generateXConstraints rs bx b rank' evs nl := by
  unfold generateYConstraints generateXConstraints
  simp only [keyLt_congr _ h, and_self]

/-- non-vacuity: id order and "id first, then any address" induce the same order when ids are
    distinct, e.g. rank i = i and rank' i = 1000·i + (address mod 1000) -/
example (addr : Nat → Nat) (evs : List Ev) (rs : Array Rect) :
    generateYConstraints rs 0 0 id evs = generateYConstraints rs 0 0 (fun i => 1000 * i + addr i % 1000) evs :=
  (gen_deterministic_given_rank rs 0 0 id (fun i => 1000 * i + addr i % 1000)
    (fun i j => by
      have hi := Nat.mod_lt (addr i) (by decide : 1000 > 0)
      have hj := Nat.mod_lt (addr j) (by decide : 1000 > 0)
      simp only [id]
      by_cases hij : i = j
      · subst hij; omega
      · omega) evs false).1

/-! ## (2) the y pass (and the x pass without neighbour lists) separates every meeting pair -/

/-- generateYConstraints: for every pair of rectangles whose x-extents meet in the code's sense
    (`getMinX i ≤ getMaxX j ∧ getMinX j ≤ getMaxX i`: touching counts, because Open is processed
    before Close), every placement `y` of the centres that satisfies the generated constraints
    keeps the two centres at least (h_i + h_j)/2 apart. -/
theorem geny_separates (rs : Array Rect) (bx b : Rat) (rank : Nat → Nat) (inj : RankInjective rank)
    (evs : List Ev) (hv : ValidOrder (yAxis rs bx b) rs.size evs)
    (hgood : GoodAxis (yAxis rs bx b) rs.size)
    (y : Nat → Rat) (hsat : Sat y (generateYConstraints rs bx b rank evs))
    (i j : Nat) (hi : i < rs.size) (hj : j < rs.size) (hij : i ≠ j)
    (hmeet : ScanMeet (yAxis rs bx b) i j) :
    y i + ((rectAt rs i).height b + (rectAt rs j).height b) / 2 ≤ y j ∨
    y j + ((rectAt rs i).height b + (rectAt rs j).height b) / 2 ≤ y i :=
  scanPtr_separates inj hv hgood hsat hi hj hij hmeet

/-- non-vacuity: the hypotheses of `geny_separates` hold for two overlapping squares [0,2]² and
    [1,3]² (events O0 O1 C0 C1, rank = index, the generated constraint is (0,1,gap 2), placement
    y₀ = 0, y₁ = 2), and the conclusion is the non-trivial fact 0 + 2 ≤ 2. -/
example : exY 0 + ((rectAt exRs 0).height 0 + (rectAt exRs 1).height 0) / 2 ≤ exY 1 ∨
          exY 1 + ((rectAt exRs 0).height 0 + (rectAt exRs 1).height 0) / 2 ≤ exY 0 :=
  geny_separates exRs 0 0 id (fun _ _ h => h) exEvs exValid exGood exY exSat 0 1 (by decide) (by decide)
    (by decide) exMeet

/-- the same for generateXConstraints with useNeighbourLists = false (third pass) -/
theorem genx_separates (rs : Array Rect) (bx b : Rat) (rank : Nat → Nat) (inj : RankInjective rank)
    (evs : List Ev) (hv : ValidOrder (xAxis rs bx b) rs.size evs)
    (hgood : GoodAxis (xAxis rs bx b) rs.size)
    (x : Nat → Rat) (hsat : Sat x (generateXConstraints rs bx b rank evs false))
    (i j : Nat) (hi : i < rs.size) (hj : j < rs.size) (hij : i ≠ j)
    (hmeet : ScanMeet (xAxis rs bx b) i j) :
    x i + ((rectAt rs i).width bx + (rectAt rs j).width bx) / 2 ≤ x j ∨
    x j + ((rectAt rs i).width bx + (rectAt rs j).width bx) / 2 ≤ x i :=
  scanPtr_separates inj hv hgood (by simpa [generateXConstraints] using hsat) hi hj hij hmeet

/-- non-vacuity of `genx_separates`: the x sweep of the same two squares (constraint (0,1,gap 2),
    placement x₀ = 0, x₁ = 2) -/
example : exY 0 + ((rectAt exRs 0).width 0 + (rectAt exRs 1).width 0) / 2 ≤ exY 1 ∨
          exY 1 + ((rectAt exRs 0).width 0 + (rectAt exRs 1).width 0) / 2 ≤ exY 0 :=
  genx_separates exRs 0 0 id (fun _ _ h => h) exEvs exXValid exXGood exY exXSat 0 1 (by decide) (by decide)
    (by decide) exXMeet

/-- For every rectangle array and every border there IS a valid event order (the stable sort the
    driver uses), so the hypothesis `ValidOrder` of the separation theorems is never vacuous. -/
theorem valid_order_exists (rs : Array Rect) (bx b : Rat) :
    ValidOrder (yAxis rs bx b) rs.size (sortEvents (yAxis rs bx b) rs.size) ∧
    ValidOrder (xAxis rs bx b) rs.size (sortEvents (xAxis rs bx b) rs.size) :=
  ⟨sortEvents_valid _ _, sortEvents_valid _ _⟩

/-- On valid input the firstAbove/firstBelow pointer bookkeeping produces exactly the
    constraints obtained by looking up the scan-line neighbours at Close time. -/
theorem pointer_bookkeeping_exact (rs : Array Rect) (bx b : Rat) (rank : Nat → Nat)
    (inj : RankInjective rank) (evs : List Ev) (hv : ValidOrder (yAxis rs bx b) rs.size evs)
    (hgood : GoodAxis (yAxis rs bx b) rs.size) :
    generateYConstraints rs bx b rank evs
      = scanAdj (yAxis rs bx b) (keyLt (yAxis rs bx b) rank) evs [] :=
  scanPtr_eq_scanAdj _ (keyLt_strictTotal _ inj) evs [] _ _ (inv_init hv hgood)

example : generateYConstraints exRs 0 0 id exEvs
    = scanAdj (yAxis exRs 0 0) (keyLt (yAxis exRs 0 0) id) exEvs [] :=
  pointer_bookkeeping_exact exRs 0 0 id (fun _ _ h => h) exEvs exValid exGood

/-! ## (3) a satisfied separation constraint with gap = half sizes means no overlap in that axis -/

theorem separation_no_overlap (u v : Rect) (bx b : Rat)
    (h : u.centreY b + (u.height b + v.height b) / 2 ≤ v.centreY b ∨
         v.centreY b + (u.height b + v.height b) / 2 ≤ u.centreY b) :
    ¬ IntervalsMeet (u.getMinY b) (u.getMaxY b) (v.getMinY b) (v.getMaxY b) ∧
    ¬ Overlap (bordered u bx b) (bordered v bx b) := by
  have key : ¬ IntervalsMeet (u.getMinY b) (u.getMaxY b) (v.getMinY b) (v.getMaxY b) := by
    rw [getMinY_eq u, getMaxY_eq u, getMinY_eq v, getMaxY_eq v]
    exact separation_no_meet h
  exact ⟨key, fun hov => key ((overlap_iff _ _).1 hov).2⟩

/-- The y pass as a whole: move every rectangle's centre to ANY placement satisfying the generated
    constraints; afterwards no two rectangles (as seen through the getters, i.e. including the
    borders) overlap with positive area. -/
theorem geny_no_overlap (rs : Array Rect) (bx b : Rat) (rank : Nat → Nat) (inj : RankInjective rank)
    (evs : List Ev) (hv : ValidOrder (yAxis rs bx b) rs.size evs)
    (hgood : GoodAxis (yAxis rs bx b) rs.size)
    (y : Nat → Rat) (hsat : Sat y (generateYConstraints rs bx b rank evs))
    (i j : Nat) (hi : i < rs.size) (hj : j < rs.size) (hij : i ≠ j) :
    ¬ Overlap (bordered ((rectAt rs i).moveCentreY b (y i)) bx b)
              (bordered ((rectAt rs j).moveCentreY b (y j)) bx b) := by
  intro hov
  obtain ⟨hx, hy⟩ := (overlap_iff _ _).1 hov
  simp only [bordered, moveCentreY_getMinY, moveCentreY_getMaxY] at hy
  rcases scanPtr_no_overlap inj hv hgood hsat hi hj hij with h | h
  · exact h hx
  · exact h hy

/-- non-vacuity of `geny_no_overlap` on the same instance: after the move the squares are
    [0,2]×[-1,1] and [1,3]×[1,3] — touching, not overlapping. -/
example : ¬ Overlap (bordered ((rectAt exRs 0).moveCentreY 0 (exY 0)) 0 0)
                    (bordered ((rectAt exRs 1).moveCentreY 0 (exY 1)) 0 0) :=
  geny_no_overlap exRs 0 0 id (fun _ _ h => h) exEvs exValid exGood exY exSat 0 1 (by decide) (by decide)
    (by decide)

/-- The third pass: the same for generateXConstraints without neighbour lists. -/
theorem genx_no_overlap (rs : Array Rect) (bx b : Rat) (rank : Nat → Nat) (inj : RankInjective rank)
    (evs : List Ev) (hv : ValidOrder (xAxis rs bx b) rs.size evs)
    (hgood : GoodAxis (xAxis rs bx b) rs.size)
    (x : Nat → Rat) (hsat : Sat x (generateXConstraints rs bx b rank evs false))
    (i j : Nat) (hi : i < rs.size) (hj : j < rs.size) (hij : i ≠ j) :
    ¬ Overlap (bordered ((rectAt rs i).moveCentreX bx (x i)) bx b)
              (bordered ((rectAt rs j).moveCentreX bx (x j)) bx b) := by
  intro hov
  obtain ⟨hx, hy⟩ := (overlap_iff _ _).1 hov
  simp only [bordered, moveCentreX_getMinX, moveCentreX_getMaxX] at hx
  rcases scanPtr_no_overlap inj hv hgood (y := x) (by simpa [generateXConstraints] using hsat) hi hj hij with h | h
  · exact h hy
  · exact h hx

/-- removeoverlaps, thirdPass = false: the LAST pass is the y pass, run with borders
    (xBorder, yBorder + EXTRA_GAP); whatever the x pass did before, if the solver returns a placement
    satisfying the generated constraints then, after the borders are restored to (xBorder, yBorder),
    no two rectangles overlap (as seen through the getters). -/
theorem removeoverlaps_y_last_no_overlap (rs : Array Rect) (bx b extra : Rat) (hextra : 0 ≤ extra)
    (rank : Nat → Nat) (inj : RankInjective rank)
    (evs : List Ev) (hv : ValidOrder (yAxis rs bx (b + extra)) rs.size evs)
    (hgood : GoodAxis (yAxis rs bx (b + extra)) rs.size)
    (y : Nat → Rat) (hsat : Sat y (generateYConstraints rs bx (b + extra) rank evs))
    (i j : Nat) (hi : i < rs.size) (hj : j < rs.size) (hij : i ≠ j) :
    ¬ Overlap (bordered ((rectAt rs i).moveCentreY (b + extra) (y i)) bx b)
              (bordered ((rectAt rs j).moveCentreY (b + extra) (y j)) bx b) := by
  intro hov
  have := overlap_border_mono (ex := 0) (ey := extra) (le_refl _) hextra hov
  rw [add_zero] at this
  exact geny_no_overlap rs bx (b + extra) rank inj evs hv hgood y hsat i j hi hj hij this

/-- removeoverlaps, thirdPass = true: the last pass is the x pass without neighbour lists, run with
    borders (xBorder + EXTRA_GAP, yBorder) on the rectangles as the y pass left them with their x centres put
    back to the initial ones (`moveCentreX(initX[id])`); `rs` is arbitrary here. -/
theorem removeoverlaps_x_last_no_overlap (rs : Array Rect) (bx b extra : Rat) (hextra : 0 ≤ extra)
    (rank : Nat → Nat) (inj : RankInjective rank)
    (evs : List Ev) (hv : ValidOrder (xAxis rs (bx + extra) b) rs.size evs)
    (hgood : GoodAxis (xAxis rs (bx + extra) b) rs.size)
    (x : Nat → Rat) (hsat : Sat x (generateXConstraints rs (bx + extra) b rank evs false))
    (i j : Nat) (hi : i < rs.size) (hj : j < rs.size) (hij : i ≠ j) :
    ¬ Overlap (bordered ((rectAt rs i).moveCentreX (bx + extra) (x i)) bx b)
              (bordered ((rectAt rs j).moveCentreX (bx + extra) (x j)) bx b) := by
  intro hov
  have := overlap_border_mono (ex := extra) (ey := 0) hextra (le_refl _) hov
  rw [add_zero] at this
  exact genx_no_overlap rs (bx + extra) b rank inj evs hv hgood x hsat i j hi hj hij this

/-! ## (4) the checkers used on the implementation's output are sound -/

/-- `noOverlap rs 0` decides exactly "no two distinct rectangles share an interior point". -/
theorem noOverlap_sound_complete (rs : Array Rect) :
    noOverlap rs 0 = true ↔
      ∀ i j, i < rs.size → j < rs.size → i ≠ j → ¬ Overlap (rectAt rs i) (rectAt rs j) := by
  simp only [noOverlap, List.all_eq_true, List.mem_range, Bool.not_eq_true', ← Bool.not_eq_true,
    Bool.and_eq_true, decide_eq_true_eq, overlapsBy_zero_iff]
  constructor
  · intro h i j hi hj hij hov
    rcases Nat.lt_or_gt_of_ne hij with hlt | hgt
    · exact h i hi j hj ⟨hlt, hov⟩
    · exact h j hj i hi ⟨hgt, overlap_symm hov⟩
  · intro h i hi j hj ⟨hlt, hov⟩
    exact h i j hi hj (Nat.ne_of_lt hlt) hov

theorem satisfiedBy_sound_complete (y : Nat → Rat) (cs : List Con) : satisfiedBy y cs = true ↔ Sat y cs := by
  simp [satisfiedBy, Sat]

/-- an accepted ordering witness proves the constraint graph acyclic -/
theorem acyclic_witness_sound (pos : Nat → Nat) (cs : List Con) (h : acyclicBy pos cs = true) : Acyclic cs := by
  have hm : ∀ c ∈ cs, (fun a b => decide (pos a < pos b)) c.l c.r = true := by
    simpa [acyclicBy] using h
  refine acyclic_of_mono (lt := fun a b => decide (pos a < pos b)) (by simp) ?_ hm
  intro a b c h1 h2
  simp only [decide_eq_true_eq] at *
  omega

/-- an accepted separation certificate proves: every placement satisfying `cs` keeps every pair
    whose sweep extents meet at least half their lengths apart -/
theorem separation_certificate_sound (ax : Axis) (n : Nat) (cs : List Con) (pos : Nat → Nat) (masks : Array Nat)
    (h : sepCert ax n cs pos masks = true) (y : Nat → Rat) (hsat : Sat y cs)
    (u v : Nat) (hu : u < n) (hv : v < n) (huv : u ≠ v) (hmeet : ScanMeet ax u v) :
    y u + (ax.sz u + ax.sz v) / 2 ≤ y v ∨ y v + (ax.sz u + ax.sz v) / 2 ≤ y u := by
  simp only [sepCert, Bool.and_eq_true, gapsCover, pairsChained, List.all_eq_true, List.mem_range,
    decide_eq_true_eq, Bool.or_eq_true, Bool.not_eq_true', Bool.and_eq_false_iff, decide_eq_false_iff_not] at h
  obtain ⟨⟨⟨⟨⟨⟨⟨hacy, hgap⟩, hsz⟩, hrange⟩, hbound⟩, _⟩, hok⟩, hpairs⟩ := h
  have hszc : ∀ c ∈ cs, 0 ≤ ax.sz c.l ∧ 0 ≤ ax.sz c.r :=
    fun c hc => ⟨hsz _ (hrange c hc).1, hsz _ (hrange c hc).2⟩
  have reach := fun a b (hb : (maskAt masks a).testBit b = true) => reach_sound hacy hbound hok hb
  have sep := fun a b (hc : Chain cs a b) => chain_separates (sz := ax.sz) hszc hgap hsat hc
  have hp : ∀ a b, a < n → b < n → a < b → ScanMeet ax a b →
      (maskAt masks a).testBit b = true ∨ (maskAt masks b).testBit a = true := by
    intro a b ha hb hab hm
    rcases hpairs a ha b hb with (h' | h') | h'
    · rcases h' with h' | h'
      · exact absurd hab h'
      · rw [(scanMeet_iff ax a b).2 hm] at h'; cases h'
    · exact Or.inl h'
    · exact Or.inr h'
  rcases Nat.lt_or_gt_of_ne huv with hlt | hgt
  · rcases hp u v hu hv hlt hmeet with h' | h'
    · exact Or.inl (sep _ _ (reach _ _ h'))
    · right; have := sep _ _ (reach _ _ h'); linarith
  · rcases hp v u hv hu hgt ⟨hmeet.2, hmeet.1⟩ with h' | h'
    · right; have := sep _ _ (reach _ _ h'); linarith
    · exact Or.inl (sep _ _ (reach _ _ h'))

/-- non-vacuity of `separation_certificate_sound`: the certificate (ordering witness = index,
    reachability sets {1}, {}) for the constraint (0,1,gap 2) of the example is accepted -/
example : exY 0 + ((yAxis exRs 0 0).sz 0 + (yAxis exRs 0 0).sz 1) / 2 ≤ exY 1 ∨
          exY 1 + ((yAxis exRs 0 0).sz 0 + (yAxis exRs 0 0).sz 1) / 2 ≤ exY 0 :=
  separation_certificate_sound (yAxis exRs 0 0) 2 [⟨0, 1, 2⟩] id #[2, 0] exCert exY
    (by rw [← exCons]; exact exSat) 0 1 (by decide) (by decide) (by decide) exMeet

theorem sizesKept_sound_complete (old new : Array Rect) :
    sizesKept old new 0 = true ↔ old.size = new.size ∧ ∀ i, i < old.size →
      (rectAt new i).maxX - (rectAt new i).minX = (rectAt old i).maxX - (rectAt old i).minX ∧
      (rectAt new i).maxY - (rectAt new i).minY = (rectAt old i).maxY - (rectAt old i).minY := by
  have e : ∀ x y : Rat, (0 ≤ x - y ∧ x - y ≤ 0) ↔ x = y := fun x y => by
    rw [sub_nonneg, sub_nonpos, and_comm, ← le_antisymm_iff]
  simp only [sizesKept, Bool.and_eq_true, beq_iff_eq, List.all_eq_true, List.mem_range,
    decide_eq_true_eq, neg_zero]
  refine and_congr_right fun _ => forall₂_congr fun i _ => ?_
  rw [and_assoc, e, e]

/-! ## (5) sizes are kept by the moves removeoverlaps performs (exact arithmetic) -/

theorem moveCentre_keeps_size (r : Rect) (bx b p : Rat) :
    (r.moveCentreX bx p).width bx = r.width bx ∧ (r.moveCentreX bx p).height b = r.height b ∧
    (r.moveCentreY b p).width bx = r.width bx ∧ (r.moveCentreY b p).height b = r.height b ∧
    (r.moveCentreX bx p).centreX bx = p ∧ (r.moveCentreY b p).centreY b = p :=
  ⟨moveCentreX_width r bx p, moveCentreX_height r bx b p, moveCentreY_width r bx b p,
   moveCentreY_height r b p, moveCentreX_centre r bx p, moveCentreY_centre r b p⟩

end AdaptaVerif.Props.C09
