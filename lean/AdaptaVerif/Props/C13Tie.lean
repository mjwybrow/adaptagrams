/-
C13 — tie theorems: the TriConstraint kernels generated from /repo's libtopology/topology_constraints.cpp
by cpp2lean on every run (member functions; member reads and `u->initialPos(scanDim)` … mapped to
explicit parameters; FILE_LOG statements skipped) are the hand model Model/Tri.lean that the
safe-step theorems of Props/C13.lean are about; the generated `maxSafeAlpha_pre` (the
COLA_ASSERT(iSlack>=fSlack) in the msa<0 branch) is the model's `maxSafeAlphaAssertOk`.
-/
import AdaptaVerif.Gen.Tri
import AdaptaVerif.Model.Tri
import Mathlib.Tactic.Ring
namespace AdaptaVerif.Props.C13Tie
open AdaptaVerif.Model.Tri

theorem gen_slack_is_model (ux vx wx p g : Rat) (leftOf : Bool) (u1 u2 v1 v2 w1 w2 : Rat) :
    AdaptaVerif.Gen.Tri.slack ux vx wx p g leftOf u1 u2 v1 v2 w1 w2 = slack p g leftOf ux vx wx ∧
    AdaptaVerif.Gen.Tri.slackAtFinal p g leftOf u1 u2 v1 v2 w1 w2 = slack p g leftOf u2 v2 w2 ∧
    AdaptaVerif.Gen.Tri.slackAtInitial p g leftOf u1 u2 v1 v2 w1 w2 = slack p g leftOf u1 v1 w1 := by
  refine ⟨?_, ?_, ?_⟩ <;> simp [AdaptaVerif.Gen.Tri.slack, AdaptaVerif.Gen.Tri.slackAtFinal,
    AdaptaVerif.Gen.Tri.slackAtInitial, slack]

theorem gen_maxSafeAlpha_is_model (p g : Rat) (leftOf : Bool) (u1 u2 v1 v2 w1 w2 : Rat) :
    AdaptaVerif.Gen.Tri.maxSafeAlpha p g leftOf u1 u2 v1 v2 w1 w2 = maxSafeAlpha p g leftOf u1 u2 v1 v2 w1 w2 := by
  have hs := (gen_slack_is_model 0 0 0 p g leftOf u1 u2 v1 v2 w1 w2).2.1
  simp only [AdaptaVerif.Gen.Tri.maxSafeAlpha, maxSafeAlpha, hs, msaNum, msaDen, decide_eq_true_eq]
  by_cases h1 : slack p g leftOf u2 v2 w2 ≥ 0
  · simp only [h1, if_true]
  · simp only [h1, if_false]
    by_cases h2 : u2 - u1 + p * (u1 - u2 + v2 - v1) + w1 - w2 = 0
    · simp only [h2, if_true]
    · simp only [h2, if_false]
      by_cases h3 : (w1 - g - u1 + p * (u1 - v1)) / (u2 - u1 + p * (u1 - u2 + v2 - v1) + w1 - w2) < 0 <;> simp [h3]

theorem gen_maxSafeAlpha_assert_is_model (p g : Rat) (leftOf : Bool) (u1 u2 v1 v2 w1 w2 : Rat) :
    AdaptaVerif.Gen.Tri.maxSafeAlpha_pre p g leftOf u1 u2 v1 v2 w1 w2 =
      maxSafeAlphaAssertOk p g leftOf u1 u2 v1 v2 w1 w2 := by
  have hs := gen_slack_is_model 0 0 0 p g leftOf u1 u2 v1 v2 w1 w2
  simp only [AdaptaVerif.Gen.Tri.maxSafeAlpha_pre, AdaptaVerif.Gen.Tri.slackAtFinal_pre,
    AdaptaVerif.Gen.Tri.slackAtInitial_pre, AdaptaVerif.Gen.Tri.slack_pre, maxSafeAlphaAssertOk, hs.2.1, hs.2.2,
    msaNum, msaDen, decide_eq_true_eq, Bool.true_and, Bool.and_true]
  by_cases h1 : slack p g leftOf u2 v2 w2 ≥ 0
  · simp only [h1, if_true]
  · simp only [h1, if_false]
    by_cases h2 : u2 - u1 + p * (u1 - u2 + v2 - v1) + w1 - w2 = 0
    · simp only [h2, if_true]
    · simp only [h2, if_false]
      by_cases h3 : (w1 - g - u1 + p * (u1 - v1)) / (u2 - u1 + p * (u1 - u2 + v2 - v1) + w1 - w2) < 0
      · simp only [h3, if_true]
      · simp only [h3, if_false]

end AdaptaVerif.Props.C13Tie
