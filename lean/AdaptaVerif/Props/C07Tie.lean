/-
C07 — tie theorems: the eight `generateSeparationConstraints` methods as GENERATED by cpp2lean from /repo's
cola/libcola/compound_constraints.cpp on every run (iterator loops over `_subConstraintInfo`,
`cs.push_back(new vpsc::Constraint(l, r, gap, equality))`, `continue`, `throw InvalidConstraint`,
`assertValidVariableIndex`) are the generators of Model/Compound.lean that `gen_sound_*` /
`gen_complete_*` (Props/C07.lean) are about, and — through `gen_dispatch` — what the model's dispatcher
`genSepsOne` (the function the correspondence harness compares with the C++) returns whenever it
reports no error; in that case every obligation of the generated code (index checks, non-null
variables, no exception) holds as well.
-/
import AdaptaVerif.Lemmas.CompoundDispatchBridge
import AdaptaVerif.Props.C07
namespace AdaptaVerif.Props.C07Tie
open AdaptaVerif.Model.Compound AdaptaVerif.Gen.CompoundK AdaptaVerif.Gen.KeysCompound
open AdaptaVerif.Lemmas.CompoundBridge

/-! ### one theorem per constraint type: generated method = model generator (appended to `cs`) -/

theorem gen_boundary_is_model (dim : Dim) (nvars : Nat) (cs : List Sep) (self : OffsetCC) :
    boundaryGen dim nvars cs () self =
      cs ++ (if dim = self.primaryDim then boundarySeps (self.var.getD default) self.offs else []) :=
  boundary_eq dim nvars cs self

theorem gen_alignment_is_model (dim : Dim) (nvars : Nat) (cs : List Sep) (self : OffsetCC) :
    alignmentGen dim nvars cs () self =
      cs ++ (if dim = self.primaryDim then alignmentSeps (self.var.getD default) self.offs else []) :=
  alignment_eq dim nvars cs self

/-- SeparationConstraint: between two shapes (`shapePair l r`) the indices are `l`, `r`; between two alignments
    (`alignPair`) they are the guideline variables (`VarIndexPair::indexL/indexR`, regenerated too) -/
theorem gen_separation_is_model (dim : Dim) (nvars : Nat) (cs : List Sep) (d : Dim) (gap : Rat) (eq : Bool) (l r vl vr : Nat) :
    separationGen dim nvars cs () ⟨d, [shapePair l r], gap, eq⟩ = cs ++ (if dim = d then separationSeps l r gap eq else []) ∧
    separationGen dim nvars cs () ⟨d, [alignPair (some vl) (some vr) l r], gap, eq⟩ =
      cs ++ (if dim = d then separationSeps vl vr gap eq else []) :=
  ⟨separation_eq dim nvars cs _, separation_eq dim nvars cs _⟩

theorem gen_orthogonal_is_model (dim : Dim) (nvars : Nat) (cs : List Sep) (self : OrthCC) :
    orthogonalGen dim nvars cs () self =
      cs ++ (if dim = self.primaryDim then separationSeps self.left self.right 0 true else []) :=
  orthogonal_eq dim nvars cs self

theorem gen_multiSep_is_model (dim : Dim) (nvars : Nat) (cs : List Sep) (self : MultiCC) :
    multiSepGen dim nvars cs () self =
      cs ++ (if dim = self.primaryDim then multiSeps (self.pairs.map pairIds) self.sep self.equality else []) :=
  multiSep_eq dim nvars cs self

theorem gen_distribution_is_model (dim : Dim) (nvars : Nat) (cs : List Sep) (self : MultiCC) :
    distributionGen dim nvars cs () self =
      cs ++ (if dim = self.primaryDim then multiSeps (self.pairs.map pairIds) self.sep true else []) :=
  distribution_eq dim nvars cs self

theorem gen_fixedRelative_is_model (dim : Dim) (nvars : Nat) (cs : List Sep) (self : FixedRelCC) :
    fixedRelGen dim nvars cs () self = cs ++ fixedRelSeps dim self.rel :=
  fixedRel_eq dim nvars cs self

theorem gen_pageBoundary_is_model (dim : Dim) (nvars : Nat) (cs : List Sep) (self : PageCC) :
    pageBoundaryGen dim nvars cs () self = cs ++ pageSeps dim (self.vl dim) (self.vr dim) (self.shapes.map shapeTriple) :=
  pageBoundary_eq dim nvars cs self

/-- Whenever the model's `genSepsOne` (one `cc->generateSeparationConstraints(dim, vars, cs, bbs)` call; compared
    exactly with the real libcola on every run) reports no error, the method generated from the C++ source, applied to
    the members that `cc` stands for (`genOf`), returns exactly the same constraints, and every obligation of the generated
    code holds: all `assertValidVariableIndex` checks, `COLA_ASSERT(variable != nullptr)`, no `InvalidConstraint` thrown,
    no null variable handed to `new vpsc::Constraint`. -/
theorem gen_dispatch (dim : Dim) (nvars : Nat) (aux : List Aux) (idx : Nat) (cc : CC) (seps : List Sep)
    (h : genSepsOne dim nvars aux idx cc = (seps, none)) :
    genOf dim nvars aux idx cc = seps ∧ genOfPre dim nvars aux idx cc = true :=
  AdaptaVerif.Lemmas.CompoundBridge.gen_dispatch dim nvars aux idx cc seps h

/-- non-vacuity: a boundary constraint whose line variable is 2, three variables -/
example : genSepsOne .x 3 [{ main := some 2 }] 0 (.boundary .x 0 [(0, -1), (1, 1)]) =
    ([⟨0, 2, 1, false⟩, ⟨2, 1, 1, false⟩], none) := by decide +kernel

end AdaptaVerif.Props.C07Tie
