/-
C19 — "symmetric tree layout places no two tree nodes on top of each other": property theorems about the
executable model of `dialect::Tree::symmetricLayout` (only theorems + non-vacuity examples).

  Model  : Model/TreeLayout.lean — `symmetricLayout cfg convex id w h kids` (flip, translate, getBounds, the
           isomorphism-class ordering and the alternating placement, all as coded; Rat for double)
  Tie    : Driver/C19.lean `tieLayout` — every run, the real `Tree::symmetricLayout` is run on generated trees
           (classes layout-*, layoutx-*) and every centre coordinate, every `m_boundsByRank[r]`, `m_lb/m_ub`
           and `isSymmetrical()` must equal the model's value exactly.
  Proofs : Lemmas/TreeLayout*.lean

All theorems quantify over every rooted ordered tree (`Forest`, any number of nodes, any shape), every node
size, every separation and all four growth directions.  The theorems named `layoutWith_…` hold for an
arbitrary ordering of the c-trees (`ord`), i.e. they do not depend on how `computeIsomString` and the
class sort behave; `symmetricLayout_…` are the instances for the ordering as coded.

The claim "no two nodes overlap" is FALSE without a hypothesis on the node extents along the growth
direction (known finding C14-tree-rank-distance): `tall_root_overlaps_child`.
-/
import AdaptaVerif.Lemmas.TreeLayoutRot
import AdaptaVerif.Lemmas.TreeLayoutPerm
namespace AdaptaVerif.Props.C19Layout
open AdaptaVerif.Model.TreeLayout AdaptaVerif.Lemmas.TreeLayout

/-- hypothesis on one node size: non-negative, and the extent along the growth direction ≤ rankSep -/
def SizeHyp (cfg : Cfg) (w h : Rat) : Prop :=
  0 ≤ w ∧ 0 ≤ h ∧ (if cfg.dir.isVertical then h else w) ≤ cfg.rankSep

/-- strict variant: extent along the growth direction < rankSep -/
def SizeHypStrict (cfg : Cfg) (w h : Rat) : Prop :=
  0 ≤ w ∧ 0 ≤ h ∧ (if cfg.dir.isVertical then h else w) < cfg.rankSep

/-- only non-negative sizes -/
def SizeNonneg (w h : Rat) : Prop := 0 ≤ w ∧ 0 ≤ h

/-! ### (1) rank bounds enclose the nodes, also after `flip` / `translate` -/

/-- Every node of rank `r` of the laid-out tree lies, on the transverse axis, within `m_boundsByRank[r]`
    (for every ordering of the c-trees; sizes and nodeSep non-negative). -/
theorem rank_bounds_enclose (ord : Order) (cfg : Cfg) (convex : Bool) (id : Nat) (w h : Rat) (kids : Forest)
    (hns : 0 ≤ cfg.nodeSep) (hroot : SizeNonneg w h) (hkids : ForestAll SizeNonneg kids) :
    ∀ l ∈ (layoutWith ord cfg convex id w h kids).levels, ∀ n ∈ l.nodes,
      l.lo ≤ tr cfg.dir n.c - ht cfg.dir n ∧ tr cfg.dir n.c + ht cfg.dir n ≤ l.hi :=
  (layoutWith_ok ord hns (fun _ _ h => h) convex id w h kids hroot hkids).encloses

/-- … and `Tree::flip` keeps that (any tree state, no hypothesis) -/
theorem rank_bounds_enclose_flip (d : Dir) (t : Lay) (h : Encloses d t) : Encloses d (t.flip d) := h.flip

/-- … and so does `Tree::translate` by any vector -/
theorem rank_bounds_enclose_translate (d : Dir) (v : Pt) (t : Lay) (h : Encloses d t) :
    Encloses d (t.translate d v) := h.translate v

/-- lower bound ≤ upper bound on every rank -/
theorem rank_bounds_ordered (ord : Order) (cfg : Cfg) (convex : Bool) (id : Nat) (w h : Rat) (kids : Forest)
    (hns : 0 ≤ cfg.nodeSep) (hroot : SizeNonneg w h) (hkids : ForestAll SizeNonneg kids) :
    ∀ l ∈ (layoutWith ord cfg convex id w h kids).levels, l.lo ≤ l.hi :=
  fun l hl => ((layoutWith_ok ord hns (fun _ _ h => h) convex id w h kids hroot hkids).lv l hl).le

/-! ### (2) subtrees placed side by side are separated on every common rank -/

/-- The side branch of the placement loop, on every common rank: the rank bound of the subtree being
    placed lies `2·nodeSep` beyond the bound of everything placed before on that side
    (positive side: above the upper bound; negative side: below the lower bound). No hypothesis. -/
theorem siblings_separated (cfg : Cfg) (st : St) (t : Lay) :
    ∀ x ∈ (sideMoved cfg st t).levels.zip st.rest,
      (st.positiveNext = true → x.2.hi + 2 * cfg.nodeSep ≤ x.1.lo) ∧
      (st.positiveNext = false → x.1.hi + 2 * cfg.nodeSep ≤ x.2.lo) :=
  sideMoved_sep cfg st t

/-- … and the placement is tight: unless the start value of the running max (`DBL_MIN`) resp. min (`DBL_MAX`)
    wins, some common rank has a gap of exactly `2·nodeSep` (the subtree is pushed against what is there). -/
theorem siblings_tight (cfg : Cfg) (st : St) (t : Lay) :
    (st.positiveNext = true →
      sideRootPos cfg st t = dblMin ∨
      ∃ x ∈ (sideMoved cfg st t).levels.zip st.rest, x.2.hi + 2 * cfg.nodeSep = x.1.lo) ∧
    (st.positiveNext = false →
      sideRootPos cfg st t = dblMax ∨
      ∃ x ∈ (sideMoved cfg st t).levels.zip st.rest, x.1.hi + 2 * cfg.nodeSep = x.2.lo) := by
  rw [sideMoved_eq]
  unfold sideRootPos
  constructor <;> intro hp <;> rw [hp]
  · exact (foldl_rmax_mem _ dblMin).imp id
      (zip_tight_pos cfg.dir cfg.nodeSep _ _ (disp_sideTrans cfg _) _ _)
  · exact (foldl_rmin_mem _ dblMax).imp id
      (zip_tight_neg cfg.dir cfg.nodeSep _ _ (disp_sideTrans cfg _) _ _)

/-- Node form: in any loop state satisfying the invariant, every node `m` already placed on a rank and every
    node `n` of the subtree now placed on that rank are `2·nodeSep` apart (`≥ nodeSep` as `nodeSep ≥ 0`). -/
theorem siblings_separated_nodes (cfg : Cfg) (P : Rat → Rat → Prop) (st : St) (t : Lay)
    (hst : StOK cfg P st) (ht : LayOK cfg.dir (2 * cfg.nodeSep) (gstep cfg) P t) :
    ∀ x ∈ (sideMoved cfg st t).levels.zip st.rest, ∀ n ∈ x.1.nodes, ∀ m ∈ x.2.nodes,
      (st.positiveNext = true → rgt cfg.dir m + 2 * cfg.nodeSep ≤ lft cfg.dir n) ∧
      (st.positiveNext = false → rgt cfg.dir n + 2 * cfg.nodeSep ≤ lft cfg.dir m) := by
  intro x hx n hn m hm
  have hz := List.of_mem_zip hx
  have h1 := (sideMoved_ok (st := st) ht x.1 hz.1).enc n hn
  have h2 := (hst.rest x.2 hz.2).enc m hm
  have h3 := sideMoved_sep cfg st t x hx
  exact ⟨fun hp => by linarith [h3.1 hp, h1.1, h2.2], fun hp => by linarith [h3.2 hp, h1.2, h2.1]⟩

/-- In the finished layout, any two nodes of the same rank are `2·nodeSep` apart on the transverse axis. -/
theorem same_rank_separated (ord : Order) (cfg : Cfg) (convex : Bool) (id : Nat) (w h : Rat) (kids : Forest)
    (hns : 0 ≤ cfg.nodeSep) (hroot : SizeNonneg w h) (hkids : ForestAll SizeNonneg kids) :
    ∀ l ∈ (layoutWith ord cfg convex id w h kids).levels,
      l.nodes.Pairwise (fun m n => rgt cfg.dir m + 2 * cfg.nodeSep ≤ lft cfg.dir n ∨
                                   rgt cfg.dir n + 2 * cfg.nodeSep ≤ lft cfg.dir m) :=
  fun l hl => ((layoutWith_ok ord hns (fun _ _ h => h) convex id w h kids hroot hkids).lv l hl).sep

/-- Every node sits, along the growth axis, at a natural multiple of `gstep = ±rankSep`.  (The multiple is the
    node's rank, by `LayOK.grow`; the statement does not name it.) -/
theorem rank_coordinate (ord : Order) (cfg : Cfg) (convex : Bool) (id : Nat) (w h : Rat) (kids : Forest)
    (hns : 0 ≤ cfg.nodeSep) (hroot : SizeNonneg w h) (hkids : ForestAll SizeNonneg kids) :
    ∀ n ∈ (layoutWith ord cfg convex id w h kids).nodes, ∃ k : Nat, gr cfg.dir n.c = k * gstep cfg := by
  intro n hn
  obtain ⟨k, hk⟩ := growAt_exists (layoutWith_ok ord hns (fun _ _ h => h) convex id w h kids hroot hkids).grow n hn
  exact ⟨k, by rw [hk, zero_add]⟩

/-! ### (3) no two boxes overlap -/

/-- **No overlap, any ordering of the c-trees**: if every node's extent along the growth direction is
    ≤ rankSep, sizes are non-negative and nodeSep ≥ 0, then no two distinct nodes (distinct positions of the
    output list) have boxes overlapping with positive area. -/
theorem layoutWith_no_overlap (ord : Order) (cfg : Cfg) (convex : Bool) (id : Nat) (w h : Rat) (kids : Forest)
    (hns : 0 ≤ cfg.nodeSep) (hroot : SizeHyp cfg w h) (hkids : ForestAll (SizeHyp cfg) kids) :
    (layoutWith ord cfg convex id w h kids).nodes.Pairwise noOverlap :=
  (layoutWith_ok ord hns (fun _ _ h => ⟨h.1, h.2.1⟩) convex id w h kids hroot hkids).noOverlap
    (by linarith) (gstep_abs cfg) (fun _ _ h => h)

/-- **No overlap for `Tree::symmetricLayout` as coded** (ordering by isomorphism classes, breadth, depth). -/
theorem symmetricLayout_no_overlap (cfg : Cfg) (convex : Bool) (id : Nat) (w h : Rat) (kids : Forest)
    (hns : 0 ≤ cfg.nodeSep) (hroot : SizeHyp cfg w h) (hkids : ForestAll (SizeHyp cfg) kids) :
    (symmetricLayout cfg convex id w h kids).nodes.Pairwise noOverlap :=
  layoutWith_no_overlap isomOrder cfg convex id w h kids hns hroot hkids

/-- Strict form: nodeSep > 0 and extents along the growth direction < rankSep ⇒ the closed boxes are
    pairwise disjoint (they do not even touch). -/
theorem symmetricLayout_disjoint_strict (cfg : Cfg) (convex : Bool) (id : Nat) (w h : Rat) (kids : Forest)
    (hns : 0 < cfg.nodeSep) (hroot : SizeHypStrict cfg w h) (hkids : ForestAll (SizeHypStrict cfg) kids) :
    (symmetricLayout cfg convex id w h kids).nodes.Pairwise disjointBoxes :=
  (layoutWith_ok isomOrder (le_of_lt hns) (fun _ _ h => ⟨h.1, h.2.1⟩) convex id w h kids hroot hkids).disjoint
    (by linarith) (gstep_abs cfg) (fun _ _ h => h)

/-! ### (3b) completeness: every node of the tree is placed exactly once -/

/-- The ordering as coded (classes by `computeIsomString`, class sort, odd class to the front) returns every
    c-tree index exactly once, for any list of c-tree keys — so no c-tree is dropped or placed twice. -/
theorem isomOrder_is_permutation (convex : Bool) (ks : List Key) :
    (isomOrder convex ks).1.Perm (List.range ks.length) := by
  have hlen : (ks.map Key.isom).length = ks.length := List.length_map _
  rw [← hlen]
  refine List.Perm.trans ?_ (classes_perm (ks.map Key.isom))
  unfold isomOrder
  simp only
  generalize hrep : (fun s => match List.find? (fun k => k.isom == s) ks with
    | some k => (k.breadth, k.depth) | none => (0, 0)) = rep
  have hsorted := isort_perm (classLt convex rep) (dedup (ks.map Key.isom))
  split
  · rename_i o ho
    refine List.Perm.flatMap_right _ ?_
    have hmem : o ∈ isort (classLt convex rep) (dedup (ks.map Key.isom)) := by
      refine hsorted.mem_iff.2 ?_
      have : o ∈ oddClasses (ks.map Key.isom) := by rw [ho]; exact List.mem_cons_self ..
      exact (List.mem_filter.1 this).1
    exact (List.perm_cons_erase hmem).symm.trans hsorted
  · exact List.Perm.flatMap_right _ hsorted

/-- The output of `symmetricLayout` contains exactly the nodes of the input tree (id and size), each once:
    the labels of the output nodes are a permutation of the labels of the tree in preorder.  Together with
    `symmetricLayout_no_overlap` (which speaks about all pairs of positions of the output list) this makes
    the no-overlap statement a statement about all pairs of distinct nodes of the input. -/
theorem symmetricLayout_nodes_perm (cfg : Cfg) (convex : Bool) (id : Nat) (w h : Rat) (kids : Forest) :
    ((symmetricLayout cfg convex id w h kids).nodes.map label).Perm ((id, w, h) :: forestLabels kids) :=
  layoutWith_labels isomOrder_is_permutation cfg convex id w h kids

/-! ### (4) the hypothesis on the extents is necessary (known finding C14-tree-rank-distance) -/

/-- the witness: a 10×100 root with one 10×10 child, growth SOUTH, nodeSep 5, rankSep 20 -/
def tallKids : Forest := .cons 1 10 10 .nil .nil
def tallCfg : Cfg := ⟨.south, 5, 20⟩

/-- The child is put at (0, 20): inside the root's box [-5,5] × [-50,50]. Adjacent ranks are a fixed
    distance `rankSep` apart regardless of the node extent along the growth direction. -/
theorem tall_root_overlaps_child :
    ¬ (symmetricLayout tallCfg true 0 10 100 tallKids).nodes.Pairwise noOverlap := by
  decide +kernel

/-- the witness violates exactly the extent hypothesis (root height 100 > rankSep 20), nothing else -/
example : ¬ SizeHyp tallCfg 10 100 ∧ SizeNonneg 10 100 ∧ ForestAll (SizeHyp tallCfg) tallKids ∧
    0 ≤ tallCfg.nodeSep := by
  simp [SizeHyp, SizeNonneg, ForestAll, tallKids, tallCfg, Dir.isVertical]; norm_num

/-! ### (5) `flip` / `translate` algebra -/

theorem flip_involutive (d : Dir) (t : Lay) : (t.flip d).flip d = t := Lay.flip_flip d t

/-- translating twice = translating by the sum -/
theorem translate_additive (d : Dir) (u v : Pt) (t : Lay) :
    (t.translate d u).translate d v = t.translate d ⟨u.x + v.x, u.y + v.y⟩ := Lay.translate_translate d u v t

/-- `flip` and `translate` commute up to mirroring the vector -/
theorem translate_equivariant (d : Dir) (v : Pt) (t : Lay) :
    (t.translate d v).flip d = (t.flip d).translate d (flipPt d v) := Lay.flip_translate d v t

/-! ### (6) the four growth directions are images of each other

`Frame.mapLay F` applies the point map `F.φ` to every centre and the size map `F.σ` to every node size and
leaves the rank bounds, `m_lb`, `m_ub` unchanged.  These equalities hold for the model as coded; a change
that treats one direction differently (seeded C14-2: the transverse half extent for EAST/WEST) breaks the
exact tie on the classes with EAST/WEST growth and non-square nodes. -/

/-- NORTH layout = SOUTH layout mirrored in the x-axis (`(x, y) ↦ (x, −y)`), any ordering function. -/
theorem layout_north_eq_mirror_south (ord : Order) (ns rs : Rat) (convex : Bool) (id : Nat) (w h : Rat)
    (kids : Forest) :
    layoutWith ord ⟨.north, ns, rs⟩ convex id w h kids =
      southNorth.mapLay (layoutWith ord ⟨.south, ns, rs⟩ convex id w h kids) := by
  have := southNorth.layoutWith_map ord ns rs convex id w h kids
  rw [southNorth_mapForest] at this
  exact this

/-- WEST layout = EAST layout mirrored in the y-axis (`(x, y) ↦ (−x, y)`). -/
theorem layout_west_eq_mirror_east (ord : Order) (ns rs : Rat) (convex : Bool) (id : Nat) (w h : Rat)
    (kids : Forest) :
    layoutWith ord ⟨.west, ns, rs⟩ convex id w h kids =
      eastWest.mapLay (layoutWith ord ⟨.east, ns, rs⟩ convex id w h kids) := by
  have := eastWest.layoutWith_map ord ns rs convex id w h kids
  rw [eastWest_mapForest] at this
  exact this

/-- EAST layout of the tree with every node's width and height exchanged = transpose (`(x, y) ↦ (y, x)`) of
    the SOUTH layout of the tree. -/
theorem layout_east_eq_transpose_south (ord : Order) (ns rs : Rat) (convex : Bool) (id : Nat) (w h : Rat)
    (kids : Forest) :
    layoutWith ord ⟨.east, ns, rs⟩ convex id h w (southEast.mapForest kids) =
      southEast.mapLay (layoutWith ord ⟨.south, ns, rs⟩ convex id w h kids) :=
  southEast.layoutWith_map ord ns rs convex id w h kids

/-- … in particular for `symmetricLayout` as coded -/
theorem symmetricLayout_east_eq_transpose_south (ns rs : Rat) (convex : Bool) (id : Nat) (w h : Rat)
    (kids : Forest) :
    symmetricLayout ⟨.east, ns, rs⟩ convex id h w (southEast.mapForest kids) =
      southEast.mapLay (symmetricLayout ⟨.south, ns, rs⟩ convex id w h kids) :=
  southEast.layoutWith_map isomOrder ns rs convex id w h kids

/-- an example tree with anisotropic node sizes -/
def exKidsA : Forest :=
  .cons 1 4 10 .nil (.cons 2 10 6 (.cons 4 6 2 .nil .nil) (.cons 3 12 10 .nil .nil))

/-- the transposition really exchanges the coordinates (closed instance, 5 nodes, anisotropic sizes) -/
example : (symmetricLayout ⟨.east, 5, 20⟩ true 0 8 10 (southEast.mapForest exKidsA)).nodes.map (fun n => (n.id, n.c.x, n.c.y))
    = (symmetricLayout ⟨.south, 5, 20⟩ true 0 10 8 exKidsA).nodes.map (fun n => (n.id, n.c.y, n.c.x)) := by
  decide +kernel

/-! ### (6b) the totalised equation of `overlay` is never used

`overlay` keeps a subtree's deeper ranks when the parent has no rank for them (instead of dropping nodes or
indexing out of bounds like the C++ would).  That equation is dead: the parent pre-allocates
`m_depth = 1 + max c-tree depth` ranks and every step keeps that number. -/

theorem rank_count (cfg : Cfg) (id : Nat) (w h : Rat) (ordered : List Lay) (c : Bool) :
    (placeAll cfg id w h ordered c).levels.length = maxDepth ordered + 1 :=
  placeAll_levels_length cfg id w h ordered c

/-- The number of rank bounds of the finished layout equals `m_depth` as the `Tree` constructor's BFS computes
    it (`Key.depth`, tied to the C++ value on every subtree by the `isomv` lines of the harness). -/
theorem symmetricLayout_rank_count_eq_depth (cfg : Cfg) (convex : Bool) (id : Nat) (w h : Rat) (kids : Forest) :
    (symmetricLayout cfg convex id w h kids).levels.length = (mkKey (keys kids)).depth :=
  layoutWith_depth isomOrder_is_permutation cfg convex id w h kids

/-- at the moment any c-tree `t` of the placement sequence `pre ++ t :: post` is placed, the parent state has
    at least as many ranks below the root as `t` has ranks -/
theorem overlay_second_equation_unused (cfg : Cfg) (id : Nat) (w h : Rat) (c : Bool) (pre post : List Lay) (t : Lay) :
    t.levels.length ≤
      (pre.foldl (place cfg) (initSt cfg id w h (maxDepth (pre ++ t :: post)) c)).rest.length :=
  placeAll_overlay_total cfg id w h c pre post t

/-! ### (6c) the two `std::sort` calls are modelled without loss

The model sorts by insertion; `std::sort` only promises a sorted permutation.  Both comparators are strict
total orders on what they sort, so any sorted permutation is the model's result. -/

/-- class strings (`isomStrings`): any permutation `out` of them in which no later string is `classLt` an
    earlier one equals the model's `isort (classLt …)` — for every `rep` (breadth/depth lookup). -/
theorem class_sort_is_determined (convex : Bool) (rep : String → Nat × Nat) (l out : List String)
    (hperm : out.Perm l) (hsorted : out.Pairwise (fun a b => classLt convex rep b a = false)) :
    out = isort (classLt convex rep) l :=
  sorted_perm_unique (ckey convex rep) (classLt convex rep) (classLt_iff convex rep) (ckey_injective convex rep)
    l out hperm hsorted

/-- tuple strings of a level (`std::sort(N…)` by `isomTupleString`): any sorted permutation is `sortStr` -/
theorem tuple_sort_is_determined (l out : List String) (hperm : out.Perm l)
    (hsorted : out.Pairwise (fun a b => ¬ b < a)) : out = sortStr l :=
  sorted_perm_unique (key := id) (fun a b => decide (a < b)) (fun a b => by simp) (fun _ _ h => h)
    l out hperm (hsorted.imp (fun h => by simpa using h))

/-! ### (7) a quirk of the code as coded (outside the C19 property text; recorded because the model has it)

`computeIsomString` never increments its class counter, so its string does not determine the isomorphism
class.  Two non-isomorphic subtrees with the same string form one class of even order and `symmetricLayout`
reports `isSymmetrical() = true` for a drawing that is not mirror symmetric.  The harness replays this tree
against the C++ (`layoutx-quirk-witness`) and the exact tie confirms the flag and all positions. -/

def lf (i : Nat) (rest : Forest) : Forest := .cons i 30 30 .nil rest
def nd (i : Nat) (kids rest : Forest) : Forest := .cons i 30 30 kids rest
/-- T1 = {x:{p₁,q₂}, y:{p₁,q₂}} and T2 = {x:{p₁,p₁}, y:{q₂,q₂}} (pₐ = node with a leaves) under one root -/
def quirkKids : Forest :=
  nd 1 (nd 2 (nd 3 (lf 4 .nil) (nd 5 (lf 6 (lf 7 .nil)) .nil))
             (nd 8 (nd 9 (lf 10 .nil) (nd 11 (lf 12 (lf 13 .nil)) .nil)) .nil))
  (nd 14 (nd 15 (nd 16 (lf 17 .nil) (nd 18 (lf 19 .nil) .nil))
               (nd 20 (nd 21 (lf 22 (lf 23 .nil)) (nd 24 (lf 25 (lf 26 .nil)) .nil)) .nil)) .nil)

theorem isSymmetrical_flag_unsound :
    isSymmetrical quirkKids = true ∧
    ∃ n ∈ (symmetricLayout ⟨.south, 10, 50⟩ true 0 30 30 quirkKids).nodes,
      ∀ m ∈ (symmetricLayout ⟨.south, 10, 50⟩ true 0 30 30 quirkKids).nodes,
        ¬ (m.c.x = -n.c.x ∧ m.c.y = n.c.y) := by
  decide +kernel

/-! ### non-vacuity -/

/-- a 5-node tree with an asymmetric subtree: three c-trees of the root, one placed centrally, one on each
    side; the hypotheses of `symmetricLayout_no_overlap` hold … -/
def exKids : Forest :=
  .cons 1 10 10 .nil (.cons 2 10 10 (.cons 4 6 6 .nil .nil) (.cons 3 10 10 .nil .nil))
def exCfg : Cfg := ⟨.south, 5, 20⟩

example : 0 ≤ exCfg.nodeSep ∧ SizeHyp exCfg 10 10 ∧ ForestAll (SizeHyp exCfg) exKids := by
  simp [SizeHyp, ForestAll, exKids, exCfg, Dir.isVertical]; norm_num

/-- … the model really places all five nodes (central c-tree 2 with its child 4, c-tree 1 on the positive
    side at x = 20, c-tree 3 flipped to the negative side at x = −20) … -/
example : (symmetricLayout exCfg true 0 10 10 exKids).nodes.map (fun n => (n.id, n.c.x, n.c.y)) =
    [(0, 0, 0), (2, 0, 20), (1, 20, 20), (3, -20, 20), (4, 0, 40)] := by decide +kernel

/-- … and the conclusion holds there (checked by evaluation, independently of the theorem). -/
example : (symmetricLayout exCfg true 0 10 10 exKids).nodes.Pairwise noOverlap := by decide +kernel

/-- strict hypotheses are satisfiable as well -/
example : 0 < exCfg.nodeSep ∧ SizeHypStrict exCfg 10 10 ∧ ForestAll (SizeHypStrict exCfg) exKids := by
  simp [SizeHypStrict, ForestAll, exKids, exCfg, Dir.isVertical]; norm_num

/-- a reachable loop state for `siblings_separated`: after the root's `initSt`, the first side placement -/
example : (sideMoved exCfg (initSt exCfg 0 10 10 1 false) ⟨[⟨-5, 5, [⟨1, ⟨0, 0⟩, 10, 10⟩]⟩], -5, 5⟩).levels.map
    (fun l => (l.lo, l.hi)) = [(10, 20)] := by decide +kernel

/-- a loop state with one c-tree already placed on the positive side, and a second leaf c-tree to be placed -/
def exLeaf (i : Nat) : Lay := layoutWith isomOrder exCfg true i 10 10 .nil
def exSt1 : St := place exCfg (initSt exCfg 0 10 10 1 false) (exLeaf 1)

-- non-vacuity of siblings_separated_nodes: both invariants hold jointly (P := SizeNonneg) in a state where the common
-- rank carries a node on either side (node 1 already placed at x = 15, node 2 now placed at x = −15)
example : StOK exCfg SizeNonneg exSt1 ∧
    LayOK exCfg.dir (2 * exCfg.nodeSep) (gstep exCfg) SizeNonneg (exLeaf 2) ∧
    ((sideMoved exCfg exSt1 (exLeaf 2)).levels.zip exSt1.rest).map
      (fun x => (x.1.nodes.map (fun n => (n.id, n.c.x)), x.2.nodes.map (fun n => (n.id, n.c.x))))
      = [([(2, -15)], [(1, 15)])] := by
  have hns : (0 : Rat) ≤ exCfg.nodeSep := by norm_num [exCfg]
  have hsz : SizeNonneg 10 10 := by norm_num [SizeNonneg]
  have hl : ∀ i, LayOK exCfg.dir (2 * exCfg.nodeSep) (gstep exCfg) SizeNonneg (exLeaf i) :=
    fun i => layoutWith_ok isomOrder hns (fun _ _ h => h) true i 10 10 .nil hsz trivial
  exact ⟨place_ok hns (initSt_ok exCfg SizeNonneg 0 10 10 1 false hsz (by norm_num) (by norm_num)) (hl 1), hl 2,
    by decide +kernel⟩

-- siblings_tight in that state is not met through its escape disjunct (`sideRootPos = dblMax`): the placed subtree's rank
-- bound [−20, −10] is pushed against the bound [0, 20] of what is there, gap exactly 2·nodeSep = 10
example : exSt1.positiveNext = false ∧ sideRootPos exCfg exSt1 (exLeaf 2) ≠ dblMax ∧
    exSt1.rest.map (fun l => (l.lo, l.hi)) = [(0, 20)] ∧
    (sideMoved exCfg exSt1 (exLeaf 2)).levels.map (fun l => (l.lo, l.hi)) = [(-20, -10)] := by decide +kernel

-- non-vacuity of tuple_sort_is_determined: a two-element sorted permutation
example : ["a", "b"].Perm ["b", "a"] ∧ ["a", "b"].Pairwise (fun a b => ¬ b < a) :=
  ⟨List.Perm.swap _ _ _, by decide⟩

end AdaptaVerif.Props.C19Layout
