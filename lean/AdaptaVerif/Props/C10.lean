/-
C10 — libavoid nudging: shared paths are separated without moving endpoints.
Property theorems only (helpers: Lemmas/Nudge.lean).

What is proved for ALL regions / parameters / solver outputs (model: Model/Nudge.lean):
  (a) `region_separation`: any assignment satisfying the generated constraints keeps ordered,
      overlapping segments of different connectors (not exempted by the common-end-point rule)
      at least `sepDist` apart;
  (b) `region_limits`, `applied_in_limits`: a satisfied solution is within `tol` of the channel
      limits and the applied (clamped) positions are inside `[minSpaceLimit, maxSpaceLimit]`;
  (c) `fixed_stay_put`, `unsatisfied_no_change`: fixed segments are never written, and nothing is
      written when the `satisfied` test fails — this, not the weight, is the mechanism that keeps
      end segments in place (the weight only feeds the `satisfied` test; that VPSC honours it is
      C01/C02's business and is checked here per run on `displayRoute()`);
  (d) `applied_separation`: after applying a satisfied solution the separation is ≥ sepDist − 2·tol;
  (e) `sepAfter_bounds`: the reduced distance after k ≤ 9 reductions is ≥ d/10 > 0.
Soundness of the route checkers of Check/Nudge.lean.
Not in this abstract model: segment ordering (`PtOrderMap`, `linesort`), region formation, channel
limits (`buildOrthogonalChannelInfo`), the unifying pass, and `genCons` itself is not compared with
the C++ constraint list.  The region model (Model/NudgeRegion.lean, Props/C10Region.lean), of whose
generator `genCons` is an instance, and the segment model (Model/NudgeSegs.lean, Props/C10Segs.lean)
cover these except `PtOrderMap`, and are compared with the hook dump on every run.
-/
import AdaptaVerif.Lemmas.Nudge
import AdaptaVerif.Check.Nudge
import AdaptaVerif.Spec.Nudge
namespace AdaptaVerif.Props.C10
open AdaptaVerif.Model.Nudge AdaptaVerif.Lemmas.Nudge AdaptaVerif.Spec.Nudge
open AdaptaVerif.Model.Pins AdaptaVerif.Spec.Pins AdaptaVerif.Check.Nudge

/-- (a) ∀ regions, ∀ solver outputs satisfying the generated constraints: ordered overlapping
    segments of different connectors end at least `sepDist` apart -/
theorem region_separation (p : Params) (segs : List Seg) (sol : Sol) (h : AllHold p segs sol)
    (j i : Nat) (a b : Seg) (hj : segs[j]? = some a) (hi : segs[i]? = some b) (hji : j < i)
    (hov : overlaps b a = true) (hfix : b.fixed = false ∨ a.fixed = false) (hfull : FullGap p a b) :
    sol.x j + p.sepDist ≤ sol.x i := by
  have hm := sep_mem_genCons p segs j i a b hj hi hji hov hfix
  rw [gapFor_full p a b hfull] at hm
  have := h _ hm
  simpa [Cons.holds] using this

/-- the executable constraint test of the driver decides `Cons.holds` -/
theorem holdsB_iff (sol : Sol) (c : Cons) : c.holdsB sol = true ↔ c.holds sol := by
  cases c with
  | sep j i gap eq => cases eq <;> simp [Cons.holdsB, Cons.holds]
  | lower i l => simp [Cons.holdsB, Cons.holds]
  | upper i u => simp [Cons.holdsB, Cons.holds]

/-- non-vacuity: a region of two overlapping free segments of different connectors in a channel
    [0, 30] with sepDist 10, and an assignment satisfying all constraints -/
example : AllHold ⟨10, true, fun _ _ => false, fun _ _ => false, 1/10000⟩
    [⟨5, some 0, some 30, false, 1, 0, 100⟩, ⟨5, some 0, some 30, false, 2, 50, 150⟩]
    ⟨fun i => if i = 0 then 0 else 10, fun _ => 0, fun _ => 30⟩ := by
  intro c hc
  exact (holdsB_iff _ c).1 (List.all_eq_true.1 (by decide +kernel) c hc)

/-- (b) a satisfied solution keeps every non-fixed segment within `tol` of its channel limits -/
theorem region_limits (p : Params) (segs : List Seg) (sol : Sol) (h : AllHold p segs sol)
    (hs : Satisfied p segs sol) (i : Nat) (s : Seg) (hi : segs[i]? = some s) (hf : s.fixed = false) :
    (∀ l, s.minLim = some l → l - p.tol ≤ sol.x i) ∧ (∀ u, s.maxLim = some u → sol.x i ≤ u + p.tol) := by
  obtain ⟨_, hl, hu⟩ := hs i s hi
  constructor
  · intro l hm
    have hc := h _ (lower_mem_genCons p segs i s l hi hf hm)
    simp only [Cons.holds] at hc
    have := absR_le (hl hf l hm)
    linarith [this.1]
  · intro u hm
    have hc := h _ (upper_mem_genCons p segs i s u hi hf hm)
    simp only [Cons.holds] at hc
    have := absR_le (hu hf u hm)
    linarith [this.2]

/-- non-vacuity of `Satisfied` (same instance as above: channel variables at the limits) -/
example : Satisfied ⟨10, true, fun _ _ => false, fun _ _ => false, 1/10000⟩
    [⟨5, some 0, some 30, false, 1, 0, 100⟩, ⟨5, some 0, some 30, false, 2, 50, 150⟩]
    ⟨fun i => if i = 0 then 0 else 10, fun _ => 0, fun _ => 30⟩ := by
  intro i s hi
  match i, hi with
  | 0, hi => simp at hi; subst hi; simp [AdaptaVerif.Model.Nudge.absR]
  | 1, hi => simp at hi; subst hi; simp [AdaptaVerif.Model.Nudge.absR]
  | (n + 2), hi => simp at hi

/-- (b') the position written back is inside `[minSpaceLimit, maxSpaceLimit]` -/
theorem applied_in_limits (p : Params) (segs : List Seg) (sol : Sol) (h : AllHold p segs sol)
    (hs : Satisfied p segs sol) (ht : 0 ≤ p.tol) (i : Nat) (s : Seg) (hi : segs[i]? = some s)
    (hf : s.fixed = false) (hlu : ∀ l u, s.minLim = some l → s.maxLim = some u → l ≤ u) :
    (∀ l, s.minLim = some l → l ≤ finalPos true s (sol.x i)) ∧
    (∀ u, s.maxLim = some u → finalPos true s (sol.x i) ≤ u) := by
  obtain ⟨h1, h2⟩ := region_limits p segs sol h hs i s hi hf
  have hc := clamp_close s (sol.x i) p.tol ht hlu h1 h2
  simp only [finalPos, hf, if_true, Bool.false_eq_true, if_false]
  exact ⟨hc.2.2.1, hc.2.2.2⟩

/-- (c) fixed segments are never moved by the apply step -/
theorem fixed_stay_put (sat : Bool) (s : Seg) (xi : Rat) (hf : s.fixed = true) : finalPos sat s xi = s.pos := by
  unfold finalPos; simp [hf]

/-- (c') when the `satisfied` test fails nothing is moved -/
theorem unsatisfied_no_change (s : Seg) (xi : Rat) : finalPos false s xi = s.pos := by
  unfold finalPos; simp

/-- (d) after applying a satisfied solution: separation ≥ sepDist − 2·tol -/
theorem applied_separation (p : Params) (segs : List Seg) (sol : Sol) (h : AllHold p segs sol)
    (hs : Satisfied p segs sol) (ht : 0 ≤ p.tol)
    (hlims : ∀ (i : Nat) (s : Seg), segs[i]? = some s → ∀ l u, s.minLim = some l → s.maxLim = some u → l ≤ u)
    (j i : Nat) (a b : Seg) (hj : segs[j]? = some a) (hi : segs[i]? = some b) (hji : j < i)
    (hov : overlaps b a = true) (hfix : b.fixed = false ∨ a.fixed = false) (hfull : FullGap p a b) :
    finalPos true a (sol.x j) + (p.sepDist - 2 * p.tol) ≤ finalPos true b (sol.x i) := by
  have hsep := region_separation p segs sol h j i a b hj hi hji hov hfix hfull
  have close : ∀ k s, segs[k]? = some s → -p.tol ≤ finalPos true s (sol.x k) - sol.x k ∧
      finalPos true s (sol.x k) - sol.x k ≤ p.tol := by
    intro k s hk
    cases hfx : s.fixed with
    | true =>
      have := absR_le ((hs k s hk).1 hfx)
      simp only [finalPos, hfx, if_true]
      constructor <;> linarith [this.1, this.2]
    | false =>
      obtain ⟨h1, h2⟩ := region_limits p segs sol h hs k s hk hfx
      have hc := clamp_close s (sol.x k) p.tol ht (hlims k s hk) h1 h2
      simp only [finalPos, hfx, if_true, Bool.false_eq_true, if_false]
      exact ⟨hc.1, hc.2.1⟩
  have ca := close j a hj
  have cb := close i b hi
  linarith [ca.1, ca.2, cb.1, cb.2]

-- non-vacuity (joint) of `region_separation`, `region_limits`, `applied_in_limits`, `applied_separation`:
-- ALL their hypotheses hold together on the two-segment region above, and the theorems instantiate on it
example :
    let p : Params := ⟨10, true, fun _ _ => false, fun _ _ => false, 1/10000⟩
    let a : Seg := ⟨5, some 0, some 30, false, 1, 0, 100⟩
    let b : Seg := ⟨5, some 0, some 30, false, 2, 50, 150⟩
    let sol : Sol := ⟨fun i => if i = 0 then 0 else 10, fun _ => 0, fun _ => 30⟩
    AllHold p [a, b] sol ∧ Satisfied p [a, b] sol ∧ 0 ≤ p.tol ∧
    (∀ (i : Nat) (s : Seg), [a, b][i]? = some s → ∀ l u, s.minLim = some l → s.maxLim = some u → l ≤ u) ∧
    overlaps b a = true ∧ (b.fixed = false ∨ a.fixed = false) ∧ FullGap p a b ∧
    sol.x 0 + p.sepDist ≤ sol.x 1 ∧
    (∀ l, b.minLim = some l → l ≤ finalPos true b (sol.x 1)) ∧
    finalPos true a (sol.x 0) + (p.sepDist - 2 * p.tol) ≤ finalPos true b (sol.x 1) := by
  intro p a b sol
  have hA : AllHold p [a, b] sol := by
    intro c hc
    exact (holdsB_iff _ c).1 (List.all_eq_true.1 (by decide +kernel) c hc)
  have hS : Satisfied p [a, b] sol := by
    intro i s hi
    match i, hi with
    | 0, hi => simp at hi; subst hi; simp [a, sol, p, AdaptaVerif.Model.Nudge.absR]
    | 1, hi => simp at hi; subst hi; simp [b, sol, p, AdaptaVerif.Model.Nudge.absR]
    | (n + 2), hi => simp at hi
  have ht : 0 ≤ p.tol := by simp [p]
  have hl : ∀ (i : Nat) (s : Seg), [a, b][i]? = some s → ∀ l u, s.minLim = some l → s.maxLim = some u → l ≤ u := by
    intro i s hi l u h1 h2
    match i, hi with
    | 0, hi => simp at hi; subst hi; simp [a] at h1 h2; subst h1 h2; norm_num
    | 1, hi => simp at hi; subst hi; simp [b] at h1 h2; subst h1 h2; norm_num
    | (n + 2), hi => simp at hi
  have hov : overlaps b a = true := by decide
  have hfx : b.fixed = false ∨ a.fixed = false := Or.inl rfl
  have hfg : FullGap p a b := ⟨by decide, by simp [p]⟩
  exact ⟨hA, hS, ht, hl, hov, hfx, hfg,
    region_separation p [a, b] sol hA 0 1 a b rfl rfl (by decide) hov hfx hfg,
    (applied_in_limits p [a, b] sol hA hS ht 1 b rfl rfl (hl 1 b rfl)).1,
    applied_separation p [a, b] sol hA hS ht hl 0 1 a b rfl rfl (by decide) hov hfx hfg⟩

/-- (e) the separation distance tried after k ≤ 9 reductions (`sepDist -= baseSepDist/10`) is at
    least a tenth of the ideal nudging distance, hence positive (exact arithmetic; the C++ loop
    stops when `sepDist ≤ 0.0001`, i.e. after the 10th reduction) -/
theorem sepAfter_bounds (d : Rat) (hd : 0 < d) (k : Nat) (hk : k ≤ 9) :
    d / 10 ≤ sepAfter d k ∧ 0 < sepAfter d k := by
  unfold sepAfter
  have hk' : (k : Rat) ≤ 9 := by exact_mod_cast hk
  have h10 : 0 < d / 10 := by positivity
  have : (k : Rat) * (d / 10) ≤ 9 * (d / 10) := mul_le_mul_of_nonneg_right hk' (le_of_lt h10)
  constructor <;> linarith

/-- soundness of `collinearOverlap`: if the checker says yes, the two segments really have two
    distinct points in common -/
theorem collinearOverlap_sound (s t : P2 × P2) (h : collinearOverlap s t = true) :
    ∃ p q : P2, p ≠ q ∧ OnSeg s.1 s.2 p ∧ OnSeg s.1 s.2 q ∧ OnSeg t.1 t.2 p ∧ OnSeg t.1 t.2 q := by
  unfold collinearOverlap at h
  simp only [Bool.or_eq_true, Bool.and_eq_true, decide_eq_true_eq] at h
  rcases h with ⟨⟨⟨hs, ht⟩, hst⟩, hov⟩ | ⟨⟨⟨hs, ht⟩, hst⟩, hov⟩
  · -- horizontal: the ends `lo < hi` of the common x-interval, at the common height
    unfold overlapLen at hov
    set lo := max (min s.1.x s.2.x) (min t.1.x t.2.x)
    set hi := min (max s.1.x s.2.x) (max t.1.x t.2.x)
    have hlt : lo < hi := by linarith
    have mk : ∀ v, lo ≤ v → v ≤ hi → OnSeg s.1 s.2 ⟨v, s.1.y⟩ ∧ OnSeg t.1 t.2 ⟨v, s.1.y⟩ := fun v h1 h2 =>
      have c := common_part _ _ _ _ v h1 h2
      ⟨onSeg_horizontal _ _ v hs c.1.1 c.1.2, hst ▸ onSeg_horizontal _ _ v ht c.2.1 c.2.2⟩
    refine ⟨⟨lo, s.1.y⟩, ⟨hi, s.1.y⟩, ?_, (mk lo (le_refl _) (le_of_lt hlt)).1, (mk hi (le_of_lt hlt) (le_refl _)).1,
      (mk lo (le_refl _) (le_of_lt hlt)).2, (mk hi (le_of_lt hlt) (le_refl _)).2⟩
    intro heq
    have : lo = hi := congrArg P2.x heq
    linarith
  · unfold overlapLen at hov
    set lo := max (min s.1.y s.2.y) (min t.1.y t.2.y)
    set hi := min (max s.1.y s.2.y) (max t.1.y t.2.y)
    have hlt : lo < hi := by linarith
    have mk : ∀ v, lo ≤ v → v ≤ hi → OnSeg s.1 s.2 ⟨s.1.x, v⟩ ∧ OnSeg t.1 t.2 ⟨s.1.x, v⟩ := fun v h1 h2 =>
      have c := common_part _ _ _ _ v h1 h2
      ⟨onSeg_vertical _ _ v hs c.1.1 c.1.2, hst ▸ onSeg_vertical _ _ v ht c.2.1 c.2.2⟩
    refine ⟨⟨s.1.x, lo⟩, ⟨s.1.x, hi⟩, ?_, (mk lo (le_refl _) (le_of_lt hlt)).1, (mk hi (le_of_lt hlt) (le_refl _)).1,
      (mk lo (le_refl _) (le_of_lt hlt)).2, (mk hi (le_of_lt hlt) (le_refl _)).2⟩
    intro heq
    have : lo = hi := congrArg P2.y heq
    linarith

/-- soundness of `sharedCollinearStretch` (the direction used for SPECFAIL) -/
theorem sharedCollinearStretch_sound (r1 r2 : List P2) (h : sharedCollinearStretch r1 r2 = true) :
    SharedStretch r1 r2 := by
  unfold sharedCollinearStretch at h
  simp only [List.any_eq_true] at h
  obtain ⟨s, hs, t, ht, hc⟩ := h
  obtain ⟨p, q, hpq, h1, h2, h3, h4⟩ := collinearOverlap_sound s t hc
  exact ⟨s, hs, t, ht, p, q, hpq, h1, h2, h3, h4⟩

example : sharedCollinearStretch [⟨0, 0⟩, ⟨10, 0⟩, ⟨10, 5⟩] [⟨4, 3⟩, ⟨4, 0⟩, ⟨20, 0⟩] = true := by
  decide +kernel

/-- soundness of `parallelOverlapDist`: the reported distance is realised by two points, one on
    each segment, that face each other across the gap -/
theorem parallelOverlapDist_sound (s t : P2 × P2) (dist : Rat) (h : parallelOverlapDist s t = some dist) :
    ∃ p q : P2, OnSeg s.1 s.2 p ∧ OnSeg t.1 t.2 q ∧
      ((p.x = q.x ∧ (dist = p.y - q.y ∨ dist = q.y - p.y)) ∨ (p.y = q.y ∧ (dist = p.x - q.x ∨ dist = q.x - p.x))) := by
  unfold parallelOverlapDist at h
  split_ifs at h with h1 h2
  · obtain ⟨hs, ht, hov⟩ := h1
    unfold overlapLen at hov
    have c := common_part s.1.x s.2.x t.1.x t.2.x _ (le_refl _) (by linarith)
    refine ⟨_, _, onSeg_horizontal _ _ _ hs c.1.1 c.1.2, onSeg_horizontal _ _ _ ht c.2.1 c.2.2, Or.inl ⟨rfl, ?_⟩⟩
    simp only [Option.some.injEq] at h
    unfold AdaptaVerif.Check.Nudge.absR at h
    split_ifs at h
    · right; simp only; linarith
    · left; simp only; linarith
  · obtain ⟨hs, ht, hov⟩ := h2
    unfold overlapLen at hov
    have c := common_part s.1.y s.2.y t.1.y t.2.y _ (le_refl _) (by linarith)
    refine ⟨_, _, onSeg_vertical _ _ _ hs c.1.1 c.1.2, onSeg_vertical _ _ _ ht c.2.1 c.2.2, Or.inr ⟨rfl, ?_⟩⟩
    simp only [Option.some.injEq] at h
    unfold AdaptaVerif.Check.Nudge.absR at h
    split_ifs at h
    · right; simp only; linarith
    · left; simp only; linarith

-- non-vacuity of `parallelOverlapDist_sound`: two horizontal segments 3 apart whose x-extents overlap on [4, 10]
example : parallelOverlapDist (⟨0, 0⟩, ⟨10, 0⟩) (⟨4, 3⟩, ⟨20, 3⟩) = some 3 := by decide +kernel

end AdaptaVerif.Props.C10
