/-
C13, tie of Model/TopoCons.lean to the source: the decision tables of the constraint generation are
regenerated from the C++ on every run (`check/props/C13.py::_gen_cons_rules` → Gen/TopoConsRules.lean;
the statement skeleton of every modelled function is matched literally, a mismatch is a translator
error = broken tie) and proved equal to what the model uses.  A change of one of these tables in the
C++ changes the generated definition and breaks the corresponding theorem here.
-/
import AdaptaVerif.Gen.TopoConsRules
import AdaptaVerif.Lemmas.TopoConsGen
import AdaptaVerif.Lemmas.TopoConsBend
namespace AdaptaVerif.Props.C13ConsTie
open AdaptaVerif.Model.TopoCons
open AdaptaVerif.Gen

/-- The same-position rules of `CompareEvents` order the four kinds as the model's `Ev.rank`:
    NodeClose < SegmentOpen < SegmentClose < NodeOpen, and leave equal kinds unordered. -/
theorem gen_cmpSamePos_is_rank :
    ∀ a : Nat, a < 4 → ∀ b : Nat, b < 4 → TopoConsRules.cmpSamePos a b = decide (a < b) := by
  decide

theorem ev_rank_lt_four (a : Ev) : a.rank < 4 := by
  cases a <;> simp [Ev.rank]

/-- `CompareEvents::operator()` is the strict part of the model's event order: `evLe` (the order the
    model sorts by) is "less, or not greater and not later in the tie-break". -/
theorem gen_compareEvents_is_model (d : Nat) (tb : Ev → Nat) (a b : Ev) :
    evLe d tb a b = (TopoConsRules.evLt (a.pos d) (b.pos d) a.rank b.rank ||
      (!TopoConsRules.evLt (b.pos d) (a.pos d) b.rank a.rank && decide (tb a ≤ tb b))) := by
  unfold evLe TopoConsRules.evLt
  rw [gen_cmpSamePos_is_rank a.rank (ev_rank_lt_four a) b.rank (ev_rank_lt_four b),
      gen_cmpSamePos_is_rank b.rank (ev_rank_lt_four b) a.rank (ev_rank_lt_four a)]
  rcases lt_trichotomy (a.pos d) (b.pos d) with h | h | h
  · have h1 : ¬ b.pos d < a.pos d := not_lt.mpr (le_of_lt h)
    have h2 : ¬ b.pos d = a.pos d := fun e => absurd (e ▸ h) (lt_irrefl _)
    simp [h, h1, h2]
  · rcases Nat.lt_trichotomy a.rank b.rank with r | r | r
    · have r1 : ¬ b.rank < a.rank := by omega
      have r2 : ¬ a.rank = b.rank := by omega
      simp [h, r, r1, r2]
    · simp [h, r]
    · have r1 : ¬ a.rank < b.rank := by omega
      have r2 : ¬ a.rank = b.rank := by omega
      simp [h, r, r1, r2]
  · have h1 : ¬ a.pos d < b.pos d := not_lt.mpr (le_of_lt h)
    have h2 : ¬ a.pos d = b.pos d := fun e => absurd (e ▸ h) (lt_irrefl _)
    simp [h, h1, h2]

/-- the corner table of `Segment::createStraightConstraint` -/
theorem gen_corner_is_model (d : Nat) (n : Node) (pos : Rat) (nl : Bool) :
    TopoConsRules.corner d pos (n.r.centre 0) (n.r.centre 1) nl = cornerFor d n pos nl := by
  unfold TopoConsRules.corner cornerFor
  simp

/-- what `Segment::createStraightConstraint` puts into a StraightConstraint: `nodeLeft`, the corner
    and the `g` of the constructor, as regenerated, are the model's -/
theorem gen_createStraight_is_model (d : Nat) (sg : Seg) (n : Node) (pos : Rat) (c : SC)
    (h : createStraight d sg n pos = some c) :
    c.nodeLeft = TopoConsRules.nodeLeft (n.r.centre d) (sg.inter d pos) ∧
    c.ri = TopoConsRules.corner d pos (n.r.centre 0) (n.r.centre 1) c.nodeLeft ∧
    c.g = TopoConsRules.straightG (sg.s.offset d + c.p * (sg.e.offset d - sg.s.offset d))
            (n.r.len d / 2) c.nodeLeft := by
  obtain ⟨_, _, _, _, rfl⟩ := AdaptaVerif.Lemmas.TopoConsGen.createStraight_eq_some_iff.mp h
  refine ⟨rfl, ?_, ?_⟩
  · rw [gen_corner_is_model]; rfl
  · unfold AdaptaVerif.Lemmas.TopoConsGen.mkSC TopoConsRules.straightG straightG
    simp

/-- a scan-line neighbour as the visibility test reads it -/
def nbOf (d : Nat) (m : Node) : Rat × Rat × Rat := (m.r.centre d, m.r.lo (conj d), m.r.hi (conj d))

/-- the "not visible" test of `NodeEvent::createStraightConstraints` -/
theorem gen_hidden_is_model (d : Nat) (pos x : Rat) (L R : Option Node) :
    TopoConsRules.hidden x pos (L.map (nbOf d)) (R.map (nbOf d)) =
      (blocks d pos x true L || blocks d pos x false R) := by
  cases L <;> cases R <;> simp [TopoConsRules.hidden, blocks, nbOf]

/-- the `leftOf` table and the reference-segment choice of the BendConstraint constructor -/
theorem gen_bend_is_model (d idx : Nat) (u v w : EPt) (b : BC) (h : createBend d idx u v w = some b) :
    b.leftOf = TopoConsRules.bendLeft d v.ri ∧
    b.rev = !TopoConsRules.bendUsesIn (absQ (v.pos (conj d) - u.pos (conj d)))
                                      (absQ (w.pos (conj d) - v.pos (conj d))) := by
  rcases AdaptaVerif.Lemmas.TopoConsBend.createBend_eq_some_iff.mp h with ⟨hlt, rfl⟩ | ⟨_, hle, rfl⟩
  · refine ⟨rfl, ?_⟩
    simp [TopoConsRules.bendUsesIn, AdaptaVerif.Lemmas.TopoConsBend.fwdBC, hlt]
  · refine ⟨rfl, ?_⟩
    simp [TopoConsRules.bendUsesIn, AdaptaVerif.Lemmas.TopoConsBend.revBC, not_lt.mpr hle]

/-- `EdgePoint::pos` -/
theorem gen_pos_is_model (a : EPt) (d : Nat) :
    TopoConsRules.pos a.ri d a.node.r.minX a.node.r.maxX a.node.r.minY a.node.r.maxY = a.pos d := by
  unfold TopoConsRules.pos EPt.pos Rect.centre Rect.len Rect.hi Rect.lo
  by_cases hd : d = 0
  · simp only [hd, if_true]
  · simp only [hd, if_false]

/-- `EdgePoint::offset` (for the two axes and the five `RectIntersect` values) -/
theorem gen_offset_is_model (a : EPt) (d : Nat) (hd : d < 2) (hri : a.ri ≤ 4) :
    a.offset d = if a.ri = 4 then 0
                 else if TopoConsRules.offsetNeg d a.ri then -(a.node.r.len d / 2) else a.node.r.len d / 2 := by
  unfold EPt.offset TopoConsRules.offsetNeg
  have hd' : d = 0 ∨ d = 1 := by omega
  rcases hd' with rfl | rfl <;> by_cases h4 : a.ri = 4
  · simp [h4]
  · have : ¬ a.ri ≥ 4 := by omega
    simp [h4, this]
  · simp [h4]
  · have : ¬ a.ri ≥ 4 := by omega
    simp [h4, this]

-- non-vacuity of the hypotheses of `gen_createStraight_is_model` and `gen_bend_is_model`: both constructors do return
-- `some` on ordinary inputs (control scene of Lemmas/TopoConsGen: node 1 at its opening scan line 21; a bend at the TR
-- corner of a node)
example :
    (createStraight 0 AdaptaVerif.Lemmas.TopoConsGen.wSg AdaptaVerif.Lemmas.TopoConsGen.w1' 21).isSome = true ∧
    (createBend 0 1 ⟨⟨0, ⟨0, 10, 0, 10⟩⟩, 4⟩ ⟨⟨1, ⟨20, 30, 40, 50⟩⟩, 0⟩ ⟨⟨2, ⟨50, 60, 20, 30⟩⟩, 4⟩).isSome = true := by
  decide +kernel

end AdaptaVerif.Props.C13ConsTie
