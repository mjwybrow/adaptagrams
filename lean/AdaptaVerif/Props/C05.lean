/-
C05 — property theorems.

Sentence 3 of the property ("the bend-count estimate used to guide the search never exceeds the
true minimum number of bends") is proved for all inputs about the model `Model.Bends.bends` /
`Model.Bends.estimatedCostSpecific` (tied to makepath.cpp by the exhaustive + random
correspondence of driver mode c05) against the code-independent specification `Spec.OrthPath`.
Sentence 2 (optimal cost) is validated per scene by a certificate; the theorems here are the
soundness of that certificate check (potential argument).
-/
import AdaptaVerif.Lemmas.Bends
import AdaptaVerif.Lemmas.Hanan
import AdaptaVerif.Lemmas.OrthGraph
import Mathlib.Tactic.NormNum
namespace AdaptaVerif.Props.C05
open AdaptaVerif.Model.Bends AdaptaVerif.Spec.OrthPath
open AdaptaVerif.Model.Geometry (Pt)
open AdaptaVerif.Check.Hanan (Scene Cert checkCert mkGrid)

/-- **Admissible.** For all rational points `curr ≠ dest` and all single directions, every
    orthogonal approach path from (curr, heading cd) to (dest, arriving with heading dd) has at
    least `bends curr cd dest dd` bends (and `bends` does not hit an assertion). -/
theorem bends_admissible (curr dest : Pt) (hne : curr ≠ dest) (cd dd : Dir) (ls : List Leg)
    (h : IsApproach curr cd dest dd ls) :
    ∃ b, bends curr cd.mask dest dd.mask = some b ∧ b ≤ bendsOf ls :=
  Lemmas.Bends.admissible_exists curr dest hne cd dd ls h

example : IsApproach ⟨0, 0⟩ .N ⟨1, 1⟩ .E
    [⟨.N, 0⟩, ⟨.E, 1/2⟩, ⟨.S, 1⟩, ⟨.E, 1/2⟩] ∧ bends ⟨0, 0⟩ Dir.N.mask ⟨1, 1⟩ Dir.E.mask = some 3 := by
  decide +kernel

/-- **Tight.** The bound is attained: some approach path has exactly `bends …` bends, so the code's
    closed form is the exact minimum (under the leg-length conventions of `Spec.OrthPath`). -/
theorem bends_tight (curr dest : Pt) (hne : curr ≠ dest) (cd dd : Dir) :
    ∃ ls, IsApproach curr cd dest dd ls ∧ bends curr cd.mask dest dd.mask = some (bendsOf ls) :=
  Lemmas.BendsTight.tight curr dest hne cd dd

/-- **Total.** For single-bit directions no `COLA_ASSERT` inside `bends` can fire — in particular
    the trailing `COLA_ASSERT(false)` is unreachable — and the result is at most 4.
    (Holds for curr = dest as well.) -/
theorem bends_total (curr dest : Pt) (cd dd : Dir) :
    ∃ b, bends curr cd.mask dest dd.mask = some b ∧ b ≤ 4 :=
  Lemmas.Bends.leOpt_spec (Lemmas.Bends.bends_le4 curr dest cd dd)

/-- The precondition `curr ≠ dest` of `bends_admissible` cannot be dropped: at distance 0 the code
    answers 2 where 0 bends suffice.  (`estimatedCostSpecific` only calls `bends` when the
    Manhattan distance is positive.) -/
theorem bends_overestimates_at_zero_distance :
    IsApproach ⟨0, 0⟩ .E ⟨0, 0⟩ .E [⟨.E, 0⟩] ∧ bends ⟨0, 0⟩ Dir.E.mask ⟨0, 0⟩ Dir.E.mask = some 2 := by
  decide +kernel

/-- **Estimate ≤ cost** inside the search: the node at `curr` was reached from `last` along an
    axis-parallel hop (heading `cd`); the cost target `tar` may be entered with any heading in the
    mask `dirs`.  Whatever approach path the search continues with, its length + penalty·bends is at
    least `estimatedCostSpecific` (which does not hit an assertion). No `curr ≠ tar` needed. -/
theorem estimate_le (last curr tar : Pt) (cd : Dir)
    (hdir : orthogonalDirection last curr = cd.mask) (dirs : Nat) (pen : Rat) (hpen : 0 < pen)
    (dd : Dir) (hdd : dirs &&& dd.mask ≠ 0) (ls : List Leg) (h : IsApproach curr cd tar dd ls) :
    ∃ e, estimatedCostSpecific (some last) curr tar dirs pen = some e ∧ e ≤ pathCost pen ls :=
  Lemmas.Bends.estimate_le_heading last curr tar cd hdir dirs pen hpen dd hdd ls h

example : orthogonalDirection ⟨0, 0⟩ ⟨1, 0⟩ = Dir.E.mask ∧ (15 &&& Dir.S.mask ≠ 0) ∧
    IsApproach ⟨1, 0⟩ .E ⟨3, 4⟩ .S [⟨.E, 2⟩, ⟨.S, 4⟩] := by
  decide +kernel

/-- **Estimate ≤ cost** at the start node (`last == nullptr`, heading free). -/
theorem estimate_le_start (curr tar : Pt) (dirs : Nat) (pen : Rat) (hpen : 0 < pen)
    (ls : List Leg) (h : IsFreeStart curr tar ls) :
    ∃ e, estimatedCostSpecific none curr tar dirs pen = some e ∧ e ≤ pathCost pen ls :=
  Lemmas.Bends.estimate_le_start curr tar dirs pen hpen ls h

/-- **Estimate ≤ cost** when the previous hop gives no single heading (`last = curr`, or a
    non-axis-parallel dummy hop): only the Manhattan distance is charged. -/
theorem estimate_le_noheading (last curr tar : Pt) (dirs : Nat) (pen : Rat) (hpen : 0 < pen)
    (hno : ¬ (orthogonalDirection last curr > 0 ∧
      orthogonalDirectionsCount (orthogonalDirection last curr) = 1))
    (ls : List Leg) (h : IsFreeStart curr tar ls) :
    ∃ e, estimatedCostSpecific (some last) curr tar dirs pen = some e ∧ e ≤ pathCost pen ls :=
  Lemmas.Bends.estimate_le_noheading last curr tar dirs pen hpen hno ls h

-- non-vacuity of `estimate_le_start` and `estimate_le_noheading` (`last = curr`: no heading)
example : IsFreeStart ⟨1, 0⟩ ⟨3, 4⟩ [⟨.E, 2⟩, ⟨.S, 4⟩] ∧
    ¬ (orthogonalDirection ⟨1, 0⟩ ⟨1, 0⟩ > 0 ∧ orthogonalDirectionsCount (orthogonalDirection ⟨1, 0⟩ ⟨1, 0⟩) = 1) ∧
    (∃ e, estimatedCostSpecific none ⟨1, 0⟩ ⟨3, 4⟩ 15 1 = some e ∧ e ≤ pathCost 1 [⟨.E, 2⟩, ⟨.S, 4⟩]) ∧
    (∃ e, estimatedCostSpecific (some ⟨1, 0⟩) ⟨1, 0⟩ ⟨3, 4⟩ 15 1 = some e ∧ e ≤ pathCost 1 [⟨.E, 2⟩, ⟨.S, 4⟩]) := by
  have hA : IsApproach ⟨1, 0⟩ .E ⟨3, 4⟩ .S [⟨.E, 2⟩, ⟨.S, 4⟩] := by decide +kernel
  have hF : IsFreeStart ⟨1, 0⟩ ⟨3, 4⟩ [⟨.E, 2⟩, ⟨.S, 4⟩] := ⟨.E, .S, hA⟩
  have hno : ¬ (orthogonalDirection ⟨1, 0⟩ ⟨1, 0⟩ > 0 ∧
      orthogonalDirectionsCount (orthogonalDirection ⟨1, 0⟩ ⟨1, 0⟩) = 1) := by
    decide +kernel
  exact ⟨hF, hno, estimate_le_start _ _ 15 1 (by norm_num) _ hF,
    estimate_le_noheading _ _ _ 15 1 (by norm_num) hno _ hF⟩

/-- **Potential argument** (all weighted digraphs, given by an edge relation): a potential that is
    feasible on every edge and non-positive on goals is a lower bound on the cost of every walk
    into a goal. -/
theorem potential_lower_bound {V : Type} (E : V → V → Rat → Prop) (π : V → Rat) (goal : V → Prop)
    (hfeas : ∀ u v w, E u v w → π u ≤ w + π v) (hgoal : ∀ t, goal t → π t ≤ 0)
    {u t : V} {c : Rat} (hw : Lemmas.Hanan.Walk E u t c) (ht : goal t) : π u ≤ c :=
  Lemmas.Hanan.potential_lower_bound E π goal hfeas hgoal hw ht

/-- **Certificate soundness.** If `checkCert` accepts an (untrusted) potential + witness and returns
    `opt`, then `opt` is the minimum cost over all routes of the scene's Hanan state graph:
    no route is cheaper and some route (the witness) costs exactly `opt`. -/
theorem hanan_cert_sound (sc : Scene) (c : Cert) (opt : Rat) (h : checkCert sc c = some opt) :
    (∀ r, Lemmas.Hanan.IsRouteCost sc (mkGrid sc) r → opt ≤ r) ∧
      Lemmas.Hanan.IsRouteCost sc (mkGrid sc) opt :=
  Lemmas.Hanan.checkCert_sound h

-- non-vacuity of `hanan_cert_sound`: box [1,2]×[-1,1] between the source (0,0) and the target (3,0), penalty 1;
-- the potential (distance to the goal in the state graph) and the witness N,E,E,E,S are accepted, optimum 7
example :
    let sc : Scene := { rects := [⟨1, -1, 2, 1⟩], sx := 0, sy := 0, tx := 3, ty := 0, smask := 15, tmask := 15, pen := 1 }
    (∀ r, Lemmas.Hanan.IsRouteCost sc (mkGrid sc) r → 7 ≤ r) ∧ Lemmas.Hanan.IsRouteCost sc (mkGrid sc) 7 := by
  intro sc
  exact hanan_cert_sound sc
    ⟨#[6, 5, 6, 7, 5, 4, 5, 6, 4, 3, 3, 4, 3, 2, 1, 2, 7, 8, 7, 8, 6, 7, 6, 7, 2, 1, 2, 3, 0, 0, 0, 0, 6, 5, 6, 7, 5,
       4, 5, 6, 3, 3, 4, 4, 1, 2, 3, 2],
     [⟨0, 0, 0⟩, ⟨1, 0, 1⟩, ⟨2, 0, 1⟩, ⟨3, 0, 1⟩, ⟨3, 1, 2⟩]⟩ 7 (by decide +kernel)

/-- **Certificate soundness, own-graph variant** (direction-restricted endpoints): if
    `Check.OrthGraph.checkCert` accepts a potential + witness for the visibility graph dumped from
    the router and returns `opt`, then `opt` is the minimum cost over all routes of that graph
    (first hop uncharged, quarter turn `pen`, doubling back `2·pen`, the source is never re-entered). -/
theorem vg_cert_sound (g : Check.OrthGraph.VG) (c : Check.OrthGraph.Cert) (opt : Rat)
    (h : Check.OrthGraph.checkCert g c = some opt) :
    (∀ r, Lemmas.OrthGraph.IsRouteCost g r → opt ≤ r) ∧ Lemmas.OrthGraph.IsRouteCost g opt :=
  Lemmas.OrthGraph.checkCert_sound h

-- non-vacuity of `vg_cert_sound`: the graph (0,0)–(2,0)–(2,3)–(0,3)–(0,0), source 0, target 2, penalty 1: optimum 6
example :
    let g : Check.OrthGraph.VG :=
      { xs := #[0, 2, 2, 0], ys := #[0, 0, 3, 3], adj := #[[1, 3], [0, 2], [1, 3], [0, 2]], src := 0, tar := 2, pen := 1 }
    (∀ r, Lemmas.OrthGraph.IsRouteCost g r → 6 ≤ r) ∧ Lemmas.OrthGraph.IsRouteCost g 6 := by
  intro g
  exact vg_cert_sound g ⟨#[7, 6, 6, 7, 5, 4, 3, 4, 0, 0, 0, 0, 3, 2, 3, 4], [⟨1, 1⟩, ⟨2, 2⟩]⟩ 6 (by decide +kernel)

end AdaptaVerif.Props.C05
