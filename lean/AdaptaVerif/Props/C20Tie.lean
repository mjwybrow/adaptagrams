/-
C20 (and C09, C15) — comparators regenerated from /repo's C++ by cpp2lean on every run
(Gen/Comparators.lean) and proved to be strict weak orders with an explicit equivalence; where a
comparator reads a heap address the theorems say exactly when the address can influence the order.

A comparator that is not a strict weak order makes `std::set` / `std::sort` undefined behaviour
(C15); one whose ties are broken by addresses makes iteration order — and whatever is computed
from it — depend on the allocator (C20).  The pin comparator is in Props/C11Tie, the action
comparator in Props/C06Tie.
-/
import AdaptaVerif.Gen.Comparators
import AdaptaVerif.Lemmas.StrictWeakOrder
import AdaptaVerif.Model.Scanline
import AdaptaVerif.Gen.Makepath
import AdaptaVerif.Model.RouteCost
import AdaptaVerif.Lemmas.FrameRoute
namespace AdaptaVerif.Props.C20Tie
open AdaptaVerif.Gen.Comparators AdaptaVerif.Model.CmpKeys AdaptaVerif.Lemmas.SWO
open AdaptaVerif.Model.Geometry (Pt)

/-! ### `Avoid::Point::operator<` (geomtypes.cpp) — `std::set<Point>` -/

/-- `a < b` in argument order (the generated function takes `rhs` first) -/
abbrev pointLess (a b : Pt) : Bool := pointLt b a

theorem gen_pointLt_is_lex : pointLess = cmpBy Pt.x (cmpBy Pt.y (fun _ _ => false)) := by
  funext a b; simp only [pointLess, pointLt, cmpBy]; grind

theorem pointLt_strict_weak_order : IsSWO pointLess := by
  rw [gen_pointLt_is_lex]; exact swo_cmpBy _ (swo_cmpBy _ swo_false)

theorem pointLt_equiv_iff_equal (a b : Pt) : Incomp pointLess a b ↔ a = b := by
  rw [gen_pointLt_is_lex, incomp_cmpBy, incomp_cmpBy]
  cases a; cases b; simp [incomp_false]

/-! ### `Avoid::VertID::operator<` (vertices.cpp) -/

abbrev vertIdLess (a b : VertIdKey) : Bool := vertIdLt b a

theorem gen_vertIdLt_is_lex : vertIdLess = cmpBy VertIdKey.objID (cmpBy VertIdKey.vn (fun _ _ => false)) := by
  funext a b; simp only [vertIdLess, vertIdLt, cmpBy]; grind

theorem vertIdLt_strict_weak_order : IsSWO vertIdLess := by
  rw [gen_vertIdLt_is_lex]; exact swo_cmpBy _ (swo_cmpBy _ swo_false)

/-- two vertex ids are the same key iff object id and vertex number agree (`props` is not compared) -/
theorem vertIdLt_equiv_iff (a b : VertIdKey) : Incomp vertIdLess a b ↔ a = b := by
  rw [gen_vertIdLt_is_lex, incomp_cmpBy, incomp_cmpBy]
  cases a; cases b; simp [incomp_false]

/-! ### `Avoid::LineSegment::operator<` (orthogonal.cpp) — the scan-line segment lists -/

abbrev lineSegLess (a b : LineSegKey) : Bool := lineSegmentLt b a

theorem gen_lineSegmentLt_is_lex :
    lineSegLess = cmpBy LineSegKey.begin_ (cmpBy LineSegKey.pos (cmpBy LineSegKey.finish (fun _ _ => false))) := by
  funext a b; simp [lineSegLess, lineSegmentLt, cmpBy]

theorem lineSegmentLt_strict_weak_order : IsSWO lineSegLess := by
  rw [gen_lineSegmentLt_is_lex]; exact swo_cmpBy _ (swo_cmpBy _ (swo_cmpBy _ swo_false))

/-- the `COLA_ASSERT(shapeSide == rhs.shapeSide)` is reached exactly for equivalent segments and
    demands that they agree on `shapeSide` -/
theorem lineSegmentLt_assertion_iff (a b : LineSegKey) :
    lineSegmentLt_pre b a = true ↔ (Incomp lineSegLess a b → a.shapeSide = b.shapeSide) := by
  rw [gen_lineSegmentLt_is_lex, incomp_cmpBy, incomp_cmpBy, incomp_cmpBy]
  have e : ((if a.shapeSide then (1 : Int) else 0) = (if b.shapeSide then (1 : Int) else 0)) ↔
      a.shapeSide = b.shapeSide := by
    cases a.shapeSide <;> cases b.shapeSide <;> decide
  simp only [lineSegmentLt_pre, incomp_false, and_true, Bool.and_true, e, decide_not, Bool.not_eq_true',
    decide_eq_false_iff_not, ite_not, and_imp]
  by_cases h1 : a.begin_ = b.begin_ <;> by_cases h2 : a.pos = b.pos <;> by_cases h3 : a.finish = b.finish <;>
    simp only [h1, h2, h3, if_true, if_false, decide_eq_true_eq, forall_true_left, IsEmpty.forall_iff]

/-! ### `Avoid::CmpVertInf` (orthogonal.cpp) — `std::set<VertInf*>`; last resort: the address -/

theorem gen_cmpVertInf_is_lex :
    cmpVertInf = cmpBy VertInfKey.px (cmpBy VertInfKey.py (cmpBy VertInfKey.addr (fun _ _ => false))) := by
  funext a b; simp only [cmpVertInf, cmpBy]; grind

theorem cmpVertInf_strict_weak_order : IsSWO cmpVertInf := by
  rw [gen_cmpVertInf_is_lex]; exact swo_cmpBy _ (swo_cmpBy _ (swo_cmpBy _ swo_false))

/-- vertices at different points are ordered by their points alone; only vertices at the SAME point
    are ordered by where they were allocated -/
theorem cmpVertInf_address_only_at_equal_points (u v : VertInfKey) (au av : Nat)
    (h : u.px ≠ v.px ∨ u.py ≠ v.py) :
    cmpVertInf { u with addr := au } { v with addr := av } = cmpVertInf u v := by
  simp only [cmpVertInf]; grind

/-- and there the address decides: the set's order of two co-located vertices is the allocation order -/
theorem cmpVertInf_depends_on_address_at_equal_points (u v : VertInfKey)
    (h : u.px = v.px ∧ u.py = v.py) : cmpVertInf u v = decide (u.addr < v.addr) := by
  simp [cmpVertInf, h.1, h.2]

/-! ### `vpsc::CmpNodePos` (libvpsc/rectangle.cpp) — the scan line of `generateX/YConstraints` -/

theorem gen_cmpNodePos_is_lex :
    cmpNodePos = cmpBy NodeKey.pos (cmpBy NodeKey.id (cmpBy NodeKey.addr (fun _ _ => false))) := by
  funext a b; simp only [cmpNodePos, cmpBy]; grind

theorem cmpNodePos_strict_weak_order : IsSWO cmpNodePos := by
  rw [gen_cmpNodePos_is_lex]; exact swo_cmpBy _ (swo_cmpBy _ (swo_cmpBy _ swo_false))

theorem cmpNodePos_no_assertion (u v : NodeKey) : cmpNodePos_pre u v = true := by
  simp [cmpNodePos_pre]

/-- since fix 5eb2448 ties between coincident centres are broken by the variable id: nodes of
    different variables are ordered without looking at any address.  (Reverting the fix, i.e.
    falling back to `u < v` directly, breaks this proof.) -/
theorem cmpNodePos_address_free (u v : NodeKey) (au av : Nat) (h : u.id ≠ v.id) :
    cmpNodePos { u with addr := au } { v with addr := av } = cmpNodePos u v := by
  simp only [cmpNodePos]; grind

/-- …and total on them: exactly one of `u<v`, `v<u` -/
theorem cmpNodePos_total_on_distinct_ids (u v : NodeKey) (h : u.id ≠ v.id) :
    cmpNodePos u v = !cmpNodePos v u := by
  simp only [cmpNodePos]; grind

/-- the comparator the C09 scan-line model runs with (`Model.Scanline.keyLt ax rank`, rank :=
    variable id) IS the generated `CmpNodePos` on nodes of different variables, whatever their
    addresses -/
theorem gen_cmpNodePos_is_scanline_keyLt (ax : AdaptaVerif.Model.Scanline.Axis) (rank : Nat → Nat) (i j : Nat)
    (ai aj : Nat) (h : rank i ≠ rank j) :
    cmpNodePos ⟨ax.ctr i, rank i, ai⟩ ⟨ax.ctr j, rank j, aj⟩ = AdaptaVerif.Model.Scanline.keyLt ax rank i j := by
  simp only [cmpNodePos, AdaptaVerif.Model.Scanline.keyLt]; grind

/-! ### `vpsc::CompareConstraints` (libvpsc/constraint.cpp) — the pairing heaps of in/out constraints -/

/-- the key the comparator sorts by: −DBL_MAX for a stale or internal constraint, else its slack -/
def conSortKey (c : ConKey) : Rat :=
  if c.blockTs > c.ts ∨ c.lblock = c.rblock then
    -(179769313486231570814527423731704356798070567525844996598917476803157260780028538760589558632766878171540458953514382464234321326889464182768467546703537516986049910576551282076245490090389328944075868508455133942304583236903222948165808559332123348274797826204144723168738177180919299881250404026184124858368 : Rat)
  else c.slack

theorem gen_compareConstraints_is_lex :
    compareConstraints = cmpBy conSortKey (cmpBy ConKey.lid (cmpBy ConKey.rid (fun _ _ => false))) := by
  funext a b
  simp only [compareConstraints, cmpBy, conSortKey, Bool.or_eq_true, decide_eq_true_eq]
  grind

theorem compareConstraints_strict_weak_order : IsSWO compareConstraints := by
  rw [gen_compareConstraints_is_lex]; exact swo_cmpBy _ (swo_cmpBy _ (swo_cmpBy _ swo_false))

/-- block addresses enter only through the test `left->block == right->block`; the heap order
    never depends on WHERE blocks live: constraints between different pairs of variable ids are
    totally ordered by (key, left id, right id) -/
theorem compareConstraints_equiv_iff (a b : ConKey) :
    Incomp compareConstraints a b ↔ conSortKey a = conSortKey b ∧ a.lid = b.lid ∧ a.rid = b.rid := by
  rw [gen_compareConstraints_is_lex, incomp_cmpBy, incomp_cmpBy, incomp_cmpBy]; simp [incomp_false]

/-! ### `cola::ShapePair::operator<` (libcola/shapepair.cpp) — the set of exempt pairs -/

abbrev shapePairLess (a b : ShapePairKey) : Bool := shapePairLt b a

theorem gen_shapePairLt_is_lex : shapePairLess = cmpBy ShapePairKey.i1 (cmpBy ShapePairKey.i2 (fun _ _ => false)) := by
  funext a b; simp only [shapePairLess, shapePairLt, cmpBy]
  by_cases h1 : a.i1 = b.i1 <;> by_cases h2 : a.i2 = b.i2 <;> simp [h1, h2]

theorem shapePairLt_strict_weak_order : IsSWO shapePairLess := by
  rw [gen_shapePairLt_is_lex]; exact swo_cmpBy _ (swo_cmpBy _ swo_false)

theorem shapePairLt_equiv_iff_equal (a b : ShapePairKey) : Incomp shapePairLess a b ↔ a = b := by
  rw [gen_shapePairLt_is_lex, incomp_cmpBy, incomp_cmpBy]
  cases a; cases b; simp [incomp_false]

/-! ### `dimDirection` (makepath.cpp) — the sign function of the reverse-direction rule of `cost()` -/

/-- the `dimDir` of the Lean model of the reverse-direction rule (Model/RouteCost.lean, proved frame-invariant in
    Props/C20.lean) is the `dimDirection` regenerated from the source -/
theorem gen_dimDirection_is_dimDir (d : Rat) :
    AdaptaVerif.Gen.Makepath.dimDirection d = AdaptaVerif.Model.RouteCost.dimDir d := by
  simp only [AdaptaVerif.Gen.Makepath.dimDirection, AdaptaVerif.Model.RouteCost.dimDir, gt_iff_lt, decide_eq_true_eq]

/-! ### `CmpVisEdgeRotation` (makepath.cpp, after fix 992d05a) — hand model `Model.RouteCost.cmpVisEdge` -/

open AdaptaVerif.Model.RouteCost in
/-- the model's `ptLt` is the regenerated `Point::operator<` -/
theorem ptLt_is_gen_pointLt (p q : Pt) : ptLt p q = pointLess p q := by
  simp only [ptLt, pointLess, pointLt]; grind

open AdaptaVerif.Model.RouteCost in
/-- among dummy pin edges the order is lexicographic in (lower endpoint, upper endpoint, address) -/
theorem dummyLt_is_lex :
    dummyLt = cmpBy (fun e => e.lo.x) (cmpBy (fun e => e.lo.y) (cmpBy (fun e => e.hi.x) (cmpBy (fun e => e.hi.y)
      (cmpBy EdgeKey.addr (fun _ _ => false))))) := by
  funext u v
  simp only [dummyLt, cmpBy]
  exact AdaptaVerif.Lemmas.FrameCost.dummyLt_aux u.lo u.hi v.lo v.hi u.addr v.addr

open AdaptaVerif.Model.RouteCost in
/-- … hence a strict weak order (what `list::sort` needs) -/
theorem dummyLt_strict_weak_order : IsSWO dummyLt := by
  rw [dummyLt_is_lex]
  exact swo_cmpBy _ (swo_cmpBy _ (swo_cmpBy _ (swo_cmpBy _ (swo_cmpBy _ swo_false))))

open AdaptaVerif.Model.RouteCost in
/-- the heap address decides ONLY between two dummy edges with the same pair of endpoints: otherwise the comparator's
    answer is the same for every assignment of addresses -/
theorem cmpVisEdge_address_only_at_equal_endpoints (rot : EdgeKey → EdgeKey → Bool) (u v : EdgeKey)
    (hrot : ∀ a b, rot { u with addr := a } { v with addr := b } = rot u v)
    (h : u.orth = true ∨ v.orth = true ∨ u.lo ≠ v.lo ∨ u.hi ≠ v.hi) (a b : Nat) :
    cmpVisEdge rot { u with addr := a } { v with addr := b } = cmpVisEdge rot u v := by
  simp only [cmpVisEdge, dummyLt, EdgeKey.lo, EdgeKey.hi] at h ⊢
  rw [hrot]
  grind

open AdaptaVerif.Model.RouteCost in
/-- a dummy pin edge is explored before an orthogonal edge, whatever the addresses -/
theorem cmpVisEdge_dummy_first (rot : EdgeKey → EdgeKey → Bool) (u v : EdgeKey) (hu : u.orth = false) (hv : v.orth = true) :
    cmpVisEdge rot u v = true ∧ cmpVisEdge rot v u = false := by
  simp [cmpVisEdge, hu, hv]

/-! ### non-vacuity -/
example : cmpNodePos ⟨1, 2, 100⟩ ⟨1, 3, 50⟩ = true ∧ cmpNodePos ⟨1, 2, 10⟩ ⟨1, 3, 500⟩ = true := by decide
example : cmpVertInf ⟨0, 0, 5⟩ ⟨0, 0, 7⟩ = true ∧ cmpVertInf ⟨0, 0, 7⟩ ⟨0, 0, 5⟩ = false := by decide

open AdaptaVerif.Model.RouteCost in
-- non-vacuity of cmpVisEdge_address_only_at_equal_endpoints: a rotation comparator that reads no address (hrot), two dummy
-- edges with different lower endpoints (h); the theorem instantiated for exchanged addresses
example : cmpVisEdge (fun e f => ptLt e.a f.a) ⟨false, ⟨0, 0⟩, ⟨1, 0⟩, 7⟩ ⟨false, ⟨0, 1⟩, ⟨1, 0⟩, 3⟩ =
    cmpVisEdge (fun e f => ptLt e.a f.a) ⟨false, ⟨0, 0⟩, ⟨1, 0⟩, 3⟩ ⟨false, ⟨0, 1⟩, ⟨1, 0⟩, 7⟩ :=
  cmpVisEdge_address_only_at_equal_endpoints (fun e f => ptLt e.a f.a) ⟨false, ⟨0, 0⟩, ⟨1, 0⟩, 3⟩ ⟨false, ⟨0, 1⟩, ⟨1, 0⟩, 7⟩
    (fun _ _ => rfl) (Or.inr (Or.inr (Or.inl (by decide)))) 7 3

-- the Incomp characterisations are not between constantly false sides
example : Incomp pointLess ⟨1, 2⟩ ⟨1, 2⟩ ∧ ¬ Incomp pointLess ⟨1, 2⟩ ⟨1, 3⟩ := by
  rw [pointLt_equiv_iff_equal, pointLt_equiv_iff_equal]; exact ⟨rfl, by decide⟩

end AdaptaVerif.Props.C20Tie
