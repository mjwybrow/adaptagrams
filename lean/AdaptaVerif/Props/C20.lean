/-
C20 — results are reproducible, and routing / VPSC are independent of the frame.

LOGIC half only (property theorems, all inputs).  Determinism of a run is a property of the
runtime and is *observed* by harness/c20.cpp + Driver/C20.lean; what can be proved is
 (1) every geometry predicate the router's decisions are built from is frame-independent
     (orientation-like ones change sign exactly with the determinant),
 (2) route costs (Manhattan length, squared leg lengths, bend count as charged by `cost()`) and
     obstacle-freeness are frame-independent, so a frame change is a cost-preserving bijection
     between the valid routes of a scene and of its image: the OPTIMAL COST is frame-independent
     (the optimal route need not be, among equal-cost alternatives),
 (2b) the reverse-direction rule of `cost()` and the vertex-path costs built on it are frame-independent
     (a variant of the rule with a wrong guard is not),
 (2c) the pin-cone rule of `ConnEnd::assignPinVisibilityTo` is translation invariant and commutes with the
     symmetries when the pin's direction flags are transformed with the frame,
 (3) the VPSC optimum is unique, translates with the desired positions, and is permuted by a
     renaming of variables / reordering of constraints,
 (4) the scan-line comparator of libvpsc (`CmpNodePos`: position, then a tie-break `rank` — in the library the
     variable id and, for equal ids only, the heap address) is independent of the tie-break whenever all centre
     positions are distinct — it can influence removeoverlaps ONLY through coincident centres (and a concrete
     instance where it does).
A frame is `F : Frame`, `F.act p = S p + t`, `S` one of the 8 symmetries of the square; pure
translations are `Frame.translation t`, pure symmetries `Frame.ofSym S`.
-/
import AdaptaVerif.Spec.Frame
import AdaptaVerif.Lemmas.FrameGeom
import AdaptaVerif.Lemmas.FrameRoute
import AdaptaVerif.Lemmas.FrameVpsc
import AdaptaVerif.Lemmas.FrameScan
import AdaptaVerif.Lemmas.FrameExample
namespace AdaptaVerif.Props.C20
open AdaptaVerif.Model.Geometry AdaptaVerif.Model.Frame AdaptaVerif.Spec.Frame
open AdaptaVerif.Lemmas
open AdaptaVerif.Lemmas.FrameExample (exP exX)
open AdaptaVerif.Model.RouteCost AdaptaVerif.Model.PinCone

/-! ## (1) geometry predicates -/

/-- `vecDir (F a) (F b) (F c) = det F · vecDir a b c`: unchanged by translations and rotations,
    negated by the four reflections -/
theorem vecDir_oriented : Oriented3 (fun a b c => vecDir a b c) := FrameGeom.vecDir_act

/-- `cornerSide` is orientation-like too -/
theorem cornerSide_oriented : Oriented4 (fun a b c d => cornerSide a b c d) := FrameGeom.cornerSide_act

/-- `colinear`, `pointOnLine`, `segmentIntersect`, `segmentShapeIntersect` (result and updated flag,
    for either value of the flag) and `manhattanDist` are the same in every frame -/
theorem predicates_frame_invariant :
    Invariant3 (fun a b c => colinear a b c) ∧
    Invariant3 (fun a b c => pointOnLine a b c) ∧
    Invariant4 (fun a b c d => segmentIntersect a b c d) ∧
    (∀ seen, Invariant4 (fun a b c d => segmentShapeIntersect a b c d seen)) ∧
    (∀ (F : Frame) (a b : Pt), manhattanDist (F.act a) (F.act b) = manhattanDist a b) :=
  ⟨FrameGeom.colinear_act, FrameGeom.pointOnLine_act, FrameGeom.segmentIntersect_act,
   fun seen F a b c d => FrameGeom.segmentShapeIntersect_act F a b c d seen, FrameGeom.manhattanDist_act⟩

/-- `inValidRegion` (which presupposes a fixed vertex orientation of the shape) is invariant under the
    orientation-preserving frames: all translations and the four rotations -/
theorem inValidRegion_rigid_invariant (F : Frame) (hdet : F.det = 1) (ig : Bool) (a0 a1 a2 b : Pt) :
    inValidRegion ig (F.act a0) (F.act a1) (F.act a2) (F.act b) = inValidRegion ig a0 a1 a2 b := by
  simp only [inValidRegion, FrameGeom.vecDir_act, hdet, one_mul]

example : (Frame.translation ⟨3, -7⟩).det = 1 ∧ (Frame.ofSym Sym.rot90).det = 1 := ⟨rfl, rfl⟩

/-- specialisation to pure translations, in the vocabulary of C16 (`addPt`) -/
theorem translation_invariant (t a b c d : Pt) :
    let T := fun p => GeometrySpec.addPt p t
    vecDir (T a) (T b) (T c) = vecDir a b c ∧ colinear (T a) (T b) (T c) = colinear a b c ∧
    pointOnLine (T a) (T b) (T c) = pointOnLine a b c ∧
    segmentIntersect (T a) (T b) (T c) (T d) = segmentIntersect a b c d ∧
    cornerSide (T a) (T b) (T c) (T d) = cornerSide a b c d := by
  have e : ∀ p, GeometrySpec.addPt p t = (Frame.translation t).act p := fun p => rfl
  have hd : (Frame.translation t).det = 1 := rfl
  simp only [e]
  refine ⟨?_, FrameGeom.colinear_act _ a b c, FrameGeom.pointOnLine_act _ a b c,
    FrameGeom.segmentIntersect_act _ a b c d, ?_⟩
  · rw [FrameGeom.vecDir_act, hd, one_mul]
  · rw [FrameGeom.cornerSide_act, hd, one_mul]

/-- a frame change is a bijection of the plane (inverse `F.inv`) -/
theorem frame_bijective (F : Frame) : (∀ p, F.inv.act (F.act p) = p) ∧ (∀ p, F.act (F.inv.act p) = p) :=
  ⟨FrameGeom.inv_act F, FrameGeom.act_inv F⟩

/-! ## (2) routes -/

/-- Manhattan length, the list of squared Euclidean leg lengths (which determines the Euclidean
    length Σ√·), the bend count as `cost()` charges it, axis-parallelism, and hence the orthogonal
    cost `length + penalty · bends`, are frame-independent -/
theorem route_costs_frame_invariant :
    CostInvariant manhattanLen ∧ CostInvariant sqLens ∧ CostInvariant bends ∧ CostInvariant isOrth ∧
    (∀ pen, CostInvariant (orthCost pen)) :=
  ⟨FrameRoute.manhattanLen_act, FrameRoute.sqLens_act, FrameRoute.bends_act, FrameRoute.isOrth_act,
   fun pen F r => FrameRoute.orthCost_act F pen r⟩

/-- a route is obstacle-free (joins the endpoints, no point of a leg strictly inside a rectangle)
    iff its image is obstacle-free in the image scene -/
theorem route_valid_iff_image_valid (F : Frame) (sc : Scene) (s d : Pt) (r : Route) :
    RouteValid (F.actScene sc) (F.act s) (F.act d) (F.actRoute r) ↔ RouteValid sc s d r :=
  FrameRoute.routeValid_act F sc s d r

-- non-vacuity: a valid 2-bend route around the rectangle [1,3]×[-1,1] and an invalid straight one
example : RouteValid [⟨⟨1, -1⟩, ⟨3, 1⟩⟩] ⟨0, 0⟩ ⟨4, 0⟩ [⟨0, 0⟩, ⟨0, 1⟩, ⟨4, 1⟩, ⟨4, 0⟩] := by
  refine ⟨rfl, rfl, ?_⟩
  intro l hl R hR
  rw [List.mem_singleton] at hR
  subst hR
  simp only [legs, List.mem_cons, List.not_mem_nil, or_false] at hl
  rcases hl with rfl | rfl | rfl
  · exact FrameRoute.legAvoids_of_x _ _ _ rfl (by decide +kernel)
  · exact FrameRoute.legAvoids_of_y _ _ _ rfl (by decide +kernel)
  · exact FrameRoute.legAvoids_of_x _ _ _ rfl (by decide +kernel)
example : ¬ RouteValid [⟨⟨1, -1⟩, ⟨3, 1⟩⟩] ⟨0, 0⟩ ⟨4, 0⟩ [⟨0, 0⟩, ⟨4, 0⟩] := by
  rintro ⟨_, _, h⟩
  exact absurd (h (⟨0, 0⟩, ⟨4, 0⟩) (.head _) ⟨⟨1, -1⟩, ⟨3, 1⟩⟩ (.head _) (1/2) (by decide +kernel) (by decide +kernel))
    (by decide +kernel)

/-- routing is frame-independent: for polyline connectors (cost data = squared leg lengths and bend
    count) and for orthogonal connectors (cost = Manhattan length + penalty·bends), `r ↦ F r` is a
    bijection between the valid routes of a problem and those of its image that preserves the cost -/
theorem routing_frame_independent :
    RoutingFrameIndependent RouteValid (fun r => (sqLens r, bends r)) ∧
    (∀ pen, RoutingFrameIndependent OrthRouteValid (orthCost pen)) := by
  refine ⟨fun F sc s d => ⟨⟨FrameRoute.actRoute_inv_act F, FrameRoute.actRoute_act_inv F⟩,
      FrameRoute.routeValid_act F sc s d, fun r => ?_⟩,
    fun pen F sc s d => ⟨⟨FrameRoute.actRoute_inv_act F, FrameRoute.actRoute_act_inv F⟩,
      FrameRoute.orthRouteValid_act F sc s d, fun r => FrameRoute.orthCost_act F pen r⟩⟩
  show (sqLens (F.actRoute r), bends (F.actRoute r)) = (sqLens r, bends r)
  rw [FrameRoute.sqLens_act, FrameRoute.bends_act]

/-- hence the OPTIMAL cost of an orthogonal routing problem is the same in every frame -/
theorem optimal_orth_cost_frame_invariant (F : Frame) (pen : Rat) (sc : Scene) (s d : Pt) (c : Rat) :
    IsOptOrthCost pen (F.actScene sc) (F.act s) (F.act d) c ↔ IsOptOrthCost pen sc s d c :=
  FrameRoute.optCost_transfer (FrameRoute.actRoute_act_inv F) (FrameRoute.orthRouteValid_act F sc s d)
    (FrameRoute.orthCost_act F pen) c

/-- and for any cost that is a function `g` of (squared leg lengths, bends) — e.g. Euclidean length +
    penalty·bends for polyline connectors — a valid route of cost ≤ every valid route stays so -/
theorem optimal_route_maps_to_optimal {α : Type} [LE α] (g : List Rat × Nat → α)
    (F : Frame) (sc : Scene) (s d : Pt) (r : Route)
    (hv : RouteValid sc s d r)
    (hopt : ∀ r', RouteValid sc s d r' → g (sqLens r, bends r) ≤ g (sqLens r', bends r')) :
    RouteValid (F.actScene sc) (F.act s) (F.act d) (F.actRoute r) ∧
    ∀ r', RouteValid (F.actScene sc) (F.act s) (F.act d) r' →
      g (sqLens (F.actRoute r), bends (F.actRoute r)) ≤ g (sqLens r', bends r') := by
  refine ⟨(FrameRoute.routeValid_act F sc s d r).2 hv, fun r' hv' => ?_⟩
  have hv'' : RouteValid sc s d (F.inv.actRoute r') := by
    rw [← FrameRoute.routeValid_act F, FrameRoute.actRoute_act_inv]; exact hv'
  have := hopt _ hv''
  rw [FrameRoute.sqLens_act, FrameRoute.bends_act]
  rwa [← FrameRoute.sqLens_act F (F.inv.actRoute r'), ← FrameRoute.bends_act F (F.inv.actRoute r'),
    FrameRoute.actRoute_act_inv] at this

-- non-vacuity of the hypotheses: with the constant cost every valid route is optimal
example : ∃ r, RouteValid [] ⟨0, 0⟩ ⟨1, 0⟩ r ∧
    ∀ r', RouteValid [] ⟨0, 0⟩ ⟨1, 0⟩ r' → (fun _ : List Rat × Nat => (0 : Nat)) (sqLens r, bends r) ≤
      (fun _ : List Rat × Nat => (0 : Nat)) (sqLens r', bends r') :=
  ⟨[⟨0, 0⟩, ⟨1, 0⟩], ⟨rfl, rfl, fun _ _ _ hR => absurd hR List.not_mem_nil⟩, fun _ _ => Nat.le_refl 0⟩

/-! ## (2b) the cost `cost()` charges an A* vertex path: segment penalty and reverse-direction penalty

`Model/RouteCost.lean` transcribes the `reverseDirectionPenalty` block of `cost()` (cola/libavoid/makepath.cpp): with
`xDir`/`yDir` the signs of the source→destination displacement, an edge `p → q` is penalised iff
`(xDir ≠ 0 ∧ −xDir = sign (q.x − p.x)) ∨ (yDir ≠ 0 ∧ −yDir = sign (q.y − p.y))`.  The driver evaluates this model on the
vertex paths the real search returns in the 8 frames of every `route-symmetry-params` scene and demands equal costs. -/

/-- the reverse-direction rule gives the same verdict in every frame — the 8 symmetries of the square and all
    translations — for EVERY source→destination displacement (zero components included: exactly aligned end
    points) and every edge (zero-length and diagonal ones included) -/
theorem reverse_direction_rule_frame_invariant (F : Frame) (src dst p q : Pt) :
    reverses (F.act src) (F.act dst) (F.act p) (F.act q) = reverses src dst p q :=
  FrameCost.reverses_act F src dst p q

-- the rule is not trivial: with the end points vertically aligned, an edge heading away from the destination is
-- penalised, a sideways one and one heading towards the destination are not
example : reverses ⟨0, 0⟩ ⟨0, 5⟩ ⟨0, 0⟩ ⟨0, -1⟩ = true ∧ reverses ⟨0, 0⟩ ⟨0, 5⟩ ⟨0, 0⟩ ⟨3, 0⟩ = false ∧
    reverses ⟨0, 0⟩ ⟨0, 5⟩ ⟨0, 0⟩ ⟨0, 2⟩ = false := by
  decide +kernel

/-- the guards matter: the variant whose Y test is guarded by the X displacement (`reversesSlip`) is NOT invariant
    under exchanging the axes — vertically aligned end points, an edge heading away from the destination: not
    penalised; the transposed situation: penalised -/
theorem reverse_rule_guard_matters :
    reversesSlip ⟨0, 0⟩ ⟨0, 1⟩ ⟨0, 0⟩ ⟨0, -1⟩ = false ∧
    reversesSlip ((Frame.ofSym Sym.diag).act ⟨0, 0⟩) ((Frame.ofSym Sym.diag).act ⟨0, 1⟩)
      ((Frame.ofSym Sym.diag).act ⟨0, 0⟩) ((Frame.ofSym Sym.diag).act ⟨0, -1⟩) = true := by
  decide +kernel

/-- number of penalised edges, the penalty sum `segmentPenalty·bends + reverseDirectionPenalty·reversing edges`, and
    the two path costs built from them (every edge charged / orthogonal search: last edge not charged) are
    frame-independent, for all penalty values, end points and vertex paths -/
theorem path_costs_frame_invariant (F : Frame) (seg rev : Rat) (src dst : Pt) (P : Route) :
    revEdges (F.act src) (F.act dst) (F.actRoute P) = revEdges src dst P ∧
    penalties seg rev (F.act src) (F.act dst) (F.actRoute P) = penalties seg rev src dst P ∧
    fullPathCost seg rev (F.act src) (F.act dst) (F.actRoute P) = fullPathCost seg rev src dst P ∧
    orthPathCost seg rev (F.act src) (F.act dst) (F.actRoute P) = orthPathCost seg rev src dst P :=
  ⟨FrameCost.revEdges_act F src dst P, FrameCost.penalties_act F seg rev src dst P,
   FrameCost.fullPathCost_act F seg rev src dst P, FrameCost.orthPathCost_act F seg rev src dst P⟩

/-- for polyline connectors the cost is Σ√(squared leg length) + penalties: its data (squared leg lengths, penalty
    sum) is frame-independent -/
theorem polyline_path_cost_data_frame_invariant (F : Frame) (seg rev : Rat) (src dst : Pt) (P : Route) :
    (sqLens (F.actRoute P), penalties seg rev (F.act src) (F.act dst) (F.actRoute P)) =
      (sqLens P, penalties seg rev src dst P) := by
  rw [FrameRoute.sqLens_act, FrameCost.penalties_act]

/-- hence the OPTIMAL cost of an orthogonal routing problem with segment and reverse-direction penalties is the
    same in every frame: two runs of a correct minimiser on a scene and on its image must return routes of equal
    cost — what the driver checks on the real router's vertex paths -/
theorem optimal_orth_path_cost_frame_invariant (F : Frame) (seg rev : Rat) (sc : Scene) (s d : Pt) (c : Rat) :
    IsOptOrthPathCost seg rev (F.actScene sc) (F.act s) (F.act d) c ↔ IsOptOrthPathCost seg rev sc s d c :=
  FrameRoute.optCost_transfer (FrameRoute.actRoute_act_inv F) (FrameRoute.orthRouteValid_act F sc s d)
    (FrameCost.orthPathCost_act F seg rev s d) c

-- the two sides of optimal_orth_cost_frame_invariant / optimal_orth_path_cost_frame_invariant are not constantly false:
-- `IsOptOrthCost` and `IsOptOrthPathCost` hold on a non-degenerate problem (empty scene, (0,0) → (3,0), optimal cost 3)
example : IsOptOrthCost 2 [] ⟨0, 0⟩ ⟨3, 0⟩ 3 ∧ IsOptOrthPathCost 2 5 [] ⟨0, 0⟩ ⟨3, 0⟩ 3 := by
  have key := FrameRoute.dx_le_manhattanLen
  have hvalid : OrthRouteValid [] ⟨0, 0⟩ ⟨3, 0⟩ [⟨0, 0⟩, ⟨3, 0⟩] :=
    ⟨⟨rfl, rfl, fun _ _ R hR => absurd hR List.not_mem_nil⟩, by decide⟩
  refine ⟨⟨⟨_, hvalid, ?_⟩, fun r hr => ?_⟩, ⟨⟨_, hvalid, ?_⟩, fun r hr => ?_⟩⟩
  · decide +kernel
  · have := key r _ _ hr.1.1 hr.1.2.1
    have hb : (0 : Rat) ≤ ((bends r : Nat) : Rat) := by exact_mod_cast Nat.zero_le _
    simp only [orthCost] at *; norm_num at this; linarith
  · decide +kernel
  · have := key r _ _ hr.1.1 hr.1.2.1
    have hb : (0 : Rat) ≤ ((bends r : Nat) : Rat) := by exact_mod_cast Nat.zero_le _
    have hc : (0 : Rat) ≤ ((revEdges ⟨0, 0⟩ ⟨3, 0⟩ r.dropLast : Nat) : Rat) := by exact_mod_cast Nat.zero_le _
    simp only [orthPathCost] at *; norm_num at this; linarith

-- the model on a concrete vertex path: source (0,0), destination (0,4) (vertically aligned), path up to (0,-2) in two
-- edges, across to (3,-2), down to (3,4), back to (0,4): the two upward edges are the reversing ones
example : revEdges ⟨0, 0⟩ ⟨0, 4⟩ [⟨0, 0⟩, ⟨0, -1⟩, ⟨0, -2⟩, ⟨3, -2⟩, ⟨3, 4⟩, ⟨0, 4⟩] = 2 := by
  decide +kernel

/-! ## (2c) the pin-cone rule of `ConnEnd::assignPinVisibilityTo` (portDirectionPenalty)

`Model/PinCone.lean`: the edge from a connector end attached to a pin CLASS to one of the class's pins costs
`max(0.001, connectionCost + portDirectionPenalty·[the other end lies in none of the 90° cones of the pin's directions])`,
the cone test looking at `target − pinPosition`. -/

/-- translating pin and target together never changes the verdict (the rule is a function of target − pin): all
    positions, all direction flags, no side condition -/
theorem pin_cone_rule_translation_invariant (t : Pt) (d : Dirs) (pin target : Pt) :
    pinSeesTarget d ((Frame.translation t).act pin) ((Frame.translation t).act target) = pinSeesTarget d pin target := by
  unfold pinSeesTarget
  simp only [Frame.translation, Frame.act, Sym.apply]
  congr 1 <;> ring

/-- in every frame (8 symmetries, then any translation), with the pin's direction flags transformed by the symmetry, the
    verdict is the same — for every pin position and every target other than the pin position itself (the zero vector
    is assigned to the right cone by `rotationalAngle`, which no symmetry respects) -/
theorem pin_cone_rule_frame_invariant (F : Frame) (d : Dirs) (pin target : Pt) (hne : target ≠ pin) :
    pinSeesTarget (d.act F.sym) (F.act pin) (F.act target) = pinSeesTarget d pin target := by
  have hv : ¬ (target.x - pin.x = 0 ∧ target.y - pin.y = 0) := by
    rintro ⟨h1, h2⟩
    apply hne
    rcases target with ⟨a, b⟩; rcases pin with ⟨c, e⟩
    simp only [Pt.mk.injEq]
    constructor <;> linarith
  unfold pinSeesTarget
  rw [← FramePin.inCone_sym F.sym d _ _ hv, ← FramePin.act_sub F pin target]

example : (⟨3, 4⟩ : Pt) ≠ ⟨0, 0⟩ := by decide

/-- hence the cost of the pin edge is frame-independent -/
theorem pin_edge_cost_frame_invariant (F : Frame) (pen cc : Rat) (d : Dirs) (pin target : Pt) (hne : target ≠ pin) :
    pinEdgeExtra pen cc (d.act F.sym) (F.act pin) (F.act target) = pinEdgeExtra pen cc d pin target := by
  unfold pinEdgeExtra
  rw [pin_cone_rule_frame_invariant F d pin target hne]

/-- the subtraction matters: the variant that looks at the target from the ORIGIN (`rotationalAngle(target)`) is not
    translation invariant — a pin at (0,0) looking right, the target at (5,1): seen; both moved by (−10,0): not seen -/
theorem pin_cone_from_origin_not_translation_invariant :
    pinSeesTargetFromOrigin ⟨false, false, false, true⟩ ⟨0, 0⟩ ⟨5, 1⟩ = true ∧
    pinSeesTargetFromOrigin ⟨false, false, false, true⟩ ((Frame.translation ⟨-10, 0⟩).act ⟨0, 0⟩)
      ((Frame.translation ⟨-10, 0⟩).act ⟨5, 1⟩) = false := by
  decide +kernel

/-! ## (3) VPSC -/

/-- two optima of the strictly convex separable quadratic over the convex feasible set coincide -/
theorem optimum_unique (P : VProblem) (hw : P.WF) (x y : Nat → Rat)
    (hx : P.IsOptimum x) (hy : P.IsOptimum y) : ∀ i, i < P.n → x i = y i :=
  FrameVpsc.optimum_unique P hw x y hx hy

-- non-vacuity: two variables wanting to sit at 0, constraint x0 + 2 ≤ x1: the optimum is (-1, 1)
example : ∀ y, exP.IsOptimum y → y 0 = -1 ∧ y 1 = 1 := by
  intro y hy
  have h := optimum_unique exP FrameExample.exP_wf y exX hy FrameExample.exX_optimum
  exact ⟨by simpa [exX] using h 0 (by decide), by simpa [exX] using h 1 (by decide)⟩

/-- desired + t ⇒ optimum + t (scale 1) -/
theorem vpsc_translation_equivariant (P : VProblem) (t : Rat) (x : Nat → Rat) :
    P.IsOptimum x ↔ (P.shift t).IsOptimum (fun i => x i + t) :=
  FrameVpsc.vpsc_translation_equivariant P t x

/-- so ANY optimum of the shifted problem is the shifted optimum of the original one -/
theorem vpsc_shifted_optimum_eq (P : VProblem) (hw : P.WF) (t : Rat) (x x' : Nat → Rat)
    (hx : P.IsOptimum x) (hx' : (P.shift t).IsOptimum x') : ∀ i, i < P.n → x' i = x i + t :=
  optimum_unique (P.shift t) hw x' _ hx' ((vpsc_translation_equivariant P t x).1 hx)

-- non-vacuity of vpsc_shifted_optimum_eq: the shifted example problem has an optimum, and every optimum of it is (4, 6)
example : (∃ x', (exP.shift 5).IsOptimum x') ∧ ∀ x', (exP.shift 5).IsOptimum x' → x' 0 = 4 ∧ x' 1 = 6 := by
  refine ⟨⟨_, (vpsc_translation_equivariant exP 5 exX).1 FrameExample.exX_optimum⟩, fun x' hx' => ?_⟩
  have h := vpsc_shifted_optimum_eq exP FrameExample.exP_wf 5 exX x' FrameExample.exX_optimum hx'
  exact ⟨by rw [h 0 (by decide)]; norm_num [exX], by rw [h 1 (by decide)]; norm_num [exX]⟩

/-- renaming the variables by a permutation σ (inverse τ) and listing the renamed constraints in any
    order / multiplicity permutes the optimum -/
theorem vpsc_permutation_invariant (P : VProblem) (hw : P.WF) (σ τ : Nat → Nat) (hp : IsPerm P.n σ τ)
    (cons' : List VCon) (hc : ∀ c, c ∈ cons' ↔ ∃ c0 ∈ P.cons, c = c0.rename σ) (x : Nat → Rat) :
    P.IsOptimum x → (P.permute τ cons').IsOptimum (fun j => x (τ j)) :=
  FrameVpsc.vpsc_permutation_invariant P hw σ τ hp cons' hc x

example : IsPerm exP.n (fun i => 1 - i) (fun i => 1 - i) := FrameExample.exPerm

/-- so ANY optimum of the permuted problem is the permuted optimum of the original one -/
theorem vpsc_permuted_optimum_eq (P : VProblem) (hw : P.WF) (σ τ : Nat → Nat) (hp : IsPerm P.n σ τ)
    (cons' : List VCon) (hc : ∀ c, c ∈ cons' ↔ ∃ c0 ∈ P.cons, c = c0.rename σ) (x x' : Nat → Rat)
    (hx : P.IsOptimum x) (hx' : (P.permute τ cons').IsOptimum x') : ∀ j, j < P.n → x' j = x (τ j) := by
  -- pulled back along σ, `x'` is an optimum of `P`
  intro j hj
  have h := optimum_unique P hw _ x ((FrameVpsc.isOptimum_qp P _).1
    (Qp.optimum_pull (FrameVpsc.qp P) σ τ _ ((FrameVpsc.wf_qp P).2 hw) hp (FrameVpsc.mem_map_qcon hc) x'
      ((FrameVpsc.isOptimum_qp (P.permute τ cons') x').2 hx'))) hx (τ j) (hp.2 j hj).1
  rwa [(hp.2 j hj).2] at h

-- non-vacuity of vpsc_permutation_invariant and vpsc_permuted_optimum_eq (all hypotheses jointly): the example problem with
-- its two variables exchanged and the renamed constraint list; the permuted problem has an optimum, every optimum is (1, −1)
example :
    (∀ c, c ∈ exP.cons.map (VCon.rename (fun i => 1 - i)) ↔ ∃ c0 ∈ exP.cons, c = c0.rename (fun i => 1 - i)) ∧
    (∃ x', (exP.permute (fun i => 1 - i) (exP.cons.map (VCon.rename (fun i => 1 - i)))).IsOptimum x') ∧
    ∀ x', (exP.permute (fun i => 1 - i) (exP.cons.map (VCon.rename (fun i => 1 - i)))).IsOptimum x' →
      x' 0 = 1 ∧ x' 1 = -1 := by
  have hp := FrameExample.exPerm
  have hc : ∀ c, c ∈ exP.cons.map (VCon.rename (fun i => 1 - i)) ↔
      ∃ c0 ∈ exP.cons, c = c0.rename (fun i => 1 - i) := fun c => by simp only [List.mem_map, eq_comm]
  refine ⟨hc, ⟨_, vpsc_permutation_invariant exP FrameExample.exP_wf _ _ hp _ hc exX FrameExample.exX_optimum⟩,
    fun x' hx' => ?_⟩
  have h := vpsc_permuted_optimum_eq exP FrameExample.exP_wf _ _ hp _ hc exX x' FrameExample.exX_optimum hx'
  exact ⟨by rw [h 0 (by decide)]; norm_num [exX], by rw [h 1 (by decide)]; norm_num [exX]⟩

/-! ## (4) where heap addresses can leak into removeoverlaps -/

/-- `CmpNodePos` modelled as `keyLt pos rank` (rank = the tie-break: variable id, then heap address).  If the centre
    positions of all nodes that ever enter the scan line are pairwise distinct, then for ANY two tie-break assignments
    `r1`, `r2` the sweep sees the same thing: same scan-line contents after every Open/Close and same
    left/right neighbour lists of the node just handled — which is all that generateXConstraints /
    generateYConstraints read from the set. -/
theorem tie_free_deterministic (pos : Nat → Rat) (r1 r2 : Nat → Nat) (ids : List Nat)
    (h : FrameScan.TieFree pos ids) (ops : List ScanOp) (hops : ∀ op ∈ ops, op.2 ∈ ids) :
    scanTrace (keyLt pos r1) [] ops = scanTrace (keyLt pos r2) [] ops :=
  FrameScan.scanTrace_congr _ _ ids (FrameScan.keyLt_tie_free pos r1 r2 ids h) ops []
    (fun _ hu => absurd hu List.not_mem_nil) hops

example : FrameScan.TieFree (fun i => (i : Rat)) [0, 1, 2] :=
  FrameScan.tieFree_cast _

-- non-vacuity of tie_free_deterministic (both hypotheses jointly; the theorem instantiated on a 4-operation sweep with two
-- different address assignments)
example : scanTrace (keyLt (fun i => (i : Rat)) (fun i => i)) [] [(true, 2), (true, 0), (true, 1), (false, 0)] =
    scanTrace (keyLt (fun i => (i : Rat)) (fun i => 7 - i)) [] [(true, 2), (true, 0), (true, 1), (false, 0)] :=
  tie_free_deterministic _ _ _ [0, 1, 2]
    (FrameScan.tieFree_cast _)
    _ (by decide)

/-- the same for the comparator of the C09 scan-line model (`Model.Scanline.keyLt ax rank`, the `lt`
    handed to `scanPtr`/`scanNL`): with pairwise distinct centres in the constraint dimension it does
    not depend on the ranks -/
theorem c09_comparator_tie_free (ax : AdaptaVerif.Model.Scanline.Axis) (r1 r2 : Nat → Nat) (ids : List Nat)
    (h : FrameScan.TieFree ax.ctr ids) :
    ∀ u ∈ ids, ∀ v ∈ ids, AdaptaVerif.Model.Scanline.keyLt ax r1 u v = AdaptaVerif.Model.Scanline.keyLt ax r2 u v := by
  intro u hu v hv
  rw [FrameScan.scanline_keyLt_eq, FrameScan.scanline_keyLt_eq]
  exact FrameScan.keyLt_tie_free ax.ctr r1 r2 ids h u hu v hv

-- non-vacuity of c09_comparator_tie_free: an axis with pairwise distinct centres
example : FrameScan.TieFree (⟨fun _ => 0, fun _ => 0, fun i => (i : Rat), fun _ => 0, fun _ _ => 0, fun _ _ => 0⟩ :
    AdaptaVerif.Model.Scanline.Axis).ctr [0, 1, 2] :=
  FrameScan.tieFree_cast _

/-- …and the hypothesis is needed: with two coincident centres the scan-line order IS the order of the ranks -/
theorem coincident_centres_depend_on_addresses :
    scanTrace (keyLt (fun _ => 0) (fun i => i)) [] [(true, 0), (true, 1)] ≠
    scanTrace (keyLt (fun _ => 0) (fun i => 1 - i)) [] [(true, 0), (true, 1)] := by
  decide +kernel

end AdaptaVerif.Props.C20
