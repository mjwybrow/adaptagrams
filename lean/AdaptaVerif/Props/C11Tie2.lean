/-
C11 — tie theorem for `ShapeConnectionPin::position` (cola/libavoid/connectionpin.cpp): as GENERATED by
cpp2lean from the source on every run (with `Box::width/height` from geomtypes.cpp) it is the hand model
`Model.Pins.pinPosition` — the function `pin_translation_equivariant`, `pin_in_box`, `pin_inside_offset_x/y`,
`pin_resize_proportional` (Props/C11.lean) are about — applied to the bounding box of the polygon the C++
selects (`newPoly` if non-empty, else the shape's own polygon); a pin on a junction sits at the junction.
-/
import AdaptaVerif.Lemmas.PinPosBridge
namespace AdaptaVerif.Props.C11Tie2
open AdaptaVerif.Model.Pins AdaptaVerif.Gen AdaptaVerif.Gen.KeysPins AdaptaVerif.Lemmas.PinPosBridge

/-- for every pin specification, polygon pair and box `b` returned by `offsetBoundingBox(0.0)` for the selected polygon:
    both coordinates of the generated `position` are those of `pinPosition` -/
theorem gen_position_is_model (newPoly shapePoly : List Pt) (s : PinSpec) (bbox : List Pt → Rat → BoxK) (b : Box)
    (hb : bbox (if newPoly.isEmpty then shapePoly else newPoly) 0 = boxK b) :
    (AdaptaVerif.Gen.PinPosK.position newPoly s none shapePoly bbox).x = (pinPosition s b).x ∧
    (AdaptaVerif.Gen.PinPosK.position newPoly s none shapePoly bbox).y = (pinPosition s b).y := by
  -- the generated function assigns `point.x`, then `point.y`, each by the cascade of `axisPos`;
  -- pushing the projections through the `if`s leaves that cascade
  simp only [AdaptaVerif.Gen.PinPosK.position, pinPosition, axisPos, Option.isSome_none, Bool.false_eq_true, if_false, hb,
    AdaptaVerif.Gen.PinPosK.width, AdaptaVerif.Gen.PinPosK.height, boxK, decide_eq_true_eq, Bool.or_eq_true,
    apply_ite AdaptaVerif.Model.Geometry.Pt.x, apply_ite AdaptaVerif.Model.Geometry.Pt.y, ite_self, and_self]

/-- a pin that belongs to a junction is at the junction's position, whatever its offsets -/
theorem gen_position_junction (newPoly shapePoly : List Pt) (s : PinSpec) (j : Pt) (bbox : List Pt → Rat → BoxK) :
    AdaptaVerif.Gen.PinPosK.position newPoly s (some j) shapePoly bbox = j := rfl

/-- the function contains no assertion and no indexed access: nothing can fail -/
theorem gen_position_no_obligation (newPoly shapePoly : List Pt) (s : PinSpec) (junction : Option Pt) (bbox : List Pt → Rat → BoxK) :
    AdaptaVerif.Gen.PinPosK.position_pre newPoly s junction shapePoly bbox = true := by
  unfold AdaptaVerif.Gen.PinPosK.position_pre
  cases junction <;> simp [AdaptaVerif.Gen.PinPosK.width_pre, AdaptaVerif.Gen.PinPosK.height_pre]

/-- non-vacuity of the box hypothesis: a bounding-box function that returns the model box -/
example (b : Box) : (fun (_ : List Pt) (_ : Rat) => boxK b) (if ([] : List Pt).isEmpty then [] else []) 0 = boxK b := rfl

end AdaptaVerif.Props.C11Tie2
