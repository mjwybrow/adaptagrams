/-
C11 — the visibility-direction protocol of `ConnRef::generateCheckpointsPath`
(Model/CheckpointLegs.lean): for ALL graphs, checkpoint lists, arrival / departure masks and ALL
behaviours of the path search (any pattern of reached and skipped checkpoints)

* after the function returns no edge is disabled, no vertex is left restricted, the graph is the
  graph it was entered with (`…_restores`, `…_graph_unchanged`, `no_vertex_left_restricted`);
* hence over any history of edge creation / removal / vertex moves / searches with and without
  checkpoints the graph between two searches never contains a disabled edge (`history_never_restricted`)
  — this is what the harness reads through the public API after every transaction and at every
  progress callback inside a transaction (`visall`, `viscb`, `cpv` lines) and the driver compares;
* every loop iteration performs its search with in-range vector accesses (`every_leg_searched`,
  `indices_in_range`), and the graph a leg's search sees is exactly: arrival mask of the checkpoint
  the leg goes to on the edges of that vertex, departure mask of the last reached checkpoint on the
  remaining edges of the start vertex, everything else enabled (`search_sees_*`).
-/
import AdaptaVerif.Lemmas.CheckpointLegs
namespace AdaptaVerif.Props.C11Legs
open AdaptaVerif.Model.CheckpointLegs AdaptaVerif.Lemmas.CheckpointLegs

variable {V : Type} [DecidableEq V]

/-- `setVisibleDirections(ConnDirAll)` leaves no edge of the vertex disabled -/
theorem setVisible_all_enables (v : V) (g : Graph V) (e : Edge V)
    (he : e ∈ setVisibleDirections v connDirAll g) (hv : e.a = v ∨ e.b = v) : e.disabled = false := by
  simp only [setVisibleDirections, List.mem_map] at he
  obtain ⟨e0, _, rfl⟩ := he
  rw [setVisible_a, setVisible_b] at hv
  exact disabled_setVisible_all v e0 hv

/-- `setVisibleDirections(dirs)`, `dirs ≠ ConnDirAll`: an edge of the vertex is disabled iff the
    other end's direction has no bit in common with `dirs`; other edges are not touched -/
theorem setVisible_spec (v : V) (dirs : Nat) (hd : dirs ≠ connDirAll) (e : Edge V) :
    (e.a = v → (Edge.setVisible v dirs e).disabled = decide (e.dirAB &&& dirs = 0)) ∧
    (e.a ≠ v → e.b = v → (Edge.setVisible v dirs e).disabled = decide (e.dirBA &&& dirs = 0)) ∧
    (e.a ≠ v → e.b ≠ v → Edge.setVisible v dirs e = e) := by
  refine ⟨fun ha => ?_, fun ha hb => ?_, fun ha hb => setVisible_frame v dirs e ha hb⟩
  · simp [Edge.setVisible, ha, disabledFor, hd]
  · simp [Edge.setVisible, ha, hb, disabledFor, hd]

/-- **Invariant.** Entered with no disabled edge, `generateCheckpointsPath` returns with no disabled edge. -/
theorem generateCheckpointsPath_restores (search : Graph V → V → V → Bool) (src dst : V) (cps : List (Cp V))
    (g : Graph V) (hg : allEnabled g = true) :
    allEnabled (generateCheckpointsPath search src dst cps g).g = true := by
  rw [(generate_inv search src dst cps g hg).graph]; exact hg

/-- … and the graph is literally the one it was entered with. -/
theorem generateCheckpointsPath_graph_unchanged (search : Graph V → V → V → Bool) (src dst : V)
    (cps : List (Cp V)) (g : Graph V) (hg : allEnabled g = true) :
    (generateCheckpointsPath search src dst cps g).g = g :=
  (generate_inv search src dst cps g hg).graph

/-- "after generateCheckpointsPath returns, no vertex is left restricted" -/
theorem no_vertex_left_restricted (search : Graph V → V → V → Bool) (src dst : V) (cps : List (Cp V))
    (g : Graph V) (hg : allEnabled g = true) :
    restrictedVertices (generateCheckpointsPath search src dst cps g).g = [] := by
  rw [generateCheckpointsPath_graph_unchanged search src dst cps g hg]
  have : g.filter (·.disabled) = [] :=
    List.filter_eq_nil_iff.mpr fun e he => by simp [(allEnabled_iff_forall g).mp hg e he]
  unfold restrictedVertices
  rw [this]; rfl

/-- the `allEnabled` invariant is also kept from an arbitrary state at the vertices the function
    handles: without any assumption on `g`, edges that are not at `src`, `dst` or a checkpoint vertex
    keep their flag (frame property), so a restriction can never leak to another connector's vertices -/
theorem generateCheckpointsPath_skeleton (search : Graph V → V → V → Bool) (src dst : V) (cps : List (Cp V))
    (g : Graph V) : (generateCheckpointsPath search src dst cps g).g.map clear = g.map clear := by
  have : ∀ (l : List Nat) (s : LoopState V),
      (l.foldl (iteration search (legVertices src dst cps) cps) s).g.map clear = s.g.map clear := by
    intro l
    induction l with
    | nil => intro s; rfl
    | cons i l ih => intro s; rw [List.foldl_cons, ih, iteration_skeleton]
  exact this _ ⟨g, 0, []⟩

/-- **Histories.** Whatever edges are created, removed, re-directed, and whatever connectors are
    searched (with any checkpoint lists, masks, search outcomes), between two operations the graph
    has no disabled edge. -/
theorem history_never_restricted (g : Graph V) (hg : allEnabled g = true) (ops : List (Op V)) :
    allEnabled (runOps g ops) = true := by
  unfold runOps
  induction ops generalizing g with
  | nil => exact hg
  | cons op ops ih =>
    rw [List.foldl_cons]
    apply ih
    cases op with
    | addEdge a b d1 d2 => simpa [applyOp, allEnabled] using hg
    | removeEdges keep =>
      exact (allEnabled_iff_forall _).mpr fun e he => (allEnabled_iff_forall g).mp hg e (List.mem_filter.mp he).1
    | redirect f =>
      refine (allEnabled_iff_forall _).mpr fun e he => ?_
      obtain ⟨e0, he0, rfl⟩ := List.mem_map.mp he
      exact (allEnabled_iff_forall g).mp hg e0 he0
    | route search src dst cps => exact generateCheckpointsPath_restores search src dst cps g hg
    | routePlain => exact hg

/-- from the empty router -/
theorem history_from_empty (ops : List (Op V)) : allEnabled (runOps ([] : Graph V) ops) = true :=
  history_never_restricted [] rfl ops

/-- every iteration of the loop reaches its `aStar.search` (the totalised "index out of range"
    branch of the model is never taken): one search per checkpoint plus the leg to `dst` -/
theorem every_leg_searched (search : Graph V → V → V → Bool) (src dst : V) (cps : List (Cp V))
    (g : Graph V) (hg : allEnabled g = true) :
    (generateCheckpointsPath search src dst cps g).legs.length = cps.length + 1 := by
  have := (generate_inv search src dst cps g hg).count
  omega

/-- all four vector accesses of an iteration are in range:
    `checkpoints[lastSuccessfulIndex]`, `checkpoints[i]`, and where they are evaluated
    `m_checkpoints[lastSuccessfulIndex - 1]`, `m_checkpoints[i - 1]` -/
theorem indices_in_range (search : Graph V → V → V → Bool) (src dst : V) (cps : List (Cp V))
    (g : Graph V) (hg : allEnabled g = true) (r : LegRecord V)
    (hr : r ∈ (generateCheckpointsPath search src dst cps g).legs) :
    (legVertices src dst cps)[r.lastOk]? = some r.start ∧ (legVertices src dst cps)[r.index]? = some r.stop ∧
    (r.lastOk > 0 → (cps[r.lastOk - 1]?).isSome) ∧
    (r.index + 1 < (legVertices src dst cps).length → (cps[r.index - 1]?).isSome) := by
  have ok := (generate_inv search src dst cps g hg).legs r hr
  have h1 := ok.lt
  have h2 := ok.index_lt
  rw [legVertices_length] at h2
  refine ⟨ok.start, ok.stop, fun h => ?_, fun h => ?_⟩
  · rw [isSome_getElem?]
    omega
  · rw [legVertices_length] at h
    rw [isSome_getElem?]
    omega

/-- the graph a leg's search sees is the entry graph with the two conditional restrictions applied -/
theorem search_sees (search : Graph V → V → V → Bool) (src dst : V) (cps : List (Cp V))
    (g : Graph V) (hg : allEnabled g = true) (r : LegRecord V)
    (hr : r ∈ (generateCheckpointsPath search src dst cps g).legs) :
    r.seen = g.map (legEdge (legVertices src dst cps) cps r.lastOk r.index r.start r.stop) := by
  rw [((generate_inv search src dst cps g hg).legs r hr).seen, legGraph_eq_map]

/-- **Arrival restriction is exact.** On a leg towards checkpoint `c` (`c = m_checkpoints[i-1]`,
    `i ≤ n`) with `c.arr ≠ ConnDirAll`, an edge of the checkpoint's vertex is disabled during the
    search iff the other end does not lie in one of the arrival directions. -/
theorem search_sees_arrival (search : Graph V → V → V → Bool) (src dst : V) (cps : List (Cp V))
    (g : Graph V) (hg : allEnabled g = true) (r : LegRecord V)
    (hr : r ∈ (generateCheckpointsPath search src dst cps g).legs)
    (hi : r.index ≤ cps.length) (c : Cp V) (hc : cps[r.index - 1]? = some c) (harr : c.arr ≠ connDirAll)
    (e : Edge V) (he : e ∈ r.seen) :
    (e.a = r.stop → e.disabled = disabledFor c.arr e.dirAB) ∧
    (e.a ≠ r.stop → e.b = r.stop → e.disabled = disabledFor c.arr e.dirBA) := by
  rw [search_sees search src dst cps g hg r hr, List.mem_map] at he
  obtain ⟨e0, _, rfl⟩ := he
  have hlen : r.index + 1 < (legVertices src dst cps).length := by rw [legVertices_length]; omega
  unfold legEdge
  simp only [hlen, if_true, hc, Option.map_some]
  exact edgeRestrictBy_spec r.stop c.arr harr _

/-- **Everything else stays enabled** during a leg's search: a disabled edge is an edge of the
    leg's start or end vertex. -/
theorem search_sees_elsewhere_enabled (search : Graph V → V → V → Bool) (src dst : V) (cps : List (Cp V))
    (g : Graph V) (hg : allEnabled g = true) (r : LegRecord V)
    (hr : r ∈ (generateCheckpointsPath search src dst cps g).legs)
    (e : Edge V) (he : e ∈ r.seen)
    (h1 : e.a ≠ r.start) (h2 : e.b ≠ r.start) (h3 : e.a ≠ r.stop) (h4 : e.b ≠ r.stop) : e.disabled = false := by
  rw [search_sees search src dst cps g hg r hr, List.mem_map] at he
  obtain ⟨e0, he0, rfl⟩ := he
  have en : e0.disabled = false := (allEnabled_iff_forall g).mp hg e0 he0
  rw [legEdge_a] at h1 h3
  rw [legEdge_b] at h2 h4
  rw [legEdge_frame _ _ _ _ _ _ e0 h1 h2 h3 h4]; exact en

/-- **Departure restriction**: on a leg that starts from a reached checkpoint `c`
    (`c = m_checkpoints[lastSuccessfulIndex-1]`) with `c.dep ≠ ConnDirAll`, an edge of the start vertex
    that is not also an edge of the leg's end vertex is disabled during the search iff the other end
    does not lie in one of the departure directions. (For the edge that joins start and end see
    `departure_mask_overridden_on_shared_edge`.) -/
theorem search_sees_departure (search : Graph V → V → V → Bool) (src dst : V) (cps : List (Cp V))
    (g : Graph V) (hg : allEnabled g = true) (r : LegRecord V)
    (hr : r ∈ (generateCheckpointsPath search src dst cps g).legs)
    (hl : r.lastOk > 0) (c : Cp V) (hc : cps[r.lastOk - 1]? = some c) (hdep : c.dep ≠ connDirAll)
    (e : Edge V) (he : e ∈ r.seen) (h3 : e.a ≠ r.stop) (h4 : e.b ≠ r.stop) :
    (e.a = r.start → e.disabled = disabledFor c.dep e.dirAB) ∧
    (e.a ≠ r.start → e.b = r.start → e.disabled = disabledFor c.dep e.dirBA) := by
  rw [search_sees search src dst cps g hg r hr, List.mem_map] at he
  obtain ⟨e0, _, rfl⟩ := he
  rw [legEdge_a] at h3
  rw [legEdge_b] at h4
  have hval : legEdge (legVertices src dst cps) cps r.lastOk r.index r.start r.stop e0 =
      edgeRestrictBy r.start (some c.dep) e0 := by
    unfold legEdge
    simp only [hl, if_true, hc, Option.map_some]
    split
    · exact edgeRestrictBy_frame _ _ _ (by rw [edgeRestrictBy_a]; exact h3) (by rw [edgeRestrictBy_b]; exact h4)
    · rfl
  rw [hval]
  exact edgeRestrictBy_spec r.start c.dep hdep e0

/-! ### concrete instances (non-vacuity, and a property of the real code worth knowing) -/

/-- checkpoint 1 at vertex 1 may be left only upwards (mask 1), checkpoint 2 at vertex 2; the one
    edge joins them, vertex 2 lies to the Right (8) of vertex 1 -/
def exGraph : Graph Nat := [⟨1, 2, 8, 4, false⟩, ⟨1, 5, 1, 2, false⟩, ⟨0, 1, 8, 4, false⟩]

/-- the protocol really restricts: leg 2 (from checkpoint 1, departure Up only) sees the edges
    1–2 and 0–1 disabled and 1–5 (upwards) enabled; and the function returns the graph unrestricted -/
theorem example_restricts_and_restores :
    let r := generateCheckpointsPath (fun _ _ _ => true) 0 3 [⟨1, 15, 1⟩, ⟨2, 15, 15⟩] exGraph
    r.legs.map (fun l => l.seen.map (·.disabled)) = [[false, false, false], [true, false, true], [false, false, false]]
      ∧ allEnabled r.g = true ∧ r.last = 3 := by decide

/-- the same with a skipped checkpoint (no path found on leg 2): the start vertex of leg 3 is still
    checkpoint 1, restricted again by its departure mask, and restored again -/
theorem example_skipped_checkpoint :
    let r := generateCheckpointsPath (fun _ a b => !(a == 1 && b == 2)) 0 3 [⟨1, 15, 1⟩, ⟨2, 15, 15⟩] exGraph
    r.legs.map (fun l => (l.lastOk, l.index, l.start, l.stop, l.seen.map (·.disabled))) =
        [(0, 1, 0, 1, [false, false, false]), (1, 2, 1, 2, [true, false, true]), (1, 3, 1, 3, [true, false, true])]
      ∧ allEnabled r.g = true ∧ r.last = 3 := by decide

/-- **The departure mask of a checkpoint is overridden on the edge to the next checkpoint when that
    one has a restricted arrival mask**: `end->setVisibleDirections(arrival)` is called after
    `start->setVisibleDirections(departure)` and rewrites the flag of the shared edge. Here the route
    may leave checkpoint 1 only upwards, checkpoint 2 (to the right of it) may be entered from the
    left: the search of leg 2 sees the edge 1–2 enabled. (Not a clause of C11; reported.) -/
theorem departure_mask_overridden_on_shared_edge :
    let r := generateCheckpointsPath (fun _ _ _ => true) 0 3 [⟨1, 15, 1⟩, ⟨2, 4, 15⟩] exGraph
    r.legs.map (fun l => l.seen.map (·.disabled)) = [[false, false, false], [false, false, true], [false, false, false]]
      ∧ disabledFor 1 8 = true := by decide

end AdaptaVerif.Props.C11Legs
