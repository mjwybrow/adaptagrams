/-
C18 — tie theorem for the central kernel: `SepPair::transform` as generated from /repo's
libdialect/constraints.cpp by cpp2lean on every run (a `switch` with `break` arms that mutates the
members xst, yst, xgt, ygt, xgap, ygap through assignments and std::swap; `double` mapped to the
signed-zero type SZ) is the hand model `SepPair.transform` that `transform_equivariant`,
`transform_group` … in Props/C18.lean are about.
-/
import AdaptaVerif.Gen.SepPair
import AdaptaVerif.Model.Sep
namespace AdaptaVerif.Props.C18Tie2
open AdaptaVerif.Model.Sep

theorem gen_transform_is_model (tf : SepTransform) (sp : SepPair) :
    AdaptaVerif.Gen.SepPair.transform tf sp.xst sp.yst sp.xgt sp.ygt sp.xgap sp.ygap =
      ((sp.transform tf).xst, (sp.transform tf).yst, (sp.transform tf).xgt, (sp.transform tf).ygt,
       (sp.transform tf).xgap, (sp.transform tf).ygap) := by
  cases tf <;> rfl

/-- … and it touches nothing else: the model's transform leaves src, tgt, precision and flag alone -/
theorem model_transform_frame (tf : SepTransform) (sp : SepPair) :
    (sp.transform tf).src = sp.src ∧ (sp.transform tf).tgt = sp.tgt ∧
    (sp.transform tf).tglfPrecision = sp.tglfPrecision ∧ (sp.transform tf).flippedRetrieval = sp.flippedRetrieval := by
  cases tf <;> exact ⟨rfl, rfl, rfl, rfl⟩

theorem gen_transform_no_assertion (tf : SepTransform) (sp : SepPair) :
    AdaptaVerif.Gen.SepPair.transform_pre tf sp.xst sp.yst sp.xgt sp.ygt sp.xgap sp.ygap = true := by
  cases tf <;> rfl

/-! ### the other small `SepPair` methods, regenerated with `this` as the model's record -/

open AdaptaVerif.Num in
/-- `x == 0` on a `double` (IEEE equality with `+0`, as the generated text has it) is the model's `isZero` -/
theorem eqVal_zero (x : SZ) : SZ.eqVal x (SZ.ofRat 0) = x.isZero := by
  have hz : SZ.ofRat 0 = ⟨false, 0⟩ := by decide
  obtain ⟨n, m⟩ := x
  cases n
  · simp [SZ.eqVal, SZ.toRat, SZ.isZero, hz]
  · -- the value of a negative `x` is `-m`, and `-m = 0` iff `m = 0`
    simp only [SZ.eqVal, SZ.toRat, SZ.isZero, hz, if_true, Bool.false_eq_true, if_false]
    rw [Bool.eq_iff_iff, beq_iff_eq, beq_iff_eq]
    exact ⟨fun h => by rw [← Rat.neg_neg m, h]; rfl, fun h => by rw [h]; rfl⟩

/-- `SepPair::addSep(gt, sd, st, gap)`: a switch over the eight directions writing up to six members -/
theorem gen_addSep_is_model (sp : SepPair) (gt : GapType) (sd : SepDir) (st : SepType) (gap : AdaptaVerif.Num.SZ) :
    AdaptaVerif.Gen.SepPair.addSep gt sd st gap sp = sp.addSep gt sd st gap := by
  cases st <;> cases sd <;> rfl

theorem gen_roundGapsUpAbs_is_model (sp : SepPair) :
    AdaptaVerif.Gen.SepPair.roundGapsUpAbs sp = sp.roundGapsUpAbs := rfl

theorem gen_predicates_are_model (sp : SepPair) :
    AdaptaVerif.Gen.SepPair.isVAlign sp = sp.isVAlign ∧ AdaptaVerif.Gen.SepPair.isHAlign sp = sp.isHAlign ∧
    AdaptaVerif.Gen.SepPair.isVerticalCardinal sp = sp.isVerticalCardinal ∧
    AdaptaVerif.Gen.SepPair.isHorizontalCardinal sp = sp.isHorizontalCardinal ∧
    AdaptaVerif.Gen.SepPair.isCardinal sp = sp.isCardinal := by
  -- on the enums `a == b` unfolds to `decide (a = b)`, which is how the generated text compares them
  simp only [AdaptaVerif.Gen.SepPair.isVAlign, AdaptaVerif.Gen.SepPair.isHAlign,
    AdaptaVerif.Gen.SepPair.isVerticalCardinal, AdaptaVerif.Gen.SepPair.isHorizontalCardinal,
    AdaptaVerif.Gen.SepPair.isCardinal, eqVal_zero, decide_not]
  exact ⟨rfl, rfl, rfl, rfl, rfl⟩

theorem gen_hasConstraintInDim_is_model (sp : SepPair) (d : Dim) :
    AdaptaVerif.Gen.SepPair.hasConstraintInDim d sp = sp.hasConstraintInDim d := by
  cases d <;> simp only [AdaptaVerif.Gen.SepPair.hasConstraintInDim, decide_not] <;> rfl

end AdaptaVerif.Props.C18Tie2
