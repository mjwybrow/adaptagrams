/-
C09 x C01: end to end, at model level — scan-line constraint generation (`Model/Scanline.lean`, Props/C09)
composed with the static VPSC solver (`Model/VpscStatic.lean`, Props/C01Static), the solver behind
`vpsc::removeoverlaps`.

  generateX/YConstraints  --gen_acyclic-->  acyclic constraint graph
     --static_totalOrder_topological-->  `Blocks::totalOrder` is a topological order (ranks)
     --static_satisfy_total / static_solve_total--> `satisfy()` / `solve()` return normally or throw (never out of fuel)
     --static_satisfy_post / static_solve_post (exit scan), read on the INPUT constraints (`run_eps_sat`)-->
                                          every generated constraint holds up to 1e-10 at the solver's output
     --eps_shift_feasible along the ranks--> an EXACTLY feasible placement within n·1e-10 (`run_shifted_sat`)
     --genx_separates / geny_separates--> every pair of rectangles that meets in the sweep dimension is
                                          separated by half the sum of its sizes minus n·1e-10.

`static_removeoverlaps_{x,y}_separates` are conditional on a NORMAL RETURN of the solver: that the static
solver never throws on an acyclic system is not proved (see Props/C01Static); the only alternative to a
normal return is the throw of an exit scan (`static_removeoverlaps_{x,y}_solve`).  Coordinates are the solver's `uval`
(= `Variable::position()` at unit scales, which is how `removeoverlaps` creates its variables).
-/
import AdaptaVerif.Props.C09
import AdaptaVerif.Props.C01Static
import AdaptaVerif.Lemmas.VpscStaticScan
import Mathlib.Tactic.Linarith
import Mathlib.Tactic.Ring
namespace AdaptaVerif.Props.C09Static
open AdaptaVerif.Model.Vpsc AdaptaVerif.Model.VpscStatic
open AdaptaVerif.Lemmas.VpscStaticMem AdaptaVerif.Lemmas.VpscStaticFrame AdaptaVerif.Lemmas.VpscStaticScan
open AdaptaVerif.Spec.Rects (Sat RankInjective ScanMeet ValidOrder)
open AdaptaVerif.Model.Scanline (Rect Ev rectAt yAxis xAxis generateYConstraints generateXConstraints)
open AdaptaVerif.Props.C09 (GoodAxis)

/-- **the exit scan, read on the input constraints**: after a normal return of `satisfy` / `solve` from
    `Solver(vs, toVpsc cs)`, every constraint of `cs` holds up to `|ZERO_UPPERBOUND| = 1e-10` at the final
    scaled coordinates `uval` (= `Variable::position()` for unit scales) -/
theorem run_eps_sat (vs : Array (Rat × Rat × Rat)) (cs : List SCon) (doSolve : Bool)
    (s' : SSt) (pos : Array Rat) (ret : Bool)
    (hrun : (if doSolve then (SSt.init vs (toVpsc cs)).solve else (SSt.init vs (toVpsc cs)).satisfy)
      = (s', .ok pos ret)) :
    ∀ c ∈ cs, s'.st.uval c.l + c.gap - 1 / 10000000000 ≤ s'.st.uval c.r := by
  have hcd : CD (SSt.init vs (toVpsc cs)).st s'.st := by
    cases doSolve with
    | true => simp only [if_true] at hrun; have := (solve_pres (SSt.init vs (toVpsc cs))).cd; rwa [hrun] at this
    | false =>
      simp only [Bool.false_eq_true, if_false] at hrun
      have := (satisfy_pres (SSt.init vs (toVpsc cs))).cd; rwa [hrun] at this
  have hscan : ∀ ci : Nat, ci < s'.st.cons.size → ZERO_UPPERBOUND ≤ rawSlack s'.st ci := by
    cases doSolve with
    | true => simp only [if_true] at hrun; exact (AdaptaVerif.Props.C01Static.static_solve_post _ _ _ _ hrun).2.2
    | false =>
      simp only [Bool.false_eq_true, if_false] at hrun
      exact (AdaptaVerif.Props.C01Static.static_satisfy_post _ _ _ _ hrun).2.2
  obtain ⟨hsz, hdata⟩ := run_cons vs cs s'.st hcd
  intro c hc
  obtain ⟨ci, hci, rfl⟩ := List.mem_iff_getElem.1 hc
  have h1 := hscan ci (by rw [hsz]; exact hci)
  obtain ⟨d1, d2, d3⟩ := hdata ci hci
  unfold rawSlack at h1
  simp only at h1
  rw [d1, d2, d3] at h1
  unfold ZERO_UPPERBOUND at h1
  linarith

/-- from a normal return of the static solver on an acyclic scan-line constraint list to an EXACTLY
    feasible placement within `n · 1e-10` of the solver's coordinates -/
theorem run_shifted_sat (vs : Array (Rat × Rat × Rat)) (cs : List SCon)
    (hrange : ∀ c ∈ cs, c.l < vs.size ∧ c.r < vs.size) (hac : AdaptaVerif.Spec.Rects.Acyclic cs)
    (doSolve : Bool) (s' : SSt) (pos : Array Rat) (ret : Bool)
    (hrun : (if doSolve then (SSt.init vs (toVpsc cs)).solve else (SSt.init vs (toVpsc cs)).satisfy)
      = (s', .ok pos ret)) :
    ∃ y' : Nat → Rat, Sat y' cs ∧
      ∀ v, s'.st.uval v ≤ y' v ∧ y' v ≤ s'.st.uval v + (vs.size : Rat) / 10000000000 := by
  obtain ⟨rk, hrk, hbd⟩ := order_ranks vs cs hrange hac
  refine ⟨fun v => s'.st.uval v + (1 / 10000000000 : Rat) * (rk v : Rat),
    eps_shift_feasible cs _ (1 / 10000000000) (by norm_num) rk hrk
      (run_eps_sat vs cs doSolve s' pos ret hrun), fun v => ?_⟩
  have h1 : (0 : Rat) ≤ (rk v : Rat) := by exact_mod_cast Nat.zero_le _
  have h2 : (rk v : Rat) ≤ (vs.size : Rat) := by exact_mod_cast hbd v
  constructor
  · have : (0 : Rat) ≤ (1 / 10000000000 : Rat) * (rk v : Rat) := mul_nonneg (by norm_num) h1
    simp only; linarith
  · have : (1 / 10000000000 : Rat) * (rk v : Rat) ≤ (1 / 10000000000 : Rat) * (vs.size : Rat) :=
      mul_le_mul_of_nonneg_left h2 (by norm_num)
    simp only; linarith

/-- **static_removeoverlaps_y_separates** (model level, vertical pass of `removeoverlaps`): the constraints
    produced by `generateYConstraints` are acyclic (`gen_acyclic`), so `Blocks::totalOrder` is a topological
    order (`static_totalOrder_topological`); if the static solver (`satisfy()` or `solve()`) then returns
    normally — it never runs out of fuel in `satisfy` (`static_satisfy_total`) and its exit scan passed
    (`static_solve_post`) — any two rectangles whose x-extents meet are separated vertically at the solver's
    coordinates by half the sum of their heights minus `n · 1e-10`.  With the `EXTRA_GAP = 1e-3` that
    `removeoverlaps` adds to the borders in its last passes this is "no overlap" for every n ≤ 10^7. -/
theorem static_removeoverlaps_y_separates (rs : Array Rect) (bx b : Rat) (rank : Nat → Nat)
    (inj : RankInjective rank) (evs : List Ev) (hv : ValidOrder (yAxis rs bx b) rs.size evs)
    (hgood : GoodAxis (yAxis rs bx b) rs.size) (vs : Array (Rat × Rat × Rat))
    (hrange : ∀ c ∈ generateYConstraints rs bx b rank evs, c.l < vs.size ∧ c.r < vs.size)
    (doSolve : Bool) (s' : SSt) (pos : Array Rat) (ret : Bool)
    (hrun : (if doSolve then (SSt.init vs (toVpsc (generateYConstraints rs bx b rank evs))).solve
             else (SSt.init vs (toVpsc (generateYConstraints rs bx b rank evs))).satisfy) = (s', .ok pos ret))
    (i j : Nat) (hi : i < rs.size) (hj : j < rs.size) (hij : i ≠ j) (hmeet : ScanMeet (yAxis rs bx b) i j) :
    s'.st.uval i + ((rectAt rs i).height b + (rectAt rs j).height b) / 2 - (vs.size : Rat) / 10000000000
        ≤ s'.st.uval j ∨
    s'.st.uval j + ((rectAt rs i).height b + (rectAt rs j).height b) / 2 - (vs.size : Rat) / 10000000000
        ≤ s'.st.uval i := by
  obtain ⟨y', hsat, hnear⟩ := run_shifted_sat vs _ hrange (AdaptaVerif.Props.C09.gen_acyclic rs bx b rank evs false).1
    doSolve s' pos ret hrun
  rcases AdaptaVerif.Props.C09.geny_separates rs bx b rank inj evs hv hgood y' hsat i j hi hj hij hmeet with h | h
  · left; have := hnear i; have := hnear j; linarith
  · right; have := hnear i; have := hnear j; linarith

/-- the same for the horizontal pass (`generateXConstraints` without neighbour lists) -/
theorem static_removeoverlaps_x_separates (rs : Array Rect) (bx b : Rat) (rank : Nat → Nat)
    (inj : RankInjective rank) (evs : List Ev) (hv : ValidOrder (xAxis rs bx b) rs.size evs)
    (hgood : GoodAxis (xAxis rs bx b) rs.size) (vs : Array (Rat × Rat × Rat))
    (hrange : ∀ c ∈ generateXConstraints rs bx b rank evs false, c.l < vs.size ∧ c.r < vs.size)
    (doSolve : Bool) (s' : SSt) (pos : Array Rat) (ret : Bool)
    (hrun : (if doSolve then (SSt.init vs (toVpsc (generateXConstraints rs bx b rank evs false))).solve
             else (SSt.init vs (toVpsc (generateXConstraints rs bx b rank evs false))).satisfy) = (s', .ok pos ret))
    (i j : Nat) (hi : i < rs.size) (hj : j < rs.size) (hij : i ≠ j) (hmeet : ScanMeet (xAxis rs bx b) i j) :
    s'.st.uval i + ((rectAt rs i).width bx + (rectAt rs j).width bx) / 2 - (vs.size : Rat) / 10000000000
        ≤ s'.st.uval j ∨
    s'.st.uval j + ((rectAt rs i).width bx + (rectAt rs j).width bx) / 2 - (vs.size : Rat) / 10000000000
        ≤ s'.st.uval i := by
  obtain ⟨y', hsat, hnear⟩ := run_shifted_sat vs _ hrange (AdaptaVerif.Props.C09.gen_acyclic rs bx b rank evs false).2
    doSolve s' pos ret hrun
  rcases AdaptaVerif.Props.C09.genx_separates rs bx b rank inj evs hv hgood y' hsat i j hi hj hij hmeet with h | h
  · left; have := hnear i; have := hnear j; linarith
  · right; have := hnear i; have := hnear j; linarith

/-- **static_removeoverlaps_y_last_pass**: the last vertical pass of `removeoverlaps` generates its
    constraints with the borders enlarged by `EXTRA_GAP` (`extra`, 1e-3 in the code).  If the static solver
    returns normally and `2·extra ≥ n·1e-10` (n ≤ 2·10^7 for the code's value), every pair of rectangles whose
    x-extents meet is separated vertically by at least half the sum of its NOMINAL heights (border `b`) at the
    solver's coordinates: no overlap, the solver's tolerance `ZERO_UPPERBOUND` notwithstanding. -/
theorem static_removeoverlaps_y_last_pass (rs : Array Rect) (bx b extra : Rat) (rank : Nat → Nat)
    (inj : RankInjective rank) (evs : List Ev) (hv : ValidOrder (yAxis rs bx (b + extra)) rs.size evs)
    (hgood : GoodAxis (yAxis rs bx (b + extra)) rs.size) (vs : Array (Rat × Rat × Rat))
    (hextra : (vs.size : Rat) / 10000000000 ≤ 2 * extra)
    (hrange : ∀ c ∈ generateYConstraints rs bx (b + extra) rank evs, c.l < vs.size ∧ c.r < vs.size)
    (doSolve : Bool) (s' : SSt) (pos : Array Rat) (ret : Bool)
    (hrun : (if doSolve then (SSt.init vs (toVpsc (generateYConstraints rs bx (b + extra) rank evs))).solve
             else (SSt.init vs (toVpsc (generateYConstraints rs bx (b + extra) rank evs))).satisfy) = (s', .ok pos ret))
    (i j : Nat) (hi : i < rs.size) (hj : j < rs.size) (hij : i ≠ j)
    (hmeet : ScanMeet (yAxis rs bx (b + extra)) i j) :
    s'.st.uval i + ((rectAt rs i).height b + (rectAt rs j).height b) / 2 ≤ s'.st.uval j ∨
    s'.st.uval j + ((rectAt rs i).height b + (rectAt rs j).height b) / 2 ≤ s'.st.uval i := by
  have hh : ∀ k, (rectAt rs k).height (b + extra) = (rectAt rs k).height b + 2 * extra := by
    intro k
    simp only [Rect.height, Rect.getMaxY, Rect.getMinY]
    ring
  rcases static_removeoverlaps_y_separates rs bx (b + extra) rank inj evs hv hgood vs hrange doSolve s' pos ret
    hrun i j hi hj hij hmeet with h | h
  · left; rw [hh i, hh j] at h; linarith
  · right; rw [hh i, hh j] at h; linarith

/-- the same for the last horizontal pass -/
theorem static_removeoverlaps_x_last_pass (rs : Array Rect) (bx b extra : Rat) (rank : Nat → Nat)
    (inj : RankInjective rank) (evs : List Ev) (hv : ValidOrder (xAxis rs (bx + extra) b) rs.size evs)
    (hgood : GoodAxis (xAxis rs (bx + extra) b) rs.size) (vs : Array (Rat × Rat × Rat))
    (hextra : (vs.size : Rat) / 10000000000 ≤ 2 * extra)
    (hrange : ∀ c ∈ generateXConstraints rs (bx + extra) b rank evs false, c.l < vs.size ∧ c.r < vs.size)
    (doSolve : Bool) (s' : SSt) (pos : Array Rat) (ret : Bool)
    (hrun : (if doSolve then (SSt.init vs (toVpsc (generateXConstraints rs (bx + extra) b rank evs false))).solve
             else (SSt.init vs (toVpsc (generateXConstraints rs (bx + extra) b rank evs false))).satisfy) = (s', .ok pos ret))
    (i j : Nat) (hi : i < rs.size) (hj : j < rs.size) (hij : i ≠ j)
    (hmeet : ScanMeet (xAxis rs (bx + extra) b) i j) :
    s'.st.uval i + ((rectAt rs i).width bx + (rectAt rs j).width bx) / 2 ≤ s'.st.uval j ∨
    s'.st.uval j + ((rectAt rs i).width bx + (rectAt rs j).width bx) / 2 ≤ s'.st.uval i := by
  have hh : ∀ k, (rectAt rs k).width (bx + extra) = (rectAt rs k).width bx + 2 * extra := by
    intro k
    simp only [Rect.width, Rect.getMaxX, Rect.getMinX]
    ring
  rcases static_removeoverlaps_x_separates rs (bx + extra) b rank inj evs hv hgood vs hrange doSolve s' pos ret
    hrun i j hi hj hij hmeet with h | h
  · left; rw [hh i, hh j] at h; linarith
  · right; rw [hh i, hh j] at h; linarith

/-- **static_removeoverlaps_y_satisfy**: for `satisfy()` the condition "returns normally" has exactly one
    alternative: on the vertical-pass constraints the static solver's `satisfy()` either throws
    `UnsatisfiedConstraint` from its exit scan, or it returns and every pair of rectangles that meets in x
    is separated (up to `n·1e-10`) — it never runs out of the model's fuel. -/
theorem static_removeoverlaps_y_satisfy (rs : Array Rect) (bx b : Rat) (rank : Nat → Nat)
    (inj : RankInjective rank) (evs : List Ev) (hv : ValidOrder (yAxis rs bx b) rs.size evs)
    (hgood : GoodAxis (yAxis rs bx b) rs.size) (vs : Array (Rat × Rat × Rat))
    (hrange : ∀ c ∈ generateYConstraints rs bx b rank evs, c.l < vs.size ∧ c.r < vs.size) :
    (∃ s, (SSt.init vs (toVpsc (generateYConstraints rs bx b rank evs))).satisfy = (s, .threw)) ∨
    (∃ s' pos ret, (SSt.init vs (toVpsc (generateYConstraints rs bx b rank evs))).satisfy = (s', .ok pos ret) ∧
      ∀ i j, i < rs.size → j < rs.size → i ≠ j → ScanMeet (yAxis rs bx b) i j →
        s'.st.uval i + ((rectAt rs i).height b + (rectAt rs j).height b) / 2 - (vs.size : Rat) / 10000000000
            ≤ s'.st.uval j ∨
        s'.st.uval j + ((rectAt rs i).height b + (rectAt rs j).height b) / 2 - (vs.size : Rat) / 10000000000
            ≤ s'.st.uval i) := by
  rcases AdaptaVerif.Props.C01Static.static_satisfy_total vs (toVpsc (generateYConstraints rs bx b rank evs))
    (toVpsc_wf _ vs.size hrange) with ⟨s', pos, ret, h⟩ | h
  · right
    refine ⟨s', pos, ret, h, fun i j hi hj hij hmeet => ?_⟩
    exact static_removeoverlaps_y_separates rs bx b rank inj evs hv hgood vs hrange false s' pos ret
      (by simpa using h) i j hi hj hij hmeet
  · exact Or.inl h

/-- **static_removeoverlaps_y_solve**: the same dichotomy for `solve()`, which is what `removeoverlaps` calls:
    on the vertical-pass constraints the static solver's `solve()` either throws `UnsatisfiedConstraint` (from
    the exit scan of `satisfy` or of `refine`) or returns, and then every pair of rectangles that meets in x
    is separated vertically (up to `n·1e-10`) — it never runs out of the model's fuel
    (`static_solve_total`). -/
theorem static_removeoverlaps_y_solve (rs : Array Rect) (bx b : Rat) (rank : Nat → Nat)
    (inj : RankInjective rank) (evs : List Ev) (hv : ValidOrder (yAxis rs bx b) rs.size evs)
    (hgood : GoodAxis (yAxis rs bx b) rs.size) (vs : Array (Rat × Rat × Rat))
    (hrange : ∀ c ∈ generateYConstraints rs bx b rank evs, c.l < vs.size ∧ c.r < vs.size) :
    (∃ s, (SSt.init vs (toVpsc (generateYConstraints rs bx b rank evs))).solve = (s, .threw)) ∨
    (∃ s' pos ret, (SSt.init vs (toVpsc (generateYConstraints rs bx b rank evs))).solve = (s', .ok pos ret) ∧
      ∀ i j, i < rs.size → j < rs.size → i ≠ j → ScanMeet (yAxis rs bx b) i j →
        s'.st.uval i + ((rectAt rs i).height b + (rectAt rs j).height b) / 2 - (vs.size : Rat) / 10000000000
            ≤ s'.st.uval j ∨
        s'.st.uval j + ((rectAt rs i).height b + (rectAt rs j).height b) / 2 - (vs.size : Rat) / 10000000000
            ≤ s'.st.uval i) := by
  rcases AdaptaVerif.Props.C01Static.static_solve_total vs (toVpsc (generateYConstraints rs bx b rank evs))
    (toVpsc_wf _ vs.size hrange) with ⟨s', pos, ret, h⟩ | h
  · right
    refine ⟨s', pos, ret, h, fun i j hi hj hij hmeet => ?_⟩
    exact static_removeoverlaps_y_separates rs bx b rank inj evs hv hgood vs hrange true s' pos ret
      (by simpa using h) i j hi hj hij hmeet
  · exact Or.inl h

/-- the same for the horizontal pass -/
theorem static_removeoverlaps_x_solve (rs : Array Rect) (bx b : Rat) (rank : Nat → Nat)
    (inj : RankInjective rank) (evs : List Ev) (hv : ValidOrder (xAxis rs bx b) rs.size evs)
    (hgood : GoodAxis (xAxis rs bx b) rs.size) (vs : Array (Rat × Rat × Rat))
    (hrange : ∀ c ∈ generateXConstraints rs bx b rank evs false, c.l < vs.size ∧ c.r < vs.size) :
    (∃ s, (SSt.init vs (toVpsc (generateXConstraints rs bx b rank evs false))).solve = (s, .threw)) ∨
    (∃ s' pos ret, (SSt.init vs (toVpsc (generateXConstraints rs bx b rank evs false))).solve = (s', .ok pos ret) ∧
      ∀ i j, i < rs.size → j < rs.size → i ≠ j → ScanMeet (xAxis rs bx b) i j →
        s'.st.uval i + ((rectAt rs i).width bx + (rectAt rs j).width bx) / 2 - (vs.size : Rat) / 10000000000
            ≤ s'.st.uval j ∨
        s'.st.uval j + ((rectAt rs i).width bx + (rectAt rs j).width bx) / 2 - (vs.size : Rat) / 10000000000
            ≤ s'.st.uval i) := by
  rcases AdaptaVerif.Props.C01Static.static_solve_total vs (toVpsc (generateXConstraints rs bx b rank evs false))
    (toVpsc_wf _ vs.size hrange) with ⟨s', pos, ret, h⟩ | h
  · right
    refine ⟨s', pos, ret, h, fun i j hi hj hij hmeet => ?_⟩
    exact static_removeoverlaps_x_separates rs bx b rank inj evs hv hgood vs hrange true s' pos ret
      (by simpa using h) i j hi hj hij hmeet
  · exact Or.inl h

-- non-vacuity: the two overlapping squares of `Lemmas/ScanlineExample`, one vertical pass
open AdaptaVerif.Lemmas.Scanline.Example in
#guard (match (SSt.init #[(1, 1, 1), (2, 1, 1)] (toVpsc (generateYConstraints exRs 0 0 id exEvs))).solve with
        | (s, .ok p _) => p[0]! == 1/2 && p[1]! == 5/2 && s.st.uval 1 - s.st.uval 0 == 2 | _ => false)

end AdaptaVerif.Props.C09Static
