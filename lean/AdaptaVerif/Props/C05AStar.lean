/-
C05 — the A* search of libavoid (`AStarPathPrivate::search`, makepath.cpp) inside the model.

`Model/AStar.lean` is the search as coded (part 1: the loop on an abstract state graph whose states are
(vertex, previous vertex); part 2: the orthogonal router's instance on a dumped visibility graph).
The correspondence of driver mode c05 runs that model on libavoid's own graph for every routed scene
and requires the C++ `route()` to be vertex-for-vertex the model's route.

Theorems here, for ALL problems (all finite graphs, all step costs — also negative ones —, all fuel):
soundness of the loop, termination, the route read back through `pathNext`, optimality under consistency
(closed list, no re-opening) with the as-coded zero-cost last hop accounted for as a `bonus`, the soundness
of the per-graph consistency check, and a witness that consistency is necessary.  About the orthogonal
instance: `cost()` is length + penalty × bends; libavoid's estimator is consistent with it except on two
kinds of hops (witnesses); the turn pruning loses the optimum (witnesses on dumped graphs).  Last, the tie
of the regenerated comparator and turn-order kernels.
-/
import AdaptaVerif.Lemmas.AStarGraph
import AdaptaVerif.Lemmas.AStarWitnessRun
import AdaptaVerif.Lemmas.AStarBridge
import AdaptaVerif.Lemmas.AStarEstimate
import AdaptaVerif.Lemmas.AStarRoute
import AdaptaVerif.Lemmas.AStarTotal
namespace AdaptaVerif.Props.C05AStar
open AdaptaVerif.Model.AStar AdaptaVerif.Lemmas.AStarSpec
open AdaptaVerif.Lemmas.AStarOpt (bonusOf)
open AdaptaVerif.Model.Geometry (Pt)

/-- **Soundness.** Whatever the problem and the fuel: if the search returns node `b`, then `b` sits at
    the target vertex, it is the last DONE entry, and its `prevNode` chain is a path of the state graph
    from the source to it whose accumulated step cost is exactly the returned `g`. -/
theorem search_sound (P : Problem) (fuel : Nat) (b : Node) (done : List Node)
    (h : search P fuel (init P) = .found b done) :
    b.v = P.tar ∧ done.getLast? = some b ∧ Reach P b.v b.pv b.g (pathOf done done.length b) :=
  Lemmas.AStarSound.search_sound P fuel b done h

example : (search Lemmas.AStarWitness.closedList 10 (init Lemmas.AStarWitness.closedList)).chain = [0, 1, 3, 4] := by
  decide +kernel

/-- **Termination / the fuel is no restriction.**  PENDING ∪ DONE hold every key (vertex, previous vertex)
    at most once and every iteration moves one key to DONE for good; so for any finite universe `K` of
    states closed under the successor relation, fuel > |K| is never exhausted: the search ends with
    `found` or `noPath` (so `search_sound` / `search_optimal` are not vacuous for lack of fuel). -/
theorem search_total (P : Problem) (K : List (Option Nat × Nat))
    (hK0 : (none, P.src) ∈ K)
    (hKs : ∀ pv v s, (pv, v) ∈ K → some s ∈ P.succs pv v → (some v, s.w) ∈ K)
    (fuel : Nat) (hf : K.length < fuel) :
    search P fuel (init P) ≠ .outOfFuel :=
  Lemmas.AStarTotal.search_total P K hK0 hKs fuel hf

/-- … in particular the orthogonal router's search on ANY dumped graph, with the fuel the driver gives it
    (number of directed edges + 2), never runs out of fuel. -/
theorem graph_run_total (g : Graph) : g.run ≠ .outOfFuel :=
  Lemmas.AStarTotal.graph_run_total g

/-- **What libavoid reads back is the loop-erased chain.**  `search` stores its result in ONE `pathNext`
    pointer per vertex, so when the returned node chain visits a vertex twice (DONE is keyed on (vertex,
    previous vertex); harness case `c05 --seed 1 --tier quick --mode dirs2 --only 2378` does) the route is
    not the chain.  For every chain (target first): the route read back starts at the target, ends at the
    source, visits no vertex twice, contains only vertices of the chain, and each of its hops is a hop of
    the chain (hence an edge the search walked). -/
theorem route_is_loop_erased_chain (chain : List Nat) :
    (∀ x ∈ routeOfChain chain.length chain, x ∈ chain) ∧
    (routeOfChain chain.length chain).Nodup ∧
    (routeOfChain chain.length chain).head? = chain.head? ∧
    (routeOfChain chain.length chain).getLast? = chain.getLast? ∧
    (∀ a b, Lemmas.AStarRoute.Hop a b (routeOfChain chain.length chain) → Lemmas.AStarRoute.Hop a b chain) :=
  Lemmas.AStarRoute.route_props chain.length chain (Nat.le_refl _)

example : routeOfChain 6 [0, 3, 2, 1, 3, 9] = [0, 3, 9] := by decide

/-- The variant `searchSt` the driver uses to read PENDING's size and the time-stamp counter at the goal
    (compared with the optional library hook) is the same search: what it returns is what `search` finds. -/
theorem searchSt_is_search (P : Problem) (fuel : Nat) (st : St) (b : Node) (st' : St)
    (h : searchSt P fuel st = some (b, st')) : search P fuel st = .found b st'.done := by
  fun_induction searchSt P fuel st with
  | case1 | case2 => cases h
  | case3 fuel st b' rest hx bi hv =>
    obtain ⟨rfl, rfl⟩ := Prod.mk.inj (Option.some.inj h)
    unfold search; rw [hx]; exact if_pos hv
  | case4 fuel st b' rest hx bi st1 hv ih =>
    unfold search; rw [hx]; exact (if_neg hv).trans (ih h)

-- non-vacuity of `searchSt_is_search` (and, through the `found` it yields, of `search_sound`): `closedList`
example : ∃ b done, search Lemmas.AStarWitness.closedList 10 (init Lemmas.AStarWitness.closedList) = .found b done ∧
    b.v = 4 ∧ b.g = 6 := by
  have hs : (searchSt Lemmas.AStarWitness.closedList 10 (init Lemmas.AStarWitness.closedList)).isSome = true := by
    decide +kernel
  obtain ⟨⟨b, st'⟩, h⟩ := Option.isSome_iff_exists.mp hs
  have hf := searchSt_is_search _ _ _ b st' h
  have hc : (search Lemmas.AStarWitness.closedList 10 (init Lemmas.AStarWitness.closedList)).cost = some 6 := by
    decide +kernel
  rw [hf] at hc
  exact ⟨b, st'.done, hf, (search_sound _ _ b _ hf).1, Option.some.inj hc⟩

/-- **Optimality under consistency** (exact comparator, eps = 0).  `H` = the heuristic as a function
    of the state; `Legit` = any set of states closed under the successor relation that contains the
    start state (hypotheses are only needed there); `bonus v ≥ 0` = what the last hop out of `v` into
    the target is under-charged by (libavoid charges nothing for the hop from a cost target to the
    target, although its heuristic counts the hop's length).  If `H` is consistent on every edge into a
    non-target state, `H ≤ step + bonus` on the edges into the target, with equality wherever the
    bonus is non-zero, then the returned node minimises g + bonus over ALL source→target paths of the
    state graph that meet the target only at their end.  Step costs may be negative. -/
theorem search_optimal (P : Problem) (H : Nat → Option Nat → Rat) (bonus : Nat → Rat)
    (Legit : Option Nat → Nat → Prop)
    (heps : P.eps = 0) (hst : P.src ≠ P.tar)
    (hL0 : Legit none P.src)
    (hLs : ∀ pv v s, Legit pv v → some s ∈ P.succs pv v → Legit (some v) s.w)
    (hH0 : P.h0 = H P.src none)
    (hH : ∀ pv v s, Legit pv v → some s ∈ P.succs pv v → s.h = H s.w (some v))
    (hgoal : ∀ pv, H P.tar pv = 0)
    (hbonus : ∀ v, 0 ≤ bonus v)
    (hcons : ∀ pv v s, Legit pv v → some s ∈ P.succs pv v → s.w ≠ P.tar → H v pv ≤ s.c + H s.w (some v))
    (hcg : ∀ pv v s, Legit pv v → some s ∈ P.succs pv v → s.w = P.tar →
        H v pv ≤ s.c + bonus v ∧ (bonus v = 0 ∨ H v pv = s.c + bonus v))
    (fuel : Nat) (b : Node) (done : List Node)
    (h : search P fuel (init P) = .found b done) :
    ∀ u c path, Reach P P.tar (some u) c path → P.tar ∉ path.tail →
      b.g + bonusOf bonus b.pv ≤ c + bonus u :=
  Lemmas.AStarOpt.search_optimal P H bonus Legit heps hst hL0 hLs hH0 hH hgoal hbonus hcons hcg fuel b done h

/-- **Textbook form**: consistent heuristic, every hop charged — the returned g is the minimum. -/
theorem search_optimal_textbook (P : Problem) (H : Nat → Option Nat → Rat)
    (heps : P.eps = 0) (hst : P.src ≠ P.tar)
    (hH0 : P.h0 = H P.src none)
    (hH : ∀ pv v s, some s ∈ P.succs pv v → s.h = H s.w (some v))
    (hgoal : ∀ pv, H P.tar pv = 0)
    (hcons : ∀ pv v s, some s ∈ P.succs pv v → H v pv ≤ s.c + H s.w (some v))
    (fuel : Nat) (b : Node) (done : List Node)
    (h : search P fuel (init P) = .found b done) :
    ∀ u c path, Reach P P.tar (some u) c path → P.tar ∉ path.tail → b.g ≤ c :=
  Lemmas.AStarOpt.search_optimal_textbook P H heps hst hH0 hH hgoal hcons fuel b done h

/-- **Consistency is necessary** (the DONE list is never re-opened): on `closedList` the heuristic is
    admissible (0 everywhere except 3 = the exact remaining cost at A entered from B) but not
    consistent, and the search returns cost 6 although the path S→B→A→C→T costs 5. -/
theorem closed_list_needs_consistency :
    (search Lemmas.AStarWitness.closedList 10 (init Lemmas.AStarWitness.closedList)).cost = some 6 ∧
    Reach Lemmas.AStarWitness.closedList 4 (some 3) 5 [4, 3, 1, 2, 0] := by
  refine ⟨by decide +kernel, ?_⟩
  have h : Reach Lemmas.AStarWitness.closedList 4 (some 3) (0 + 1 + 1 + 1 + 2) [4, 3, 1, 2, 0] :=
    Reach.step ⟨4, 2, 0⟩ (Reach.step ⟨3, 1, 0⟩ (Reach.step ⟨1, 1, 3⟩ (Reach.step ⟨2, 1, 0⟩ Reach.start
      (by decide +kernel)) (by decide +kernel)) (by decide +kernel)) (by decide +kernel)
  exact (by decide +kernel : (0 : Rat) + 1 + 1 + 1 + 2 = 5) ▸ h

/-- **Soundness of the per-graph check** `Graph.consistent` (run by the driver on libavoid's dumped
    graphs): where it succeeds, the model search on that graph (exact comparator) returns a node that
    minimises g + (length of the uncharged last hop) over all source→target paths of the state graph
    the orthogonal router searches (skip rules and turn pruning as coded). -/
theorem graph_search_optimal (g : Graph) (hc : g.consistent = true) (heps : g.eps = 0)
    (fuel : Nat) (b : Node) (done : List Node)
    (h : search g.problem fuel (init g.problem) = .found b done) :
    ∀ u c path, Reach g.problem g.tar (some u) c path → g.tar ∉ path.tail →
      b.g + bonusOf g.bonus b.pv ≤ c + g.bonus u :=
  Lemmas.AStarGraph.graph_search_optimal g hc heps fuel b done h

example : Lemmas.AStarWitness.lineGraph.consistent = true ∧ Lemmas.AStarWitness.lineGraph.eps = 0 ∧
    (search Lemmas.AStarWitness.lineGraph.problem 5 (init Lemmas.AStarWitness.lineGraph.problem)).cost = some 1 := by
  decide +kernel

-- non-vacuity of `graph_search_optimal` (hence of `search_optimal`, which it instantiates): on `lineGraph` all
-- hypotheses hold jointly, the search is `found`, and every route costs at least the returned g + bonus
example : ∃ b done, search Lemmas.AStarWitness.lineGraph.problem 5 (init Lemmas.AStarWitness.lineGraph.problem) = .found b done ∧
    ∀ u c path, Reach Lemmas.AStarWitness.lineGraph.problem Lemmas.AStarWitness.lineGraph.tar (some u) c path →
      Lemmas.AStarWitness.lineGraph.tar ∉ path.tail →
      b.g + bonusOf Lemmas.AStarWitness.lineGraph.bonus b.pv ≤ c + Lemmas.AStarWitness.lineGraph.bonus u := by
  have hc : (search Lemmas.AStarWitness.lineGraph.problem 5 (init Lemmas.AStarWitness.lineGraph.problem)).cost = some 1 := by
    decide +kernel
  cases h : search Lemmas.AStarWitness.lineGraph.problem 5 (init Lemmas.AStarWitness.lineGraph.problem) with
  | found b done =>
    exact ⟨b, done, rfl, graph_search_optimal _ (by decide +kernel) (by decide +kernel) 5 b done h⟩
  | noPath => rw [h] at hc; cases hc
  | outOfFuel => rw [h] at hc; cases hc

/-- **The model's `cost()` is the measure the property speaks of**: for all rational points, a hop p2 → p3
    with a single heading taken after a hop p1 → p2 with a single heading costs its length plus
    segmentPenalty × (0 straight | 1 quarter turn | 2 doubling back) — `cost()`'s classification of
    `M_PI - angleBetween(p1,p2,p3)` (`bendClass`: cross and dot product of the two hop vectors; tied to the
    C++ by the direct `cost()` calls of class astar-kernels) is exactly the relation of the headings; the first
    hop of a route costs its length.  (reverseDirectionPenalty = 0, segmentPenalty > 0.) -/
theorem cost_is_length_plus_bends (g : Graph) (hpen : 0 < g.segPen) (hrev : g.revPen = 0) (dist : Rat)
    (p1 p2 p3 : Pt) (d1 d2 : AdaptaVerif.Spec.OrthPath.Dir)
    (h1 : AdaptaVerif.Model.Bends.orthogonalDirection p1 p2 = d1.mask)
    (h2 : AdaptaVerif.Model.Bends.orthogonalDirection p2 p3 = d2.mask) :
    costPts g dist (some p1) p2 p3 =
      dist + (if d2 = d1 then 0 else if d2 = d1.rev then 2 * g.segPen else g.segPen) ∧
    costPts g dist none p2 p3 = dist := by
  have hb := Lemmas.AStarCost.bendClass_headings p1 p2 p3 d1 d2 h1 h2
  unfold costPts
  simp only [hrev, ne_eq, not_true_eq_false, if_false, hpen, if_true, hb]
  refine ⟨?_, trivial⟩
  by_cases e1 : d2 = d1
  · rw [if_pos e1, if_pos e1]; simp
  · rw [if_neg e1, if_neg e1]
    by_cases e2 : d2 = d1.rev
    · rw [if_pos e2, if_pos e2]; rfl
    · rw [if_neg e2, if_neg e2]; rfl

-- non-vacuity of `cost_is_length_plus_bends`: hop (0,0) → (1,0) heading E, then (1,0) → (1,2) heading S: one bend
example : costPts { (default : Graph) with segPen := 10 } 2 (some ⟨0, 0⟩) ⟨1, 0⟩ ⟨1, 2⟩ = 2 + 10 := by
  have := (cost_is_length_plus_bends { (default : Graph) with segPen := 10 } (by decide +kernel) rfl 2
    ⟨0, 0⟩ ⟨1, 0⟩ ⟨1, 2⟩ .E .S (by decide +kernel) (by decide +kernel)).1
  rw [this]; decide +kernel

/-- **libavoid's estimator is not consistent with `cost()`, kind 1: the edge into a cost target.**
    Penalty 10, cost target (0,0) to be entered heading East (`costTarDirs = 2`).  At (0,1), heading
    North, the estimate is 1 + 1 bend = 11; one straight step of cost 1 further, at the cost target
    itself, it is 0 (`dist == 0` leaves `bendCount = 0` whatever the heading): 11 > 1 + 0. -/
theorem estimator_inconsistent_into_cost_target :
    AdaptaVerif.Model.Bends.estimatedCostSpecific (some ⟨0, 2⟩) ⟨0, 1⟩ ⟨0, 0⟩ 2 10 = some 11 ∧
    AdaptaVerif.Model.Bends.estimatedCostSpecific (some ⟨0, 1⟩) ⟨0, 0⟩ ⟨0, 0⟩ 2 10 = some 0 ∧
    costPts { (default : Graph) with segPen := 10 } 1 (some ⟨0, 2⟩) ⟨0, 1⟩ ⟨0, 0⟩ = 1 := by
  decide +kernel

/-- **kind 2: doubling back.**  `cost()` charges 2 penalties for reversing on the spot, `bends()` needs
    4 bends for the U-turn: at (1,0) heading East with the cost target (-5,0) to be entered heading
    West the estimate is 6 + 4·10 = 46; the reversing step to (-1,0) costs 2 + 2·10 = 22 and leaves an
    estimate of 4: 46 > 22 + 4. -/
theorem estimator_inconsistent_doubling_back :
    AdaptaVerif.Model.Bends.estimatedCostSpecific (some ⟨0, 0⟩) ⟨1, 0⟩ ⟨-5, 0⟩ 8 10 = some 46 ∧
    AdaptaVerif.Model.Bends.estimatedCostSpecific (some ⟨1, 0⟩) ⟨-1, 0⟩ ⟨-5, 0⟩ 8 10 = some 4 ∧
    costPts { (default : Graph) with segPen := 10 } 2 (some ⟨0, 0⟩) ⟨1, 0⟩ ⟨-1, 0⟩ = 22 := by
  decide +kernel

/-- **The turn-pruning rule as coded loses the optimum — unrestricted target** (known finding
    C05-dirs-src-pruning, harness case `c05 --seed 4 --tier thorough --mode dirs2 --only 10213`: source
    (22,4) restricted, target (23.5,27) visible in all four directions).  On libavoid's own graph of that
    scene the model search — which the correspondence shows to be vertex-for-vertex the C++ route —
    returns a route of full cost (every hop's length + bend penalties) 61.5, although the graph contains
    the path `p` of full cost 60.5; `p` makes a turn the rule skips, and it is what the same search
    returns once the rule is switched off. -/
theorem pruning_loses_optimum_unrestricted_target :
    let g := Lemmas.AStarWitness.lossyGraph
    let p := [1, 148, 6, 124, 125, 136, 126, 127, 137, 128, 134, 129, 130, 143, 0]
    g.run.chain = [1, 148, 168, 158, 11, 15, 159, 160, 167, 161, 165, 162, 163, 0] ∧
    fullCost g none g.run.chain = 123 / 2 ∧
    isGraphPath g p = true ∧ p.head? = some g.src ∧ p.getLast? = some g.tar ∧
    fullCost g none p = 121 / 2 ∧ usesPrunedTurn g none p = true ∧
    ({ g with prune := false }).run.chain = p := by
  intro g p
  have h1 : g.run.chain = [1, 148, 168, 158, 11, 15, 159, 160, 167, 161, 165, 162, 163, 0] :=
    Lemmas.AStarWitnessRun.lossy_pruned_chain
  refine ⟨h1, ?_, by decide +kernel, by decide +kernel, by decide +kernel, by decide +kernel, by decide +kernel,
    Lemmas.AStarWitnessRun.lossy_unpruned_chain⟩
  rw [h1]; decide +kernel

/-- **… and with a direction-restricted target** (known finding C05-dirs-dst-search, harness case
    `c05 --seed 1 --tier quick --mode dirs2 --only 2401`) even in the search's own cost: with the rule the
    search returns g = 612, the path 1→26→13→32→33→0 of the un-pruned state graph costs 412, both
    entering the target from the same cost target (same uncharged last hop). -/
theorem pruning_loses_optimum_restricted_target :
    let g := Lemmas.AStarWitness.dstGraph
    g.run.cost = some 612 ∧ g.run.chain = [1, 26, 13, 14, 33, 0] ∧
    ({ g with prune := false }).run.cost = some 412 ∧
    ({ g with prune := false }).run.chain = [1, 26, 13, 32, 33, 0] ∧
    isGraphPath g [1, 26, 13, 32, 33, 0] = true ∧ usesPrunedTurn g none [1, 26, 13, 32, 33, 0] = true := by
  decide +kernel

/-- **The real search does not minimise its own cost, on a real graph** (the scene of
    `pruning_loses_optimum_unrestricted_target`, turn pruning switched off so that only the estimator is at work):
    the search returns g = 59 through cost target 143, while the state graph contains the path
    1→148→168→…→163→0 (the route the pruned search returns) of g = 50 through cost target 163; both last
    hops have the same uncharged length 3/2.  The estimator
    over-estimates the search's own cost along that path by one penalty until it reaches its cost target (the
    bend there is counted by `bends()` but never charged by `search`), so the dearer node is popped
    first, and DONE is never re-opened.  (In full cost, last hop and last bend included, the returned
    route is the better one: 60.5 against 61.5 — the g-value is not the quantity the property speaks of.) -/
theorem search_not_optimal_for_own_cost_on_real_graph :
    let g := { Lemmas.AStarWitness.lossyGraph with prune := false }
    (g.run.cost, g.run.chain.reverse.take 2) = (some 59, [g.tar, 143]) ∧
    g.bonus 143 = 3 / 2 ∧ g.bonus 163 = 3 / 2 ∧
    ∃ path, Reach g.problem g.tar (some 163) 50 path ∧ g.tar ∉ path.tail := by
  intro g
  refine ⟨?_, by decide +kernel, by decide +kernel, Lemmas.AStarWitnessRun.lossy_pruned_route_unpruned⟩
  show (g.run.cost, g.run.chain.reverse.take 2) = (some 59, [g.tar, 143])
  rw [Lemmas.AStarWitnessRun.lossy_unpruned_cost, Lemmas.AStarWitnessRun.lossy_unpruned_chain]
  decide

/-- **Where the estimator IS consistent with `cost()`**: on every hop curr → next with a single heading
    `nd` (axis-parallel, positive length), taken after arriving at `curr` with heading `cd`, that does not
    double back and does not end at the cost target, the estimate at `curr` is at most hop length +
    bend penalty of the hop + the estimate at `next` — for all rational points, all direction sets of
    the cost target, all positive penalties.  Together with the two witnesses above this is the exact
    picture: the estimator (admissible w.r.t. geometric approach paths, `Props.C05.estimate_le`) is
    consistent with the search's own step cost except on edges into a cost target and on U-turns. -/
theorem estimator_consistent_off_cost_target (last curr next tar : Pt)
    (cd nd : AdaptaVerif.Spec.OrthPath.Dir) (dirs : Nat) (pen : Rat) (hpen : 0 < pen)
    (hcd : AdaptaVerif.Model.Bends.orthogonalDirection last curr = cd.mask)
    (hnd : AdaptaVerif.Model.Bends.orthogonalDirection curr next = nd.mask)
    (hnr : nd ≠ cd.rev) (hnt : next ≠ tar) :
    ∃ e1 e2, AdaptaVerif.Model.Bends.estimatedCostSpecific (some last) curr tar dirs pen = some e1 ∧
      AdaptaVerif.Model.Bends.estimatedCostSpecific (some curr) next tar dirs pen = some e2 ∧
      e1 ≤ AdaptaVerif.Model.Bends.manhattanDist curr next + (if nd = cd then 0 else pen) + e2 :=
  Lemmas.AStarEstimate.estimate_consistent last curr next tar cd nd dirs pen hpen hcd hnd hnr hnt

example : AdaptaVerif.Model.Bends.orthogonalDirection ⟨0, 0⟩ ⟨1, 0⟩ = AdaptaVerif.Spec.OrthPath.Dir.E.mask ∧
    AdaptaVerif.Model.Bends.orthogonalDirection ⟨1, 0⟩ ⟨1, 2⟩ = AdaptaVerif.Spec.OrthPath.Dir.S.mask ∧
    AdaptaVerif.Spec.OrthPath.Dir.S ≠ AdaptaVerif.Spec.OrthPath.Dir.E.rev ∧ (⟨1, 2⟩ : Pt) ≠ ⟨3, 4⟩ := by
  decide +kernel

/-- The same for the heuristic the search actually uses, `AStarPathPrivate::estimatedCost` = minimum over
    ALL cost targets of (`estimatedCostSpecific` + displacement), on every graph and every hop with a
    single heading that neither doubles back nor ends at the point of a cost target.  (The driver
    evaluates the remaining cases on libavoid's real graphs: `astar.estimator-consistent-off-known-kinds`.) -/
theorem heuristic_consistent_off_cost_targets (g : Graph) (hpen : 0 < g.segPen) (last curr next : Pt)
    (cd nd : AdaptaVerif.Spec.OrthPath.Dir)
    (hcd : AdaptaVerif.Model.Bends.orthogonalDirection last curr = cd.mask)
    (hnd : AdaptaVerif.Model.Bends.orthogonalDirection curr next = nd.mask)
    (hnr : nd ≠ cd.rev) (hnt : ∀ ct ∈ costTargets g, next ≠ g.pt ct.1) :
    ∃ e1 e2, estimatedCost g (some last) curr = some e1 ∧ estimatedCost g (some curr) next = some e2 ∧
      e1 ≤ AdaptaVerif.Model.Bends.manhattanDist curr next + (if nd = cd then 0 else g.segPen) + e2 := by
  -- per cost target by the estimator's consistency; the minimum over all of them inherits the inequality
  refine Lemmas.AStarEstimate.estimatedCost_le g
    (AdaptaVerif.Model.Bends.manhattanDist curr next + (if nd = cd then 0 else g.segPen)) (some last) (some curr) curr next
    fun ct hct => ?_
  obtain ⟨e1, e2, h1, h2, hle⟩ := Lemmas.AStarEstimate.estimate_consistent last curr next (g.pt ct.1) cd nd ct.2.1
    g.segPen hpen hcd hnd hnr (hnt ct hct)
  exact ⟨e1 + ct.2.2, e2 + ct.2.2, by rw [h1]; rfl, by rw [h2]; rfl, by linarith⟩

-- non-vacuity of `heuristic_consistent_off_cost_targets` on a graph WITH a cost target (`lineGraph`: target (2,0),
-- cost target (1,0)): the hop (-1,0) → (-1,3) heading S taken after (-2,0) → (-1,0) heading E
example : ∃ e1 e2, estimatedCost Lemmas.AStarWitness.lineGraph (some ⟨-2, 0⟩) ⟨-1, 0⟩ = some e1 ∧
    estimatedCost Lemmas.AStarWitness.lineGraph (some ⟨-1, 0⟩) ⟨-1, 3⟩ = some e2 ∧
    e1 ≤ AdaptaVerif.Model.Bends.manhattanDist ⟨-1, 0⟩ ⟨-1, 3⟩ +
      (if AdaptaVerif.Spec.OrthPath.Dir.S = AdaptaVerif.Spec.OrthPath.Dir.E then 0
        else Lemmas.AStarWitness.lineGraph.segPen) + e2 :=
  heuristic_consistent_off_cost_targets Lemmas.AStarWitness.lineGraph (by decide +kernel)
    ⟨-2, 0⟩ ⟨-1, 0⟩ ⟨-1, 3⟩ .E .S (by decide +kernel) (by decide +kernel) (by decide) (by decide +kernel)

/-- `ANodeCmp::operator()` as generated from makepath.cpp (job `astar`) is the model's `worse` with the
    threshold the compiler makes of the literal 0.0000001 (`epsDouble`, read from the AST — the value
    `Graph.eps` defaults to), on the (f, timeStamp) keys of the model's nodes; it contains no assertion. -/
theorem gen_aNodeCmp_is_model (a b : Node) :
    AdaptaVerif.Gen.AStarK.aNodeCmp (Lemmas.AStarBridge.key a) (Lemmas.AStarBridge.key b) = worse epsDouble a b ∧
    AdaptaVerif.Gen.AStarK.aNodeCmp_pre (Lemmas.AStarBridge.key a) (Lemmas.AStarBridge.key b) = true :=
  ⟨Lemmas.AStarBridge.aNodeCmp_eq a b, Lemmas.AStarBridge.aNodeCmp_pre _ _⟩

/-- `orthogTurnOrder` (graph.cpp), the key by which `CmpVisEdgeRotation` sorts a vertex's edges before
    they are examined (behind 0, left 1, right 2, ahead 3, not orthogonal 4), and `Dot` / `CrossLength`
    of `cost()`'s bend classification, as generated, are the model's; the assertion inside `vecDir`
    (`maybeZero >= 0`) holds. -/
theorem gen_turnOrder_dot_cross_are_model :
    (∀ a b c : Pt, AdaptaVerif.Gen.AStarK.orthogTurnOrder a b c = (orthogTurnOrder a b c : Int) ∧
        AdaptaVerif.Gen.AStarK.orthogTurnOrder_pre a b c = true) ∧
    (∀ l r : Pt, AdaptaVerif.Gen.AStarK.Dot l r = dot l r) ∧
    (∀ l r : Pt, AdaptaVerif.Gen.AStarK.CrossLength l r = crossLength l r) :=
  ⟨fun a b c => ⟨Lemmas.AStarBridge.orthogTurnOrder_eq a b c, Lemmas.AStarBridge.orthogTurnOrder_pre a b c⟩,
   Lemmas.AStarBridge.dot_eq, Lemmas.AStarBridge.crossLength_eq⟩

end AdaptaVerif.Props.C05AStar
