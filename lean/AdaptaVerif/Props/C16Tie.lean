/-
C16 — tie theorems for the two geometry kernels generated into Gen/GeometryK2.lean:
`inPolyGen` (a local copy of the polygon is translated by the query point through element assignment
`P[i].x = P[i].x - q.x` behind a reference, then an indexed loop with early `return true` counts ray
crossings) and `segmentShapeIntersect` (in/out `bool& seenIntersectionAtEndpoint`).  As GENERATED from
/repo's cola/libavoid/geometry.cpp on every run they are the hand models of Model/Geometry.lean (the
models the exhaustive grid correspondence and Model/Visibility.lean use), and none of their obligations
(vector bounds, unsigned wrap-around in `(i + n - 1) % n`, callee assertions) can fail.
-/
import AdaptaVerif.Lemmas.InPolyGenBridge
namespace AdaptaVerif.Props.C16Tie
open AdaptaVerif.Model.Geometry AdaptaVerif.Lemmas.InPolyGenBridge

/-- for every polygon (any size, also empty) and query point: the generated loops are the list model
    (`any` vertex at the origin, else parities of `countP` over the cyclic edge list of the shifted polygon) -/
theorem gen_inPolyGen_is_model (poly : List Pt) (q : Pt) :
    AdaptaVerif.Gen.GeometryK2.inPolyGen poly q = inPolyGen poly q ∧
    AdaptaVerif.Gen.GeometryK2.inPolyGen_pre poly q = true :=
  ⟨inPolyGen_eq poly q, inPolyGen_pre_true poly q⟩

/-- `segmentShapeIntersect`: result and new value of the flag -/
theorem gen_segmentShapeIntersect_is_model (e1 e2 s1 s2 : Pt) (seen : Bool) :
    AdaptaVerif.Gen.GeometryK2.segmentShapeIntersect e1 e2 s1 s2 seen = segmentShapeIntersect e1 e2 s1 s2 seen ∧
    AdaptaVerif.Gen.GeometryK2.segmentShapeIntersect_pre e1 e2 s1 s2 seen = true :=
  ⟨segmentShapeIntersect_eq e1 e2 s1 s2 seen, segmentShapeIntersect_pre_true e1 e2 s1 s2 seen⟩

/-- the first loop of `inPolyGen` alone: the element-wise in-place update through the reference `P` is `map` -/
theorem gen_inPolyGen_shift_is_map (poly : List Pt) (q : Pt) :
    AdaptaVerif.Gen.forRange (AdaptaVerif.Gen.GeometryK2.inPolyGen_body1 q) (poly.length - 0) 0 poly =
      poly.map (fun p => ⟨p.x - q.x, p.y - q.y⟩) :=
  shift_loop q poly

end AdaptaVerif.Props.C16Tie
