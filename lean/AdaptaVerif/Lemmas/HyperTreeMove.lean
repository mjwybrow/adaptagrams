/-
The junction-move rewrite of the hyperedge improver (`moveJunctionAlongCommonEdge` and its loops in
`Model/HyperTree`): what one iteration of each loop does (`scanOthers_cons`, `mergeCommon_cons_spec`,
`moveLoop_cons`, `moveJunctionStep_eq`), and from that: the heap stays a well-formed tree
(`Lemmas/HyperTree.Tree`), the junction bookkeeping stays consistent, junctions are conserved.
-/
import AdaptaVerif.Lemmas.HyperTreeJPairs
namespace AdaptaVerif.Lemmas.HyperTreeMove
open AdaptaVerif.Model.HyperTree AdaptaVerif.Check.Tree AdaptaVerif.Spec.Tree
open AdaptaVerif.Lemmas.HyperTreeGraph AdaptaVerif.Lemmas.HyperTree AdaptaVerif.Lemmas.Tree
open AdaptaVerif.Model.Geometry (Pt pointOnLine)

section split
variable {t : HTree} {ed : HEdge} {source target : Nat} {p : AdaptaVerif.Model.Geometry.Pt}

theorem splitResult_node_mem {n : HNode} (hn : n ∈ t.nodes) (hne : n.id ≠ target) :
    n ∈ (splitResult t ed source target p).nodes :=
  mem_splitResult_nodes.mpr (Or.inl ⟨n, hn, (if_neg hne).symm⟩)

theorem splitResult_edge_mem {x : HEdge} (hx : x ∈ t.edges) (hne : x.id ≠ ed.id) :
    x ∈ (splitResult t ed source target p).edges :=
  mem_splitResult_edges.mpr (Or.inl ⟨x, hx, (if_neg hne).symm⟩)

theorem splitResult_kept {n : HNode} (hn : n ∈ t.nodes) :
    ∃ n' ∈ (splitResult t ed source target p).nodes, NodeKept n n' := by
  refine ⟨_, mem_splitResult_nodes.mpr (Or.inl ⟨n, hn, rfl⟩), ?_⟩
  split
  · exact ⟨rfl, rfl, rfl, rfl, rfl, rfl⟩
  · exact NodeKept.refl n

end split

def FarNone (t : HTree) (self i : Nat) : Prop :=
  ∃ x ∈ t.edges, x.id = i ∧ ∃ o, x.followFrom self = some o ∧ ∃ on ∈ t.nodes, on.id = o ∧ on.junction = none

/-- what a later state of the scan keeps from an earlier one; `S` = ids of the edges that may have
    been split in between -/
structure HeapLe (curr : Nat) (S : List Nat) (t t' : HTree) : Prop where
  keepE : ∀ x ∈ t.edges, (x.id = curr ∨ x.id ∉ S) → x ∈ t'.edges
  graphV : ∀ v ∈ t.graphV, v ∈ t'.graphV
  kept : ∀ n ∈ t.nodes, ∃ n' ∈ t'.nodes, NodeKept n n'
  jsame : JSame t t'

theorem HeapLe.refl (curr : Nat) (S : List Nat) (t : HTree) : HeapLe curr S t t :=
  ⟨fun _ hx _ => hx, fun _ hv => hv, fun n hn => ⟨n, hn, NodeKept.refl n⟩, JSame.refl t⟩

theorem HeapLe.cons {curr e2 : Nat} {rest : List Nat} {a b c : HTree} (h1 : HeapLe curr [e2] a b)
    (h2 : HeapLe curr rest b c) : HeapLe curr (e2 :: rest) a c := by
  refine ⟨?_, fun v hv => h2.graphV v (h1.graphV v hv), ?_, h1.jsame.trans h2.jsame⟩
  · intro x hx hor
    refine h2.keepE x (h1.keepE x hx ?_) ?_
    · exact hor.imp_right (fun hh hm => hh (by simp at hm; simp [hm]))
    · exact hor.imp_right (fun hh hm => hh (List.mem_cons_of_mem _ hm))
  · intro n hn
    obtain ⟨n1, hn1, k1⟩ := h1.kept n hn
    obtain ⟨n2, hn2, k2⟩ := h2.kept n1 hn1
    exact ⟨n2, hn2, k1.trans k2⟩

theorem HeapLe.farNone {curr : Nat} {S : List Nat} {t t' : HTree} (h : HeapLe curr S t t')
    {self i : Nat} (hi : i ∉ S) (hf : FarNone t self i) : FarNone t' self i := by
  obtain ⟨x, hx, hxi, o, hfol, on, hon, honid, hj⟩ := hf
  obtain ⟨on', hon', k⟩ := h.kept on hon
  exact ⟨x, h.keepE x hx (Or.inr (hxi ▸ hi)), hxi, o, hfol, on', hon', k.id.trans honid,
    k.junction.trans hj⟩

theorem splitResult_jsame {t : HTree} {ed : HEdge} {source target : Nat} {p : Pt} :
    JSame t (splitResult t ed source target p) := by
  intro j i
  constructor
  · rintro ⟨n, hn, hid, hj⟩
    obtain ⟨n', hn', k⟩ := splitResult_kept (ed := ed) (source := source) (target := target) (p := p) hn
    exact ⟨n', hn', k.id.trans hid, k.junction.trans hj⟩
  · rintro ⟨n', hn', hid, hj⟩
    rcases mem_splitResult_nodes.mp hn' with ⟨n, hn, rfl⟩ | rfl
    · refine ⟨n, hn, ?_, ?_⟩
      · rw [← hid]; split <;> rfl
      · rw [← hj]; split <;> rfl
    · simp [splitNode] at hj

theorem splitResult_heapLe {t : HTree} {ed : HEdge} {source target curr : Nat} {p : Pt}
    (hne : ed.id ≠ curr) : HeapLe curr [ed.id] t (splitResult t ed source target p) := by
  refine ⟨?_, ?_, fun n hn => splitResult_kept hn, splitResult_jsame⟩
  · intro x hx hor
    apply splitResult_edge_mem hx
    rcases hor with hh | hh
    · rw [hh]; exact Ne.symm hne
    · simpa using hh
  · intro v hv
    rw [splitResult_graphV]; exact List.mem_append_left _ hv

theorem splitResult_follow {t : HTree} {ed : HEdge} (hed : ed ∈ t.edges) (self target : Nat) (p : Pt) :
    ∃ x ∈ (splitResult t ed self target p).edges, x.id = ed.id ∧ x.followFrom self = some t.next :=
  ⟨{ ed with e1 := some self, e2 := some t.next },
    List.mem_append_left _ (List.mem_map.mpr ⟨ed, hed, by simp⟩), rfl, by simp [HEdge.followFrom]⟩

theorem splitResult_farNone {t : HTree} {ed : HEdge} (hed : ed ∈ t.edges) (self target : Nat) (p : Pt) :
    FarNone (splitResult t ed self target p) self ed.id := by
  obtain ⟨x, hx, hxi, hfo⟩ := splitResult_follow hed self target p
  exact ⟨x, hx, hxi, _, hfo, splitNode t ed.id p, by simp [splitResult], rfl, rfl⟩

/-- what `scanOthers` does with the head `e2` of its list: nothing (`e2` is `curr`), `e2` goes to `other`,
    or `e2` goes to `common` and the scan goes on in `t'` (the heap itself when the far end `on` sits at
    `currPt`, the heap after the split when `currPt` lies inside the segment) -/
inductive ScanStep (self : Nat) (selfPt currPt : Pt) (curr e2 : Nat) (rest : List Nat) (sc sc' : Scan) : Prop
  | skip : e2 = curr → scanOthers self selfPt currPt curr rest sc = some sc' →
      ScanStep self selfPt currPt curr e2 rest sc sc'
  | other : e2 ≠ curr →
      scanOthers self selfPt currPt curr rest { sc with other := sc.other ++ [e2] } = some sc' →
      ScanStep self selfPt currPt curr e2 rest sc sc'
  | common (oe : HEdge) (sn on : HNode) (t' : HTree) : e2 ≠ curr → oe ∈ sc.t.edges → oe.id = e2 →
      sn ∈ sc.t.nodes → sn.id = self → e2 ∈ sn.edges → oe.hasFixedRoute = false → on ∈ sc.t.nodes →
      oe.followFrom self = some on.id →
      (on.point = currPt ∧ on.junction = none ∧ t' = sc.t ∨
        pointOnLine selfPt on.point currPt = true ∧
          ∃ a b, splitFromNodeAtPoint sc.t e2 self currPt = some (t', a, b)) →
      scanOthers self selfPt currPt curr rest { sc with t := t', common := sc.common ++ [e2] } = some sc' →
      ScanStep self selfPt currPt curr e2 rest sc sc'

theorem scanOthers_cons {self curr e2 : Nat} {selfPt currPt : Pt} {rest : List Nat} {sc sc' : Scan}
    (h : scanOthers self selfPt currPt curr (e2 :: rest) sc = some sc') :
    ScanStep self selfPt currPt curr e2 rest sc sc' := by
  -- one discriminant at a time, rewritten into `h`: `split at h` runs `simp` over the whole remaining body at every level,
  -- which over the eleven discriminants here about doubles the checking time; on a short remainder (end of `moveLoop_cons`) it is fine
  rw [scanOthers] at h
  by_cases hc : e2 = curr
  · rw [if_pos hc] at h; exact .skip hc h
  rw [if_neg hc] at h
  cases hoe : sc.t.edge? e2 with
  | none => rw [hoe] at h; cases h
  | some oe =>
    cases hsn : sc.t.node? self with
    | none => rw [hoe, hsn] at h; cases h
    | some sn =>
      rw [hoe, hsn] at h
      dsimp only at h
      obtain ⟨hoem, hoeid⟩ := edge?_mem hoe
      obtain ⟨hsnm, hsnid⟩ := node?_mem hsn
      by_cases hin : e2 ∈ sn.edges
      · rw [if_neg (by simpa using hin)] at h
        cases hofx : oe.hasFixedRoute with
        | true => rw [hofx, if_pos rfl] at h; exact .other hc h
        | false =>
          rw [hofx, if_neg (by decide)] at h
          cases hfol : oe.followFrom self with
          | none => rw [hfol] at h; cases h
          | some onId =>
            rw [hfol] at h
            dsimp only at h
            cases hon : sc.t.node? onId with
            | none => rw [hon] at h; cases h
            | some on =>
              rw [hon] at h
              dsimp only at h
              obtain ⟨honm, rfl⟩ := node?_mem hon
              have common := fun t' => ScanStep.common (selfPt := selfPt) (currPt := currPt) (rest := rest)
                (sc' := sc') oe sn on t' hc hoem hoeid hsnm hsnid hin hofx honm hfol
              by_cases hpt : (on.point == currPt) = true
              · rw [if_pos hpt] at h
                by_cases hjs : on.junction.isSome = true
                · rw [if_pos hjs] at h; exact .other hc h
                · rw [if_neg hjs] at h
                  exact common sc.t (Or.inl ⟨pt_beq_iff.mp hpt, Option.not_isSome_iff_eq_none.mp hjs, rfl⟩) h
              · rw [if_neg hpt] at h
                by_cases hpl : pointOnLine selfPt on.point currPt = true
                · rw [if_pos hpl] at h
                  cases hsp : splitFromNodeAtPoint sc.t e2 self currPt with
                  | none => rw [hsp] at h; cases h
                  | some res =>
                    obtain ⟨t', a, b⟩ := res
                    rw [hsp] at h
                    exact common t' (Or.inr ⟨hpl, a, b, hsp⟩) h
                · rw [if_neg hpl] at h; exact .other hc h
      · rw [if_pos (by simpa using hin)] at h; cases h

/-- result of `scanOthers` over the list `l`, started in `sc` with self's record `sn` -/
structure ScanSpec (curr : Nat) (sn : HNode) (l : List Nat) (sc sc' : Scan) : Prop where
  tree : Tree sc'.t
  /-- self's record is untouched (same edge list, same fields) -/
  self_mem : sn ∈ sc'.t.nodes
  le : HeapLe curr l sc.t sc'.t
  parts : ∃ A B, sc'.common = sc.common ++ A ∧ sc'.other = sc.other ++ B ∧ A.Sublist l ∧
    curr ∉ A ∧ (∀ i ∈ l, i ≠ curr → i ∈ A ∨ i ∈ B) ∧ (∀ i ∈ A, FarNone sc'.t sn.id i) ∧
    A.length + B.length = (l.filter (· != curr)).length

theorem ScanSpec.step {curr : Nat} {sn : HNode} {rest : List Nat} {sc sc1 sc' : Scan} (e2 : Nat)
    (hle : HeapLe curr [e2] sc.t sc1.t)
    (hc : (e2 = curr ∧ sc1.common = sc.common ∧ sc1.other = sc.other) ∨
          (e2 ≠ curr ∧ sc1.common = sc.common ++ [e2] ∧ sc1.other = sc.other ∧
            e2 ∉ rest ∧ FarNone sc1.t sn.id e2) ∨
          (e2 ≠ curr ∧ sc1.common = sc.common ∧ sc1.other = sc.other ++ [e2]))
    (h : ScanSpec curr sn rest sc1 sc') : ScanSpec curr sn (e2 :: rest) sc sc' := by
  obtain ⟨A, B, hA, hB, sA, cA, cov, far, cnt⟩ := h.parts
  refine ⟨h.tree, h.self_mem, hle.cons h.le, ?_⟩
  rcases hc with ⟨he, h1, h2⟩ | ⟨he, h1, h2, hnr, hfar⟩ | ⟨he, h1, h2⟩
  · refine ⟨A, B, h1 ▸ hA, h2 ▸ hB, sA.cons _, cA, ?_, far, by simp [he, cnt]⟩
    intro i hi hic
    rcases List.mem_cons.mp hi with rfl | hi'
    · exact absurd he hic
    · exact cov i hi' hic
  · refine ⟨e2 :: A, B, by rw [hA, h1]; simp, h2 ▸ hB, sA.cons_cons _, ?_, ?_, ?_,
      by simp [he, ← cnt]; omega⟩
    · simp only [List.mem_cons, not_or]; exact ⟨fun hh => he hh.symm, cA⟩
    · intro i hi hic
      rcases List.mem_cons.mp hi with rfl | hi'
      · exact Or.inl List.mem_cons_self
      · exact (cov i hi' hic).imp_left (List.mem_cons_of_mem _)
    · intro i hi
      rcases List.mem_cons.mp hi with rfl | hi'
      · exact h.le.farNone hnr hfar
      · exact far i hi'
  · refine ⟨A, e2 :: B, h1 ▸ hA, by rw [hB, h2]; simp, sA.cons _, cA, ?_, far,
      by simp [he, ← cnt]; omega⟩
    · intro i hi hic
      rcases List.mem_cons.mp hi with rfl | hi'
      · exact Or.inr List.mem_cons_self
      · exact (cov i hi' hic).imp_right (List.mem_cons_of_mem _)

theorem scanOthers_spec {self curr : Nat} {selfPt currPt : Pt} {sn : HNode} (hid : sn.id = self) :
    ∀ (l : List Nat) (sc sc' : Scan), l.Nodup → Tree sc.t → sn ∈ sc.t.nodes →
      scanOthers self selfPt currPt curr l sc = some sc' → ScanSpec curr sn l sc sc' := by
  intro l
  induction l with
  | nil =>
    intro sc sc' _ ht hsn h
    simp only [scanOthers, Option.some.injEq] at h
    subst h
    exact ⟨ht, hsn, HeapLe.refl _ _ _, [], [], by simp, by simp, List.Sublist.refl _, by simp, by simp,
      by simp, rfl⟩
  | cons e2 rest ih =>
    intro sc sc' hnd ht hsn h
    have hnd' := List.nodup_cons.mp hnd
    rcases scanOthers_cons h with ⟨hc, h⟩ | ⟨hc, h⟩ |
      ⟨oe, sn1, on, t', hc, hoem, rfl, hsn1, hsn1id, hin, -, honm, hfol, hcase, h⟩
    · exact ScanSpec.step e2 (HeapLe.refl _ _ _) (Or.inl ⟨hc, rfl, rfl⟩) (ih sc sc' hnd'.2 ht hsn h)
    · exact ScanSpec.step (sc1 := { sc with other := sc.other ++ [e2] }) e2 (HeapLe.refl _ _ _)
        (Or.inr (Or.inr ⟨hc, rfl, rfl⟩)) (ih _ _ hnd'.2 ht hsn h)
    · obtain rfl : sn1 = sn := ht.1.node_eq hsn1 hsn (hsn1id.trans hid.symm)
      subst hid
      have hj : Joins oe sn1.id on.id := joins_of_followFrom ht.1 hsn hoem hin hfol
      have key : Tree t' ∧ sn1 ∈ t'.nodes ∧ HeapLe curr [oe.id] sc.t t' ∧ FarNone t' sn1.id oe.id := by
        rcases hcase with ⟨-, hjn, rfl⟩ | ⟨-, a, b, hsplit⟩
        · exact ⟨ht, hsn, HeapLe.refl _ _ _, oe, hoem, rfl, on.id, hfol, on, honm, rfl, hjn⟩
        · obtain ⟨rfl, ht', -⟩ := split_of_tree ht hoem hj hsplit
          exact ⟨ht', splitResult_node_mem hsn (ht.ne_of_joins hoem hj), splitResult_heapLe hc,
            splitResult_farNone hoem _ _ _⟩
      exact ScanSpec.step (sc1 := { sc with t := t', common := sc.common ++ [oe.id] }) oe.id key.2.2.1
        (Or.inr (Or.inl ⟨hc, rfl, rfl, hnd'.1, key.2.2.2⟩)) (ih _ _ hnd'.2 key.1 key.2.1 h)

theorem followFrom_ren {self src tg : Nat} (h1 : self ≠ src) (h2 : self ≠ tg) {x x1 : HEdge}
    (e1 : x1.e1 = x.e1.map (ren src tg)) (e2 : x1.e2 = x.e2.map (ren src tg)) {o : Nat}
    (hf : x.followFrom self = some o) : x1.followFrom self = some (ren src tg o) := by
  unfold HEdge.followFrom at hf ⊢
  have hiff : x1.e1 = some self ↔ x.e1 = some self := by
    rw [e1]; exact map_ren_eq_some_other h1 h2 _
  by_cases hx : x.e1 = some self
  · rw [if_pos hx] at hf
    rw [if_pos (hiff.mpr hx), e2, hf]; rfl
  · rw [if_neg hx] at hf
    rw [if_neg (fun hh => hx (hiff.mp hh)), e1, hf]; rfl

/-- one iteration of `mergeCommon slf tg` on the tree `t`, with `sn` the record of `slf` and `e0` the first common edge
    (joining `slf` and `tg`): the listed edge `e` leads to `src`, which is glued onto `tg`; `t1` is the heap
    afterwards, `sn1`, `e1` the records of `slf` and of `e0` in it -/
structure MergeIter (slf tg : Nat) (sn : HNode) (e0 : HEdge) (t : HTree) (e : HEdge) (src : Nat) (t1 : HTree)
    (sn1 : HNode) (e1 : HEdge) : Prop where
  mem : e ∈ t.edges
  follow : e.followFrom slf = some src
  joins : Joins e slf src
  self_ne_src : slf ≠ src
  self_ne_tg : slf ≠ tg
  tg_ne_src : tg ≠ src
  tree : Tree t1
  spec : IdentifySpec t e slf tg src t1
  sn_mem : sn1 ∈ t1.nodes
  sn_kept : NodeKept sn sn1
  sn_edges : sn1.edges = sn.edges.filter (fun j => j != e.id)
  e0_mem : e1 ∈ t1.edges
  e0_kept : EdgeKept e0 e1
  e0_joins : Joins e1 slf tg

theorem MergeIter.rest {slf tg src : Nat} {sn sn1 : HNode} {e0 e e1 : HEdge} {t t1 : HTree}
    (it : MergeIter slf tg sn e0 t e src t1 sn1 e1) {rest : List Nat} (hin : ∀ j ∈ e.id :: rest, j ∈ sn.edges)
    (hnd : (e.id :: rest).Nodup) (hnot : e0.id ∉ e.id :: rest) :
    (∀ j ∈ rest, j ∈ sn1.edges) ∧ rest.Nodup ∧ e1.id ∉ rest := by
  have hnd' := List.nodup_cons.mp hnd
  refine ⟨fun j hj => ?_, hnd'.2, by rw [it.e0_kept.id]; exact fun hh => hnot (List.mem_cons_of_mem _ hh)⟩
  rw [it.sn_edges]
  simp only [List.mem_filter, bne_iff_ne, ne_eq]
  exact ⟨hin j (List.mem_cons_of_mem _ hj), fun hh => hnd'.1 (hh ▸ hj)⟩

theorem MergeIter.far {slf tg src : Nat} {sn sn1 : HNode} {e0 e e1 : HEdge} {t t1 : HTree}
    (it : MergeIter slf tg sn e0 t e src t1 sn1 e1) (ht : Tree t) (hsn : sn ∈ t.nodes) (hid : sn.id = slf)
    {x' : HEdge} (hx' : x' ∈ t.edges) (hin : x'.id ∈ sn.edges) (hne : x'.id ≠ e.id) {o' : Nat}
    (hfo : x'.followFrom slf = some o') :
    Joins x' slf o' ∧ o' ≠ src ∧ ∃ x1 ∈ t1.edges, x1.id = x'.id ∧ x1.followFrom slf = some o' := by
  have hj' : Joins x' slf o' := hid ▸ joins_of_followFrom ht.1 hsn hx' hin (hid ▸ hfo)
  have hos : o' ≠ src := by
    rintro rfl
    exact ht.no_parallel it.mem hx' hne it.joins hj'
  obtain ⟨x1, hx1m, k0, q1, q2⟩ := it.spec.edge_kept ht.1 hx' hne
  have hf1 := followFrom_ren it.self_ne_src it.self_ne_tg q1 q2 hfo
  rw [ren_of_ne hos] at hf1
  exact ⟨hj', hos, x1, hx1m, k0.id, hf1⟩

theorem mergeCommon_cons_spec {t : HTree} (ht : Tree t) {sn : HNode} (hsn : sn ∈ t.nodes) {self tg : Nat}
    (hid : sn.id = self) {e0 : HEdge} (he0 : e0 ∈ t.edges) (hj0 : Joins e0 self tg) {i : Nat}
    (hi : i ∈ sn.edges) (hne : e0.id ≠ i) (rest : List Nat) :
    ∃ e src t1 sn1 e1, e.id = i ∧ mergeCommon self tg (i :: rest) t = mergeCommon self tg rest t1 ∧
      MergeIter self tg sn e0 t e src t1 sn1 e1 := by
  obtain ⟨e, he, rfl, -⟩ := (ht.1.inc sn hsn i).mp hi
  obtain ⟨a, b, ha, hb, -, -⟩ := ht.1.ends e he
  obtain ⟨src, hfol⟩ : ∃ src, e.followFrom sn.id = some src := by
    unfold HEdge.followFrom
    split
    · exact ⟨b, hb⟩
    · exact ⟨a, ha⟩
  have hj : Joins e self src := hid ▸ joins_of_followFrom ht.1 hsn he hi hfol
  have hss : self ≠ src := ht.ne_of_joins he hj
  obtain ⟨t1, hms, ht1, hs⟩ := mergeStep_tree ht he hj he0 hne hj0
  have hm : mergeCommon self tg (e.id :: rest) t = mergeCommon self tg rest t1 := by
    rw [mergeCommon_cons, farEnd_of_joins ht.1 he hj hss]
    simp only [Option.bind, hms]
  have hst : self ≠ tg := ht.ne_of_joins he0 hj0
  have hts : tg ≠ src := by
    rintro rfl
    exact ht.no_parallel he he0 hne hj hj0
  obtain ⟨sn1, hsn1, hsn1id⟩ := hs.nodes' sn hsn (hid ▸ hss)
  obtain ⟨n, hn, -, hk, _, -, -, hedges⟩ := hs.nodes sn1 hsn1
  obtain rfl : n = sn := ht.1.node_eq hn hsn (hk.id.symm.trans hsn1id)
  rw [if_neg (hid ▸ hst), if_pos hid] at hedges
  obtain ⟨e1, he1, hxk, hx1, hx2⟩ := hs.edge_kept ht.1 he0 hne
  refine ⟨e, src, t1, sn1, e1, rfl, hm, he, hid ▸ hfol, hj, hss, hst, hts, ht1, hs, hsn1, hk, hedges, he1, hxk, ?_⟩
  have r1 : ren src tg self = self := ren_of_ne hss
  have r2 : ren src tg tg = tg := ren_of_ne hts
  rcases hj0 with ⟨j1, j2⟩ | ⟨j1, j2⟩
  · exact Or.inl ⟨by rw [hx1, j1]; simp [r1], by rw [hx2, j2]; simp [r2]⟩
  · exact Or.inr ⟨by rw [hx1, j1]; simp [r2], by rw [hx2, j2]; simp [r1]⟩


/-- result of `mergeCommon self tg es` on a tree -/
structure MergeSpec (slf tg : Nat) (es : List Nat) (sn : HNode) (e0 : HEdge) (t t' : HTree) : Prop where
  tree : Tree t'
  self_node : ∃ sn' ∈ t'.nodes, NodeKept sn sn' ∧ sn'.edges = sn.edges.filter (fun i => !es.contains i)
  edge0 : ∃ e0' ∈ t'.edges, EdgeKept e0 e0' ∧ Joins e0' slf tg
  jsame : (∀ i ∈ es, FarNone t slf i) → JSame t t'

theorem mergeCommon_tree {self tg : Nat} :
    ∀ (es : List Nat) (t : HTree) (sn : HNode) (e0 : HEdge), Tree t → sn ∈ t.nodes → sn.id = self →
      e0 ∈ t.edges → Joins e0 self tg → (∀ i ∈ es, i ∈ sn.edges) → es.Nodup → e0.id ∉ es →
      ∃ t', mergeCommon self tg es t = some t' ∧ MergeSpec self tg es sn e0 t t' := by
  intro es
  induction es with
  | nil =>
    intro t sn e0 ht hsn hid he0 hj0 _ _ _
    refine ⟨t, rfl, ht, ⟨sn, hsn, NodeKept.refl sn, ?_⟩, ⟨e0, he0, EdgeKept.refl e0, hj0⟩,
      fun _ => JSame.refl t⟩
    exact (List.filter_eq_self.mpr (fun _ _ => rfl)).symm
  | cons i rest ih =>
    intro t sn e0 ht hsn hid he0 hj0 hin hnd hnot
    have hnd' := List.nodup_cons.mp hnd
    obtain ⟨e, src, t1, sn1, e1, rfl, hm, it⟩ := mergeCommon_cons_spec ht hsn hid he0 hj0 (hin _ List.mem_cons_self)
      (fun hh => hnot (hh ▸ List.mem_cons_self)) rest
    obtain ⟨hin1, hnd1, hnot1⟩ := it.rest hin hnd hnot
    obtain ⟨t', hm', hs'⟩ := ih t1 sn1 e1 it.tree it.sn_mem (it.sn_kept.id.trans hid) it.e0_mem it.e0_joins
      hin1 hnd1 hnot1
    refine ⟨t', hm.trans hm', hs'.tree, ?_, ?_, ?_⟩
    · obtain ⟨sn', hsn', hk', hed'⟩ := hs'.self_node
      refine ⟨sn', hsn', it.sn_kept.trans hk', ?_⟩
      rw [hed', it.sn_edges, List.filter_filter]
      apply List.filter_congr
      intro j _
      simp only [List.contains_cons, Bool.not_or, bne, Bool.and_comm]
    · obtain ⟨e0', he0', hk', hj'⟩ := hs'.edge0
      exact ⟨e0', he0', it.e0_kept.trans hk', hj'⟩
    · intro hfar
      obtain ⟨x, hx, hxi, o, hfo, on, hon, honid, hjn⟩ := hfar e.id List.mem_cons_self
      obtain rfl : x = e := ht.1.edge_eq hx it.mem hxi
      have hso : o = src := Option.some.inj (hfo.symm.trans it.follow)
      have hJ1 : JSame t t1 := by
        intro j k
        rw [it.spec.jpairs ht.1]
        refine ⟨fun hp => ⟨hp, fun hks => ?_⟩, fun hp => hp.1⟩
        obtain ⟨n, hn, hnk, hnj⟩ := hp
        rw [ht.1.node_eq hn hon (hnk.trans (hks.trans (honid.trans hso).symm)), hjn] at hnj
        cases hnj
      refine hJ1.trans (hs'.jsame ?_)
      intro i' hi'
      obtain ⟨x', hx', hxi', o', hfo', on', hon', honid', hjn'⟩ := hfar i' (List.mem_cons_of_mem _ hi')
      obtain ⟨-, hos', x1, hx1m, hx1id, hf1⟩ := it.far ht hsn hid hx'
        (hxi' ▸ hin i' (List.mem_cons_of_mem _ hi')) (by rw [hxi']; exact fun hh => hnd'.1 (hh ▸ hi')) hfo'
      obtain ⟨n1, hn1, kn⟩ := it.spec.node_kept ht.1 hon' (honid' ▸ hos')
      exact ⟨x1, hx1m, hx1id.trans hxi', o', hf1, n1, hn1, kn.id.trans honid', kn.junction.trans hjn'⟩

theorem filter_not_mem_eq_singleton {l A : List Nat} {c : Nat} (hnd : l.Nodup) (hc : c ∈ l)
    (hcA : c ∉ A) (hcov : ∀ i ∈ l, i ≠ c → i ∈ A) :
    l.filter (fun i => !A.contains i) = [c] := by
  induction l with
  | nil => cases hc
  | cons a l ih =>
    have hnd' := List.nodup_cons.mp hnd
    rcases List.mem_cons.mp hc with rfl | hc'
    · have h1 : (!A.contains c) = true := by simpa using hcA
      have h2 : l.filter (fun i => !A.contains i) = [] := by
        rw [List.filter_eq_nil_iff]
        intro i hi
        have : i ∈ A := hcov i (List.mem_cons_of_mem _ hi) (fun hh => hnd'.1 (hh ▸ hi))
        simpa using this
      rw [List.filter_cons, if_pos h1, h2]
    · have hac : a ≠ c := fun hh => hnd'.1 (hh ▸ hc')
      have h1 : (!A.contains a) = false := by
        have := hcov a List.mem_cons_self hac
        simpa using this
      rw [List.filter_cons, if_neg (by rw [h1]; simp)]
      exact ih hnd'.2 hc' (fun i hi => hcov i (List.mem_cons_of_mem _ hi))

/-- the heap after the junction `sj` has gone from node `self` to node `cn` -/
def movedTo (t : HTree) (self cn sj : Nat) : HTree :=
  (t.modNode cn (fun x => { x with junction := some sj })).modNode self (fun x => { x with junction := none })

theorem setJunction_relabel (t : HTree) (i : Nat) (v : Option Nat) :
    Relabel (atId (·.id) i (fun x => { x with junction := v })) id t (t.modNode i (fun x => { x with junction := v })) :=
  Relabel.modNode t i (fun _ => rfl) (fun _ => rfl)

theorem setConn_relabel (t : HTree) (i : Nat) (c : Option Nat) :
    Relabel id (atId (·.id) i (fun x => { x with conn := c })) t (t.modEdge i (fun x => { x with conn := c })) :=
  Relabel.modEdge t i (fun _ => rfl) (fun _ => rfl) (fun _ => rfl)

theorem movedTo_relabel (t : HTree) (self cn sj : Nat) : ∃ gN, Relabel gN id t (movedTo t self cn sj) :=
  ⟨_, (setJunction_relabel t cn (some sj)).trans (setJunction_relabel _ self none)⟩

theorem movedTo_tree {t : HTree} (h : Tree t) (self cn sj : Nat) : Tree (movedTo t self cn sj) :=
  let ⟨_, hr⟩ := movedTo_relabel t self cn sj
  hr.tree h

theorem movedTo_graphV (t : HTree) (self cn sj : Nat) : (movedTo t self cn sj).graphV = t.graphV :=
  let ⟨_, hr⟩ := movedTo_relabel t self cn sj
  hr.graphV

theorem movedTo_node {t : HTree} (self cn sj : Nat) {n : HNode} (hn : n ∈ t.nodes) :
    ∃ n' ∈ (movedTo t self cn sj).nodes, n'.id = n.id ∧ n'.edges = n.edges :=
  let ⟨g, hr⟩ := movedTo_relabel t self cn sj
  ⟨g n, hr.mem_nodes.mpr ⟨n, hn, rfl⟩, hr.nid n, hr.nedges n⟩

/-- the data of one iteration of `moveLoop`, at the edge `curr`, that reaches the scan -/
structure MoveIter (s : Imp) (slf curr : Nat) (sn : HNode) (ce : HEdge) (cn : HNode) (sc : Scan) : Prop where
  sn_mem : sn ∈ s.t.nodes
  sn_id : sn.id = slf
  ce_mem : ce ∈ s.t.edges
  ce_id : ce.id = curr
  ce_in : curr ∈ sn.edges
  follow : ce.followFrom slf = some cn.id
  cn_mem : cn ∈ s.t.nodes
  cn_free : cn.junction = none
  ce_free : ce.hasFixedRoute = false
  scan : scanOthers slf sn.point cn.point curr sn.edges { t := s.t, common := [curr], other := [] } = some sc

/-- how such an iteration ends (`t1` = the heap after the merges): the junction moves to `cn` and `self`
    is deleted / is kept; a new junction is put on `cn`; or the loop goes on in the scanned heap -/
inductive MoveOutcome (s : Imp) (self sj curr cn : Nat) (sc : Scan) (rest : List Nat) (r : MoveResult) : Prop
  | freed (t1 t3 : HTree) : 1 < sc.common.length →
      mergeCommon self cn (sc.common.drop 1) sc.t = some t1 → sc.other = [] →
      edgeDisconnect (movedTo t1 self cn sj) curr = some t3 →
      r = { s := { s with t := (t3.deleteEdge curr).deleteNode self }, newSelf := some cn, mapChanged := false } →
      MoveOutcome s self sj curr cn sc rest r
  | moved (t1 : HTree) (c : Option Nat) : 1 < sc.common.length →
      mergeCommon self cn (sc.common.drop 1) sc.t = some t1 → sc.other ≠ [] →
      r = { s := { s with t := (movedTo t1 self cn sj).modEdge curr (fun x => { x with conn := c }) },
            newSelf := some cn, mapChanged := false } →
      MoveOutcome s self sj curr cn sc rest r
  | split (t1 : HTree) : 1 < sc.common.length → 1 < sc.other.length →
      mergeCommon self cn (sc.common.drop 1) sc.t = some t1 →
      r = { s := { s with t := (t1.modNode cn (fun x => { x with junction := some s.nextJ })).modEdge curr
                                 (fun x => { x with conn := some s.nextC }),
                          junctions := s.junctions ++ [(s.nextJ, cn)], newJ := s.newJ ++ [s.nextJ],
                          newC := s.newC ++ [s.nextC], nextJ := s.nextJ + 1, nextC := s.nextC + 1 },
            newSelf := some self, mapChanged := true } →
      MoveOutcome s self sj curr cn sc rest r
  | onward : moveLoop { s with t := sc.t } self sj rest = some r → MoveOutcome s self sj curr cn sc rest r

theorem moveLoop_cons {s : Imp} {self sj curr : Nat} {rest : List Nat} {r : MoveResult}
    (h : moveLoop s self sj (curr :: rest) = some r) :
    moveLoop s self sj rest = some r ∨
    ∃ sn ce cn sc, MoveIter s self curr sn ce cn sc ∧ MoveOutcome s self sj curr cn.id sc rest r := by
  rw [moveLoop] at h
  cases hsn : s.t.node? self with
  | none => rw [hsn] at h; cases h
  | some sn =>
    cases hce : s.t.edge? curr with
    | none => rw [hsn, hce] at h; cases h
    | some ce =>
      rw [hsn, hce] at h
      dsimp only at h
      by_cases hin : curr ∈ sn.edges
      · rw [if_neg (by simpa using hin)] at h
        cases hfol : ce.followFrom self with
        | none => rw [hfol] at h; cases h
        | some cnId =>
          rw [hfol] at h
          dsimp only at h
          cases hcn : s.t.node? cnId with
          | none => rw [hcn] at h; cases h
          | some cn =>
            rw [hcn] at h
            dsimp only at h
            by_cases hcnj : cn.junction.isSome = true
            · rw [if_pos hcnj] at h; exact Or.inl h
            rw [if_neg hcnj] at h
            cases hcefx : ce.hasFixedRoute with
            | true => rw [hcefx, if_pos rfl] at h; exact Or.inl h
            | false =>
              rw [hcefx, if_neg (by decide)] at h
              cases hscan : scanOthers self sn.point cn.point curr sn.edges
                  { t := s.t, common := [curr], other := [] } with
              | none => rw [hscan] at h; cases h
              | some sc =>
                rw [hscan] at h
                dsimp only at h
                obtain ⟨hsnm, hsnid⟩ := node?_mem hsn
                obtain ⟨hcem, hceid⟩ := edge?_mem hce
                obtain ⟨hcnm, rfl⟩ := node?_mem hcn
                refine Or.inr ⟨sn, ce, cn, sc, ⟨hsnm, hsnid, hcem, hceid, hin, hfol, hcnm,
                  Option.not_isSome_iff_eq_none.mp hcnj, hcefx, hscan⟩, ?_⟩
                split at h
                · next hcond =>
                  have hc1 : 1 < sc.common.length := by
                    simp only [Bool.and_eq_true, decide_eq_true_eq] at hcond
                    exact hcond.1.1
                  split at h
                  · cases h
                  · next t1 hm =>
                    split at h
                    · next hoth =>
                      split at h
                      · cases h
                      · next t3 hdis => exact .freed t1 t3 hc1 hm hoth hdis (Option.some.inj h).symm
                    · next o tl hoth =>
                      split at h
                      · cases h
                      · next oe _ =>
                        exact .moved t1 oe.conn hc1 hm (by rw [hoth]; simp) (Option.some.inj h).symm
                · split at h
                  · next hcond =>
                    simp only [Bool.and_eq_true, decide_eq_true_eq] at hcond
                    split at h
                    · cases h
                    · next t1 hm => exact .split t1 hcond.1.2 hcond.2 hm (Option.some.inj h).symm
                  · exact .onward h
      · rw [if_pos (by simpa using hin)] at h; cases h

/-- the lists of a finished scan of all of `sn`'s edges (`ScanSpec.parts` for the scan that `moveLoop` starts):
    `common` is `curr` followed by `sc.common.drop 1`; that tail and `other` share out `sn`'s list without `curr` -/
structure ScanParts (slf curr : Nat) (sn : HNode) (sc : Scan) : Prop where
  common : sc.common = curr :: sc.common.drop 1
  sub : (sc.common.drop 1).Sublist sn.edges
  curr_not : curr ∉ sc.common.drop 1
  cover : ∀ i ∈ sn.edges, i ≠ curr → i ∈ sc.common.drop 1 ∨ i ∈ sc.other
  far : ∀ i ∈ sc.common.drop 1, FarNone sc.t slf i
  length : sn.edges.length = 1 + (sc.common.drop 1).length + sc.other.length

section iter
variable {s : Imp} {self curr : Nat} {sn : HNode} {ce : HEdge} {cn : HNode} {sc : Scan}

theorem MoveIter.joins (ht : Tree s.t) (it : MoveIter s self curr sn ce cn sc) : Joins ce self cn.id := by
  obtain ⟨hsn, rfl, hce, rfl, hin, hfol, -⟩ := it
  exact joins_of_followFrom ht.1 hsn hce hin hfol

theorem MoveIter.scanSpec (ht : Tree s.t) (it : MoveIter s self curr sn ce cn sc) :
    ScanSpec curr sn sn.edges { t := s.t, common := [curr], other := [] } sc :=
  scanOthers_spec it.sn_id sn.edges _ sc (ht.1.nodupL sn it.sn_mem) ht it.sn_mem it.scan

theorem MoveIter.parts (ht : Tree s.t) (it : MoveIter s self curr sn ce cn sc) : ScanParts self curr sn sc := by
  obtain ⟨A, B, hA, hB, sA, cA, cov, far, cnt⟩ := (it.scanSpec ht).parts
  have hB' : sc.other = B := hB
  have hd : sc.common.drop 1 = A := by rw [hA]; rfl
  refine ⟨hd ▸ hA, hd ▸ sA, hd ▸ cA, hd ▸ hB' ▸ cov, hd ▸ it.sn_id ▸ far, ?_⟩
  have := length_filter_ne_of_nodup (ht.1.nodupL sn it.sn_mem) it.ce_in
  rw [hd, hB']
  omega

theorem MoveIter.merged (ht : Tree s.t) (it : MoveIter s self curr sn ce cn sc) {t1 : HTree}
    (hm : mergeCommon self cn.id (sc.common.drop 1) sc.t = some t1) :
    MergeSpec self cn.id (sc.common.drop 1) sn ce sc.t t1 := by
  have hspec := it.scanSpec ht
  have pt := it.parts ht
  obtain ⟨t', hm', hms⟩ := mergeCommon_tree _ sc.t sn ce hspec.tree hspec.self_mem it.sn_id
    (hspec.le.keepE ce it.ce_mem (Or.inl it.ce_id)) (it.joins ht) (fun i hi => pt.sub.subset hi)
    ((ht.1.nodupL sn it.sn_mem).sublist pt.sub) (it.ce_id ▸ pt.curr_not)
  rw [hm] at hm'
  cases hm'
  exact hms

/-- the branch that deletes `self`: all other edges of `self` were merged away, so `self` is a leaf of
    the heap after the merges and its removal is a contraction of `curr` onto `cn` -/
theorem MoveIter.freed (ht : Tree s.t) (it : MoveIter s self curr sn ce cn sc) {sj : Nat} {t1 t3 : HTree}
    (hm : mergeCommon self cn.id (sc.common.drop 1) sc.t = some t1) (hoth : sc.other = [])
    (hdis : edgeDisconnect (movedTo t1 self cn.id sj) curr = some t3) :
    Tree ((t3.deleteEdge curr).deleteNode self) ∧
    ∃ e0', IdentifySpec (movedTo t1 self cn.id sj) e0' cn.id cn.id self ((t3.deleteEdge curr).deleteNode self) := by
  have hms := it.merged ht hm
  have pt := it.parts ht
  obtain ⟨sn', hsn', hk', hed'⟩ := hms.self_node
  obtain ⟨e0', he0', hke, hj'⟩ := hms.edge0
  rw [filter_not_mem_eq_singleton (ht.1.nodupL sn it.sn_mem) it.ce_in pt.curr_not
    (fun i hi hic => (pt.cover i hi hic).resolve_right (by rw [hoth]; simp))] at hed'
  obtain ⟨n2, hn2, hn2id, hn2ed⟩ := movedTo_node self cn.id sj hsn'
  have hid2 : n2.id = self := by rw [hn2id, hk'.id, it.sn_id]
  have hcurr : e0'.id = curr := hke.id.trans it.ce_id
  obtain ⟨t', hr, ht', hsp⟩ := removeLeaf_tree (movedTo_tree hms.tree self cn.id sj) (e := e0') he0' hn2
    (hid2 ▸ hj'.symm) (by rw [hn2ed, hed', hcurr])
  rw [hcurr, hid2] at hr
  unfold removeLeaf at hr
  rw [hdis] at hr
  cases hr
  exact ⟨ht', e0', hid2 ▸ hsp⟩

end iter

theorem moveLoop_tree (self sj : Nat) :
    ∀ (l : List Nat) (s : Imp) (r : MoveResult), Tree s.t → moveLoop s self sj l = some r →
      Tree r.s.t := by
  intro l
  induction l with
  | nil =>
    intro s r ht h
    simp only [moveLoop, Option.some.injEq] at h
    subst h
    exact ht
  | cons curr rest ih =>
    intro s r ht h
    rcases moveLoop_cons h with h | ⟨sn, ce, cn, sc, it, out⟩
    · exact ih s r ht h
    · rcases out with ⟨t1, t3, -, hm, hoth, hdis, rfl⟩ | ⟨t1, c, -, hm, -, rfl⟩ | ⟨t1, -, -, hm, rfl⟩ | h
      · exact (it.freed ht hm hoth hdis).1
      · exact (setConn_relabel _ _ _).tree (movedTo_tree (it.merged ht hm).tree _ _ _)
      · exact (setConn_relabel _ _ _).tree ((setJunction_relabel _ _ _).tree (it.merged ht hm).tree)
      · exact ih _ r (it.scanSpec ht).tree h

theorem moveJunctionStep_eq {s : Imp} {j : Nat} {r : MoveResult} (h : moveJunctionStep s j = some r) :
    ∃ n sn sj r0, s.junctions.find? (fun p => p.1 == j) = some (j, n) ∧ sn ∈ s.t.nodes ∧ sn.id = n ∧
      sn.junction = some sj ∧ moveLoop s n sj sn.edges = some r0 ∧
      ((r0.newSelf = none ∧ r = r0) ∨ ∃ n', r0.newSelf = some n' ∧
        r = { r0 with
              s := { r0.s with junctions := r0.s.junctions.map (fun p => if p.1 == j then (j, n') else p) } }) := by
  unfold moveJunctionStep at h
  split at h
  · cases h
  · next j' n hfind =>
    obtain rfl : j' = j := by simpa using List.find?_some hfind
    split at h
    · cases h
    · next r0 hr0 =>
      unfold moveJunctionAlongCommonEdge at hr0
      split at hr0
      · cases hr0
      · next sn hsn =>
        obtain ⟨hsnm, hsnid⟩ := node?_mem hsn
        split at hr0
        · cases hr0
        · next sj hsj =>
          refine ⟨n, sn, sj, r0, hfind, hsnm, hsnid, hsj, hr0, ?_⟩
          split at h
          · next hnone => exact Or.inl ⟨hnone, (Option.some.inj h).symm⟩
          · next n' hsome => exact Or.inr ⟨n', hsome, (Option.some.inj h).symm⟩

theorem moveJunctionStep_tree {s : Imp} {j : Nat} {r : MoveResult} (ht : Tree s.t)
    (h : moveJunctionStep s j = some r) : Tree r.s.t := by
  obtain ⟨n, sn, sj, r0, -, -, -, -, hl, hr⟩ := moveJunctionStep_eq h
  have := moveLoop_tree n sj _ s r0 ht hl
  rcases hr with ⟨-, rfl⟩ | ⟨n', -, rfl⟩ <;> exact this

theorem moveJunctionFully_induction {P : Imp → Prop}
    (hstep : ∀ s j r, P s → moveJunctionStep s j = some r → P r.s) :
    ∀ (f : Nat) (s : Imp) (j : Nat) (s' : Imp), P s → moveJunctionFully f s j = some s' → P s' := by
  intro f
  induction f with
  | zero => intro s j s' _ h; cases h
  | succ f ih =>
    intro s j s' hP h
    rw [moveJunctionFully] at h
    split at h
    · cases h
    · next r hr =>
      have := hstep s j r hP hr
      split at h
      · cases h; exact this
      · exact ih _ _ _ this h

theorem moveJunctionFully_tree : ∀ (f : Nat) (s : Imp) (j : Nat) (s' : Imp), Tree s.t →
    moveJunctionFully f s j = some s' → Tree s'.t :=
  moveJunctionFully_induction (P := fun s => Tree s.t) (fun _ _ _ ht h => moveJunctionStep_tree ht h)

/-- `HyperTreeJunctions.JInv` (not imported here) with `junctionsOf` lists in place of its node quantifiers; stated by
    `moveJunctionStep_inv` … `FullyKeeps`, proved through `JInv'` (`JInv_iff`); `HyperTreeCompose.jinv_iff` converts. -/
def JInv (s : Imp) : Prop :=
  (s.t.junctionsOf).Nodup ∧
  (∀ p ∈ s.junctions, ∃ n ∈ s.t.nodes, n.id = p.2 ∧ n.junction = some p.1) ∧
  (∀ n ∈ s.t.nodes, ∀ j, n.junction = some j → (j, n.id) ∈ s.junctions) ∧
  (∀ j ∈ s.delJ, j ∉ s.t.junctionsOf)

theorem mem_junctionsOf {t : HTree} {j : Nat} : j ∈ t.junctionsOf ↔ ∃ i, JPairs t j i := by
  simp only [HTree.junctionsOf, List.mem_filterMap, JPairs]
  constructor
  · rintro ⟨n, hn, hj⟩; exact ⟨n.id, n, hn, rfl, hj⟩
  · rintro ⟨_, n, hn, _, hj⟩; exact ⟨n, hn, hj⟩

theorem nodup_filterMap_junction : ∀ (l : List HNode), (l.map (·.id)).Nodup →
    ((l.filterMap (·.junction)).Nodup ↔
      ∀ n ∈ l, ∀ m ∈ l, ∀ j, n.junction = some j → m.junction = some j → n.id = m.id) := by
  intro l
  induction l with
  | nil => intro _; simp
  | cons a l ih =>
    intro hnd
    simp only [List.map_cons, List.nodup_cons, List.mem_map, not_exists, not_and] at hnd
    have ih' := ih hnd.2
    cases ha : a.junction with
    | none =>
      rw [List.filterMap_cons_none ha, ih']
      constructor
      · intro h n hn m hm j hnj hmj
        rcases List.mem_cons.mp hn with rfl | hn'
        · rw [ha] at hnj; cases hnj
        · rcases List.mem_cons.mp hm with rfl | hm'
          · rw [ha] at hmj; cases hmj
          · exact h n hn' m hm' j hnj hmj
      · intro h n hn m hm j hnj hmj
        exact h n (List.mem_cons_of_mem _ hn) m (List.mem_cons_of_mem _ hm) j hnj hmj
    | some ja =>
      rw [List.filterMap_cons_some ha, List.nodup_cons, ih']
      constructor
      · rintro ⟨hni, h⟩ n hn m hm j hnj hmj
        rcases List.mem_cons.mp hn with rfl | hn'
        · rcases List.mem_cons.mp hm with rfl | hm'
          · rfl
          · exfalso; apply hni
            rw [ha] at hnj; cases hnj
            exact List.mem_filterMap.mpr ⟨m, hm', hmj⟩
        · rcases List.mem_cons.mp hm with rfl | hm'
          · exfalso; apply hni
            rw [ha] at hmj; cases hmj
            exact List.mem_filterMap.mpr ⟨n, hn', hnj⟩
          · exact h n hn' m hm' j hnj hmj
      · intro h
        refine ⟨?_, fun n hn m hm j hnj hmj =>
          h n (List.mem_cons_of_mem _ hn) m (List.mem_cons_of_mem _ hm) j hnj hmj⟩
        intro hmem
        obtain ⟨m, hm, hmj⟩ := List.mem_filterMap.mp hmem
        exact hnd.1 m hm (h a List.mem_cons_self m (List.mem_cons_of_mem _ hm) ja ha hmj).symm

theorem JInv_iff {s : Imp} (hN : (s.t.nodes.map (·.id)).Nodup) : JInv s ↔ JInv' s := by
  unfold JInv
  rw [show s.t.junctionsOf = s.t.nodes.filterMap (·.junction) from rfl, nodup_filterMap_junction _ hN]
  constructor
  · rintro ⟨h1, h2, h3, h4⟩
    refine ⟨?_, h2, ?_, ?_⟩
    · rintro j i i' ⟨n, hn, rfl, hnj⟩ ⟨m, hm, rfl, hmj⟩
      exact h1 n hn m hm j hnj hmj
    · rintro j i ⟨n, hn, rfl, hnj⟩
      exact h3 n hn j hnj
    · intro j hj i hp
      exact h4 j hj (mem_junctionsOf.mpr ⟨i, hp⟩)
  · intro h
    refine ⟨?_, h.live, ?_, ?_⟩
    · intro n hn m hm j hnj hmj
      exact h.inj j _ _ ⟨n, hn, rfl, hnj⟩ ⟨m, hm, rfl, hmj⟩
    · intro n hn j hnj
      exact h.reg j n.id ⟨n, hn, rfl, hnj⟩
    · intro j hj hmem
      obtain ⟨i, hp⟩ := mem_junctionsOf.mp hmem
      exact h.del j hj i hp

theorem mem_map_rekey {L : List (Nat × Nat)} {k v : Nat} (hk : ∃ v0, (k, v0) ∈ L) (j i : Nat) :
    (j, i) ∈ L.map (fun p => if p.1 == k then (k, v) else p) ↔ (j = k ∧ i = v) ∨ (j ≠ k ∧ (j, i) ∈ L) := by
  simp only [List.mem_map]
  constructor
  · rintro ⟨p, hp, he⟩
    by_cases hpk : p.1 = k
    · rw [if_pos (by simpa using hpk)] at he
      cases he
      exact Or.inl ⟨rfl, rfl⟩
    · rw [if_neg (by simpa using hpk)] at he
      subst he
      exact Or.inr ⟨hpk, hp⟩
  · rintro (⟨rfl, rfl⟩ | ⟨hj, hp⟩)
    · obtain ⟨v0, h0⟩ := hk
      exact ⟨_, h0, by simp⟩
    · exact ⟨_, hp, by simp [hj]⟩

/-- the caller's rewrite of the junction map after a move -/
def fixJ (sj : Nat) (r : MoveResult) : Imp :=
  match r.newSelf with
  | none => r.s
  | some n' => { r.s with junctions := r.s.junctions.map (fun p => if p.1 == sj then (sj, n') else p) }

/-- which junctions the heap can carry after a move, and the counters -/
structure MoveKeeps (s : Imp) (r : MoveResult) : Prop where
  juncs : ∀ j i, JPairs r.s.t j i → (∃ i', JPairs s.t j i') ∨ (j = s.nextJ ∧ r.s.nextJ = s.nextJ + 1)
  nextJ : s.nextJ ≤ r.s.nextJ
  delJ : r.s.delJ = s.delJ
  lost : ∀ j i, JPairs s.t j i → ∃ i', JPairs r.s.t j i'
  newJ : (r.s.newJ = s.newJ ∧ r.s.nextJ = s.nextJ ∧ ∀ j i, JPairs r.s.t j i → ∃ i', JPairs s.t j i') ∨
    (r.s.newJ = s.newJ ++ [s.nextJ] ∧ (∃ i, JPairs r.s.t s.nextJ i) ∧ r.s.nextJ = s.nextJ + 1)

theorem JPairs_movedTo {t : HTree} {self cn sj : Nat} (hcn : cn ∈ t.graphV) {j i : Nat} :
    JPairs (movedTo t self cn sj) j i ↔ i ≠ self ∧ ((i = cn ∧ j = sj) ∨ (i ≠ cn ∧ JPairs t j i)) := by
  unfold movedTo
  rw [JPairs_modNode_junction, JPairs_modNode_junction]
  constructor
  · rintro (⟨_, hh, _⟩ | ⟨hi, hh⟩)
    · cases hh
    · exact ⟨hi, hh.imp (fun h => ⟨h.1, (Option.some.inj h.2.1).symm⟩) id⟩
  · rintro ⟨hi, hh⟩
    exact Or.inr ⟨hi, hh.imp (fun h => ⟨h.1, by rw [h.2], hcn⟩) id⟩

theorem moveLoop_JInv (self sj : Nat) :
    ∀ (l : List Nat) (s : Imp) (r : MoveResult), Tree s.t → JInv' s → JPairs s.t sj self →
      (∀ i, ¬ JPairs s.t s.nextJ i) → s.nextJ ∉ s.delJ → moveLoop s self sj l = some r →
      JInv' (fixJ sj r) ∧ MoveKeeps s r := by
  intro l
  induction l with
  | nil =>
    intro s r ht hI _ _ _ h
    simp only [moveLoop, Option.some.injEq] at h
    subst h
    exact ⟨hI, fun j i h => Or.inl ⟨i, h⟩, Nat.le_refl _, rfl, fun j i h => ⟨i, h⟩,
      Or.inl ⟨rfl, rfl, fun j i h => ⟨i, h⟩⟩⟩
  | cons curr rest ih =>
    intro s r ht hI hself hfresh hnd' h
    rcases moveLoop_cons h with h | ⟨sn, ce, cn, sc, it, out⟩
    · exact ih s r ht hI hself hfresh hnd' h
    · have hne : self ≠ cn.id := ht.ne_of_joins it.ce_mem (it.joins ht)
      have hcnn : ∀ j, ¬ JPairs s.t j cn.id := by
        rintro j ⟨n, hn, hni, hnj⟩
        rw [ht.1.node_eq hn it.cn_mem hni, it.cn_free] at hnj
        cases hnj
      have hJ0 : JSame s.t sc.t := (it.scanSpec ht).le.jsame
      have merged : ∀ {t1}, mergeCommon self cn.id (sc.common.drop 1) sc.t = some t1 →
          JSame s.t t1 ∧ cn.id ∈ t1.graphV := by
        intro t1 hm
        have hms := it.merged ht hm
        obtain ⟨e0', he0', -, hj'⟩ := hms.edge0
        exact ⟨hJ0.trans (hms.jsame (it.parts ht).far), (joins_mem_graphV hms.tree.1 he0' hj').2⟩
      have hreg : ∃ v0, (sj, v0) ∈ s.junctions := ⟨self, hI.reg _ _ hself⟩
      -- the two branches in which `sj` goes to `cn`
      have caseA : ∀ tf : HTree, (∀ j i, JPairs tf j i ↔
          i ≠ self ∧ ((i = cn.id ∧ j = sj) ∨ (i ≠ cn.id ∧ JPairs s.t j i))) →
          JInv' (fixJ sj { s := { s with t := tf }, newSelf := some cn.id, mapChanged := false }) ∧
          MoveKeeps s { s := { s with t := tf }, newSelf := some cn.id, mapChanged := false } := by
        intro tf hiff0
        have hiff : ∀ j i, JPairs tf j i ↔ (j = sj ∧ i = cn.id) ∨ (j ≠ sj ∧ JPairs s.t j i) := by
          intro j i
          refine (hiff0 j i).trans ⟨?_, ?_⟩
          · rintro ⟨his, ⟨hic, hjs⟩ | ⟨-, hp⟩⟩
            · exact Or.inl ⟨hjs, hic⟩
            · exact Or.inr ⟨fun hjs => his (hI.inj _ _ _ (hjs ▸ hp) hself), hp⟩
          · rintro (⟨rfl, rfl⟩ | ⟨hjs, hp⟩)
            · exact ⟨Ne.symm hne, Or.inl ⟨rfl, rfl⟩⟩
            · exact ⟨fun his => hjs (JPairs_unique ht.1 (his ▸ hp) hself),
                Or.inr ⟨fun hic => hcnn j (hic ▸ hp), hp⟩⟩
        have keeps : ∀ j i, JPairs tf j i → ∃ i', JPairs s.t j i' := by
          intro j i hp
          rcases (hiff j i).mp hp with ⟨rfl, -⟩ | ⟨-, hh⟩
          · exact ⟨self, hself⟩
          · exact ⟨i, hh⟩
        refine ⟨hI.put (fun hh => hI.del _ hh _ hself) hiff (mem_map_rekey hreg) rfl,
          fun j i hp => Or.inl (keeps j i hp), Nat.le_refl _, rfl, ?_, Or.inl ⟨rfl, rfl, keeps⟩⟩
        intro j i hp
        by_cases hjs : j = sj
        · exact ⟨cn.id, (hiff _ _).mpr (Or.inl ⟨hjs, rfl⟩)⟩
        · exact ⟨i, (hiff _ _).mpr (Or.inr ⟨hjs, hp⟩)⟩
      rcases out with ⟨t1, t3, -, hm, hoth, hdis, rfl⟩ | ⟨t1, c, -, hm, -, rfl⟩ | ⟨t1, -, -, hm, rfl⟩ | h
      · obtain ⟨hJ, hcnV⟩ := merged hm
        obtain ⟨-, e0', hsp⟩ := it.freed ht hm hoth hdis
        refine caseA _ (fun j i => ?_)
        rw [hsp.jpairs (movedTo_tree (it.merged ht hm).tree _ _ _).1, JPairs_movedTo hcnV, ← hJ j i]
        exact ⟨fun hh => hh.1, fun hh => ⟨hh, hh.1⟩⟩
      · obtain ⟨hJ, hcnV⟩ := merged hm
        refine caseA _ (fun j i => ?_)
        exact (JPairs_movedTo (t := t1) hcnV).trans (by rw [← hJ j i])
      · obtain ⟨hJ, hcnV⟩ := merged hm
        have hnj : ∀ {j i}, JPairs s.t j i → j ≠ s.nextJ := fun hp hh => hfresh _ (hh ▸ hp)
        have hfin : ∀ j i, JPairs (t1.modNode cn.id (fun x => { x with junction := some s.nextJ })) j i ↔
            (j = s.nextJ ∧ i = cn.id) ∨ (j ≠ s.nextJ ∧ JPairs s.t j i) := by
          intro j i
          rw [JPairs_modNode_junction, ← hJ j i]
          exact or_congr ⟨fun h => ⟨(Option.some.inj h.2.1).symm, h.1⟩, fun h => ⟨h.2, by rw [h.1], hcnV⟩⟩
            ⟨fun h => ⟨hnj h.2, h.2⟩, fun h => ⟨fun hic => hcnn j (hic ▸ h.2), h.2⟩⟩
        have hmap : ∀ j i, (j, i) ∈ (s.junctions ++ [(s.nextJ, cn.id)]).map
              (fun p => if p.1 == sj then (sj, self) else p) ↔
            (j = s.nextJ ∧ i = cn.id) ∨ (j ≠ s.nextJ ∧ (j, i) ∈ s.junctions) := by
          intro j i
          rw [mem_map_rekey ⟨self, List.mem_append_left _ (hI.reg _ _ hself)⟩, List.mem_append,
            List.mem_singleton, Prod.mk.injEq]
          constructor
          · rintro (⟨rfl, rfl⟩ | ⟨-, hp | hp⟩)
            · exact Or.inr ⟨hnj hself, hI.reg _ _ hself⟩
            · exact Or.inr ⟨hnj (hI.live _ hp), hp⟩
            · exact Or.inl hp
          · rintro (⟨rfl, rfl⟩ | ⟨-, hp⟩)
            · exact Or.inr ⟨Ne.symm (hnj hself), Or.inr ⟨rfl, rfl⟩⟩
            · by_cases hjs : j = sj
              · exact Or.inl ⟨hjs, hI.inj _ _ _ (hI.live _ hp) (hjs ▸ hself)⟩
              · exact Or.inr ⟨hjs, Or.inl hp⟩
        refine ⟨hI.put hnd' hfin hmap rfl, ?_, Nat.le_succ _, rfl, ?_,
          Or.inr ⟨rfl, ⟨cn.id, (hfin _ _).mpr (Or.inl ⟨rfl, rfl⟩)⟩, rfl⟩⟩
        · intro j i hp
          rcases (hfin j i).mp hp with ⟨h2, -⟩ | ⟨-, hh⟩
          · exact Or.inr ⟨h2, rfl⟩
          · exact Or.inl ⟨i, hh⟩
        · intro j i hp
          exact ⟨i, (hfin _ _).mpr (Or.inr ⟨hnj hp, hp⟩)⟩
      · obtain ⟨r1, r2⟩ := ih { s with t := sc.t } r (it.scanSpec ht).tree (hI.of_jsame hJ0 rfl rfl)
          ((hJ0 _ _).mp hself) (fun i hh => hfresh i ((hJ0 _ _).mpr hh)) hnd' h
        refine ⟨r1, ?_, r2.nextJ, r2.delJ, ?_, ?_⟩
        · intro j i hp
          rcases r2.juncs j i hp with ⟨i', hh⟩ | hh
          · exact Or.inl ⟨i', (hJ0 _ _).mpr hh⟩
          · exact Or.inr hh
        · intro j i hp
          exact r2.lost j i ((hJ0 _ _).mp hp)
        · rcases r2.newJ with ⟨h1, h2, h3⟩ | hh
          · refine Or.inl ⟨h1, h2, fun j i hp => ?_⟩
            obtain ⟨i', hh⟩ := h3 j i hp
            exact ⟨i', (hJ0 _ _).mpr hh⟩
          · exact Or.inr hh

theorem moveJunctionStep_core {s : Imp} {j : Nat} {r : MoveResult} (ht : Tree s.t)
    (hI : JInv' s) (hfresh : ∀ i, ¬ JPairs s.t s.nextJ i) (hnd : s.nextJ ∉ s.delJ)
    (h : moveJunctionStep s j = some r) : JInv' r.s ∧ MoveKeeps s r := by
  obtain ⟨n, sn, sj, r0, hfind, hsnm, hsnid, hsj, hl, hr⟩ := moveJunctionStep_eq h
  have hself : JPairs s.t sj n := ⟨sn, hsnm, hsnid, hsj⟩
  obtain rfl : sj = j := JPairs_unique ht.1 hself (hI.live _ (List.mem_of_find?_eq_some hfind))
  obtain ⟨hJ, hK⟩ := moveLoop_JInv n sj _ s r0 ht hI hself hfresh hnd hl
  unfold fixJ at hJ
  rcases hr with ⟨hnone, rfl⟩ | ⟨n', hsome, rfl⟩
  · rw [hnone] at hJ
    exact ⟨hJ, hK⟩
  · rw [hsome] at hJ
    exact ⟨hJ, hK.juncs, hK.nextJ, hK.delJ, hK.lost, hK.newJ⟩

def JFresh (s : Imp) : Prop :=
  (∀ j ∈ s.t.junctionsOf, j < s.nextJ) ∧ (∀ j ∈ s.delJ, j < s.nextJ)

theorem moveJunctionStep_inv {s : Imp} {j : Nat} {r : MoveResult} (ht : Tree s.t) (hI : JInv s)
    (hF : JFresh s) (h : moveJunctionStep s j = some r) :
    Tree r.s.t ∧ JInv r.s ∧ JFresh r.s ∧ MoveKeeps s r := by
  have ht' := moveJunctionStep_tree ht h
  obtain ⟨hI', hK⟩ := moveJunctionStep_core ht ((JInv_iff ht.1.nodupN).mp hI)
    (fun i hp => Nat.lt_irrefl _ (hF.1 _ (mem_junctionsOf.mpr ⟨i, hp⟩)))
    (fun hh => Nat.lt_irrefl _ (hF.2 _ hh)) h
  refine ⟨ht', (JInv_iff ht'.1.nodupN).mpr hI', ⟨?_, ?_⟩, hK⟩
  · intro j' hj'
    obtain ⟨i, hp⟩ := mem_junctionsOf.mp hj'
    rcases hK.juncs j' i hp with ⟨i', hh⟩ | ⟨h1, h2⟩
    · exact Nat.lt_of_lt_of_le (hF.1 _ (mem_junctionsOf.mpr ⟨i', hh⟩)) hK.nextJ
    · omega
  · intro j' hj'
    rw [hK.delJ] at hj'
    exact Nat.lt_of_lt_of_le (hF.2 _ hj') hK.nextJ

theorem moveJunctionFully_inv : ∀ (f : Nat) (s : Imp) (j : Nat) (s' : Imp), Tree s.t → JInv s →
    JFresh s → moveJunctionFully f s j = some s' → Tree s'.t ∧ JInv s' ∧ JFresh s' :=
  fun f s j s' ht hI hF h =>
    moveJunctionFully_induction (P := fun s => Tree s.t ∧ JInv s ∧ JFresh s)
      (fun _ _ _ hP h => (moveJunctionStep_inv hP.1 hP.2.1 hP.2.2 h).imp_right (And.imp_right And.left))
      f s j s' ⟨ht, hI, hF⟩ h

def NewJFresh (s : Imp) : Prop := ∀ j ∈ s.newJ, j < s.nextJ

theorem MoveKeeps.junctions {s : Imp} {r : MoveResult} (hK : MoveKeeps s r) (hN : NewJFresh s) :
    (∀ j, (∃ i, JPairs r.s.t j i) ↔ ((∃ i, JPairs s.t j i) ∨ (j ∈ r.s.newJ ∧ j ∉ s.newJ))) ∧
    NewJFresh r.s ∧ ∃ L, r.s.newJ = s.newJ ++ L := by
  have hnn : s.nextJ ∉ s.newJ := fun hh => Nat.lt_irrefl _ (hN _ hh)
  rcases hK.newJ with ⟨h1, h2, h3⟩ | ⟨h1, h2, h3⟩
  · refine ⟨?_, ?_, [], by simp [h1]⟩
    · intro j
      constructor
      · rintro ⟨i, hp⟩; exact Or.inl (h3 j i hp)
      · rintro (⟨i, hp⟩ | ⟨a, b⟩)
        · exact hK.lost j i hp
        · rw [h1] at a; exact absurd a b
    · intro j hj; rw [h1] at hj; rw [h2]; exact hN j hj
  · refine ⟨?_, ?_, [s.nextJ], h1⟩
    · intro j
      constructor
      · rintro ⟨i, hp⟩
        rcases hK.juncs j i hp with hh | ⟨hh, _⟩
        · exact Or.inl hh
        · refine Or.inr ⟨?_, hh ▸ hnn⟩
          rw [h1, hh]; simp
      · rintro (⟨i, hp⟩ | ⟨a, b⟩)
        · exact hK.lost j i hp
        · rw [h1, List.mem_append, List.mem_singleton] at a
          rcases a with a | a
          · exact absurd a b
          · rw [a]; exact h2
    · intro j hj
      rw [h1, List.mem_append, List.mem_singleton] at hj
      rw [h3]
      rcases hj with hj | hj
      · exact Nat.lt_succ_of_lt (hN j hj)
      · omega

/-- everything the junction-move loop keeps, from a state `s` to a later state `s'` -/
structure FullyKeeps (s s' : Imp) : Prop where
  tree : Tree s'.t
  jinv : JInv s'
  jfresh : JFresh s'
  newJFresh : NewJFresh s'
  lost : ∀ j i, JPairs s.t j i → ∃ i', JPairs s'.t j i'
  junctions : ∀ j, (∃ i, JPairs s'.t j i) ↔ ((∃ i, JPairs s.t j i) ∨ (j ∈ s'.newJ ∧ j ∉ s.newJ))
  delJ : s'.delJ = s.delJ
  newJ : ∃ L, s'.newJ = s.newJ ++ L
  nextJ : s.nextJ ≤ s'.nextJ

theorem FullyKeeps.refl {s : Imp} (ht : Tree s.t) (hI : JInv s) (hF : JFresh s) (hN : NewJFresh s) :
    FullyKeeps s s :=
  ⟨ht, hI, hF, hN, fun j i h => ⟨i, h⟩,
   fun j => ⟨fun h => Or.inl h, fun h => h.elim id (fun h => absurd h.1 h.2)⟩, rfl, ⟨[], by simp⟩,
   Nat.le_refl _⟩

theorem FullyKeeps.trans {a b c : Imp} (h1 : FullyKeeps a b) (h2 : FullyKeeps b c) : FullyKeeps a c := by
  obtain ⟨L1, hL1⟩ := h1.newJ
  obtain ⟨L2, hL2⟩ := h2.newJ
  refine ⟨h2.tree, h2.jinv, h2.jfresh, h2.newJFresh, ?_,
    fun j => new_or_trans hL1 hL2 (h1.junctions j) (h2.junctions j), h2.delJ.trans h1.delJ,
    ⟨L1 ++ L2, by rw [hL2, hL1, List.append_assoc]⟩, Nat.le_trans h1.nextJ h2.nextJ⟩
  intro j i hp
  obtain ⟨i', hp'⟩ := h1.lost j i hp
  exact h2.lost j i' hp'

theorem moveJunctionStep_fullyKeeps {s : Imp} {j : Nat} {r : MoveResult} (ht : Tree s.t) (hI : JInv s)
    (hF : JFresh s) (hN : NewJFresh s) (h : moveJunctionStep s j = some r) : FullyKeeps s r.s := by
  obtain ⟨ht', hI', hF', hK⟩ := moveJunctionStep_inv ht hI hF h
  obtain ⟨hj, hN', hL⟩ := hK.junctions hN
  exact ⟨ht', hI', hF', hN', hK.lost, hj, hK.delJ, hL, hK.nextJ⟩

theorem moveJunctionFully_fullyKeeps : ∀ (f : Nat) (s : Imp) (j : Nat) (s' : Imp), Tree s.t → JInv s →
    JFresh s → NewJFresh s → moveJunctionFully f s j = some s' → FullyKeeps s s' :=
  fun f s j s' ht hI hF hN h =>
    moveJunctionFully_induction (P := FullyKeeps s)
      (fun _ _ _ hk hr => hk.trans (moveJunctionStep_fullyKeeps hk.tree hk.jinv hk.jfresh hk.newJFresh hr))
      f s j s' (FullyKeeps.refl ht hI hF hN) h

end AdaptaVerif.Lemmas.HyperTreeMove
