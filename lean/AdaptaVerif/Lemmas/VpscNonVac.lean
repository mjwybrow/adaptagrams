/-
A concrete state of the IncSolver model on which the hypotheses of the conditional theorems of
Props/C02Model.lean and Props/C01Static.lean hold simultaneously (non-vacuity witnesses; the
`example`s that use them are in the Props files).

`nvSt` is what `IncSolver(vs, cs)` followed by the merge across the (violated) equality
`x0 + 2 == x1` produces: two variables with scales 1 and 2 in one block, one active tight constraint.
-/
import AdaptaVerif.Lemmas.VpscKktOpt
import AdaptaVerif.Lemmas.VpscKktFresh
import AdaptaVerif.Lemmas.VpscMerge
namespace AdaptaVerif.Lemmas.VpscNonVac
open AdaptaVerif.Model.Vpsc
open AdaptaVerif.Lemmas.VpscInv AdaptaVerif.Lemmas.VpscKkt AdaptaVerif.Lemmas.VpscKktOpt
open AdaptaVerif.Spec.Qp (sumTo listSum)

/-- `IncSolver(vs, cs)`: x0 (desired 0, weight 1, scale 1), x1 (desired 0, weight 1, scale 2), `x0 + 2 == x1` -/
def nvSt0 : St := St.init #[(0, 1, 1), (0, 1, 2)] #[mkCon 0 1 2 true]
def nvSt : St := (nvSt0.mergeAcross 0).1

theorem nvSt0_vars : nvSt0.vars = #[{ desired := 0, weight := 1, scale := 1, block := 0, outs := #[0] },
    { desired := 0, weight := 1, scale := 2, block := 1, ins := #[0] }] := by rfl
theorem nvSt0_cons : nvSt0.cons = #[mkCon 0 1 2 true] := by rfl
theorem nvSt0_blocks : nvSt0.blocks =
    #[{ vars := #[0], scale := 1, posn := 0 }, { vars := #[1], scale := 2, posn := 0 }] := by rfl

theorem nvSt_vars : nvSt.vars = #[{ desired := 0, weight := 1, scale := 1, block := 0, outs := #[0] },
    { desired := 0, weight := 1, scale := 2, block := 0, offset := 2, ins := #[0] }] := by
  rw [nvSt, AdaptaVerif.Lemmas.VpscModel.mergeAcross_vars]
  simp [nvSt0_vars, nvSt0_cons, nvSt0_blocks, shiftVars, mkCon]

theorem nvSt_cons : nvSt.cons = #[{ l := 0, r := 1, gap := 2, eq := true, active := true }] := by
  simp [nvSt, St.mergeAcross, nvSt0_vars, nvSt0_cons, nvSt0_blocks, St.refreshBlock, mkCon]

theorem nvSt_blocks : nvSt.blocks =
    #[{ vars := #[0, 1], scale := 1, posn := -2/5 }, { vars := #[1], scale := 2, posn := 0, deleted := true }] := by
  simp [nvSt, St.mergeAcross, nvSt0_vars, nvSt0_cons, nvSt0_blocks, St.refreshBlock, mkCon, shiftVars,
    AdaptaVerif.Lemmas.VpscKktFresh.blockPosn_eq, listSum]
  norm_num

theorem nvSt_inv : Inv nvSt :=
  AdaptaVerif.Lemmas.VpscMerge.mergeAcross_inv nvSt0 0
    (init_inv _ _ (by
      intro c hc
      simp only [List.mem_toArray, List.mem_cons, List.not_mem_nil, or_false] at hc
      subst hc; simp [mkCon]))
    (by simp [nvSt0_cons]) (by simp [blk, nvSt0_vars, nvSt0_cons, mkCon])

theorem nvSt_lt (i : Nat) (hi : i < nvSt.vars.size) : i = 0 ∨ i = 1 := by
  rw [nvSt_vars] at hi; simp at hi; omega

theorem nvSt_weight : ∀ i : Nat, i < nvSt.vars.size → 0 < (nvSt.vars[i]!).weight := by
  intro i hi
  rcases nvSt_lt i hi with rfl | rfl <;> simp [nvSt_vars]

/-- the in-range scale hypothesis holds … -/
theorem nvSt_scale : ∀ i : Nat, i < nvSt.vars.size → (nvSt.vars[i]!).scale ≠ 0 := by
  intro i hi
  rcases nvSt_lt i hi with rfl | rfl <;> simp [nvSt_vars]

/-- … while the form without `i < vars.size` is false on this (on every) state: beyond the end
    `vars[i]!` is the default variable, whose scale is 0 -/
theorem nvSt_scale_unbounded_false : ¬ ∀ i : Nat, (nvSt.vars[i]!).scale ≠ 0 := by
  intro h
  exact h 2 (by simp [nvSt_vars]; rfl)

theorem nvSt_stationary : BlockStationary nvSt := by
  intro b
  simp [blockSum, nvSt_vars, nvSt_blocks, sumTo, qOf, St.dfdv, St.pos, posOf, blk]
  by_cases h : 0 = b <;> simp [h]
  norm_num

theorem nvSt_quiescent (eps : Rat) : Quiescent eps nvSt := by
  refine ⟨fun j hj => ?_, fun j hj ha he => ?_⟩
  · have : j = 0 := by rw [nvSt_cons] at hj; simp at hj; omega
    subst this
    simp [slackQ, AdaptaVerif.Spec.Qp.slack, problemOf, toQ, nvSt_cons, nvSt_vars, nvSt_blocks, St.pos, posOf]
    norm_num
  · have : j = 0 := by rw [nvSt_cons] at hj; simp at hj; omega
    subst this
    simp [nvSt_cons] at he

/-- `compute_dfdv` from the front variable of block 0 does not run out of fuel -/
theorem nvSt_dfdv_ok : (computeDfdv nvSt 0 3 #[0] #[] 0 none).2.2.2 = true := by decide +kernel

theorem nvSt_members (x : Nat) (hx : x < nvSt.vars.size) : x ∈ (#[0, 1] : Array Nat) ↔ blk nvSt.vars x = 0 := by
  rcases nvSt_lt x hx with rfl | rfl <;> simp [blk, nvSt_vars]

theorem nvSt_members_lt : ∀ x ∈ (#[0, 1] : Array Nat), x < nvSt.vars.size := by
  intro x hx
  simp at hx
  rcases hx with rfl | rfl <;> simp [nvSt_vars]

theorem nvSt_posn : ((nvSt.blocks[0]!).scale, (nvSt.blocks[0]!).posn) = blockPosn nvSt.vars #[0, 1] := by
  decide +kernel

theorem nvSt_A2 : listSum (fun i => (nvSt.vars[i]!).weight *
      ((nvSt.vars[(#[0, 1] : Array Nat)[0]!]!).scale / (nvSt.vars[i]!).scale) *
      ((nvSt.vars[(#[0, 1] : Array Nat)[0]!]!).scale / (nvSt.vars[i]!).scale)) (#[0, 1] : Array Nat).toList ≠ 0 := by
  decide +kernel

end AdaptaVerif.Lemmas.VpscNonVac
