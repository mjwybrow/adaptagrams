/-
Helper lemmas for C12: reachability over edge lists, "every edge occurrence is a bridge" in the form with
permutations (`acyclic_iff_perm`, the form the proofs use), "appending a bridge keeps a forest a forest",
the union-find labelling invariant.
-/
import AdaptaVerif.Check.Tree
import AdaptaVerif.Spec.Tree
namespace AdaptaVerif.Lemmas.Tree
open AdaptaVerif.Check.Tree AdaptaVerif.Spec.Tree

theorem Adj.symm {E : List Edge} {a b : Nat} (h : Adj E a b) : Adj E b a := by
  cases h with
  | inl h => exact Or.inr h
  | inr h => exact Or.inl h

theorem Reach.trans {E : List Edge} {a b c : Nat} (h1 : Reach E a b) (h2 : Reach E b c) :
    Reach E a c := by
  induction h2 with
  | refl => exact h1
  | step _ hadj ih => exact Reach.step ih hadj

theorem Reach.single {E : List Edge} {a b : Nat} (h : Adj E a b) : Reach E a b :=
  Reach.step (Reach.refl a) h

theorem Reach.symm {E : List Edge} {a b : Nat} (h : Reach E a b) : Reach E b a := by
  induction h with
  | refl => exact Reach.refl _
  | step _ hadj ih => exact Reach.trans (Reach.single (Adj.symm hadj)) ih

theorem Reach.mono {E E' : List Edge} (hsub : ∀ e, e ∈ E → e ∈ E') {a b : Nat}
    (h : Reach E a b) : Reach E' a b := by
  induction h with
  | refl => exact Reach.refl _
  | step _ hadj ih =>
    refine Reach.step ih ?_
    cases hadj with
    | inl h => exact Or.inl (hsub _ h)
    | inr h => exact Or.inr (hsub _ h)

theorem reach_nil {a b : Nat} (h : Reach [] a b) : a = b := by
  induction h with
  | refl => rfl
  | step _ hadj _ =>
    cases hadj with
    | inl h => cases h
    | inr h => cases h

theorem adj_snoc {E : List Edge} {c d x y : Nat} (h : Adj (E ++ [(c, d)]) x y) :
    Adj E x y ∨ (x = c ∧ y = d) ∨ (x = d ∧ y = c) := by
  cases h with
  | inl h =>
    rcases List.mem_append.mp h with h | h
    · exact Or.inl (Or.inl h)
    · simp only [List.mem_singleton, Prod.mk.injEq] at h
      exact Or.inr (Or.inl h)
  | inr h =>
    rcases List.mem_append.mp h with h | h
    · exact Or.inl (Or.inr h)
    · simp only [List.mem_singleton, Prod.mk.injEq] at h
      exact Or.inr (Or.inr ⟨h.2, h.1⟩)

theorem reach_snoc {E : List Edge} {c d a b : Nat} (h : Reach (E ++ [(c, d)]) a b) :
    Reach E a b ∨ (Reach E a c ∧ Reach E d b) ∨ (Reach E a d ∧ Reach E c b) := by
  induction h with
  | refl => exact Or.inl (Reach.refl _)
  | step _ hadj ih =>
    rcases adj_snoc hadj with hE | ⟨hx, hy⟩ | ⟨hx, hy⟩
    · rcases ih with h | ⟨h1, h2⟩ | ⟨h1, h2⟩
      · exact Or.inl (Reach.step h hE)
      · exact Or.inr (Or.inl ⟨h1, Reach.step h2 hE⟩)
      · exact Or.inr (Or.inr ⟨h1, Reach.step h2 hE⟩)
    · subst hx; subst hy
      rcases ih with h | ⟨h1, _⟩ | ⟨h1, _⟩
      · exact Or.inr (Or.inl ⟨h, Reach.refl _⟩)
      · exact Or.inr (Or.inl ⟨h1, Reach.refl _⟩)
      · exact Or.inl h1
    · subst hx; subst hy
      rcases ih with h | ⟨h1, _⟩ | ⟨h1, _⟩
      · exact Or.inr (Or.inr ⟨h, Reach.refl _⟩)
      · exact Or.inl h1
      · exact Or.inr (Or.inr ⟨h1, Reach.refl _⟩)

theorem reach_perm {E E' : List Edge} (h : E.Perm E') {a b : Nat} :
    Reach E a b ↔ Reach E' a b :=
  ⟨Reach.mono (fun _ he => h.mem_iff.mp he), Reach.mono (fun _ he => h.mem_iff.mpr he)⟩

theorem reach_cons {E : List Edge} {c d a b : Nat} (h : Reach ((c, d) :: E) a b) :
    Reach E a b ∨ (Reach E a c ∧ Reach E d b) ∨ (Reach E a d ∧ Reach E c b) := by
  apply reach_snoc (c := c) (d := d)
  refine Reach.mono ?_ h
  intro e he
  simp only [List.mem_cons, List.mem_append, List.not_mem_nil, or_false] at he ⊢
  exact he.symm

theorem acyclic_nil : Acyclic [] := by
  intro i h
  cases h

theorem perm_getElem_eraseIdx {α : Type} : ∀ (l : List α) (i : Nat) (h : i < l.length),
    l.Perm (l[i] :: l.eraseIdx i)
  | [], _, h => by cases h
  | x :: l, 0, _ => by simp
  | x :: l, i + 1, h => by
    have h' : i < l.length := by simpa using h
    have ih := perm_getElem_eraseIdx l i h'
    simp only [List.getElem_cons_succ, List.eraseIdx_cons_succ]
    exact (List.Perm.cons x ih).trans (List.Perm.swap _ _ _)

theorem acyclic_iff_perm (E : List Edge) :
    Acyclic E ↔ ∀ (e : Edge) (E' : List Edge), E.Perm (e :: E') → ¬ Reach E' e.1 e.2 := by
  constructor
  · intro h e E' hp hr
    have he : e ∈ E := hp.mem_iff.mpr List.mem_cons_self
    obtain ⟨i, hi, hget⟩ := List.getElem_of_mem he
    have hp2 := perm_getElem_eraseIdx E i hi
    rw [hget] at hp2
    have hp3 : E'.Perm (E.eraseIdx i) := (hp.symm.trans hp2).cons_inv
    have := h i hi
    rw [hget] at this
    exact this ((reach_perm hp3).mp hr)
  · intro h i hi
    exact h _ _ (perm_getElem_eraseIdx E i hi)

theorem acyclic_snoc {P : List Edge} {a b : Nat} (hP : Acyclic P) (hab : ¬ Reach P a b) :
    Acyclic (P ++ [(a, b)]) := by
  rw [acyclic_iff_perm] at hP ⊢
  intro e R hp hreach
  obtain ⟨he, hR⟩ := List.cons_perm_iff_perm_erase.mp (hp.symm.trans (List.perm_append_singleton _ _))
  by_cases hab' : e = (a, b)
  · subst hab'
    rw [List.erase_cons_head] at hR
    exact hab ((reach_perm hR).mp hreach)
  · -- an old edge `x–y`: a walk `x ~ y` through the new edge would join `a` and `b` inside `P`
    have heP : e ∈ P := (List.mem_cons.mp he).resolve_left hab'
    rw [List.erase_cons_tail (by simpa using Ne.symm hab')] at hR
    have hbr := hP e _ (List.perm_cons_erase heP)
    have hsub : ∀ x, x ∈ P.erase e → x ∈ P := fun x hx => List.mem_of_mem_erase hx
    have hadj : Reach P e.1 e.2 := Reach.single (Or.inl heP)
    rcases reach_cons ((reach_perm hR).mp hreach) with h | ⟨h1, h2⟩ | ⟨h1, h2⟩
    · exact hbr h
    · exact hab (Reach.trans (Reach.symm (Reach.mono hsub h1)) (Reach.trans hadj (Reach.symm (Reach.mono hsub h2))))
    · exact hab (Reach.symm (Reach.trans (Reach.symm (Reach.mono hsub h1))
        (Reach.trans hadj (Reach.symm (Reach.mono hsub h2)))))

/-- two vertices carry the same label iff they are joined by the edges processed so far -/
def Inv (lab : Nat → Nat) (P : List Edge) : Prop := ∀ u v, lab u = lab v ↔ Reach P u v

theorem inv_id : Inv id [] := by
  intro u v
  constructor
  · intro h
    have : u = v := h
    subst this
    exact Reach.refl _
  · intro h
    exact reach_nil h

theorem inv_merge {lab : Nat → Nat} {P : List Edge} {a b : Nat} (hinv : Inv lab P)
    (hne : lab a ≠ lab b) : Inv (merge lab (lab a) (lab b)) (P ++ [(a, b)]) := by
  have hsub : ∀ e, e ∈ P → e ∈ P ++ [(a, b)] := fun e he => List.mem_append.mpr (Or.inl he)
  have hnew : Adj (P ++ [(a, b)]) a b := Or.inl (List.mem_append.mpr (Or.inr (List.mem_singleton.mpr rfl)))
  intro u v
  constructor
  · intro h
    simp only [merge] at h
    by_cases hu : lab u = lab b <;> by_cases hv : lab v = lab b
    · exact Reach.mono hsub ((hinv u v).mp (hu.trans hv.symm))
    · simp only [hu, hv, if_true, if_false] at h
      exact Reach.trans (Reach.mono hsub ((hinv u b).mp hu))
        (Reach.trans (Reach.single (Adj.symm hnew)) (Reach.mono hsub ((hinv a v).mp h)))
    · simp only [hu, hv, if_true, if_false] at h
      exact Reach.trans (Reach.mono hsub ((hinv u a).mp h))
        (Reach.trans (Reach.single hnew) (Reach.mono hsub ((hinv b v).mp hv.symm)))
    · simp only [hu, hv, if_false] at h
      exact Reach.mono hsub ((hinv u v).mp h)
  · intro h
    -- the new labelling is constant along every edge of `P ++ [(a,b)]`
    induction h with
    | refl => rfl
    | step _ hadj ih =>
      refine ih.trans ?_
      rcases adj_snoc hadj with hE | ⟨hx, hy⟩ | ⟨hx, hy⟩
      · have := (hinv _ _).mpr (Reach.single hE)
        simp only [merge, this]
      · subst hx; subst hy
        simp only [merge, hne, if_false, if_true]
      · subst hx; subst hy
        simp only [merge, hne, if_false, if_true]

theorem unionAll_some {R : List Edge} : ∀ {lab lab' : Nat → Nat} {P : List Edge},
    Inv lab P → Acyclic P → unionAll lab R = some lab' → Inv lab' (P ++ R) ∧ Acyclic (P ++ R) := by
  induction R with
  | nil =>
    intro lab lab' P hinv hac h
    simp only [unionAll, Option.some.injEq] at h
    subst h
    simpa using ⟨hinv, hac⟩
  | cons e R ih =>
    intro lab lab' P hinv hac h
    obtain ⟨a, b⟩ := e
    simp only [unionAll] at h
    by_cases hab : lab a = lab b
    · simp [hab] at h
    · simp only [hab, if_false] at h
      have hnr : ¬ Reach P a b := fun hr => hab ((hinv a b).mpr hr)
      have := ih (inv_merge hinv hab) (acyclic_snoc hac hnr) h
      simpa [List.append_assoc] using this

theorem unionAll_none {R : List Edge} : ∀ {lab : Nat → Nat} {P : List Edge},
    Inv lab P → Acyclic P → unionAll lab R = none → ¬ Acyclic (P ++ R) := by
  induction R with
  | nil =>
    intro lab P _ _ h
    simp [unionAll] at h
  | cons e R ih =>
    intro lab P hinv hac h
    obtain ⟨a, b⟩ := e
    simp only [unionAll] at h
    by_cases hab : lab a = lab b
    · -- the edge (a,b) is not a bridge: its ends are already joined inside `P`
      intro hacyc
      exact (acyclic_iff_perm _).mp hacyc (a, b) (P ++ R) List.perm_middle
        (Reach.mono (fun e he => List.mem_append.mpr (Or.inl he)) ((hinv a b).mp hab))
    · simp only [hab, if_false] at h
      have hnr : ¬ Reach P a b := fun hr => hab ((hinv a b).mpr hr)
      have := ih (inv_merge hinv hab) (acyclic_snoc hac hnr) h
      simpa [List.append_assoc] using this

theorem contains_iff {l : List Nat} {x : Nat} : l.contains x = true ↔ x ∈ l := by
  simp

end AdaptaVerif.Lemmas.Tree
