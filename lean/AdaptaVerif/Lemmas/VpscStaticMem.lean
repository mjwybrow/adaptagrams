/-
Member lists and heap contents of the static VPSC solver's model (`Model/VpscStatic.lean`):
 * `MemOK`  — the member list `Block::vars` of every block that owns a variable lists only its own variables;
 * `InOK` / `OutOK` — every constraint in the in-heap (out-heap) of a block that owns a variable has its
   right (left) end in that block;
both preserved by every primitive of `mergeLeft`, `mergeRight`, `Blocks::split` (`WF`; along whole runs in
`Lemmas/VpscStaticRun.lean`).
Of the heap side `HS` the invariants read the two heap arrays and the fuel flag only.  `Quiet` (none of the three
changes) and `Shrinks` (no heap gains an element, the flag stays) are the two kinds of step; every function of the
heap side has one lemma saying what it does in these terms (`findMinIn_spec`, `findMinOut_spec`: the constraint
handed back is in the heap of the block asked and joins it to another block).  `MFrame` is what everything made of
merges leaves alone in the solver state; `mergeLeftStep_keeps` / `mergeRightStep_keeps` are one round of the loops.
The heap itself is used through one fact only: no operation of the pairing heap adds an element that was not put
in (`he_insert`, `he_deleteMin`, `he_merge` on `heapElems`, from the `Subperm` facts of `Lemmas/PairingHeap.lean`).
It holds for every comparison — the solver's changes under the heap, so the heaps here are not ordered.
-/
import AdaptaVerif.Lemmas.VpscStatic
import AdaptaVerif.Lemmas.VpscStaticFrame
import AdaptaVerif.Lemmas.VpscStaticFuel
import AdaptaVerif.Lemmas.PairingHeap
import AdaptaVerif.Lemmas.Util.Array
namespace AdaptaVerif.Lemmas.VpscStaticMem
open AdaptaVerif.Model.Vpsc AdaptaVerif.Model.VpscStatic
open AdaptaVerif.Lemmas.VpscModel AdaptaVerif.Lemmas.VpscHistory
open AdaptaVerif.Lemmas.VpscInv AdaptaVerif.Lemmas.VpscMerge AdaptaVerif.Lemmas.VpscSplit
open AdaptaVerif.Lemmas.VpscStatic AdaptaVerif.Lemmas.VpscLoop AdaptaVerif.Lemmas.VpscStaticFuel
open AdaptaVerif.Model.PairingHeap AdaptaVerif.Lemmas.PairingHeap

theorem he_insert {lt : Nat → Nat → Bool} (h : Heap) (k : Nat) :
    ∀ c ∈ heapElems (AdaptaVerif.Model.PairingHeap.insert lt h k k), c = k ∨ c ∈ heapElems h := fun c hc => by
  have := List.map_subset (·.1) (elems_insert_subperm (lt := lt) h k k).subset hc
  rw [List.map_cons] at this
  exact List.mem_cons.1 this

theorem he_deleteMin {lt : Nat → Nat → Bool} (h : Heap) :
    ∀ c ∈ heapElems (deleteMin lt h), c ∈ heapElems h := fun c hc => by
  cases h with
  | nil => exact hc
  | node k i ch s =>
    exact List.map_subset (·.1) (fun x hx => List.mem_cons_of_mem _
      (List.mem_append_left _ ((elems_deleteMin_subperm (lt := lt) k i ch s).subset hx))) hc

theorem he_merge {lt : Nat → Nat → Bool} (a b : Heap) :
    ∀ c ∈ heapElems (AdaptaVerif.Model.PairingHeap.merge lt a b), c ∈ heapElems a ∨ c ∈ heapElems b := fun c hc => by
  have := List.map_subset (·.1) (elems_merge_subperm (lt := lt) a b).subset hc
  rw [List.map_append] at this
  exact List.mem_append.1 this

theorem he_findMin (h : Heap) (x : Nat × Nat) (hx : findMin h = some x) : x.1 ∈ heapElems h :=
  List.mem_map.2 ⟨x, findMin_mem hx, rfl⟩

theorem len_deleteMin {lt : Nat → Nat → Bool} (h : Heap) (x : Nat × Nat) (hx : findMin h = some x) :
    (heapElems (deleteMin lt h)).length < (heapElems h).length := by
  simpa only [heapElems, List.length_map] using length_elems_deleteMin_lt (lt := lt) hx

def Owns (st : St) (b : Nat) : Prop := ∃ v, v < st.vars.size ∧ blkOf st v = b

def MemOK (st : St) : Prop :=
  ∀ b v, Owns st b → v ∈ (st.blocks[b]!).vars → v < st.vars.size → blkOf st v = b

/-- `HeapIn st h b` is `∀ c ∈ heapElems h, EndIn (·.r) st c b` written out, `HeapOut` the same with `·.l`: they
    serve to state `InOK` / `OutOK` only; the proofs read these through `inOK_iff` / `outOK_iff` as `HeapsOK` -/
def HeapIn (st : St) (h : Heap) (b : Nat) : Prop :=
  ∀ c ∈ heapElems h, c < st.cons.size ∧ blkOf st (st.cons[c]!).r = b
def HeapOut (st : St) (h : Heap) (b : Nat) : Prop :=
  ∀ c ∈ heapElems h, c < st.cons.size ∧ blkOf st (st.cons[c]!).l = b

def InOK (st : St) (hs : HS) : Prop := ∀ b h, hs.inH[b]! = some h → Owns st b → HeapIn st h b
def OutOK (st : St) (hs : HS) : Prop := ∀ b h, hs.outH[b]! = some h → Owns st b → HeapOut st h b

theorem heapElems_nil : heapElems (.nil : Heap) = [] := rfl

/-- `InOK` and `OutOK` are one statement about an array of heaps: every constraint `c` in the heap of a block
    `b` that owns a variable has `Q c b` -/
def HeapsOK (Q : Nat → Nat → Prop) (own : Nat → Prop) (A : Array (Option Heap)) : Prop :=
  ∀ b h, A[b]! = some h → own b → ∀ c ∈ heapElems h, Q c b

def EndIn (far : Con → Nat) (st : St) (c b : Nat) : Prop :=
  c < st.cons.size ∧ blkOf st (far (st.cons[c]!)) = b

theorem inOK_iff {st : St} {hs : HS} : InOK st hs ↔ HeapsOK (EndIn (fun k => k.r) st) (Owns st) hs.inH := Iff.rfl
theorem outOK_iff {st : St} {hs : HS} : OutOK st hs ↔ HeapsOK (EndIn (fun k => k.l) st) (Owns st) hs.outH := Iff.rfl

def HOK (st : St) (hs : HS) : Prop := InOK st hs ∧ OutOK st hs

/-- the heap of block `b` in a heap array, empty if there is none (`getIn hs b = getH hs.inH b`) -/
def getH (A : Array (Option Heap)) (b : Nat) : Heap := (A[b]!).getD .nil

theorem heapsOK_iff {Q : Nat → Nat → Prop} {own : Nat → Prop} {A : Array (Option Heap)} :
    HeapsOK Q own A ↔ ∀ b, own b → ∀ c ∈ heapElems (getH A b), Q c b := by
  refine ⟨fun h b hb => ?_, fun h b g hg hb c hc => h b hb c (by unfold getH; rw [hg]; exact hc)⟩
  unfold getH
  cases hh : A[b]! with
  | none => intro c hc; simp [heapElems_nil] at hc
  | some h' => exact h b h' hh hb

theorem HeapsOK.set {Q : Nat → Nat → Prop} {own : Nat → Prop} {A : Array (Option Heap)} (h : HeapsOK Q own A)
    {b : Nat} {h' : Heap} (hh : own b → ∀ c ∈ heapElems h', Q c b) : HeapsOK Q own (A.set! b (some h')) := by
  intro b' g hb' hown
  rw [Util.get!_set!] at hb'
  split at hb'
  · rename_i e
    obtain rfl := e.1
    cases hb'
    exact hh hown
  · exact h b' g hb' hown

theorem getH_set_sub {A : Array (Option Heap)} {b : Nat} {h' : Heap}
    (hsub : ∀ c ∈ heapElems h', c ∈ heapElems (getH A b)) (b' : Nat) :
    ∀ c ∈ heapElems (getH (A.set! b (some h')) b'), c ∈ heapElems (getH A b') := by
  unfold getH
  rw [Util.get!_set!]
  split
  · rename_i e
    obtain rfl := e.1
    exact hsub
  · exact fun _ hc => hc

/-- `Block::mergeIn` / `mergeOut` on the heap array: the heap of `src`, whose constraints now belong to `dst`, is
    melded into `dst`'s -/
theorem HeapsOK.meld {Q : Nat → Nat → Prop} {own : Nat → Prop} {A : Array (Option Heap)} (h : HeapsOK Q own A)
    {dst src : Nat} (lt : Nat → Nat → Bool) (hsrc : ∀ c ∈ heapElems (getH A src), Q c dst) :
    HeapsOK Q own ((A.set! dst (some (merge lt (getH A dst) (getH A src)))).set! src (some .nil)) :=
  (h.set fun hown c hc => (he_merge _ _ c hc).elim (heapsOK_iff.1 h _ hown c) (hsrc c)).set
    fun _ c hc => by simp [heapElems_nil] at hc

def SameH (a b : HS) : Prop := a.inH = b.inH ∧ a.outH = b.outH
theorem SameH.refl (a : HS) : SameH a a := ⟨rfl, rfl⟩
theorem SameH.trans {a b c : HS} (h1 : SameH a b) (h2 : SameH b c) : SameH a c :=
  ⟨h1.1.trans h2.1, h1.2.trans h2.2⟩

theorem HOK.of_same {st : St} {hs hs' : HS} (h : HOK st hs) (he : SameH hs' hs) : HOK st hs' :=
  ⟨fun b g hb => h.1 b g (by rw [← he.1]; exact hb), fun b g hb => h.2 b g (by rw [← he.2]; exact hb)⟩

/-- of the heap side the invariants read the two heap arrays and the fuel flag, nothing else: an update that leaves
    these alone (margins, counters, time stamps) is invisible to them -/
def Quiet (a b : HS) : Prop := SameH a b ∧ a.fuelOut = b.fuelOut
theorem Quiet.refl (a : HS) : Quiet a a := ⟨SameH.refl a, rfl⟩
theorem Quiet.trans {a b c : HS} (h1 : Quiet a b) (h2 : Quiet b c) : Quiet a c :=
  ⟨h1.1.trans h2.1, h1.2.trans h2.2⟩

/-- `hs'` arises from `hs` by an operation that adds nothing to any heap and leaves the fuel flag alone
    (`deleteMin…Constraint`, `findMin…Constraint`, and everything `Quiet`) -/
structure Shrinks (hs hs' : HS) : Prop where
  fo : hs'.fuelOut = hs.fuelOut
  inS : ∀ b c, c ∈ heapElems (getH hs'.inH b) → c ∈ heapElems (getH hs.inH b)
  outS : ∀ b c, c ∈ heapElems (getH hs'.outH b) → c ∈ heapElems (getH hs.outH b)

theorem Shrinks.of_quiet {hs hs' : HS} (h : Quiet hs' hs) : Shrinks hs hs' :=
  ⟨h.2, fun _ _ hc => by rw [← h.1.1]; exact hc, fun _ _ hc => by rw [← h.1.2]; exact hc⟩

theorem Shrinks.trans {a b c : HS} (h1 : Shrinks a b) (h2 : Shrinks b c) : Shrinks a c :=
  ⟨h2.fo.trans h1.fo, fun b x hx => h1.inS b x (h2.inS b x hx), fun b x hx => h1.outS b x (h2.outS b x hx)⟩

theorem Shrinks.ok {st : St} {hs hs' : HS} (h : Shrinks hs hs') (hk : HOK st hs) : HOK st hs' :=
  ⟨inOK_iff.2 (heapsOK_iff.2 fun b hb c hc => heapsOK_iff.1 (inOK_iff.1 hk.1) b hb c (h.inS b c hc)),
   outOK_iff.2 (heapsOK_iff.2 fun b hb c hc => heapsOK_iff.1 (outOK_iff.1 hk.2) b hb c (h.outS b c hc))⟩

theorem noteKeys_quiet (st : St) (hs : HS) (cs : List Nat) : Quiet (hs.noteKeys st cs) hs := ⟨⟨rfl, rfl⟩, rfl⟩

theorem checkExact_quiet (hs : HS) (st : St) (b : Nat) : Quiet (hs.checkExact st b) hs := by
  unfold HS.checkExact; split <;> exact ⟨⟨rfl, rfl⟩, rfl⟩

theorem noteCmp_quiet (hs : HS) (x : Rat) : Quiet (hs.noteCmp x) hs := by
  unfold HS.noteCmp; split <;> exact ⟨⟨rfl, rfl⟩, rfl⟩

theorem noteScan_quiet (st : St) (hs : HS) : Quiet (noteScan st hs) hs := by
  unfold noteScan
  refine List.foldlRecOn (motive := fun a : HS => Quiet a hs) _ _ (Quiet.refl _) fun a ha ci _ => ?_
  split
  · exact ha
  · exact ha

theorem foldl_insert_spec (f : HS × Heap → Nat → HS × Heap)
    (hf : ∀ a x, Quiet (f a x).1 a.1 ∧ ∀ c ∈ heapElems (f a x).2, c ∈ heapElems a.2 ∨ c = x)
    (l : List Nat) (acc : HS × Heap) :
    Quiet (l.foldl f acc).1 acc.1 ∧ ∀ c ∈ heapElems (l.foldl f acc).2, c ∈ heapElems acc.2 ∨ c ∈ l :=
  List.foldlRecOn (motive := fun a => Quiet a.1 acc.1 ∧ ∀ c ∈ heapElems a.2, c ∈ heapElems acc.2 ∨ c ∈ l) l f
    ⟨Quiet.refl _, fun _ hc => Or.inl hc⟩ fun a ⟨h1, h2⟩ x hx =>
      ⟨(hf a x).1.trans h1, fun c hc => ((hf a x).2 c hc).elim (h2 c) fun e => Or.inr (e ▸ hx)⟩

theorem setUpStep_spec (st : St) (b : Nat) (isIn : Bool) (acc : HS × Heap) (ci : Nat) :
    Quiet (setUpStep st b isIn acc ci).1 acc.1 ∧
    ∀ c ∈ heapElems (setUpStep st b isIn acc ci).2, c ∈ heapElems acc.2 ∨ c = ci := by
  unfold setUpStep
  cases isIn <;> simp only [Bool.false_eq_true, if_false, if_true] <;> split
  all_goals first
    | exact ⟨⟨⟨rfl, rfl⟩, rfl⟩, fun c hc => (he_insert _ _ c hc).symm⟩
    | exact ⟨⟨⟨rfl, rfl⟩, rfl⟩, fun c hc => Or.inl hc⟩

theorem setUpHeap_spec (st : St) (hs : HS) (b : Nat) (isIn : Bool) :
    Quiet (setUpHeap st hs b isIn).1 hs ∧
    ∀ c ∈ heapElems (setUpHeap st hs b isIn).2, c ∈ heapCands st b isIn := by
  unfold setUpHeap
  simp only
  obtain ⟨h1, h2⟩ := foldl_insert_spec _ (setUpStep_spec st b isIn) (heapCands st b isIn) (hs, .nil)
  refine ⟨(noteKeys_quiet _ _ _).trans h1, fun c hc => ?_⟩
  rcases h2 c hc with h | h
  · simp [heapElems_nil] at h
  · exact h

theorem cands_in (st : St) {n : Nat} {ia : Array Nat} (hI : InvC st.vars st.cons n ia) (hM : MemOK st)
    (b : Nat) (hb : Owns st b) : ∀ c ∈ heapCands st b true, c < st.cons.size ∧ blkOf st (st.cons[c]!).r = b := by
  intro c hc
  simp only [heapCands, List.mem_flatten, List.mem_map, if_true] at hc
  obtain ⟨l, ⟨v, hv, rfl⟩, hcl⟩ := hc
  have hcl' : c ∈ (st.vars[v]!).ins := by simpa using hcl
  obtain ⟨hlt, hr⟩ := hI.ins_sound v c hcl'
  rw [hr]
  exact ⟨hlt, hM b v hb (by simpa using hv) (lt_of_mem_ins hcl')⟩

theorem cands_out (st : St) {n : Nat} {ia : Array Nat} (hI : InvC st.vars st.cons n ia) (hM : MemOK st)
    (b : Nat) (hb : Owns st b) : ∀ c ∈ heapCands st b false, c < st.cons.size ∧ blkOf st (st.cons[c]!).l = b := by
  intro c hc
  simp only [heapCands, List.mem_flatten, List.mem_map, Bool.false_eq_true, if_false] at hc
  obtain ⟨l, ⟨v, hv, rfl⟩, hcl⟩ := hc
  have hcl' : c ∈ (st.vars[v]!).outs := by simpa using hcl
  obtain ⟨hlt, hr⟩ := hI.outs_sound v c hcl'
  rw [hr]
  exact ⟨hlt, hM b v hb (by simpa using hv) (lt_of_mem_outs hcl')⟩

theorem setUpIn_fo (st : St) (hs : HS) (b : Nat) : (setUpIn st hs b).fuelOut = hs.fuelOut := by
  simp only [setUpIn]; exact (setUpHeap_spec st hs b true).1.2

theorem setUpOut_fo (st : St) (hs : HS) (b : Nat) : (setUpOut st hs b).fuelOut = hs.fuelOut := by
  simp only [setUpOut]; exact (setUpHeap_spec st hs b false).1.2

theorem setUpIn_ok (st : St) (hs : HS) (b : Nat) {n : Nat} {ia : Array Nat}
    (hI : InvC st.vars st.cons n ia) (hM : MemOK st) (h : HOK st hs) : HOK st (setUpIn st hs b) := by
  obtain ⟨hq, hc⟩ := setUpHeap_spec st hs b true
  have e : (setUpIn st hs b).outH = hs.outH := Eq.trans (by simp only [setUpIn]) hq.1.2
  refine ⟨?_, fun b' g hb' => h.2 b' g (by rw [← e]; exact hb')⟩
  rw [inOK_iff]
  unfold setUpIn
  simp only
  rw [hq.1.1]
  exact (inOK_iff.1 h.1).set fun hown c hc' => cands_in st hI hM _ hown c (hc c hc')

theorem setUpOut_ok (st : St) (hs : HS) (b : Nat) {n : Nat} {ia : Array Nat}
    (hI : InvC st.vars st.cons n ia) (hM : MemOK st) (h : HOK st hs) : HOK st (setUpOut st hs b) := by
  obtain ⟨hq, hc⟩ := setUpHeap_spec st hs b false
  have e : (setUpOut st hs b).inH = hs.inH := Eq.trans (by simp only [setUpOut]) hq.1.1
  refine ⟨fun b' g hb' => h.1 b' g (by rw [← e]; exact hb'), ?_⟩
  rw [outOK_iff]
  unfold setUpOut
  simp only
  rw [hq.1.2]
  exact (outOK_iff.1 h.2).set fun hown c hc' => cands_out st hI hM _ hown c (hc c hc')

/-- the root of `h`, if there is one, is external: it joins two different blocks (`internal = false`) -/
def RootExternal (st : St) (h : Heap) : Prop := ∀ x, findMin h = some x → internal st x.1 = false

theorem rootExternal_nil (st : St) : RootExternal st .nil := fun x hx => by simp [findMin] at hx

/-- the loop of `findMinOutConstraint`: every round deletes the root, so with more fuel than elements the fuel flag is
    untouched -/
theorem findMinOutLoop_spec (st : St) : ∀ (fuel : Nat) (hs : HS) (h : Heap),
    SameH (findMinOutLoop st fuel hs h).1 hs ∧
    (∀ c ∈ heapElems (findMinOutLoop st fuel hs h).2, c ∈ heapElems h) ∧
    RootExternal st (findMinOutLoop st fuel hs h).2 ∧
    ((heapElems h).length < fuel → (findMinOutLoop st fuel hs h).1.fuelOut = hs.fuelOut)
  | 0, hs, h => ⟨⟨rfl, rfl⟩, fun c hc => by simp [findMinOutLoop, heapElems_nil] at hc, rootExternal_nil st,
      fun hlt => by omega⟩
  | fuel + 1, hs, h => by
    unfold findMinOutLoop
    split
    · rename_i hn
      exact ⟨SameH.refl _, fun c hc => hc, (show RootExternal st h from fun x hx => by rw [hn] at hx; cases hx),
        fun _ => rfl⟩
    · rename_i v i hv
      split
      · obtain ⟨h1, h2, h3, h4⟩ := findMinOutLoop_spec st fuel { hs with nInternal := hs.nInternal + 1 }
          (deleteMin (conLt st hs) h)
        have hd := len_deleteMin (lt := conLt st hs) h (v, i) hv
        exact ⟨h1.trans ⟨rfl, rfl⟩, fun c hc => he_deleteMin h c (h2 c hc), h3, fun hlt => h4 (by omega)⟩
      · rename_i hi
        refine ⟨SameH.refl _, fun c hc => hc, (show RootExternal st h from fun x hx => ?_), fun _ => rfl⟩
        rw [hv] at hx
        cases hx
        simpa using hi

theorem findMinOut_spec (st : St) (hs : HS) (b : Nat) :
    Shrinks hs (findMinOut st hs b).1 ∧
    ∀ c, (findMinOut st hs b).2 = some c → c ∈ heapElems (getH hs.outH b) ∧ internal st c = false := by
  have key := findMinOutLoop_spec st ((heapElems (getOut hs b)).length + 1)
    (hs.noteKeys st (heapElems (getOut hs b))) (getOut hs b)
  unfold findMinOut
  simp only
  generalize hfuel : (heapElems (getOut hs b)).length + 1 = fuel at key ⊢
  obtain ⟨s1, s2, s3, s4⟩ := key
  have s1' := s1.trans (noteKeys_quiet st hs _).1
  refine ⟨⟨(s4 (by omega)).trans (noteKeys_quiet st hs _).2, fun _ _ hc => by rw [← s1'.1]; exact hc, ?_⟩,
    fun c hc => ?_⟩
  · rw [s1'.2]
    exact getH_set_sub s2
  · simp only [Option.map_eq_some_iff] at hc
    obtain ⟨x, hx, rfl⟩ := hc
    exact ⟨s2 _ (he_findMin _ x hx), s3 x hx⟩

/-- the `while` loop of `findMinInConstraint`: as `findMinOutLoop_spec`; the out-of-date list gains elements of the
    heap only, all external -/
theorem findMinInLoop_spec (st : St) : ∀ (fuel : Nat) (hs : HS) (h : Heap) (ood : List Nat),
    SameH (findMinInLoop st fuel hs h ood).1 hs ∧
    (∀ c ∈ heapElems (findMinInLoop st fuel hs h ood).2.1, c ∈ heapElems h) ∧
    (∀ c ∈ (findMinInLoop st fuel hs h ood).2.2, c ∈ ood ∨ (c ∈ heapElems h ∧ internal st c = false)) ∧
    RootExternal st (findMinInLoop st fuel hs h ood).2.1 ∧
    ((heapElems h).length < fuel → (findMinInLoop st fuel hs h ood).1.fuelOut = hs.fuelOut)
  | 0, hs, h, ood => ⟨⟨rfl, rfl⟩, fun c hc => by simp [findMinInLoop, heapElems_nil] at hc,
      fun c hc => by simp [findMinInLoop] at hc, rootExternal_nil st, fun hlt => by omega⟩
  | fuel + 1, hs, h, ood => by
    unfold findMinInLoop
    split
    · rename_i hn
      exact ⟨SameH.refl _, fun c hc => hc, fun c hc => Or.inl hc,
        (show RootExternal st h from fun x hx => by rw [hn] at hx; cases hx), fun _ => rfl⟩
    · rename_i v i hv
      have hvm : v ∈ heapElems h := he_findMin h (v, i) hv
      have hd := len_deleteMin (lt := conLt st hs) h (v, i) hv
      split
      · obtain ⟨h1, h2, h3, h4, h5⟩ := findMinInLoop_spec st fuel { hs with nInternal := hs.nInternal + 1 }
          (deleteMin (conLt st hs) h) ood
        exact ⟨h1.trans ⟨rfl, rfl⟩, fun c hc => he_deleteMin h c (h2 c hc),
          fun c hc => (h3 c hc).imp_right fun ⟨a, b⟩ => ⟨he_deleteMin h c a, b⟩, h4, fun hlt => h5 (by omega)⟩
      · rename_i hi
        split
        · obtain ⟨h1, h2, h3, h4, h5⟩ := findMinInLoop_spec st fuel { hs with nStale := hs.nStale + 1 }
            (deleteMin (conLt st hs) h) (ood ++ [v])
          refine ⟨h1.trans ⟨rfl, rfl⟩, fun c hc => he_deleteMin h c (h2 c hc), fun c hc => ?_, h4,
            fun hlt => h5 (by omega)⟩
          rcases h3 c hc with h' | ⟨a, b⟩
          · rcases List.mem_append.1 h' with h'' | h''
            · exact Or.inl h''
            · simp only [List.mem_singleton] at h''; subst h''; exact Or.inr ⟨hvm, by simpa using hi⟩
          · exact Or.inr ⟨he_deleteMin h c a, b⟩
        · refine ⟨SameH.refl _, fun c hc => hc, fun c hc => Or.inl hc,
            (show RootExternal st h from fun x hx => ?_), fun _ => rfl⟩
          rw [hv] at hx
          cases hx
          simpa using hi

theorem reinsert_root (st : St) : ∀ (l : List Nat) (acc : HS × Heap),
    RootExternal st acc.2 → (∀ v ∈ l, internal st v = false) → RootExternal st (l.foldl (reinsertStep st) acc).2
  | [], _, h, _ => h
  | v :: rest, acc, h, hl => by
    rw [List.foldl_cons]
    apply reinsert_root st rest
    · intro x hx
      unfold reinsertStep at hx
      simp only at hx
      rcases findMin_insert _ _ _ x hx with h0 | h1
      · rw [h0]; exact hl v (by simp)
      · exact h x h1
    · intro w hw
      exact hl w (by simp [hw])

theorem findMinInHeap_spec (st : St) (hs : HS) (h : Heap) :
    Quiet (findMinInHeap st hs h).1 hs ∧
    (∀ c ∈ heapElems (findMinInHeap st hs h).2.1, c ∈ heapElems h) ∧
    ∀ c, (findMinInHeap st hs h).2.2 = some c →
      c ∈ heapElems (findMinInHeap st hs h).2.1 ∧ internal st c = false := by
  unfold findMinInHeap
  simp only
  obtain ⟨l1, l2, l3, l4, l5⟩ :=
    findMinInLoop_spec st ((heapElems h).length + 1) (hs.noteKeys st (heapElems h)) h []
  generalize findMinInLoop st ((heapElems h).length + 1) (hs.noteKeys st (heapElems h)) h [] = r at *
  obtain ⟨r1, r2⟩ := foldl_insert_spec (reinsertStep st)
    (fun _ _ => ⟨⟨⟨rfl, rfl⟩, rfl⟩, fun c hc => (he_insert _ _ c hc).symm⟩) r.2.2 (r.1, r.2.1)
  have hq : Quiet r.1 hs := Quiet.trans ⟨l1, l5 (by omega)⟩ (noteKeys_quiet _ _ _)
  have hext : ∀ v ∈ r.2.2, internal st v = false := fun v hv => (l3 v hv).elim (fun h' => by cases h') (·.2)
  refine ⟨?_, fun c hc => ?_, fun c hc => ?_⟩
  · split
    · exact r1.trans hq
    · exact ((noteKeys_quiet _ _ _).trans r1).trans hq
  · rcases r2 c hc with h' | h'
    · exact l2 c h'
    · exact (l3 c h').elim (fun h'' => by cases h'') (·.1)
  · simp only [Option.map_eq_some_iff] at hc
    obtain ⟨x, hx, rfl⟩ := hc
    exact ⟨he_findMin _ x hx, reinsert_root st _ _ l4 hext x hx⟩

theorem findMinIn_spec (st : St) (hs : HS) (b : Nat) :
    Shrinks hs (findMinIn st hs b).1 ∧
    ∀ c, (findMinIn st hs b).2 = some c → c ∈ heapElems (getH hs.inH b) ∧ internal st c = false := by
  obtain ⟨q, s2, s3⟩ := findMinInHeap_spec st hs (getIn hs b)
  have hi : (findMinIn st hs b).1.inH = hs.inH.set! b (some (findMinInHeap st hs (getIn hs b)).2.1) := by
    unfold findMinIn; simp only; rw [q.1.1]
  exact ⟨⟨q.2, by rw [hi]; exact getH_set_sub s2, fun _ _ hc => by rw [← q.1.2]; exact hc⟩,
    fun c hc => ⟨s2 c (s3 c hc).1, (s3 c hc).2⟩⟩

theorem deleteMinIn_shrinks (st : St) (hs : HS) (b : Nat) : Shrinks hs (deleteMinIn st hs b) :=
  ⟨rfl, getH_set_sub (he_deleteMin _), fun _ _ hc => hc⟩

theorem deleteMinOut_shrinks (st : St) (hs : HS) (b : Nat) : Shrinks hs (deleteMinOut st hs b) :=
  ⟨rfl, fun _ _ hc => hc, getH_set_sub (he_deleteMin _)⟩

/-- what `Block::mergeIn` does to what the invariants read, after its two `findMinInConstraint` calls (state `hs2`) -/
theorem mergeIn_heaps (st : St) (hs : HS) (dst src : Nat) : ∃ hs2 lt, Shrinks hs hs2 ∧
    (mergeIn st hs dst src).inH =
      (hs2.inH.set! dst (some (merge lt (getH hs2.inH dst) (getH hs2.inH src)))).set! src (some .nil) ∧
    (mergeIn st hs dst src).outH = hs2.outH ∧ (mergeIn st hs dst src).fuelOut = hs2.fuelOut := by
  unfold mergeIn
  simp only
  exact ⟨_, _, ((findMinIn_spec st hs dst).1.trans (findMinIn_spec st _ src).1).trans
    (Shrinks.of_quiet (noteKeys_quiet _ _ _)), rfl, rfl, rfl⟩

theorem mergeOut_heaps (st : St) (hs : HS) (dst src : Nat) : ∃ hs2 lt, Shrinks hs hs2 ∧
    (mergeOut st hs dst src).outH =
      (hs2.outH.set! dst (some (merge lt (getH hs2.outH dst) (getH hs2.outH src)))).set! src (some .nil) ∧
    (mergeOut st hs dst src).inH = hs2.inH ∧ (mergeOut st hs dst src).fuelOut = hs2.fuelOut := by
  unfold mergeOut
  simp only
  exact ⟨_, _, ((findMinOut_spec st hs dst).1.trans (findMinOut_spec st _ src).1).trans
    (Shrinks.of_quiet (noteKeys_quiet _ _ _)), rfl, rfl, rfl⟩

theorem mergeIn_fo (st : St) (hs : HS) (dst src : Nat) : (mergeIn st hs dst src).fuelOut = hs.fuelOut := by
  obtain ⟨hs2, _, h, _, _, hf⟩ := mergeIn_heaps st hs dst src
  exact hf.trans h.fo

theorem mergeOut_fo (st : St) (hs : HS) (dst src : Nat) : (mergeOut st hs dst src).fuelOut = hs.fuelOut := by
  obtain ⟨hs2, _, h, _, _, hf⟩ := mergeOut_heaps st hs dst src
  exact hf.trans h.fo

theorem mergeIn_ok (st : St) (hs : HS) (dst src : Nat) (hk : HOK st hs)
    (hsrc : ∀ c ∈ heapElems (getH hs.inH src), EndIn (fun k => k.r) st c dst) : HOK st (mergeIn st hs dst src) := by
  obtain ⟨hs2, lt, h, hi, ho, _⟩ := mergeIn_heaps st hs dst src
  obtain ⟨k1, k2⟩ := h.ok hk
  refine ⟨?_, fun b g hb => k2 b g (by rw [← ho]; exact hb)⟩
  rw [inOK_iff, hi]
  exact (inOK_iff.1 k1).meld lt fun c hc => hsrc c (h.inS src c hc)

theorem mergeOut_ok (st : St) (hs : HS) (dst src : Nat) (hk : HOK st hs)
    (hsrc : ∀ c ∈ heapElems (getH hs.outH src), EndIn (fun k => k.l) st c dst) : HOK st (mergeOut st hs dst src) := by
  obtain ⟨hs2, lt, h, ho, hi, _⟩ := mergeOut_heaps st hs dst src
  obtain ⟨k1, k2⟩ := h.ok hk
  refine ⟨fun b g hb => k1 b g (by rw [← hi]; exact hb), ?_⟩
  rw [outOK_iff, ho]
  exact (outOK_iff.1 k2).meld lt fun c hc => hsrc c (h.outS src c hc)

theorem blkOf_eq_blk (st : St) (x : Nat) : blkOf st x = blk st.vars x := rfl

theorem blkOf_mergeDir (st : St) (ci dst src : Nat) (d : Rat) (x : Nat) (hx : x < st.vars.size) :
    blkOf (mergeDir st ci dst src d) x = if blkOf st x = src then dst else blkOf st x := by
  rw [blkOf_eq_blk, (mergeDir_core st ci dst src d).1, shiftVars_blk _ _ _ _ _ hx]
  rfl

/-- what everything made of merges leaves alone whatever the state: sizes, `St.fuelOut` (no tree traversal is run), the
    data of every constraint -/
structure MFrame (a b : St) : Prop where
  vsz : b.vars.size = a.vars.size
  csz : b.cons.size = a.cons.size
  bsz : b.blocks.size = a.blocks.size
  fo : b.fuelOut = a.fuelOut
  cd : VpscStaticFrame.CD a b

theorem MFrame.refl (a : St) : MFrame a a := ⟨rfl, rfl, rfl, rfl, VpscStaticFrame.CD.refl a⟩
theorem MFrame.trans {a b c : St} (h1 : MFrame a b) (h2 : MFrame b c) : MFrame a c :=
  ⟨h2.vsz.trans h1.vsz, h2.csz.trans h1.csz, h2.bsz.trans h1.bsz, h2.fo.trans h1.fo, h1.cd.trans h2.cd⟩

theorem mergeDir_frame (st : St) (ci dst src : Nat) (d : Rat) : MFrame st (mergeDir st ci dst src d) := by
  obtain ⟨hv, hc, hb, hf⟩ := mergeDir_core st ci dst src d
  exact ⟨by rw [hv, shiftVars_size], by rw [hc, Util.set!_size], hb, hf, VpscStaticFrame.CD.of_set_active hc⟩

theorem mergeDir_cons_lr (st : St) (ci dst src : Nat) (d : Rat) (c : Nat) :
    ((mergeDir st ci dst src d).cons[c]!).l = (st.cons[c]!).l ∧
    ((mergeDir st ci dst src d).cons[c]!).r = (st.cons[c]!).r :=
  ⟨((mergeDir_frame st ci dst src d).cd.2 c).1, ((mergeDir_frame st ci dst src d).cd.2 c).2.1⟩

theorem owns_mergeDir {st : St} {ci dst src : Nat} {d : Rat} {b : Nat}
    (h : Owns (mergeDir st ci dst src d) b) : b = dst ∨ (Owns st b ∧ b ≠ src) := by
  obtain ⟨v, hv, hb⟩ := h
  rw [(mergeDir_frame st ci dst src d).vsz] at hv
  rw [blkOf_mergeDir _ _ _ _ _ _ hv] at hb
  split at hb
  · exact Or.inl hb.symm
  · rename_i hne
    exact Or.inr ⟨⟨v, hv, hb⟩, fun hbs => hne (hb.trans hbs)⟩

theorem mergeDir_vars_ne (st : St) (ci dst src : Nat) (d : Rat) (b : Nat) (hb : b ≠ dst) :
    ((mergeDir st ci dst src d).blocks[b]!).vars = (st.blocks[b]!).vars := by
  unfold mergeDir
  rw [refreshBlock_block_vars]
  simp only
  rw [Util.get!_set!]
  split
  · rename_i h; rw [h.1]
  · rw [Util.get!_set!, if_neg (fun hh => hb hh.1.symm)]

theorem mergeDir_vars_dst (st : St) (ci dst src : Nat) (d : Rat) (hne : dst ≠ src) :
    ∀ v ∈ ((mergeDir st ci dst src d).blocks[dst]!).vars,
      v ∈ (st.blocks[dst]!).vars ∨ v ∈ (st.blocks[src]!).vars := by
  unfold mergeDir
  rw [refreshBlock_block_vars]
  simp only
  rw [Util.get!_set!, if_neg (fun hh => hne hh.1.symm), Util.get!_set!]
  split
  · intro v hv
    simp only [Array.mem_append] at hv
    exact hv
  · intro v hv; exact Or.inl hv

/-- what the transport lemmas along `dst->merge(src, c, d)` need of the two blocks: they are different and
    each owns a variable (`mergeHyp_of`: so it is when `c` joins them) -/
structure MergeHyp (st : St) (dst src : Nat) : Prop where
  ne : dst ≠ src
  odst : Owns st dst
  osrc : Owns st src

theorem mergeHyp_of {st : St} {ci dst src : Nat} {d : Rat} (h : IC st) (hj : Joins st ci dst src d) :
    MergeHyp st dst src := by
  have hci := external_lt st ci hj.1
  have ol : Owns st (blk st.vars (st.cons[ci]!).l) := ⟨_, h.l_lt ci hci, rfl⟩
  have or' : Owns st (blk st.vars (st.cons[ci]!).r) := ⟨_, h.r_lt ci hci, rfl⟩
  rcases hj.2 with ⟨rfl, rfl, _⟩ | ⟨rfl, rfl, _⟩
  · exact ⟨fun e => hj.1 e.symm, or', ol⟩
  · exact ⟨hj.1, ol, or'⟩

theorem owns_dst {st : St} {ci dst src : Nat} {d : Rat} (hm : MergeHyp st dst src) :
    Owns (mergeDir st ci dst src d) dst := by
  obtain ⟨v, hv, hb⟩ := hm.osrc
  exact ⟨v, by rw [(mergeDir_frame st ci dst src d).vsz]; exact hv, by rw [blkOf_mergeDir _ _ _ _ _ _ hv, if_pos hb]⟩

theorem memOK_mergeDir {st : St} {ci dst src : Nat} {d : Rat} (hm : MergeHyp st dst src) (hM : MemOK st) :
    MemOK (mergeDir st ci dst src d) := by
  intro b v hown hv hvlt
  rw [(mergeDir_frame st ci dst src d).vsz] at hvlt
  rw [blkOf_mergeDir _ _ _ _ _ _ hvlt]
  by_cases hb : b = dst
  · subst hb
    rcases mergeDir_vars_dst st ci b src d hm.ne v hv with h | h
    · have := hM b v hm.odst h hvlt
      rw [this, if_neg hm.ne]
    · have := hM src v hm.osrc h hvlt
      rw [this, if_pos rfl]
  · rw [mergeDir_vars_ne st ci dst src d b hb] at hv
    rcases owns_mergeDir hown with h | ⟨h1, h2⟩
    · exact absurd h hb
    · have := hM b v h1 hv hvlt
      rw [this, if_neg h2]

theorem heapsOK_mergeDir {far : Con → Nat} {st : St} {A : Array (Option Heap)} {ci dst src : Nat} {d : Rat}
    (hfar : ∀ c : Nat, far ((mergeDir st ci dst src d).cons[c]!) = far (st.cons[c]!))
    (hlt : ∀ c : Nat, c < st.cons.size → far (st.cons[c]!) < st.vars.size)
    (hm : MergeHyp st dst src) (h : HeapsOK (EndIn far st) (Owns st) A) :
    HeapsOK (EndIn far (mergeDir st ci dst src d)) (Owns (mergeDir st ci dst src d)) A ∧
    ∀ c ∈ heapElems (getH A src), EndIn far (mergeDir st ci dst src d) c dst := by
  have key : ∀ b c, EndIn far st c b → EndIn far (mergeDir st ci dst src d) c (if b = src then dst else b) := by
    intro b c ⟨hc, hb⟩
    refine ⟨by rw [(mergeDir_frame st ci dst src d).csz]; exact hc, ?_⟩
    rw [hfar, blkOf_mergeDir _ _ _ _ _ _ (hlt c hc), hb]
  constructor
  · intro b g hb hown c hc
    rcases owns_mergeDir hown with rfl | ⟨h1, h2⟩
    · have := key b c (h b g hb hm.odst c hc)
      rwa [if_neg hm.ne] at this
    · have := key b c (h b g hb h1 c hc)
      rwa [if_neg h2] at this
  · intro c hc
    have := key src c (heapsOK_iff.1 h src hm.osrc c hc)
    rwa [if_pos rfl] at this

structure WF (s : SSt) : Prop where
  ic : IC s.st
  mem : MemOK s.st
  hin : InOK s.st s.hs
  hout : OutOK s.st s.hs

/-- `WF`, or the solver state's fuel flag is set (a tree traversal of `Block::split` or `Block::findMinLM` ran out of
    fuel); `SJ` of VpscStatic.lean is the same with `IC`, the first component of `WF`, alone (`SW.sj`) -/
def SW (s : SSt) : Prop := s.st.fuelOut = true ∨ WF s

theorem SW.sj {s : SSt} (h : SW s) : SJ s.st := by
  rcases h with h | h
  · exact Or.inl h
  · exact Or.inr h.ic

theorem WF.hok {s : SSt} (h : WF s) : HOK s.st s.hs := ⟨h.hin, h.hout⟩

theorem WF.of_eq {s : SSt} {st : St} {hs : HS} (he : s.st = st) (hh : SameH s.hs hs) (ic : IC st) (mem : MemOK st)
    (hk : HOK st hs) : WF s := by
  subst he
  exact ⟨ic, mem, (hk.of_same hh).1, (hk.of_same hh).2⟩

theorem WF.with_hs {s : SSt} (hw : WF s) {hs' : HS} (hk : HOK s.st hs') : WF { s with hs := hs' } :=
  ⟨hw.ic, hw.mem, hk.1, hk.2⟩

/-- the common tail of the bodies of `mergeLeft` / `mergeRight`: `dst->merge(src, c, d)` followed by
    `mergeIn` resp. `mergeOut` -/
theorem mergeTail (st : St) (hs : HS) (ci dst src : Nat) (d : Rat)
    (hI : IC st) (hM : MemOK st) (hk : HOK st hs) (hj : Joins st ci dst src d) :
    IC (mergeDir st ci dst src d) ∧ MemOK (mergeDir st ci dst src d) ∧ Owns (mergeDir st ci dst src d) dst ∧
    (∀ hs' : HS, SameH hs' hs → HOK (mergeDir st ci dst src d) (mergeIn (mergeDir st ci dst src d) hs' dst src)) ∧
    (∀ hs' : HS, SameH hs' hs → HOK (mergeDir st ci dst src d) (mergeOut (mergeDir st ci dst src d) hs' dst src)) := by
  have hm : MergeHyp st dst src := mergeHyp_of hI hj
  obtain ⟨i1, i2⟩ := heapsOK_mergeDir (far := fun k => k.r) (ci := ci) (d := d)
    (fun c => (mergeDir_cons_lr st ci dst src d c).2) (fun c hc => hI.r_lt c hc) hm hk.1
  obtain ⟨o1, o2⟩ := heapsOK_mergeDir (far := fun k => k.l) (ci := ci) (d := d)
    (fun c => (mergeDir_cons_lr st ci dst src d c).1) (fun c hc => hI.l_lt c hc) hm hk.2
  refine ⟨mergeDir_IC st ci dst src d hI hj, memOK_mergeDir hm hM, owns_dst hm, ?_, ?_⟩
  · intro hs' hsame
    refine mergeIn_ok _ hs' dst src (HOK.of_same ⟨i1, o1⟩ hsame) ?_
    rw [hsame.1]; exact i2
  · intro hs' hsame
    refine mergeOut_ok _ hs' dst src (HOK.of_same ⟨i1, o1⟩ hsame) ?_
    rw [hsame.2]; exact o2

theorem stampB_quiet (hs : HS) (b : Nat) : Quiet (stampB hs b) hs := ⟨⟨rfl, rfl⟩, rfl⟩

theorem mergeLeftPre_ok (s : SSt) (r c : Nat) (hw : WF s) :
    HOK s.st (mergeLeftPre s r c) ∧ (mergeLeftPre s r c).fuelOut = s.hs.fuelOut := by
  have d := (deleteMinIn_shrinks s.st s.hs r)
  -- `mergeLeftPre` is this `if` (the in-heap of the left block is set up only if it has none) with counters bumped,
  -- which `HOK` does not read
  have hpre : HOK s.st (if ((deleteMinIn s.st s.hs r).inH[blkOf s.st (s.st.cons[c]!).l]!).isNone
        then setUpIn s.st (deleteMinIn s.st s.hs r) (blkOf s.st (s.st.cons[c]!).l) else deleteMinIn s.st s.hs r) ∧
      (if ((deleteMinIn s.st s.hs r).inH[blkOf s.st (s.st.cons[c]!).l]!).isNone
        then setUpIn s.st (deleteMinIn s.st s.hs r) (blkOf s.st (s.st.cons[c]!).l) else deleteMinIn s.st s.hs r).fuelOut =
        s.hs.fuelOut := by
    split
    · exact ⟨setUpIn_ok s.st _ _ hw.ic hw.mem (d.ok hw.hok), (setUpIn_fo _ _ _).trans d.fo⟩
    · exact ⟨d.ok hw.hok, d.fo⟩
  exact ⟨hpre.1.of_same ⟨by simp only [mergeLeftPre], by simp only [mergeLeftPre]⟩, hpre.2⟩

theorem mergeRightPre_ok (s : SSt) (l c : Nat) (hw : WF s) :
    HOK s.st (mergeRightPre s l c) ∧ (mergeRightPre s l c).fuelOut = s.hs.fuelOut := by
  have d := (deleteMinOut_shrinks s.st s.hs l)
  exact ⟨(setUpOut_ok s.st (deleteMinOut s.st s.hs l) (blkOf s.st (s.st.cons[c]!).r) hw.ic hw.mem (d.ok hw.hok)).of_same
    ⟨by simp only [mergeRightPre], by simp only [mergeRightPre]⟩, by
      simp only [mergeRightPre]; rw [setUpOut_fo]; exact d.fo⟩

theorem mergeLeftStep_keeps (s : SSt) (r c : Nat) :
    MFrame s.st (mergeLeftStep s r c).1.st ∧
    (WF s → internal s.st c = false → blkOf s.st (s.st.cons[c]!).r = r →
      WF (mergeLeftStep s r c).1 ∧ Owns (mergeLeftStep s r c).1.st (mergeLeftStep s r c).2 ∧
      (mergeLeftStep s r c).1.hs.fuelOut = s.hs.fuelOut) := by
  obtain ⟨dst, src, d, he, hh, he2, hj⟩ := mergeLeftStep_eq s r c
  refine ⟨by rw [he]; exact mergeDir_frame _ _ _ _ _, fun hw hint hr => ?_⟩
  obtain ⟨p1, p2⟩ := mergeLeftPre_ok s r c hw
  obtain ⟨t1, t2, t3, t4, _⟩ := mergeTail s.st (mergeLeftPre s r c) c dst src d hw.ic hw.mem p1 (hj hint hr)
  have u := t4 ((mergeLeftPre s r c).checkExact (mergeDir s.st c dst src d) dst) (checkExact_quiet _ _ _).1
  exact ⟨WF.of_eq he (by rw [hh]; exact (stampB_quiet _ _).1) t1 t2 u, by rw [he, he2]; exact t3,
    by rw [hh, (stampB_quiet _ _).2, mergeIn_fo, (checkExact_quiet _ _ _).2, p2]⟩

theorem mergeRightStep_keeps (s : SSt) (l c : Nat) :
    MFrame s.st (mergeRightStep s l c).1.st ∧
    (WF s → internal s.st c = false → blkOf s.st (s.st.cons[c]!).l = l →
      WF (mergeRightStep s l c).1 ∧ Owns (mergeRightStep s l c).1.st (mergeRightStep s l c).2 ∧
      (mergeRightStep s l c).1.hs.fuelOut = s.hs.fuelOut) := by
  obtain ⟨dst, src, d, he, hh, he2, hj⟩ := mergeRightStep_eq s l c
  refine ⟨by rw [he]; exact mergeDir_frame _ _ _ _ _, fun hw hint hl => ?_⟩
  obtain ⟨p1, p2⟩ := mergeRightPre_ok s l c hw
  obtain ⟨t1, t2, t3, _, t5⟩ := mergeTail s.st (mergeRightPre s l c) c dst src d hw.ic hw.mem p1 (hj hint hl)
  have u := t5 ((mergeRightPre s l c).checkExact (mergeDir s.st c dst src d) dst) (checkExact_quiet _ _ _).1
  exact ⟨WF.of_eq he (by rw [hh]; exact SameH.refl _) t1 t2 u, by rw [he, he2]; exact t3,
    by rw [hh, mergeOut_fo, (checkExact_quiet _ _ _).2, p2]⟩

theorem set_none_some (X : Array (Option Heap)) (i b : Nat) (h : Heap)
    (hb : (X.set! i none)[b]! = some h) : b ≠ i ∧ X[b]! = some h := by
  rw [Util.get!_set!] at hb
  split at hb
  · cases hb
  · rename_i hne
    refine ⟨fun e => ?_, hb⟩
    subst e
    by_cases hlt : b < X.size
    · exact hne ⟨rfl, hlt⟩
    · rw [getElem!_neg X b hlt] at hb; cases hb

theorem push2_some (a : Array (Option Heap)) (b : Nat) (h : Heap)
    (hb : ((a.push none).push none)[b]! = some h) : a[b]! = some h := by
  rw [Util.get!_push] at hb
  split at hb
  · rw [Util.get!_push] at hb
    split at hb
    · exact hb
    · split at hb <;> cases hb
  · split at hb <;> cases hb

/-- on the heap array `HS.newBlocks` makes -/
theorem newHeaps_some (A : Array (Option Heap)) (lid rid b : Nat) (h : Heap)
    (hb : ((((A.push none).push none).set! lid none).set! rid none)[b]! = some h) :
    b ≠ lid ∧ b ≠ rid ∧ A[b]! = some h := by
  obtain ⟨h1, hb1⟩ := set_none_some _ _ _ _ hb
  obtain ⟨h2, hb2⟩ := set_none_some _ _ _ _ hb1
  exact ⟨h2, h1, push2_some _ _ _ hb2⟩

theorem split_ids (st : St) (old ci : Nat) :
    (st.split old ci).2.1 = st.blocks.size ∧ (st.split old ci).2.2 = st.blocks.size + 1 := by
  rw [split_snd]
  exact ⟨rfl, rfl⟩

theorem default_block_vars : (default : Block).vars = #[] := rfl

theorem split_WF (st : St) (hs : HS) (ci : Nat) (hI : IC st) (hM : MemOK st) (hk : HOK st hs)
    (hact : (st.cons[ci]!).active = true) :
    IC (st.split (blk st.vars (st.cons[ci]!).l) ci).1 ∧
    MemOK (st.split (blk st.vars (st.cons[ci]!).l) ci).1 ∧
    HOK (st.split (blk st.vars (st.cons[ci]!).l) ci).1 (hs.newBlocks st.blocks.size (st.blocks.size + 1)) ∧
    Owns (st.split (blk st.vars (st.cons[ci]!).l) ci).1 st.blocks.size ∧
    (st.split (blk st.vars (st.cons[ci]!).l) ci).1.vars.size = st.vars.size ∧
    (st.split (blk st.vars (st.cons[ci]!).l) ci).1.fuelOut = st.fuelOut := by
  have hci := active_lt _ _ hact
  obtain ⟨P1, P2, hP1, hP2, hvars, hcons, hbs, hf, hbv⟩ := split_eq st (blk st.vars (st.cons[ci]!).l) ci
  obtain ⟨ok1, ok2⟩ := split_oks st hI _ ci hci (hI.fresh _ (hI.l_lt ci hci)) hP1 hP2
  rw [ok1, ok2, Bool.not_true, Bool.or_false, Bool.or_false] at hf
  have R := split_classify st.vars st.cons st.blocks.size _ hI ci hci hact _ _ _ hP1 hP2 ok1 ok2
  have hI' := InvC.split hI hci hact R
  have pm1 : ∀ x ∈ P1.2.1, x ∈ (#[] : Array Nat) ∨ blk P1.1 x = st.blocks.size ∨ st.vars.size ≤ x :=
    hP1 ▸ (populateSplit_onlyBlock _ _ _ _ _ _ _ _).2
  have pm2 : ∀ x ∈ P2.2.1, x ∈ (#[] : Array Nat) ∨ blk P2.1 x = st.blocks.size + 1 ∨ P1.1.size ≤ x :=
    hP2 ▸ (populateSplit_onlyBlock _ _ _ _ _ _ _ _).2
  clear hP1 hP2
  -- from here on only the facts above are used: name the new state and the old block
  generalize (st.split (blk st.vars (st.cons[ci]!).l) ci).1 = st' at *
  generalize blk st.vars (st.cons[ci]!).l = old at *
  have hsize : st'.vars.size = st.vars.size := by
    rw [hvars]; exact R.mono2.size.trans R.mono1.size
  have hown_back : ∀ b, Owns st' b → b ≠ st.blocks.size →
      b ≠ st.blocks.size + 1 → Owns st b ∧ b ≠ old := by
    intro b ⟨w, hw, hwb⟩ h1 h2
    rw [hsize] at hw
    rw [blkOf_eq_blk, hvars] at hwb
    rcases R.final w hw with ⟨a1, a2⟩ | ⟨_, a2 | a2⟩
    · rw [a2] at hwb
      exact ⟨⟨w, hw, hwb⟩, fun e => a1 (hwb.trans e)⟩
    · exact absurd (a2.symm.trans hwb).symm h1
    · exact absurd (a2.symm.trans hwb).symm h2
  have hstay : ∀ x, blk st.vars x ≠ old → blkOf st' x = blk st.vars x := fun x hne => by
    rw [blkOf_eq_blk, hvars]; exact R.out x hne
  have heaps : ∀ (far : Con → Nat),
      (∀ c : Nat, far ((st.cons.set! ci { st.cons[ci]! with active := false })[c]!) = far (st.cons[c]!)) →
      ∀ A : Array (Option Heap), HeapsOK (EndIn far st) (Owns st) A →
      HeapsOK (EndIn far st') (Owns st')
        ((((A.push none).push none).set! st.blocks.size none).set! (st.blocks.size + 1) none) := by
    intro far hfar A hA b h hb hown c hc
    obtain ⟨b1, b2, hb'⟩ := newHeaps_some A _ _ b h hb
    obtain ⟨ho, hne⟩ := hown_back b hown b1 b2
    obtain ⟨hc', hr⟩ := hA b h hb' ho c hc
    refine ⟨by rw [hcons, Util.set!_size]; exact hc', ?_⟩
    rw [hcons, hfar, hstay _ (by rw [← blkOf_eq_blk, hr]; exact hne)]
    exact hr
  refine ⟨?_, ?_, ⟨?_, ?_⟩, ?_, hsize, hf⟩
  · unfold IC; rw [hvars, hcons, hbs]; exact InvC.toRange hI'
  · intro b v hown hv hvlt
    rw [hsize] at hvlt
    rw [hbv] at hv
    by_cases h1 : b < st.blocks.size
    · rw [if_pos h1] at hv
      obtain ⟨ho, hne⟩ := hown_back b hown (by omega) (by omega)
      have hb := hM b v ho hv hvlt
      rw [hstay v (by rw [← blkOf_eq_blk, hb]; exact hne)]
      exact hb
    · rw [if_neg h1] at hv
      by_cases h2 : b = st.blocks.size
      · rw [if_pos h2] at hv
        rcases pm1 v hv with h | h | h
        · simp at h
        · rw [blkOf_eq_blk, hvars, R.mono2.stay_eq (by rw [h]; exact Nat.ne_of_gt R.old_lt), h, h2]
        · omega
      · rw [if_neg h2] at hv
        by_cases h3 : b = st.blocks.size + 1
        · rw [if_pos h3] at hv
          rcases pm2 v hv with h | h | h
          · simp at h
          · rw [blkOf_eq_blk, hvars, h, h3]
          · rw [R.mono1.size] at h; omega
        · rw [if_neg h3, default_block_vars] at hv
          simp at hv
  · exact heaps (fun k => k.r) (fun c => (cons_deact_lr st.cons ci c).2) _ hk.1
  · exact heaps (fun k => k.l) (fun c => (cons_deact_lr st.cons ci c).1) _ hk.2
  · refine ⟨(st.cons[ci]!).l, by rw [hsize]; exact hI.l_lt ci hci, ?_⟩
    rw [blkOf_eq_blk, hvars]
    exact R.left _ Relation.ReflTransGen.refl

end AdaptaVerif.Lemmas.VpscStaticMem
