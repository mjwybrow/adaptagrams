/-
Soundness of the decidable forms `Check.Planarise.goodB` and `goodAB` of the hypotheses `Good` (on the segment list
handed to the sweep) and `GoodA` (on the route segments).
-/
import AdaptaVerif.Lemmas.PlanariseOverlap
import AdaptaVerif.Check.Planarise
namespace AdaptaVerif.Lemmas.Planarise
open AdaptaVerif.Model.Planarise AdaptaVerif.Check.Planarise

theorem apartB_sound {a b : Rat} (h : apartB a b = true) : Apart a b := by
  unfold apartB at h; unfold Apart
  simp only [Bool.or_eq_true, beq_iff_eq, decide_eq_true_eq] at h
  rcases h with (h | h) | h
  · exact Or.inl h
  · exact Or.inr (Or.inl h)
  · exact Or.inr (Or.inr h)

theorem allApartB_sound {l : List Rat} (h : allApartB l = true) : ∀ a ∈ l, ∀ b ∈ l, Apart a b := by
  unfold allApartB at h
  simp only [List.all_eq_true] at h
  intro a ha b hb; exact apartB_sound (h a ha b hb)

theorem allApartB_flatMap {S : List Seg} {f : Seg → List Rat} (h : allApartB (S.flatMap f) = true) :
    ∀ s ∈ S, ∀ t ∈ S, ∀ a ∈ f s, ∀ b ∈ f t, Apart a b :=
  fun s hs t ht a ha b hb =>
    allApartB_sound h a (List.mem_flatMap.2 ⟨s, hs, ha⟩) b (List.mem_flatMap.2 ⟨t, ht, hb⟩)

theorem segShapeB_sound {s : Seg} (h : segShapeB s = true) : SegH s ∨ SegV s := by
  unfold segShapeB at h
  simp only [Bool.or_eq_true, Bool.and_eq_true, beq_iff_eq, decide_eq_true_eq] at h
  rcases h with ⟨⟨⟨⟨⟨a, b⟩, c⟩, d⟩, e⟩, f⟩ | ⟨⟨⟨⟨⟨a, b⟩, c⟩, d⟩, e⟩, f⟩
  · exact Or.inl ⟨a, b, c, d, e, f⟩
  · exact Or.inr ⟨a, b, c, d, e, f⟩

theorem noOverlapB_sound : ∀ {S : List Seg}, noOverlapB S = true →
    S.Pairwise (fun s t => s.ori = t.ori → s.cc = t.cc → s.hi ≤ t.lo ∨ t.hi ≤ s.lo)
  | [], _ => List.Pairwise.nil
  | s :: r, h => by
    unfold noOverlapB at h
    simp only [Bool.and_eq_true, List.all_eq_true, Bool.or_eq_true, Bool.not_eq_true', decide_eq_true_eq] at h
    rw [List.pairwise_cons]
    refine ⟨?_, noOverlapB_sound h.2⟩
    intro t ht ho hc
    rcases h.1 t ht with (h1 | h1) | h1
    · simp [ho, hc] at h1
    · exact Or.inl h1
    · exact Or.inr h1

theorem goodB_sound {S : List Seg} (h : goodB S = true) : Good S := by
  unfold goodB at h
  simp only [Bool.and_eq_true, List.all_eq_true] at h
  obtain ⟨⟨⟨h1, h2⟩, h3⟩, h4⟩ := h
  exact ⟨fun s hs => segShapeB_sound (h1 s hs), allApartB_flatMap h2, allApartB_flatMap h3, noOverlapB_sound h4⟩

theorem goodAB_sound {S : List Seg} (h : goodAB S = true) : GoodA S := by
  unfold goodAB at h
  simp only [Bool.and_eq_true, List.all_eq_true] at h
  obtain ⟨⟨⟨h1, h2⟩, h3⟩, h4⟩ := h
  refine ⟨fun s hs => segShapeB_sound (h1 s hs), allApartB_flatMap h2, allApartB_flatMap h3, ?_⟩
  intro s hs t ht a ha b hb
  unfold identB at h4
  simp only [List.all_eq_true, Bool.and_eq_true, Bool.or_eq_true, Bool.not_eq_true', beq_eq_false_iff_ne,
    beq_iff_eq] at h4
  have := h4 a (List.mem_flatMap.2 ⟨s, hs, ha⟩) b (List.mem_flatMap.2 ⟨t, ht, hb⟩)
  exact ⟨fun hp => this.1.resolve_left (fun h => h hp), fun hi => this.2.resolve_left (fun h => h hi)⟩

end AdaptaVerif.Lemmas.Planarise
