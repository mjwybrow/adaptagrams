/-
Whole `planarise`.  Composition of its two stages from the route segments on (`segsAOf`): under `GoodA` the list handed
to the sweep is `Good`, paths of overlap-free edges stay connections after the sweep.  Then on separated inputs: every
original edge stays connected from source to target through new nodes (bend nodes and crossing nodes) only.
-/
import AdaptaVerif.Lemmas.PlanariseInput
import AdaptaVerif.Lemmas.PlanariseOverlap
import AdaptaVerif.Lemmas.PlanariseNoCross
namespace AdaptaVerif.Lemmas.Planarise
open AdaptaVerif.Model.Planarise

theorem planarise_segs (inp : Input) :
    (planarise inp).segs = (computeCrossings (segsBOf inp)
      (uniqueBends { nextId := firstFreeId inp.nodes } inp.edges).1.nextId).segs ∧
    (planarise inp).crossNodes = (computeCrossings (segsBOf inp)
      (uniqueBends { nextId := firstFreeId inp.nodes } inp.edges).1.nextId).cross.reverse ∧
    (planarise inp).ofEdges = overlapFreeEdges (segsAOf inp) := by
  simp [planarise, segsBOf, segsAOf]

theorem reach_of_path {E : List (Node × Node)} (hG : Good (E.map (fun e => mkSeg e.1 e.2)))
    (hends : ∀ e ∈ E, (mkSeg e.1 e.2).on = e.1 ∧ (mkSeg e.1 e.2).cn = e.2) (nid : Nat) (extra : List Node)
    (l : List Node) (a b : Node) (hp : PathIn E (a :: l ++ [b])) (hm : ∀ m ∈ l, m ∈ extra) :
    Reach (computeCrossings (E.map (fun e => mkSeg e.1 e.2)) nid).segs
      ((computeCrossings (E.map (fun e => mkSeg e.1 e.2)) nid).cross ++ extra) a b := by
  refine reach_chain l a b (fun e he => ?_) (fun m h => List.mem_append_right _ (hm m h))
  obtain ⟨i, hi⟩ := List.getElem?_of_mem (List.mem_map.2 ⟨e, hp e he, rfl⟩)
  have hr := computeCrossings_reach hG nid i (mkSeg e.1 e.2) hi
  rw [(hends e (hp e he)).1, (hends e (hp e he)).2] at hr
  exact hr.mono (fun m hm => List.mem_append_left _ hm)

theorem pipeline_good {inp : Input} (hA : GoodA (segsAOf inp)) : Good (segsBOf inp) := overlapFree_good hA

theorem pipeline_connections {inp : Input} (hA : GoodA (segsAOf inp)) :
    ∀ s ∈ segsAOf inp, ∃ inner : List Node,
      (∀ m ∈ inner, (∃ t ∈ segsAOf inp, m = t.on ∨ m = t.cn) ∧ ccOf s.ori m = s.cc ∧
          vcOf s.ori s.on < vcOf s.ori m ∧ vcOf s.ori m < vcOf s.ori s.cn) ∧
      Reach (planarise inp).segs ((planarise inp).crossNodes ++ inner) s.on s.cn := by
  intro s hs
  obtain ⟨mids, hp, hm⟩ := overlapFree_chain hA s hs
  obtain ⟨h1, h2, _⟩ := planarise_segs inp
  refine ⟨mids, hm, ?_⟩
  rw [h1, h2]
  have := reach_of_path (overlapFree_good hA) (overlapFree_ends hA)
    (uniqueBends { nextId := firstFreeId inp.nodes } inp.edges).1.nextId mids mids s.on s.cn hp (fun m h => h)
  exact this.mono (by
    intro m hmm
    rcases List.mem_append.1 hmm with h | h
    · exact List.mem_append_left _ (List.mem_reverse.2 h)
    · exact List.mem_append_right _ h)


/-- no node centre lies strictly inside a route segment -/
def NoCentreInside (inp : Input) : Prop :=
  ∀ e ∈ inp.edges, ∀ pq ∈ ptPairs e.route, ∀ n ∈ inp.nodes,
    ¬ ((n.p.y = pq.1.y ∧ n.p.y = pq.2.y ∧ ((pq.1.x < n.p.x ∧ n.p.x < pq.2.x) ∨ (pq.2.x < n.p.x ∧ n.p.x < pq.1.x))) ∨
       (n.p.x = pq.1.x ∧ n.p.x = pq.2.x ∧ ((pq.1.y < n.p.y ∧ n.p.y < pq.2.y) ∨ (pq.2.y < n.p.y ∧ n.p.y < pq.1.y))))

theorem paired_get {P : EdgeIn → List Node → Prop} : ∀ {edges : List EdgeIn} {bends : List (List Node)},
    Paired P edges bends → ∀ e ∈ edges, ∃ bs, P e bs ∧ ∀ s ∈ edgeSegs e.src e.tgt bs, s ∈ zipEdgeSegs edges bends
  | _, _, Paired.nil, e, h => by simp at h
  | _, _, Paired.cons (e := e0) (bs := bs) hp hr, e, h => by
    rcases List.mem_cons.1 h with rfl | h
    · exact ⟨bs, hp, fun s hs => by simp only [zipEdgeSegs, List.mem_append]; exact Or.inl hs⟩
    · obtain ⟨bs', h1, h2⟩ := paired_get hr e h
      exact ⟨bs', h1, fun s hs => by simp only [zipEdgeSegs, List.mem_append]; exact Or.inr (h2 s hs)⟩

/-- a node strictly inside the segment built from `a` and `b`, in the terms of `NoCentreInside` -/
theorem inside_of_mkSeg {a b m : Node}
    (hor : (a.p.x = b.p.x ∧ a.p.y ≠ b.p.y) ∨ (a.p.y = b.p.y ∧ a.p.x ≠ b.p.x))
    (hcc : ccOf (mkSeg a b).ori m = (mkSeg a b).cc)
    (hv1 : vcOf (mkSeg a b).ori (mkSeg a b).on < vcOf (mkSeg a b).ori m)
    (hv2 : vcOf (mkSeg a b).ori m < vcOf (mkSeg a b).ori (mkSeg a b).cn) :
    (m.p.y = a.p.y ∧ m.p.y = b.p.y ∧ ((a.p.x < m.p.x ∧ m.p.x < b.p.x) ∨ (b.p.x < m.p.x ∧ m.p.x < a.p.x))) ∨
    (m.p.x = a.p.x ∧ m.p.x = b.p.x ∧ ((a.p.y < m.p.y ∧ m.p.y < b.p.y) ∨ (b.p.y < m.p.y ∧ m.p.y < a.p.y))) := by
  rcases hor with ⟨hx, hy⟩ | ⟨hy, hx⟩
  · right
    by_cases hlt : a.p.y < b.p.y
    · rw [mkSeg_V_fwd hx hlt] at hcc hv1 hv2
      simp only [ccOf_V, vcOf_V] at hcc hv1 hv2
      exact ⟨hcc, hcc.trans hx, Or.inl ⟨hv1, hv2⟩⟩
    · rw [mkSeg_V_bwd hx (by grind)] at hcc hv1 hv2
      simp only [ccOf_V, vcOf_V] at hcc hv1 hv2
      exact ⟨hcc, hcc.trans hx, Or.inr ⟨hv1, hv2⟩⟩
  · left
    by_cases hlt : a.p.x < b.p.x
    · rw [mkSeg_H_fwd hy hlt] at hcc hv1 hv2
      simp only [ccOf_H, vcOf_H] at hcc hv1 hv2
      exact ⟨hcc, hcc.trans hy, Or.inl ⟨hv1, hv2⟩⟩
    · rw [mkSeg_H_bwd hy (by grind)] at hcc hv1 hv2
      simp only [ccOf_H, vcOf_H] at hcc hv1 hv2
      exact ⟨hcc, hcc.trans hy, Or.inr ⟨hv1, hv2⟩⟩

theorem planarise_bendNodes (inp : Input) :
    (planarise inp).bendNodes = (uniqueBends { nextId := firstFreeId inp.nodes } inp.edges).1.store := by
  simp [planarise]

theorem edges_connected {inp : Input} (hS : SepInput inp) (hN : NoCentreInside inp) :
    ∀ e ∈ inp.edges,
      Reach (planarise inp).segs ((planarise inp).crossNodes ++ (planarise inp).bendNodes) e.src e.tgt := by
  intro e he
  have hA := sepInput_goodA hS
  obtain ⟨hst, hends⟩ := segsA_ends hS
  obtain ⟨_, u2⟩ := sepInput_bends hS
  obtain ⟨bs, ⟨hbp, hbs⟩, hsub⟩ := paired_get u2 e he
  obtain ⟨hsrc, htgt, hroute⟩ := hS.ends e he
  have hmap : (e.src :: bs ++ [e.tgt]).map (·.p) = e.route := by
    rw [hroute]; simp [hbp]
  rw [planarise_bendNodes]
  refine reach_chain bs e.src e.tgt ?_ (fun m hm => List.mem_append_right _ (hbs m hm))
  intro p hp
  have hseg : mkSeg p.1 p.2 ∈ segsAOf inp :=
    hsub _ (by rw [edgeSegs, chainSegs_eq_map]; exact List.mem_map.2 ⟨_, hp, rfl⟩)
  have hpq : (p.1.p, p.2.p) ∈ ptPairs e.route := by rw [← hmap, ptPairs_map]; exact List.mem_map.2 ⟨_, hp, rfl⟩
  have hor := hS.ortho e he _ hpq
  have hen := mkSeg_ends p.1 p.2
  obtain ⟨inner, hin, hr⟩ := pipeline_connections hA _ hseg
  -- intermediate segment ends strictly inside the segment are bend nodes
  have hinner : ∀ m ∈ inner, m ∈ (uniqueBends { nextId := firstFreeId inp.nodes } inp.edges).1.store := by
    intro m hm
    obtain ⟨⟨t, ht, hmt⟩, hcc, hv1, hv2⟩ := hin m hm
    have hcls : m ∈ inp.nodes ∨ m ∈ (uniqueBends { nextId := firstFreeId inp.nodes } inp.edges).1.store := by
      rcases hmt with rfl | rfl
      · exact (hends t ht).2.1
      · exact (hends t ht).2.2.1
    rcases hcls with hnode | hstore
    · exact (hN e he _ hpq m hnode (inside_of_mkSeg hor hcc hv1 hv2)).elim
    · exact hstore
  have hr' := hr.mono (new' := (planarise inp).crossNodes ++ (uniqueBends { nextId := firstFreeId inp.nodes } inp.edges).1.store)
    (by
      intro m hm
      rcases List.mem_append.1 hm with h | h
      · exact List.mem_append_left _ h
      · exact List.mem_append_right _ (hinner m h))
  rcases hen with ⟨h1, h2⟩ | ⟨h1, h2⟩
  · rw [h1, h2] at hr'; exact hr'
  · rw [h1, h2] at hr'; exact hr'.symm

end AdaptaVerif.Lemmas.Planarise
