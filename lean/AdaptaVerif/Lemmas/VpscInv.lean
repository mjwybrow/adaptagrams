/-
The full block invariant of the IncSolver model and its preservation by the constructor,
`addConstraint` and changing a desired position.
(`merge` is in VpscMerge.lean, `split` in VpscSplit.lean, the solver loops in VpscLoop.lean.)
Also what the traversals are specified with: an active constraint seen from one of its ends
(`ae_near_far`, `ae_dir`, `mem_darts`), and the two sides of an active constraint (`side_cases`).
-/
import AdaptaVerif.Lemmas.VpscGraph
import AdaptaVerif.Lemmas.VpscHistory
import AdaptaVerif.Lemmas.Util.Array
namespace AdaptaVerif.Lemmas.VpscInv
open AdaptaVerif.Model.Vpsc
open AdaptaVerif.Lemmas.VpscGraph AdaptaVerif.Lemmas.VpscHistory
open AdaptaVerif.Lemmas.VpscFlag (toC)
open AdaptaVerif.Lemmas.VpscTraverse (farEnd nearEnd)
open AdaptaVerif.Spec.Vpsc (PosCycle)
open Relation

def blk (vars : Array Var) (x : Nat) : Nat := (vars[x]!).block
def offs (vars : Array Var) (x : Nat) : Rat := (vars[x]!).offset

/-- **block_inv**, on the components of the state it talks about -/
structure InvC (vars : Array Var) (cons : Array Con) (nblocks : Nat) (inactive : Array Nat) : Prop where
  /-- `Variable::out` / `Variable::in` hold exactly the constraints leaving / entering the variable -/
  outs_sound : ∀ u j : Nat, j ∈ (vars[u]!).outs → j < cons.size ∧ (cons[j]!).l = u
  outs_complete : ∀ j : Nat, j < cons.size → j ∈ (vars[(cons[j]!).l]!).outs
  ins_sound : ∀ u j : Nat, j ∈ (vars[u]!).ins → j < cons.size ∧ (cons[j]!).r = u
  ins_complete : ∀ j : Nat, j < cons.size → j ∈ (vars[(cons[j]!).r]!).ins
  outs_nodup : ∀ u : Nat, (vars[u]!).outs.toList.Nodup
  ins_nodup : ∀ u : Nat, (vars[u]!).ins.toList.Nodup
  /-- active constraints join two variables of one block and are tight in offsets -/
  tight : ∀ j : Nat, j < cons.size → (cons[j]!).active = true →
    blk vars (cons[j]!).l = blk vars (cons[j]!).r ∧
    offs vars (cons[j]!).r - (cons[j]!).gap - offs vars (cons[j]!).l = 0
  /-- the active constraints form a forest: each one is a bridge of the active graph -/
  bridge : ∀ j : Nat, j < cons.size → (cons[j]!).active = true →
    ¬ ReachAvoid cons j (cons[j]!).l (cons[j]!).r
  /-- … which spans every block: variables of one block are connected by active constraints -/
  conn : ∀ x y : Nat, x < vars.size → y < vars.size → blk vars x = blk vars y → Reach cons x y
  /-- block ids in use are allocated -/
  fresh : ∀ x : Nat, x < vars.size → blk vars x < nblocks
  /-- every constraint is active, flagged, or waiting in the `inactive` list -/
  cover : ∀ j : Nat, j < cons.size →
    (cons[j]!).active = true ∨ (cons[j]!).unsat = true ∨ j ∈ inactive
  inact_lt : ∀ j : Nat, j ∈ inactive → j < cons.size
  /-- inequality-only systems: a flag is justified by a positive-gap cycle -/
  flags : (∀ j : Nat, j < cons.size → (cons[j]!).eq = false) →
    ∀ j : Nat, j < cons.size → (cons[j]!).unsat = true → PosCycle (cons.toList.map toC)

/-- the `in`/`out` lists agree with the constraint array -/
structure LinkOK (cons : Array Con) (vars : Array Var) : Prop where
  outs_sound : ∀ u j : Nat, j ∈ (vars[u]!).outs → j < cons.size ∧ (cons[j]!).l = u
  outs_complete : ∀ j : Nat, j < cons.size → j ∈ (vars[(cons[j]!).l]!).outs
  ins_sound : ∀ u j : Nat, j ∈ (vars[u]!).ins → j < cons.size ∧ (cons[j]!).r = u
  ins_complete : ∀ j : Nat, j < cons.size → j ∈ (vars[(cons[j]!).r]!).ins

/-- … and list nothing twice: the part of `InvC` that reads only the lists of the variables and the
    ends of the constraints, which merge, split and the flag steps never write; only the constructor and
    `addConstraint` do -/
structure Link (vars : Array Var) (cons : Array Con) : Prop extends LinkOK cons vars where
  outs_nodup : ∀ u : Nat, (vars[u]!).outs.toList.Nodup
  ins_nodup : ∀ u : Nat, (vars[u]!).ins.toList.Nodup

theorem InvC.link {vars cons n ia} (h : InvC vars cons n ia) : Link vars cons := { h with }

theorem LinkOK.congr {cons : Array Con} {a b : Array Var} (h : LinkOK cons a)
    (ho : ∀ u : Nat, (b[u]!).outs = (a[u]!).outs) (hi : ∀ u : Nat, (b[u]!).ins = (a[u]!).ins) : LinkOK cons b :=
  ⟨fun u j hj => h.outs_sound u j (by rw [← ho u]; exact hj),
   fun j hj => by rw [ho]; exact h.outs_complete j hj,
   fun u j hj => h.ins_sound u j (by rw [← hi u]; exact hj),
   fun j hj => by rw [hi]; exact h.ins_complete j hj⟩

theorem Link.congr {vars vars' : Array Var} {cons cons' : Array Con} (h : Link vars cons)
    (hio : ∀ u : Nat, (vars'[u]!).outs = (vars[u]!).outs ∧ (vars'[u]!).ins = (vars[u]!).ins)
    (hs : cons'.size = cons.size)
    (hd : ∀ j : Nat, (cons'[j]!).l = (cons[j]!).l ∧ (cons'[j]!).r = (cons[j]!).r) :
    Link vars' cons' where
  outs_sound u j hj := by
    rw [(hio u).1] at hj; rw [hs, (hd j).1]; exact h.outs_sound u j hj
  outs_complete j hj := by rw [(hio _).1, (hd j).1]; exact h.outs_complete j (hs ▸ hj)
  ins_sound u j hj := by
    rw [(hio u).2] at hj; rw [hs, (hd j).2]; exact h.ins_sound u j hj
  ins_complete j hj := by rw [(hio _).2, (hd j).2]; exact h.ins_complete j (hs ▸ hj)
  outs_nodup u := by rw [(hio u).1]; exact h.outs_nodup u
  ins_nodup u := by rw [(hio u).2]; exact h.ins_nodup u

def Inv (st : St) : Prop := InvC st.vars st.cons st.blocks.size st.inactive

/-- the invariant holds unless the model has already reported running out of fuel -/
def J (st : St) : Prop := st.fuelOut = true ∨ Inv st

theorem default_outs : (default : Var).outs = #[] := rfl
theorem default_ins : (default : Var).ins = #[] := rfl

theorem lt_of_mem_outs {vars : Array Var} {x j : Nat} (h : j ∈ (vars[x]!).outs) : x < vars.size := by
  by_contra hlt
  rw [getElem!_neg vars _ hlt, default_outs] at h
  simp at h

theorem lt_of_mem_ins {vars : Array Var} {x j : Nat} (h : j ∈ (vars[x]!).ins) : x < vars.size := by
  by_contra hlt
  rw [getElem!_neg vars _ hlt, default_ins] at h
  simp at h

theorem InvC.l_lt {vars cons n ia} (h : InvC vars cons n ia) (j : Nat) (hj : j < cons.size) :
    (cons[j]!).l < vars.size :=
  lt_of_mem_outs (h.outs_complete j hj)

theorem InvC.r_lt {vars cons n ia} (h : InvC vars cons n ia) (j : Nat) (hj : j < cons.size) :
    (cons[j]!).r < vars.size :=
  lt_of_mem_ins (h.ins_complete j hj)

/-! ### an active constraint seen from one of its ends

`fwd = true`: from its left end (it is an `out` constraint there), `fwd = false`: from its right end. -/

theorem ae_near_far {cons : Array Con} {ci : Nat} (hci : ci < cons.size)
    (ha : (cons[ci]!).active = true) (fwd : Bool) :
    AE cons ci (nearEnd fwd cons[ci]!) (farEnd fwd cons[ci]!) := by
  cases fwd
  · exact ⟨hci, ha, Or.inr ⟨rfl, rfl⟩⟩
  · exact ⟨hci, ha, Or.inl ⟨rfl, rfl⟩⟩

theorem ae_dir {cons : Array Con} {ci v y : Nat} (h : AE cons ci v y) :
    ∃ fwd, nearEnd fwd cons[ci]! = v ∧ farEnd fwd cons[ci]! = y := by
  obtain ⟨hl, hr⟩ | ⟨hl, hr⟩ := h.2.2
  · exact ⟨true, hl, hr⟩
  · exact ⟨false, hr, hl⟩

theorem far_lt {cons : Array Con} {vars : Array Var} (h : LinkOK cons vars) {ci : Nat}
    (hci : ci < cons.size) (fwd : Bool) : farEnd fwd cons[ci]! < vars.size := by
  cases fwd
  · exact lt_of_mem_outs (h.outs_complete ci hci)
  · exact lt_of_mem_ins (h.ins_complete ci hci)

theorem mem_darts {cons : Array Con} {vars : Array Var} (h : LinkOK cons vars) {v j : Nat} {fwd : Bool} :
    (j, fwd) ∈ darts vars[v]! ↔ j < cons.size ∧ nearEnd fwd cons[j]! = v := by
  constructor
  · intro hd
    rcases List.mem_append.1 hd with hd | hd <;> obtain ⟨ci, hci, e⟩ := List.mem_map.1 hd <;>
      obtain ⟨rfl, rfl⟩ := Prod.mk.inj e
    · exact h.ins_sound v ci (Array.mem_toList_iff.1 hci)
    · exact h.outs_sound v ci (Array.mem_toList_iff.1 hci)
  · rintro ⟨hj, rfl⟩
    cases fwd
    · exact List.mem_append_left _ (List.mem_map.2 ⟨j, Array.mem_toList_iff.2 (h.ins_complete j hj), rfl⟩)
    · exact List.mem_append_right _ (List.mem_map.2 ⟨j, Array.mem_toList_iff.2 (h.outs_complete j hj), rfl⟩)

theorem InvC.ae_blk {vars cons n ia} (h : InvC vars cons n ia) {j x y : Nat} (he : AE cons j x y) :
    blk vars x = blk vars y := by
  obtain ⟨hj, ha, hxy⟩ := he
  have := (h.tight j hj ha).1
  rcases hxy with ⟨rfl, rfl⟩ | ⟨rfl, rfl⟩
  · exact this
  · exact this.symm

theorem InvC.reach_blk {vars cons n ia} (h : InvC vars cons n ia) {P : Nat → Prop} {x y : Nat}
    (hr : ReflTransGen (Adj P cons) x y) : blk vars x = blk vars y :=
  reach_const (blk vars) (fun _ _ _ he => h.ae_blk he) hr

theorem side_cases {vars cons n ia} (h : InvC vars cons n ia) (j : Nat) (hj : j < cons.size)
    (ha : (cons[j]!).active = true) (x : Nat) (hx : x < vars.size)
    (hb : blk vars x = blk vars (cons[j]!).r) :
    (ReachAvoid cons j (cons[j]!).r x ∧ ¬ ReachAvoid cons j (cons[j]!).l x) ∨
    (ReachAvoid cons j (cons[j]!).l x ∧ ¬ ReachAvoid cons j (cons[j]!).r x) := by
  have hbridge := h.bridge j hj ha
  have hreach : Reach cons (cons[j]!).r x := h.conn _ _ (h.r_lt j hj) hx hb.symm
  have hnot : ∀ {a}, ReachAvoid cons j (cons[j]!).r a → ¬ ReachAvoid cons j (cons[j]!).l a :=
    fun h1 h2 => hbridge (h2.trans h1.symm)
  rcases VpscWalk.reach_cut (k := j) ⟨hj, ha, Or.inl ⟨rfl, rfl⟩⟩ hreach with h1 | ⟨h1, _⟩ | ⟨_, h2⟩
  · exact Or.inl ⟨VpscWalk.avoid_snd h1, hnot (VpscWalk.avoid_snd h1)⟩
  · exact absurd (VpscWalk.avoid_snd h1).symm hbridge
  · exact Or.inr ⟨VpscWalk.avoid_snd h2, fun h1 => hnot h1 (VpscWalk.avoid_snd h2)⟩

theorem InvC.change_inactive {vars cons n} {ia ia' : Array Nat} (h : InvC vars cons n ia)
    (hcov : ∀ j ∈ ia, j ∈ ia' ∨ (cons[j]!).active = true ∨ (cons[j]!).unsat = true)
    (hlt : ∀ j ∈ ia', j < cons.size) : InvC vars cons n ia' :=
  { h with
    cover := fun j hj => by
      rcases h.cover j hj with c | c | c
      · exact Or.inl c
      · exact Or.inr (Or.inl c)
      · rcases hcov j c with c | c | c
        · exact Or.inr (Or.inr c)
        · exact Or.inl c
        · exact Or.inr (Or.inl c)
    inact_lt := hlt }

theorem nodup_push_of_lt {l : Array Nat} {n : Nat} (hn : l.toList.Nodup) (hlt : ∀ a ∈ l, a < n) :
    (l.push n).toList.Nodup := by
  rw [Array.toList_push, List.nodup_append]
  refine ⟨hn, by simp, ?_⟩
  intro a ha b hb
  simp only [List.mem_singleton] at hb
  subst hb
  exact Nat.ne_of_lt (hlt a (by simpa using ha))

theorem posCycle_mono {cs cs' : List AdaptaVerif.Check.Vpsc.C}
    (h : ∀ e ∈ AdaptaVerif.Check.Vpsc.edgesOf cs, e ∈ AdaptaVerif.Check.Vpsc.edgesOf cs')
    (hp : PosCycle cs) : PosCycle cs' := by
  obtain ⟨cyc, h1, h2, h3⟩ := hp
  exact ⟨cyc, fun e he => h e (h1 e he), h2, h3⟩

theorem ae_push_inactive (cons : Array Con) (c0 : Con) (h0 : c0.active = false) (j x y : Nat) :
    AE (cons.push c0) j x y ↔ AE cons j x y := by
  unfold AE
  constructor
  · rintro ⟨hj, ha, hxy⟩
    by_cases hlt : j < cons.size
    · rw [Util.get!_push_lt _ _ _ hlt] at ha hxy
      exact ⟨hlt, ha, hxy⟩
    · have : j = cons.size := by simp at hj; omega
      subst this
      rw [Util.get!_push_eq] at ha
      rw [h0] at ha
      exact absurd ha (by simp)
  · rintro ⟨hj, ha, hxy⟩
    rw [Util.get!_push_lt _ _ _ hj]
    exact ⟨by simp; omega, ha, hxy⟩

theorem rtg_push_inactive (cons : Array Con) (c0 : Con) (h0 : c0.active = false) (P : Nat → Prop)
    (x y : Nat) :
    ReflTransGen (Adj P (cons.push c0)) x y ↔ ReflTransGen (Adj P cons) x y :=
  ⟨reflTransGen_adj_mono (fun j a b hp h => ⟨hp, (ae_push_inactive cons c0 h0 j a b).1 h⟩),
   reflTransGen_adj_mono (fun j a b hp h => ⟨hp, (ae_push_inactive cons c0 h0 j a b).2 h⟩)⟩

theorem addConstraint_blk (st : St) (c : Con) (x : Nat) :
    blk (st.addConstraint c).vars x = blk st.vars x := (addConstraint_var st c x).1

theorem addConstraint_offs (st : St) (c : Con) (x : Nat) :
    offs (st.addConstraint c).vars x = offs st.vars x := (addConstraint_var st c x).2

theorem addConstraint_inv (st : St) (c : Con) (hl : c.l < st.vars.size) (hr : c.r < st.vars.size)
    (hu : c.unsat = false) (h : Inv st) : Inv (st.addConstraint c) := by
  have hcons := addConstraint_cons st c
  have hblocks : (st.addConstraint c).blocks = st.blocks := rfl
  have hinact : (st.addConstraint c).inactive = st.inactive.push st.cons.size := rfl
  have hsize : (st.addConstraint c).vars.size = st.vars.size := addConstraint_size st c
  have hget : ∀ j : Nat, j < st.cons.size →
      ((st.cons.push { c with active := false })[j]!) = st.cons[j]! := fun j hj => Util.get!_push_lt _ _ _ hj
  have hlast : ((st.cons.push { c with active := false })[st.cons.size]!) = { c with active := false } :=
    Util.get!_push_eq _ _
  have hcases : ∀ j : Nat, j < (st.cons.push { c with active := false }).size →
      j < st.cons.size ∨ j = st.cons.size := by
    intro j hj; simp at hj; omega
  unfold Inv
  rw [hcons, hblocks, hinact]
  refine
    { outs_sound := ?outs_sound, outs_complete := ?outs_complete, ins_sound := ?ins_sound,
      ins_complete := ?ins_complete, tight := ?tight, bridge := ?bridge, conn := ?conn,
      fresh := ?fresh, cover := ?cover, inact_lt := ?inact_lt, flags := ?flags,
      outs_nodup := fun u => by
        have e : ((st.addConstraint c).vars[u]!).outs = _ := linkCon_outs_list _ _ _ u
        rw [e]
        split
        · exact nodup_push_of_lt (h.outs_nodup u) (fun a ha => (h.outs_sound u a ha).1)
        · exact h.outs_nodup u,
      ins_nodup := fun u => by
        have e : ((st.addConstraint c).vars[u]!).ins = _ := linkCon_ins_list _ _ _ u
        rw [e]
        split
        · exact nodup_push_of_lt (h.ins_nodup u) (fun a ha => (h.ins_sound u a ha).1)
        · exact h.ins_nodup u }
  case outs_sound =>
    intro u j hj
    rcases (linkCon_outs_iff _ _ c u j).1 hj with hold | ⟨rfl, rfl, _⟩
    · obtain ⟨h1, h2⟩ := h.outs_sound u j hold
      exact ⟨by simp; omega, by rw [hget j h1]; exact h2⟩
    · exact ⟨by simp, by rw [hlast]⟩
  case outs_complete =>
    intro j hj
    rcases hcases j hj with hlt | rfl
    · rw [hget j hlt]
      exact (linkCon_outs_iff _ _ c _ j).2 (Or.inl (h.outs_complete j hlt))
    · rw [hlast]
      exact (linkCon_outs_iff _ _ c _ _).2 (Or.inr ⟨rfl, rfl, hl⟩)
  case ins_sound =>
    intro u j hj
    rcases (linkCon_ins_iff _ _ c u j).1 hj with hold | ⟨rfl, rfl, _⟩
    · obtain ⟨h1, h2⟩ := h.ins_sound u j hold
      exact ⟨by simp; omega, by rw [hget j h1]; exact h2⟩
    · exact ⟨by simp, by rw [hlast]⟩
  case ins_complete =>
    intro j hj
    rcases hcases j hj with hlt | rfl
    · rw [hget j hlt]
      exact (linkCon_ins_iff _ _ c _ j).2 (Or.inl (h.ins_complete j hlt))
    · rw [hlast]
      exact (linkCon_ins_iff _ _ c _ _).2 (Or.inr ⟨rfl, rfl, hr⟩)
  case tight =>
    intro j hj ha
    rcases hcases j hj with hlt | rfl
    · rw [hget j hlt] at ha ⊢
      simp only [addConstraint_blk, addConstraint_offs]
      exact h.tight j hlt ha
    · rw [hlast] at ha
      simp at ha
  case bridge =>
    intro j hj ha
    rcases hcases j hj with hlt | rfl
    · rw [hget j hlt] at ha ⊢
      rw [ReachAvoid, rtg_push_inactive _ _ rfl]
      exact h.bridge j hlt ha
    · rw [hlast] at ha
      simp at ha
  case conn =>
    intro x y hx hy hb
    rw [hsize] at hx hy
    simp only [addConstraint_blk] at hb
    rw [Reach, rtg_push_inactive _ _ rfl]
    exact h.conn x y hx hy hb
  case fresh =>
    intro x hx
    rw [hsize] at hx
    rw [addConstraint_blk]
    exact h.fresh x hx
  case cover =>
    intro j hj
    rcases hcases j hj with hlt | rfl
    · rw [hget j hlt]
      rcases h.cover j hlt with h1 | h1 | h1
      · exact Or.inl h1
      · exact Or.inr (Or.inl h1)
      · exact Or.inr (Or.inr (Array.mem_push.2 (Or.inl h1)))
    · exact Or.inr (Or.inr (Array.mem_push.2 (Or.inr rfl)))
  case inact_lt =>
    intro j hj
    rcases Array.mem_push.1 hj with h1 | rfl
    · have := h.inact_lt j h1
      simp; omega
    · simp
  case flags =>
    intro hineq j hj hun
    rcases hcases j hj with hlt | rfl
    · rw [hget j hlt] at hun
      have hold := h.flags (fun k hk => by
        have := hineq k (by simp; omega)
        rw [hget k hk] at this
        exact this) j hlt hun
      refine posCycle_mono ?_ hold
      intro e he
      simp only [Array.toList_push, List.map_append, AdaptaVerif.Check.Vpsc.edgesOf,
        List.flatMap_append, List.mem_append] at he ⊢
      exact Or.inl he
    · rw [hlast] at hun
      simp [hu] at hun

theorem InvC.congr_vars {vars vars' : Array Var} {cons : Array Con} {n : Nat} {ia : Array Nat}
    (hs : vars'.size = vars.size)
    (hv : ∀ u : Nat, (vars'[u]!).block = (vars[u]!).block ∧ (vars'[u]!).offset = (vars[u]!).offset ∧
      (vars'[u]!).ins = (vars[u]!).ins ∧ (vars'[u]!).outs = (vars[u]!).outs)
    (h : InvC vars cons n ia) : InvC vars' cons n ia := by
  have hb : ∀ x, blk vars' x = blk vars x := fun x => (hv x).1
  have ho : ∀ x, offs vars' x = offs vars x := fun x => (hv x).2.1
  refine
    { h.link.congr (fun u => ⟨(hv u).2.2.2, (hv u).2.2.1⟩) rfl fun _ => ⟨rfl, rfl⟩ with
      tight := ?tight, bridge := h.bridge, conn := ?conn, fresh := ?fresh, cover := h.cover,
      inact_lt := h.inact_lt, flags := h.flags }
  case tight =>
    intro j hj ha; simp only [hb, ho]; exact h.tight j hj ha
  case conn =>
    intro x y hx hy hxy; rw [hs] at hx hy; simp only [hb] at hxy; exact h.conn x y hx hy hxy
  case fresh =>
    intro x hx; rw [hs] at hx; rw [hb]; exact h.fresh x hx

theorem setDesired_inv (st : St) (i : Nat) (d : Rat) (h : Inv st) : Inv (st.setDesired i d) := by
  unfold Inv
  have h1 : (st.setDesired i d).cons = st.cons := rfl
  have h2 : (st.setDesired i d).blocks = st.blocks := rfl
  have h3 : (st.setDesired i d).inactive = st.inactive := rfl
  rw [h1, h2, h3]
  exact InvC.congr_vars (by simp [St.setDesired]) (setDesired_var st i d) h

theorem InvC.empty {vars : Array Var} {n : Nat}
    (hio : ∀ u : Nat, (vars[u]!).outs = #[] ∧ (vars[u]!).ins = #[])
    (hb : ∀ u : Nat, u < vars.size → blk vars u = u) (hn : vars.size ≤ n) : InvC vars #[] n #[] := by
  refine
    { outs_sound := ?outs_sound, outs_complete := ?outs_complete, ins_sound := ?ins_sound,
      ins_complete := ?ins_complete, tight := ?tight, bridge := ?bridge, conn := ?conn,
      fresh := ?fresh, cover := ?cover, inact_lt := ?inact_lt, flags := ?flags,
      outs_nodup := fun u => by rw [(hio u).1]; simp,
      ins_nodup := fun u => by rw [(hio u).2]; simp }
  case outs_sound =>
    intro u j hj; rw [(hio u).1] at hj; simp at hj
  case outs_complete =>
    intro j hj; simp at hj
  case ins_sound =>
    intro u j hj; rw [(hio u).2] at hj; simp at hj
  case ins_complete =>
    intro j hj; simp at hj
  case tight =>
    intro j hj; simp at hj
  case bridge =>
    intro j hj; simp at hj
  case conn =>
    intro x y hx hy hxy
    rw [hb x hx, hb y hy] at hxy
    rw [hxy]
    exact ReflTransGen.refl
  case fresh =>
    intro x hx
    rw [hb x hx]
    exact Nat.lt_of_lt_of_le hx hn
  case cover =>
    intro j hj; simp at hj
  case inact_lt =>
    intro j hj; simp at hj
  case flags =>
    intro _ j hj; simp at hj

theorem init_inv (vs : Array (Rat × Rat × Rat)) (cs : Array Con)
    (hv : ∀ c ∈ cs, c.l < vs.size ∧ c.r < vs.size ∧ c.unsat = false) : Inv (St.init vs cs) := by
  unfold St.init
  simp only
  rw [← Array.foldl_toList]
  refine (foldl_addConstraint_pres (P := fun st => st.vars.size = vs.size ∧ Inv st) _ _ ?_ ⟨by simp, ?_⟩).2
  · intro st c hc ⟨hs, h⟩
    obtain ⟨hl, hr, hu⟩ := hv c (by simpa using hc)
    exact ⟨(addConstraint_size st c).trans hs, addConstraint_inv st c (hs ▸ hl) (hs ▸ hr) hu h⟩
  · unfold Inv
    simp only
    refine InvC.empty (fun u => ?_) (fun u hu => ?_) (by simp)
    · by_cases hu : u < vs.size
      · rw [Util.mapIdx_get! _ _ _ hu]; exact ⟨rfl, rfl⟩
      · rw [getElem!_neg _ u (by simpa using hu)]; exact ⟨rfl, rfl⟩
    · unfold blk
      rw [Util.mapIdx_get! _ _ _ (by simpa using hu)]

end AdaptaVerif.Lemmas.VpscInv
