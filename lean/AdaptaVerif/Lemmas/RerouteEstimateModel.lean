/-
Bridge between the executable estimate of Model/Reroute.lean (`sideX`, `sidePoint`, `sideFlags`, over ℚ)
and the abstract detour lemmas of Lemmas/RerouteEstimate.lean (over an ordered field K ⊇ ℚ).
-/
import AdaptaVerif.Model.Reroute
import AdaptaVerif.Lemmas.RerouteEstimate
import Mathlib.Data.Rat.Cast.Order
import AdaptaVerif.Lemmas.Sqrt
set_option linter.unusedSectionVars false
namespace AdaptaVerif.Lemmas.RerouteEstimate
open AdaptaVerif.Model.Geometry (Pt)
open AdaptaVerif.Model.Reroute

variable {K : Type} [Field K] [LinearOrder K] [IsStrictOrderedRing K]

/-- length of the segment pq as measured by `N` -/
def D (N : K → K → K) (p q : Pt) : K := N ((q.x : K) - (p.x : K)) ((q.y : K) - (p.y : K))

theorem cast_clamp (mn mx x : Rat) : ((clamp mn mx x : Rat) : K) = clampK (mn : K) (mx : K) (x : K) := by
  simp only [clamp, clampK, ← Rat.cast_lt (K := K), apply_ite (Rat.cast : Rat → K)]

theorem rmin_le_rmax (a b : Rat) : rmin a b ≤ rmax a b := by
  unfold rmin rmax; split_ifs <;> linarith

theorem absR_eq_abs (r : Rat) : AdaptaVerif.Model.Geometry.absR r = |r| := by
  unfold AdaptaVerif.Model.Geometry.absR
  split_ifs with h
  · exact (abs_of_neg h).symm
  · exact (abs_of_nonneg (not_lt.mp h)).symm

theorem sideX_off_line (a b c d mn mx : Rat) (h : |b| + |d| ≠ 0) :
    sideX a b c d mn mx = some (clamp mn mx ((|b| * c + a * |d|) / (|b| + |d|))) := by
  unfold sideX
  simp only [absR_eq_abs]
  have : ¬ (|b| = 0 ∧ |d| = 0) := by rintro ⟨h1, h2⟩; exact h (by rw [h1, h2]; norm_num)
  simp only [this, if_false]

theorem D_detour_h (N : K → K → K) (hN : IsNorm N) (s t : Pt) (X offy : Rat) :
    D N s ⟨X, offy⟩ + D N ⟨X, offy⟩ t =
      detour N (s.x : K) ((s.y : K) - (offy : K)) (t.x : K) ((t.y : K) - (offy : K)) (X : K) := by
  unfold D detour
  have e1 : N ((X : K) - (s.x : K)) ((offy : K) - (s.y : K)) = N ((X : K) - (s.x : K)) ((s.y : K) - (offy : K)) := by
    rw [← hN.reflY]; congr 1; ring
  have e2 : N ((t.x : K) - (X : K)) ((t.y : K) - (offy : K)) = N ((X : K) - (t.x : K)) ((t.y : K) - (offy : K)) := by
    rw [← hN.reflX]; congr 1; ring
  simp only [e1, e2]

theorem D_detour_v (N : K → K → K) (hN : IsNorm N) (s t : Pt) (X offx : Rat) :
    D N s ⟨offx, X⟩ + D N ⟨offx, X⟩ t =
      detour N (s.y : K) ((s.x : K) - (offx : K)) (t.y : K) ((t.x : K) - (offx : K)) (X : K) := by
  rw [← D_detour_h N hN ⟨s.y, s.x⟩ ⟨t.y, t.x⟩ X offx]
  unfold D
  rw [hN.swap, hN.swap ((t.x : K) - _)]

/-- the offsets `b`, `d` of start and end from the side's line have one sign and are not both 0: the case in which
    `(b·c + a·d)/(b + d)` taken with the signed offsets is the point `sideX` takes with `|b|`, `|d|` -/
def SameSide (b d : Rat) : Prop := (0 ≤ b ∧ 0 ≤ d ∧ 0 < b + d) ∨ (b ≤ 0 ∧ d ≤ 0 ∧ b + d < 0)

theorem SameSide.ne {b d : Rat} (h : SameSide b d) : b + d ≠ 0 := by
  rcases h with ⟨_, _, h⟩ | ⟨_, _, h⟩
  · exact ne_of_gt h
  · exact ne_of_lt h

theorem detour_abs (N : K → K → K) (hN : IsNorm N) (a b c d x : K) :
    detour N a |b| c |d| x = detour N a b c d x := by
  unfold detour
  have h1 : N (x - a) |b| = N (x - a) b := by
    rcases abs_choice b with h | h <;> rw [h]; exact hN.reflY _ _
  have h2 : N (x - c) |d| = N (x - c) d := by
    rcases abs_choice d with h | h <;> rw [h]; exact hN.reflY _ _
  rw [h1, h2]

theorem detour_model_min_abs (N : K → K → K) (hN : IsNorm N) (a b c d mn mx : Rat) (hbd : 0 < |b| + |d|)
    (hmm : mn ≤ mx) (x : Rat) (hx0 : mn ≤ x) (hx1 : x ≤ mx) :
    detour N (a : K) (b : K) (c : K) (d : K) ((clamp mn mx ((|b| * c + a * |d|) / (|b| + |d|)) : Rat) : K) ≤
      detour N (a : K) (b : K) (c : K) (d : K) (x : K) := by
  have key := detour_clamp_min N hN (a : K) |(b : K)| (c : K) |(d : K)| (mn : K) (mx : K) (abs_nonneg _) (abs_nonneg _)
    (by exact_mod_cast hbd) (Rat.cast_le.mpr hmm) (x : K) (Rat.cast_le.mpr hx0) (Rat.cast_le.mpr hx1)
  rw [detour_abs N hN, detour_abs N hN] at key
  rw [cast_clamp]
  push_cast
  exact key

/-! ### any path through a point is at least as long as the two straight legs -/

/-- length of a polyline as measured by `N` -/
def polyLen (N : K → K → K) : List Pt → K
  | a :: b :: rest => D N a b + polyLen N (b :: rest)
  | _ => 0

theorem D_self (N : K → K → K) (hN : IsNorm N) (a : Pt) : D N a a = 0 := by
  unfold D
  have := hN.homog 0 0 0 (le_refl 0)
  simp only [sub_self]
  simpa using this

theorem D_tri (N : K → K → K) (hN : IsNorm N) (a b c : Pt) : D N a c ≤ D N a b + D N b c := by
  unfold D
  have := hN.tri ((b.x : K) - (a.x : K)) ((b.y : K) - (a.y : K)) ((c.x : K) - (b.x : K)) ((c.y : K) - (b.y : K))
  have e1 : (b.x : K) - (a.x : K) + ((c.x : K) - (b.x : K)) = (c.x : K) - (a.x : K) := by ring
  have e2 : (b.y : K) - (a.y : K) + ((c.y : K) - (b.y : K)) = (c.y : K) - (a.y : K) := by ring
  rw [e1, e2] at this
  exact this

theorem D_le_polyLen (N : K → K → K) (hN : IsNorm N) : ∀ (p : List Pt) (a b : Pt), p.head? = some a →
    p.getLast? = some b → D N a b ≤ polyLen N p
  | [], a, b, h, _ => by simp at h
  | [x], a, b, h1, h2 => by
    cases h1; cases h2
    exact (D_self N hN x).le
  | x :: y :: rest, a, b, h1, h2 => by
    cases h1
    exact le_trans (D_tri N hN x y b)
      (add_le_add (le_refl _) (D_le_polyLen N hN (y :: rest) y b rfl (List.getLast?_cons_cons.symm.trans h2)))

theorem polyLen_append (N : K → K → K) (q : Pt) : ∀ (p1 p2 : List Pt),
    polyLen N (p1 ++ q :: p2) = polyLen N (p1 ++ [q]) + polyLen N (q :: p2)
  | [], p2 => by simp [polyLen]
  | [x], p2 => by simp [polyLen]
  | x :: y :: rest, p2 => by
    show D N x y + polyLen N (y :: rest ++ q :: p2) = D N x y + polyLen N (y :: rest ++ [q]) + _
    rw [polyLen_append N q (y :: rest) p2, add_assoc]

theorem through_point_lower_bound (N : K → K → K) (hN : IsNorm N) (s t q : Pt) (p1 p2 : List Pt)
    (hs : (p1 ++ [q]).head? = some s) (ht : (q :: p2).getLast? = some t) :
    D N s q + D N q t ≤ polyLen N (p1 ++ q :: p2) := by
  rw [polyLen_append]
  exact add_le_add (D_le_polyLen N hN _ s q hs (by simp)) (D_le_polyLen N hN _ q t rfl ht)

/-! ### the loop over the sides -/

/-- all sides axis-parallel (no `rotated` branch) -/
def Rectilinear (es : List (Pt × Pt)) : Prop := ∀ e ∈ es, e.1.y = e.2.y ∨ e.1.x = e.2.x

theorem sidePoint_ne_rotated (s t p1 p2 : Pt) (h : p1.y = p2.y ∨ p1.x = p2.x) : sidePoint s t p1 p2 ≠ .rotated := by
  unfold sidePoint
  by_cases hy : p1.y = p2.y
  · simp only [hy, if_true]; split <;> simp
  · have hx : p1.x = p2.x := h.resolve_left hy
    simp only [hy, hx, if_false, if_true]; split <;> simp

theorem sideFlags_complete (lt3 : Lt3) (route : List Pt) (s t : Pt) :
    ∀ (es : List (Pt × Pt)), Rectilinear es → ∀ e ∈ es, ∀ xp, sidePoint s t e.1 e.2 = .at xp →
      lt3 s t xp route = some true → sideFlags lt3 route s t es = some true := by
  intro es
  induction es with
  | nil => intro _ e he; simp at he
  | cons f fs ih =>
    intro hR e he xp hsp hlt
    have hRf : Rectilinear fs := fun g hg => hR g (List.mem_cons_of_mem _ hg)
    unfold sideFlags
    rcases List.mem_cons.mp he with rfl | he'
    · rw [hsp]; simp only [hlt]
    · have ihv := ih hRf e he' xp hsp hlt
      cases hf : sidePoint s t f.1 f.2 with
      | rotated => exact absurd hf (sidePoint_ne_rotated s t f.1 f.2 (hR f (List.mem_cons_self ..)))
      | skip => simp only; exact ihv
      | «at» yp =>
        simp only
        cases hl : lt3 s t yp route with
        | none => simp only [ihv]
        | some b => cases b <;> simp only [ihv]

/-! ### the driver's three-valued comparison -/

/-- a length function with the defining property of the Euclidean distance (exists for K = ℝ) -/
def IsEuclid (len : Pt → Pt → K) : Prop :=
  ∀ p q : Pt, 0 ≤ len p q ∧ len p q * len p q = ((AdaptaVerif.Num.dist2 p.x p.y q.x q.y : Rat) : K)

def routeLen (len : Pt → Pt → K) (r : List Pt) : K :=
  ((AdaptaVerif.Check.Route.legs r).map fun l => len l.1 l.2).foldl (· + ·) 0

theorem dist2_nonneg (p q : Pt) : 0 ≤ AdaptaVerif.Num.dist2 p.x p.y q.x q.y :=
  add_nonneg (mul_self_nonneg _) (mul_self_nonneg _)

theorem seg_encl (len : Pt → Pt → K) (hE : IsEuclid len) (k : Nat) (p q : Pt) :
    ((segLo k p q : Rat) : K) ≤ len p q ∧ len p q ≤ ((segHi k p q : Rat) : K) :=
  AdaptaVerif.Lemmas.Sqrt.sqrt_between_field _ (dist2_nonneg p q) (len p q) (hE p q).1 (hE p q).2 k

theorem foldl_add_rel {α : Type} (R : Rat → K → Prop) (hadd : ∀ a b a' b', R a a' → R b b' → R (a + b) (a' + b'))
    (f : α → Rat) (g : α → K) :
    ∀ (l : List α) (acc : Rat) (acc' : K), (∀ a ∈ l, R (f a) (g a)) → R acc acc' →
      R ((l.map f).foldl (· + ·) acc) ((l.map g).foldl (· + ·) acc')
  | [], _, _, _, h => h
  | a :: l, _, _, h, hacc =>
    foldl_add_rel R hadd f g l _ _ (fun b hb => h b (List.mem_cons_of_mem _ hb))
      (hadd _ _ _ _ hacc (h a List.mem_cons_self))

theorem route_encl (len : Pt → Pt → K) (hE : IsEuclid len) (k : Nat) (r : List Pt) :
    ((routeLo k r : Rat) : K) ≤ routeLen len r ∧ routeLen len r ≤ ((routeHi k r : Rat) : K) := by
  unfold routeLo routeHi routeLen
  constructor
  · exact foldl_add_rel (fun a b => (a : K) ≤ b) (fun a b a' b' h1 h2 => by push_cast; exact add_le_add h1 h2) _ _ _
      0 0 (fun l _ => (seg_encl len hE k l.1 l.2).1) (by simp)
  · exact foldl_add_rel (fun a b => b ≤ (a : K)) (fun a b a' b' h1 h2 => by push_cast; exact add_le_add h1 h2) _ _ _
      0 0 (fun l _ => (seg_encl len hE k l.1 l.2).2) (by simp)

end AdaptaVerif.Lemmas.RerouteEstimate
