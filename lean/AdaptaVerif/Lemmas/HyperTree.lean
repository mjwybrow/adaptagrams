/-
Structural lemmas about the pointer-level model of libavoid's hyperedge tree (`Model/HyperTree`):
the well-formedness invariant `WF` (both directions of the doubly linked structure agree), closed
forms of the rewrites (`contract`, one iteration of `mergeCommon`, `splitFromNodeAtPoint`, leaf
removal), the fact that they keep `WF` and the tree property of the abstract multigraph, and the
degrees after them.  Steps that change no number, edge list or end are relabellings (`Relabel`) and keep both.
-/
import AdaptaVerif.Model.HyperTree
import AdaptaVerif.Lemmas.HyperTreeGraph
import AdaptaVerif.Lemmas.Util.List
namespace AdaptaVerif.Lemmas.HyperTree
open AdaptaVerif.Model.HyperTree AdaptaVerif.Check.Tree AdaptaVerif.Spec.Tree AdaptaVerif.Lemmas.HyperTreeGraph

/-- the two directions of the doubly linked structure agree, nothing dangles -/
structure WF (t : HTree) : Prop where
  nodupN : (t.nodes.map (·.id)).Nodup
  nodupE : (t.edges.map (·.id)).Nodup
  ends : ∀ e ∈ t.edges, ∃ a b, e.e1 = some a ∧ e.e2 = some b ∧ a ∈ t.graphV ∧ b ∈ t.graphV
  nodupL : ∀ n ∈ t.nodes, n.edges.Nodup
  inc : ∀ n ∈ t.nodes, ∀ i, i ∈ n.edges ↔ ∃ e ∈ t.edges, e.id = i ∧ (e.e1 = some n.id ∨ e.e2 = some n.id)
  fresh : (∀ n ∈ t.nodes, n.id < t.next) ∧ (∀ e ∈ t.edges, e.id < t.next)

def Tree (t : HTree) : Prop := WF t ∧ IsTree t.graphV t.graphE

def Joins (e : HEdge) (a b : Nat) : Prop :=
  (e.e1 = some a ∧ e.e2 = some b) ∨ (e.e1 = some b ∧ e.e2 = some a)

theorem find?_map_keep {α : Type} (key : α → Nat) (g : α → α) (hg : ∀ x, key (g x) = key x)
    (l : List α) (i : Nat) :
    (l.map g).find? (fun x => key x == i) = (l.find? (fun x => key x == i)).map g := by
  rw [List.find?_map]
  have : (fun x => key x == i) ∘ g = fun x => key x == i := funext fun x => by simp [hg]
  rw [this]

theorem perm_cons_filter_key {α : Type} (key : α → Nat) {l : List α} (hnd : (l.map key).Nodup)
    {x : α} (hx : x ∈ l) : l.Perm (x :: l.filter (fun y => key y != key x)) := by
  induction l with
  | nil => cases hx
  | cons a l ih =>
    simp only [List.map_cons, List.nodup_cons, List.mem_map, not_exists, not_and] at hnd
    rcases List.mem_cons.mp hx with rfl | hx'
    · have : (l.filter (fun y => key y != key x)) = l :=
        List.filter_eq_self.mpr (fun y hy => by simpa using fun (hh : key y = key x) => hnd.1 y hy hh)
      simp [this]
    · have hne : key a ≠ key x := fun hh => hnd.1 x hx' hh.symm
      have : (key a != key x) = true := by simpa using hne
      simp only [List.filter_cons, this, if_true]
      exact ((ih hnd.2 hx').cons a).trans (List.Perm.swap x a _)

theorem length_filter_ne_of_nodup {l : List Nat} {a : Nat} (hnd : l.Nodup) (ha : a ∈ l) :
    (l.filter (fun j => j != a)).length + 1 = l.length := by
  have := (perm_cons_filter_key id (by simpa using hnd) ha).length_eq
  simpa using this.symm

/-- two steps of "holds afterwards ↔ held before ∨ `j` is newly listed" compose when the list only grows
    (`HyperTreeMove.FullyKeeps.trans`, `HyperTreeCompose.Conserved.trans`) -/
theorem new_or_trans {Na Nb Nc L1 L2 : List Nat} (h1 : Nb = Na ++ L1) (h2 : Nc = Nb ++ L2) {A B C : Prop}
    {j : Nat} (hab : B ↔ (A ∨ (j ∈ Nb ∧ j ∉ Na))) (hbc : C ↔ (B ∨ (j ∈ Nc ∧ j ∉ Nb))) :
    C ↔ (A ∨ (j ∈ Nc ∧ j ∉ Na)) := by
  subst h1 h2
  rw [hbc, hab]
  simp only [List.mem_append]
  by_cases j ∈ Na <;> by_cases j ∈ L1 <;> simp [*]

theorem pt_beq_iff {p q : AdaptaVerif.Model.Geometry.Pt} : (p == q) = true ↔ p = q := by
  cases p; cases q
  simp only [BEq.beq]
  unfold AdaptaVerif.Model.Geometry.instBEqPt.beq
  simp

section fields
variable (t : HTree) (i : Nat)

theorem modNode_edges (f : HNode → HNode) : (t.modNode i f).edges = t.edges := rfl
theorem modNode_next (f : HNode → HNode) : (t.modNode i f).next = t.next := rfl
theorem modEdge_nodes (f : HEdge → HEdge) : (t.modEdge i f).nodes = t.nodes := rfl
theorem modEdge_next (f : HEdge → HEdge) : (t.modEdge i f).next = t.next := rfl

theorem mem_modNode {f : HNode → HNode} {n1 : HNode} :
    n1 ∈ (t.modNode i f).nodes ↔ ∃ n ∈ t.nodes, (if n.id == i then f n else n) = n1 := List.mem_map

end fields

/-- `replaceNode`'s effect on the edge record: the FIRST matching end is redirected -/
def redir (old new : Nat) (x : HEdge) : HEdge :=
  if x.e1 = some old then { x with e1 := some new }
  else if x.e2 = some old then { x with e2 := some new } else x

/-- `disconnectEdge` on a node record -/
def rmE (i : Nat) (n : HNode) : HNode := { n with edges := n.edges.filter (fun j => j != i) }

/-- `disconnectEdge` on an edge record -/
def nullE (x : HEdge) : HEdge := { x with e1 := none, e2 := none }

@[simp] theorem redir_id (o n : Nat) (x : HEdge) : (redir o n x).id = x.id := by
  unfold redir; split
  · rfl
  · split <;> rfl
@[simp] theorem rmE_id (i : Nat) (n : HNode) : (rmE i n).id = n.id := rfl
@[simp] theorem rmE_edges (i : Nat) (n : HNode) : (rmE i n).edges = n.edges.filter (fun j => j != i) := rfl
@[simp] theorem nullE_id (x : HEdge) : (nullE x).id = x.id := rfl

theorem node?_of_mem {t : HTree} (h : (t.nodes.map (·.id)).Nodup) {n : HNode} (hn : n ∈ t.nodes) :
    t.node? n.id = some n := Util.find?_of_nodup (fun n : HNode => n.id) h hn

theorem edge?_of_mem {t : HTree} (h : (t.edges.map (·.id)).Nodup) {e : HEdge} (he : e ∈ t.edges) :
    t.edge? e.id = some e := Util.find?_of_nodup (fun n : HEdge => n.id) h he

theorem node?_mem {t : HTree} {i : Nat} {n : HNode} (h : t.node? i = some n) : n ∈ t.nodes ∧ n.id = i :=
  ⟨List.mem_of_find?_eq_some h, by simpa using List.find?_some h⟩

theorem edge?_mem {t : HTree} {i : Nat} {e : HEdge} (h : t.edge? i = some e) : e ∈ t.edges ∧ e.id = i :=
  ⟨List.mem_of_find?_eq_some h, by simpa using List.find?_some h⟩

theorem HTree.ext' {a b : HTree} (h1 : a.nodes = b.nodes) (h2 : a.edges = b.edges)
    (h3 : a.next = b.next) (h4 : a.fixedConns = b.fixedConns) : a = b := by
  cases a; cases b; simp_all

theorem replaceNode_closed {t : HTree} (hE : (t.edges.map (·.id)).Nodup) {ed : HEdge}
    (hed : ed ∈ t.edges) {old new : Nat} (hon : old ≠ new)
    (hend : ed.e1 = some old ∨ ed.e2 = some old) :
    replaceNode t ed.id old new =
      { t with nodes := t.nodes.map (fun n => if n.id == old then rmE ed.id n
                          else if n.id == new then { n with edges := n.edges ++ [ed.id] } else n),
               edges := t.edges.map (fun x => if x.id == ed.id then redir old new x else x) } := by
  have hnodes : ∀ f : HEdge → HEdge,
      ((nodePush (nodeDisconnect t old ed.id) new ed.id).modEdge ed.id f).nodes =
        t.nodes.map (fun n => if n.id == old then rmE ed.id n
                          else if n.id == new then { n with edges := n.edges ++ [ed.id] } else n) := by
    intro f
    simp only [HTree.modEdge, nodePush, nodeDisconnect, HTree.modNode, List.map_map]
    apply List.map_congr_left
    intro n _
    simp only [Function.comp]
    by_cases h1 : n.id = old
    · have h2 : n.id ≠ new := h1 ▸ hon
      simp [h1, hon, rmE]
    · simp [h1]
  have hedges : ∀ f : HEdge → HEdge, (∀ x ∈ t.edges, x.id = ed.id → f x = redir old new x) →
      ((nodePush (nodeDisconnect t old ed.id) new ed.id).modEdge ed.id f).edges =
        t.edges.map (fun x => if x.id == ed.id then redir old new x else x) := by
    intro f hf
    simp only [HTree.modEdge, nodePush, nodeDisconnect, HTree.modNode]
    apply List.map_congr_left
    intro x hx
    by_cases h : x.id = ed.id
    · simp [h, hf x hx h]
    · simp [h]
  have hsame : ∀ x ∈ t.edges, x.id = ed.id → x = ed := fun x hx h => Util.eq_of_nodup_map hE hx hed h
  unfold replaceNode
  rw [edge?_of_mem hE hed]
  simp only
  split
  · next h1 =>
    exact HTree.ext' (hnodes _) (hedges (fun x => { x with e1 := some new }) (by
      intro x hx h; rw [hsame x hx h]; simp [redir, h1])) rfl rfl
  · next h1 =>
    have h2 : ed.e2 = some old := hend.resolve_left h1
    rw [if_pos h2]
    exact HTree.ext' (hnodes _) (hedges (fun x => { x with e2 := some new }) (by
      intro x hx h; rw [hsame x hx h]; simp [redir, h1, h2])) rfl rfl

theorem HNode.eta_edges (n : HNode) : { n with edges := n.edges } = n := rfl

/-- node record after the splice loop -/
def spN (old self : Nat) (l : List Nat) (n : HNode) : HNode :=
  if n.id == old then { n with edges := [] }
  else if n.id == self then { n with edges := n.edges ++ l } else n

/-- edge record after the splice loop -/
def spE (old self : Nat) (l : List Nat) (x : HEdge) : HEdge :=
  if l.contains x.id then redir old self x else x

@[simp] theorem spN_id (old self : Nat) (l : List Nat) (n : HNode) : (spN old self l n).id = n.id := by
  unfold spN; split
  · rfl
  · split <;> rfl

@[simp] theorem spE_id (old self : Nat) (l : List Nat) (x : HEdge) : (spE old self l x).id = x.id := by
  unfold spE; split
  · exact redir_id _ _ _
  · rfl

theorem spliceLoop_closed {self old : Nat} (hso : old ≠ self) :
    ∀ (l : List Nat) (fuel : Nat) (t : HTree) (o : HNode),
      (t.nodes.map (·.id)).Nodup → (t.edges.map (·.id)).Nodup →
      t.node? old = some o → o.edges = l → l.Nodup →
      (∀ i ∈ l, ∃ ed ∈ t.edges, ed.id = i ∧ (ed.e1 = some old ∨ ed.e2 = some old)) →
      l.length < fuel →
      spliceLoop fuel t self old = some
        { t with nodes := t.nodes.map (spN old self l), edges := t.edges.map (spE old self l) } := by
  unfold spN spE
  intro l
  induction l with
  | nil =>
    intro fuel t o hN _ ho hl _ _ hf
    obtain ⟨fuel, rfl⟩ : ∃ f, fuel = f + 1 := ⟨fuel - 1, by simp at hf; omega⟩
    simp only [spliceLoop, ho, hl]
    refine congrArg some ?_
    refine HTree.ext' ?_ ?_ rfl rfl
    · symm
      simp only
      conv => rhs; rw [← List.map_id t.nodes]
      apply List.map_congr_left
      intro n hn
      by_cases h1 : n.id = old
      · obtain rfl : n = o :=
          Util.eq_of_nodup_map hN hn (node?_mem ho).1 (h1.trans (node?_mem ho).2.symm)
        have : ({ n with edges := [] } : HNode) = n := by cases n; simp_all
        rw [if_pos (by simp [h1])]; exact this
      · simp [h1]
    · simp
  | cons e' tl ih =>
    intro fuel t o hN hE ho hl hnd hinc hf
    obtain ⟨fuel, rfl⟩ : ∃ f, fuel = f + 1 := ⟨fuel - 1, by simp at hf; omega⟩
    simp only [spliceLoop, ho, hl]
    obtain ⟨ed, hed, hid, hend⟩ := hinc e' List.mem_cons_self
    subst hid
    have hnotin : ed.id ∉ tl := (List.nodup_cons.mp hnd).1
    rw [replaceNode_closed hE hed hso hend]
    have hoid : o.id = old := (node?_mem ho).2
    rw [ih fuel _ (rmE ed.id o)]
    · refine congrArg some ?_
      refine HTree.ext' ?_ ?_ rfl rfl
      · simp only [List.map_map]
        apply List.map_congr_left
        intro n _
        simp only [Function.comp]
        by_cases h1 : n.id = old
        · simp [h1, rmE]
        · by_cases h2 : n.id = self
          · have hso' : self ≠ old := Ne.symm hso
            simp [h2, hso']
          · simp [h1, h2]
      · simp only [List.map_map]
        apply List.map_congr_left
        intro x _
        simp only [Function.comp]
        by_cases h1 : x.id = ed.id
        · simp [h1, hnotin]
        · simp [h1]
    · simpa [List.map_map, Function.comp_def, apply_ite HNode.id] using hN
    · simpa [List.map_map, Function.comp_def, apply_ite HEdge.id] using hE
    · simp only [HTree.node?]
      rw [find?_map_keep (fun n : HNode => n.id)]
      · have : t.nodes.find? (fun n => n.id == old) = some o := ho
        rw [this]; simp [hoid]
      · intro x; split
        · rfl
        · split <;> rfl
    · simp [rmE, hl]
      intro a ha h; exact hnotin (h ▸ ha)
    · exact (List.nodup_cons.mp hnd).2
    · intro i hi
      obtain ⟨ed', hed', hid', hend'⟩ := hinc i (List.mem_cons_of_mem _ hi)
      refine ⟨ed', ?_, hid', hend'⟩
      have : ed'.id ≠ ed.id := fun h => hnotin (h ▸ hid' ▸ hi)
      exact List.mem_map.mpr ⟨ed', hed', by simp [this]⟩
    · simp at hf ⊢; omega

theorem filter_map_eq {α β : Type} {f g : α → β} {p : β → Bool} {q : α → Bool} {l : List α}
    (hp : ∀ x ∈ l, p (f x) = q x) (hg : ∀ x ∈ l, q x = true → f x = g x) :
    (l.map f).filter p = (l.filter q).map g := by
  rw [List.filter_map, List.filter_congr (p := p ∘ f) (q := q) hp]
  exact List.map_congr_left fun x hx => hg x (List.mem_filter.mp hx).1 (List.mem_filter.mp hx).2

theorem WF.of_pairs {t : HTree} (hN : (t.nodes.map (·.id)).Nodup) (hE : (t.edges.map (·.id)).Nodup)
    (hends : ∀ e ∈ t.edges, ∃ a b, e.e1 = some a ∧ e.e2 = some b ∧ a ∈ t.graphV ∧ b ∈ t.graphV)
    (hL : ∀ n ∈ t.nodes, n.edges.Nodup ∧ ∀ i ∈ n.edges, ∃ e ∈ t.edges, e.id = i)
    (hinc : ∀ n ∈ t.nodes, ∀ e ∈ t.edges, e.id ∈ n.edges ↔ (e.e1 = some n.id ∨ e.e2 = some n.id))
    (hfN : ∀ n ∈ t.nodes, n.id < t.next) (hfE : ∀ e ∈ t.edges, e.id < t.next) : WF t :=
  ⟨hN, hE, hends, fun n hn => (hL n hn).1, fun n hn i => ⟨fun hi => by
      obtain ⟨e, he, rfl⟩ := (hL n hn).2 i hi
      exact ⟨e, he, rfl, (hinc n hn e he).mp hi⟩, fun ⟨e, he, hid, hor⟩ => hid ▸ (hinc n hn e he).mpr hor⟩, ⟨hfN, hfE⟩⟩

namespace WF
variable {t : HTree} (h : WF t)
include h

theorem mem_edges_iff {n : HNode} (hn : n ∈ t.nodes) {ed : HEdge} (hed : ed ∈ t.edges) :
    ed.id ∈ n.edges ↔ (ed.e1 = some n.id ∨ ed.e2 = some n.id) := by
  rw [h.inc n hn]
  constructor
  · rintro ⟨e', he', hid, hor⟩
    rw [← Util.eq_of_nodup_map h.nodupE he' hed hid]; exact hor
  · intro hor; exact ⟨ed, hed, rfl, hor⟩

theorem listed {n : HNode} (hn : n ∈ t.nodes) {i : Nat} (hi : i ∈ n.edges) : ∃ e ∈ t.edges, e.id = i :=
  let ⟨e, he, hid, _⟩ := (h.inc n hn i).mp hi
  ⟨e, he, hid⟩

omit h in
theorem node_of_mem_graphV {a : Nat} (ha : a ∈ t.graphV) : ∃ n ∈ t.nodes, n.id = a := by
  simpa [HTree.graphV] using ha

theorem node_eq {n m : HNode} (hn : n ∈ t.nodes) (hm : m ∈ t.nodes) (hid : n.id = m.id) : n = m :=
  Util.eq_of_nodup_map h.nodupN hn hm hid

theorem edge_eq {n m : HEdge} (hn : n ∈ t.edges) (hm : m ∈ t.edges) (hid : n.id = m.id) : n = m :=
  Util.eq_of_nodup_map h.nodupE hn hm hid

end WF

theorem joins_mem_graphV {t : HTree} (h : WF t) {e : HEdge} (he : e ∈ t.edges) {a b : Nat}
    (hj : Joins e a b) : a ∈ t.graphV ∧ b ∈ t.graphV := by
  obtain ⟨a', b', h1, h2, ha, hb⟩ := h.ends e he
  rcases hj with ⟨j1, j2⟩ | ⟨j1, j2⟩
  · rw [h1] at j1; rw [h2] at j2; cases j1; cases j2; exact ⟨ha, hb⟩
  · rw [h1] at j1; rw [h2] at j2; cases j1; cases j2; exact ⟨hb, ha⟩

theorem joins_of_ends {e : HEdge} {a b : Nat} (ha : e.e1 = some a ∨ e.e2 = some a)
    (hb : e.e1 = some b ∨ e.e2 = some b) (hab : a ≠ b) : Joins e a b := by
  rcases ha with h1 | h1 <;> rcases hb with h2 | h2
  · exact absurd (Option.some.inj (h1.symm.trans h2)) hab
  · exact Or.inl ⟨h1, h2⟩
  · exact Or.inr ⟨h2, h1⟩
  · exact absurd (Option.some.inj (h1.symm.trans h2)) hab

theorem Joins.symm {e : HEdge} {a b : Nat} (h : Joins e a b) : Joins e b a := Or.symm h

theorem Joins.congr {e x : HEdge} {a b : Nat} (h : Joins e a b) (h1 : x.e1 = e.e1) (h2 : x.e2 = e.e2) :
    Joins x a b := by
  unfold Joins at h ⊢
  rwa [h1, h2]

theorem joins_end_left {e : HEdge} {a b : Nat} (h : Joins e a b) : e.e1 = some a ∨ e.e2 = some a :=
  h.elim (fun h => Or.inl h.1) (fun h => Or.inr h.2)

theorem joins_end_right {e : HEdge} {a b : Nat} (h : Joins e a b) : e.e1 = some b ∨ e.e2 = some b :=
  joins_end_left h.symm

theorem joins_end_iff {e : HEdge} {a b : Nat} (hj : Joins e a b) (v : Nat) :
    (e.e1 = some v ∨ e.e2 = some v) ↔ (v = a ∨ v = b) := by
  rcases hj with ⟨h1, h2⟩ | ⟨h1, h2⟩
  · rw [h1, h2, Option.some.injEq, Option.some.injEq, eq_comm (a := a), eq_comm (a := b)]
  · rw [h1, h2, Option.some.injEq, Option.some.injEq, eq_comm (a := b), eq_comm (a := a)]
    exact Or.comm

theorem joins_of_followFrom {t : HTree} (h : WF t) {sn : HNode} (hsn : sn ∈ t.nodes) {ed : HEdge}
    (hed : ed ∈ t.edges) (hin : ed.id ∈ sn.edges) {o : Nat} (hf : ed.followFrom sn.id = some o) :
    Joins ed sn.id o := by
  have hor := (h.mem_edges_iff hsn hed).mp hin
  unfold HEdge.followFrom at hf
  by_cases h1 : ed.e1 = some sn.id
  · rw [if_pos h1] at hf
    exact Or.inl ⟨h1, hf⟩
  · rw [if_neg h1] at hf
    exact Or.inr ⟨hf, hor.resolve_left h1⟩

theorem joins_far_unique {e : HEdge} {a b b' : Nat} (h1 : Joins e a b) (h2 : Joins e a b')
    (hab : a ≠ b) : b = b' :=
  ((joins_end_iff h2 b).mp (joins_end_right h1)).resolve_left (Ne.symm hab)

theorem next_not_mem_graphV {t : HTree} (h : WF t) : t.next ∉ t.graphV := by
  intro hm
  obtain ⟨n, hn, hid⟩ := WF.node_of_mem_graphV hm
  exact Nat.lt_irrefl _ (hid ▸ h.fresh.1 n hn)

/-- `t1` is `t` with every node record passed through `gN` and every edge record through `gE`, which leave the
    structural fields (numbers, edge lists, ends) alone: the steps that only touch junction and connector pointers,
    terminal attributes or positions are of this kind. What else a step keeps is said about `gN`, `gE`. -/
structure Relabel (gN : HNode → HNode) (gE : HEdge → HEdge) (t t1 : HTree) : Prop where
  nodes : t1.nodes = t.nodes.map gN
  edges : t1.edges = t.edges.map gE
  next : t1.next = t.next
  nid : ∀ n, (gN n).id = n.id
  nedges : ∀ n, (gN n).edges = n.edges
  eid : ∀ x, (gE x).id = x.id
  e1 : ∀ x, (gE x).e1 = x.e1
  e2 : ∀ x, (gE x).e2 = x.e2

namespace Relabel
variable {gN : HNode → HNode} {gE : HEdge → HEdge} {t t1 : HTree} (h : Relabel gN gE t t1)
include h

theorem mem_nodes {n1 : HNode} : n1 ∈ t1.nodes ↔ ∃ n ∈ t.nodes, gN n = n1 := by rw [h.nodes]; exact List.mem_map
theorem mem_edges {x1 : HEdge} : x1 ∈ t1.edges ↔ ∃ x ∈ t.edges, gE x = x1 := by rw [h.edges]; exact List.mem_map

theorem graphV : t1.graphV = t.graphV := by
  simp only [HTree.graphV, h.nodes, List.map_map]
  exact List.map_congr_left fun n _ => h.nid n

theorem graphE : t1.graphE = t.graphE := by
  simp only [HTree.graphE, h.edges, List.filterMap_map]
  exact Util.filterMap_congr' fun x _ => by simp only [Function.comp, HEdge.ends?, h.e1, h.e2]

theorem wf (hw : WF t) : WF t1 := by
  refine WF.of_pairs ?_ ?_ ?_ ?_ ?_ ?_ ?_
  · show (HTree.graphV _).Nodup
    rw [h.graphV]; exact hw.nodupN
  · rw [h.edges, List.map_map, show (fun x : HEdge => x.id) ∘ gE = (·.id) from funext h.eid]; exact hw.nodupE
  · intro e1 he1
    obtain ⟨e, he, rfl⟩ := h.mem_edges.mp he1
    rw [h.e1, h.e2, h.graphV]; exact hw.ends e he
  · intro n1 hn1
    obtain ⟨n, hn, rfl⟩ := h.mem_nodes.mp hn1
    rw [h.nedges]
    refine ⟨hw.nodupL n hn, fun i hi => ?_⟩
    obtain ⟨x, hx, hxi⟩ := hw.listed hn hi
    exact ⟨gE x, h.mem_edges.mpr ⟨x, hx, rfl⟩, (h.eid x).trans hxi⟩
  · intro n1 hn1 x1 hx1
    obtain ⟨n, hn, rfl⟩ := h.mem_nodes.mp hn1
    obtain ⟨x, hx, rfl⟩ := h.mem_edges.mp hx1
    rw [h.nedges, h.nid, h.eid, h.e1, h.e2]; exact hw.mem_edges_iff hn hx
  · intro n1 hn1
    obtain ⟨n, hn, rfl⟩ := h.mem_nodes.mp hn1
    rw [h.nid, h.next]; exact hw.fresh.1 n hn
  · intro e1 he1
    obtain ⟨e, he, rfl⟩ := h.mem_edges.mp he1
    rw [h.eid, h.next]; exact hw.fresh.2 e he

theorem tree (ht : Tree t) : Tree t1 := ⟨h.wf ht.1, by rw [h.graphV, h.graphE]; exact ht.2⟩

omit h in
theorem trans {g2 : HNode → HNode} {k2 : HEdge → HEdge} {t2 : HTree} (h : Relabel gN gE t t1)
    (h2 : Relabel g2 k2 t1 t2) : Relabel (g2 ∘ gN) (k2 ∘ gE) t t2 :=
  ⟨by rw [h2.nodes, h.nodes, List.map_map], by rw [h2.edges, h.edges, List.map_map], h2.next.trans h.next,
   fun n => (h2.nid _).trans (h.nid n), fun n => (h2.nedges _).trans (h.nedges n),
   fun x => (h2.eid _).trans (h.eid x), fun x => (h2.e1 _).trans (h.e1 x), fun x => (h2.e2 _).trans (h.e2 x)⟩

end Relabel

theorem Relabel.refl (t : HTree) : Relabel id id t t :=
  ⟨(List.map_id _).symm, (List.map_id _).symm, rfl, fun _ => rfl, fun _ => rfl, fun _ => rfl, fun _ => rfl, fun _ => rfl⟩

/-- the record function of `modNode` / `modEdge` -/
def atId {α : Type} (key : α → Nat) (i : Nat) (f : α → α) (x : α) : α := if key x == i then f x else x

theorem atId_keeps {α β : Type} {key : α → Nat} {i : Nat} {f : α → α} (fld : α → β) (hf : ∀ x, fld (f x) = fld x)
    (x : α) : fld (atId key i f x) = fld x := by
  unfold atId; split
  · exact hf x
  · rfl

theorem Relabel.modNode (t : HTree) (i : Nat) {f : HNode → HNode} (hid : ∀ n, (f n).id = n.id)
    (hed : ∀ n, (f n).edges = n.edges) : Relabel (atId (·.id) i f) id t (t.modNode i f) :=
  ⟨rfl, (List.map_id _).symm, rfl, atId_keeps _ hid, atId_keeps _ hed, fun _ => rfl, fun _ => rfl, fun _ => rfl⟩

theorem Relabel.modEdge (t : HTree) (i : Nat) {f : HEdge → HEdge} (hid : ∀ x, (f x).id = x.id)
    (h1 : ∀ x, (f x).e1 = x.e1) (h2 : ∀ x, (f x).e2 = x.e2) : Relabel id (atId (·.id) i f) t (t.modEdge i f) :=
  ⟨(List.map_id _).symm, rfl, rfl, fun _ => rfl, fun _ => rfl, atId_keeps _ hid, atId_keeps _ h1, atId_keeps _ h2⟩

theorem rmE_rmE (i : Nat) (n : HNode) : rmE i (rmE i n) = rmE i n := by
  simp [rmE, List.filter_filter]

theorem rmE_of_not_mem {i : Nat} {n : HNode} (hi : i ∉ n.edges) : rmE i n = n := by
  have : n.edges.filter (fun j => j != i) = n.edges :=
    List.filter_eq_self.mpr (fun a ha => by simpa using fun (h' : a = i) => hi (h' ▸ ha))
  cases n; simp_all [rmE]

theorem edgeDisconnect_closed {t : HTree} (h : WF t) {ed : HEdge} (hed : ed ∈ t.edges) :
    edgeDisconnect t ed.id = some
      { t with nodes := t.nodes.map (rmE ed.id),
               edges := t.edges.map (fun x => if x.id == ed.id then nullE x else x) } := by
  obtain ⟨a, b, ha, hb, _, _⟩ := h.ends ed hed
  unfold edgeDisconnect
  rw [edge?_of_mem h.nodupE hed]
  simp only [ha, hb]
  refine congrArg some ?_
  refine HTree.ext' ?_ rfl rfl rfl
  simp only [HTree.modEdge, nodeDisconnect, HTree.modNode, List.map_map]
  apply List.map_congr_left
  intro n hn
  simp only [Function.comp]
  have hiff := h.mem_edges_iff hn hed
  rw [ha, hb] at hiff
  show (if (if n.id == a then rmE ed.id n else n).id == b
          then rmE ed.id (if n.id == a then rmE ed.id n else n)
          else (if n.id == a then rmE ed.id n else n)) = rmE ed.id n
  cases ha' : (n.id == a) <;> cases hb' : (n.id == b) <;>
    simp only [hb', rmE_id, rmE_rmE, if_true, if_false, Bool.false_eq_true]
  have : ed.id ∉ n.edges := by
    rw [hiff]
    simp only [beq_eq_false_iff_ne, ne_eq] at ha' hb'
    simp only [Option.some.injEq, not_or]
    exact ⟨fun h => ha' h.symm, fun h => hb' h.symm⟩
  exact (rmE_of_not_mem this).symm

theorem spliceEdgesFrom_closed {t : HTree} {self old : Nat} (hso : old ≠ self) {o : HNode}
    (hN : (t.nodes.map (·.id)).Nodup) (hE : (t.edges.map (·.id)).Nodup)
    (ho : t.node? old = some o) (hnd : o.edges.Nodup)
    (hinc : ∀ i ∈ o.edges, ∃ ed ∈ t.edges, ed.id = i ∧ (ed.e1 = some old ∨ ed.e2 = some old)) :
    spliceEdgesFrom t self old = some
      { t with nodes := t.nodes.map (spN old self o.edges),
               edges := t.edges.map (spE old self o.edges) } := by
  unfold spliceEdgesFrom
  rw [if_neg hso, ho]
  exact spliceLoop_closed hso o.edges _ t o hN hE ho rfl hnd hinc (Nat.lt_succ_self _)

/-- the heap after identifying `src` with `tg` and dropping the edge `e`; `sl` is what is appended
    to `tg`'s list (`src`'s old list without `e`) -/
def identified (t : HTree) (e tg src : Nat) (sl : List Nat) : HTree :=
  { t with nodes := (t.nodes.filter (fun n => n.id != src)).map
                      (fun n => if n.id == tg then { n with edges := n.edges.filter (fun j => j != e) ++ sl }
                                else rmE e n),
           edges := (t.edges.filter (fun x => x.id != e)).map (redir src tg) }

theorem redir_of_no_end {old new : Nat} {x : HEdge} (h1 : x.e1 ≠ some old) (h2 : x.e2 ≠ some old) :
    redir old new x = x := by simp [redir, h1, h2]

/-- the splice step, after `disconnectEdge`, whatever has been done to the record of `e` -/
theorem splice_after_disconnect {t t2 : HTree} (h : WF t) {e : Nat} {so : HNode}
    (hso : so ∈ t.nodes) {tg : Nat} (hne : tg ≠ so.id)
    (hn2 : t2.nodes = t.nodes.map (rmE e)) (hE2 : (t2.edges.map (·.id)).Nodup)
    (hsub : ∀ x ∈ t.edges, x.id ≠ e → x ∈ t2.edges) :
    spliceEdgesFrom t2 tg so.id = some
      { t2 with nodes := (t.nodes.map (rmE e)).map (spN so.id tg (so.edges.filter (fun j => j != e))),
                edges := t2.edges.map (spE so.id tg (so.edges.filter (fun j => j != e))) } := by
  have hN2 : (t2.nodes.map (·.id)).Nodup := by
    rw [hn2]; simpa [List.map_map, Function.comp_def] using h.nodupN
  have ho : t2.node? so.id = some (rmE e so) := by
    simp only [HTree.node?, hn2]
    rw [find?_map_keep (fun n : HNode => n.id) (rmE e) (fun _ => rfl)]
    have := node?_of_mem h.nodupN hso
    simp only [HTree.node?] at this
    rw [this]; rfl
  rw [spliceEdgesFrom_closed (Ne.symm hne) hN2 hE2 ho]
  · rw [hn2]; rfl
  · exact List.Nodup.sublist List.filter_sublist (h.nodupL so hso)
  · intro i hi
    simp only [rmE_edges, List.mem_filter, bne_iff_ne, ne_eq] at hi
    obtain ⟨ed, hed, hid, hor⟩ := (h.inc so hso i).mp hi.1
    exact ⟨ed, hsub ed hed (hid ▸ hi.2), hid, hor⟩

theorem spE_eq_redir {t : HTree} (h : WF t) {so : HNode} (hso : so ∈ t.nodes) {e tg : Nat}
    {x : HEdge} (hx : x ∈ t.edges) (hxe : x.id ≠ e) :
    spE so.id tg (so.edges.filter (fun j => j != e)) x = redir so.id tg x := by
  unfold spE
  split
  · rfl
  · next hc =>
    have hni : x.id ∉ so.edges := by
      intro hm; apply hc
      simp only [List.contains_eq_mem, List.mem_filter, bne_iff_ne, ne_eq, decide_eq_true_eq]
      exact ⟨hm, hxe⟩
    rw [h.mem_edges_iff hso hx, not_or] at hni
    exact (redir_of_no_end hni.1 hni.2).symm

theorem identified_nodes_eq {t : HTree} {e tg src : Nat} (hne : tg ≠ src) (l : List Nat) :
    ((t.nodes.map (rmE e)).map (spN src tg l)).filter (fun n => n.id != src) =
      (identified t e tg src l).nodes := by
  rw [List.map_map]
  apply filter_map_eq
  · intro x _; simp
  · intro x _ hq
    simp only [bne_iff_ne, ne_eq] at hq
    by_cases hh : x.id = tg
    · have : ¬ tg = src := hne
      simp [spN, hh, this, rmE]
    · simp [spN, hq, hh]

/-- one iteration of the loop of `mergeCommon`, with the far end `src` of `e` already looked up -/
def mergeStep (t : HTree) (e tg src : Nat) : Option HTree := do
  let t1 ← edgeDisconnect t e
  let t2 ← spliceEdgesFrom t1 tg src
  pure ((t2.deleteNode src).deleteEdge e)

theorem mergeCommon_cons (self tg e : Nat) (rest : List Nat) (t : HTree) :
    mergeCommon self tg (e :: rest) t =
      (farEnd t e self).bind (fun src => (mergeStep t e tg src).bind (mergeCommon self tg rest)) := by
  simp only [mergeCommon, mergeStep, bind, pure]
  cases farEnd t e self with
  | none => rfl
  | some src =>
    simp only [Option.bind]
    cases edgeDisconnect t e with
    | none => rfl
    | some t1 =>
      simp only
      cases spliceEdgesFrom t1 tg src <;> rfl

theorem contract_eq {t : HTree} (h : WF t) {ed : HEdge} (hed : ed ∈ t.edges) {so : HNode}
    (hso : so ∈ t.nodes) {tg : Nat} (hne : tg ≠ so.id) :
    contract t ed.id tg so.id =
      some (identified t ed.id tg so.id (so.edges.filter (fun j => j != ed.id))) := by
  have hfil : (t.edges.map (fun x => if x.id == ed.id then nullE x else x)).filter
      (fun x => x.id != ed.id) = t.edges.filter (fun x => x.id != ed.id) := by
    rw [filter_map_eq (g := fun x => x) (q := fun x => x.id != ed.id)]
    · simp
    · intro x _; split <;> simp
    · intro x _ hq
      simp only [bne_iff_ne, ne_eq] at hq
      simp [hq]
  simp only [contract, bind, pure]
  rw [edgeDisconnect_closed h hed]
  simp only [Option.bind, HTree.deleteEdge]
  rw [splice_after_disconnect h hso hne rfl]
  · simp only [HTree.deleteNode]
    refine congrArg some ?_
    refine HTree.ext' (identified_nodes_eq hne _) ?_ rfl rfl
    simp only [identified, hfil]
    apply List.map_congr_left
    intro x hx
    simp only [List.mem_filter, bne_iff_ne, ne_eq] at hx
    exact spE_eq_redir h hso hx.1 hx.2
  · simp only [hfil]
    exact List.Nodup.sublist (List.Sublist.map _ List.filter_sublist) h.nodupE
  · intro x hx hxe
    simp only [hfil, List.mem_filter, bne_iff_ne, ne_eq]
    exact ⟨hx, hxe⟩

theorem mergeStep_eq {t : HTree} (h : WF t) {ed : HEdge} (hed : ed ∈ t.edges) {so : HNode}
    (hso : so ∈ t.nodes) {tg : Nat} (hne : tg ≠ so.id) :
    mergeStep t ed.id tg so.id =
      some (identified t ed.id tg so.id (so.edges.filter (fun j => j != ed.id))) := by
  simp only [mergeStep, bind, pure]
  rw [edgeDisconnect_closed h hed]
  simp only [Option.bind]
  rw [splice_after_disconnect h hso hne rfl]
  · simp only [HTree.deleteNode, HTree.deleteEdge]
    refine congrArg some ?_
    refine HTree.ext' (identified_nodes_eq hne _) ?_ rfl rfl
    simp only [identified, List.map_map]
    apply filter_map_eq
    · intro x _; simp only [Function.comp, spE_id]; split <;> simp
    · intro x hx hq
      simp only [bne_iff_ne, ne_eq] at hq
      simp only [Function.comp]
      rw [if_neg (by simpa using hq)]
      exact spE_eq_redir h hso hx hq
  · simpa [List.map_map, Function.comp_def, apply_ite HEdge.id] using h.nodupE
  · intro x hx hxe
    exact List.mem_map.mpr ⟨x, hx, by simp [hxe]⟩

theorem redir_ends {src tg : Nat} {x : HEdge} (hloop : ¬ (x.e1 = some src ∧ x.e2 = some src)) :
    (redir src tg x).e1 = x.e1.map (ren src tg) ∧ (redir src tg x).e2 = x.e2.map (ren src tg) := by
  have keep : ∀ o : Option Nat, o ≠ some src → o.map (ren src tg) = o := by
    intro o ho
    cases o with
    | none => rfl
    | some a =>
      have : a ≠ src := fun ha => ho (by rw [ha])
      simp [ren, this]
  unfold redir
  by_cases h1 : x.e1 = some src
  · rw [if_pos h1]
    exact ⟨by simp [h1, ren], (keep _ fun h => hloop ⟨h1, h⟩).symm⟩
  · rw [if_neg h1]
    by_cases h2 : x.e2 = some src
    · rw [if_pos h2]
      exact ⟨(keep _ h1).symm, by simp [h2, ren]⟩
    · rw [if_neg h2]
      exact ⟨(keep _ h1).symm, (keep _ h2).symm⟩

theorem map_ren_eq_some_other {src tg v : Nat} (h1 : v ≠ src) (h2 : v ≠ tg) (o : Option Nat) :
    o.map (ren src tg) = some v ↔ o = some v := by
  cases o with
  | none => simp
  | some a =>
    simp only [Option.map_some, Option.some.injEq, ren]
    split
    · next h =>
      subst h
      exact ⟨fun h => absurd h.symm h2, fun h => absurd h.symm h1⟩
    · exact Iff.rfl

theorem map_ren_eq_some_tg {src tg : Nat} (o : Option Nat) :
    o.map (ren src tg) = some tg ↔ (o = some tg ∨ o = some src) := by
  cases o with
  | none => simp
  | some a =>
    simp only [Option.map_some, Option.some.injEq, ren]
    split
    · next h => subst h; simp
    · next h => simp [h]

theorem identified_graphV (t : HTree) (e tg src : Nat) (sl : List Nat) :
    (identified t e tg src sl).graphV = t.graphV.filter (fun v => v != src) := by
  simp only [HTree.graphV, identified, List.map_map, List.filter_map]
  apply List.map_congr_left
  intro n _
  simp only [Function.comp]
  split <;> rfl

theorem identified_graphE {t : HTree} (h : WF t) {e tg src : Nat} (sl : List Nat)
    (hloop : ∀ e' ∈ t.edges, ¬ Joins e' src src) :
    (identified t e tg src sl).graphE =
      ((t.edges.filter (fun e' => e'.id != e)).filterMap HEdge.ends?).map (renE src tg) := by
  simp only [HTree.graphE, identified, List.filterMap_map, List.map_filterMap]
  apply Util.filterMap_congr'
  intro x hx
  have hx' : x ∈ t.edges := (List.mem_filter.mp hx).1
  obtain ⟨a, b, ha, hb, _, _⟩ := h.ends x hx'
  have := redir_ends (tg := tg) (x := x) (src := src) (fun hh => hloop x hx' (Or.inl hh))
  simp only [Function.comp, HEdge.ends?, this.1, this.2, ha, hb, Option.map_some, renE]

theorem mem_identified_nodes {t : HTree} {e tg src : Nat} {sl : List Nat} {n' : HNode} :
    n' ∈ (identified t e tg src sl).nodes ↔ ∃ n ∈ t.nodes, n.id ≠ src ∧
      n' = if n.id = tg then { n with edges := n.edges.filter (fun j => j != e) ++ sl } else rmE e n := by
  simp only [identified, List.mem_map, List.mem_filter, bne_iff_ne, ne_eq, beq_iff_eq, and_assoc, eq_comm (a := n')]

theorem mem_identified_edges {t : HTree} {e tg src : Nat} {sl : List Nat} {x' : HEdge} :
    x' ∈ (identified t e tg src sl).edges ↔ ∃ x ∈ t.edges, x.id ≠ e ∧ x' = redir src tg x := by
  simp only [identified, List.mem_map, List.mem_filter, bne_iff_ne, ne_eq, and_assoc, eq_comm (a := x')]

theorem identified_WF {t : HTree} (h : WF t) {ed : HEdge} {so : HNode}
    (hso : so ∈ t.nodes) {tg : Nat} (htg : tg ∈ t.graphV) (hne : tg ≠ so.id)
    (hpar : ∀ e' ∈ t.edges, e'.id ≠ ed.id → ¬ Joins e' tg so.id)
    (hloop : ∀ e' ∈ t.edges, ¬ Joins e' so.id so.id) :
    WF (identified t ed.id tg so.id (so.edges.filter (fun j => j != ed.id))) := by
  have hV := identified_graphV t ed.id tg so.id (so.edges.filter (fun j => j != ed.id))
  have hre : ∀ x ∈ t.edges, (redir so.id tg x).e1 = x.e1.map (ren so.id tg) ∧
      (redir so.id tg x).e2 = x.e2.map (ren so.id tg) :=
    fun x hx => redir_ends (fun hh => hloop x hx (Or.inl hh))
  have hf : ∀ m ∈ t.nodes, (m.edges.filter (fun j => j != ed.id)).Nodup :=
    fun m hm => (h.nodupL m hm).sublist List.filter_sublist
  have hl : ∀ m ∈ t.nodes, ∀ i ∈ m.edges.filter (fun j => j != ed.id),
      ∃ x' ∈ (identified t ed.id tg so.id (so.edges.filter (fun j => j != ed.id))).edges, x'.id = i := by
    intro m hm i hi
    simp only [List.mem_filter, bne_iff_ne, ne_eq] at hi
    obtain ⟨x, hx, rfl⟩ := h.listed hm hi.1
    exact ⟨_, mem_identified_edges.mpr ⟨x, hx, hi.2, rfl⟩, redir_id _ _ _⟩
  refine WF.of_pairs ?_ ?_ ?_ ?_ ?_ ?_ ?_
  · show (HTree.graphV _).Nodup
    rw [hV]
    exact h.nodupN.sublist List.filter_sublist
  · simp only [identified, List.map_map]
    rw [show (fun x : HEdge => x.id) ∘ redir so.id tg = fun x => x.id from funext fun x => redir_id _ _ x]
    exact h.nodupE.sublist (List.Sublist.map _ List.filter_sublist)
  · intro e' he'
    obtain ⟨x, hx, _, rfl⟩ := mem_identified_edges.mp he'
    obtain ⟨a, b, ha, hb, hav, hbv⟩ := h.ends x hx
    have hren : ∀ v ∈ t.graphV, ren so.id tg v ∈ t.graphV.filter (fun v => v != so.id) := by
      intro v hv
      rw [mem_filter_ne]
      unfold ren; split
      · exact ⟨htg, hne⟩
      · next hh => exact ⟨hv, hh⟩
    rw [hV]
    exact ⟨ren so.id tg a, ren so.id tg b, by rw [(hre x hx).1, ha]; rfl,
      by rw [(hre x hx).2, hb]; rfl, hren a hav, hren b hbv⟩
  · intro n' hn'
    obtain ⟨n, hn, hns, rfl⟩ := mem_identified_nodes.mp hn'
    split
    · next hnt =>
      refine ⟨List.nodup_append.mpr ⟨hf n hn, hf so hso, ?_⟩, fun i hi => ?_⟩
      · intro i hi j hj hij
        subst hij
        simp only [List.mem_filter, bne_iff_ne, ne_eq] at hi hj
        obtain ⟨x, hx, rfl⟩ := h.listed hn hi.1
        exact hpar x hx hi.2 (joins_of_ends (hnt ▸ (h.mem_edges_iff hn hx).mp hi.1)
          ((h.mem_edges_iff hso hx).mp hj.1) hne)
      · exact (List.mem_append.mp hi).elim (hl n hn i) (hl so hso i)
    · exact ⟨hf n hn, hl n hn⟩
  · intro n' hn' x' hx'
    obtain ⟨n, hn, hns, rfl⟩ := mem_identified_nodes.mp hn'
    obtain ⟨x, hx, hxe, rfl⟩ := mem_identified_edges.mp hx'
    have A := h.mem_edges_iff hn hx
    have B := h.mem_edges_iff hso hx
    rw [redir_id, (hre x hx).1, (hre x hx).2]
    split
    · next hnt =>
      simp only [List.mem_append, List.mem_filter, bne_iff_ne, ne_eq, hxe, not_false_eq_true, and_true, A, B, hnt,
        map_ren_eq_some_tg]
      exact or_or_or_comm
    · next hnt =>
      simp only [rmE_edges, rmE_id, List.mem_filter, bne_iff_ne, ne_eq, hxe, not_false_eq_true, and_true, A,
        map_ren_eq_some_other hns hnt]
  · intro n' hn'
    obtain ⟨n, hn, _, rfl⟩ := mem_identified_nodes.mp hn'
    have := h.fresh.1 n hn
    split <;> exact this
  · intro e' he'
    obtain ⟨x, hx, _, rfl⟩ := mem_identified_edges.mp he'
    rw [redir_id]; exact h.fresh.2 x hx

open AdaptaVerif.Lemmas.Tree

/-- the number and the non-structural fields of a node record are unchanged -/
structure NodeKept (n n' : HNode) : Prop where
  id : n'.id = n.id
  junction : n'.junction = n.junction
  point : n'.point = n.point
  finalVertex : n'.finalVertex = n.finalVertex
  isConnectorSource : n'.isConnectorSource = n.isConnectorSource
  isPinDummyEndpoint : n'.isPinDummyEndpoint = n.isPinDummyEndpoint

/-- the number and the non-structural fields of an edge record are unchanged -/
structure EdgeKept (x x' : HEdge) : Prop where
  id : x'.id = x.id
  conn : x'.conn = x.conn
  hasFixedRoute : x'.hasFixedRoute = x.hasFixedRoute

theorem NodeKept.refl (n : HNode) : NodeKept n n := ⟨rfl, rfl, rfl, rfl, rfl, rfl⟩
theorem EdgeKept.refl (x : HEdge) : EdgeKept x x := ⟨rfl, rfl, rfl⟩

theorem NodeKept.trans {a b c : HNode} (h1 : NodeKept a b) (h2 : NodeKept b c) : NodeKept a c :=
  ⟨h2.id.trans h1.id, h2.junction.trans h1.junction, h2.point.trans h1.point,
   h2.finalVertex.trans h1.finalVertex, h2.isConnectorSource.trans h1.isConnectorSource,
   h2.isPinDummyEndpoint.trans h1.isPinDummyEndpoint⟩

theorem EdgeKept.trans {a b c : HEdge} (h1 : EdgeKept a b) (h2 : EdgeKept b c) : EdgeKept a c :=
  ⟨h2.id.trans h1.id, h2.conn.trans h1.conn, h2.hasFixedRoute.trans h1.hasFixedRoute⟩

theorem redir_kept (o n : Nat) (x : HEdge) : EdgeKept x (redir o n x) := by
  unfold redir; split
  · exact ⟨rfl, rfl, rfl⟩
  · split
    · exact ⟨rfl, rfl, rfl⟩
    · exact EdgeKept.refl x

def restE (t : HTree) (e : Nat) : List Edge :=
  (t.edges.filter (fun e' => e'.id != e)).filterMap HEdge.ends?

theorem graphE_perm {t : HTree} (h : WF t) {e : HEdge} (he : e ∈ t.edges) {a b : Nat}
    (h1 : e.e1 = some a) (h2 : e.e2 = some b) : t.graphE.Perm ((a, b) :: restE t e.id) := by
  have hp := perm_cons_filter_key (fun x : HEdge => x.id) h.nodupE he
  have := hp.filterMap HEdge.ends?
  simpa [HTree.graphE, restE, HEdge.ends?, h1, h2] using this

theorem adj_restE {t : HTree} {e : Nat} {x : HEdge} (hx : x ∈ t.edges) (hxe : x.id ≠ e) {a b : Nat}
    (hj : Joins x a b) : Adj (restE t e) a b := by
  have hm : x ∈ t.edges.filter (fun e' => e'.id != e) := by
    simp only [List.mem_filter, bne_iff_ne, ne_eq]; exact ⟨hx, hxe⟩
  rcases hj with ⟨h1, h2⟩ | ⟨h1, h2⟩
  · exact Or.inl (List.mem_filterMap.mpr ⟨x, hm, by simp [HEdge.ends?, h1, h2]⟩)
  · exact Or.inr (List.mem_filterMap.mpr ⟨x, hm, by simp [HEdge.ends?, h1, h2]⟩)

theorem Tree.isTree_head {t : HTree} (h : Tree t) {e : HEdge} (he : e ∈ t.edges) {a b : Nat}
    (hj : Joins e a b) : IsTree t.graphV ((a, b) :: restE t e.id) := by
  rcases hj with ⟨h1, h2⟩ | ⟨h1, h2⟩
  · exact isTree_congr (fun _ => Iff.rfl) (graphE_perm h.1 he h1 h2) h.2
  · exact isTree_swap_head (isTree_congr (fun _ => Iff.rfl) (graphE_perm h.1 he h1 h2) h.2)

theorem Tree.ne_of_joins {t : HTree} (h : Tree t) {e : HEdge} (he : e ∈ t.edges) {a b : Nat}
    (hj : Joins e a b) : a ≠ b :=
  isTree_bridge_ne (h.isTree_head he hj) (List.Perm.refl _)

theorem Tree.no_loop {t : HTree} (h : Tree t) {e : HEdge} (he : e ∈ t.edges) (a : Nat) :
    ¬ Joins e a a := fun hj => h.ne_of_joins he hj rfl

theorem Tree.no_parallel {t : HTree} (h : Tree t) {e e' : HEdge} (he : e ∈ t.edges)
    (he' : e' ∈ t.edges) (hne : e'.id ≠ e.id) {a b : Nat} (hj : Joins e a b) : ¬ Joins e' a b :=
  fun hj' => isTree_bridge (h.isTree_head he hj) (List.Perm.refl _)
    (Reach.single (adj_restE he' hne hj'))

/-- what `contract` / `mergeStep` do, as one record: the edge `e` joins `x` and `src`, it is deleted and `src`
    is glued onto `tg` (`x = tg` for a contraction) -/
structure IdentifySpec (t : HTree) (e : HEdge) (x tg src : Nat) (t' : HTree) : Prop where
  wf : WF t'
  graphV : t'.graphV = t.graphV.filter (fun v => v != src)
  graphE : t'.graphE = (restE t e.id).map (renE src tg)
  perm : t.graphE.Perm ((x, src) :: restE t e.id) ∨ t.graphE.Perm ((src, x) :: restE t e.id)
  next : t'.next = t.next
  fixedConns : t'.fixedConns = t.fixedConns
  nodes : ∀ n' ∈ t'.nodes, ∃ n ∈ t.nodes, n.id ≠ src ∧ NodeKept n n' ∧
    ∃ so ∈ t.nodes, so.id = src ∧
      n'.edges = if n.id = tg then n.edges.filter (fun j => j != e.id) ++ so.edges.filter (fun j => j != e.id)
                 else if n.id = x then n.edges.filter (fun j => j != e.id) else n.edges
  nodes' : ∀ n ∈ t.nodes, n.id ≠ src → ∃ n' ∈ t'.nodes, n'.id = n.id
  edges : ∀ x' ∈ t'.edges, ∃ x ∈ t.edges, x.id ≠ e.id ∧ EdgeKept x x' ∧
    x'.e1 = x.e1.map (ren src tg) ∧ x'.e2 = x.e2.map (ren src tg)
  edges' : ∀ x ∈ t.edges, x.id ≠ e.id → ∃ x' ∈ t'.edges, x'.id = x.id

theorem filter_ne_self_of_not_end {t : HTree} (h : WF t) {n : HNode} (hn : n ∈ t.nodes) {e : HEdge}
    (he : e ∈ t.edges) (hnot : ¬ (e.e1 = some n.id ∨ e.e2 = some n.id)) :
    n.edges.filter (fun j => j != e.id) = n.edges := by
  apply List.filter_eq_self.mpr
  intro j hj
  simp only [bne_iff_ne, ne_eq]
  rintro rfl
  exact hnot ((h.mem_edges_iff hn he).mp hj)

theorem identify_spec {t : HTree} (h : WF t) {e : HEdge} (he : e ∈ t.edges) {x src tg : Nat}
    (hj : Joins e x src) (hxs : x ≠ src) (htg : tg ∈ t.graphV) (hts : tg ≠ src)
    (hpar : ∀ e' ∈ t.edges, e'.id ≠ e.id → ¬ Joins e' tg src)
    (hloop : ∀ e' ∈ t.edges, ¬ Joins e' src src) :
    ∃ t', contract t e.id tg src = some t' ∧ mergeStep t e.id tg src = some t' ∧
      IdentifySpec t e x tg src t' := by
  obtain ⟨so, hso, rfl⟩ := WF.node_of_mem_graphV (joins_mem_graphV h he hj).2
  refine ⟨_, contract_eq h he hso hts, mergeStep_eq h he hso hts, ?_⟩
  refine ⟨identified_WF h hso htg hts hpar hloop, identified_graphV _ _ _ _ _,
    identified_graphE h _ hloop, ?_, rfl, rfl, ?_, ?_, ?_, ?_⟩
  · rcases hj with ⟨h1, h2⟩ | ⟨h1, h2⟩
    · exact Or.inl (graphE_perm h he h1 h2)
    · exact Or.inr (graphE_perm h he h1 h2)
  · intro n' hn'
    obtain ⟨n, hn, hns, rfl⟩ := mem_identified_nodes.mp hn'
    refine ⟨n, hn, hns, ?_, so, hso, rfl, ?_⟩
    · split <;> exact ⟨rfl, rfl, rfl, rfl, rfl, rfl⟩
    · split
      · rfl
      · split
        · rfl
        · next hnt hnx =>
          exact filter_ne_self_of_not_end h hn he (by rw [joins_end_iff hj]; exact not_or.mpr ⟨hnx, hns⟩)
  · intro n hn hns
    exact ⟨_, mem_identified_nodes.mpr ⟨n, hn, hns, rfl⟩, by split <;> rfl⟩
  · intro x' hx'
    obtain ⟨y, hy, hye, rfl⟩ := mem_identified_edges.mp hx'
    have hr := redir_ends (tg := tg) (fun hh => hloop y hy (Or.inl hh))
    exact ⟨y, hy, hye, redir_kept _ _ _, hr.1, hr.2⟩
  · intro y hy hye
    exact ⟨_, mem_identified_edges.mpr ⟨y, hy, hye, rfl⟩, redir_id _ _ _⟩

theorem IdentifySpec.node_kept {t t' : HTree} {e : HEdge} {x tg src : Nat} (h : WF t)
    (hs : IdentifySpec t e x tg src t') {n : HNode} (hn : n ∈ t.nodes) (hne : n.id ≠ src) :
    ∃ n' ∈ t'.nodes, NodeKept n n' := by
  obtain ⟨n', hn', hid⟩ := hs.nodes' n hn hne
  obtain ⟨n0, hn0, -, k, -⟩ := hs.nodes n' hn'
  obtain rfl : n0 = n := h.node_eq hn0 hn (k.id.symm.trans hid)
  exact ⟨n', hn', k⟩

theorem IdentifySpec.edge_kept {t t' : HTree} {e : HEdge} {x tg src : Nat} (h : WF t)
    (hs : IdentifySpec t e x tg src t') {y : HEdge} (hy : y ∈ t.edges) (hne : y.id ≠ e.id) :
    ∃ y' ∈ t'.edges, EdgeKept y y' ∧ y'.e1 = y.e1.map (ren src tg) ∧ y'.e2 = y.e2.map (ren src tg) := by
  obtain ⟨y', hy', hid⟩ := hs.edges' y hy hne
  obtain ⟨y0, hy0, -, k, q1, q2⟩ := hs.edges y' hy'
  obtain rfl : y0 = y := h.edge_eq hy0 hy (k.id.symm.trans hid)
  exact ⟨y', hy', k, q1, q2⟩

theorem identify_tree {t : HTree} (h : Tree t) {e : HEdge} (he : e ∈ t.edges) {x tg src : Nat}
    (hj : Joins e x src) (hr : Reach (restE t e.id) x tg) :
    ∃ t', contract t e.id tg src = some t' ∧ mergeStep t e.id tg src = some t' ∧ Tree t' ∧
      IdentifySpec t e x tg src t' := by
  have hbr := isTree_bridge (h.isTree_head he hj) (List.Perm.refl _)
  have htV : tg ∈ t.graphV :=
    reach_mem (fun a ha => (h.isTree_head he hj).1 a (List.mem_cons_of_mem _ ha)) hr (joins_mem_graphV h.1 he hj).1
  obtain ⟨t', hc, hm, hs⟩ := identify_spec h.1 he hj (h.ne_of_joins he hj) htV (fun hh => hbr (hh ▸ hr))
    (fun e' he' hne' hj' => hbr (Reach.trans hr (Reach.single (adj_restE he' hne' hj'))))
    (fun e' he' => h.no_loop he' src)
  refine ⟨t', hc, hm, ⟨hs.wf, ?_⟩, hs⟩
  rw [hs.graphV, hs.graphE]
  exact isTree_identify (h.isTree_head he hj) (List.Perm.refl _) hr

theorem contract_tree {t : HTree} (h : Tree t) {e : HEdge} (he : e ∈ t.edges) {tg src : Nat}
    (hj : Joins e tg src) :
    ∃ t', contract t e.id tg src = some t' ∧ Tree t' ∧ IdentifySpec t e tg tg src t' :=
  let ⟨t', hc, _, ht, hs⟩ := identify_tree h he hj (Reach.refl _)
  ⟨t', hc, ht, hs⟩

theorem mergeStep_tree {t : HTree} (h : Tree t) {e e0 : HEdge} (he : e ∈ t.edges) {self tg src : Nat}
    (hj : Joins e self src) (he0 : e0 ∈ t.edges) (hne : e0.id ≠ e.id) (hj0 : Joins e0 self tg) :
    ∃ t', mergeStep t e.id tg src = some t' ∧ Tree t' ∧ IdentifySpec t e self tg src t' :=
  let ⟨t', _, hc, ht, hs⟩ := identify_tree h he hj (Reach.single (adj_restE he0 hne hj0))
  ⟨t', hc, ht, hs⟩

theorem farEnd_of_joins {t : HTree} (h : WF t) {e : HEdge} (he : e ∈ t.edges) {self src : Nat}
    (hj : Joins e self src) (hss : self ≠ src) : farEnd t e.id self = some src := by
  unfold farEnd
  rw [edge?_of_mem h.nodupE he]
  show e.followFrom self = some src
  unfold HEdge.followFrom
  rcases hj with ⟨h1, h2⟩ | ⟨h1, h2⟩
  · rw [if_pos h1, h2]
  · have : ¬ e.e1 = some self := by rw [h1]; simpa using fun hh => hss hh.symm
    rw [if_neg this, h1]

/-- `edge->disconnectEdge(); delete edge; delete self;` -/
def removeLeaf (t : HTree) (e self : Nat) : Option HTree :=
  (edgeDisconnect t e).map (fun t1 => (t1.deleteEdge e).deleteNode self)

theorem removeLeaf_eq {t : HTree} (h : WF t) {e : HEdge} (he : e ∈ t.edges) {sn : HNode}
    (hsn : sn ∈ t.nodes) (hl : sn.edges = [e.id]) (tg : Nat) :
    removeLeaf t e.id sn.id = some (identified t e.id tg sn.id (sn.edges.filter (fun j => j != e.id))) := by
  have hsl : sn.edges.filter (fun j => j != e.id) = [] := by simp [hl]
  unfold removeLeaf
  rw [edgeDisconnect_closed h he, hsl]
  simp only [Option.map_some, HTree.deleteEdge, HTree.deleteNode]
  refine congrArg some ?_
  refine HTree.ext' ?_ ?_ rfl rfl
  · apply filter_map_eq
    · intro x _; rfl
    · intro x _ _
      split
      · simp [rmE]
      · rfl
  · apply filter_map_eq
    · intro x _; split <;> rfl
    · intro x hx hq
      simp only [bne_iff_ne, ne_eq] at hq
      rw [if_neg (by simpa using hq)]
      have hni : x.id ∉ sn.edges := by rw [hl]; simpa using hq
      rw [h.mem_edges_iff hsn hx, not_or] at hni
      exact (redir_of_no_end hni.1 hni.2).symm

theorem removeLeaf_tree {t : HTree} (h : Tree t) {e : HEdge} (he : e ∈ t.edges) {tg : Nat} {sn : HNode}
    (hsn : sn ∈ t.nodes) (hj : Joins e tg sn.id) (hl : sn.edges = [e.id]) :
    ∃ t', removeLeaf t e.id sn.id = some t' ∧ Tree t' ∧ IdentifySpec t e tg tg sn.id t' := by
  obtain ⟨t', hc, ht', hs⟩ := contract_tree h he hj
  rw [contract_eq h.1 he hsn (h.ne_of_joins he hj)] at hc
  cases hc
  exact ⟨_, removeLeaf_eq h.1 he hsn hl tg, ht', hs⟩

theorem countP_add_of_disjoint {α : Type} (p q : α → Bool) (l : List α)
    (hd : ∀ x ∈ l, ¬ (p x = true ∧ q x = true)) :
    l.countP p + l.countP q = l.countP (fun x => p x || q x) := by
  induction l with
  | nil => rfl
  | cons a l ih =>
    have ih' := ih (fun x hx => hd x (List.mem_cons_of_mem _ hx))
    have ha := hd a List.mem_cons_self
    rw [List.countP_cons, List.countP_cons, List.countP_cons, ← ih']
    cases hp : p a <;> cases hq : q a
    · rfl
    · exact (Nat.add_assoc _ _ _).symm
    · exact Nat.add_right_comm _ _ _
    · exact absurd ⟨hp, hq⟩ ha

theorem length_edges_eq_deg {t : HTree} (h : WF t) (hloop : ∀ e ∈ t.edges, e.e1 ≠ e.e2)
    {n : HNode} (hn : n ∈ t.nodes) : n.edges.length = deg t.graphE n.id := by
  let hasEnd : HEdge → Bool := fun e => decide (e.e1 = some n.id) || decide (e.e2 = some n.id)
  have hperm : n.edges.Perm ((t.edges.filter hasEnd).map (·.id)) := by
    rw [List.perm_ext_iff_of_nodup (h.nodupL n hn)
      (List.Nodup.sublist (List.Sublist.map _ List.filter_sublist) h.nodupE)]
    intro i
    rw [h.inc n hn i]
    simp only [List.mem_map, List.mem_filter, hasEnd, Bool.or_eq_true, decide_eq_true_eq]
    constructor
    · rintro ⟨e, he, hid, hor⟩; exact ⟨e, ⟨he, hor⟩, hid⟩
    · rintro ⟨e, ⟨he, hor⟩, hid⟩; exact ⟨e, he, hid, hor⟩
  rw [hperm.length_eq, List.length_map, ← List.countP_eq_length_filter]
  unfold deg HTree.graphE
  rw [List.countP_filterMap, List.countP_filterMap, countP_add_of_disjoint]
  · apply List.countP_congr
    intro e he
    obtain ⟨a, b, ha, hb, _, _⟩ := h.ends e he
    simp only [hasEnd, HEdge.ends?, ha, hb, Option.map_some, Option.getD_some, Bool.or_eq_true,
      decide_eq_true_eq, Option.some.injEq, beq_iff_eq]
  · intro e he
    obtain ⟨a, b, ha, hb, _, _⟩ := h.ends e he
    have := hloop e he
    rw [ha, hb] at this
    simp only [HEdge.ends?, ha, hb, Option.map_some, Option.getD_some, beq_iff_eq]
    rintro ⟨rfl, rfl⟩
    exact this rfl

theorem Tree.length_edges_eq_deg {t : HTree} (h : Tree t) {n : HNode} (hn : n ∈ t.nodes) :
    n.edges.length = deg t.graphE n.id := by
  apply AdaptaVerif.Lemmas.HyperTree.length_edges_eq_deg h.1 _ hn
  intro e he heq
  obtain ⟨a, b, ha, hb, _, _⟩ := h.1.ends e he
  have : a = b := by rw [ha, hb] at heq; exact Option.some.inj heq
  subst this
  exact h.no_loop he a (Or.inl ⟨ha, hb⟩)

theorem degree_eq_deg {t : HTree} (h : WF t) (hloop : ∀ e ∈ t.edges, e.e1 ≠ e.e2)
    {n : HNode} (hn : n ∈ t.nodes) : t.degree n.id = deg t.graphE n.id := by
  unfold HTree.degree
  rw [node?_of_mem h.nodupN hn]
  exact length_edges_eq_deg h hloop hn

def splitNode (t : HTree) (e : Nat) (p : AdaptaVerif.Model.Geometry.Pt) : HNode :=
  { id := t.next, edges := [t.next + 1, e], junction := none, point := p }

def splitEdge (t : HTree) (target : Nat) (conn : Option Nat) : HEdge :=
  { id := t.next + 1, e1 := some t.next, e2 := some target, conn := conn,
    hasFixedRoute := match conn with
      | some c => t.fixedConns.contains c
      | none => false }

/-- closed form of the heap after `splitFromNodeAtPoint` -/
def splitResult (t : HTree) (ed : HEdge) (source target : Nat) (p : AdaptaVerif.Model.Geometry.Pt) : HTree :=
  { t with
    nodes := t.nodes.map (fun n => if n.id == target
                then { n with edges := n.edges.filter (fun j => j != ed.id) ++ [t.next + 1] } else n)
              ++ [splitNode t ed.id p],
    edges := t.edges.map (fun x => if x.id == ed.id
                then { x with e1 := some source, e2 := some t.next } else x)
              ++ [splitEdge t target ed.conn],
    next := t.next + 2 }

theorem split_eq {t : HTree} (h : WF t) {ed : HEdge} (hed : ed ∈ t.edges) {source target : Nat}
    (hj : Joins ed source target) (hst : source ≠ target) (p : AdaptaVerif.Model.Geometry.Pt) :
    splitFromNodeAtPoint t ed.id source p =
      some (splitResult t ed source target p, t.next, t.next + 1) := by
  have htN : target < t.next := by
    obtain ⟨n, hn, rfl⟩ := WF.node_of_mem_graphV (joins_mem_graphV h hed hj).2
    exact h.fresh.1 n hn
  have heN : ed.id < t.next := h.fresh.2 ed hed
  unfold splitFromNodeAtPoint
  rw [edge?_of_mem h.nodupE hed]
  have hfs : (if ed.e2 = some source then (ed.e2, ed.e1) else (ed.e1, ed.e2)) =
      (some source, some target) := by
    rcases hj with ⟨h1, h2⟩ | ⟨h1, h2⟩
    · rw [if_neg (by rw [h2]; simpa using fun hh => hst hh.symm), h1, h2]
    · rw [if_pos h2, h1, h2]
  simp only [hfs, ne_eq, not_true_eq_false, if_false]
  simp only [newNode, newEdge, nodePush, nodeDisconnect, HTree.modEdge, HTree.modNode]
  refine congrArg (fun r => some (r, t.next, t.next + 1)) (HTree.ext' ?_ ?_ rfl rfl)
  · simp only [List.map_append, List.map_map, List.map_cons, List.map_nil, splitResult]
    refine congr (congrArg _ ?_) ?_
    · apply List.map_congr_left
      intro n hn
      have hnN : n.id ≠ t.next := Nat.ne_of_lt (h.fresh.1 n hn)
      have hN1 : t.next + 1 ≠ ed.id := by omega
      by_cases hnt : n.id = target
      · simp [hnt, Nat.ne_of_lt htN, List.filter_append, hN1]
      · simp [hnt, hnN]
    · have : t.next ≠ target := (Nat.ne_of_lt htN).symm
      simp [this, splitNode]
  · simp only [List.map_append, List.map_map, List.map_cons, List.map_nil, splitResult]
    refine congr (congrArg _ ?_) ?_
    · apply List.map_congr_left
      intro x _
      by_cases hx : x.id = ed.id
      · simp [hx]
      · simp [hx]
    · have : t.next + 1 ≠ ed.id := by omega
      simp [this, splitEdge]
      generalize ed.conn = c
      cases c <;> rfl

theorem splitResult_graphV (t : HTree) (ed : HEdge) (source target : Nat)
    (p : AdaptaVerif.Model.Geometry.Pt) :
    (splitResult t ed source target p).graphV = t.graphV ++ [t.next] := by
  simp only [HTree.graphV, splitResult, List.map_append, List.map_map, List.map_cons, List.map_nil,
    splitNode]
  refine congrArg (· ++ _) ?_
  apply List.map_congr_left
  intro n _
  simp only [Function.comp]
  split <;> rfl

theorem splitResult_graphE {t : HTree} (h : WF t) {ed : HEdge} (hed : ed ∈ t.edges)
    (source target : Nat) (p : AdaptaVerif.Model.Geometry.Pt) :
    (splitResult t ed source target p).graphE.Perm
      ((source, t.next) :: (t.next, target) :: restE t ed.id) := by
  have hp := perm_cons_filter_key (fun x : HEdge => x.id) h.nodupE hed
  have hp2 := (hp.map (fun x : HEdge => if x.id == ed.id
                then { x with e1 := some source, e2 := some t.next } else x)).filterMap HEdge.ends?
  have hfil : (t.edges.filter (fun y => y.id != ed.id)).map (fun x : HEdge => if x.id == ed.id
                then { x with e1 := some source, e2 := some t.next } else x) =
      t.edges.filter (fun y => y.id != ed.id) := by
    conv => rhs; rw [← List.map_id (t.edges.filter (fun y => y.id != ed.id))]
    apply List.map_congr_left
    intro x hx
    simp only [List.mem_filter, bne_iff_ne, ne_eq] at hx
    simp [hx.2]
  simp only [List.map_cons, hfil, beq_self_eq_true, if_true, List.filterMap_cons, HEdge.ends?] at hp2
  simp only [HTree.graphE, splitResult, List.filterMap_append, List.filterMap_cons,
    List.filterMap_nil, splitEdge, HEdge.ends?]
  refine (List.perm_append_comm).trans ?_
  simp only [List.singleton_append]
  exact (List.Perm.cons _ hp2).trans (List.Perm.swap _ _ _)

theorem mem_splitResult_nodes {t : HTree} {ed : HEdge} {source target : Nat} {p : AdaptaVerif.Model.Geometry.Pt}
    {n' : HNode} : n' ∈ (splitResult t ed source target p).nodes ↔
      (∃ n ∈ t.nodes, n' = if n.id = target then { n with edges := n.edges.filter (fun j => j != ed.id) ++ [t.next + 1] } else n) ∨
      n' = splitNode t ed.id p := by
  simp only [splitResult, List.mem_append, List.mem_map, List.mem_singleton, beq_iff_eq, eq_comm (a := n')]

theorem mem_splitResult_edges {t : HTree} {ed : HEdge} {source target : Nat} {p : AdaptaVerif.Model.Geometry.Pt}
    {x' : HEdge} : x' ∈ (splitResult t ed source target p).edges ↔
      (∃ x ∈ t.edges, x' = if x.id = ed.id then { x with e1 := some source, e2 := some t.next } else x) ∨
      x' = splitEdge t target ed.conn := by
  simp only [splitResult, List.mem_append, List.mem_map, List.mem_singleton, beq_iff_eq, eq_comm (a := x')]

theorem splitResult_WF {t : HTree} (h : WF t) {ed : HEdge} (hed : ed ∈ t.edges) {source target : Nat}
    (hj : Joins ed source target) (hst : source ≠ target) (p : AdaptaVerif.Model.Geometry.Pt) :
    WF (splitResult t ed source target p) := by
  have hV := splitResult_graphV t ed source target p
  have hVlt : ∀ v ∈ t.graphV, v < t.next := by
    intro v hv
    obtain ⟨n, hn, rfl⟩ := WF.node_of_mem_graphV hv
    exact h.fresh.1 n hn
  have hsV := (joins_mem_graphV h hed hj).1
  have htV := (joins_mem_graphV h hed hj).2
  have htN : target < t.next := hVlt _ htV
  have heN : ed.id < t.next := h.fresh.2 ed hed
  have hendlt : ∀ x ∈ t.edges, ∀ v, (x.e1 = some v ∨ x.e2 = some v) → v < t.next := by
    intro x hx v hor
    obtain ⟨a, b, ha, hb, hav, hbv⟩ := h.ends x hx
    rcases hor with hh | hh
    · rw [ha] at hh; cases hh; exact hVlt _ hav
    · rw [hb] at hh; cases hh; exact hVlt _ hbv
  have hlt : ∀ n ∈ t.nodes, ∀ i ∈ n.edges, i < t.next := fun n hn i hi =>
    let ⟨x, hx, hxi⟩ := h.listed hn hi
    hxi ▸ h.fresh.2 x hx
  refine WF.of_pairs ?_ ?_ ?_ ?_ ?_ ?_ ?_
  · show (HTree.graphV _).Nodup
    rw [hV, List.nodup_append]
    refine ⟨h.nodupN, by simp, ?_⟩
    intro a ha b hb hab
    simp only [List.mem_singleton] at hb
    have := hVlt a ha
    omega
  · have : (splitResult t ed source target p).edges.map (·.id) = t.edges.map (·.id) ++ [t.next + 1] := by
      simp only [splitResult, List.map_append, List.map_map, List.map_cons, List.map_nil, splitEdge]
      refine congrArg (· ++ _) (List.map_congr_left fun x _ => ?_)
      simp only [Function.comp]
      split <;> rfl
    rw [this, List.nodup_append]
    refine ⟨h.nodupE, by simp, ?_⟩
    intro a ha b hb hab
    simp only [List.mem_singleton] at hb
    obtain ⟨x, hx, rfl⟩ := List.mem_map.mp ha
    have := h.fresh.2 x hx
    omega
  · intro e' he'
    rw [hV]
    rcases mem_splitResult_edges.mp he' with ⟨x, hx, rfl⟩ | rfl
    · split
      · exact ⟨source, t.next, rfl, rfl, List.mem_append_left _ hsV, by simp⟩
      · obtain ⟨a, b, ha, hb, hav, hbv⟩ := h.ends x hx
        exact ⟨a, b, ha, hb, List.mem_append_left _ hav, List.mem_append_left _ hbv⟩
    · exact ⟨t.next, target, rfl, rfl, by simp, List.mem_append_left _ htV⟩
  · have old : ∀ x ∈ t.edges, ∃ x' ∈ (splitResult t ed source target p).edges, x'.id = x.id := fun x hx =>
      ⟨_, mem_splitResult_edges.mpr (Or.inl ⟨x, hx, rfl⟩), by split <;> rfl⟩
    have new : ∃ x' ∈ (splitResult t ed source target p).edges, x'.id = t.next + 1 :=
      ⟨_, mem_splitResult_edges.mpr (Or.inr rfl), rfl⟩
    intro n' hn'
    rcases mem_splitResult_nodes.mp hn' with ⟨n, hn, rfl⟩ | rfl
    · have hl : ∀ i ∈ n.edges, ∃ x' ∈ (splitResult t ed source target p).edges, x'.id = i := fun i hi =>
        let ⟨x, hx, hxi⟩ := h.listed hn hi
        hxi ▸ old x hx
      split
      · refine ⟨List.nodup_append.mpr ⟨(h.nodupL n hn).sublist List.filter_sublist, by simp, ?_⟩, ?_⟩
        · intro a ha b hb hab
          have := hlt n hn a (List.mem_filter.mp ha).1
          simp only [List.mem_singleton] at hb
          omega
        · intro i hi
          rcases List.mem_append.mp hi with hi | hi
          · exact hl i (List.mem_filter.mp hi).1
          · rw [List.mem_singleton.mp hi]; exact new
      · exact ⟨h.nodupL n hn, hl⟩
    · refine ⟨by simp [splitNode]; omega, ?_⟩
      intro i hi
      simp only [splitNode, List.mem_cons, List.not_mem_nil, or_false] at hi
      rcases hi with rfl | rfl
      · exact new
      · exact old ed hed
  · intro n' hn' x' hx'
    rcases mem_splitResult_nodes.mp hn' with ⟨n, hn, rfl⟩ | rfl <;>
      rcases mem_splitResult_edges.mp hx' with ⟨x, hx, rfl⟩ | rfl
    · have hnN := h.fresh.1 n hn
      have hxN := h.fresh.2 x hx
      have hold := h.mem_edges_iff hn hx
      by_cases hnt : n.id = target <;> by_cases hxe : x.id = ed.id
      · simp only [hnt, hxe, if_true, List.mem_append, List.mem_filter, List.mem_singleton, bne_self_eq_false,
          Option.some.injEq, Bool.false_eq_true, and_false, false_or]
        omega
      · simp only [hnt, hxe, if_true, if_false, List.mem_append, List.mem_filter, List.mem_singleton, bne_iff_ne, ne_eq,
          not_false_eq_true, and_true]
        rw [← hnt, ← hold]
        exact or_iff_left (by omega)
      · obtain rfl := h.edge_eq hx hed hxe
        simp only [hnt, if_true, if_false, hold, joins_end_iff hj, Option.some.injEq, or_false]
        constructor
        · rintro rfl; exact Or.inl rfl
        · rintro (hh | hh)
          · exact hh.symm
          · omega
      · simp only [hnt, hxe, if_false, hold]
    · have hnN := h.fresh.1 n hn
      by_cases hnt : n.id = target
      · simp [hnt, splitEdge]
      · have : t.next + 1 ∉ n.edges := fun hh => Nat.lt_irrefl _ (Nat.lt_of_succ_lt (hlt n hn _ hh))
        simp only [hnt, if_false, splitEdge, this, Option.some.injEq, false_iff, not_or]
        exact ⟨by omega, fun hh => hnt hh.symm⟩
    · by_cases hxe : x.id = ed.id
      · simp [hxe, splitNode]
      · have hxN := h.fresh.2 x hx
        have : ¬ (x.e1 = some t.next ∨ x.e2 = some t.next) := fun hor => Nat.lt_irrefl _ (hendlt x hx _ hor)
        simp only [hxe, if_false, splitNode, List.mem_cons, List.not_mem_nil, or_false, this, iff_false]
        omega
    · simp [splitNode, splitEdge]
  · intro n' hn'
    rcases mem_splitResult_nodes.mp hn' with ⟨n, hn, rfl⟩ | rfl
    · have := h.fresh.1 n hn
      show (if _ then _ else _ : HNode).id < t.next + 2
      split <;> exact Nat.lt_of_lt_of_le this (Nat.le_add_right _ _)
    · exact Nat.lt_add_of_pos_right (by decide)
  · intro e' he'
    rcases mem_splitResult_edges.mp he' with ⟨x, hx, rfl⟩ | rfl
    · have := h.fresh.2 x hx
      show (if _ then _ else _ : HEdge).id < t.next + 2
      split <;> exact Nat.lt_of_lt_of_le this (Nat.le_add_right _ _)
    · exact Nat.lt_succ_self _

/-- what `splitFromNodeAtPoint` does, as one record (`t' = splitResult …` exactly, see `split_spec`) -/
structure SplitSpec (t : HTree) (ed : HEdge) (source target : Nat) (p : AdaptaVerif.Model.Geometry.Pt)
    (t' : HTree) : Prop where
  wf : WF t'
  graphV : t'.graphV = t.graphV ++ [t.next]
  graphE : t'.graphE.Perm ((source, t.next) :: (t.next, target) :: restE t ed.id)
  next : t'.next = t.next + 2
  fixedConns : t'.fixedConns = t.fixedConns
  nodes : ∀ n' ∈ t'.nodes,
    (∃ n ∈ t.nodes, NodeKept n n' ∧
      n'.edges = if n.id = target then n.edges.filter (fun j => j != ed.id) ++ [t.next + 1] else n.edges) ∨
    n' = splitNode t ed.id p
  nodes' : ∀ n ∈ t.nodes, ∃ n' ∈ t'.nodes, n'.id = n.id
  newNode : splitNode t ed.id p ∈ t'.nodes
  edges : ∀ x' ∈ t'.edges,
    (∃ x ∈ t.edges, EdgeKept x x' ∧
      (if x.id = ed.id then x'.e1 = some source ∧ x'.e2 = some t.next
       else x'.e1 = x.e1 ∧ x'.e2 = x.e2)) ∨
    x' = splitEdge t target ed.conn
  edges' : ∀ x ∈ t.edges, ∃ x' ∈ t'.edges, x'.id = x.id
  newEdge : splitEdge t target ed.conn ∈ t'.edges

theorem split_spec {t : HTree} (h : WF t) {ed : HEdge} (hed : ed ∈ t.edges) {source target : Nat}
    (hj : Joins ed source target) (hst : source ≠ target) (p : AdaptaVerif.Model.Geometry.Pt) :
    splitFromNodeAtPoint t ed.id source p =
        some (splitResult t ed source target p, t.next, t.next + 1) ∧
      SplitSpec t ed source target p (splitResult t ed source target p) := by
  refine ⟨split_eq h hed hj hst p, splitResult_WF h hed hj hst p, splitResult_graphV _ _ _ _ _,
    splitResult_graphE h hed _ _ _, rfl, rfl, ?_, ?_, ?_, ?_, ?_, ?_⟩
  · intro n' hn'
    rcases mem_splitResult_nodes.mp hn' with ⟨n, hn, rfl⟩ | rfl
    · refine Or.inl ⟨n, hn, ?_, ?_⟩ <;> split
      · exact ⟨rfl, rfl, rfl, rfl, rfl, rfl⟩
      · exact NodeKept.refl n
      · rfl
      · rfl
    · exact Or.inr rfl
  · intro n hn
    exact ⟨_, mem_splitResult_nodes.mpr (Or.inl ⟨n, hn, rfl⟩), by split <;> rfl⟩
  · exact mem_splitResult_nodes.mpr (Or.inr rfl)
  · intro x' hx'
    rcases mem_splitResult_edges.mp hx' with ⟨x, hx, rfl⟩ | rfl
    · refine Or.inl ⟨x, hx, ?_, ?_⟩ <;> split
      · exact ⟨rfl, rfl, rfl⟩
      · exact EdgeKept.refl x
      · exact ⟨rfl, rfl⟩
      · exact ⟨rfl, rfl⟩
    · exact Or.inr rfl
  · intro x hx
    exact ⟨_, mem_splitResult_edges.mpr (Or.inl ⟨x, hx, rfl⟩), by split <;> rfl⟩
  · exact mem_splitResult_edges.mpr (Or.inr rfl)

theorem splitResult_tree {t : HTree} (h : Tree t) {ed : HEdge} (hed : ed ∈ t.edges) {source target : Nat}
    (hj : Joins ed source target) (p : AdaptaVerif.Model.Geometry.Pt) :
    Tree (splitResult t ed source target p) := by
  have hst : source ≠ target := h.ne_of_joins hed hj
  refine ⟨splitResult_WF h.1 hed hj hst p, ?_⟩
  have := isTree_subdivide (h.isTree_head hed hj) (List.Perm.refl _) (next_not_mem_graphV h.1)
  refine isTree_congr ?_ (splitResult_graphE h.1 hed source target p).symm this
  intro v
  rw [splitResult_graphV]
  simp only [List.mem_append, List.mem_cons, List.not_mem_nil, or_false]
  exact Or.comm

theorem split_tree {t : HTree} (h : Tree t) {ed : HEdge} (hed : ed ∈ t.edges) {source target : Nat}
    (hj : Joins ed source target) (p : AdaptaVerif.Model.Geometry.Pt) :
    ∃ t', splitFromNodeAtPoint t ed.id source p = some (t', t.next, t.next + 1) ∧ Tree t' ∧
      SplitSpec t ed source target p t' :=
  have hs := split_spec h.1 hed hj (h.ne_of_joins hed hj) p
  ⟨_, hs.1, splitResult_tree h hed hj p, hs.2⟩

theorem split_of_tree {t : HTree} (h : Tree t) {ed : HEdge} (hed : ed ∈ t.edges) {source target : Nat}
    (hj : Joins ed source target) {p : AdaptaVerif.Model.Geometry.Pt} {t' : HTree} {a b : Nat}
    (hsp : splitFromNodeAtPoint t ed.id source p = some (t', a, b)) :
    t' = splitResult t ed source target p ∧ Tree t' ∧ SplitSpec t ed source target p t' := by
  obtain ⟨heq, hs⟩ := split_spec h.1 hed hj (h.ne_of_joins hed hj) p
  rw [heq] at hsp
  cases hsp
  exact ⟨rfl, splitResult_tree h hed hj p, hs⟩

theorem identify_deg {t t' : HTree} {e : HEdge} {x tg src : Nat} (hs : IdentifySpec t e x tg src t')
    (hts : tg ≠ src) (hxs : x ≠ src) (v : Nat) :
    deg t'.graphE v =
      if v = src then 0
      else if v = tg then (deg t.graphE tg - (if x = tg then 1 else 0)) + (deg t.graphE src - 1)
      else deg t.graphE v - (if x = v then 1 else 0) := by
  have key : ∀ w, deg t.graphE w =
      deg (restE t e.id) w + (if x = w then 1 else 0) + (if src = w then 1 else 0) := by
    intro w
    rcases hs.perm with hp | hp
    · rw [deg_perm hp w, deg_cons]
    · rw [deg_perm hp w, deg_cons]; omega
  rw [hs.graphE, deg_map_ren (Ne.symm hts), key tg, key src, key v]
  grind

theorem identify_leaves {t t' : HTree} {e : HEdge} {x tg src : Nat} (hs : IdentifySpec t e x tg src t')
    (hts : tg ≠ src) (hxs : x ≠ src) (h1 : 2 ≤ deg t.graphE tg) (h2 : 2 ≤ deg t.graphE src)
    (h3 : x = tg ∨ 3 ≤ deg t.graphE x) {T : List Nat} (hT : LeavesAre t.graphV t.graphE T) :
    LeavesAre t'.graphV t'.graphE T := by
  refine ⟨?_, ?_⟩
  · intro v hv
    rw [hs.graphV, mem_filter_ne]
    refine ⟨hT.1 v hv, ?_⟩
    rintro rfl
    have := (hT.2 v (hT.1 v hv)).mpr hv
    omega
  · intro v hv
    rw [hs.graphV, mem_filter_ne] at hv
    rw [identify_deg hs hts hxs v, ← hT.2 v hv.1]
    grind

theorem split_deg {t t' : HTree} (h : Tree t) {e : HEdge} (he : e ∈ t.edges) {source target : Nat}
    (hj : Joins e source target) {p : AdaptaVerif.Model.Geometry.Pt}
    (hs : SplitSpec t e source target p t') (w : Nat) :
    deg t'.graphE w = deg t.graphE w + (if t.next = w then 2 else 0) := by
  have hN := next_not_mem_graphV h.1
  have hsrc : source ≠ t.next := fun hh => hN (hh ▸ (joins_mem_graphV h.1 he hj).1)
  have htgt : target ≠ t.next := fun hh => hN (hh ▸ (joins_mem_graphV h.1 he hj).2)
  have key : deg t.graphE w =
      deg (restE t e.id) w + (if source = w then 1 else 0) + (if target = w then 1 else 0) := by
    rcases hj with ⟨a, b⟩ | ⟨a, b⟩
    · rw [deg_perm (graphE_perm h.1 he a b) w, deg_cons]
    · rw [deg_perm (graphE_perm h.1 he a b) w, deg_cons]; omega
  rw [deg_perm hs.graphE w, deg_cons, deg_cons, key]
  by_cases hw : t.next = w
  · subst hw
    simp [hsrc, htgt]
  · simp only [hw, if_false]; omega

theorem split_leaves {t t' : HTree} (h : Tree t) {e : HEdge} (he : e ∈ t.edges) {source target : Nat}
    (hj : Joins e source target) {p : AdaptaVerif.Model.Geometry.Pt}
    (hs : SplitSpec t e source target p t') {T : List Nat} (hT : LeavesAre t.graphV t.graphE T) :
    LeavesAre t'.graphV t'.graphE T := by
  have hN := next_not_mem_graphV h.1
  refine ⟨fun x hx => by rw [hs.graphV]; exact List.mem_append_left _ (hT.1 x hx), ?_⟩
  intro v hv
  rw [hs.graphV, List.mem_append, List.mem_singleton] at hv
  rw [split_deg h he hj hs v]
  rcases hv with hv | hv
  · have hne : ¬ t.next = v := fun hh => hN (hh ▸ hv)
    simp only [hne, if_false, Nat.add_zero]
    exact hT.2 v hv
  · subst hv
    have hnT : t.next ∉ T := fun hh => hN (hT.1 _ hh)
    simp only [if_true, hnT, iff_false]
    omega

end AdaptaVerif.Lemmas.HyperTree
