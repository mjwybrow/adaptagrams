/-
C20 helper lemmas: where the tie-break of libvpsc's scan line can matter.
`keyLt pos rank` has the shape of `CmpNodePos` (rectangle.cpp): position first, then a tie-break `rank` (in the library
the variable id and, for equal ids only, the heap address).
If all centre positions of the nodes involved are distinct, the comparator — and with it every
scan-line state and every neighbour list read during the sweep — is the same for ALL ranks.
-/
import AdaptaVerif.Model.Frame
import AdaptaVerif.Model.Scanline
import AdaptaVerif.Lemmas.StrictWeakOrder
import AdaptaVerif.Lemmas.Util.InsertionSort
import Mathlib.Algebra.Order.Field.Rat
namespace AdaptaVerif.Lemmas.FrameScan
open AdaptaVerif.Model.Frame

def TieFree (pos : Nat → Rat) (ids : List Nat) : Prop :=
  ∀ u ∈ ids, ∀ v ∈ ids, u ≠ v → pos u ≠ pos v

theorem tieFree_cast (ids : List Nat) : TieFree (fun i => (i : Rat)) ids :=
  fun _ _ _ _ huv h => huv (Nat.cast_injective h)

theorem keyLt_eq_cmpBy (pos : Nat → Rat) (rank : Nat → Nat) :
    keyLt pos rank = SWO.cmpBy pos fun u v => decide (rank u < rank v) := by
  funext u v
  simp only [keyLt, SWO.cmpBy]
  grind

theorem keyLt_tie_free (pos : Nat → Rat) (r1 r2 : Nat → Nat) (ids : List Nat) (h : TieFree pos ids) :
    ∀ u ∈ ids, ∀ v ∈ ids, keyLt pos r1 u v = keyLt pos r2 u v := by
  intro u hu v hv
  rw [keyLt_eq_cmpBy, keyLt_eq_cmpBy]
  by_cases huv : u = v
  · subst huv; simp only [SWO.cmpBy, ne_eq, not_true_eq_false, if_false, Nat.lt_irrefl]
  · exact SWO.cmpBy_of_ne _ _ _ _ _ (h u hu v hv huv)

theorem insertSorted_congr (lt1 lt2 : Nat → Nat → Bool) (v : Nat) (S : List Nat)
    (h : ∀ x ∈ S, lt1 v x = lt2 v x) : insertSorted lt1 v S = insertSorted lt2 v S := by
  induction S with
  | nil => rfl
  | cons x xs ih =>
    simp only [insertSorted, h x (List.mem_cons_self)]
    rw [ih (fun y hy => h y (List.mem_cons_of_mem _ hy))]

theorem insertSorted_isInsert (lt : Nat → Nat → Bool) : Util.IsInsert (fun v x => lt v x = true) (insertSorted lt) :=
  ⟨fun _ => rfl, fun _ _ _ => rfl⟩

theorem mem_scanStep (lt : Nat → Nat → Bool) (S : List Nat) (op : ScanOp) (u : Nat) :
    u ∈ scanStep lt S op → u = op.2 ∨ u ∈ S := by
  unfold scanStep
  split
  · exact (insertSorted_isInsert lt).mem.1
  · intro h; exact Or.inr (List.mem_filter.1 h).1

theorem scanStep_congr (lt1 lt2 : Nat → Nat → Bool) (ids : List Nat)
    (h : ∀ u ∈ ids, ∀ v ∈ ids, lt1 u v = lt2 u v) (S : List Nat) (op : ScanOp)
    (hS : ∀ u ∈ S, u ∈ ids) (hop : op.2 ∈ ids) : scanStep lt1 S op = scanStep lt2 S op := by
  unfold scanStep
  split
  · exact insertSorted_congr lt1 lt2 op.2 S (fun x hx => h _ hop _ (hS x hx))
  · rfl

theorem scanTrace_congr (lt1 lt2 : Nat → Nat → Bool) (ids : List Nat)
    (h : ∀ u ∈ ids, ∀ v ∈ ids, lt1 u v = lt2 u v) (ops : List ScanOp) :
    ∀ S : List Nat, (∀ u ∈ S, u ∈ ids) → (∀ op ∈ ops, op.2 ∈ ids) →
      scanTrace lt1 S ops = scanTrace lt2 S ops := by
  induction ops with
  | nil => intro S _ _; rfl
  | cons op ops ih =>
    intro S hS hops
    have hop : op.2 ∈ ids := hops op List.mem_cons_self
    have e := scanStep_congr lt1 lt2 ids h S op hS hop
    have hS' : ∀ u ∈ scanStep lt2 S op, u ∈ ids := by
      intro u hu
      rcases mem_scanStep lt2 S op u hu with h1 | h1
      · rw [h1]; exact hop
      · exact hS u h1
    simp only [scanTrace, e]
    have eb : before lt1 (scanStep lt2 S op) op.2 = before lt2 (scanStep lt2 S op) op.2 := by
      unfold before
      rw [List.filter_congr (fun u hu => h u (hS' u hu) _ hop)]
    have ea : after lt1 (scanStep lt2 S op) op.2 = after lt2 (scanStep lt2 S op) op.2 := by
      unfold after
      rw [List.filter_congr (fun u hu => h _ hop u (hS' u hu))]
    rw [eb, ea, ih (scanStep lt2 S op) hS' (fun o ho => hops o (List.mem_cons_of_mem _ ho))]

theorem scanline_keyLt_eq (ax : AdaptaVerif.Model.Scanline.Axis) (rank : Nat → Nat) (u v : Nat) :
    AdaptaVerif.Model.Scanline.keyLt ax rank u v = keyLt ax.ctr rank u v := by
  unfold AdaptaVerif.Model.Scanline.keyLt keyLt
  rcases lt_trichotomy (ax.ctr u) (ax.ctr v) with h | h | h
  · simp [h]
  · simp [h]
  · simp [h, not_lt.2 h.le, h.ne']

end AdaptaVerif.Lemmas.FrameScan
