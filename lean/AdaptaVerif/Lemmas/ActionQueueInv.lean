/-
C06: the queue invariant `Inv`, and what `Router::processActions` makes of a queue that satisfies it.
Under `Inv` the queue is a partial map from objects to actions (`act`), and both the invariant (`OkO` / `OkC`) and
what the queue promises (`absO` / `absC`, `pending_obst` / `pending_conn`) are stated entry by entry: object look-up
`x`, queued action `r`. The three loops apply to every object THE action queued for it, in whatever order the list is
traversed (`view_runPasses_perm`); the pin-move updates that the first loop merges into the list change nothing the
loops show (`view_runPasses_genPinMoves`) and cover every end attached to a moved obstacle (`genPinMoves_covers`);
hence the flush theorem `view (processActions st).scene = pending st`: after `actionList.sort()` and the three loops
the router shows what the queue look-ups promised.
-/
import AdaptaVerif.Lemmas.ActionQueue
import AdaptaVerif.Lemmas.Util.InsertionSort
import AdaptaVerif.Lemmas.Util.List
namespace AdaptaVerif.Lemmas.ActionQueue
open AdaptaVerif.Model.ActionQueue AdaptaVerif.Spec.Scene

/-- two queued actions never concern the same object (obstacle ids and connector ids are compared
    within their class) -/
def Rel (a b : Action) : Prop := a.isConn = b.isConn → a.id ≠ b.id

theorem Rel.symm {a b : Action} (h : Rel a b) : Rel b a := fun e he => h e.symm he.symm

def ConnUniq (sc : Scene) : Prop := (sc.conns.map (·.id)).Nodup

theorem connFind_of_uniq {sc : Scene} (h : ConnUniq sc) (k : Conn) (hk : k ∈ sc.conns) : findConn sc k.id = some k :=
  Util.find?_of_nodup Conn.id h hk

theorem ids_mapConn (sc : Scene) (i : Nat) (f : Conn → Conn) (hf : ∀ c, (f c).id = c.id) :
    (mapConn sc i f).conns.map (·.id) = sc.conns.map (·.id) :=
  Util.map_key_of_map_if (·.id) (fun c => c.id == i) f hf sc.conns

theorem ids_pass3One (sc : Scene) (a : Action) : (pass3One sc a).conns.map (·.id) = sc.conns.map (·.id) := by
  unfold pass3One
  cases a.kind <;> first
    | rfl
    | exact Util.foldl_view (fun s => s.conns.map (·.id)) (fun sc u => mapConn sc a.id _)
        (fun s _ => ids_mapConn s a.id _ fun c => setEnd_id c _ _) a.conns sc

theorem connUniq_runPasses {sc : Scene} (h : ConnUniq sc) (l : List Action) : ConnUniq (runPasses sc l) := by
  unfold ConnUniq runPasses
  rw [Util.foldl_view (fun s => s.conns.map (·.id)) pass3One ids_pass3One, conns_fold12]
  exact h

/-- invariant of every state reachable by legal calls -/
structure Inv (st : State) : Prop where
  uniq : st.queue.Pairwise Rel
  obstRef : ∀ a ∈ st.queue, a.isConn = false → (findObst st.scene a.id).isSome = true
  connRef : ∀ a ∈ st.queue, a.isConn = true → (findConn st.scene a.id).isSome = true
  /-- an obstacle is inactive only while its `Add` is still queued -/
  inactiveAdd : ∀ id o, findObst st.scene id = some o → o.active = false → hasAct st.queue .add id = true
  /-- the queued endpoint updates of one `ConnChange` concern distinct ends (`addConnEndUpdate`) -/
  endsDistinct : ∀ a ∈ st.queue, a.conns.Pairwise (fun u v => u.1 ≠ v.1)
  connFind : ConnUniq st.scene

theorem isConn_iff (a : Action) : a.isConn = true ↔ a.kind = .connChange := by
  unfold Action.isConn; cases a.kind <;> simp

theorem isConn_false_iff (a : Action) : a.isConn = false ↔ a.kind ≠ .connChange := by
  unfold Action.isConn; cases a.kind <;> simp

theorem findAct_some {q : List Action} {k : Kind} {id : Nat} {b : Action} (h : findAct q k id = some b) :
    b ∈ q ∧ b.kind = k ∧ b.id = id := by
  unfold findAct at h
  have h1 := List.mem_of_find?_eq_some h
  have h2 := List.find?_some h
  simp only [Bool.and_eq_true, beq_iff_eq] at h2
  exact ⟨h1, h2.1, h2.2⟩

theorem findAct_none {q : List Action} {k : Kind} {id : Nat} (h : findAct q k id = none) :
    ∀ b ∈ q, ¬(b.kind = k ∧ b.id = id) := by
  unfold findAct at h
  intro b hb hh
  have := List.find?_eq_none.1 h b hb
  simp [hh.1, hh.2] at this

theorem insertAct_isInsert : Util.IsInsert (fun a b => Action.le a b = true) insertAct := ⟨fun _ => rfl, fun _ _ _ => rfl⟩

theorem sortActions_perm (q : List Action) : (sortActions q).Perm q := insertAct_isInsert.foldr_perm q

theorem sort_uniq {q : List Action} (hu : q.Pairwise Rel) : (sortActions q).Pairwise Rel :=
  (List.Perm.pairwise_iff (fun h => Rel.symm h) (sortActions_perm q)).2 hu

theorem mem_sort {q : List Action} {a : Action} : a ∈ sortActions q ↔ a ∈ q := (sortActions_perm q).mem_iff

/-! ### the queued action of an object

Under `Pairwise Rel` the queue is a partial map from objects (class, id) to actions: `act`. The code's
kind-specific `find(… ActionInfo(k, obj))` is that entry filtered by kind (`findAct_obst`, `findAct_conn_eq`). -/

/-- THE action queued for the object of class `b` (`true`: connector, `false`: obstacle) with id `id` -/
def act (q : List Action) (b : Bool) (id : Nat) : Option Action := q.find? fun a => a.isConn == b && a.id == id

theorem findObstAct_eq (q : List Action) (id : Nat) : findObstAct q id = act q false id := by
  unfold findObstAct act; congr 1; funext a; cases a.isConn <;> rfl

theorem findAct_conn_eq (q : List Action) (c : Nat) : findAct q .connChange c = act q true c := by
  unfold findAct act; congr 1; funext a; simp [Action.isConn]

theorem atMostOne_of_uniq {q : List Action} (hu : q.Pairwise Rel) (p : Action → Bool) (c : Bool) (id : Nat)
    (hp : ∀ a, p a = true → a.isConn = c ∧ a.id = id) :
    q.Pairwise fun a b => ¬(p a = true ∧ p b = true) :=
  hu.imp fun hr hab =>
    hr ((hp _ hab.1).1.trans (hp _ hab.2).1.symm) ((hp _ hab.1).2.trans (hp _ hab.2).2.symm)

theorem uniq_act {q : List Action} (hu : q.Pairwise Rel) (b : Bool) (id : Nat) :
    q.Pairwise fun x y => ¬((x.isConn == b && x.id == id) = true ∧ (y.isConn == b && y.id == id) = true) :=
  atMostOne_of_uniq hu _ b id fun a h => by simpa using h

theorem uniq_kind_id {q : List Action} (hu : q.Pairwise Rel) (k : Kind) (id : Nat) :
    q.Pairwise fun a b => ¬((a.kind == k && a.id == id) = true ∧ (b.kind == k && b.id == id) = true) :=
  atMostOne_of_uniq hu _ (k == .connChange) id fun a h => by
    simp only [Bool.and_eq_true, beq_iff_eq] at h
    exact ⟨by unfold Action.isConn; rw [h.1], h.2⟩

theorem act_some {q : List Action} {b : Bool} {id : Nat} {a : Action} (h : act q b id = some a) :
    a ∈ q ∧ a.isConn = b ∧ a.id = id := by
  have h2 := List.find?_some h
  simp only [Bool.and_eq_true, beq_iff_eq] at h2
  exact ⟨List.mem_of_find?_eq_some h, h2⟩

theorem act_of_mem {q : List Action} (hu : q.Pairwise Rel) {a : Action} (ha : a ∈ q) : act q a.isConn a.id = some a :=
  find?_of_mem _ (uniq_act hu _ _) ha (by simp)

theorem act_perm {l q : List Action} (hp : l.Perm q) (hu : q.Pairwise Rel) (b : Bool) (id : Nat) :
    act l b id = act q b id :=
  find?_perm _ hp (uniq_act hu b id)

theorem findAct_obst {q : List Action} (hu : q.Pairwise Rel) {k : Kind} (hk : k ≠ .connChange) (id : Nat) :
    findAct q k id = (act q false id).filter (·.kind == k) := by
  unfold findAct act
  rw [← find?_and _ _ q (uniq_act hu false id)]
  congr 1
  funext a
  cases h : a.kind == k with
  | false => rfl
  | true => simp [Action.isConn, eq_of_beq h, hk]

theorem hasAct_obst {q : List Action} (hu : q.Pairwise Rel) {k : Kind} (hk : k ≠ .connChange) (id : Nat) :
    hasAct q k id = ((act q false id).filter (·.kind == k)).isSome := by
  rw [hasAct, findAct_obst hu hk]

/-! ### the invariant, entry by entry -/

/-- entry-wise invariant of an obstacle: object `x`, queued action `r` -/
def OkO (x : Option Obst) (r : Option Action) : Prop :=
  (∀ a, r = some a → x.isSome = true ∧ a.conns.Pairwise fun u v => u.1 ≠ v.1) ∧
    ∀ o, x = some o → o.active = false → (r.filter (·.kind == .add)).isSome = true

/-- entry-wise invariant of a connector -/
def OkC (x : Option Conn) (r : Option Action) : Prop :=
  ∀ a, r = some a → x.isSome = true ∧ a.conns.Pairwise fun u v => u.1 ≠ v.1

theorem Inv.okO {st : State} (h : Inv st) (id : Nat) : OkO (findObst st.scene id) (act st.queue false id) := by
  refine ⟨fun a ha => ?_, fun o ho hact => ?_⟩
  · obtain ⟨hm, hc, hi⟩ := act_some ha
    exact ⟨hi ▸ h.obstRef a hm hc, h.endsDistinct a hm⟩
  · exact (hasAct_obst h.uniq (by decide) id).symm.trans (h.inactiveAdd id o ho hact)

theorem Inv.okC {st : State} (h : Inv st) (c : Nat) : OkC (findConn st.scene c) (act st.queue true c) := by
  intro a ha
  obtain ⟨hm, hc, hi⟩ := act_some ha
  exact ⟨hi ▸ h.connRef a hm hc, h.endsDistinct a hm⟩

theorem Inv.of_ok {st : State} (hu : st.queue.Pairwise Rel) (hcu : ConnUniq st.scene)
    (hO : ∀ id, OkO (findObst st.scene id) (act st.queue false id))
    (hC : ∀ c, OkC (findConn st.scene c) (act st.queue true c)) : Inv st := by
  refine ⟨hu, fun a ha hc => ((hO a.id).1 a (hc ▸ act_of_mem hu ha)).1,
    fun a ha hc => (hC a.id a (hc ▸ act_of_mem hu ha)).1,
    fun id o ho hact => (hasAct_obst hu (by decide) id).trans ((hO id).2 o ho hact), fun a ha => ?_, hcu⟩
  cases hc : a.isConn with
  | false => exact ((hO a.id).1 a (hc ▸ act_of_mem hu ha)).2
  | true => exact (hC a.id a (hc ▸ act_of_mem hu ha)).2

/-! ### what the three loops make of one entry, and what the queue promises for it -/

theorem f1_noop (id : Nat) (x : Option Obst) (a : Action) (h : (a.isConn == false && a.id == id) = false) :
    f1 a id x = x := by
  unfold f1
  split
  · next hi =>
    have hc : a.isConn = true := by simpa [hi] using h
    rw [(isConn_iff a).1 hc]
  · rfl

theorem f2_noop (id : Nat) (x : Option Obst) (a : Action) (h : (a.isConn == false && a.id == id) = false) :
    f2 a id x = x := by
  unfold f2
  split
  · next hi =>
    have hc : a.isConn = true := by simpa [hi] using h
    rw [(isConn_iff a).1 hc]
  · rfl

theorem g3_noop (c : Nat) (x : Option Conn) (a : Action) (h : (a.kind == .connChange && a.id == c) = false) :
    g3 a c x = x := by
  unfold g3
  rw [if_neg]
  intro hh
  simp [hh.1, hh.2] at h

/-- what the loops make of the look-up `x` of obstacle `id` when `a` is its queued action -/
def flushObst (id : Nat) (x : Option Obst) (a : Option Action) : Option Obst :=
  a.elim x fun a => f2 a id (f1 a id x)

theorem findObst_runPasses_uniq (sc : Scene) {l : List Action} (hu : l.Pairwise Rel) (id : Nat) :
    findObst (runPasses sc l) id = flushObst id (findObst sc id) (act l false id) := by
  rw [findObst_runPasses, foldl_find (fun x a => f1 a id x) _ (f1_noop id) l (uniq_act hu false id),
    foldl_find (fun x a => f2 a id x) _ (f2_noop id) l (uniq_act hu false id)]
  unfold act flushObst
  cases l.find? _ <;> rfl

/-- one obstacle look-up as `view` shows it -/
def viewObst (x : Option Obst) : Option (Bool × Poly) :=
  match x with
  | some o => if o.active then some (o.isJ, o.geom) else none
  | none => none

/-- what the queue promises of an obstacle with object `x` and queued action `r` -/
def absO (id : Nat) (x : Option Obst) (r : Option Action) : Option (Bool × Poly) := viewObst (flushObst id x r)

theorem flushObst_move {id : Nat} {a : Action} (hk : a.kind = .move) (hi : a.id = id) (x : Option Obst) :
    flushObst id x (some a) = x.map fun o => { o with active := true, geom := a.geom } := by
  cases x <;> simp [flushObst, f1, f2, hk, hi]

theorem flushObst_add {id : Nat} {a : Action} (hk : a.kind = .add) (hi : a.id = id) (x : Option Obst) :
    flushObst id x (some a) = x.map fun o => { o with active := true } := by
  cases x <;> simp [flushObst, f1, f2, hk, hi]

theorem flushObst_remove {id : Nat} {a : Action} (hk : a.kind = .remove) (hi : a.id = id) (x : Option Obst) :
    flushObst id x (some a) = none := by
  simp [flushObst, f1, f2, hk, hi]

theorem absO_none (id : Nat) (x : Option Obst) : absO id x none = viewObst x := rfl

theorem absO_move {id : Nat} {a : Action} (hk : a.kind = .move) (hi : a.id = id) (x : Option Obst) :
    absO id x (some a) = x.map fun o => (o.isJ, a.geom) := by
  rw [absO, flushObst_move hk hi]; cases x <;> rfl

theorem absO_add {id : Nat} {a : Action} (hk : a.kind = .add) (hi : a.id = id) (x : Option Obst) :
    absO id x (some a) = x.map fun o => (o.isJ, o.geom) := by
  rw [absO, flushObst_add hk hi]; cases x <;> rfl

theorem absO_remove {id : Nat} {a : Action} (hk : a.kind = .remove) (hi : a.id = id) (x : Option Obst) :
    absO id x (some a) = none := by
  rw [absO, flushObst_remove hk hi]; rfl

theorem flushObst_active {id : Nat} {x : Option Obst} {r : Option Action} {o : Obst} (hok : OkO x r)
    (hr : ∀ a, r = some a → a.isConn = false ∧ a.id = id) (h : flushObst id x r = some o) : o.active = true := by
  cases r with
  | none =>
    cases hoa : o.active with
    | true => rfl
    | false => cases hok.2 o h hoa
  | some a =>
    obtain ⟨hc, hi⟩ := hr a rfl
    cases hk : a.kind with
    | move => rw [flushObst_move hk hi] at h; obtain ⟨_, _, rfl⟩ := Option.map_eq_some_iff.1 h; rfl
    | add => rw [flushObst_add hk hi] at h; obtain ⟨_, _, rfl⟩ := Option.map_eq_some_iff.1 h; rfl
    | remove => rw [flushObst_remove hk hi] at h; cases h
    | connChange => rw [(isConn_iff a).2 hk] at hc; cases hc

theorem pending_obst (st : State) (hu : st.queue.Pairwise Rel) (id : Nat) :
    (pending st).obst id = absO id (findObst st.scene id) (act st.queue false id) := by
  simp only [pending, hasAct, findAct_obst hu (show Kind.remove ≠ .connChange by decide),
    findAct_obst hu (show Kind.move ≠ .connChange by decide), findAct_obst hu (show Kind.add ≠ .connChange by decide)]
  cases hr : act st.queue false id with
  | none => cases findObst st.scene id <;> simp [Option.filter, absO_none, viewObst]
  | some a =>
    obtain ⟨_, hc, hi⟩ := act_some hr
    cases hk : a.kind with
    | move => rw [absO_move hk hi]; cases findObst st.scene id <;> simp [Option.filter, hk]
    | add => rw [absO_add hk hi]; cases findObst st.scene id <;> simp [Option.filter, hk]
    | remove => rw [absO_remove hk hi]; cases findObst st.scene id <;> simp [Option.filter, hk]
    | connChange => rw [(isConn_iff a).2 hk] at hc; cases hc

theorem findConn_runPasses_uniq (sc : Scene) {l : List Action} (hu : l.Pairwise Rel) (c : Nat) :
    findConn (runPasses sc l) c = (act l true c).elim (findConn sc c) fun a => g3 a c (findConn sc c) := by
  rw [← findAct_conn_eq]
  exact (findConn_runPasses sc l c).trans
    (foldl_find (fun x a => g3 a c x) _ (g3_noop c) l (uniq_kind_id hu .connChange c) _)

/-- what the queue promises of a connector with object `x` and queued change `r` -/
def absC (x : Option Conn) (r : Option Action) : Option (Option CEnd × Option CEnd) :=
  x.map fun k => ((r.elim k fun a => k.applyUpdates a.conns).src, (r.elim k fun a => k.applyUpdates a.conns).dst)

theorem pending_conn (st : State) (c : Nat) :
    (pending st).conn c = absC (findConn st.scene c) (act st.queue true c) := by
  simp only [pending, findAct_conn_eq]
  cases act st.queue true c <;> rfl

theorem absC_eq (c : Nat) (x : Option Conn) {r : Option Action} (hr : ∀ a, r = some a → a.isConn = true ∧ a.id = c) :
    (r.elim x fun a => g3 a c x).map (fun k => (k.src, k.dst)) = absC x r := by
  cases r with
  | none => rfl
  | some a =>
    obtain ⟨hc, hi⟩ := hr a rfl
    simp [absC, g3, (isConn_iff a).1 hc, hi, Option.map_map, Function.comp_def]

/-- the processing order is irrelevant for the scene (the (type, id) sort matters only for the order of the
    visibility-graph updates, not modelled) -/
theorem view_runPasses_perm (st : State) (hu : st.queue.Pairwise Rel) {l : List Action} (hp : l.Perm st.queue) :
    view (runPasses st.scene l) = pending st := by
  have hul : l.Pairwise Rel := (hp.pairwise_iff fun h => Rel.symm h).2 hu
  refine AScene.ext' (fun id => ?_) fun c => ?_
  · rw [pending_obst st hu, ← act_perm hp hu, absO, ← findObst_runPasses_uniq _ hul]
    rfl
  · rw [pending_conn, ← act_perm hp hu, ← absC_eq c _ fun a ha => (act_some ha).2, ← findConn_runPasses_uniq _ hul]
    rfl

/-! ### the pin-move updates queued by the first loop of `processActions` (`genPinMoves`) change nothing
    that the transaction shows: a queued user change of the same end is left alone (the
    `isConnPinMoveUpdate` guard of `addConnEndUpdate`), and where there is none the update re-states the end
    the connector already has -/

theorem pass1One_conn (sc : Scene) (a : Action) (h : a.kind = .connChange) : pass1One sc a = sc := by
  unfold pass1One; rw [h]

theorem pass2One_conn (sc : Scene) (a : Action) (h : a.kind = .connChange) : pass2One sc a = sc := by
  unfold pass2One; rw [h]

theorem foldl_modifyConnector (F : Scene → Action → Scene) (hF : ∀ s a, a.kind = .connChange → F s a = s)
    (q : List Action) (c : Nat) (e : End) (p : CEnd) (f : Bool) (s : Scene) :
    (modifyConnector q c e p f).foldl F s = q.foldl F s := by
  unfold modifyConnector
  split
  · refine foldl_updFirst F _ _ (fun _ => True) (fun _ _ _ _ => trivial) (fun s a _ hP => ?_) q s trivial
    simp only [Bool.and_eq_true, beq_iff_eq] at hP
    exact (hF s { a with conns := addConnEndUpdate a.conns e p f } hP.1).trans (hF s a hP.1).symm
  · rw [List.foldl_append]
    exact hF _ _ rfl

/-- the pin-move updates for a list of (connector, end, ConnEnd), merged into `q` one after the other:
    `moveAttachedConns sc q m = refresh (attachedEnds sc m) q` -/
def refresh (ts : List (Nat × End × CEnd)) (q : List Action) : List Action :=
  ts.foldl (fun q t => modifyConnector q t.1 t.2.1 t.2.2 true) q

/-- the ends attached to the obstacles that `q` moves, in the order in which the first loop visits them -/
def pinEnds (sc : Scene) (q : List Action) : List (Nat × End × CEnd) :=
  q.flatMap fun a => if a.kind == .move then attachedEnds sc a.id else []

theorem genPinMoves_eq_refresh (sc : Scene) (q : List Action) : genPinMoves sc q = refresh (pinEnds sc q) q := by
  unfold genPinMoves refresh pinEnds
  rw [List.foldl_flatMap]
  congr 1
  funext acc a
  split <;> rfl

theorem foldl_refresh (F : Scene → Action → Scene) (hF : ∀ s a, a.kind = .connChange → F s a = s)
    (ts : List (Nat × End × CEnd)) (q : List Action) (s : Scene) : (refresh ts q).foldl F s = q.foldl F s :=
  Util.foldl_view (fun q => q.foldl F s) _ (fun q t => foldl_modifyConnector F hF q t.1 t.2.1 t.2.2 true s) ts q

theorem obsts_runPasses_refresh (sc : Scene) (ts : List (Nat × End × CEnd)) (q : List Action) :
    (runPasses sc (refresh ts q)).obsts = (runPasses sc q).obsts := by
  unfold runPasses
  rw [obsts_fold3, obsts_fold3, foldl_refresh pass1One pass1One_conn, foldl_refresh pass2One pass2One_conn]

/-- effect of the last loop on the look-up of connector `c` (`findConn_runPasses`) -/
def G (c : Nat) (l : List Action) (x : Option Conn) : Option Conn := l.foldl (fun x a => g3 a c x) x

theorem G_cons (c : Nat) (a : Action) (l : List Action) (x : Option Conn) : G c (a :: l) x = G c l (g3 a c x) := rfl

theorem G_append (c : Nat) (l1 l2 : List Action) (x : Option Conn) : G c (l1 ++ l2) x = G c l2 (G c l1 x) := by
  unfold G; rw [List.foldl_append]

theorem G_noop_of_none (c : Nat) (q : List Action) (h : findAct q .connChange c = none) (x : Option Conn) :
    G c q x = x :=
  List.foldlRecOn (motive := (· = x)) q _ rfl fun y hy b hb =>
    (g3_noop c y b (by simpa using List.find?_eq_none.1 h b hb)).trans hy

theorem G_modifyConnector (sc : Scene) (hu : ConnUniq sc) (c : Nat) (q : List Action) (k : Conn) (hk : k ∈ sc.conns)
    (e : End) (p : CEnd) (hp : k.getEnd e = some p) :
    G c (modifyConnector q k.id e p true) (findConn sc c) = G c q (findConn sc c) := by
  have hx : k.id = c → findConn sc c = some k := fun hc => hc ▸ connFind_of_uniq hu k hk
  unfold modifyConnector
  split
  · -- up to the `ConnChange` of `k` its look-up is still `k`, and there the merged update is dropped or a no-op
    refine foldl_updFirst (fun x a => g3 a c x) _ _ (fun s => k.id = c → s = some k)
      (fun s a hs hP hc => by rw [g3_noop c s a (hc ▸ hP)]; exact hs hc) (fun s a hs hP => ?_) q _ hx
    simp only [Bool.and_eq_true, beq_iff_eq] at hP
    simp only [g3, hP.1, hP.2, true_and]
    split
    · next hc => rw [hs hc, Option.map_some, Option.map_some, applyUpdates_pinMove _ _ _ _ hp]
    · rfl
  · next hh =>
    rw [G_append]
    show g3 _ c _ = _
    simp only [g3, true_and]
    split
    · next hc =>
      have hn : findAct q .connChange c = none := by simpa [hasAct, hc] using hh
      rw [G_noop_of_none _ _ hn, hx hc]
      simp [Conn.applyUpdates, setEnd_of_getEnd _ _ _ hp]
    · rfl

theorem mem_endList {x : Option CEnd} {m i : Nat} {e : End} {t : Nat × End × CEnd}
    (h : t ∈ (match x with | some s => if s.anchor == m then [(i, e, s)] else [] | none => [])) :
    x = some t.2.2 ∧ t.1 = i ∧ t.2.1 = e := by
  cases x with
  | none => cases h
  | some s =>
    simp only at h
    split at h
    · cases List.mem_singleton.1 h
      exact ⟨rfl, rfl, rfl⟩
    · cases h

theorem attachedEnds_mem (sc : Scene) (m : Nat) (t : Nat × End × CEnd) (ht : t ∈ attachedEnds sc m) :
    ∃ k ∈ sc.conns, k.id = t.1 ∧ k.getEnd t.2.1 = some t.2.2 := by
  obtain ⟨k, hk, hm⟩ := List.mem_flatMap.1 ht
  refine ⟨k, hk, ?_⟩
  rcases List.mem_append.1 hm with hm | hm
  · obtain ⟨hx, hi, he⟩ := mem_endList hm
    exact ⟨hi.symm, he ▸ hx⟩
  · obtain ⟨hx, hi, he⟩ := mem_endList hm
    exact ⟨hi.symm, he ▸ hx⟩

def EndsOfScene (sc : Scene) (ts : List (Nat × End × CEnd)) : Prop :=
  ∀ t ∈ ts, ∃ k ∈ sc.conns, k.id = t.1 ∧ k.getEnd t.2.1 = some t.2.2

theorem G_refresh (sc : Scene) (hu : ConnUniq sc) (c : Nat) (ts : List (Nat × End × CEnd)) (hall : EndsOfScene sc ts)
    (q : List Action) : G c (refresh ts q) (findConn sc c) = G c q (findConn sc c) :=
  List.foldlRecOn (motive := fun q' => G c q' (findConn sc c) = G c q (findConn sc c)) ts _ rfl fun q' hq' t ht => by
    obtain ⟨k, hk, hid, hp⟩ := hall t ht
    rw [← hid]
    exact (G_modifyConnector sc hu c q' k hk _ _ hp).trans hq'

theorem view_runPasses_refresh (sc : Scene) (hu : ConnUniq sc) (ts : List (Nat × End × CEnd)) (hall : EndsOfScene sc ts)
    (q : List Action) : view (runPasses sc (refresh ts q)) = view (runPasses sc q) := by
  apply AScene.ext'
  · intro id
    simp only [view, findObst_congr (obsts_runPasses_refresh sc ts q) id]
  · intro c
    simp only [view, findConn_runPasses]
    exact congrArg _ (G_refresh sc hu c ts hall q)

theorem pinEnds_ofScene (sc : Scene) (q : List Action) : EndsOfScene sc (pinEnds sc q) := by
  intro t ht
  obtain ⟨a, _, hta⟩ := List.mem_flatMap.1 ht
  split at hta
  · exact attachedEnds_mem sc a.id t hta
  · cases hta

theorem obsts_runPasses_genPinMoves (sc : Scene) (q : List Action) :
    (runPasses sc (genPinMoves sc q)).obsts = (runPasses sc q).obsts := by
  rw [genPinMoves_eq_refresh]
  exact obsts_runPasses_refresh sc _ q

theorem view_runPasses_genPinMoves (sc : Scene) (hu : ConnUniq sc) (q : List Action) :
    view (runPasses sc (genPinMoves sc q)) = view (runPasses sc q) := by
  rw [genPinMoves_eq_refresh]
  exact view_runPasses_refresh sc hu _ (pinEnds_ofScene sc q) q

/-! ### completeness of the refresh: every end attached to a moved obstacle has an update in the list the last
    loop runs over (so every end that `Obstacle::makeInactive` disconnected in the first loop is re-attached) -/

def Covered (q : List Action) (c : Nat) (e : End) : Prop :=
  ∃ a ∈ q, a.kind = .connChange ∧ a.id = c ∧ ∃ u ∈ a.conns, u.1 = e

theorem addConnEndUpdate_fst (us : List (End × CEnd)) (e : End) (p : CEnd) (f : Bool) :
    ∀ e' ∈ e :: us.map Prod.fst, e' ∈ (addConnEndUpdate us e p f).map Prod.fst := by
  unfold addConnEndUpdate
  by_cases ha : us.any (·.1 == e) = true
  · obtain ⟨u, hu, hue⟩ := List.any_eq_true.1 ha
    have he : e ∈ us.map Prod.fst := List.mem_map.2 ⟨u, hu, by simpa using hue⟩
    have hm : (if (!f) = true then updFirst (·.1 == e) (fun _ => (e, p)) us else us).map Prod.fst = us.map Prod.fst := by
      cases f <;> simp [updFirst_fst]
    simp only [ha, if_true, hm]
    intro e' h
    rcases List.mem_cons.1 h with rfl | h
    · exact he
    · exact h
  · simp only [ha, Bool.false_eq_true, if_false, List.map_append, List.map_cons, List.map_nil]
    intro e' h
    rcases List.mem_cons.1 h with rfl | h
    · simp
    · exact List.mem_append_left _ h

theorem modifyConnector_covers (q : List Action) (c : Nat) (e : End) (p : CEnd) (f : Bool) :
    Covered (modifyConnector q c e p f) c e := by
  unfold modifyConnector
  cases hh : hasAct q .connChange c with
  | true =>
    simp only [if_true]
    have hany : q.any (fun a => a.kind == .connChange && a.id == c) = true := by
      obtain ⟨a, ha⟩ := Option.isSome_iff_exists.1 hh
      obtain ⟨ham, hak, hai⟩ := findAct_some ha
      exact List.any_eq_true.2 ⟨a, ham, by simp [hak, hai]⟩
    obtain ⟨a, _, hPa, hfa⟩ := updFirst_first _ (fun a => { a with conns := addConnEndUpdate a.conns e p f }) q hany
    simp only [Bool.and_eq_true, beq_iff_eq] at hPa
    exact ⟨_, hfa, hPa.1, hPa.2, List.mem_map.1 (addConnEndUpdate_fst a.conns e p f e (List.mem_cons_self ..))⟩
  | false =>
    simp only [Bool.false_eq_true, if_false]
    exact ⟨_, List.mem_append_right _ (List.mem_singleton.2 rfl), rfl, rfl, (e, p), by simp, rfl⟩

theorem modifyConnector_mono (q : List Action) (c : Nat) (e : End) (p : CEnd) (f : Bool) (c' : Nat) (e' : End)
    (h : Covered q c' e') : Covered (modifyConnector q c e p f) c' e' := by
  obtain ⟨a, ha, hk, hi, hu⟩ := h
  unfold modifyConnector
  split
  · rcases updFirst_mem (fun a => a.kind == .connChange && a.id == c)
        (fun a => { a with conns := addConnEndUpdate a.conns e p f }) q a ha with h1 | h1
    · exact ⟨a, h1, hk, hi, hu⟩
    · exact ⟨_, h1.2, hk, hi, List.mem_map.1
        (addConnEndUpdate_fst a.conns e p f e' (List.mem_cons_of_mem _ (List.mem_map.2 hu)))⟩
  · exact ⟨a, List.mem_append_left _ ha, hk, hi, hu⟩

theorem refresh_covers (ts : List (Nat × End × CEnd)) (q : List Action) (t : Nat × End × CEnd) (ht : t ∈ ts) :
    Covered (refresh ts q) t.1 t.2.1 :=
  Util.foldl_achieves (fun q (u : Nat × End × CEnd) => modifyConnector q u.1 u.2.1 u.2.2 true) (fun _ => True)
    (Covered · t.1 t.2.1) ht (fun _ _ _ _ => trivial)
    (fun q u _ h => modifyConnector_mono q u.1 u.2.1 u.2.2 true t.1 t.2.1 h)
    (fun q _ => modifyConnector_covers q t.1 t.2.1 t.2.2 true) (b := q) trivial

theorem genPinMoves_covers (sc : Scene) (q : List Action) (a : Action) (ha : a ∈ q) (hk : a.kind = .move)
    (t : Nat × End × CEnd) (ht : t ∈ attachedEnds sc a.id) : Covered (genPinMoves sc q) t.1 t.2.1 := by
  rw [genPinMoves_eq_refresh]
  exact refresh_covers _ _ t (List.mem_flatMap.2 ⟨a, ha, by rw [hk]; exact ht⟩)

/-! ### `processActions` as a whole -/

theorem view_processActions (st : State) (h : Inv st) : view (processActions st).scene = pending st :=
  (view_runPasses_genPinMoves st.scene h.connFind _).trans (view_runPasses_perm st h.uniq (sortActions_perm _))

theorem inv_processActions (st : State) (h : Inv st) : Inv (processActions st) := by
  refine Inv.of_ok List.Pairwise.nil (connUniq_runPasses h.connFind _) (fun id => ⟨nofun, fun o ho hact => ?_⟩)
    (fun _ => nofun)
  have ho' : flushObst id (findObst st.scene id) (act st.queue false id) = some o := by
    rw [← act_perm (sortActions_perm _) h.uniq, ← findObst_runPasses_uniq _ (sort_uniq h.uniq), ← ho]
    exact findObst_congr (obsts_runPasses_genPinMoves _ _).symm id
  rw [flushObst_active (h.okO id) (fun a ha => (act_some ha).2) ho'] at hact
  cases hact

end AdaptaVerif.Lemmas.ActionQueue
