/-
C18 — the definitions in which Props/C18Tie3 states its two bridges.
`SepGenBridge`: `SepPair::generateSeparationConstraint` as GENERATED from cola/libdialect/constraints.cpp (`Gen/SepGenK.lean`)
against the hand transcription `Model.Sep.SepPair.generateSeparationConstraint` (whose `genCon` is what Props/C18
`sat_iff_vpsc` is about): `sizeOf`, `relabel`; `toRat_two`, the one `double` literal of the generated text (the
`/ 2` of a boundary gap).
`SepDrawingBridge` (C18 / C14): the C14 checker's own transcription of the same function (Check/Drawing.lean, `dimHolds`:
clause 7 "the returned separation constraints hold") against `genCon`: how a dimension of a SepPair is handed to the
checker (`dDim`); that with zero tolerance the two decide the same relation is `drawing_dimHolds_iff_generated`.
-/
import AdaptaVerif.Spec.Sep
import AdaptaVerif.Gen.SepGenK
import AdaptaVerif.Check.Drawing
namespace AdaptaVerif.Lemmas.SepGenBridge
open AdaptaVerif.Model.Sep AdaptaVerif.Num

theorem toRat_two : SZ.toRat (SZ.ofRat (2 : Rat)) = 2 := by
  have h : ¬ ((2 : Rat) < 0) := by decide
  simp [SZ.toRat, SZ.ofRat, h]

/-- extent of node `id` in dimension `d` as the C++ reads it: through `cgr.id2ix` and `cgr.rs` -/
def sizeOf (id2ix : Nat → Nat) (rsW rsH : Nat → Rat) (id : Nat) : Dim → Rat
  | .x => rsW (id2ix id)
  | .y => rsH (id2ix id)

/-- node ids → variable indices -/
def relabel (id2ix : Nat → Nat) (c : VCon) : VCon := { c with left := id2ix c.left, right := id2ix c.right }

end AdaptaVerif.Lemmas.SepGenBridge

namespace AdaptaVerif.Lemmas.SepDrawingBridge
open AdaptaVerif.Model.Sep AdaptaVerif.Num

/-- the separation / gap types of the C14 checker's own transcription (Check/Drawing.lean) -/
def dSt : SepType → AdaptaVerif.Check.Drawing.SepType
  | .none => .none | .eq => .eq | .ineq => .ineq
def dGt : GapType → AdaptaVerif.Check.Drawing.GapType
  | .centre => .centre | .bdry => .bdry

/-- one dimension of a SepPair as the C14 driver hands it to the checker: sign bit and value of the gap -/
def dDim (st : SepType) (gt : GapType) (g : SZ) : AdaptaVerif.Check.Drawing.SepDim := ⟨dSt st, dGt gt, g.signbit, g.toRat⟩

end AdaptaVerif.Lemmas.SepDrawingBridge
