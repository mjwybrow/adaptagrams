/-
Lemmas about `Model/OrthVis.lean`: the event-by-event scan line (`sweepLines`: pass 1
inserts, pass 2 looks, pass 3 removes) holds in pass 2 exactly the rectangles `activeAt` names.
-/
import Mathlib.Algebra.Order.Field.Rat
import AdaptaVerif.Model.OrthVis

namespace AdaptaVerif.Lemmas.OrthVis
open AdaptaVerif.Model.OrthVis

theorem mem_idx_filter {α} {l : List α} {P : α → Bool} {i : Nat} :
    i ∈ (l.zipIdx.filter fun q => P q.1).map (·.2) ↔ ∃ r, l[i]? = some r ∧ P r = true := by
  simp only [List.mem_map, List.mem_filter]
  constructor
  · rintro ⟨⟨r, j⟩, ⟨hm, hy⟩, rfl⟩
    exact ⟨r, List.mem_zipIdx_iff_getElem?.mp hm, hy⟩
  · rintro ⟨r, hr, hy⟩
    exact ⟨(r, i), ⟨List.mem_zipIdx_iff_getElem?.mpr hr, hy⟩, rfl⟩

theorem mem_opensAt {rects : List Rect} {p : Rat} {i : Nat} :
    i ∈ opensAt rects p ↔ ∃ r, rects[i]? = some r ∧ r.y0 = p :=
  (mem_idx_filter (l := rects) (P := fun r : Rect => r.y0 == p)).trans (by simp only [beq_iff_eq])

theorem mem_closesAt {rects : List Rect} {p : Rat} {i : Nat} :
    i ∈ closesAt rects p ↔ ∃ r, rects[i]? = some r ∧ r.y1 = p :=
  (mem_idx_filter (l := rects) (P := fun r : Rect => r.y1 == p)).trans (by simp only [beq_iff_eq])

/-- invariant before the positions `ps` are processed: the scan line holds exactly the rectangles whose Open
    position is already processed (below all of `ps`) and whose Close position is still to come (in `ps`) -/
def SweepInv (rects : List Rect) (ps : List Rat) (line : List Nat) : Prop :=
  ∀ i, i ∈ line ↔ ∃ r, rects[i]? = some r ∧ (∀ q ∈ ps, r.y0 < q) ∧ r.y1 ∈ ps

theorem sweepLines_spec (rects : List Rect) (hwf : ∀ r ∈ rects, r.y0 ≤ r.y1) :
    ∀ (ps : List Rat) (line : List Nat), ps.Pairwise (· < ·) →
      (∀ r ∈ rects, (r.y0 ∈ ps ∨ ∀ q ∈ ps, r.y0 < q) ∧ (r.y1 ∈ ps ∨ ∀ q ∈ ps, r.y1 < q)) →
      SweepInv rects ps line →
      ∀ x ∈ sweepLines rects ps line, ∀ i, i ∈ x.2 ↔ ∃ r, rects[i]? = some r ∧ r.y0 ≤ x.1 ∧ x.1 ≤ r.y1 := by
  intro ps
  induction ps with
  | nil => intro line _ _ _ x hx; cases hx
  | cons p rest ih =>
    intro line hsort hall hinv x hx
    obtain ⟨hp, hrest⟩ := List.pairwise_cons.mp hsort
    -- pass 1: the scan line and the rectangles opening at `p` are the rectangles around `p`
    have seen_iff : ∀ i, i ∈ line ++ opensAt rects p ↔ ∃ r, rects[i]? = some r ∧ r.y0 ≤ p ∧ p ≤ r.y1 := by
      intro i
      rw [List.mem_append, hinv i, mem_opensAt]
      constructor
      · rintro (⟨r, hr, h0, h1⟩ | ⟨r, hr, h0⟩)
        · exact ⟨r, hr, le_of_lt (h0 p List.mem_cons_self),
            (List.mem_cons.mp h1).elim (fun e => le_of_eq e.symm) fun h => le_of_lt (hp _ h)⟩
        · exact ⟨r, hr, le_of_eq h0, h0 ▸ hwf r (List.mem_of_getElem? hr)⟩
      · rintro ⟨r, hr, h0, h1⟩
        rcases eq_or_lt_of_le h0 with he | hlt
        · exact Or.inr ⟨r, hr, he⟩
        · refine Or.inl ⟨r, hr, fun q hq => (List.mem_cons.mp hq).elim (fun e => e ▸ hlt) fun h => lt_trans hlt (hp q h),
            (hall r (List.mem_of_getElem? hr)).2.resolve_right fun a => ?_⟩
          exact absurd (a p List.mem_cons_self) (not_lt.mpr h1)
    rcases List.mem_cons.mp hx with rfl | hx
    · exact seen_iff
    have shrink : ∀ z : Rat, (z ∈ p :: rest ∨ ∀ q ∈ p :: rest, z < q) → (z ∈ rest ∨ ∀ q ∈ rest, z < q) := by
      rintro z (a | a)
      · exact (List.mem_cons.mp a).elim (fun e => Or.inr fun q hq => e ▸ hp q hq) Or.inl
      · exact Or.inr fun q hq => a q (List.mem_cons_of_mem _ hq)
    refine ih _ hrest (fun r hr => ⟨shrink _ (hall r hr).1, shrink _ (hall r hr).2⟩) (fun i => ?_) x hx
    -- pass 3: what stays are the rectangles opened at or before `p` that close later
    simp only [List.mem_filter, Bool.not_eq_true', List.contains_eq_mem, decide_eq_false_iff_not]
    rw [seen_iff i, mem_closesAt]
    constructor
    · rintro ⟨⟨r, hr, h0, h1⟩, hnc⟩
      refine ⟨r, hr, fun q hq => lt_of_le_of_lt h0 (hp q hq), ?_⟩
      rcases (hall r (List.mem_of_getElem? hr)).2 with a | a
      · exact (List.mem_cons.mp a).resolve_left fun e => hnc ⟨r, hr, e⟩
      · exact absurd (a p List.mem_cons_self) (not_lt.mpr h1)
    · rintro ⟨r, hr, h0, h1⟩
      have hlt : p < r.y1 := hp _ h1
      refine ⟨⟨r, hr, ?_, le_of_lt hlt⟩, ?_⟩
      · rcases (hall r (List.mem_of_getElem? hr)).1 with a | a
        · exact (List.mem_cons.mp a).elim le_of_eq fun a => absurd (h0 _ a) (lt_irrefl _)
        · exact le_of_lt (a p List.mem_cons_self)
      · rintro ⟨r', hr', e⟩
        obtain rfl : r = r' := Option.some.inj (hr.symm.trans hr')
        exact absurd (e ▸ hlt) (lt_irrefl _)

theorem activeAt_iff_indices {rects : List Rect} {line : List Nat} {p : Rat}
    (h : ∀ i, i ∈ line ↔ ∃ r, rects[i]? = some r ∧ r.y0 ≤ p ∧ p ≤ r.y1) :
    ∀ r, r ∈ activeAt rects p ↔ ∃ i ∈ line, rects[i]? = some r := by
  intro r
  simp only [activeAt, List.mem_filter, decide_eq_true_eq]
  constructor
  · rintro ⟨hr, h0, h1⟩
    obtain ⟨i, hi⟩ := List.getElem?_of_mem hr
    exact ⟨i, (h i).mpr ⟨r, hi, h0, h1⟩, hi⟩
  · rintro ⟨i, hi, hget⟩
    obtain ⟨r', hr', h0, h1⟩ := (h i).mp hi
    obtain rfl : r' = r := Option.some.inj (hr'.symm.trans hget)
    exact ⟨List.mem_of_getElem? hget, h0, h1⟩

end AdaptaVerif.Lemmas.OrthVis
