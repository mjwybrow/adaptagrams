/-
C15 (A) — the queue-independent core invariant of the Router lifecycle model and its preservation by
every primitive of `Model/Lifecycle.lean`; the branches of `procRemoveMove`, `deleteObstacleOp`, `moveObstacleOp`
(`…_cases`) and the `deleteRouter` clause of `step` under a name (`destroy`); the induction over legal histories
(`legalFrom_induction`), which the later invariants use.

`Core g s`: `g` is a list of "ghost" pin ids — pins that have left their owner's set but whose memory
has not been released yet (`~ShapeConnectionPin` between `Obstacle::removeConnectionPin` and the end of
the destructor; a transaction may be processed in between when transactions are off).  Between
operations `g = []`.
-/
import AdaptaVerif.Spec.Lifecycle
import AdaptaVerif.Lemmas.Util.List
namespace AdaptaVerif.Lemmas.Lifecycle
open AdaptaVerif.Model.Lifecycle AdaptaVerif.Spec.Lifecycle

def oids (s : St) : List Id := s.obst.map (·.id)
def cids (s : St) : List Id := s.conns.map (·.id)
def pids (s : St) : List Id := s.pins.map (·.id)
def kids (s : St) : List Id := s.clusters.map (·.id)

theorem allocated_eq (s : St) : s.allocated = oids s ++ cids s ++ pids s ++ kids s := rfl

theorem hasObst_iff {s : St} {o : Id} : s.hasObst o = true ↔ o ∈ oids s := by
  simp [St.hasObst, oids, List.any_eq_true]

theorem hasConn_iff {s : St} {o : Id} : s.hasConn o = true ↔ o ∈ cids s := by
  simp [St.hasConn, cids, List.any_eq_true]

theorem hasPin_iff {s : St} {o : Id} : s.hasPin o = true ↔ o ∈ pids s := by
  simp [St.hasPin, pids, List.any_eq_true]

theorem hasCluster_kids {s : St} {k : Id} (h : s.hasCluster k = true) : k ∈ kids s := by
  simp [St.hasCluster, List.any_eq_true] at h
  obtain ⟨x, hx, h1, _⟩ := h
  simp [kids]; exact ⟨x, hx, h1⟩

theorem hasShape_obst {s : St} {o : Id} (h : s.hasShape o = true) : o ∈ oids s := by
  simp [St.hasShape, List.any_eq_true] at h
  obtain ⟨x, hx, h1, _⟩ := h
  simp [oids]; exact ⟨x, hx, h1⟩

theorem hasJunction_obst {s : St} {o : Id} (h : s.hasJunction o = true) : o ∈ oids s := by
  simp [St.hasJunction, List.any_eq_true] at h
  obtain ⟨x, hx, h1, _⟩ := h
  simp [oids]; exact ⟨x, hx, h1⟩

/-! ### the ledger "owned = created minus freed", on plain lists

The same bookkeeping is kept twice: for object ids (`Ids`, the owners being four lists) and for
checkpoint vertices (`VIds`).  Both say one equation between multiplicities (`Led`: owned + freed = created, nothing
created twice), and in that form the ledger has one move (`Led.move`): some ids are created and owned, some leave the
owners and are freed; which of the owner lists they join or leave does not matter, since addition commutes. -/

/-- `A` = the owned ids, `Cr` / `F` = the created / freed logs -/
structure VIds (A Cr F : List Id) : Prop where
  nodupOwned : A.Nodup
  nodupCreated : Cr.Nodup
  nodupFreed : F.Nodup
  freedSub : ∀ x ∈ F, x ∈ Cr
  refine : ∀ x, x ∈ A ↔ (x ∈ Cr ∧ x ∉ F)

def Led (A Cr F : List Id) : Prop := Cr.Nodup ∧ ∀ x, A.count x + F.count x = Cr.count x

theorem nodup_of_count_le {A B : List Id} (hB : B.Nodup) (h : ∀ x, A.count x ≤ B.count x) : A.Nodup :=
  List.nodup_iff_count.2 fun x => Nat.le_trans (h x) (List.nodup_iff_count.1 hB x)

theorem VIds.led {A Cr F : List Id} (h : VIds A Cr F) : Led A Cr F := by
  refine ⟨h.nodupCreated, fun x => ?_⟩
  have := h.refine x
  have hf := h.freedSub x
  rw [h.nodupOwned.count, h.nodupFreed.count, h.nodupCreated.count]
  by_cases hc : x ∈ Cr <;> by_cases hfx : x ∈ F <;> by_cases ha : x ∈ A <;> simp_all

theorem Led.vids {A Cr F : List Id} (h : Led A Cr F) : VIds A Cr F := by
  have le1 := List.nodup_iff_count.1 h.1
  refine ⟨nodup_of_count_le h.1 fun x => by have := h.2 x; omega,
    h.1, nodup_of_count_le h.1 fun x => by have := h.2 x; omega, fun x hx => ?_, fun x => ?_⟩
  · have := h.2 x; have := List.one_le_count_iff.2 hx
    exact List.one_le_count_iff.1 (by omega)
  · have := h.2 x; have := le1 x
    rw [← List.one_le_count_iff, ← List.one_le_count_iff (l := Cr), ← List.count_eq_zero (l := F)]
    omega

theorem Led.move {A A' Cr Cr' F F' N D : List Id} (h : Led A Cr F) (hcr : Cr' = Cr ++ N) (hf : F' = F ++ D)
    (hnd : N.Nodup) (hfresh : ∀ x ∈ N, x ∉ Cr) (hA : ∀ x, A'.count x + D.count x = A.count x + N.count x) :
    Led A' Cr' F' := by
  subst hcr hf
  refine ⟨List.nodup_append.2 ⟨h.1, hnd, fun a ha b hb e => hfresh b hb (e ▸ ha)⟩, fun x => ?_⟩
  have := h.2 x; have := hA x
  simp only [List.count_append]; omega

theorem VIds.move {A A' Cr Cr' F F' N D : List Id} (h : VIds A Cr F) (hcr : Cr' = Cr ++ N) (hf : F' = F ++ D)
    (hnd : N.Nodup) (hfresh : ∀ x ∈ N, x ∉ Cr) (hA : ∀ x, A'.count x + D.count x = A.count x + N.count x) :
    VIds A' Cr' F' := (h.led.move hcr hf hnd hfresh hA).vids

/-- `O C P` = ids of allocated obstacles / connectors / pins, `G` = the other allocated ids (ghost pins
    followed by the clusters, see `Core`), `Cr`/`F` = the created / freed logs -/
structure Ids (O C P G Cr F : List Id) : Prop where
  nodupAlloc : (O ++ C ++ P ++ G).Nodup
  nodupCreated : Cr.Nodup
  nodupFreed : F.Nodup
  freedSub : ∀ x ∈ F, x ∈ Cr
  refine : ∀ x, (x ∈ O ∨ x ∈ C ∨ x ∈ P ∨ x ∈ G) ↔ (x ∈ Cr ∧ x ∉ F)

theorem Ids.nodupO {O C P G Cr F : List Id} (h : Ids O C P G Cr F) : O.Nodup :=
  (List.nodup_append.1 (List.nodup_append.1 (List.nodup_append.1 h.nodupAlloc).1).1).1
theorem Ids.nodupC {O C P G Cr F : List Id} (h : Ids O C P G Cr F) : C.Nodup :=
  (List.nodup_append.1 (List.nodup_append.1 (List.nodup_append.1 h.nodupAlloc).1).1).2.1
theorem Ids.nodupP {O C P G Cr F : List Id} (h : Ids O C P G Cr F) : P.Nodup :=
  (List.nodup_append.1 (List.nodup_append.1 h.nodupAlloc).1).2.1
theorem Ids.nodupG {O C P G Cr F : List Id} (h : Ids O C P G Cr F) : G.Nodup :=
  (List.nodup_append.1 h.nodupAlloc).2.1

theorem Ids.ledger {O C P G Cr F : List Id} (h : Ids O C P G Cr F) : VIds (O ++ C ++ P ++ G) Cr F :=
  ⟨h.nodupAlloc, h.nodupCreated, h.nodupFreed, h.freedSub,
    fun x => by simpa only [List.mem_append, or_assoc] using h.refine x⟩

theorem VIds.ids {O C P G Cr F : List Id} (h : VIds (O ++ C ++ P ++ G) Cr F) : Ids O C P G Cr F :=
  ⟨h.nodupOwned, h.nodupCreated, h.nodupFreed, h.freedSub,
    fun x => by simpa only [List.mem_append, or_assoc] using h.refine x⟩

theorem Ids.move {O C P G O' C' P' G' Cr Cr' F F' N D : List Id} (h : Ids O C P G Cr F) (hcr : Cr' = Cr ++ N)
    (hf : F' = F ++ D) (hnd : N.Nodup) (hfresh : ∀ x ∈ N, x ∉ Cr)
    (hA : ∀ x, O'.count x + C'.count x + P'.count x + G'.count x + D.count x
      = O.count x + C.count x + P.count x + G.count x + N.count x) : Ids O' C' P' G' Cr' F' :=
  (h.ledger.move hcr hf hnd hfresh fun x => by have := hA x; simp only [List.count_append]; omega).ids

theorem count_filter_ne {l : List Id} (hn : l.Nodup) {c : Id} (hc : c ∈ l) (x : Id) :
    (l.filter (· != c)).count x + [c].count x = l.count x := by
  rw [← hn.erase_eq_filter c, List.perm_iff_count.1 (List.perm_cons_erase hc) x]
  simp only [List.count_cons, List.count_nil, Nat.zero_add]

/-- validity of one end relative to explicit lists (obstacle ids, pins with owners, ghost pins) -/
def EndOk (g : List Id) (O : List Id) (P : List Pin) (e : End) : Prop :=
  ∀ x, e = some x → x.anchor ∈ O ∧
    ∀ p, x.pin = some p → p ∈ g ∨ ∃ q ∈ P, q.id = p ∧ q.owner = x.anchor

theorem EndOk.none {g O P} : EndOk g O P none := by intro x hx; cases hx

theorem EndOk.mono {g g' O O' : List Id} {P P' : List Pin} {e : End} (h : EndOk g O P e)
    (hO : ∀ x, e = some x → x.anchor ∈ O → x.anchor ∈ O')
    (hP : ∀ x, e = some x → ∀ p, (p ∈ g ∨ ∃ q ∈ P, q.id = p ∧ q.owner = x.anchor) →
      (p ∈ g' ∨ ∃ q ∈ P', q.id = p ∧ q.owner = x.anchor)) : EndOk g' O' P' e :=
  fun x hx => ⟨hO x hx (h x hx).1, fun p hp => hP x hx p ((h x hx).2 p hp)⟩

structure Core (g : List Id) (s : St) : Prop where
  ids : Ids (oids s) (cids s) (pids s) (g ++ kids s) s.created s.freed
  endsOk : ∀ c ∈ s.conns, EndOk g (oids s) s.pins c.src ∧ EndOk g (oids s) s.pins c.dst
  pinsOk : ∀ p ∈ s.pins, p.owner ∈ oids s
  /-- every allocated cluster is a member of `Router::clusterRefs` (since /repo def6b3d `Router::deleteCluster`
      frees what it unlinks) -/
  clActive : ∀ k ∈ s.clusters, k.active = true

theorem core_init : Core [] init := by
  constructor
  · constructor <;> simp [init, oids, cids, pids, kids]
  · simp [init]
  · simp [init]
  · simp [init]

theorem core_same {g : List Id} {s t : St} (h : Core g s)
    (ho : oids t = oids s) (hc : cids t = cids s) (hp : t.pins = s.pins)
    (hcr : t.created = s.created) (hf : t.freed = s.freed)
    (he : ∀ c ∈ t.conns, EndOk g (oids s) s.pins c.src ∧ EndOk g (oids s) s.pins c.dst)
    (hk : t.clusters = s.clusters := by rfl) :
    Core g t := by
  obtain ⟨h1, h2, h3, h4⟩ := h
  constructor
  · have : pids t = pids s := by simp [pids, hp]
    have hk' : kids t = kids s := by simp [kids, hk]
    rw [ho, hc, this, hk', hcr, hf]; exact h1
  · rw [ho, hp]; exact he
  · rw [ho, hp]; exact h3
  · rw [hk]; exact h4

theorem core_congr {g : List Id} {s t : St} (h : Core g s)
    (ho : t.obst = s.obst) (hc : t.conns = s.conns) (hp : t.pins = s.pins)
    (hcr : t.created = s.created) (hf : t.freed = s.freed)
    (hk : t.clusters = s.clusters := by rfl) : Core g t :=
  core_same h (by simp [oids, ho]) (by simp [cids, hc]) hp hcr hf (by rw [hc]; exact h.endsOk) hk

theorem core_mapConns {g : List Id} {s t : St} (h : Core g s) (f : Conn → Conn)
    (hid : ∀ c, (f c).id = c.id)
    (hends : ∀ c ∈ s.conns, EndOk g (oids s) s.pins c.src → EndOk g (oids s) s.pins c.dst →
      EndOk g (oids s) s.pins (f c).src ∧ EndOk g (oids s) s.pins (f c).dst)
    (ho : oids t = oids s) (hc : t.conns = s.conns.map f) (hp : t.pins = s.pins)
    (hcr : t.created = s.created) (hf : t.freed = s.freed)
    (hk : t.clusters = s.clusters := by rfl) : Core g t := by
  refine core_same h ho ?_ hp hcr hf ?_ hk
  · simp only [cids, hc, List.map_map]
    exact List.map_congr_left (fun c _ => hid c)
  · intro c hcm
    rw [hc, List.mem_map] at hcm
    obtain ⟨c0, hc0, rfl⟩ := hcm
    exact hends c0 hc0 (h.endsOk c0 hc0).1 (h.endsOk c0 hc0).2

theorem fresh_of_contains {s : St} {x : Id} (h : (!s.created.contains x) = true) : x ∉ s.created := by
  simpa using h

theorem oids_addObst (s : St) (i : Id) (j a : Bool) : oids (s.addObst i j a) = oids s ++ [i] := by
  simp [oids, St.addObst]

theorem core_addObst {g : List Id} {s : St} (h : Core g s) {id : Id} (j a : Bool) (hx : id ∉ s.created) :
    Core g (s.addObst id j a) := by
  obtain ⟨h1, h2, h3, h4⟩ := h
  have grow : ∀ o ∈ oids s, o ∈ oids (s.addObst id j a) := fun o ho => by
    rw [oids_addObst]; exact List.mem_append_left _ ho
  refine ⟨?_, fun c hc => ?_, fun p hp => grow _ (h3 p hp), h4⟩
  · exact h1.move (N := [id]) (D := []) rfl (List.append_nil _).symm (List.pairwise_singleton _ _) (by simpa using hx)
      fun x => by simp only [St.addObst, oids, cids, pids, kids, List.map_append, List.map_cons, List.map_nil,
        List.count_append, List.count_nil]; omega
  · exact ⟨(h2 c hc).1.mono (fun _ _ => grow _) (fun _ _ _ hp => hp),
      (h2 c hc).2.mono (fun _ _ => grow _) (fun _ _ _ hp => hp)⟩

theorem core_addConn {g : List Id} {s : St} (h : Core g s) {id : Id} (a : Bool) (hx : id ∉ s.created) :
    Core g (s.addConn id a) := by
  obtain ⟨h1, h2, h3, h4⟩ := h
  refine ⟨?_, ?_, ?_, h4⟩
  · exact h1.move (N := [id]) (D := []) rfl (List.append_nil _).symm (List.pairwise_singleton _ _) (by simpa using hx)
      fun x => by simp only [St.addConn, oids, cids, pids, kids, List.map_append, List.map_cons, List.map_nil,
        List.count_append, List.count_nil]; omega
  · intro c hc
    simp only [St.addConn, List.mem_append, List.mem_singleton] at hc
    rcases hc with hc | hc
    · exact h2 c hc
    · subst hc; exact ⟨EndOk.none, EndOk.none⟩
  · exact h3

theorem core_addPin {g : List Id} {s : St} (h : Core g s) {pin owner : Id} (cls : Nat)
    (hx : pin ∉ s.created) (ho : owner ∈ oids s) : Core g (s.addPin pin owner cls) := by
  obtain ⟨h1, h2, h3, h4⟩ := h
  have keep : ∀ (a p : Id), (p ∈ g ∨ ∃ q ∈ s.pins, q.id = p ∧ q.owner = a) →
      (p ∈ g ∨ ∃ q ∈ (s.addPin pin owner cls).pins, q.id = p ∧ q.owner = a) :=
    fun a p hp => hp.imp id (fun ⟨q, hq, e⟩ => ⟨q, List.mem_append_left _ hq, e⟩)
  refine ⟨?_, fun c hc => ⟨(h2 c hc).1.mono (fun _ _ ho => ho) (fun x _ => keep x.anchor),
    (h2 c hc).2.mono (fun _ _ ho => ho) (fun x _ => keep x.anchor)⟩, ?_, h4⟩
  · exact h1.move (N := [pin]) (D := []) rfl (List.append_nil _).symm (List.pairwise_singleton _ _) (by simpa using hx)
      fun x => by simp only [St.addPin, oids, cids, pids, kids, List.map_append, List.map_cons, List.map_nil,
        List.count_append, List.count_nil]; omega
  · intro p hp
    rcases List.mem_append.1 hp with hp | hp
    · exact h3 p hp
    · rw [List.mem_singleton.1 hp]; exact ho

/-- `JunctionRef::JunctionRef`: the obstacle and its implicit pin -/
theorem core_addJunction {g : List Id} {s : St} (h : Core g s) {id pin : Id} (a : Bool)
    (hx : id ∉ s.created) (hp : pin ∉ s.created) (hne : id ≠ pin) :
    Core g ((s.addObst id true a).addPin pin id centreCls) := by
  refine core_addPin (core_addObst h true a hx) _ ?_ ?_
  · intro hh
    rcases List.mem_append.1 hh with hh | hh
    · exact hp hh
    · exact hne (List.mem_singleton.1 hh).symm
  · rw [oids_addObst]; exact List.mem_append_right _ (List.mem_singleton.2 rfl)

theorem kids_setClusterRefs (s : St) (k : Id) (refs : List Id) : kids (s.setClusterRefs k refs) = kids s :=
  Util.map_key_of_map_if Cluster.id _ _ (fun _ => by rfl) _

theorem core_setClusterRefs {g : List Id} {s : St} (h : Core g s) (k : Id) (refs : List Id) :
    Core g (s.setClusterRefs k refs) := by
  obtain ⟨h1, h2, h3, h4⟩ := h
  refine ⟨?_, h2, h3, ?_⟩
  · rw [kids_setClusterRefs]; exact h1
  · intro x hx
    obtain ⟨x0, hx0, rfl⟩ := List.mem_map.1 hx
    split <;> exact h4 x0 hx0

theorem core_addCluster {g : List Id} {s : St} (h : Core g s) {id : Id} (hx : id ∉ s.created)
    (refs : List Id := []) : Core g (s.addCluster id refs) := by
  obtain ⟨h1, h2, h3, h4⟩ := h
  refine ⟨?_, h2, h3, ?_⟩
  · exact h1.move (N := [id]) (D := []) rfl (List.append_nil _).symm (List.pairwise_singleton _ _) (by simpa using hx)
      fun x => by simp only [St.addCluster, oids, cids, pids, kids, List.map_append, List.map_cons, List.map_nil,
        List.count_append, List.count_nil]; omega
  · intro k hk
    simp only [St.addCluster, List.mem_append, List.mem_singleton] at hk
    rcases hk with hk | hk
    · exact h4 k hk
    · subst hk; rfl

theorem cids_freeConn (s : St) (c : Id) : cids (s.freeConn c) = (cids s).filter (· != c) := by
  simp [St.freeConn, St.removeFromQueue, cids, List.filter_map, Function.comp_def]

theorem oids_freeObstacle (s : St) (o : Id) : oids (s.freeObstacle o) = (oids s).filter (· != o) := by
  simp [St.freeObstacle, oids, List.filter_map, Function.comp_def]

theorem kids_freeCluster (s : St) (k : Id) : kids (s.freeCluster k) = (kids s).filter (· != k) := by
  simp [St.freeCluster, kids, List.filter_map, Function.comp_def]

theorem core_freeCluster {g : List Id} {s : St} (h : Core g s) {k : Id} (hk : k ∈ kids s) :
    Core g (s.freeCluster k) := by
  obtain ⟨h1, h2, h3, h4⟩ := h
  refine ⟨?_, h2, h3, ?_⟩
  · refine h1.move (N := []) (D := [k]) (List.append_nil _).symm rfl List.nodup_nil nofun fun x => ?_
    have := count_filter_ne (List.nodup_append.1 h1.nodupG).2.1 hk x
    simp only [St.freeCluster, oids, cids, pids, kids, List.filter_map, Function.comp_def, List.count_append,
      List.count_nil] at this ⊢
    omega
  · intro x hx
    simp only [St.freeCluster, List.mem_filter] at hx
    exact h4 x hx.1

theorem core_freeConn {g : List Id} {s : St} (h : Core g s) {c : Id} (hc : c ∈ cids s) :
    Core g (s.freeConn c) := by
  obtain ⟨h1, h2, h3, h4⟩ := h
  refine ⟨?_, ?_, ?_, h4⟩
  · refine h1.move (N := []) (D := [c]) (List.append_nil _).symm rfl List.nodup_nil nofun fun x => ?_
    have := count_filter_ne h1.nodupC hc x
    simp only [St.freeConn, St.removeFromQueue, oids, cids, pids, kids, List.filter_map, Function.comp_def,
      List.count_append, List.count_nil] at this ⊢
    omega
  · intro x hx
    simp only [St.freeConn, St.removeFromQueue, List.mem_filter] at hx
    exact h2 x hx.1
  · exact h3

theorem EndOk.freeObstacle {g : List Id} {s : St} {e : End} (h : EndOk g (oids s) s.pins e) (o : Id) :
    EndOk g (oids (s.freeObstacle o)) (s.freeObstacle o).pins (detachEnd e o) := by
  unfold detachEnd
  split
  · exact EndOk.none
  · rename_i hon
    have hne : ∀ x, e = some x → x.anchor ≠ o := fun x hx => by subst hx; simpa [endOn] using hon
    refine h.mono (fun x hx ho => ?_) (fun x hx p hp => hp.imp id (fun ⟨q, hq, e1, e2⟩ => ?_))
    · rw [oids_freeObstacle]; exact List.mem_filter.2 ⟨ho, by simpa using hne x hx⟩
    · exact ⟨q, List.mem_filter.2 ⟨hq, by simpa [e2] using hne x hx⟩, e1, e2⟩

theorem core_freeObstacle {g : List Id} {s : St} (h : Core g s) {o : Id} (ho : o ∈ oids s) :
    Core g (s.freeObstacle o) := by
  obtain ⟨h1, h2, h3, h4⟩ := h
  refine ⟨h1.move (N := []) (D := o :: (s.pinsOf o).map (·.id)) (List.append_nil _).symm rfl List.nodup_nil nofun
    fun x => ?_, ?_, ?_, h4⟩
  · -- the obstacle leaves the first list, its pins (`pinsOf o` and the others split `s.pins`) the third
    have hO := count_filter_ne h1.nodupO ho x
    have hP := List.perm_iff_count.1 ((List.filter_append_perm (fun p : Pin => p.owner == o) s.pins).map (·.id)) x
    simp only [St.freeObstacle, St.pinsOf, oids, cids, pids, kids, detachAnchor, List.filter_map, List.map_map,
      Function.comp_def, List.map_append, List.count_append, List.count_cons, List.count_nil, bne] at hO hP ⊢
    omega
  · intro c hc
    obtain ⟨c0, hc0, rfl⟩ := List.mem_map.1 hc
    exact ⟨(h2 c0 hc0).1.freeObstacle o, (h2 c0 hc0).2.freeObstacle o⟩
  · intro p hp
    obtain ⟨hp, hpo⟩ := List.mem_filter.1 hp
    rw [oids_freeObstacle]
    exact List.mem_filter.2 ⟨h3 p hp, hpo⟩

theorem core_unlinkPin {g : List Id} {s : St} (h : Core g s) {p : Id} (hp : p ∈ pids s) :
    Core (p :: g) (s.unlinkPin p) := by
  obtain ⟨h1, h2, h3, h4⟩ := h
  have keep : ∀ (a p' : Id), (p' ∈ g ∨ ∃ q ∈ s.pins, q.id = p' ∧ q.owner = a) →
      (p' ∈ p :: g ∨ ∃ q ∈ (s.unlinkPin p).pins, q.id = p' ∧ q.owner = a) := by
    rintro a p' (hg | ⟨q, hq, e1, e2⟩)
    · exact Or.inl (List.mem_cons_of_mem _ hg)
    · by_cases hqp : q.id = p
      · exact Or.inl (by rw [← e1, hqp]; exact List.mem_cons_self)
      · exact Or.inr ⟨q, List.mem_filter.2 ⟨hq, by simpa using hqp⟩, e1, e2⟩
  refine ⟨?_, fun c hc => ⟨(h2 c hc).1.mono (fun _ _ ho => ho) (fun x _ => keep x.anchor),
    (h2 c hc).2.mono (fun _ _ ho => ho) (fun x _ => keep x.anchor)⟩,
    fun q hq => h3 q (List.mem_filter.1 hq).1, h4⟩
  · refine h1.move (N := []) (D := []) (List.append_nil _).symm (List.append_nil _).symm List.nodup_nil nofun fun x => ?_
    have := count_filter_ne h1.nodupP hp x
    simp only [St.unlinkPin, oids, cids, pids, kids, List.filter_map, Function.comp_def, List.count_append,
      List.count_cons, List.count_nil] at this ⊢
    omega

theorem EndOk.unpin {g O : List Id} {P : List Pin} {p : Id} {e : End} (h : EndOk (p :: g) O P e) :
    EndOk g O P (unpinEnd e p) := by
  unfold unpinEnd
  split
  · rename_i x
    split
    · intro y hy
      cases hy
      exact ⟨(h x rfl).1, fun p' hp' => by cases hp'⟩
    · rename_i hpin
      intro y hy
      refine ⟨(h y hy).1, fun p' hp' => ?_⟩
      rcases (h y hy).2 p' hp' with hg | hq
      · rcases List.mem_cons.1 hg with e | hg
        · cases hy; exact absurd (by simp [hp', e]) hpin
        · exact Or.inl hg
      · exact Or.inr hq
  · exact EndOk.none

theorem core_releasePin {g : List Id} {s : St} {p : Id} (h : Core (p :: g) s) :
    Core g (s.releasePin p) := by
  obtain ⟨h1, h2, h3, h4⟩ := h
  refine ⟨?_, ?_, h3, h4⟩
  · exact h1.move (N := []) (D := [p]) (List.append_nil _).symm rfl List.nodup_nil nofun fun x => by
      simp only [St.releasePin, oids, cids, pids, kids, unpin, List.map_map, Function.comp_def, List.count_append,
        List.count_cons, List.count_nil]; omega
  · intro c hc
    obtain ⟨c0, hc0, rfl⟩ := List.mem_map.1 hc
    exact ⟨(h2 c0 hc0).1.unpin, (h2 c0 hc0).2.unpin⟩

theorem core_addFault {g : List Id} {s : St} (h : Core g s) (f : Fault) : Core g (s.addFault f) :=
  core_congr h rfl rfl rfl rfl rfl

theorem core_setActions {g : List Id} {s : St} (h : Core g s) (acts : List Action) :
    Core g { s with actions := acts } := core_congr h rfl rfl rfl rfl rfl

theorem EndOk.detach {g O P} {e : End} (h : EndOk g O P e) (o : Id) : EndOk g O P (detachEnd e o) := by
  unfold detachEnd; split
  · exact EndOk.none
  · exact h

/-- the first loop of `processActions` for one entry: a use-after-free fault, `delete obstacle` (its pins queue
    their ConnectionPinChange), `makeInactive` with the refresh of the attached ends, or nothing -/
theorem procRemoveMove_cases {P : St → Prop} (t : St) (a : Action)
    (fault : (isRemove a.type = true ∨ isMove a.type = true) → t.hasObst a.obj = false →
      P (t.addFault (.useAfterFree a.obj)))
    (remove : isRemove a.type = true → t.hasObst a.obj = true →
      P { t.freeObstacle a.obj with
          actions := t.actions ++ (t.pinsOf a.obj).map (fun p => ({ type := .pinChange, obj := p.id } : Action)) })
    (move : isRemove a.type = false → isMove a.type = true → t.hasObst a.obj = true →
      P { t with
          actions := (followers t.conns a.obj).foldl (fun acts f => modifyConn acts f.1 f.2.1 (some f.2.2) true) t.actions
          conns := detachAnchor t.conns a.obj
          obst := t.obst.map (fun x => if x.id == a.obj then { x with active := false } else x) })
    (other : P t) : P (procRemoveMove t a) := by
  unfold procRemoveMove
  split
  · rename_i hr
    split
    · rename_i ho; exact fault (Or.inl hr) (by simpa using ho)
    · rename_i ho; exact remove hr (by simpa using ho)
  · rename_i hr
    split
    · rename_i hm
      split
      · rename_i ho; exact fault (Or.inr hm) (by simpa using ho)
      · rename_i ho; exact move (by simpa using hr) hm (by simpa using ho)
    · exact other

theorem oids_mapActive (t : St) (o : Id) (b : Bool) :
    (t.obst.map (fun x => if x.id == o then { x with active := b } else x)).map (·.id) = oids t :=
  Util.map_key_of_map_if Obst.id _ _ (fun _ => by rfl) _

theorem core_procRemoveMove {g : List Id} {s : St} (h : Core g s) (a : Action) :
    Core g (procRemoveMove s a) :=
  procRemoveMove_cases s a (fun _ _ => core_addFault h _)
    (fun _ ho => core_congr (core_freeObstacle h (hasObst_iff.1 ho)) rfl rfl rfl rfl rfl)
    (fun _ _ _ => core_mapConns h (fun c => { c with src := detachEnd c.src a.obj, dst := detachEnd c.dst a.obj })
      (fun _ => rfl) (fun c _ h1 h2 => ⟨h1.detach _, h2.detach _⟩) (oids_mapActive s a.obj false) rfl rfl rfl rfl)
    h

theorem core_procAddMove {g : List Id} {s : St} (h : Core g s) (a : Action) :
    Core g (procAddMove s a) := by
  unfold procAddMove
  split
  · split
    · exact core_addFault h _
    · exact core_mapConns h id (fun _ => rfl) (fun c _ h1 h2 => ⟨h1, h2⟩) (oids_mapActive s a.obj true)
        (List.map_id _).symm rfl rfl rfl
  · exact h

theorem endOk_setEnd {g O P} {c : Conn} {e : End} (isDst : Bool) (h1 : EndOk g O P c.src)
    (h2 : EndOk g O P c.dst) (he : EndOk g O P e) :
    EndOk g O P (setEnd c isDst e).src ∧ EndOk g O P (setEnd c isDst e).dst := by
  unfold setEnd; split
  · exact ⟨h1, he⟩
  · exact ⟨he, h2⟩

theorem setEnd_id (c : Conn) (isDst : Bool) (e : End) : (setEnd c isDst e).id = c.id := by
  unfold setEnd; split <;> rfl

theorem core_setEnd {g : List Id} {s : St} (h : Core g s) (c : Id) (d : Bool) {e : End}
    (he : EndOk g (oids s) s.pins e) :
    Core g { s with conns := s.conns.map (fun x => if x.id == c then setEnd x d e else x) } := by
  refine core_mapConns h (fun x => if x.id == c then setEnd x d e else x) ?_ ?_ rfl rfl rfl rfl rfl
  · intro x; split
    · exact setEnd_id ..
    · rfl
  · intro x _ h1 h2; split
    · exact endOk_setEnd _ h1 h2 he
    · exact ⟨h1, h2⟩

theorem core_applyEnd {g : List Id} {s : St} (h : Core g s) (c : Id) (u : Bool × EndSpec) :
    Core g (applyEnd s c u) := by
  unfold applyEnd
  split
  · exact core_setEnd h c u.1 EndOk.none
  · rename_i an _
    split
    · exact core_addFault h _
    · rename_i hob
      refine core_setEnd h c u.1 (fun y hy => ?_)
      cases hy
      exact ⟨hasObst_iff.1 (by simpa using hob), fun p hp => by cases hp⟩

theorem core_procConnChange {g : List Id} {s : St} (h : Core g s) (a : Action) :
    Core g (procConnChange s a) := by
  unfold procConnChange
  split
  · split
    · exact core_addFault h _
    · exact List.foldlRecOn (motive := Core g) _ _ h fun s hs u _ => core_applyEnd hs a.obj u
  · exact h

theorem EndOk.assign {g O} {P : List Pin} {e : End} (h : EndOk g O P e) : EndOk g O P (assignPinEnd P e) := by
  unfold assignPinEnd
  split
  · split
    · exact h
    · rename_i x _ hpin
      intro y hy; cases hy
      refine ⟨(h x rfl).1, ?_⟩
      intro p hp
      right
      simp only [Option.map_eq_some_iff] at hp
      obtain ⟨q, hq, rfl⟩ := hp
      refine ⟨q, List.mem_of_find?_eq_some hq, rfl, ?_⟩
      have := List.find?_some hq
      simp only [Bool.and_eq_true, beq_iff_eq] at this
      exact this.1
  · exact EndOk.none

theorem core_reroute {g : List Id} {s : St} (h : Core g s) : Core g (reroute s) := by
  unfold reroute
  refine core_mapConns h _ ?_ ?_ rfl rfl rfl rfl rfl
  · intro c; split <;> rfl
  · intro c _ h1 h2; split
    · exact ⟨h1.assign, h2.assign⟩
    · exact ⟨h1, h2⟩

theorem core_processActions {g : List Id} {s : St} (h : Core g s) : Core g s.processActions := by
  unfold St.processActions
  have h1 := List.foldlRecOn (motive := Core g) s.actions procRemoveMove h fun s hs a _ => core_procRemoveMove hs a
  have h2 := List.foldlRecOn (motive := Core g) s.actions procAddMove h1 fun s hs a _ => core_procAddMove hs a
  have h3 := List.foldlRecOn (motive := Core g)
    (s.actions.foldl procAddMove (s.actions.foldl procRemoveMove s)).actions procConnChange h2
    fun s hs a _ => core_procConnChange hs a
  exact core_setActions h3 _

theorem core_processTransaction {g : List Id} {s : St} (h : Core g s) : Core g s.processTransaction := by
  unfold St.processTransaction
  split
  · exact h
  · exact core_congr (core_reroute (core_processActions h)) rfl rfl rfl rfl rfl

theorem core_enqueue {g : List Id} {s : St} (h : Core g s) (t : AType) (o : Id) : Core g (s.enqueue t o) := by
  unfold St.enqueue; split
  · exact h
  · exact core_setActions h _

theorem core_dropAction {g : List Id} {s : St} (h : Core g s) (t : AType) (o : Id) :
    Core g (s.dropAction t o) := core_setActions h _

theorem core_removeFromQueue {g : List Id} {s : St} (h : Core g s) (o : Id) :
    Core g (s.removeFromQueue o) := core_setActions h _

theorem core_modify {g : List Id} {s : St} (h : Core g s) (c : Id) (d : Bool) (e : EndSpec) :
    Core g (s.modify c d e) := core_setActions h _

theorem core_closeRouter {g : List Id} {s : St} (h : Core g s) : Core g s.closeRouter :=
  core_congr h rfl rfl rfl rfl rfl

theorem core_setCheckpoints {g : List Id} {s : St} (h : Core g s) (c : Id) (vs : List Id) :
    Core g (s.setCheckpoints c vs) := by
  refine core_mapConns h (fun x => if x.id == c then { x with cps := vs } else x) ?_ ?_ rfl rfl rfl rfl rfl
  · intro x; split <;> rfl
  · intro x _ h1 h2; split <;> exact ⟨h1, h2⟩

/-- `~Router`: an operation that frees member `k` of a duplicate-free id list `K`, folded over some of the members -/
theorem foldl_free_inv {α : Type} (P : St → Prop) (K : St → List Id) (f : St → Id → St) (key : α → Id)
    (hP : ∀ s k, P s → k ∈ K s → P (f s k)) (hK : ∀ s k, K (f s k) = (K s).filter (· != k))
    {s : St} (h : P s) (hn : (K s).Nodup) (l : List α) (hl : (l.map key).Sublist (K s)) :
    P (l.foldl (fun s x => f s (key x)) s) := by
  induction l generalizing s with
  | nil => exact h
  | cons a l ih =>
    have hnd := hl.nodup hn
    rw [List.map_cons, List.nodup_cons] at hnd
    have hrest : (l.map key).Sublist (K (f s (key a))) := by
      have hself : (l.map key).filter (· != key a) = l.map key :=
        List.filter_eq_self.2 (fun x hx => by simpa using fun (e : x = key a) => hnd.1 (e ▸ hx))
      rw [hK, ← hself]
      exact ((List.sublist_cons_self _ _).trans hl).filter _
    exact ih (hP s _ h (hl.subset List.mem_cons_self)) (by rw [hK]; exact hn.filter _) hrest

theorem foldl_free_all {α : Type} (K : St → List Id) (f : St → Id → St) (key : α → Id)
    (hK : ∀ s k, K (f s k) = (K s).filter (· != k)) (l : List α) (s : St)
    (hl : ∀ k ∈ K s, k ∈ l.map key) : K (l.foldl (fun s x => f s (key x)) s) = [] := by
  induction l generalizing s with
  | nil => exact List.eq_nil_iff_forall_not_mem.2 (fun k hk => by cases hl k hk)
  | cons a l ih =>
    refine ih _ (fun k hk => ?_)
    rw [hK, List.mem_filter] at hk
    rcases List.mem_cons.1 (hl k hk.1) with e | h
    · exact absurd e (by simpa using hk.2)
    · exact h

theorem core_freeConns {g : List Id} {s : St} (h : Core g s) (l : List Conn) (hl : l.Sublist s.conns) :
    Core g (l.foldl (fun s c => s.freeConn c.id) s) :=
  foldl_free_inv (Core g) cids St.freeConn Conn.id (fun _ _ hs hk => core_freeConn hs hk) cids_freeConn
    h h.ids.nodupC l (hl.map _)

theorem core_freeObsts {g : List Id} {s : St} (h : Core g s) (l : List Obst) (hl : l.Sublist s.obst) :
    Core g (l.foldl (fun s o => s.freeObstacle o.id) s) :=
  foldl_free_inv (Core g) oids St.freeObstacle Obst.id (fun _ _ hs hk => core_freeObstacle hs hk)
    oids_freeObstacle h h.ids.nodupO l (hl.map _)

theorem core_freeClusters {g : List Id} {s : St} (h : Core g s) (l : List Cluster) (hl : l.Sublist s.clusters) :
    Core g (l.foldl (fun s k => s.freeCluster k.id) s) :=
  foldl_free_inv (Core g) kids St.freeCluster Cluster.id (fun _ _ hs hk => core_freeCluster hs hk)
    kids_freeCluster h (List.nodup_append.1 h.ids.nodupG).2.1 l (hl.map _)

/-- `Router::~Router` on a live router: the `deleteRouter` clause of `step` -/
def destroy (s : St) : St :=
  let s := (s.conns.filter (·.active)).foldl (fun s c => s.freeConn c.id) s
  let s := (s.obst.filter (·.active)).foldl (fun s o => s.freeObstacle o.id) s
  let s := (s.clusters.filter (·.active)).foldl (fun s k => s.freeCluster k.id) s
  s.closeRouter

theorem step_deleteRouter {s : St} (hal : s.alive = true) : step s .deleteRouter = destroy s := by
  unfold step; rw [if_neg (by simp [hal])]; rfl

theorem deleteObstacleOp_cases {P : St → Prop} {s : St} {o : Id} {j : Bool}
    (fault : ∀ f, P (s.addFault f))
    (tail : P (((s.dropAction (if j then .junctionMove else .shapeMove) o).enqueue
      (if j then .junctionRemove else .shapeRemove) o).maybeProcess)) :
    P (deleteObstacleOp s o j) := by
  unfold deleteObstacleOp
  cases j <;> simp only [Bool.false_eq_true, ↓reduceIte] at tail ⊢ <;>
  · split
    · exact fault _
    · split
      · exact fault _
      · exact tail

theorem moveObstacleOp_cases {P : St → Prop} {s : St} {o : Id} {j : Bool}
    (fault : ∀ f, P (s.addFault f)) (same : P s)
    (tail : P ((s.enqueue (if j then .junctionMove else .shapeMove) o).maybeProcess)) :
    P (moveObstacleOp s o j) := by
  unfold moveObstacleOp
  cases j <;> simp only [Bool.false_eq_true, ↓reduceIte] at tail ⊢ <;>
  · split
    · exact fault _
    · split
      · exact same
      · exact tail

theorem deleteObstacleOp_ok {s : St} {o : Id} {j : Bool}
    (hhas : (if j then s.hasJunction o else s.hasShape o) = true)
    (hadd : s.hasAction (if j then .junctionAdd else .shapeAdd) o = false) :
    deleteObstacleOp s o j = ((s.dropAction (if j then .junctionMove else .shapeMove) o).enqueue
      (if j then .junctionRemove else .shapeRemove) o).maybeProcess := by
  unfold deleteObstacleOp
  rw [if_neg (by simp [hhas]), if_neg (by simp [hadd])]

theorem deleteObstacleOp_pending {s : St} {o : Id} {j : Bool}
    (hhas : (if j then s.hasJunction o else s.hasShape o) = true)
    (hadd : s.hasAction (if j then .junctionAdd else .shapeAdd) o = true) :
    deleteObstacleOp s o j = s.addFault (.assertPendingAdd o) := by
  unfold deleteObstacleOp
  rw [if_neg (by simp [hhas]), if_pos hadd]

theorem moveObstacleOp_ok {s : St} {o : Id} {j : Bool}
    (hhas : (if j then s.hasJunction o else s.hasShape o) = true) :
    moveObstacleOp s o j = if s.hasAction (if j then .junctionAdd else .shapeAdd) o then s
      else (s.enqueue (if j then .junctionMove else .shapeMove) o).maybeProcess := by
  unfold moveObstacleOp
  rw [if_neg (by simp [hhas])]

theorem alive_of_legalDoc {s : St} {op : Op} (hl : LegalDoc s op = true) : s.alive = true := by
  unfold LegalDoc at hl
  exact (Bool.and_eq_true _ _ ▸ hl).1

theorem legal_legalDoc {s : St} {op : Op} (h : Legal s op = true) : LegalDoc s op = true := by
  unfold Legal at h
  simp only [Bool.and_eq_true] at h
  exact h.1

/-- the precondition of `deletePin` / `touchPin` -/
theorem hasPin_of_legal {s : St} {pin : Id}
    (h : s.pins.any (fun p => p.id == pin && s.hasShape p.owner && !s.pendingRemove p.owner) = true) :
    s.hasPin pin = true := by
  simp only [St.hasPin, List.any_eq_true, Bool.and_eq_true] at h ⊢
  obtain ⟨p, hp, ⟨h1, _⟩, _⟩ := h
  exact ⟨p, hp, h1⟩

theorem legalFrom_mono {L L' : St → Op → Bool} (hL : ∀ s op, L s op = true → L' s op = true) (s : St)
    (ops : List Op) (h : legalFrom L s ops = true) : legalFrom L' s ops = true := by
  induction ops generalizing s with
  | nil => rfl
  | cons op rest ih =>
    simp only [legalFrom, Bool.and_eq_true] at h ⊢
    exact ⟨hL s op h.1, ih _ h.2⟩

theorem legalFrom_induction {L : St → Op → Bool} {P : St → Prop}
    (hstep : ∀ s op, L s op = true → P s → P (step s op)) {s : St} (h : P s) (ops : List Op)
    (hl : legalFrom L s ops = true) : P (ops.foldl step s) := by
  induction ops generalizing s with
  | nil => exact h
  | cons op rest ih =>
    simp only [legalFrom, Bool.and_eq_true] at hl
    exact ih (hstep s op hl.1 h) hl.2

theorem core_liveSetsRefine {s : St} (h : Core [] s) : LiveSetsRefine s := by
  obtain ⟨⟨h1, h2, h3, h4, h5⟩, _, _, _⟩ := h
  refine ⟨?_, h2, ?_⟩
  · simpa [allocated_eq] using h1
  · intro x
    have := h5 x
    simpa [allocated_eq, or_assoc] using this

theorem core_freedOnce {s : St} {g : List Id} (h : Core g s) : FreedOnce s :=
  ⟨h.ids.nodupFreed, h.ids.freedSub⟩

theorem core_connEndsValid {s : St} (h : Core [] s) : ConnEndsValid s := by
  obtain ⟨_, h2, h3, _⟩ := h
  refine ⟨?_, ?_⟩
  · intro c hc
    have := h2 c hc
    simp only [EndOk, EndValid, hasObst_iff, List.not_mem_nil, false_or] at this ⊢
    exact this
  · intro p hp; exact hasObst_iff.2 (h3 p hp)

end AdaptaVerif.Lemmas.Lifecycle
