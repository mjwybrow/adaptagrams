/-
Soundness and completeness of the executable route/rectangle checker `Check/RouteRect.lean`.
-/
import Mathlib.Tactic.Linarith
import Mathlib.Tactic.Ring
import Mathlib.Tactic.FieldSimp
import Mathlib.Tactic.Positivity
import Mathlib.Algebra.Order.Field.Rat
import AdaptaVerif.Check.RouteRect

namespace AdaptaVerif.Lemmas.RouteRect
open AdaptaVerif.Check.RouteRect

theorem axisIv_iff (a0 a1 pa d t : Rat) (h0 : 0 ≤ t) (h1 : t ≤ 1) :
    (a0 < pa + t * d ∧ pa + t * d < a1) ↔
      ((axisIv a0 a1 pa d).1 < t ∧ t < (axisIv a0 a1 pa d).2) := by
  unfold axisIv
  split_ifs with hd hin hpos
  · subst hd
    simp only [mul_zero, add_zero]
    exact ⟨fun _ => ⟨by linarith, by linarith⟩, fun _ => hin⟩
  · subst hd
    simp only [mul_zero, add_zero]
    exact ⟨fun h => absurd h hin, fun h => absurd (h.1.trans h.2) (lt_irrefl _)⟩
  · rw [div_lt_iff₀ hpos, lt_div_iff₀ hpos]
    constructor <;> rintro ⟨h, h'⟩ <;> constructor <;> linarith
  · have hneg : d < 0 := lt_of_le_of_ne (not_lt.mp hpos) hd
    rw [div_lt_iff_of_neg hneg, lt_div_iff_of_neg hneg]
    constructor <;> rintro ⟨h, h'⟩ <;> constructor <;> linarith

theorem strictlyInside_lerp_iff (r : Rect) (p q : P) (t : Rat) (h0 : 0 ≤ t) (h1 : t ≤ 1) :
    StrictlyInside r (lerp p q t) ↔
      (((axisIv r.x0 r.x1 p.x (q.x - p.x)).1 < t ∧ t < (axisIv r.x0 r.x1 p.x (q.x - p.x)).2) ∧
       ((axisIv r.y0 r.y1 p.y (q.y - p.y)).1 < t ∧ t < (axisIv r.y0 r.y1 p.y (q.y - p.y)).2)) := by
  rw [← axisIv_iff _ _ _ _ t h0 h1, ← axisIv_iff _ _ _ _ t h0 h1]
  exact and_assoc.symm

theorem ivMeet_eq_true_iff (ix iy : Rat × Rat) :
    ivMeet ix iy = true ↔
      (ix.1 < ix.2 ∧ ix.1 < iy.2 ∧ iy.1 < ix.2 ∧ iy.1 < iy.2 ∧
        ix.1 < 1 ∧ iy.1 < 1 ∧ 0 < ix.2 ∧ 0 < iy.2) := by
  unfold ivMeet
  simp only [Bool.and_eq_true, decide_eq_true_eq, and_assoc]

/-- 1-D Helly for two open intervals and `[0,1]` -/
theorem ivMeet_iff_exists (ix iy : Rat × Rat) :
    ivMeet ix iy = true ↔
      ∃ t : Rat, 0 ≤ t ∧ t ≤ 1 ∧ (ix.1 < t ∧ t < ix.2) ∧ (iy.1 < t ∧ t < iy.2) := by
  rw [ivMeet_eq_true_iff]
  constructor
  · rintro ⟨h1, h2, h3, h4, h5, h6, h7, h8⟩
    -- any point strictly between the largest lower and the smallest upper bound
    obtain ⟨L, U, hLU, a1, a2, a3, b1, b2, b3⟩ : ∃ L U : Rat, L < U ∧ ix.1 ≤ L ∧ iy.1 ≤ L ∧ 0 ≤ L ∧
        U ≤ ix.2 ∧ U ≤ iy.2 ∧ U ≤ 1 :=
      ⟨max (max ix.1 iy.1) 0, min (min ix.2 iy.2) 1,
        max_lt (max_lt (lt_min (lt_min h1 h2) h5) (lt_min (lt_min h3 h4) h6)) (lt_min (lt_min h7 h8) zero_lt_one),
        le_max_of_le_left (le_max_left _ _), le_max_of_le_left (le_max_right _ _), le_max_right _ _,
        min_le_of_left_le (min_le_left _ _), min_le_of_left_le (min_le_right _ _), min_le_right _ _⟩
    exact ⟨(L + U) / 2, by linarith, by linarith, ⟨by linarith, by linarith⟩, ⟨by linarith, by linarith⟩⟩
  · rintro ⟨t, h0, h1, ⟨a, b⟩, ⟨c, d⟩⟩
    exact ⟨by linarith, by linarith, by linarith, by linarith,
      by linarith, by linarith, by linarith, by linarith⟩

theorem segHitsOpenRect_iff (r : Rect) (p q : P) :
    segHitsOpenRect r p q = true ↔
      ∃ t : Rat, 0 ≤ t ∧ t ≤ 1 ∧ StrictlyInside r (lerp p q t) := by
  unfold segHitsOpenRect
  rw [ivMeet_iff_exists]
  exact exists_congr fun t => and_congr_right fun h0 => and_congr_right fun h1 =>
    (strictlyInside_lerp_iff r p q t h0 h1).symm

theorem segHitsOpenRect_sound (r : Rect) (p q : P) :
    segHitsOpenRect r p q = false →
      ∀ t : Rat, 0 ≤ t → t ≤ 1 → ¬ StrictlyInside r (lerp p q t) := by
  intro hf t h0 h1 hin
  exact Bool.false_ne_true (hf ▸ (segHitsOpenRect_iff r p q).mpr ⟨t, h0, h1, hin⟩)

theorem segHitsOpenRect_complete (r : Rect) (p q : P) :
    segHitsOpenRect r p q = true →
      ∃ t : Rat, 0 ≤ t ∧ t ≤ 1 ∧ StrictlyInside r (lerp p q t) :=
  (segHitsOpenRect_iff r p q).mp

theorem legsOk_sound (rects : List Rect) (route : List P) (h : legsOk rects route = true) :
    ∀ (i : Nat) (hi : i + 1 < route.length), ∀ r ∈ rects, ∀ t : Rat, 0 ≤ t → t ≤ 1 →
      ¬ StrictlyInside r (lerp (route[i]'(Nat.lt_of_succ_lt hi)) (route[i + 1]'hi) t) := by
  induction route with
  | nil => intro i hi; exact absurd hi (Nat.not_lt_zero _)
  | cons a rest ih =>
    cases rest with
    | nil => intro i hi; exact absurd hi (by simp)
    | cons b rest =>
      rw [legsOk, Bool.and_eq_true, List.all_eq_true] at h
      obtain ⟨hab, hrest⟩ := h
      intro i hi r hr t h0 h1
      cases i with
      | zero =>
        have hf : segHitsOpenRect r a b = false := by
          have := hab r hr
          simpa using this
        exact segHitsOpenRect_sound r a b hf t h0 h1
      | succ j =>
        have hj : j + 1 < (b :: rest).length := by
          simpa [List.length_cons] using hi
        exact ih hrest j hj r hr t h0 h1

-- crossing the unit square's interior
example : segHitsOpenRect ⟨0, 0, 1, 1⟩ ⟨-1, 1/2⟩ ⟨2, 1/2⟩ = true := by
  decide +kernel
-- sliding along the boundary (closed edge, not strictly inside)
example : segHitsOpenRect ⟨0, 0, 1, 1⟩ ⟨-1, 0⟩ ⟨2, 0⟩ = false := by
  decide +kernel
-- touching only a corner on the diagonal
example : segHitsOpenRect ⟨0, 0, 1, 1⟩ ⟨-1, 1⟩ ⟨1, -1⟩ = false := by
  decide +kernel
-- degenerate segment (p = q) inside / on the boundary
example : segHitsOpenRect ⟨0, 0, 1, 1⟩ ⟨1/2, 1/2⟩ ⟨1/2, 1/2⟩ = true := by
  decide +kernel
example : segHitsOpenRect ⟨0, 0, 1, 1⟩ ⟨1, 1/2⟩ ⟨1, 1/2⟩ = false := by
  decide +kernel
-- segment ends before reaching the rectangle
example : segHitsOpenRect ⟨0, 0, 1, 1⟩ ⟨-3, 1/2⟩ ⟨-1, 1/2⟩ = false := by
  decide +kernel
-- empty (inverted) rectangle is never hit
example : segHitsOpenRect ⟨1, 0, 0, 1⟩ ⟨-1, 1/2⟩ ⟨2, 1/2⟩ = false := by
  decide +kernel
-- a route around the square, and one through it
example : routeValidRect [⟨0, 0, 1, 1⟩] ⟨-1, 0⟩ ⟨2, 1⟩ [⟨-1, 0⟩, ⟨1, 0⟩, ⟨1, 1⟩, ⟨2, 1⟩] = true := by
  decide +kernel
example : routeValidRect [⟨0, 0, 1, 1⟩] ⟨-1, 0⟩ ⟨2, 1⟩ [⟨-1, 0⟩, ⟨2, 1⟩] = false := by
  decide +kernel

end AdaptaVerif.Lemmas.RouteRect
