/-
`buildUniqueBendPoints` / `buildSegments` of `Model.Planarise` on separated inputs: the finder returns exactly the bend
node already stored at a point, one bend node per distinct interior route point, and the route segments satisfy `GoodA`
(`sepInput_goodA`).
-/
import AdaptaVerif.Lemmas.PlanariseOverlap
namespace AdaptaVerif.Lemmas.Planarise
open AdaptaVerif.Model.Planarise

/-- the family of coordinates of an input: every two equal or more than 1 apart -/
def CoordsApart (pts : List Pt) : Prop :=
  (∀ a ∈ pts, ∀ b ∈ pts, Apart a.x b.x) ∧ (∀ a ∈ pts, ∀ b ∈ pts, Apart a.y b.y)

theorem near_iff_eq {q s : Pt} (hx : Apart q.x s.x) (hy : Apart q.y s.y) :
    (decide (absR (q.x - s.x) < tolBend) && decide (absR (q.y - s.y) < tolBend)) = true ↔ s = q := by
  unfold tolBend
  simp only [Bool.and_eq_true, decide_eq_true_eq]
  constructor
  · rintro ⟨h1, h2⟩
    have e1 := hx.eq_of_near (Std.lt_trans h1 (by decide +kernel))
    have e2 := hy.eq_of_near (Std.lt_trans h2 (by decide +kernel))
    rw [pt_eta s, pt_eta q, e1, e2]
  · rintro rfl
    rw [absR_self, absR_self]; exact ⟨by decide +kernel, by decide +kernel⟩

theorem pickFirst_some (best : Option Node) (s : Node) :
    ∃ x, pickFirst best s = some x ∧ (x = s ∨ best = some x) := by
  cases best with
  | none => exact ⟨s, rfl, Or.inl rfl⟩
  | some b =>
    simp only [pickFirst]
    split
    · exact ⟨s, rfl, Or.inl rfl⟩
    · exact ⟨b, rfl, Or.inr rfl⟩

theorem pick_fold (l : List Node) : ∀ (best : Option Node),
    (l.foldl pickFirst best) = best ∧ l = [] ∨
    ∃ x, (l.foldl pickFirst best) = some x ∧ (x ∈ l ∨ best = some x) := by
  induction l with
  | nil => intro best; exact Or.inl ⟨rfl, rfl⟩
  | cons s r ih =>
    intro best
    right
    obtain ⟨y, hy, hys⟩ := pickFirst_some best s
    have hy' : y ∈ s :: r ∨ best = some y := hys.imp (fun h => by simp [h]) id
    simp only [List.foldl_cons, hy]
    rcases ih (some y) with ⟨h, _⟩ | ⟨x, h1, h2⟩
    · exact ⟨y, h, hy'⟩
    · refine ⟨x, h1, ?_⟩
      rcases h2 with h | h
      · exact Or.inl (List.mem_cons_of_mem _ h)
      · cases h; exact hy'

theorem findNear_spec {store : List Node} {q : Pt}
    (hap : ∀ s ∈ store, Apart q.x s.p.x ∧ Apart q.y s.p.y)
    (huniq : ∀ a ∈ store, ∀ b ∈ store, a.p = b.p → a = b) :
    (∀ b ∈ store, b.p = q → findNear tolBend store q = some b) ∧
    ((∀ b ∈ store, b.p ≠ q) → findNear tolBend store q = none) := by
  unfold findNear
  generalize hF : store.filter _ = F
  have hfilter : ∀ s, s ∈ F ↔ s ∈ store ∧ s.p = q := by
    intro s
    rw [← hF, List.mem_filter]
    exact and_congr_right (fun h1 => near_iff_eq (hap s h1).1 (hap s h1).2)
  constructor
  · intro b hb hbq
    rcases pick_fold F none with ⟨_, h⟩ | ⟨x, h1, h2⟩
    · have := (hfilter b).2 ⟨hb, hbq⟩; rw [h] at this; simp at this
    · rw [h1]
      rcases h2 with h | h
      · obtain ⟨hx1, hx2⟩ := (hfilter x).1 h
        rw [huniq x hx1 b hb (by rw [hx2, hbq])]
      · cases h
  · intro hnone
    have : F = [] := by
      rw [List.eq_nil_iff_forall_not_mem]
      intro s hs
      obtain ⟨h1, h2⟩ := (hfilter s).1 hs
      exact hnone s h1 h2
    rw [this]; rfl

/-- the finder's store: fresh distinct ids, distinct positions, all positions interior route points -/
structure StoreOK (F : Nat) (IP : List Pt) (st : BendState) : Prop where
  ge : ∀ b ∈ st.store, F ≤ b.id ∧ b.id < st.nextId
  uniqP : ∀ a ∈ st.store, ∀ b ∈ st.store, a.p = b.p → a = b
  uniqI : ∀ a ∈ st.store, ∀ b ∈ st.store, a.id = b.id → a = b
  inIP : ∀ b ∈ st.store, b.p ∈ IP

theorem bendsOfRoute_spec {F : Nat} {IP : List Pt} (hIP : CoordsApart IP) :
    ∀ (pts : List Pt) (st : BendState), StoreOK F IP st → F ≤ st.nextId → (∀ q ∈ pts, q ∈ IP) →
      StoreOK F IP (bendsOfRoute st pts).1 ∧ ((bendsOfRoute st pts).2.map (·.p) = pts) ∧
      (∀ b ∈ (bendsOfRoute st pts).2, b ∈ (bendsOfRoute st pts).1.store) ∧
      (∀ b ∈ st.store, b ∈ (bendsOfRoute st pts).1.store) ∧ F ≤ (bendsOfRoute st pts).1.nextId := by
  intro pts
  induction pts with
  | nil => intro st hS hF _; simp [bendsOfRoute]; exact ⟨hS, hF⟩
  | cons q rest ih =>
    intro st hS hF hq
    have hqIP : q ∈ IP := hq q (by simp)
    have hap : ∀ s ∈ st.store, Apart q.x s.p.x ∧ Apart q.y s.p.y :=
      fun s hs => ⟨hIP.1 q hqIP _ (hS.inIP s hs), hIP.2 q hqIP _ (hS.inIP s hs)⟩
    obtain ⟨f1, f2⟩ := findNear_spec hap hS.uniqP
    cases hfn : findNear tolBend st.store q with
    | some b =>
      have hb : b ∈ st.store ∧ b.p = q := by
        by_cases hex : ∃ b' ∈ st.store, b'.p = q
        · obtain ⟨b', hb', hbq⟩ := hex
          have := f1 b' hb' hbq; rw [hfn] at this; cases this; exact ⟨hb', hbq⟩
        · have := f2 (fun b' hb' h => hex ⟨b', hb', h⟩); rw [hfn] at this; cases this
      obtain ⟨i1, i2, i3, i4, i5⟩ := ih st hS hF (fun x hx => hq x (by simp [hx]))
      simp only [bendsOfRoute, hfn]
      refine ⟨i1, by simp [i2, hb.2], ?_, i4, i5⟩
      intro x hx
      rcases List.mem_cons.1 hx with rfl | hx
      · exact i4 _ hb.1
      · exact i3 x hx
    | none =>
      have hno : ∀ b ∈ st.store, b.p ≠ q := by
        intro b hb hbq
        have := f1 b hb hbq; rw [hfn] at this; cases this
      have hS' : StoreOK F IP { store := st.store ++ [⟨st.nextId, q⟩], nextId := st.nextId + 1 } := by
        refine ⟨?_, ?_, ?_, ?_⟩
        · intro b hb
          simp only [List.mem_append, List.mem_singleton] at hb
          rcases hb with hb | rfl
          · have := hS.ge b hb; exact ⟨this.1, by simp only; omega⟩
          · exact ⟨hF, by simp⟩
        · intro a ha b hb hab
          simp only [List.mem_append, List.mem_singleton] at ha hb
          rcases ha with ha | rfl <;> rcases hb with hb | rfl
          · exact hS.uniqP a ha b hb hab
          · exact absurd hab (hno a ha)
          · exact absurd hab.symm (hno b hb)
          · rfl
        · intro a ha b hb hab
          simp only [List.mem_append, List.mem_singleton] at ha hb
          rcases ha with ha | rfl <;> rcases hb with hb | rfl
          · exact hS.uniqI a ha b hb hab
          · have := (hS.ge a ha).2; simp only at hab; omega
          · have := (hS.ge b hb).2; simp only at hab; omega
          · rfl
        · intro b hb
          simp only [List.mem_append, List.mem_singleton] at hb
          rcases hb with hb | rfl
          · exact hS.inIP b hb
          · exact hqIP
      obtain ⟨i1, i2, i3, i4, i5⟩ := ih _ hS' (by simp only; omega) (fun x hx => hq x (by simp [hx]))
      simp only [bendsOfRoute, hfn]
      refine ⟨i1, by simp [i2], ?_, fun b hb => i4 b (by simp [hb]), i5⟩
      intro x hx
      rcases List.mem_cons.1 hx with rfl | hx
      · exact i4 _ (by simp)
      · exact i3 x hx

inductive Paired (P : EdgeIn → List Node → Prop) : List EdgeIn → List (List Node) → Prop
  | nil : Paired P [] []
  | cons {e bs es bss} : P e bs → Paired P es bss → Paired P (e :: es) (bs :: bss)

theorem uniqueBends_spec {F : Nat} {IP : List Pt} (hIP : CoordsApart IP) :
    ∀ (edges : List EdgeIn) (st : BendState), StoreOK F IP st → F ≤ st.nextId →
      (∀ e ∈ edges, ∀ q ∈ interior e.route, q ∈ IP) →
      StoreOK F IP (uniqueBends st edges).1 ∧
      Paired (fun e bs => bs.map (·.p) = interior e.route ∧ ∀ b ∈ bs, b ∈ (uniqueBends st edges).1.store)
        edges (uniqueBends st edges).2 ∧
      (∀ b ∈ st.store, b ∈ (uniqueBends st edges).1.store) := by
  intro edges
  induction edges with
  | nil => intro st hS _ _; simp only [uniqueBends]; exact ⟨hS, Paired.nil, fun b hb => hb⟩
  | cons e es ih =>
    intro st hS hF hq
    obtain ⟨b1, b2, b3, b4, b5⟩ := bendsOfRoute_spec hIP (interior e.route) st hS hF (hq e (by simp))
    obtain ⟨i1, i2, i3⟩ := ih _ b1 b5 (fun e' he' => hq e' (by simp [he']))
    simp only [uniqueBends]
    refine ⟨i1, Paired.cons ⟨b2, fun b hb => i3 b (b3 b hb)⟩ i2, fun b hb => i3 b (b4 b hb)⟩

def ptPairs : List Pt → List (Pt × Pt)
  | a :: b :: rest => (a, b) :: ptPairs (b :: rest)
  | _ => []

/-- orthogonally routed input with separated coordinates -/
structure SepInput (inp : Input) : Prop where
  nodesP : ∀ a ∈ inp.nodes, ∀ b ∈ inp.nodes, a.p = b.p → a = b
  nodesI : ∀ a ∈ inp.nodes, ∀ b ∈ inp.nodes, a.id = b.id → a = b
  ends : ∀ e ∈ inp.edges, e.src ∈ inp.nodes ∧ e.tgt ∈ inp.nodes ∧ e.route = e.src.p :: interior e.route ++ [e.tgt.p]
  ortho : ∀ e ∈ inp.edges, ∀ pq ∈ ptPairs e.route,
    (pq.1.x = pq.2.x ∧ pq.1.y ≠ pq.2.y) ∨ (pq.1.y = pq.2.y ∧ pq.1.x ≠ pq.2.x)
  apart : CoordsApart (inp.nodes.map (·.p) ++ inp.edges.flatMap (·.route))
  avoid : ∀ e ∈ inp.edges, ∀ q ∈ interior e.route, ∀ n ∈ inp.nodes, n.p ≠ q

theorem firstFreeId_gt_aux : ∀ (ns : List Node) (m : Nat),
    m ≤ ns.foldl (fun m n => max m (n.id + 1)) m ∧ ∀ n ∈ ns, n.id < ns.foldl (fun m n => max m (n.id + 1)) m
  | [], m => by simp
  | x :: r, m => by
    simp only [List.foldl_cons]
    obtain ⟨h1, h2⟩ := firstFreeId_gt_aux r (max m (x.id + 1))
    refine ⟨by omega, ?_⟩
    intro n hn
    rcases List.mem_cons.1 hn with rfl | hn
    · omega
    · exact h2 n hn

theorem firstFreeId_gt (ns : List Node) : ∀ n ∈ ns, n.id < firstFreeId ns := (firstFreeId_gt_aux ns 0).2

theorem chainSegs_eq_map : ∀ l : List Node, chainSegs l = (consecutive l).map (fun p => mkSeg p.1 p.2)
  | [] => rfl
  | [_] => rfl
  | a :: b :: r => by simp [chainSegs, consecutive, chainSegs_eq_map (b :: r)]

theorem ptPairs_map : ∀ l : List Node, ptPairs (l.map (·.p)) = (consecutive l).map (fun p => (p.1.p, p.2.p))
  | [] => rfl
  | [_] => rfl
  | a :: b :: r => by simp [ptPairs, consecutive, ← ptPairs_map (b :: r)]

theorem zipEdgeSegs_mem {P : EdgeIn → List Node → Prop} : ∀ {edges : List EdgeIn} {bends : List (List Node)},
    Paired P edges bends → ∀ s ∈ zipEdgeSegs edges bends, ∃ e ∈ edges, ∃ bs, P e bs ∧ s ∈ edgeSegs e.src e.tgt bs
  | _, _, Paired.nil, s, h => by simp [zipEdgeSegs] at h
  | _, _, Paired.cons (e := e) (bs := bs) hp hr, s, h => by
    simp only [zipEdgeSegs, List.mem_append] at h
    rcases h with h | h
    · exact ⟨e, by simp, bs, hp, h⟩
    · obtain ⟨e', he', bs', h1, h2⟩ := zipEdgeSegs_mem hr s h
      exact ⟨e', List.mem_cons_of_mem _ he', bs', h1, h2⟩

theorem mkSeg_shape {a b : Node}
    (h : (a.p.x = b.p.x ∧ a.p.y ≠ b.p.y) ∨ (a.p.y = b.p.y ∧ a.p.x ≠ b.p.x)) :
    (SegH (mkSeg a b) ∨ SegV (mkSeg a b)) ∧
    (((mkSeg a b).on = a ∧ (mkSeg a b).cn = b) ∨ ((mkSeg a b).on = b ∧ (mkSeg a b).cn = a)) := by
  refine ⟨?_, mkSeg_ends a b⟩
  rcases h with ⟨hx, hy⟩ | ⟨hy, hx⟩
  · right
    by_cases hlt : a.p.y < b.p.y
    · rw [mkSeg_V_fwd hx hlt]; exact ⟨rfl, rfl, hx.symm, rfl, rfl, hlt⟩
    · have hgt : b.p.y < a.p.y := by grind
      rw [mkSeg_V_bwd hx hgt]; exact ⟨rfl, hx.symm, rfl, rfl, rfl, hgt⟩
  · left
    by_cases hlt : a.p.x < b.p.x
    · rw [mkSeg_H_fwd hy hlt]; exact ⟨rfl, rfl, hy.symm, rfl, rfl, hlt⟩
    · have hgt : b.p.x < a.p.x := by grind
      rw [mkSeg_H_bwd hy (Rat.le_of_lt hgt)]; exact ⟨rfl, hy.symm, rfl, rfl, rfl, hgt⟩

theorem interior_sub {r : List Pt} {q : Pt} (h : q ∈ interior r) : q ∈ r := by
  unfold interior at h
  exact List.mem_of_mem_drop (List.dropLast_subset _ h)

theorem sepInput_bends {inp : Input} (hS : SepInput inp) :
    StoreOK (firstFreeId inp.nodes) (inp.edges.flatMap (fun e => interior e.route))
      (uniqueBends { nextId := firstFreeId inp.nodes } inp.edges).1 ∧
    Paired (fun e bs => bs.map (·.p) = interior e.route ∧
        ∀ b ∈ bs, b ∈ (uniqueBends { nextId := firstFreeId inp.nodes } inp.edges).1.store)
      inp.edges (uniqueBends { nextId := firstFreeId inp.nodes } inp.edges).2 := by
  have hfam : ∀ q ∈ inp.edges.flatMap (fun e => interior e.route),
      q ∈ inp.nodes.map (·.p) ++ inp.edges.flatMap (·.route) := by
    intro q hq
    obtain ⟨e, he, hqe⟩ := List.mem_flatMap.1 hq
    exact List.mem_append_right _ (List.mem_flatMap.2 ⟨e, he, interior_sub hqe⟩)
  have hIP : CoordsApart (inp.edges.flatMap (fun e => interior e.route)) :=
    ⟨fun a ha b hb => hS.apart.1 a (hfam a ha) b (hfam b hb), fun a ha b hb => hS.apart.2 a (hfam a ha) b (hfam b hb)⟩
  obtain ⟨u1, u2, _⟩ := uniqueBends_spec hIP inp.edges { nextId := firstFreeId inp.nodes }
    ⟨by simp, by simp, by simp, by simp⟩ (Nat.le_refl _)
    (fun e he q hq => List.mem_flatMap.2 ⟨e, he, hq⟩)
  exact ⟨u1, u2⟩

theorem segsA_ends {inp : Input} (hS : SepInput inp) :
    StoreOK (firstFreeId inp.nodes) (inp.edges.flatMap (fun e => interior e.route))
      (uniqueBends { nextId := firstFreeId inp.nodes } inp.edges).1 ∧
    ∀ s ∈ segsAOf inp, (SegH s ∨ SegV s) ∧
      (s.on ∈ inp.nodes ∨ s.on ∈ (uniqueBends { nextId := firstFreeId inp.nodes } inp.edges).1.store) ∧
      (s.cn ∈ inp.nodes ∨ s.cn ∈ (uniqueBends { nextId := firstFreeId inp.nodes } inp.edges).1.store) ∧
      ∃ e ∈ inp.edges, ∃ bs : List Node, bs.map (·.p) = interior e.route ∧
        (∀ b ∈ bs, b ∈ (uniqueBends { nextId := firstFreeId inp.nodes } inp.edges).1.store) ∧
        ((s.on, s.cn) ∈ consecutive (e.src :: bs ++ [e.tgt]) ∨ (s.cn, s.on) ∈ consecutive (e.src :: bs ++ [e.tgt])) := by
  obtain ⟨u1, u2⟩ := sepInput_bends hS
  refine ⟨u1, ?_⟩
  intro s hs
  obtain ⟨e, he, bs, ⟨hbp, hbs⟩, hse⟩ := zipEdgeSegs_mem u2 s hs
  rw [edgeSegs, chainSegs_eq_map] at hse
  obtain ⟨⟨a, b⟩, hab, rfl⟩ := List.mem_map.1 hse
  obtain ⟨hsrc, htgt, hroute⟩ := hS.ends e he
  have hmap : (e.src :: bs ++ [e.tgt]).map (·.p) = e.route := by
    rw [hroute]; simp [hbp]
  have hpq : (a.p, b.p) ∈ ptPairs e.route := by rw [← hmap, ptPairs_map]; exact List.mem_map.2 ⟨_, hab, rfl⟩
  have hor := hS.ortho e he _ hpq
  obtain ⟨hshape, hends⟩ := mkSeg_shape (a := a) (b := b) hor
  have hmemchain : ∀ n ∈ e.src :: bs ++ [e.tgt], n ∈ inp.nodes ∨
      n ∈ (uniqueBends { nextId := firstFreeId inp.nodes } inp.edges).1.store := by
    intro n hn
    simp only [List.cons_append, List.mem_cons, List.mem_append, List.mem_nil_iff, or_false] at hn
    rcases hn with rfl | hn | rfl
    · exact Or.inl hsrc
    · exact Or.inr (hbs n hn)
    · exact Or.inl htgt
  have ha := hmemchain a (consecutive_mem hab).1
  have hb := hmemchain b (consecutive_mem hab).2
  refine ⟨hshape, ?_⟩
  rcases hends with ⟨h1, h2⟩ | ⟨h1, h2⟩
  · rw [h1, h2]; exact ⟨ha, hb, e, he, bs, hbp, hbs, Or.inl hab⟩
  · rw [h1, h2]; exact ⟨hb, ha, e, he, bs, hbp, hbs, Or.inr hab⟩

theorem sepInput_goodA {inp : Input} (hS : SepInput inp) : GoodA (segsAOf inp) := by
  obtain ⟨hst, hends⟩ := segsA_ends hS
  have hfam : ∀ n, (n ∈ inp.nodes ∨ n ∈ (uniqueBends { nextId := firstFreeId inp.nodes } inp.edges).1.store) →
      n.p ∈ inp.nodes.map (·.p) ++ inp.edges.flatMap (·.route) := by
    rintro n (h | h)
    · exact List.mem_append_left _ (List.mem_map.2 ⟨n, h, rfl⟩)
    · obtain ⟨e, he, hq⟩ := List.mem_flatMap.1 (hst.inIP n h)
      exact List.mem_append_right _ (List.mem_flatMap.2 ⟨e, he, interior_sub hq⟩)
  have hend : ∀ s ∈ segsAOf inp, ∀ a ∈ [s.on, s.cn],
      a ∈ inp.nodes ∨ a ∈ (uniqueBends { nextId := firstFreeId inp.nodes } inp.edges).1.store := by
    intro s hs a ha
    simp only [List.mem_cons, List.mem_nil_iff, or_false] at ha
    rcases ha with rfl | rfl
    · exact (hends s hs).2.1
    · exact (hends s hs).2.2.1
  have hcoord : ∀ s ∈ segsAOf inp, ∀ a ∈ [s.on, s.cn], a.p ∈ inp.nodes.map (·.p) ++ inp.edges.flatMap (·.route) :=
    fun s hs a ha => hfam a (hend s hs a ha)
  refine ⟨fun s hs => (hends s hs).1, ?_, ?_, ?_⟩
  · intro s hs t ht a ha b hb
    simp only [List.mem_cons, List.mem_nil_iff, or_false] at ha hb
    rcases ha with rfl | rfl <;> rcases hb with rfl | rfl <;>
      exact hS.apart.1 _ (hcoord s hs _ (by simp)) _ (hcoord t ht _ (by simp))
  · intro s hs t ht a ha b hb
    simp only [List.mem_cons, List.mem_nil_iff, or_false] at ha hb
    rcases ha with rfl | rfl <;> rcases hb with rfl | rfl <;>
      exact hS.apart.2 _ (hcoord s hs _ (by simp)) _ (hcoord t ht _ (by simp))
  · intro s hs t ht a ha b hb
    have ca := hend s hs a ha
    have cb := hend t ht b hb
    have hnb : ∀ n ∈ inp.nodes, ∀ m ∈ (uniqueBends { nextId := firstFreeId inp.nodes } inp.edges).1.store,
        n.p ≠ m.p ∧ n.id ≠ m.id := by
      intro n hn m hm
      constructor
      · intro h
        obtain ⟨e, he, hq⟩ := List.mem_flatMap.1 (hst.inIP m hm)
        exact hS.avoid e he _ hq n hn h
      · have h1 := firstFreeId_gt inp.nodes n hn
        have h2 := (hst.ge m hm).1
        omega
    rcases ca with ca | ca <;> rcases cb with cb | cb
    · exact ⟨hS.nodesP a ca b cb, hS.nodesI a ca b cb⟩
    · exact ⟨fun h => absurd h (hnb a ca b cb).1, fun h => absurd h (hnb a ca b cb).2⟩
    · exact ⟨fun h => absurd h.symm (hnb b cb a ca).1, fun h => absurd h.symm (hnb b cb a ca).2⟩
    · exact ⟨hst.uniqP a ca b cb, hst.uniqI a ca b cb⟩

end AdaptaVerif.Lemmas.Planarise
