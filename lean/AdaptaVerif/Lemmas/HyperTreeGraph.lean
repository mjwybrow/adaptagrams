/-
Multigraph facts behind the rewrites of the hyperedge tree (edge lists as in `Spec.Tree`): removing the
bridge `a–b` of a tree and gluing `b` onto any vertex of `a`'s side keeps a tree (`isTree_identify`;
contraction is the case `c = a`), subdividing an edge keeps a tree, and the degrees after a renaming.
-/
import AdaptaVerif.Check.Tree
import AdaptaVerif.Spec.Tree
import AdaptaVerif.Lemmas.Tree
namespace AdaptaVerif.Lemmas.HyperTreeGraph
open AdaptaVerif.Check.Tree AdaptaVerif.Spec.Tree AdaptaVerif.Lemmas.Tree

def ren (b c : Nat) (v : Nat) : Nat := if v = b then c else v
def renE (b c : Nat) (e : Edge) : Edge := (ren b c e.1, ren b c e.2)

theorem reach_tail {E : List Edge} {e : Edge} {a b : Nat} (h : Reach E a b) :
    Reach (e :: E) a b :=
  Reach.mono (fun _ he => List.mem_cons_of_mem _ he) h

theorem reach_head (E : List Edge) (a b : Nat) : Reach ((a, b) :: E) a b :=
  Reach.single (Or.inl List.mem_cons_self)

theorem reach_head' (E : List Edge) (a b : Nat) : Reach ((a, b) :: E) b a :=
  Reach.single (Or.inr List.mem_cons_self)

theorem reach_sim {G G' : List Edge} {c d x y : Nat} (hsub : ∀ e, e ∈ G → e ∈ G')
    (hcd : Reach G' c d) (h : Reach ((c, d) :: G) x y) : Reach G' x y := by
  rcases reach_cons h with h | ⟨h1, h2⟩ | ⟨h1, h2⟩
  · exact Reach.mono hsub h
  · exact Reach.trans (Reach.mono hsub h1) (Reach.trans hcd (Reach.mono hsub h2))
  · exact Reach.trans (Reach.mono hsub h1) (Reach.trans (Reach.symm hcd) (Reach.mono hsub h2))

theorem reach_swap_head {a b : Nat} {E : List Edge} {x y : Nat} :
    Reach ((a, b) :: E) x y ↔ Reach ((b, a) :: E) x y :=
  ⟨reach_sim (fun _ he => List.mem_cons_of_mem _ he) (reach_head' E b a),
   reach_sim (fun _ he => List.mem_cons_of_mem _ he) (reach_head' E a b)⟩

theorem reach_mem {V : List Nat} {G : List Edge} (hwf : WellFormed V G) {a c : Nat}
    (h : Reach G a c) (ha : a ∈ V) : c ∈ V := by
  induction h with
  | refl => exact ha
  | step _ hadj _ =>
    cases hadj with
    | inl h => exact (hwf _ h).2
    | inr h => exact (hwf _ h).1

theorem isTree_bridge {V : List Nat} {E : List Edge} {a b : Nat} {E0 : List Edge}
    (h : IsTree V E) (hp : E.Perm ((a, b) :: E0)) : ¬ Reach E0 a b :=
  (acyclic_iff_perm E).mp h.2.2 (a, b) E0 hp

theorem isTree_bridge_ne {V : List Nat} {E : List Edge} {a b : Nat} {E0 : List Edge}
    (h : IsTree V E) (hp : E.Perm ((a, b) :: E0)) : a ≠ b := by
  intro hab
  subst hab
  exact isTree_bridge h hp (Reach.refl _)

theorem isTree_congr {V V' : List Nat} {E E' : List Edge} (hV : ∀ v, v ∈ V' ↔ v ∈ V)
    (hE : E.Perm E') (h : IsTree V E) : IsTree V' E' := by
  obtain ⟨hwf, ⟨hne, hconn⟩, hac⟩ := h
  refine ⟨?_, ⟨?_, ?_⟩, ?_⟩
  · intro e he
    have := hwf e (hE.mem_iff.mpr he)
    exact ⟨(hV _).mpr this.1, (hV _).mpr this.2⟩
  · intro hnil
    cases V with
    | nil => exact hne rfl
    | cons v _ =>
      have : v ∈ V' := (hV v).mpr List.mem_cons_self
      rw [hnil] at this
      cases this
  · intro a ha b hb
    exact (reach_perm hE).mp (hconn a ((hV a).mp ha) b ((hV b).mp hb))
  · rw [acyclic_iff_perm] at hac ⊢
    intro e R hp
    exact hac e R (hE.trans hp)

theorem isTree_swap_head {V : List Nat} {a b : Nat} {E : List Edge}
    (h : IsTree V ((a, b) :: E)) : IsTree V ((b, a) :: E) := by
  obtain ⟨hwf, ⟨hne, hconn⟩, hac⟩ := h
  refine ⟨?_, ⟨hne, ?_⟩, ?_⟩
  · intro e he
    rcases List.mem_cons.mp he with he | he
    · subst he
      have := hwf (a, b) List.mem_cons_self
      exact ⟨this.2, this.1⟩
    · exact hwf e (List.mem_cons_of_mem _ he)
  · intro x hx y hy
    exact reach_swap_head.mp (hconn x hx y hy)
  · intro i hi
    cases i with
    | zero =>
      have := hac 0 (by simp)
      simp only [List.getElem_cons_zero, List.eraseIdx_cons_zero] at this ⊢
      exact fun hr => this (Reach.symm hr)
    | succ i =>
      have hi' : i + 1 < ((a, b) :: E).length := by simpa using hi
      have := hac (i + 1) hi'
      simp only [List.getElem_cons_succ, List.eraseIdx_cons_succ] at this ⊢
      exact fun hr => this (reach_swap_head.mp hr)

theorem perm_map_cons {α β : Type} [DecidableEq α] {f : α → β} {L : List α} {e' : β} {R : List β}
    (h : (L.map f).Perm (e' :: R)) :
    ∃ x L1, L.Perm (x :: L1) ∧ e' = f x ∧ R.Perm (L1.map f) := by
  have he : e' ∈ L.map f := h.mem_iff.mpr List.mem_cons_self
  obtain ⟨x, hx, hfx⟩ := List.mem_map.mp he
  refine ⟨x, L.erase x, List.perm_cons_erase hx, hfx.symm, ?_⟩
  have h2 : (L.map f).Perm (f x :: (L.erase x).map f) := by
    simpa using (List.perm_cons_erase hx).map f
  rw [hfx] at h2
  exact (h.symm.trans h2).cons_inv

theorem ren_of_ne {b c v : Nat} (h : v ≠ b) : ren b c v = v := by simp [ren, h]
theorem ren_self (b c : Nat) : ren b c b = c := by simp [ren]

theorem reach_map_ren {b c : Nat} {G : List Edge} {x y : Nat} (h : Reach G x y) :
    Reach (G.map (renE b c)) (ren b c x) (ren b c y) := by
  induction h with
  | refl => exact Reach.refl _
  | step _ hadj ih =>
    exact Reach.step ih (hadj.imp (fun h => List.mem_map.mpr ⟨_, h, rfl⟩) (fun h => List.mem_map.mpr ⟨_, h, rfl⟩))

theorem reach_of_ren_eq {b c : Nat} (G : List Edge) {p q : Nat} (h : ren b c p = ren b c q) :
    Reach ((b, c) :: G) p q := by
  unfold ren at h
  by_cases hp : p = b <;> by_cases hq : q = b
  · subst hp; subst hq; exact Reach.refl _
  · simp only [hp, hq, if_true, if_false] at h
    subst hp; subst h; exact reach_head _ _ _
  · simp only [hp, hq, if_true, if_false] at h
    subst hq; subst h; exact reach_head' _ _ _
  · simp only [hp, hq, if_false] at h
    subst h; exact Reach.refl _

theorem adj_map_ren_inv {b c : Nat} {G : List Edge} {u v : Nat}
    (h : Adj (G.map (renE b c)) u v) : ∃ x y, Adj G x y ∧ ren b c x = u ∧ ren b c y = v := by
  cases h with
  | inl h =>
    obtain ⟨⟨x, y⟩, hm, he⟩ := List.mem_map.mp h
    simp only [renE, Prod.mk.injEq] at he
    exact ⟨x, y, Or.inl hm, he.1, he.2⟩
  | inr h =>
    obtain ⟨⟨x, y⟩, hm, he⟩ := List.mem_map.mp h
    simp only [renE, Prod.mk.injEq] at he
    exact ⟨y, x, Or.inr hm, he.2, he.1⟩

theorem reach_lift_ren {b c : Nat} {G : List Edge} {u v : Nat}
    (h : Reach (G.map (renE b c)) u v) :
    ∀ p q, ren b c p = u → ren b c q = v → Reach ((b, c) :: G) p q := by
  induction h with
  | refl =>
    intro p q hp hq
    exact reach_of_ren_eq G (hp.trans hq.symm)
  | step _ hadj ih =>
    intro p q hp hq
    obtain ⟨x, y, hxy, hx, hy⟩ := adj_map_ren_inv hadj
    have h1 := ih p x hp hx
    have h2 : Reach ((b, c) :: G) x y := reach_tail (Reach.single hxy)
    have h3 := reach_of_ren_eq (b := b) (c := c) G (hy.trans hq.symm)
    exact Reach.trans h1 (Reach.trans h2 h3)

theorem mem_filter_ne {V : List Nat} {b v : Nat} :
    v ∈ V.filter (fun v => v != b) ↔ v ∈ V ∧ v ≠ b := by
  simp

theorem isTree_identify {V : List Nat} {E E0 : List Edge} {a b c : Nat} (h : IsTree V E)
    (hp : E.Perm ((a, b) :: E0)) (hac : Reach E0 a c) :
    IsTree (V.filter (fun v => v != b)) (E0.map (renE b c)) := by
  have hbr : ¬ Reach E0 a b := isTree_bridge h hp
  have hab : a ≠ b := isTree_bridge_ne h hp
  have hcb : c ≠ b := fun hcb => hbr (hcb ▸ hac)
  obtain ⟨hwf, ⟨hne, hconn⟩, hacyc⟩ := h
  have habE : (a, b) ∈ E := hp.mem_iff.mpr List.mem_cons_self
  have hE0 : ∀ e, e ∈ E0 → e ∈ E := fun e he => hp.mem_iff.mpr (List.mem_cons_of_mem _ he)
  have haV : a ∈ V := (hwf _ habE).1
  have hwf0 : WellFormed V E0 := fun e he => hwf e (hE0 e he)
  have hcV : c ∈ V := reach_mem hwf0 hac haV
  have hfV : ∀ x, x ∈ V → ren b c x ∈ V.filter (fun v => v != b) := by
    intro x hx
    by_cases hxb : x = b
    · subst hxb
      rw [ren_self]
      exact mem_filter_ne.mpr ⟨hcV, hcb⟩
    · rw [ren_of_ne hxb]
      exact mem_filter_ne.mpr ⟨hx, hxb⟩
  refine ⟨?_, ⟨?_, ?_⟩, ?_⟩
  · intro e he
    obtain ⟨⟨x, y⟩, hm, rfl⟩ := List.mem_map.mp he
    have := hwf0 _ hm
    exact ⟨hfV x this.1, hfV y this.2⟩
  · intro hnil
    have : a ∈ V.filter (fun v => v != b) := mem_filter_ne.mpr ⟨haV, hab⟩
    rw [hnil] at this
    cases this
  · have key : ∀ v, v ∈ V → v ≠ b → Reach (E0.map (renE b c)) a v := by
      intro v hv hvb
      have h1 : Reach ((a, b) :: E0) a v := (reach_perm hp).mp (hconn a haV v hv)
      have hA : Reach (E0.map (renE b c)) a c := by
        have := reach_map_ren (b := b) (c := c) hac
        rwa [ren_of_ne hab, ren_of_ne hcb] at this
      rcases reach_cons h1 with h | ⟨_, h⟩ | ⟨h, _⟩
      · have := reach_map_ren (b := b) (c := c) h
        rwa [ren_of_ne hab, ren_of_ne hvb] at this
      · have := reach_map_ren (b := b) (c := c) h
        rw [ren_self, ren_of_ne hvb] at this
        exact Reach.trans hA this
      · exact absurd h hbr
    intro u hu v hv
    obtain ⟨hu1, hu2⟩ := mem_filter_ne.mp hu
    obtain ⟨hv1, hv2⟩ := mem_filter_ne.mp hv
    exact Reach.trans (Reach.symm (key u hu1 hu2)) (key v hv1 hv2)
  · rw [acyclic_iff_perm] at hacyc ⊢
    intro e' R hpR hr
    obtain ⟨⟨x, y⟩, E1, hp1, rfl, hpR1⟩ := perm_map_cons hpR
    have hr1 : Reach (E1.map (renE b c)) (ren b c x) (ren b c y) := (reach_perm hpR1).mp hr
    have hl : Reach ((b, c) :: E1) x y := reach_lift_ren hr1 x y rfl rfl
    have hpE : E.Perm ((x, y) :: (a, b) :: E1) :=
      (hp.trans (List.Perm.cons _ hp1)).trans (List.Perm.swap _ _ _)
    have B1 : ¬ Reach ((a, b) :: E1) x y := hacyc (x, y) _ hpE
    have B1' : ¬ Reach E1 x y := fun h => B1 (reach_tail h)
    have B2 : ¬ Reach E1 a b := fun h => hbr ((reach_perm hp1).mpr (reach_tail h))
    have hac1 : Reach ((x, y) :: E1) a c := (reach_perm hp1).mp hac
    rcases reach_cons hac1 with A | ⟨A1, A2⟩ | ⟨A1, A2⟩
    · -- the virtual edge b–c is simulated by b–a~c
      apply B1
      refine reach_sim (fun _ he => List.mem_cons_of_mem _ he) ?_ hl
      exact Reach.trans (reach_head' E1 a b) (reach_tail A)
    · rcases reach_cons hl with L | ⟨L1, L2⟩ | ⟨L1, L2⟩
      · exact B1' L
      · exact B2 (Reach.trans A1 L1)
      · exact B1' (Reach.trans L1 (Reach.symm A2))
    · rcases reach_cons hl with L | ⟨L1, L2⟩ | ⟨L1, L2⟩
      · exact B1' L
      · exact B1' (Reach.trans A2 L2)
      · exact B2 (Reach.trans A1 (Reach.symm L2))

theorem isTree_contract {V : List Nat} {E E0 : List Edge} {a b : Nat} (h : IsTree V E)
    (hp : E.Perm ((a, b) :: E0)) :
    IsTree (V.filter (fun v => v != b)) (E0.map (renE b a)) :=
  isTree_identify h hp (Reach.refl a)

theorem deg_perm {E E' : List Edge} (h : E.Perm E') (v : Nat) : deg E v = deg E' v := by
  unfold deg
  rw [h.countP_eq, h.countP_eq]

theorem deg_nil (v : Nat) : deg [] v = 0 := rfl

theorem deg_cons (a b : Nat) (E : List Edge) (v : Nat) :
    deg ((a, b) :: E) v = deg E v + (if a = v then 1 else 0) + (if b = v then 1 else 0) := by
  simp only [deg, List.countP_cons, beq_iff_eq]
  omega

theorem deg_map_ren {b c : Nat} (hbc : b ≠ c) (E : List Edge) (v : Nat) :
    deg (E.map (renE b c)) v =
      if v = b then 0 else if v = c then deg E c + deg E b else deg E v := by
  induction E with
  | nil => simp [deg_nil]
  | cons e E ih =>
    obtain ⟨x, y⟩ := e
    simp only [List.map_cons, renE, deg_cons, ih, ren]
    grind

/-- by the renaming `n ↦ a`: the image `a–a` of `a–n` is a loop and can be left out -/
theorem reach_unsubdivide {G : List Edge} {a b n : Nat} (han : a ≠ n) (hbn : b ≠ n)
    (hG : ∀ e ∈ G, e.1 ≠ n ∧ e.2 ≠ n) {x y : Nat} (hx : x ≠ n) (hy : y ≠ n)
    (h : Reach ((a, n) :: (n, b) :: G) x y) : Reach ((a, b) :: G) x y := by
  have := reach_map_ren (b := n) (c := a) h
  have hmap : G.map (renE n a) = G :=
    (List.map_congr_left fun e he => by simp [renE, ren_of_ne (hG e he).1, ren_of_ne (hG e he).2]).trans (List.map_id _)
  simp only [List.map_cons, renE, ren_self, ren_of_ne han, ren_of_ne hbn, ren_of_ne hx, ren_of_ne hy, hmap] at this
  exact reach_sim (fun _ he => he) (Reach.refl a) this

theorem isTree_subdivide {V : List Nat} {E E0 : List Edge} {a b n : Nat} (h : IsTree V E)
    (hp : E.Perm ((a, b) :: E0)) (hn : n ∉ V) :
    IsTree (n :: V) ((a, n) :: (n, b) :: E0) := by
  have hbr : ¬ Reach E0 a b := isTree_bridge h hp
  obtain ⟨hwf, ⟨hne, hconn⟩, hacyc⟩ := h
  have habE : (a, b) ∈ E := hp.mem_iff.mpr List.mem_cons_self
  have hE0 : ∀ e, e ∈ E0 → e ∈ E := fun e he => hp.mem_iff.mpr (List.mem_cons_of_mem _ he)
  have haV : a ∈ V := (hwf _ habE).1
  have hbV : b ∈ V := (hwf _ habE).2
  have hwf0 : WellFormed V E0 := fun e he => hwf e (hE0 e he)
  have han : a ≠ n := fun h => hn (h ▸ haV)
  have hbn : b ≠ n := fun h => hn (h ▸ hbV)
  have hnot : ∀ v, v ∈ V → ¬ Reach E0 v n := fun v hv hr => hn (reach_mem hwf0 hr hv)
  refine ⟨?_, ⟨List.cons_ne_nil _ _, ?_⟩, ?_⟩
  · intro e he
    simp only [List.mem_cons] at he
    rcases he with rfl | rfl | he
    · exact ⟨List.mem_cons_of_mem _ haV, List.mem_cons_self⟩
    · exact ⟨List.mem_cons_self, List.mem_cons_of_mem _ hbV⟩
    · exact ⟨List.mem_cons_of_mem _ (hwf0 e he).1, List.mem_cons_of_mem _ (hwf0 e he).2⟩
  · have key : ∀ v, v ∈ n :: V → Reach ((a, n) :: (n, b) :: E0) a v := by
      intro v hv
      rcases List.mem_cons.mp hv with rfl | hv
      · exact reach_head _ _ _
      · have h1 : Reach ((a, b) :: E0) a v := (reach_perm hp).mp (hconn a haV v hv)
        refine reach_sim (fun _ he => List.mem_cons_of_mem _ (List.mem_cons_of_mem _ he)) ?_ h1
        exact Reach.trans (reach_head _ _ _) (reach_tail (reach_head _ _ _))
    intro u hu v hv
    exact Reach.trans (Reach.symm (key u hu)) (key v hv)
  · intro i hi
    match i, hi with
    | 0, _ =>
      simp only [List.getElem_cons_zero, List.eraseIdx_cons_zero]
      intro hr
      rcases reach_cons hr with h | ⟨h, _⟩ | ⟨h, _⟩
      · exact hnot a haV h
      · exact hnot a haV h
      · exact hbr h
    | 1, _ =>
      simp only [List.getElem_cons_succ, List.getElem_cons_zero, List.eraseIdx_cons_succ,
        List.eraseIdx_cons_zero]
      intro hr
      rcases reach_cons hr with h | ⟨_, h⟩ | ⟨_, h⟩
      · exact hnot b hbV (Reach.symm h)
      · exact hnot b hbV (Reach.symm h)
      · exact hbr h
    | i + 2, hi =>
      have hi' : i < E0.length := by simpa using hi
      simp only [List.getElem_cons_succ, List.eraseIdx_cons_succ]
      intro hr
      have hmem : E0[i] ∈ E0 := List.getElem_mem hi'
      have hxn : (E0[i]).1 ≠ n := fun h => hn (h ▸ (hwf0 _ hmem).1)
      have hyn : (E0[i]).2 ≠ n := fun h => hn (h ▸ (hwf0 _ hmem).2)
      have hG : ∀ e ∈ E0.eraseIdx i, e.1 ≠ n ∧ e.2 ≠ n := by
        intro e he
        have := hwf0 e (List.mem_of_mem_eraseIdx he)
        exact ⟨fun h => hn (h ▸ this.1), fun h => hn (h ▸ this.2)⟩
      have h1 := reach_unsubdivide han hbn hG hxn hyn hr
      have hpE : E.Perm (E0[i] :: (a, b) :: E0.eraseIdx i) :=
        (hp.trans (List.Perm.cons _ (perm_getElem_eraseIdx E0 i hi'))).trans
          (List.Perm.swap _ _ _)
      exact (acyclic_iff_perm E).mp hacyc _ _ hpE h1

theorem deg_pos_of_adj {E : List Edge} {v u : Nat} (h : Adj E v u) : 1 ≤ deg E v := by
  unfold deg
  rcases h with h | h
  · have : 0 < E.countP (fun e => e.1 == v) :=
      List.countP_pos_iff.mpr ⟨_, h, by simp⟩
    omega
  · have : 0 < E.countP (fun e => e.2 == v) :=
      List.countP_pos_iff.mpr ⟨_, h, by simp⟩
    omega

theorem isTree_deg_pos {V : List Nat} {E : List Edge} {v w : Nat} (h : IsTree V E)
    (hv : v ∈ V) (hw : w ∈ V) (hne : v ≠ w) : 1 ≤ deg E v := by
  have hr : Reach E w v := h.2.1.2 w hw v hv
  cases hr with
  | refl => exact absurd rfl hne
  | step _ hadj => exact deg_pos_of_adj (Adj.symm hadj)

end AdaptaVerif.Lemmas.HyperTreeGraph
