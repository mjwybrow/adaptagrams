/-
Helper lemmas for property C02 (`Spec/Qp.lean`): finite sums, the exchange of the
variable-sum and the constraint-sum (the heart of KKT sufficiency), convexity identities.
-/
import AdaptaVerif.Spec.Qp
import Mathlib.Tactic.Linarith
import Mathlib.Tactic.Ring
import Mathlib.Tactic.FieldSimp
import Mathlib.Tactic.Positivity
import Mathlib.Algebra.Order.Field.Rat
import Mathlib.Algebra.BigOperators.Group.Finset.Basic

namespace AdaptaVerif.Lemmas.Qp
open AdaptaVerif.Spec.Qp

theorem sumTo_eq_finset (n : Nat) (f : Nat → Rat) : sumTo n f = ∑ i ∈ Finset.range n, f i := by
  induction n with
  | zero => rfl
  | succ n ih => rw [Finset.sum_range_succ, ← ih]; rfl

theorem sumTo_congr {n : Nat} {f g : Nat → Rat} (h : ∀ i, i < n → f i = g i) :
    sumTo n f = sumTo n g := by
  simp only [sumTo_eq_finset]
  exact Finset.sum_congr rfl fun i hi => h i (Finset.mem_range.mp hi)

theorem sumTo_add (n : Nat) (f g : Nat → Rat) :
    sumTo n (fun i => f i + g i) = sumTo n f + sumTo n g := by
  simp only [sumTo_eq_finset]
  exact Finset.sum_add_distrib

theorem sumTo_sub (n : Nat) (f g : Nat → Rat) :
    sumTo n (fun i => f i - g i) = sumTo n f - sumTo n g := by
  simp only [sumTo_eq_finset]
  exact Finset.sum_sub_distrib f g

theorem sumTo_mul_left (n : Nat) (c : Rat) (f : Nat → Rat) :
    sumTo n (fun i => c * f i) = c * sumTo n f := by
  simp only [sumTo_eq_finset]
  exact (map_sum (AddMonoidHom.mulLeft c) f _).symm

theorem sumTo_eq_zero {n : Nat} {f : Nat → Rat} (h : ∀ i, i < n → f i = 0) : sumTo n f = 0 := by
  rw [sumTo_eq_finset]
  exact Finset.sum_eq_zero fun i hi => h i (Finset.mem_range.mp hi)

theorem sumTo_nonneg {n : Nat} {f : Nat → Rat} (h : ∀ i, i < n → 0 ≤ f i) : 0 ≤ sumTo n f := by
  rw [sumTo_eq_finset]
  exact Finset.sum_nonneg fun i hi => h i (Finset.mem_range.mp hi)

theorem sumTo_le {n : Nat} {f g : Nat → Rat} (h : ∀ i, i < n → f i ≤ g i) :
    sumTo n f ≤ sumTo n g := by
  simp only [sumTo_eq_finset]
  exact Finset.sum_le_sum fun i hi => h i (Finset.mem_range.mp hi)

theorem sumTo_terms_zero {n : Nat} {f : Nat → Rat} (h : ∀ i, i < n → 0 ≤ f i)
    (hs : sumTo n f ≤ 0) : ∀ i, i < n → f i = 0 := by
  have h' : ∀ i ∈ Finset.range n, 0 ≤ f i := fun i hi => h i (Finset.mem_range.mp hi)
  rw [sumTo_eq_finset] at hs
  exact fun i hi => (Finset.sum_eq_zero_iff_of_nonneg h').mp (le_antisymm hs (Finset.sum_nonneg h')) i
    (Finset.mem_range.mpr hi)

theorem sumTo_ite (n k : Nat) (g : Nat → Rat) :
    sumTo n (fun i => if k = i then g i else 0) = if k < n then g k else 0 := by
  rw [sumTo_eq_finset]
  split
  · next h =>
    rw [Finset.sum_eq_single k (fun i _ hi => if_neg (Ne.symm hi))
      (fun hk => absurd (Finset.mem_range.mpr h) hk), if_pos rfl]
  · next h => exact Finset.sum_eq_zero fun i hi => if_neg fun e : k = i => h (e ▸ Finset.mem_range.mp hi)

theorem sumTo_ite_unique {m : Nat} {P : Nat → Prop} [DecidablePred P] (c : Rat) {j0 : Nat} (hj0 : j0 < m)
    (h0 : P j0) (hu : ∀ j, j < m → P j → j = j0) : sumTo m (fun j => if P j then c else 0) = c := by
  have e : ∀ j, j < m → (if P j then c else 0) = if j0 = j then (fun _ => c) j else 0 := by
    intro j hj
    by_cases hp : P j
    · rw [if_pos hp, if_pos (hu j hj hp).symm]
    · rw [if_neg hp, if_neg fun e : j0 = j => hp (e ▸ h0)]
  rw [sumTo_congr e, sumTo_ite, if_pos hj0]

theorem sumTo_comm (m n : Nat) (F : Nat → Nat → Rat) :
    sumTo m (fun j => sumTo n (fun x => F j x)) = sumTo n (fun x => sumTo m (fun j => F j x)) := by
  simp only [sumTo_eq_finset]
  exact Finset.sum_comm

theorem sumTo_perm {n : Nat} {σ τ : Nat → Nat} (hp : IsPerm n σ τ) (f : Nat → Rat) :
    sumTo n (fun i => f (σ i)) = sumTo n f := by
  rw [sumTo_eq_finset, sumTo_eq_finset]
  refine Finset.sum_nbij' σ τ ?_ ?_ ?_ ?_ ?_
  · intro i hi; exact Finset.mem_range.mpr (hp.1 i (Finset.mem_range.mp hi)).1
  · intro j hj; exact Finset.mem_range.mpr (hp.2 j (Finset.mem_range.mp hj)).1
  · intro i hi; exact (hp.1 i (Finset.mem_range.mp hi)).2
  · intro j hj; exact (hp.2 j (Finset.mem_range.mp hj)).2
  · intro i _; rfl

theorem IsPerm.symm {n : Nat} {σ τ : Nat → Nat} (hp : IsPerm n σ τ) : IsPerm n τ σ :=
  ⟨hp.2, hp.1⟩

theorem listSum_eq_sum {α : Type} (f : α → Rat) (l : List α) : listSum f l = (l.map f).sum := by
  induction l with
  | nil => rfl
  | cons a l ih => rw [listSum, ih, List.map_cons, List.sum_cons]

theorem listSum_congr {α : Type} {f g : α → Rat} {l : List α} (h : ∀ a ∈ l, f a = g a) :
    listSum f l = listSum g l := by
  rw [listSum_eq_sum, listSum_eq_sum, List.map_congr_left h]

theorem listSum_le {α : Type} {f g : α → Rat} {l : List α} (h : ∀ a ∈ l, f a ≤ g a) :
    listSum f l ≤ listSum g l := by
  simp only [listSum_eq_sum]
  exact List.sum_le_sum h

theorem listSum_add {α : Type} (f g : α → Rat) (l : List α) :
    listSum (fun a => f a + g a) l = listSum f l + listSum g l := by
  simp only [listSum_eq_sum]
  exact List.sum_map_add

theorem listSum_append {α : Type} (f : α → Rat) (a b : List α) :
    listSum f (a ++ b) = listSum f a + listSum f b := by
  simp only [listSum_eq_sum, List.map_append, List.sum_append]

theorem listSum_mul_left {α : Type} (c : Rat) (f : α → Rat) (l : List α) :
    listSum (fun a => c * f a) l = c * listSum f l := by
  induction l with
  | nil => simp [listSum]
  | cons a as ih => simp only [listSum, ih]; ring

theorem listSum_zip_fst {α β : Type} (g : α → Rat) :
    ∀ (l1 : List α) (l2 : List β), l2.length = l1.length →
      listSum (fun p : α × β => g p.1) (l1.zip l2) = listSum g l1
  | [], _, _ => by simp [listSum]
  | _ :: _, [], hl => by simp at hl
  | a :: as, b :: bs, hl => by
    simp only [List.zip_cons_cons, listSum, listSum_zip_fst g as bs (by simpa using hl)]

theorem listSum_indicator (m : Nat) (F : Nat → Rat) : ∀ (L : List Nat), L.Nodup → (∀ a ∈ L, a < m) →
    listSum F L = sumTo m (fun j => if j ∈ L then F j else 0)
  | [], _, _ => by simp [listSum, sumTo_eq_zero]
  | a :: L, hnd, hlt => by
    rw [List.nodup_cons] at hnd
    have e : ∀ j, j < m → (if j ∈ a :: L then F j else 0) =
        (if a = j then F j else 0) + (if j ∈ L then F j else 0) := by
      intro j _
      by_cases hja : a = j
      · subst hja; simp [hnd.1]
      · simp [hja, Ne.symm hja]
    rw [sumTo_congr e, sumTo_add, sumTo_ite, if_pos (hlt a List.mem_cons_self), listSum,
      listSum_indicator m F L hnd.2 fun b hb => hlt b (List.mem_cons_of_mem _ hb)]

theorem holds_eq {s : Nat → Rat} {c : Con} {x : Nat → Rat} (he : c.eq = true) :
    c.Holds s x ↔ slack s c x = 0 := by
  unfold Con.Holds; rw [if_pos he]

theorem holds_ineq {s : Nat → Rat} {c : Con} {x : Nat → Rat} (he : c.eq = false) :
    c.Holds s x ↔ 0 ≤ slack s c x := by
  unfold Con.Holds; rw [he]; exact Iff.rfl

theorem holds_congr {s s' : Nat → Rat} {c c' : Con} {x x' : Nat → Rat} (he : c'.eq = c.eq)
    (hs : slack s' c' x' = slack s c x) : c'.Holds s' x' ↔ c.Holds s x := by
  unfold Con.Holds; rw [he, hs]

theorem sum_conGrad (s : Nat → Rat) (n : Nat) (v : Nat → Rat) :
    ∀ (cl : List (Con × Rat)), (∀ p ∈ cl, p.1.l < n ∧ p.1.r < n) →
      sumTo n (fun i => conGrad s cl i * v i) =
        listSum (fun p => p.2 * (s p.1.r * v p.1.r - s p.1.l * v p.1.l)) cl
  | [], _ => sumTo_eq_zero fun i _ => zero_mul (v i)
  | (c, lam) :: rest, hb => by
    have hc := hb (c, lam) List.mem_cons_self
    have e : ∀ i, i < n → conGrad s ((c, lam) :: rest) i * v i =
        ((if c.r = i then lam * s i * v i else 0) - (if c.l = i then lam * s i * v i else 0))
          + conGrad s rest i * v i := by
      intro i _
      simp only [conGrad, add_mul, sub_mul, ite_mul, zero_mul]
    rw [sumTo_congr e, sumTo_add, sumTo_sub, sumTo_ite, sumTo_ite,
      sum_conGrad s n v rest fun q hq => hb q (List.mem_cons_of_mem _ hq), if_pos hc.1, if_pos hc.2]
    simp only [listSum]
    ring

theorem conGrad_append (s : Nat → Rat) (a b : List (Con × Rat)) (i : Nat) :
    conGrad s (a ++ b) i = conGrad s a i + conGrad s b i := by
  induction a with
  | nil => simp [conGrad]
  | cons p a ih =>
    obtain ⟨c, lam⟩ := p
    simp only [List.cons_append, conGrad, ih]
    ring

theorem conGrad_range (s : Nat → Rat) (C : Nat → Con) (lam : Nat → Rat) (i : Nat) :
    ∀ k : Nat, conGrad s ((List.range k).map fun j => (C j, lam j)) i =
      s i * (sumTo k (fun j => if (C j).r = i then lam j else 0) -
             sumTo k (fun j => if (C j).l = i then lam j else 0)) := by
  intro k
  induction k with
  | zero => simp [conGrad, sumTo]
  | succ k ih =>
    rw [List.range_succ, List.map_append, conGrad_append, ih]
    simp only [List.map_cons, List.map_nil, conGrad, sumTo, mul_add, mul_sub, mul_ite, mul_zero,
      mul_comm (lam k)]
    ring

theorem cost_expand (P : Problem) (x y : Nat → Rat) :
    cost P y = cost P x
      + sumTo P.n (fun i => (2 * P.w i * (x i - P.d i)) * (y i - x i))
      + sumTo P.n (fun i => P.w i * ((y i - x i) * (y i - x i))) := by
  unfold cost
  rw [← sumTo_add, ← sumTo_add]
  exact sumTo_congr fun i _ => by ring

theorem slack_diff (s : Nat → Rat) (c : Con) (x y : Nat → Rat) :
    slack s c y - slack s c x = s c.r * (y c.r - x c.r) - s c.l * (y c.l - x c.l) := by
  unfold slack; ring

theorem cost_exact (P : Problem) (cl : List (Con × Rat)) (x y : Nat → Rat)
    (hb : ∀ p ∈ cl, p.1.l < P.n ∧ p.1.r < P.n)
    (hstat : ∀ i, i < P.n → 2 * P.w i * (x i - P.d i) = conGrad P.s cl i) :
    cost P y = cost P x + listSum (fun p => p.2 * (slack P.s p.1 y - slack P.s p.1 x)) cl
      + sumTo P.n (fun i => P.w i * ((y i - x i) * (y i - x i))) := by
  rw [cost_expand P x y, sumTo_congr fun i hi => by rw [hstat i hi],
    sum_conGrad P.s P.n (fun i => y i - x i) cl hb]
  simp only [slack_diff]

theorem wsq_nonneg {P : Problem} (hWF : WF P) (x y : Nat → Rat) :
    0 ≤ sumTo P.n (fun i => P.w i * ((x i - y i) * (x i - y i))) :=
  sumTo_nonneg fun i hi => mul_nonneg (hWF.1 i hi).le (mul_self_nonneg _)

theorem cost_midpoint (P : Problem) (x y : Nat → Rat) :
    cost P (fun i => (x i + y i) / 2) =
      (cost P x + cost P y) / 2
        - sumTo P.n (fun i => P.w i * ((x i - y i) * (x i - y i))) / 4 := by
  unfold cost
  have e : ∀ i, i < P.n →
      P.w i * (((x i + y i) / 2 - P.d i) * ((x i + y i) / 2 - P.d i)) =
        (1/2 : Rat) * (P.w i * ((x i - P.d i) * (x i - P.d i)))
          + (1/2 : Rat) * (P.w i * ((y i - P.d i) * (y i - P.d i)))
          - (1/4 : Rat) * (P.w i * ((x i - y i) * (x i - y i))) := by
    intro i _; ring
  rw [sumTo_congr e, sumTo_sub, sumTo_add, sumTo_mul_left, sumTo_mul_left, sumTo_mul_left]
  ring

theorem slack_midpoint (s : Nat → Rat) (c : Con) (x y : Nat → Rat) :
    slack s c (fun i => (x i + y i) / 2) = (slack s c x + slack s c y) / 2 := by
  unfold slack; ring

theorem feasible_midpoint (P : Problem) (x y : Nat → Rat)
    (hx : Feasible P x) (hy : Feasible P y) : Feasible P (fun i => (x i + y i) / 2) := by
  intro c hc
  have h1 := hx c hc
  have h2 := hy c hc
  cases he : c.eq
  · rw [holds_ineq he, slack_midpoint] at *
    linarith
  · rw [holds_eq he, slack_midpoint] at *
    rw [h1, h2]; norm_num

end AdaptaVerif.Lemmas.Qp
