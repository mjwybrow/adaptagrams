/-
Which obstacles the scene holds after `processActions` (Model/ActionQueue.runPasses): an obstacle object of the
new scene is either an untouched one of the old scene, or the target of an Add / Move action of the transaction.
(Discharges the hypothesis `hnew` of Props/C06Reroute.skip_sound_route_valid.)
-/
import AdaptaVerif.Lemmas.ActionQueue
namespace AdaptaVerif.Lemmas.RerouteScene
open AdaptaVerif.Model.ActionQueue

theorem mem_mapObst_of_ne (sc : Scene) (i : Nat) (f : Obst → Obst) (hf : ∀ x, (f x).id = x.id) (o : Obst)
    (ho : o.id ≠ i) : o ∈ (mapObst sc i f).obsts ↔ o ∈ sc.obsts := by
  unfold mapObst
  simp only [List.mem_map]
  constructor
  · rintro ⟨x, hx, rfl⟩
    by_cases hxi : (x.id == i) = true
    · simp only [hxi, if_true] at ho ⊢
      exact absurd (by rw [hf x]; exact beq_iff_eq.mp hxi) ho
    · simp only [hxi] at ho ⊢
      exact hx
  · intro h
    refine ⟨o, h, ?_⟩
    have : (o.id == i) = false := by simpa using ho
    simp [this]

theorem ids_mapObst (sc : Scene) (i : Nat) (f : Obst → Obst) (hf : ∀ x, (f x).id = x.id) (o : Obst)
    (ho : o ∈ (mapObst sc i f).obsts) : ∃ x ∈ sc.obsts, x.id = o.id := by
  unfold mapObst at ho
  simp only [List.mem_map] at ho
  obtain ⟨x, hx, rfl⟩ := ho
  refine ⟨x, hx, ?_⟩
  split
  · exact (hf x).symm
  · rfl

theorem mem_eraseObst (sc : Scene) (i : Nat) (o : Obst) :
    o ∈ (eraseObst sc i).obsts ↔ o ∈ sc.obsts ∧ o.id ≠ i := by
  unfold eraseObst
  simp [List.mem_filter]

theorem mapConn_obsts (sc : Scene) (i : Nat) (f : Conn → Conn) : (mapConn sc i f).obsts = sc.obsts := rfl

/-- the action is an obstacle action aimed at object `i` -/
def Targets (a : Action) (i : Nat) : Prop := a.kind ≠ .connChange ∧ a.id = i

theorem pass1One_untouched (sc : Scene) (a : Action) (o : Obst) (h : ¬ Targets a o.id) :
    o ∈ (pass1One sc a).obsts ↔ o ∈ sc.obsts := by
  unfold pass1One
  cases hk : a.kind
  case move =>
    dsimp only
    refine mem_mapObst_of_ne sc a.id _ ?_ o (fun he => h ⟨by simp [hk], he.symm⟩)
    exact fun _ => rfl
  case remove =>
    dsimp only
    simp only [mem_eraseObst]
    exact ⟨fun x => x.1, fun x => ⟨x, fun he => h ⟨by simp [hk], he.symm⟩⟩⟩
  all_goals rfl

theorem pass2One_untouched (sc : Scene) (a : Action) (o : Obst) (h : ¬ Targets a o.id) :
    o ∈ (pass2One sc a).obsts ↔ o ∈ sc.obsts := by
  unfold pass2One
  cases hk : a.kind
  case move | add =>
    dsimp only
    refine mem_mapObst_of_ne sc a.id _ ?_ o (fun he => h ⟨by simp [hk], he.symm⟩)
    exact fun _ => rfl
  all_goals rfl

theorem fold_untouched (step : Scene → Action → Scene) (o : Obst)
    (hs : ∀ sc a, ¬ Targets a o.id → (o ∈ (step sc a).obsts ↔ o ∈ sc.obsts))
    (acts : List Action) (sc : Scene) (h : ∀ a ∈ acts, ¬ Targets a o.id) :
    o ∈ (acts.foldl step sc).obsts ↔ o ∈ sc.obsts :=
  List.foldlRecOn (motive := fun s => o ∈ s.obsts ↔ o ∈ sc.obsts) acts step Iff.rfl
    fun s hsc a ha => (hs s a (h a ha)).trans hsc

theorem runPasses_untouched (sc : Scene) (acts : List Action) (o : Obst) (h : ∀ a ∈ acts, ¬ Targets a o.id) :
    o ∈ (runPasses sc acts).obsts ↔ o ∈ sc.obsts := by
  unfold runPasses
  rw [ActionQueue.obsts_fold3, fold_untouched pass2One o (pass2One_untouched · · o) acts _ h,
    fold_untouched pass1One o (pass1One_untouched · · o) acts _ h]

def NoId (i : Nat) (sc : Scene) : Prop := ∀ o ∈ sc.obsts, o.id ≠ i

theorem mapObst_NoId (i j : Nat) (sc : Scene) (f : Obst → Obst) (hf : ∀ x, (f x).id = x.id) (h : NoId i sc) :
    NoId i (mapObst sc j f) := by
  intro o ho
  obtain ⟨x, hx, he⟩ := ids_mapObst sc j f hf o ho
  rw [← he]; exact h x hx

theorem pass1One_NoId (i : Nat) (sc : Scene) (a : Action) (h : NoId i sc) : NoId i (pass1One sc a) := by
  unfold pass1One
  cases a.kind
  case move => exact mapObst_NoId i _ sc _ (fun _ => rfl) h
  case remove => exact fun o ho => h o ((mem_eraseObst sc a.id o).mp ho).1
  all_goals exact h

theorem pass2One_NoId (i : Nat) (sc : Scene) (a : Action) (h : NoId i sc) : NoId i (pass2One sc a) := by
  unfold pass2One
  cases a.kind
  case move | add => exact mapObst_NoId i _ sc _ (fun _ => rfl) h
  all_goals exact h

theorem fold_NoId (i : Nat) (step : Scene → Action → Scene) (hs : ∀ sc a, NoId i sc → NoId i (step sc a))
    (acts : List Action) (sc : Scene) (h : NoId i sc) : NoId i (acts.foldl step sc) :=
  List.foldlRecOn acts step h fun sc hsc a _ => hs sc a hsc

theorem pass1_remove_NoId (i : Nat) : ∀ (acts : List Action) (sc : Scene),
    (∃ a ∈ acts, a.kind = .remove ∧ a.id = i) → NoId i (acts.foldl pass1One sc) := by
  intro acts
  induction acts with
  | nil => intro sc h; obtain ⟨a, ha, _⟩ := h; simp at ha
  | cons b l ih =>
    intro sc h
    simp only [List.foldl_cons]
    obtain ⟨a, ha, hk, hid⟩ := h
    rcases List.mem_cons.mp ha with rfl | ha'
    · apply fold_NoId i pass1One (pass1One_NoId i)
      intro o ho
      unfold pass1One at ho
      rw [hk] at ho
      simp only at ho
      rw [← hid]
      exact ((mem_eraseObst sc a.id o).mp ho).2
    · exact ih _ ⟨a, ha', hk, hid⟩

theorem runPasses_removed (sc : Scene) (acts : List Action) (i : Nat) (h : ∃ a ∈ acts, a.kind = .remove ∧ a.id = i) :
    NoId i (runPasses sc acts) := by
  unfold runPasses
  have h1 := pass1_remove_NoId i acts sc h
  have h2 := fold_NoId i pass2One (pass2One_NoId i) acts _ h1
  unfold NoId
  rw [ActionQueue.obsts_fold3]
  exact h2

theorem findObst_of_mem (sc : Scene) (o : Obst) (ho : o ∈ sc.obsts)
    (huniq : ∀ o ∈ sc.obsts, ∀ o' ∈ sc.obsts, o.id = o'.id → o = o') : findObst sc o.id = some o := by
  unfold findObst
  obtain ⟨o', ho'⟩ := Option.isSome_iff_exists.mp
    (List.find?_isSome (p := fun x : Obst => x.id == o.id).mpr ⟨o, ho, beq_self_eq_true _⟩)
  have hid : (o'.id == o.id) = true := List.find?_some (p := fun x : Obst => x.id == o.id) ho'
  rw [ho', huniq o' (List.mem_of_find?_eq_some ho') o ho (beq_iff_eq.mp hid)]

end AdaptaVerif.Lemmas.RerouteScene
