/-
Soundness of the executable KKT checker's components (`Check/Kkt.lean`) w.r.t. the
propositions of `Spec/Qp.lean`; the concrete instance used by the non-vacuity examples of `Props/C02.lean`.
-/
import AdaptaVerif.Check.Kkt
import AdaptaVerif.Lemmas.QpOpt

namespace AdaptaVerif.Lemmas.Qp
open AdaptaVerif.Spec.Qp AdaptaVerif.Check.Kkt

theorem checkWF_sound (P : Problem) (h : checkWF P = true) : WF P := by
  unfold checkWF at h
  simp only [Bool.and_eq_true, List.all_eq_true, List.mem_range, decide_eq_true_eq] at h
  exact ⟨h.1, h.2⟩

theorem holdsB_sound (s : Nat → Rat) (c : Con) (x : Nat → Rat) (h : holdsB s c x = true) :
    c.Holds s x := by
  unfold holdsB at h
  unfold Con.Holds
  cases he : c.eq <;> simp [he] at h ⊢ <;> exact h

theorem feasibleB_sound (P : Problem) (x : Nat → Rat) (h : feasibleB P x = true) : Feasible P x := by
  unfold feasibleB at h
  simp only [List.all_eq_true] at h
  exact fun c hc => holdsB_sound P.s c x (h c hc)

theorem stationaryB_sound (P : Problem) (x : Nat → Rat) (cl : List (Con × Rat))
    (h : stationaryB P x cl = true) :
    ∀ i, i < P.n → 2 * P.w i * (x i - P.d i) = conGrad P.s cl i := by
  unfold stationaryB at h
  simp only [List.all_eq_true, List.mem_range, decide_eq_true_eq] at h
  exact h

theorem signCompB_sound (P : Problem) (x : Nat → Rat) (cl : List (Con × Rat))
    (h : signCompB P x cl = true) :
    ∀ p ∈ cl, (p.1.eq = true ∨ 0 ≤ p.2) ∧ p.2 * slack P.s p.1 x = 0 := by
  unfold signCompB at h
  simp only [List.all_eq_true, Bool.and_eq_true, Bool.or_eq_true, decide_eq_true_eq] at h
  exact h

theorem checkKkt_kkt (P : Problem) (x : Nat → Rat) (lam : List Rat)
    (h : checkKkt P x lam = true) : WF P ∧ KKT P x lam := by
  unfold checkKkt at h
  simp only [Bool.and_eq_true, decide_eq_true_eq] at h
  obtain ⟨⟨⟨⟨hwf, hlen⟩, hfe⟩, hst⟩, hsc⟩ := h
  exact ⟨checkWF_sound P hwf, hlen, feasibleB_sound P x hfe,
    stationaryB_sound P x _ hst, signCompB_sound P x _ hsc⟩

/-! ### the instance: two variables, desired (1,0), constraint x0 ≤ x1; optimum (1/2,1/2), λ = 1 -/
def exP : Problem :=
  { n := 2, d := fun i => if i = 0 then 1 else 0, w := fun _ => 1, s := fun _ => 1,
    cons := [{ l := 0, r := 1, gap := 0, eq := false }] }
def exX : Nat → Rat := fun _ => 1 / 2

theorem ex_check : checkKkt exP exX [1] = true := by decide +kernel

theorem ex_wf : WF exP := (checkKkt_kkt exP exX [1] ex_check).1
theorem ex_kkt : KKT exP exX [1] := (checkKkt_kkt exP exX [1] ex_check).2

def exSwap : Nat → Nat := fun i => if i = 0 then 1 else if i = 1 then 0 else i
theorem exSwap_perm : IsPerm 2 exSwap exSwap := by
  unfold IsPerm; decide

end AdaptaVerif.Lemmas.Qp
