/-
C15 (A) — what a transaction leaves alone (`frame`), the pending-action queue (`Router::actionList`)
between operations (`NoDanglingAction`), what `~Router` releases, and the two fields that only few
operations change (`alive`, `clusters`: `step_keeps`).  Last, the machine as the code was before /repo def6b3d
(`stepOld`) never releases a `ClusterRef`: the ids of the allocated clusters only grow, whatever the history.
Also here, because the later files share them: `cpv` (what the checkpoint ledger reads), `okeys` (identity and kind
of the obstacles), `CActsOk` (what the ConnChange entries of a queue name).
-/
import AdaptaVerif.Lemmas.Lifecycle
import AdaptaVerif.Lemmas.Util.Fold
namespace AdaptaVerif.Lemmas.Lifecycle
open AdaptaVerif.Model.Lifecycle AdaptaVerif.Spec.Lifecycle

/-- what the checkpoint bookkeeping looks at: (connector id, owned vertices) in list order, and the two vertex logs -/
def cpv (s : St) : List (Id × List Id) × List Id × List Id :=
  (s.conns.map (fun c => (c.id, c.cps)), s.vcreated, s.vfreed)

theorem cpv_mapConns {s t : St} (f : Conn → Conn) (hf : ∀ c, (f c).id = c.id ∧ (f c).cps = c.cps)
    (hc : t.conns = s.conns.map f) (h1 : t.vcreated = s.vcreated) (h2 : t.vfreed = s.vfreed) :
    cpv t = cpv s := by
  simp only [cpv, hc, h1, h2, List.map_map]
  congr 1
  apply List.map_congr_left
  intro c _
  simp only [Function.comp, (hf c).1, (hf c).2]

/-- The part of the state no pass of `processActions` touches: the passes rewrite obstacles, pins, the
    queue, the `freed` log and the fault list, and of the connectors only their ends and `active`. -/
def frame (s : St) : Bool × Bool × List Cluster × List Id × (List (Id × List Id) × List Id × List Id) :=
  (s.alive, s.consolidate, s.clusters, s.refFaults, cpv s)

theorem frame_mapConns {s t : St} (f : Conn → Conn) (hf : ∀ c, (f c).id = c.id ∧ (f c).cps = c.cps)
    (hc : t.conns = s.conns.map f)
    (h : (t.alive, t.consolidate, t.clusters, t.refFaults) = (s.alive, s.consolidate, s.clusters, s.refFaults))
    (h1 : t.vcreated = s.vcreated) (h2 : t.vfreed = s.vfreed) : frame t = frame s := by
  simp only [Prod.mk.injEq] at h
  simp only [frame, cpv_mapConns f hf hc h1 h2, h.1, h.2.1, h.2.2.1, h.2.2.2]

theorem frame_detach (s t : St) (o : Id) (hc : t.conns = detachAnchor s.conns o)
    (h : (t.alive, t.consolidate, t.clusters, t.refFaults) = (s.alive, s.consolidate, s.clusters, s.refFaults))
    (h1 : t.vcreated = s.vcreated) (h2 : t.vfreed = s.vfreed) : frame t = frame s :=
  frame_mapConns (fun c => { c with src := detachEnd c.src o, dst := detachEnd c.dst o })
    (fun _ => ⟨rfl, rfl⟩) hc h h1 h2

theorem frame_procRemoveMove (s : St) (a : Action) : frame (procRemoveMove s a) = frame s :=
  procRemoveMove_cases (P := fun t => frame t = frame s) s a (fun _ _ => rfl)
    (fun _ _ => frame_detach s _ a.obj rfl rfl rfl rfl) (fun _ _ _ => frame_detach s _ a.obj rfl rfl rfl rfl) rfl

theorem frame_procAddMove (s : St) (a : Action) : frame (procAddMove s a) = frame s := by
  unfold procAddMove
  split
  · split <;> rfl
  · rfl

theorem setEnd_cps (c : Conn) (isDst : Bool) (e : End) : (setEnd c isDst e).cps = c.cps := by
  unfold setEnd; split <;> rfl

theorem frame_setEnd (s t : St) (c : Id) (d : Bool) (e : End)
    (hc : t.conns = s.conns.map (fun x => if x.id == c then setEnd x d e else x))
    (h : (t.alive, t.consolidate, t.clusters, t.refFaults) = (s.alive, s.consolidate, s.clusters, s.refFaults))
    (h1 : t.vcreated = s.vcreated) (h2 : t.vfreed = s.vfreed) : frame t = frame s := by
  refine frame_mapConns _ (fun x => ?_) hc h h1 h2
  split
  · exact ⟨setEnd_id .., setEnd_cps ..⟩
  · exact ⟨rfl, rfl⟩

theorem frame_applyEnd (s : St) (c : Id) (u : Bool × EndSpec) : frame (applyEnd s c u) = frame s := by
  unfold applyEnd
  split
  · exact frame_setEnd s _ c u.1 none rfl rfl rfl rfl
  · split
    · rfl
    · exact frame_setEnd s _ c u.1 _ rfl rfl rfl rfl

theorem frame_procConnChange (s : St) (a : Action) : frame (procConnChange s a) = frame s := by
  unfold procConnChange
  split
  · split
    · rfl
    · exact Util.foldl_view frame _ (fun s u => frame_applyEnd s a.obj u) _ _
  · rfl

theorem frame_processActions (s : St) : frame s.processActions = frame s := by
  unfold St.processActions
  show frame (List.foldl procConnChange _ _) = _
  rw [Util.foldl_view frame _ frame_procConnChange, Util.foldl_view frame _ frame_procAddMove,
    Util.foldl_view frame _ frame_procRemoveMove]

theorem cids_of_frame {s t : St} (h : frame t = frame s) : cids t = cids s := by
  have := congrArg (fun f => f.2.2.2.2.1.map (·.1)) h
  simpa [frame, cpv, cids, Function.comp_def] using this

-- `m_consolidate_actions` only changes in `setTransactionUse`

@[simp] theorem cons_addFault (s : St) (f : Fault) : (s.addFault f).consolidate = s.consolidate := rfl
@[simp] theorem cons_dropAction (s : St) (t : AType) (o : Id) : (s.dropAction t o).consolidate = s.consolidate := rfl
@[simp] theorem cons_removeFromQueue (s : St) (o : Id) : (s.removeFromQueue o).consolidate = s.consolidate := rfl
@[simp] theorem cons_modify (s : St) (c : Id) (d : Bool) (e : EndSpec) : (s.modify c d e).consolidate = s.consolidate := rfl
@[simp] theorem cons_addObst (s : St) (i : Id) (j a : Bool) : (s.addObst i j a).consolidate = s.consolidate := rfl
@[simp] theorem cons_addPin (s : St) (p o : Id) (c : Nat) : (s.addPin p o c).consolidate = s.consolidate := rfl
@[simp] theorem cons_addConn (s : St) (i : Id) (a : Bool) : (s.addConn i a).consolidate = s.consolidate := rfl
@[simp] theorem cons_unlinkPin (s : St) (p : Id) : (s.unlinkPin p).consolidate = s.consolidate := rfl
@[simp] theorem cons_releasePin (s : St) (p : Id) : (s.releasePin p).consolidate = s.consolidate := rfl
@[simp] theorem cons_freeObstacle (s : St) (o : Id) : (s.freeObstacle o).consolidate = s.consolidate := rfl
@[simp] theorem cons_freeConn (s : St) (c : Id) : (s.freeConn c).consolidate = s.consolidate := rfl
@[simp] theorem cons_addCluster (s : St) (k : Id) (r : List Id) : (s.addCluster k r).consolidate = s.consolidate := rfl
@[simp] theorem cons_setClusterRefs (s : St) (k : Id) (r : List Id) : (s.setClusterRefs k r).consolidate = s.consolidate := rfl
@[simp] theorem cons_routeClusters (s : St) : s.routeClusters.consolidate = s.consolidate := rfl
@[simp] theorem cons_freeCluster (s : St) (k : Id) : (s.freeCluster k).consolidate = s.consolidate := rfl
@[simp] theorem cons_reroute (s : St) : (reroute s).consolidate = s.consolidate := rfl
@[simp] theorem cons_setCheckpoints (s : St) (c : Id) (vs : List Id) :
    (s.setCheckpoints c vs).consolidate = s.consolidate := rfl

theorem actions_processTransaction (s : St) : s.processTransaction.actions = [] := by
  unfold St.processTransaction
  split
  · rename_i h; simpa using h
  · rfl

theorem maybeProcess_on {s : St} (h : s.consolidate = true) : s.maybeProcess = s := by
  unfold St.maybeProcess; rw [if_pos h]

theorem maybeProcess_off {s : St} (h : s.consolidate = false) : s.maybeProcess = s.processTransaction := by
  unfold St.maybeProcess; rw [if_neg (by simp [h])]

/-- for the `by decide` that settle `isShapeAct t` / `isJunctionAct t` at a closed `t` (the callers of `kindAct_ok`
    and `inv_enqueue` in Lemmas/LifecycleInv) -/
instance (t : AType) : Decidable (isShapeAct t) := by unfold isShapeAct; exact inferInstance
instance (t : AType) : Decidable (isJunctionAct t) := by unfold isJunctionAct; exact inferInstance

theorem nd_of_nil {s : St} (h : s.actions = []) : NoDanglingAction s := by
  intro a ha; rw [h] at ha; cases ha

/-- identity and kind of the allocated obstacles: what `hasObst`, `hasShape`, `hasJunction` and `oids` read -/
def okeys (s : St) : List (Id × Bool) := s.obst.map (fun x => (x.id, x.junction))

theorem oids_okeys (s : St) : oids s = (okeys s).map (·.1) := by
  simp [oids, okeys, Function.comp_def]

theorem hasObst_okeys (s : St) (o : Id) : s.hasObst o = (okeys s).any (·.1 == o) := by
  simp [St.hasObst, okeys, List.any_map, Function.comp_def]

theorem hasJunction_okeys (s : St) (o : Id) : s.hasJunction o = (okeys s).any (fun k => k.1 == o && k.2) := by
  simp [St.hasJunction, okeys, List.any_map, Function.comp_def]

theorem hasShape_okeys (s : St) (o : Id) : s.hasShape o = (okeys s).any (fun k => k.1 == o && !k.2) := by
  simp [St.hasShape, okeys, List.any_map, Function.comp_def]

theorem okeys_addObst (s : St) (i : Id) (j a : Bool) : okeys (s.addObst i j a) = okeys s ++ [(i, j)] := by
  simp [okeys, St.addObst]

theorem cids_addConn (s : St) (i : Id) (a : Bool) : cids (s.addConn i a) = cids s ++ [i] := by
  simp [cids, St.addConn]

theorem cids_releasePin (s : St) (p : Id) : cids (s.releasePin p) = cids s := by
  simp [cids, St.releasePin, unpin, Function.comp_def]

theorem cids_setCheckpoints (s : St) (c : Id) (vs : List Id) : cids (s.setCheckpoints c vs) = cids s :=
  Util.map_key_of_map_if Conn.id _ _ (fun _ => by rfl) _

theorem oids_sub_of_okeys {s t : St} (hK : ∀ k ∈ okeys s, k ∈ okeys t) : ∀ o ∈ oids s, o ∈ oids t := by
  intro o ho
  rw [oids_okeys] at *
  obtain ⟨k, hk, rfl⟩ := List.mem_map.1 ho
  exact List.mem_map.2 ⟨k, hK k hk, rfl⟩

theorem nd_transfer {s t : St} (h : NoDanglingAction s) (hact : ∀ a ∈ t.actions, a ∈ s.actions)
    (hK : ∀ k ∈ okeys s, k ∈ okeys t) (hC : ∀ c ∈ cids s, c ∈ cids t) : NoDanglingAction t := by
  have mono : ∀ p : Id × Bool → Bool, (okeys s).any p = true → (okeys t).any p = true := fun p hp => by
    obtain ⟨k, hk, hpk⟩ := List.any_eq_true.1 hp
    exact List.any_eq_true.2 ⟨k, hK k hk, hpk⟩
  intro a ha
  obtain ⟨h1, h2, h3⟩ := h a (hact a ha)
  simp only [hasShape_okeys, hasJunction_okeys, hasObst_okeys, hasConn_iff] at h1 h2 h3 ⊢
  exact ⟨fun x => mono _ (h1 x), fun x => mono _ (h2 x),
    fun x => ⟨hC _ (h3 x).1, fun u hu an han => mono _ ((h3 x).2 u hu an han)⟩⟩

theorem hasShape_addObst_self (s : St) (i : Id) (a : Bool) : (s.addObst i false a).hasShape i = true := by
  simp [St.hasShape, St.addObst, List.any_append]

theorem hasConn_addConn_self (s : St) (i : Id) (a : Bool) : (s.addConn i a).hasConn i = true := by
  simp [St.hasConn, St.addConn, List.any_append]

theorem nd_enqueue {s : St} (h : NoDanglingAction s) (t : AType) (o : Id)
    (hS : isShapeAct t → s.hasShape o = true) (hJ : isJunctionAct t → s.hasJunction o = true)
    (hC : t = .connChange → s.hasConn o = true) : NoDanglingAction (s.enqueue t o) := by
  unfold St.enqueue
  split
  · exact h
  · intro a ha
    simp only [List.mem_append, List.mem_singleton] at ha
    rcases ha with ha | rfl
    · exact h a ha
    · exact ⟨hS, hJ, fun x => ⟨hC x, fun u hu => by cases hu⟩⟩

theorem mem_mergeEnd {ends : List (Bool × EndSpec)} {d : Bool} {e : EndSpec} {pm : Bool}
    {u : Bool × EndSpec} (h : u ∈ mergeEnd ends d e pm) : u ∈ ends ∨ u = (d, e) := by
  unfold mergeEnd at h
  split at h
  · split at h
    · exact Or.inl h
    · simp only [List.mem_map] at h
      obtain ⟨p, hp, rfl⟩ := h
      split
      · exact Or.inr rfl
      · exact Or.inl hp
  · simp only [List.mem_append, List.mem_singleton] at h
    exact h

/-- the ConnChange entries of a queue name connectors in `HC` and, in their queued ends, obstacles in `HO` -/
def CActsOk (HC HO : Id → Prop) (acts : List Action) : Prop :=
  ∀ a ∈ acts, a.type = .connChange → HC a.obj ∧ ∀ u ∈ a.ends, ∀ an, u.2 = some an → HO an.obj

theorem cActsOk_modifyConn {HC HO : Id → Prop} {acts : List Action} (h : CActsOk HC HO acts) {c : Id}
    (d : Bool) {e : EndSpec} (pm : Bool) (hc : HC c) (he : ∀ an, e = some an → HO an.obj) :
    CActsOk HC HO (modifyConn acts c d e pm) := by
  unfold modifyConn
  split
  · intro a ha
    simp only [List.mem_map] at ha
    obtain ⟨a0, ha0, rfl⟩ := ha
    split
    · intro x
      have h3 := h a0 ha0 x
      refine ⟨h3.1, ?_⟩
      intro u hu an han
      rcases mem_mergeEnd hu with hu | rfl
      · exact h3.2 u hu an han
      · exact he an han
    · exact h a0 ha0
  · intro a ha
    simp only [List.mem_append, List.mem_singleton] at ha
    rcases ha with ha | rfl
    · exact h a ha
    · intro _
      refine ⟨hc, ?_⟩
      intro u hu an han
      simp only [List.mem_singleton] at hu
      subst hu; exact he an han

theorem mem_modifyConn_key {acts : List Action} {c : Id} {d : Bool} {e : EndSpec} {pm : Bool}
    {b' : Action} (h : b' ∈ modifyConn acts c d e pm) :
    (∃ b ∈ acts, b'.type = b.type ∧ b'.obj = b.obj) ∨ b'.type = .connChange := by
  unfold modifyConn at h
  split at h
  · rw [List.mem_map] at h
    obtain ⟨b, hb, rfl⟩ := h
    left; refine ⟨b, hb, ?_⟩
    split <;> exact ⟨rfl, rfl⟩
  · rw [List.mem_append, List.mem_singleton] at h
    rcases h with h | rfl
    · exact Or.inl ⟨b', h, rfl, rfl⟩
    · exact Or.inr rfl

theorem nd_modify {s : St} (h : NoDanglingAction s) {c : Id} (d : Bool) {e : EndSpec}
    (hc : s.hasConn c = true) (he : ∀ an, e = some an → s.hasObst an.obj = true) :
    NoDanglingAction (s.modify c d e) := by
  intro a' ha'
  refine ⟨?_, ?_, cActsOk_modifyConn (HC := (s.hasConn · = true)) (HO := (s.hasObst · = true))
    (fun a ha => (h a ha).2.2) d false hc he a' ha'⟩ <;>
  · rcases mem_modifyConn_key ha' with ⟨b, hb, ht, ho⟩ | hk
    · rw [ht, ho]; first | exact (h b hb).1 | exact (h b hb).2.1
    · rw [hk]; exact fun x => absurd x (by decide)

theorem noRemove_iff {s : St} {o : Id} :
    (s.hasAction .shapeRemove o = false ∧ s.hasAction .junctionRemove o = false) ↔
      ∀ b ∈ s.actions, isRemove b.type = true → b.obj ≠ o := by
  simp only [St.hasAction, List.any_eq_false, Bool.and_eq_true, beq_iff_eq, not_and, isRemove, Bool.or_eq_true]
  constructor
  · rintro ⟨h1, h2⟩ b hb (ht | ht) e
    · exact h1 b hb ht e
    · exact h2 b hb ht e
  · exact fun h => ⟨fun b hb ht e => h b hb (Or.inl ht) e, fun b hb ht e => h b hb (Or.inr ht) e⟩

theorem nd_freeConn {s : St} (h : NoDanglingAction s) (c : Id) : NoDanglingAction (s.freeConn c) := by
  intro a ha
  simp only [St.freeConn, St.removeFromQueue, List.mem_filter, bne_iff_ne, ne_eq] at ha
  obtain ⟨h1, h2, h3⟩ := h a ha.1
  refine ⟨h1, h2, fun x => ⟨?_, (h3 x).2⟩⟩
  rw [hasConn_iff, cids_freeConn]
  exact List.mem_filter.2 ⟨hasConn_iff.1 (h3 x).1, by simpa using ha.2⟩

/-- the entry queued by `deleteShape/Junction`, `moveShape/Junction` names an obstacle of its own kind -/
theorem kindAct_ok {s : St} {o : Id} {j : Bool} (hh : (if j then s.hasJunction o else s.hasShape o) = true)
    {tS tJ : AType} (hnS : ¬ isJunctionAct tS) (hnJ : ¬ isShapeAct tJ) :
    (isShapeAct (if j then tJ else tS) → s.hasShape o = true) ∧
      (isJunctionAct (if j then tJ else tS) → s.hasJunction o = true) := by
  cases j
  · exact ⟨fun _ => hh, fun x => absurd x hnS⟩
  · exact ⟨fun x => absurd x hnJ, fun _ => hh⟩

theorem cids_freeObstacle (s : St) (o : Id) : cids (s.freeObstacle o) = cids s := by
  simp [cids, St.freeObstacle, detachAnchor, Function.comp_def]

/-- the last loop of `~Router`: every allocated cluster is linked, so all of them go -/
theorem kids_freeLinkedClusters {g : List Id} {s : St} (h : Core g s) :
    kids ((s.clusters.filter (·.active)).foldl (fun s k => s.freeCluster k.id) s) = [] := by
  rw [List.filter_eq_self.2 h.clActive]
  exact foldl_free_all kids St.freeCluster Cluster.id kids_freeCluster s.clusters s (fun _ hk => hk)

theorem clusters_deleteRouter {g : List Id} {s : St} (h : Core g s) : (destroy s).clusters = [] :=
  List.map_eq_nil_iff.1 (kids_freeLinkedClusters
    (core_freeObsts (core_freeConns h _ List.filter_sublist) _ List.filter_sublist))

theorem legal_deleteRouter {s : St} (hl : Legal s .deleteRouter = true) :
    s.alive = true ∧ (∀ o ∈ s.obst, o.active = true) ∧ (∀ c ∈ s.conns, c.active = true) := by
  simp only [Legal, LegalDoc, Bool.and_eq_true, List.all_eq_true, Bool.and_true] at hl
  exact ⟨hl.1, hl.2.1, hl.2.2⟩

theorem allocated_deleteRouter {g : List Id} {s : St} (h : Core g s) (hl : Legal s .deleteRouter = true) :
    (step s .deleteRouter).alive = false ∧ (step s .deleteRouter).allocated = [] := by
  obtain ⟨hal, hO, hC⟩ := legal_deleteRouter hl
  rw [step_deleteRouter hal]
  refine ⟨rfl, ?_⟩
  simp only [destroy]
  rw [List.filter_eq_self.2 hC]
  have hc1 := core_freeConns h _ (List.Sublist.refl _)
  have e1 := foldl_free_all cids St.freeConn Conn.id cids_freeConn s.conns s (fun _ hk => hk)
  have o1 := Util.foldl_view St.obst (fun (s : St) (c : Conn) => s.freeConn c.id) (fun _ _ => rfl) s.conns s
  generalize s.conns.foldl (fun s c => s.freeConn c.id) s = s1 at hc1 e1 o1 ⊢
  rw [List.filter_eq_self.2 (o1 ▸ hO)]
  have hc2 := core_freeObsts hc1 _ (List.Sublist.refl _)
  have e2 := foldl_free_all oids St.freeObstacle Obst.id oids_freeObstacle s1.obst s1 (fun _ hk => hk)
  have c2 := Util.foldl_view cids (fun (s : St) (o : Obst) => s.freeObstacle o.id) (fun s o => cids_freeObstacle s o.id) s1.obst s1
  generalize s1.obst.foldl (fun s o => s.freeObstacle o.id) s1 = s2 at hc2 e2 c2 ⊢
  have p2 : pids s2 = [] := by
    have : s2.pins = [] := List.eq_nil_iff_forall_not_mem.2 (fun p hp => by have := hc2.pinsOk p hp; rw [e2] at this; cases this)
    simp [pids, this]
  have e3 := kids_freeLinkedClusters hc2
  have k3 := Util.foldl_view (fun t => (oids t, cids t, pids t)) (fun (s : St) (k : Cluster) => s.freeCluster k.id)
    (fun _ _ => rfl) (s2.clusters.filter (·.active)) s2
  generalize (s2.clusters.filter (·.active)).foldl (fun s k => s.freeCluster k.id) s2 = s3 at e3 k3 ⊢
  simp only [Prod.mk.injEq] at k3
  show oids s3 ++ cids s3 ++ pids s3 ++ kids s3 = []
  rw [k3.1, k3.2.1, k3.2.2, e2, c2, e1, p2, e3]; rfl

theorem allReleased_of {s : St} (h : Core [] s) (hal : s.alive = false) (ha : s.allocated = []) :
    AllReleased s := by
  refine ⟨hal, ?_⟩
  intro x hx
  have := (core_liveSetsRefine h).2.2 x
  rw [ha] at this
  by_cases hf : x ∈ s.freed
  · exact hf
  · exact absurd (this.2 ⟨hx, hf⟩) (by simp)

@[simp] theorem alive_addFault (s : St) (f : Fault) : (s.addFault f).alive = s.alive := rfl
@[simp] theorem alive_enqueue (s : St) (t : AType) (o : Id) : (s.enqueue t o).alive = s.alive := by
  unfold St.enqueue; split <;> rfl
@[simp] theorem alive_dropAction (s : St) (t : AType) (o : Id) : (s.dropAction t o).alive = s.alive := rfl
@[simp] theorem alive_removeFromQueue (s : St) (o : Id) : (s.removeFromQueue o).alive = s.alive := rfl
@[simp] theorem alive_modify (s : St) (c : Id) (d : Bool) (e : EndSpec) : (s.modify c d e).alive = s.alive := rfl
@[simp] theorem alive_addObst (s : St) (i : Id) (j a : Bool) : (s.addObst i j a).alive = s.alive := rfl
@[simp] theorem alive_addPin (s : St) (p o : Id) (c : Nat) : (s.addPin p o c).alive = s.alive := rfl
@[simp] theorem alive_addConn (s : St) (i : Id) (a : Bool) : (s.addConn i a).alive = s.alive := rfl
@[simp] theorem alive_unlinkPin (s : St) (p : Id) : (s.unlinkPin p).alive = s.alive := rfl
@[simp] theorem alive_releasePin (s : St) (p : Id) : (s.releasePin p).alive = s.alive := rfl
@[simp] theorem alive_freeObstacle (s : St) (o : Id) : (s.freeObstacle o).alive = s.alive := rfl
@[simp] theorem alive_freeConn (s : St) (c : Id) : (s.freeConn c).alive = s.alive := rfl
@[simp] theorem alive_addCluster (s : St) (k : Id) (r : List Id) : (s.addCluster k r).alive = s.alive := rfl
@[simp] theorem alive_setClusterRefs (s : St) (k : Id) (r : List Id) : (s.setClusterRefs k r).alive = s.alive := rfl
@[simp] theorem alive_routeClusters (s : St) : s.routeClusters.alive = s.alive := rfl
@[simp] theorem alive_freeCluster (s : St) (k : Id) : (s.freeCluster k).alive = s.alive := rfl
@[simp] theorem alive_reroute (s : St) : (reroute s).alive = s.alive := rfl
@[simp] theorem alive_setCheckpoints (s : St) (c : Id) (vs : List Id) :
    (s.setCheckpoints c vs).alive = s.alive := rfl

@[simp] theorem alive_processTransaction (s : St) : s.processTransaction.alive = s.alive := by
  unfold St.processTransaction
  split
  · rfl
  · exact congrArg (·.1) (frame_processActions s)

@[simp] theorem alive_maybeProcess (s : St) : s.maybeProcess.alive = s.alive := by
  unfold St.maybeProcess
  split
  · rfl
  · exact alive_processTransaction s

theorem alive_deleteObstacleOp (s : St) (o : Id) (j : Bool) : (deleteObstacleOp s o j).alive = s.alive :=
  deleteObstacleOp_cases (P := fun t => t.alive = s.alive) (fun _ => rfl) (by simp)

theorem alive_moveObstacleOp (s : St) (o : Id) (j : Bool) : (moveObstacleOp s o j).alive = s.alive :=
  moveObstacleOp_cases (P := fun t => t.alive = s.alive) (fun _ => rfl) rfl (by simp)

@[simp] theorem cl_addFault (s : St) (f : Fault) : (s.addFault f).clusters = s.clusters := rfl
@[simp] theorem cl_enqueue (s : St) (t : AType) (o : Id) : (s.enqueue t o).clusters = s.clusters := by
  unfold St.enqueue; split <;> rfl
@[simp] theorem cl_dropAction (s : St) (t : AType) (o : Id) : (s.dropAction t o).clusters = s.clusters := rfl
@[simp] theorem cl_removeFromQueue (s : St) (o : Id) : (s.removeFromQueue o).clusters = s.clusters := rfl
@[simp] theorem cl_modify (s : St) (c : Id) (d : Bool) (e : EndSpec) : (s.modify c d e).clusters = s.clusters := rfl
@[simp] theorem cl_addObst (s : St) (i : Id) (j a : Bool) : (s.addObst i j a).clusters = s.clusters := rfl
@[simp] theorem cl_addPin (s : St) (p o : Id) (c : Nat) : (s.addPin p o c).clusters = s.clusters := rfl
@[simp] theorem cl_addConn (s : St) (i : Id) (a : Bool) : (s.addConn i a).clusters = s.clusters := rfl
@[simp] theorem cl_unlinkPin (s : St) (p : Id) : (s.unlinkPin p).clusters = s.clusters := rfl
@[simp] theorem cl_releasePin (s : St) (p : Id) : (s.releasePin p).clusters = s.clusters := rfl
@[simp] theorem cl_freeObstacle (s : St) (o : Id) : (s.freeObstacle o).clusters = s.clusters := rfl
@[simp] theorem cl_freeConn (s : St) (c : Id) : (s.freeConn c).clusters = s.clusters := rfl
@[simp] theorem cl_setCheckpoints (s : St) (c : Id) (vs : List Id) : (s.setCheckpoints c vs).clusters = s.clusters := rfl
@[simp] theorem cl_closeRouter (s : St) : s.closeRouter.clusters = s.clusters := rfl

@[simp] theorem cl_processTransaction (s : St) : s.processTransaction.clusters = s.clusters := by
  unfold St.processTransaction
  split
  · rfl
  · exact congrArg (·.2.2.1) (frame_processActions s)

@[simp] theorem cl_maybeProcess (s : St) : s.maybeProcess.clusters = s.clusters := by
  unfold St.maybeProcess
  split
  · rfl
  · simp

theorem cl_deleteObstacleOp (s : St) (o : Id) (j : Bool) : (deleteObstacleOp s o j).clusters = s.clusters :=
  deleteObstacleOp_cases (P := fun t => t.clusters = s.clusters) (fun _ => rfl) (by simp)

theorem cl_moveObstacleOp (s : St) (o : Id) (j : Bool) : (moveObstacleOp s o j).clusters = s.clusters :=
  moveObstacleOp_cases (P := fun t => t.clusters = s.clusters) (fun _ => rfl) rfl (by simp)

theorem step_dead {s : St} (h : s.alive = false) (op : Op) : step s op = s := by
  unfold step; rw [if_pos (by simp [h])]

theorem step_keeps (s : St) (op : Op) (hne : op ≠ .deleteRouter) :
    (step s op).alive = s.alive ∧
      ((∀ k r, op ≠ .newCluster k r) → (∀ k, op ≠ .deleteCluster k) → (∀ k r, op ≠ .setClusterPoly k r) →
        (step s op).clusters = s.clusters) := by
  cases hal : s.alive
  · rw [step_dead hal, hal]; exact ⟨rfl, fun _ _ _ => rfl⟩
  · unfold step
    rw [if_neg (by simp [hal]), ← hal]
    cases op with
    | newShape id => exact ⟨by simp, fun _ _ _ => by simp⟩
    | newJunction id pin => exact ⟨by simp, fun _ _ _ => by simp⟩
    | newConn id src dst ctor3 => exact ⟨by simp, fun _ _ _ => by simp⟩
    | newPin pin shape cls => dsimp only; split <;> exact ⟨by simp, fun _ _ _ => by simp⟩
    | deleteShape id => exact ⟨alive_deleteObstacleOp s _ _, fun _ _ _ => cl_deleteObstacleOp s _ _⟩
    | deleteJunction id => exact ⟨alive_deleteObstacleOp s _ _, fun _ _ _ => cl_deleteObstacleOp s _ _⟩
    | deleteConn id => dsimp only; split <;> exact ⟨by simp, fun _ _ _ => by simp⟩
    | deletePin pin => dsimp only; split <;> exact ⟨by simp, fun _ _ _ => by simp⟩
    | moveShape id => exact ⟨alive_moveObstacleOp s _ _, fun _ _ _ => cl_moveObstacleOp s _ _⟩
    | moveJunction id => exact ⟨alive_moveObstacleOp s _ _, fun _ _ _ => cl_moveObstacleOp s _ _⟩
    | setEndpoint c isDst e => dsimp only; split <;> exact ⟨by simp, fun _ _ _ => by simp⟩
    | setRoutingCheckpoints c vs => dsimp only; split <;> exact ⟨by simp, fun _ _ _ => by simp⟩
    | processTransaction => exact ⟨by simp, fun _ _ _ => by simp⟩
    | setTransactionUse b => exact ⟨rfl, fun _ _ _ => rfl⟩
    | deleteRouter => exact absurd rfl hne
    | rDelConn id => dsimp only; split <;> exact ⟨by simp, fun _ _ _ => by simp⟩
    | rDelJunction id => dsimp only; split <;> exact ⟨by simp, fun _ _ _ => by simp⟩
    | rNewJunction id pin => exact ⟨by simp, fun _ _ _ => by simp⟩
    | rNewConn id => exact ⟨by simp, fun _ _ _ => by simp⟩
    | newCluster id refs => exact ⟨by simp, fun h _ _ => absurd rfl (h id refs)⟩
    | deleteCluster id => dsimp only; split <;> exact ⟨by simp, fun _ h _ => absurd rfl (h id)⟩
    | setClusterPoly id refs => dsimp only; split <;> exact ⟨by simp, fun _ _ h => absurd rfl (h id refs)⟩
    | touchConn c => dsimp only; split <;> exact ⟨by simp, fun _ _ _ => by simp⟩
    | touchPin pin => dsimp only; split <;> exact ⟨by simp, fun _ _ _ => by simp⟩
    | apiRouter => exact ⟨rfl, fun _ _ _ => rfl⟩
    | apiConn c => dsimp only; split <;> exact ⟨by simp, fun _ _ _ => by simp⟩
    | apiObst o => dsimp only; split <;> exact ⟨by simp, fun _ _ _ => by simp⟩

theorem alive_step (s : St) (op : Op) (hne : op ≠ .deleteRouter) : (step s op).alive = s.alive :=
  (step_keeps s op hne).1

theorem alive_step_deleteRouter (s : St) : (step s .deleteRouter).alive = false := by
  cases hal : s.alive
  · rw [step_dead hal]; exact hal
  · rw [step_deleteRouter hal]; rfl

theorem dead_of_deleteRouter (h : List Op) : (run (h ++ [.deleteRouter])).alive = false := by
  unfold run; rw [List.foldl_append]; exact alive_step_deleteRouter _


theorem kids_unlinkCluster (s : St) (k : Id) : kids (s.unlinkCluster k) = kids s :=
  Util.map_key_of_map_if Cluster.id _ _ (fun _ => by rfl) _

theorem stepOld_eq_step (s : St) (op : Op) (h1 : op ≠ .deleteRouter) (h3 : ∀ k, op ≠ .deleteCluster k) :
    stepOld s op = step s op := by
  cases hal : s.alive
  · rw [step_dead hal]; unfold stepOld; rw [if_pos (by simp [hal])]
  · unfold stepOld
    rw [if_neg (by simp [hal])]
    cases op with
    | deleteRouter => exact absurd rfl h1
    | deleteCluster id => exact absurd rfl (h3 id)
    | _ => rfl

theorem kids_stepOld_mono (s : St) (op : Op) : ∀ k ∈ kids s, k ∈ kids (stepOld s op) := by
  intro k hk
  have same : ∀ {t : St}, t.clusters = s.clusters → k ∈ kids t := by
    intro t ht; simp only [kids, ht]; exact hk
  cases hal : s.alive
  · unfold stepOld; rw [if_pos (by simp [hal])]; exact hk
  · by_cases h1 : op = .deleteRouter
    · subst h1
      unfold stepOld
      rw [if_neg (by simp [hal])]
      refine same ?_
      dsimp only
      rw [cl_closeRouter, Util.foldl_view St.clusters (fun (s : St) (o : Obst) => s.freeObstacle o.id) (fun _ _ => rfl),
        Util.foldl_view St.clusters (fun (s : St) (c : Conn) => s.freeConn c.id) (fun _ _ => rfl)]
    by_cases h3 : ∃ id, op = .deleteCluster id
    · obtain ⟨id, rfl⟩ := h3
      unfold stepOld
      rw [if_neg (by simp [hal])]
      dsimp only; split
      · exact hk
      · rw [kids_unlinkCluster]; exact hk
    rw [stepOld_eq_step s op h1 (fun id e => h3 ⟨id, e⟩)]
    by_cases h2 : ∃ id refs, op = .newCluster id refs
    · obtain ⟨id, refs, rfl⟩ := h2
      unfold step
      rw [if_neg (by simp [hal])]
      simp only [kids, St.addCluster, List.map_append, List.mem_append]; exact Or.inl hk
    by_cases h4 : ∃ id refs, op = .setClusterPoly id refs
    · obtain ⟨id, refs, rfl⟩ := h4
      unfold step
      rw [if_neg (by simp [hal])]
      dsimp only; split
      · exact hk
      · rw [kids_setClusterRefs]; exact hk
    exact same ((step_keeps s op h1).2 (fun k r e => h2 ⟨k, r, e⟩) (fun k e => h3 ⟨k, e⟩) (fun k r e => h4 ⟨k, r, e⟩))

theorem kids_stepOld_newCluster (s : St) (hal : s.alive = true) (k : Id) (refs : List Id) :
    k ∈ kids (stepOld s (.newCluster k refs)) := by
  rw [stepOld_eq_step s _ (by simp) (by simp)]
  unfold step
  rw [if_neg (by simp [hal])]
  simp [kids, St.addCluster]

theorem kids_runOld_mono (ops : List Op) (s : St) : ∀ k ∈ kids s, k ∈ kids (ops.foldl stepOld s) := by
  induction ops generalizing s with
  | nil => exact fun _ h => h
  | cons op rest ih => exact fun k hk => ih _ k (kids_stepOld_mono s op k hk)

end AdaptaVerif.Lemmas.Lifecycle
