/-
C19 — the output of `AdaptaVerif.Model.Peel.peel` satisfies `Spec.GraphParts.PeelSpec`: the clauses
that follow from the round invariants and the component structure of H, the two clauses about tree
roots (`identifyRoot`), and the tree-input theorem. Core Lean only.
-/
import AdaptaVerif.Lemmas.PeelModel
import AdaptaVerif.Lemmas.PeelRoot

namespace AdaptaVerif.Lemmas.PeelModel
open AdaptaVerif.Spec.UGraph AdaptaVerif.Model.Peel AdaptaVerif.Lemmas.PeelDefs
open AdaptaVerif.Lemmas.PeelComps AdaptaVerif.Lemmas.PeelStems
open AdaptaVerif.Spec.GraphParts (SameEdge HasEdge ExactlyOne PeelSpec)

theorem sameEdge_of_common {e f g : Nat × Nat} (h1 : SameEdge e f) (h2 : SameEdge e g) :
    SameEdge f g := by
  rcases h1 with rfl | rfl
  · exact h2
  · rcases h2 with rfl | h2
    · exact Or.inr rfl
    · exact Or.inl (Prod.ext (congrArg Prod.snd h2) (congrArg Prod.fst h2))

theorem hasEdge_congr {p : List (Nat × Nat)} {e f : Nat × Nat} (h : SameEdge e f) :
    HasEdge p e ↔ HasEdge p f :=
  ⟨fun ⟨g, hg, heg⟩ => ⟨g, hg, sameEdge_of_common h heg⟩,
    fun ⟨g, hg, hfg⟩ => ⟨g, hg, sameEdge_of_common (sameEdge_of_common h (Or.inl rfl)) hfg⟩⟩

theorem Inv.not_sameEdge_stem {ns : List Nat} {es : List (Nat × Nat)} {s : PState} (hinv : Inv ns es s)
    {g f : Nat × Nat} (hg : g ∈ s.edges) (hf : (f.2, f.1) ∈ s.stems) : ¬ SameEdge g f := by
  obtain ⟨h1, h2⟩ := hinv.edge_not_stem hg
  rintro (rfl | rfl)
  · exact h2 hf
  · exact h1 hf

theorem peel_eq {ns : List Nat} {es : List (Nat × Nat)} {out : PeelOut}
    (h : peel ns es = some out) :
    ∃ s cs, rounds (ns.length + 1) ⟨ns, es, []⟩ = some s ∧
      getConnComps (sortNat (hNodes s.stems)) (hEdges s.stems) = some cs ∧
      out.trees = cs.map (fun c => (⟨c.nodes, c.edges,
        identifyRoot (assignSerials s.stems) (sortNat c.nodes)⟩ : TreeOut)) ∧
      out.coreNodes = s.nodes ∧ out.coreEdges = s.edges ∧ out.stems = s.stems := by
  unfold peel at h
  split at h
  · cases h
  · rename_i s hs
    unfold finish at h
    split at h
    · cases h
    · rename_i cs hcs
      injection h with h
      subst h
      exact ⟨s, cs, hs, hcs, rfl, rfl, rfl, rfl⟩

theorem peel_core {ns : List Nat} {es : List (Nat × Nat)} {out : PeelOut} (hs : Simple ns es)
    (h : peel ns es = some out) :
    out.coreNodes.Sublist ns ∧ out.coreNodes.Nodup ∧
    out.coreEdges = es.filter (fun e => out.coreNodes.contains e.1 && out.coreNodes.contains e.2) ∧
    NoDegreeOne out.coreNodes out.coreEdges := by
  obtain ⟨s, cs, hr, _, _, hn, he, _⟩ := peel_eq h
  obtain ⟨hinv, hl, _⟩ := rounds_final hs hr
  rw [hn, he]
  exact ⟨hinv.nodes_sub, hinv.nodes_sub.nodup hs.1, hinv.edges_eq, noDegreeOne_of_leaves_nil hl⟩

/-- everything of `PeelSpec` except the two fields about roots -/
theorem peel_spec {ns : List Nat} {es : List (Nat × Nat)} {out : PeelOut} (hs : Simple ns es)
    (hc : Connected ns es) (h : peel ns es = some out)
    (root_mem : ∀ t, t ∈ out.trees → t.root ∈ t.nodes)
    (shared : out.coreNodes ≠ [] → ∀ t, t ∈ out.trees → ∀ v, v ∈ t.nodes →
      (v ∈ out.coreNodes ↔ v = t.root)) :
    PeelSpec ns es out.trees out.coreNodes out.coreEdges := by
  obtain ⟨s, cs, hr, hcs, htrees, hn, he, _⟩ := peel_eq h
  obtain ⟨hinv, hl, hrk'⟩ := rounds_final hs hr
  have hrk : Ranked s.stems := hrk' hc
  have sp := comps_spec hcs (hEdges_endpoints s.stems)
  have htmem : ∀ t, t ∈ out.trees → ∃ c, c ∈ cs ∧ t.nodes = c.nodes ∧ t.edges = c.edges := by
    intro t ht
    rw [htrees] at ht
    obtain ⟨c, hc, rfl⟩ := List.mem_map.1 ht
    exact ⟨c, hc, rfl, rfl⟩
  have hnodes_one : ∀ v, ExactlyOne cs (fun c => v ∈ c.nodes) →
      ExactlyOne out.trees (fun t => v ∈ t.nodes) := by
    intro v hx
    rw [htrees]
    exact exactlyOne_map (P := fun t : TreeOut => v ∈ t.nodes) hx
  have hedges_map : out.trees.map (·.edges) = cs.map (·.edges) := by
    rw [htrees, List.map_map]; rfl
  constructor
  case root_mem => exact root_mem
  case shared => exact shared
  case node_cover =>
    intro v hv
    cases (hinv.node_cover v hv).imp id mem_hNodes.2 with
    | inl h1 => exact Or.inl (hn ▸ h1)
    | inr h1 =>
      exact Or.inr (hnodes_one v (comps_node_once sp v (mem_sortNat.2 h1)))
  case node_atmost =>
    intro v _
    by_cases hex : ∃ c, c ∈ cs ∧ v ∈ c.nodes
    · obtain ⟨c, hc, hvc⟩ := hex
      exact Or.inr (hnodes_one v (comps_node_once sp v (comps_subset sp c hc v hvc)))
    · left
      intro t ht hvt
      obtain ⟨c, hc, e1, _⟩ := htmem t ht
      exact hex ⟨c, hc, e1 ▸ hvt⟩
  case core_sub =>
    intro v hv
    exact hinv.nodes_sub.subset (hn ▸ hv)
  case tree_sub =>
    intro t ht v hv
    obtain ⟨c, hc, e1, _⟩ := htmem t ht
    exact hinv.hNodes_sub hs (mem_sortNat.1 (comps_subset sp c hc v (e1 ▸ hv)))
  case edge_once =>
    intro e hee
    rw [hedges_map, he]
    cases hinv.edge_cover e hee with
    | inl h1 =>
      -- `e` remains in the core: no component of H has it
      refine exactlyOne_cons_head ⟨e, h1, Or.inl rfl⟩ ?_
      intro p hp hhas
      obtain ⟨c, hc, rfl⟩ := List.mem_map.1 hp
      obtain ⟨g, hg, heg⟩ := hhas
      have hgH := ((comps_edges_iff sp c hc g).1 hg).1
      exact hinv.not_sameEdge_stem h1 (mem_hEdges.1 hgH) heg
    | inr h1 =>
      -- `e` is, up to orientation, an edge `f` of H: it is in the one component that holds `f`
      have hf : ∃ f, f ∈ hEdges s.stems ∧ SameEdge e f ∧ (f.2, f.1) ∈ s.stems := by
        cases h1 with
        | inl h2 => exact ⟨(e.2, e.1), mem_hEdges.2 h2, Or.inr rfl, h2⟩
        | inr h2 => exact ⟨(e.1, e.2), mem_hEdges.2 h2, Or.inl rfl, h2⟩
      obtain ⟨f, hfH, hef, hfst⟩ := hf
      refine exactlyOne_cons_tail ?_
        (exactlyOne_map (P := fun p : List (Nat × Nat) => HasEdge p e)
          (exactlyOne_congr (fun c _ => (hasEdge_congr hef).symm)
            (comps_edge_once sp (hEdges_endpoints s.stems) f hfH)))
      rintro ⟨g, hg, heg⟩
      exact hinv.not_sameEdge_stem hg hfst (sameEdge_of_common heg hef)
  case core_edges_sub =>
    intro f hf
    rw [he] at hf
    obtain ⟨m0, m1, m2⟩ := hinv.mem_edges.1 hf
    exact ⟨⟨f, m0, Or.inl rfl⟩, hn ▸ m1, hn ▸ m2⟩
  case tree_edges_sub =>
    intro t ht f hf
    obtain ⟨c, hc, e1, e2⟩ := htmem t ht
    rw [e2] at hf
    rw [e1]
    obtain ⟨hfH, hf1⟩ := (comps_edges_iff sp c hc f).1 hf
    obtain ⟨_, hf2⟩ := (comps_edges_iff' sp c hc f).1 hf
    refine ⟨?_, hf1, hf2⟩
    have hst : (f.2, f.1) ∈ s.stems := mem_hEdges.1 hfH
    cases (hinv.stem_ok _ _ hst).1 with
    | inl hm => exact ⟨(f.2, f.1), hm, Or.inr rfl⟩
    | inr hm => exact ⟨f, hm, Or.inl rfl⟩
  case trees_ok =>
    intro t ht
    obtain ⟨c, hc, e1, e2⟩ := htmem t ht
    rw [e1, e2]
    refine ⟨comps_nonempty sp c hc, comps_connected sp c hc, ?_⟩
    exact Acyclic.mono (fun e hec => ((comps_edges_iff sp c hc e).1 hec).1)
      (ranked_acyclic hrk)
  case core_deg =>
    rw [hn, he]
    exact noDegreeOne_of_leaves_nil hl

/-- `v` is joined to a core node in the input, and climbing maps that walk into the core -/
theorem nonleaf_in_core {ns : List Nat} {es : List (Nat × Nat)} {s : PState} (hs : Simple ns es)
    (hinv : Inv ns es s) (hr : Ranked s.stems) (hc : Connected ns es) (hne : s.nodes ≠ []) {v : Nat}
    (hv : v ∈ hNodes s.stems) (hnl : v ∉ leafList s.stems) : v ∈ s.nodes := by
  obtain ⟨c, hcm⟩ := List.exists_mem_of_ne_nil _ hne
  obtain ⟨tc, htc, h⟩ := hinv.retract hr (hc v (hinv.hNodes_sub hs hv) c (hinv.nodes_sub.subset hcm))
    (Climbs.top hnl)
  cases h with
  | refl => exact htc.of_not_leaf (hinv.not_leaf hcm) ▸ hcm
  | step hab _ => exact (simple_adj (hinv.core_simple hs) hab).1

theorem peel_root_mem {ns : List Nat} {es : List (Nat × Nat)} {out : PeelOut}
    (hs : Simple ns es) (hc : Connected ns es) (h : peel ns es = some out) :
    ∀ t, t ∈ out.trees → t.root ∈ t.nodes := by
  obtain ⟨s, cs, hr, hcs, htrees, _, _, _⟩ := peel_eq h
  have hrk : Ranked s.stems := (rounds_final hs hr).2.2 hc
  intro t ht
  rw [htrees] at ht
  obtain ⟨c, hcm, rfl⟩ := List.mem_map.1 ht
  exact (PeelRoot.identifyRoot_spec hrk hcs c hcm).1

theorem peel_shared {ns : List Nat} {es : List (Nat × Nat)} {out : PeelOut}
    (hs : Simple ns es) (hc : Connected ns es) (h : peel ns es = some out) :
    out.coreNodes ≠ [] → ∀ t, t ∈ out.trees → ∀ v, v ∈ t.nodes →
      (v ∈ out.coreNodes ↔ v = t.root) := by
  obtain ⟨s, cs, hr, hcs, htrees, hn, _, _⟩ := peel_eq h
  obtain ⟨hinv, _, hrk'⟩ := rounds_final hs hr
  have hrk : Ranked s.stems := hrk' hc
  intro hne t ht v hv
  rw [hn] at hne ⊢
  rw [htrees] at ht
  obtain ⟨c, hcm, rfl⟩ := List.mem_map.1 ht
  obtain ⟨r1, r2, r3⟩ := PeelRoot.identifyRoot_spec hrk hcs c hcm
  constructor
  · intro hvn
    exact r3 v hv (hinv.not_leaf hvn)
  · intro e
    have e' : v = identifyRoot (assignSerials s.stems) (sortNat c.nodes) := e
    rw [e']
    exact nonleaf_in_core hs hinv hrk hc hne
      (mem_sortNat.1 (comps_subset (comps_spec hcs (hEdges_endpoints _)) c hcm _ r1)) r2

theorem eq_of_mem_length_le_one {l : List Nat} (h : l.length ≤ 1) {a b : Nat} (ha : a ∈ l)
    (hb : b ∈ l) : a = b := by
  match l, h with
  | [], _ => cases ha
  | [c], _ => exact (List.mem_singleton.1 ha).trans (List.mem_singleton.1 hb).symm
  | _ :: _ :: _, h => simp only [List.length_cons] at h; omega

/-- `hleaf` is `PeelLeaf.tree_noDegreeOne_small`, which is proved from the BFS witness of the tree checker
    (`PeelCheck.acyclicB_complete`); as a hypothesis it keeps `Check/` out of the imports of the model theorems. -/
theorem peel_tree_input {ns : List Nat} {es : List (Nat × Nat)} {out : PeelOut}
    (hleaf : ∀ (ns' : List Nat) (es' : List (Nat × Nat)), Simple ns' es' → Connected ns' es' →
      Acyclic es' → NoDegreeOne ns' es' → ns'.length ≤ 1)
    (hs : Simple ns es) (ht : IsTree ns es) (h2 : 2 ≤ ns.length) (h : peel ns es = some out) :
    out.coreNodes.length ≤ 1 ∧ out.coreEdges = [] ∧
      ∃ t, out.trees = [t] ∧ (∀ v, v ∈ ns → v ∈ t.nodes) ∧ (∀ e, e ∈ es → HasEdge t.edges e) := by
  obtain ⟨hnn, hc, hac⟩ := ht
  obtain ⟨s, cs, hr, hcs, htrees, hn, he, _⟩ := peel_eq h
  obtain ⟨hinv, hl, hrk⟩ := rounds_final hs hr
  have sp := comps_spec hcs (hEdges_endpoints s.stems)
  have hlen : s.nodes.length ≤ 1 :=
    hleaf s.nodes s.edges (hinv.core_simple hs) (hinv.core_connected (hrk hc) hc)
      (Acyclic.mono (fun _ he' => (hinv.mem_edges.1 he').1) hac) (noDegreeOne_of_leaves_nil hl)
  have hedges : s.edges = [] := by
    apply List.eq_nil_iff_forall_not_mem.2
    intro e hem
    obtain ⟨m1, m2, m3⟩ := (hinv.core_simple hs).2.1 e hem
    exact m3 (eq_of_mem_length_le_one hlen m1 m2)
  have hadj : ∀ a b, Adj es a b → Adj (hEdges s.stems) a b := fun a b hab =>
    (hinv.adj_fate hab).resolve_left (fun h1 => by rw [hedges] at h1; exact h1.elim nofun nofun)
  -- every node has a neighbour, hence is a node of H; H is connected
  have hnodes : ∀ v, v ∈ ns → v ∈ sortNat (hNodes s.stems) := by
    intro v hv
    obtain ⟨x, hx, hxv⟩ := Util.exists_ne_of_two hs.1 h2 v
    cases hc v hv x hx with
    | refl => exact absurd rfl hxv
    | step hab _ =>
      exact (hadj _ _ hab).elim (fun h1 => (hEdges_endpoints s.stems _ h1).1)
        (fun h1 => (hEdges_endpoints s.stems _ h1).2)
  have hHc : Connected (sortNat (hNodes s.stems)) (hEdges s.stems) := fun u hu v hv =>
    reach_imp hadj (hc u (hinv.hNodes_sub hs (mem_sortNat.1 hu)) v
      (hinv.hNodes_sub hs (mem_sortNat.1 hv)))
  obtain ⟨x, hx⟩ := List.exists_mem_of_ne_nil _ hnn
  obtain ⟨c, hceq, hcall⟩ := comps_of_connected sp hHc (List.ne_nil_of_mem (hnodes x hx))
  have hcm : c ∈ cs := hceq ▸ List.mem_cons_self
  rw [hceq] at htrees
  refine ⟨hn ▸ hlen, he ▸ hedges, _, htrees, fun v hv => hcall v (hnodes v hv), fun e hee => ?_⟩
  have hin : ∀ f, f ∈ hEdges s.stems → f ∈ c.edges := fun f hf =>
    (comps_edges_iff sp c hcm f).2 ⟨hf, hcall _ (hEdges_endpoints _ f hf).1⟩
  exact (hadj e.1 e.2 (Or.inl hee)).elim (fun h1 => ⟨_, hin _ h1, Or.inl rfl⟩)
    (fun h1 => ⟨_, hin _ h1, Or.inr rfl⟩)

end AdaptaVerif.Lemmas.PeelModel
