/-
Lemmas about `Model/OrthVis.lean`: `SegmentListWrapper::insert` (`insertSeg`, `mergeAll`).  The element that
`insertSeg l s` adds is the hull of `s` and the segments of `l` meeting it (`foldl_merge_eq`); from that closed
form: merged lines are good, nothing is lost by merging — every candidate segment is covered (extent and
vertices) by a merged line —, merged lines are pairwise disjoint, and every vertex of a merged line comes from a
candidate segment.
-/
import AdaptaVerif.Lemmas.OrthVis
import AdaptaVerif.Lemmas.Util.List

namespace AdaptaVerif.Lemmas.OrthVis
open AdaptaVerif.Model.OrthVis

def Covers (m s : Seg) : Prop := m.p = s.p ∧ m.b ≤ s.b ∧ s.f ≤ m.f ∧ ∀ q ∈ s.vs, q ∈ m.vs

theorem Covers.refl (s : Seg) : Covers s s := ⟨rfl, le_refl _, le_refl _, fun _ h => h⟩

theorem Covers.trans {a b c : Seg} (h1 : Covers a b) (h2 : Covers b c) : Covers a c :=
  ⟨h1.1.trans h2.1, le_trans h1.2.1 h2.2.1, le_trans h2.2.2.1 h1.2.2.1, fun q hq => h1.2.2.2 q (h2.2.2.2 q hq)⟩

def Meets (a b : Seg) : Prop := a.p = b.p ∧ ∃ u, a.b ≤ u ∧ u ≤ a.f ∧ b.b ≤ u ∧ u ≤ b.f

theorem meets_symm {a b : Seg} (h : Meets a b) : Meets b a := by
  obtain ⟨hp, u, u1, u2, u3, u4⟩ := h
  exact ⟨hp.symm, u, u3, u4, u1, u2⟩

theorem overlaps_p {a b : Seg} (h : a.overlaps b = true) : a.p = b.p := by
  unfold Seg.overlaps at h
  simp only [Bool.and_eq_true, beq_iff_eq] at h
  exact h.1

theorem overlaps_iff_meets {a b : Seg} (wa : a.b ≤ a.f) (wb : b.b ≤ b.f) : a.overlaps b = true ↔ Meets a b := by
  unfold Seg.overlaps Meets
  simp only [Bool.and_eq_true, Bool.or_eq_true, decide_eq_true_eq, beq_iff_eq, ge_iff_le]
  refine and_congr_right fun _ => ⟨?_, ?_⟩
  · rintro (⟨h1, h2⟩ | ⟨h1, h2⟩)
    · exact ⟨a.b, le_refl _, wa, h1, h2⟩
    · exact ⟨b.b, h1, h2, le_refl _, wb⟩
  · rintro ⟨u, u1, u2, u3, u4⟩
    rcases le_total b.b a.b with h | h
    · exact Or.inl ⟨h, le_trans u1 u4⟩
    · exact Or.inr ⟨h, le_trans u3 u2⟩

theorem foldl_merge_eq (ov : List Seg) (m : Seg) :
    ov.foldl Seg.merge m =
      ⟨minL m.b (ov.map (·.b)), maxL m.f (ov.map (·.f)), m.p, m.vs ++ ov.flatMap (·.vs)⟩ := by
  induction ov generalizing m with
  | nil => simp [minL, maxL]
  | cons c r ih => simp [ih, Seg.merge, minL, maxL]

/-- everything merged meets `s`, so it lies on the same side of a rectangle as `s` does -/
theorem hull_good {P : Rect → Prop} {rects : List Rect} {s : Seg} {ov : List Seg} (hs : Good P rects s)
    (hov : ∀ c ∈ ov, Good P rects c ∧ Meets c s) : Good P rects (ov.foldl Seg.merge s) := by
  rw [foldl_merge_eq]
  refine ⟨le_trans (minL_le _ _) (le_trans hs.wf (le_maxL _ _)), fun R hR h0 h1 hw => ?_, fun q hq => ?_⟩
  · by_cases hP : P R
    · exact Or.inr (Or.inr hP)
    have hc : ∀ c ∈ ov, (R.x1 ≤ c.b ∨ c.f ≤ R.x0) ∧ ∃ u, c.b ≤ u ∧ u ≤ c.f ∧ s.b ≤ u ∧ u ≤ s.f := by
      intro c hc
      obtain ⟨gc, hp, hu⟩ := hov c hc
      refine ⟨?_, hu⟩
      rcases gc.blocked R hR (lt_of_lt_of_eq h0 hp.symm) (lt_of_eq_of_lt hp h1) hw with h | h | h
      · exact Or.inl h
      · exact Or.inr h
      · exact absurd h hP
    rcases hs.blocked R hR h0 h1 hw with h | h | h
    · refine Or.inl (le_minL h fun x hx => ?_)
      obtain ⟨c, hcm, rfl⟩ := List.mem_map.mp hx
      obtain ⟨h' | h', u, _, u2, u3, _⟩ := hc c hcm
      · exact h'
      · exact absurd (lt_of_lt_of_le hw (le_trans h (le_trans u3 (le_trans u2 h')))) (lt_irrefl _)
    · refine Or.inr (Or.inl (maxL_le h fun x hx => ?_))
      obtain ⟨c, hcm, rfl⟩ := List.mem_map.mp hx
      obtain ⟨h' | h', u, u1, _, _, u4⟩ := hc c hcm
      · exact absurd (lt_of_lt_of_le hw (le_trans h' (le_trans u1 (le_trans u4 h)))) (lt_irrefl _)
      · exact h'
    · exact absurd h hP
  · rcases List.mem_append.mp hq with hq | hq
    · obtain ⟨h1, h2⟩ := hs.inr q hq
      exact ⟨le_trans (minL_le _ _) h1, le_trans h2 (le_maxL _ _)⟩
    · obtain ⟨c, hc, hq⟩ := List.mem_flatMap.mp hq
      obtain ⟨h1, h2⟩ := (hov c hc).1.inr q hq
      exact ⟨le_trans (minL_le_mem (List.mem_map_of_mem hc)) h1, le_trans h2 (mem_le_maxL (List.mem_map_of_mem hc))⟩

theorem hull_covers (s : Seg) (ov : List Seg) (hp : ∀ c ∈ ov, c.p = s.p) :
    Covers (ov.foldl Seg.merge s) s ∧ ∀ c ∈ ov, Covers (ov.foldl Seg.merge s) c := by
  rw [foldl_merge_eq]
  exact ⟨⟨rfl, minL_le _ _, le_maxL _ _, fun q hq => List.mem_append_left _ hq⟩,
    fun c hc => ⟨(hp c hc).symm, minL_le_mem (List.mem_map_of_mem hc), mem_le_maxL (List.mem_map_of_mem hc),
      fun q hq => List.mem_append_right _ (List.mem_flatMap.mpr ⟨c, hc, hq⟩)⟩⟩

/-- the hull is the union: its ends are ends of pieces, and every piece reaches into `s` -/
theorem meets_hull {s x : Seg} {ov : List Seg} (hov : ∀ c ∈ ov, Meets c s)
    (h : Meets x (ov.foldl Seg.merge s)) : Meets x s ∨ ∃ c ∈ ov, Meets x c := by
  rw [foldl_merge_eq] at h
  obtain ⟨hxp, w, w1, w2, w3, w4⟩ := h
  by_cases h1 : w < s.b
  · rcases minL_mem s.b (ov.map (·.b)) with e | e
    · exact absurd (lt_of_le_of_lt (le_of_eq_of_le e.symm w3) h1) (lt_irrefl _)
    · obtain ⟨c, hc, hcb⟩ := List.mem_map.mp e
      obtain ⟨hcp, u, _, u2, u3, _⟩ := hov c hc
      exact Or.inr ⟨c, hc, hxp.trans hcp.symm, w, w1, w2, le_of_eq_of_le hcb w3,
        le_trans (le_of_lt h1) (le_trans u3 u2)⟩
  by_cases h2 : s.f < w
  · rcases maxL_mem s.f (ov.map (·.f)) with e | e
    · exact absurd (lt_of_lt_of_le h2 (le_of_le_of_eq w4 e)) (lt_irrefl _)
    · obtain ⟨c, hc, hcf⟩ := List.mem_map.mp e
      obtain ⟨hcp, u, u1, _, _, u4⟩ := hov c hc
      exact Or.inr ⟨c, hc, hxp.trans hcp.symm, w, w1, w2, le_trans u1 (le_trans u4 (le_of_lt h2)),
        le_of_le_of_eq w4 hcf.symm⟩
  · exact Or.inl ⟨hxp, w, w1, w2, not_lt.mp h1, not_lt.mp h2⟩

theorem insertSeg_good {P : Rect → Prop} {rects : List Rect} {l : List Seg} {s : Seg}
    (hl : ∀ c ∈ l, Good P rects c) (hs : Good P rects s) : ∀ m ∈ insertSeg l s, Good P rects m := by
  intro m hm
  rcases List.mem_append.mp hm with hm | hm
  · exact hl m (List.mem_filter.mp hm).1
  · obtain rfl := List.mem_singleton.mp hm
    refine hull_good hs fun c hc => ?_
    obtain ⟨h1, h2⟩ := List.mem_filter.mp hc
    exact ⟨hl c h1, (overlaps_iff_meets (hl c h1).wf hs.wf).mp h2⟩

theorem mergeAll_good {P : Rect → Prop} {rects : List Rect} {raw : List Seg}
    (h : ∀ s ∈ raw, Good P rects s) : ∀ m ∈ mergeAll raw, Good P rects m :=
  List.foldlRecOn raw insertSeg (motive := fun acc => ∀ m ∈ acc, Good P rects m) nofun
    fun _ ha s hs => insertSeg_good ha (h s hs)

theorem insertSeg_covers (l : List Seg) (s x : Seg) (hx : x = s ∨ x ∈ l) :
    ∃ m ∈ insertSeg l s, Covers m x := by
  have hfc := hull_covers s (l.filter fun c => c.overlaps s) (fun c hc => overlaps_p (List.mem_filter.mp hc).2)
  have hmem : (l.filter fun c => c.overlaps s).foldl Seg.merge s ∈ insertSeg l s :=
    List.mem_append_right _ (List.mem_singleton.mpr rfl)
  rcases hx with rfl | hx
  · exact ⟨_, hmem, hfc.1⟩
  · by_cases ho : x.overlaps s = true
    · exact ⟨_, hmem, hfc.2 x (List.mem_filter.mpr ⟨hx, ho⟩)⟩
    · exact ⟨x, List.mem_append_left _ (List.mem_filter.mpr ⟨hx, by simpa using ho⟩), Covers.refl x⟩

theorem mergeAll_covers (raw : List Seg) : ∀ x ∈ raw, ∃ m ∈ mergeAll raw, Covers m x := by
  intro x hx
  obtain ⟨pre, post, rfl⟩ := List.append_of_mem hx
  unfold mergeAll
  rw [List.foldl_append, List.foldl_cons]
  exact List.foldlRecOn post insertSeg (motive := fun acc => ∃ m ∈ acc, Covers m x)
    (insertSeg_covers _ x x (Or.inl rfl))
    fun acc ⟨m, hm, hc⟩ s _ =>
      let ⟨m', hm', hc'⟩ := insertSeg_covers acc s m (Or.inr hm)
      ⟨m', hm', hc'.trans hc⟩

theorem mergeAll_vs_from_raw (raw : List Seg) :
    ∀ m ∈ mergeAll raw, ∀ q ∈ m.vs, ∃ r ∈ raw, r.p = m.p ∧ q ∈ r.vs := by
  refine List.foldlRecOn raw insertSeg (motive := fun acc => ∀ m ∈ acc, ∀ q ∈ m.vs, ∃ r ∈ raw, r.p = m.p ∧ q ∈ r.vs)
    (fun _ hm => absurd hm List.not_mem_nil) fun acc hacc s hs m hm q hq => ?_
  rcases List.mem_append.mp hm with hm | hm
  · exact hacc m (List.mem_filter.mp hm).1 q hq
  · obtain rfl := List.mem_singleton.mp hm
    rw [foldl_merge_eq] at hq ⊢
    rcases List.mem_append.mp hq with hq | hq
    · exact ⟨s, hs, rfl, hq⟩
    · obtain ⟨c, hc, hq⟩ := List.mem_flatMap.mp hq
      obtain ⟨hc1, hc2⟩ := List.mem_filter.mp hc
      obtain ⟨r, hr, hrp, hrq⟩ := hacc c hc1 q hq
      exact ⟨r, hr, hrp.trans (overlaps_p hc2 : c.p = s.p), hrq⟩

/-- invariant of the segment list -/
def Disjoint (l : List Seg) : Prop :=
  (∀ s ∈ l, s.b ≤ s.f) ∧ l.Pairwise (fun a b => ¬ Meets a b)

theorem Disjoint.not_meets {l : List Seg} (h : Disjoint l) {x y : Seg} (hx : x ∈ l) (hy : y ∈ l) (hne : x ≠ y) :
    ¬ Meets x y :=
  Util.pairwise_of_symm_ne (fun _ _ hab hba => hab (meets_symm hba)) h.2 hx hy hne

theorem insertSeg_disjoint {l : List Seg} {s : Seg} (hl : Disjoint l) (ws : s.b ≤ s.f) :
    Disjoint (insertSeg l s) := by
  have hwf := hl.1
  have hov : ∀ c ∈ l.filter (fun c => c.overlaps s), Meets c s := fun c hc =>
    (overlaps_iff_meets (hwf c (List.mem_filter.mp hc).1) ws).mp (List.mem_filter.mp hc).2
  constructor
  · intro x hx
    rcases List.mem_append.mp hx with hx | hx
    · exact hwf x (List.mem_filter.mp hx).1
    · obtain rfl := List.mem_singleton.mp hx
      rw [foldl_merge_eq]
      exact le_trans (minL_le _ _) (le_trans ws (le_maxL _ _))
  · refine List.pairwise_append.mpr ⟨hl.2.sublist List.filter_sublist, List.pairwise_singleton _ _, ?_⟩
    intro x hx y hy hm
    obtain rfl := List.mem_singleton.mp hy
    obtain ⟨hxl, hxo⟩ := List.mem_filter.mp hx
    rcases meets_hull hov hm with h | ⟨c, hc, h⟩
    · simp [(overlaps_iff_meets (hwf x hxl) ws).mpr h] at hxo
    · -- x and c are two different members of the old list (one overlaps s, the other does not)
      obtain ⟨hc1, hc2⟩ := List.mem_filter.mp hc
      have hne : x ≠ c := by
        rintro rfl; simp [hc2] at hxo
      exact hl.not_meets hxl hc1 hne h

theorem mergeAll_disjoint (raw : List Seg) (hw : ∀ s ∈ raw, s.b ≤ s.f) : Disjoint (mergeAll raw) :=
  List.foldlRecOn raw insertSeg (motive := Disjoint) ⟨nofun, List.Pairwise.nil⟩
    fun _ ha s hs => insertSeg_disjoint ha (hw s hs)

end AdaptaVerif.Lemmas.OrthVis
