/-
`posn = (AD − AB)/A2` (model: `blockPosn`, `refreshBlock`) is the stationarity of the block as a
whole: a block whose recorded position is the one `Block::updateWeightedPosition` computes from its
member list, and whose member list enumerates exactly the variables of the block, has
`Σ_{x ∈ block} 2·w_x·(pos_x − d_x)/s_x = 0` (`Props/C02Model.block_posn_is_stationarity`).  Here: the
fold of `PositionStats::addVariable` as three list sums, and the arithmetic of the argument.
-/
import AdaptaVerif.Model.Vpsc
import AdaptaVerif.Lemmas.Qp
namespace AdaptaVerif.Lemmas.VpscKktFresh
open AdaptaVerif.Model.Vpsc
open AdaptaVerif.Spec.Qp (listSum)
open AdaptaVerif.Lemmas.Qp

theorem foldl_sum3 (f g h : Nat → Rat) : ∀ (l : List Nat) (a b c : Rat),
    l.foldl (fun (acc : Rat × Rat × Rat) i => (acc.1 + f i, acc.2.1 + g i, acc.2.2 + h i)) (a, b, c) =
      (a + listSum f l, b + listSum g l, c + listSum h l)
  | [], a, b, c => by simp [listSum]
  | i :: l, a, b, c => by
    rw [List.foldl_cons, foldl_sum3 f g h l]
    simp only [listSum, add_assoc]

theorem blockPosn_eq (vars : Array Var) (members : Array Nat) :
    blockPosn vars members =
      ((vars[members[0]!]!).scale,
       (listSum (fun i => (vars[i]!).weight * ((vars[members[0]!]!).scale / (vars[i]!).scale) *
            (vars[i]!).desired) members.toList -
        listSum (fun i => (vars[i]!).weight * ((vars[members[0]!]!).scale / (vars[i]!).scale) *
            ((vars[i]!).offset / (vars[i]!).scale)) members.toList) /
        listSum (fun i => (vars[i]!).weight * ((vars[members[0]!]!).scale / (vars[i]!).scale) *
            ((vars[members[0]!]!).scale / (vars[i]!).scale)) members.toList) := by
  unfold blockPosn
  simp only [← Array.foldl_toList]
  rw [foldl_sum3]
  simp only [zero_add]

/-- `dfdv/scale` of a member (weight `w`, scale `s`, offset `o`, desired `d`) of a block with scale
    `S` at position `p`, in the `(a, b, d)` form of `PositionStats` -/
theorem q_term {w s S p o d : Rat} (hs : s ≠ 0) (hS : S ≠ 0) :
    2 * w * ((S * p + o) / s - d) / s =
      2 / S * (w * (S / s) * (S / s) * p + w * (S / s) * (o / s) - w * (S / s) * d) := by
  field_simp

theorem listSum_stationary {α : Type} (l : List α) (fA fB fD f : α → Rat) (c p : Rat)
    (hf : ∀ x ∈ l, f x = c * (fA x * p + fB x - fD x))
    (hp : p = (listSum fD l - listSum fB l) / listSum fA l) (hA : listSum fA l ≠ 0) :
    listSum f l = 0 := by
  have e : listSum (fun x => c * (fA x * p + fB x - fD x)) l =
      c * (listSum fA l * p + listSum fB l - listSum fD l) := by
    clear hf hp hA
    induction l with
    | nil => simp [listSum]
    | cons a l ih => simp only [listSum, ih]; ring
  rw [listSum_congr hf, e, mul_comm _ p, hp, div_mul_cancel₀ _ hA]
  ring

end AdaptaVerif.Lemmas.VpscKktFresh
