/-
Fuel of the loops of `mergeLeft` / `mergeRight` in the static VPSC solver's model: every round of the `while` loop
merges the block it is on with a different owning block, so the surviving block has more variables than the block the
round started on (`cnt_mergeDir`; `cntOld`, the measure of `populateSplitBlock`); a block has at most `n` variables, and
the model's loop fuel is `m + n + 2`.
Hence `mergeLeft_keeps` / `mergeRight_keeps`: whatever the state they keep sizes, `St.fuelOut` and the constraint data
(`MFrame`); from a state satisfying `WF`, on a block that owns a variable, they re-establish `WF` and leave the heap
side's fuel flag alone.  Also: a start in which every constraint holds is a fixed point of `satisfy` (`satisfy_idle`).
-/
import AdaptaVerif.Lemmas.VpscStaticMem
namespace AdaptaVerif.Lemmas.VpscStaticMem
open AdaptaVerif.Model.Vpsc AdaptaVerif.Model.VpscStatic
open AdaptaVerif.Lemmas.VpscInv AdaptaVerif.Lemmas.VpscStatic
open AdaptaVerif.Lemmas.VpscStaticFuel

/-- `r->timeStamp=++blockTimeCtr;` -/
def stampL (hs : HS) (r : Nat) : HS := stampB { hs with ctr := hs.ctr + 1 } r

theorem mergeLeft_eq (s : SSt) (r : Nat) :
    mergeLeft s r = mergeLeftLoop (loopFuel s.st) { st := s.st, hs := setUpIn s.st (stampL s.hs r) r } r := rfl

theorem mergeRight_eq (s : SSt) (l : Nat) :
    mergeRight s l = mergeRightLoop (loopFuel s.st) { st := s.st, hs := setUpOut s.st s.hs l } l := rfl

theorem cnt_mergeDir (st : St) (ci dst src : Nat) (d : Rat) (hI : IC st) (hj : Joins st ci dst src d) (b : Nat)
    (hb : blk st.vars (st.cons[ci]!).l = b ∨ blk st.vars (st.cons[ci]!).r = b) :
    cntOld b st.vars < cntOld dst (mergeDir st ci dst src d).vars := by
  have hm := mergeHyp_of hI hj
  have hb' : b = dst ∨ b = src := by
    rcases hj.2 with ⟨h1, h2, _⟩ | ⟨h1, h2, _⟩ <;> rcases hb with rfl | rfl
    · exact Or.inr h1.symm
    · exact Or.inl h2.symm
    · exact Or.inl h2.symm
    · exact Or.inr h1.symm
  obtain ⟨w, hw, hwb⟩ : Owns st (if b = dst then src else dst) := by split; exact hm.osrc; exact hm.odst
  change blk st.vars w = _ at hwb
  have hbl : ∀ x, x < st.vars.size →
      blk (mergeDir st ci dst src d).vars x = if blk st.vars x = src then dst else blk st.vars x :=
    fun x hx => blkOf_mergeDir st ci dst src d x hx
  unfold cntOld
  rw [(mergeDir_frame st ci dst src d).vsz]
  refine Util.length_filter_lt _ _ _ (fun x hx hp => ?_) w ?_ ?_ (List.mem_range.2 hw)
  · simp only [beq_iff_eq] at hp ⊢
    rw [hbl x (List.mem_range.1 hx), hp]
    rcases hb' with rfl | rfl
    · rw [if_neg hm.ne]
    · rw [if_pos rfl]
  · simp only [beq_iff_eq]
    rw [hbl w hw, hwb]
    split <;> simp_all
  · simp only [beq_eq_false_iff_ne]
    rw [hwb]
    rcases hb' with rfl | rfl
    · rw [if_pos rfl]; exact fun e => hm.ne e.symm
    · rw [if_neg fun e => hm.ne e.symm]; exact hm.ne

theorem mergeLeftStep_cnt (s : SSt) (r c : Nat) (hI : IC s.st) (hint : internal s.st c = false)
    (hr : blkOf s.st (s.st.cons[c]!).r = r) :
    cntOld r s.st.vars < cntOld (mergeLeftStep s r c).2 (mergeLeftStep s r c).1.st.vars := by
  obtain ⟨dst, src, d, he, _, he2, hj⟩ := mergeLeftStep_eq s r c
  rw [he, he2]
  exact cnt_mergeDir _ _ _ _ _ hI (hj hint hr) r (Or.inr hr)

theorem mergeRightStep_cnt (s : SSt) (l c : Nat) (hI : IC s.st) (hint : internal s.st c = false)
    (hl : blkOf s.st (s.st.cons[c]!).l = l) :
    cntOld l s.st.vars < cntOld (mergeRightStep s l c).2 (mergeRightStep s l c).1.st.vars := by
  obtain ⟨dst, src, d, he, _, he2, hj⟩ := mergeRightStep_eq s l c
  rw [he, he2]
  exact cnt_mergeDir _ _ _ _ _ hI (hj hint hl) l (Or.inl hl)

theorem mergeLeftLoop_keeps : ∀ (fuel : Nat) (s : SSt) (r : Nat),
    MFrame s.st (mergeLeftLoop fuel s r).st ∧
    (WF s → Owns s.st r → s.st.vars.size < fuel + cntOld r s.st.vars →
      WF (mergeLeftLoop fuel s r) ∧ (mergeLeftLoop fuel s r).hs.fuelOut = s.hs.fuelOut)
  | 0, s, r => ⟨MFrame.refl _, fun _ _ hle => by have := cntOld_le r s.st.vars; omega⟩
  | fuel + 1, s, r => by
    obtain ⟨f, hroot⟩ := findMinIn_spec s.st s.hs r
    unfold mergeLeftLoop
    simp only
    split
    · exact ⟨MFrame.refl _, fun hw _ _ => ⟨hw.with_hs (f.ok hw.hok), f.fo⟩⟩
    · rename_i c hc
      have f' : Shrinks s.hs ((findMinIn s.st s.hs r).1.noteCmp (rawSlack s.st c)) :=
        f.trans (Shrinks.of_quiet (noteCmp_quiet _ _))
      split
      · obtain ⟨g, k⟩ := mergeLeftStep_keeps { s with hs := (findMinIn s.st s.hs r).1.noteCmp (rawSlack s.st c) } r c
        have hcnt := mergeLeftStep_cnt { s with hs := (findMinIn s.st s.hs r).1.noteCmp (rawSlack s.st c) } r c
        generalize mergeLeftStep { s with hs := (findMinIn s.st s.hs r).1.noteCmp (rawSlack s.st c) } r c = p
          at g k hcnt ⊢
        obtain ⟨a, b⟩ := mergeLeftLoop_keeps fuel p.1 p.2
        refine ⟨g.trans a, fun hw ho hle => ?_⟩
        have hr := (heapsOK_iff.1 (inOK_iff.1 hw.hin) r ho c (hroot c hc).1).2
        obtain ⟨w, o, e⟩ := k (hw.with_hs (f'.ok hw.hok)) (hroot c hc).2 hr
        have hlt : cntOld r s.st.vars < cntOld p.2 p.1.st.vars := hcnt hw.ic (hroot c hc).2 hr
        have hv : p.1.st.vars.size = s.st.vars.size := g.vsz
        obtain ⟨b1, b2⟩ := b w o (by omega)
        exact ⟨b1, b2.trans (e.trans f'.fo)⟩
      · exact ⟨MFrame.refl _, fun hw _ _ => ⟨hw.with_hs (f'.ok hw.hok), f'.fo⟩⟩

theorem mergeRightLoop_keeps : ∀ (fuel : Nat) (s : SSt) (l : Nat),
    MFrame s.st (mergeRightLoop fuel s l).st ∧
    (WF s → Owns s.st l → s.st.vars.size < fuel + cntOld l s.st.vars →
      WF (mergeRightLoop fuel s l) ∧ (mergeRightLoop fuel s l).hs.fuelOut = s.hs.fuelOut)
  | 0, s, l => ⟨MFrame.refl _, fun _ _ hle => by have := cntOld_le l s.st.vars; omega⟩
  | fuel + 1, s, l => by
    obtain ⟨f, hroot⟩ := findMinOut_spec s.st s.hs l
    unfold mergeRightLoop
    simp only
    split
    · exact ⟨MFrame.refl _, fun hw _ _ => ⟨hw.with_hs (f.ok hw.hok), f.fo⟩⟩
    · rename_i c hc
      have f' : Shrinks s.hs ((findMinOut s.st s.hs l).1.noteCmp (rawSlack s.st c)) :=
        f.trans (Shrinks.of_quiet (noteCmp_quiet _ _))
      split
      · obtain ⟨g, k⟩ := mergeRightStep_keeps { s with hs := (findMinOut s.st s.hs l).1.noteCmp (rawSlack s.st c) } l c
        have hcnt := mergeRightStep_cnt { s with hs := (findMinOut s.st s.hs l).1.noteCmp (rawSlack s.st c) } l c
        generalize mergeRightStep { s with hs := (findMinOut s.st s.hs l).1.noteCmp (rawSlack s.st c) } l c = p
          at g k hcnt ⊢
        obtain ⟨a, b⟩ := mergeRightLoop_keeps fuel p.1 p.2
        refine ⟨g.trans a, fun hw ho hle => ?_⟩
        have hl := (heapsOK_iff.1 (outOK_iff.1 hw.hout) l ho c (hroot c hc).1).2
        obtain ⟨w, o, e⟩ := k (hw.with_hs (f'.ok hw.hok)) (hroot c hc).2 hl
        have hlt : cntOld l s.st.vars < cntOld p.2 p.1.st.vars := hcnt hw.ic (hroot c hc).2 hl
        have hv : p.1.st.vars.size = s.st.vars.size := g.vsz
        obtain ⟨b1, b2⟩ := b w o (by omega)
        exact ⟨b1, b2.trans (e.trans f'.fo)⟩
      · exact ⟨MFrame.refl _, fun hw _ _ => ⟨hw.with_hs (f'.ok hw.hok), f'.fo⟩⟩

/-- `mergeLeft` / `mergeRight` from ANY `WF` state (also inside `refine`, where `Blocks::split` has allocated
    new blocks): the fuel `m + n + 2` exceeds the number `n` of variables -/
theorem mergeLeft_keeps (s : SSt) (r : Nat) :
    MFrame s.st (mergeLeft s r).st ∧
    (WF s → Owns s.st r → WF (mergeLeft s r) ∧ (mergeLeft s r).hs.fuelOut = s.hs.fuelOut) := by
  rw [mergeLeft_eq]
  obtain ⟨a, b⟩ := mergeLeftLoop_keeps (loopFuel s.st) ⟨s.st, setUpIn s.st (stampL s.hs r) r⟩ r
  refine ⟨a, fun hw ho => ?_⟩
  obtain ⟨b1, b2⟩ := b (hw.with_hs (setUpIn_ok s.st (stampL s.hs r) r hw.ic hw.mem (hw.hok.of_same ⟨rfl, rfl⟩))) ho
    (by show s.st.vars.size < loopFuel s.st + _; unfold loopFuel; omega)
  exact ⟨b1, b2.trans (by rw [setUpIn_fo]; rfl)⟩

theorem mergeRight_keeps (s : SSt) (l : Nat) :
    MFrame s.st (mergeRight s l).st ∧
    (WF s → Owns s.st l → WF (mergeRight s l) ∧ (mergeRight s l).hs.fuelOut = s.hs.fuelOut) := by
  rw [mergeRight_eq]
  obtain ⟨a, b⟩ := mergeRightLoop_keeps (loopFuel s.st) ⟨s.st, setUpOut s.st s.hs l⟩ l
  refine ⟨a, fun hw ho => ?_⟩
  obtain ⟨b1, b2⟩ := b (hw.with_hs (setUpOut_ok s.st s.hs l hw.ic hw.mem hw.hok)) ho
    (by show s.st.vars.size < loopFuel s.st + _; unfold loopFuel; omega)
  exact ⟨b1, b2.trans (setUpOut_fo _ _ _)⟩

/-- `mergeRight_keeps` under a bound on the number of blocks, which the proof does not need -/
theorem mergeRight_total (s : SSt) (l : Nat) (hw : WF s) (ho : Owns s.st l)
    (hle : s.st.blocks.size ≤ s.st.cons.size + s.st.vars.size + 2) :
    (mergeRight s l).hs.fuelOut = s.hs.fuelOut ∧ (mergeRight s l).st.fuelOut = s.st.fuelOut ∧
    (mergeRight s l).st.blocks.size = s.st.blocks.size ∧ WF (mergeRight s l) :=
  ⟨((mergeRight_keeps s l).2 hw ho).2, (mergeRight_keeps s l).1.fo, (mergeRight_keeps s l).1.bsz,
    ((mergeRight_keeps s l).2 hw ho).1⟩

def AllSat (st : St) : Prop := ∀ ci : Nat, 0 ≤ rawSlack st ci

theorem mergeLeftLoop_idle (fuel : Nat) (s : SSt) (r : Nat) (h : AllSat s.st) (hf : 0 < fuel) :
    (mergeLeftLoop fuel s r).st = s.st ∧ (mergeLeftLoop fuel s r).hs.fuelOut = s.hs.fuelOut := by
  cases fuel with
  | zero => omega
  | succ fuel =>
    unfold mergeLeftLoop
    simp only
    split
    · exact ⟨rfl, (findMinIn_spec _ _ _).1.fo⟩
    · rename_i c hc
      rw [if_neg (not_lt.2 (h c))]
      refine ⟨rfl, ?_⟩
      show ((findMinIn s.st s.hs r).1.noteCmp (rawSlack s.st c)).fuelOut = s.hs.fuelOut
      rw [(noteCmp_quiet _ _).2, (findMinIn_spec _ _ _).1.fo]

theorem mergeLeft_idle (s : SSt) (r : Nat) (h : AllSat s.st) :
    (mergeLeft s r).st = s.st ∧ (mergeLeft s r).hs.fuelOut = s.hs.fuelOut := by
  rw [mergeLeft_eq]
  obtain ⟨a, b⟩ := mergeLeftLoop_idle (loopFuel s.st) { st := s.st, hs := setUpIn s.st (stampL s.hs r) r } r h
    (by unfold loopFuel; omega)
  exact ⟨a, b.trans (by rw [setUpIn_fo]; rfl)⟩

theorem satisfyStep_idle (s : SSt) (v : Nat) (h : AllSat s.st) :
    (satisfyStep s v).st = s.st ∧ (satisfyStep s v).hs.fuelOut = s.hs.fuelOut := by
  unfold satisfyStep
  simp only
  split
  · exact ⟨rfl, rfl⟩
  · exact mergeLeft_idle s _ h

theorem foldl_satisfyStep_idle : ∀ (l : List Nat) (s : SSt), AllSat s.st →
    (l.foldl satisfyStep s).st = s.st ∧ (l.foldl satisfyStep s).hs.fuelOut = s.hs.fuelOut
  | [], _, _ => ⟨rfl, rfl⟩
  | v :: rest, s, h => by
    rw [List.foldl_cons]
    obtain ⟨a, b⟩ := satisfyStep_idle s v h
    obtain ⟨c, d⟩ := foldl_satisfyStep_idle rest (satisfyStep s v) (by rw [a]; exact h)
    exact ⟨c.trans a, d.trans b⟩

theorem satisfy_idle (s : SSt) (h : AllSat s.st) (hok : (totalOrder s.st).2 = true)
    (h1 : s.hs.fuelOut = false) (h2 : s.st.fuelOut = false) :
    ∃ s', s.satisfy = (s', .ok s.st.positions (s.st.cons.any (·.active))) ∧ s'.st = s.st.cleanup := by
  have hcore : (satisfyCore s).st = s.st.cleanup ∧ (satisfyCore s).hs.fuelOut = false := by
    unfold satisfyCore SSt.cleanup
    simp only [hok, if_true]
    obtain ⟨a, b⟩ := foldl_satisfyStep_idle (totalOrder s.st).1 s h
    exact ⟨by rw [a], b.trans h1⟩
  have hscan : scanStatic (satisfyCore s).st = true := by
    rw [scanStatic_iff]
    intro ci _
    have : rawSlack (satisfyCore s).st ci = rawSlack s.st ci := by rw [hcore.1]; rfl
    rw [this]
    have := h ci
    unfold ZERO_UPPERBOUND
    linarith
  have hbad : ({ satisfyCore s with hs := noteScan (satisfyCore s).st (satisfyCore s).hs } : SSt).bad = false := by
    unfold SSt.bad
    simp only
    have e2 : (satisfyCore s).st.fuelOut = false := by rw [hcore.1]; exact h2
    rw [(noteScan_quiet _ _).2, hcore.2, e2]; rfl
  refine ⟨{ satisfyCore s with hs := noteScan (satisfyCore s).st (satisfyCore s).hs }, ?_, hcore.1⟩
  unfold SSt.satisfy
  simp only
  rw [if_neg (by rw [hbad]; simp), if_pos hscan, hcore.1]
  rfl

end AdaptaVerif.Lemmas.VpscStaticMem
