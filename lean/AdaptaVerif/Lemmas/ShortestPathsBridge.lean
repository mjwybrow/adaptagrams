/-
C17 — bridges between `floyd_warshall` as GENERATED from cola/libcola/shortest_paths.h
(`Gen/ShortestPathsK.lean`: three `for` nests over `T** D` with element assignment) and the hand
model `Model.ShortestPaths.floydWarshall` that `fw_correct` is about, and between the generated
`dijkstra_init` and the model's adjacency lists `adj`.
-/
import AdaptaVerif.Gen.ShortestPathsK
import AdaptaVerif.Lemmas.GenLoopBridge
import AdaptaVerif.Lemmas.ApspFWInit
namespace AdaptaVerif.Lemmas.ShortestPathsBridge
open AdaptaVerif.Gen AdaptaVerif.Gen.ShortestPathsK AdaptaVerif.Model.ShortestPaths AdaptaVerif.Model.PairingHeap
open AdaptaVerif.Lemmas.Apsp AdaptaVerif.Lemmas.GenLoopBridge

/-! ### `T** D` accesses = the model's `Mat.get` / `Mat.set` -/

theorem get_eq (D : Mat) (i j : Nat) : aget (aget D i) j = D.get i j := by
  simp [aget, Mat.get]
  rfl

theorem set_eq (D : Mat) (i j : Nat) (x : Dist) : aset D i (aset (aget D i) j x) = D.set i j x := by
  unfold aset aget Mat.set
  apply Array.ext_getElem?
  intro k
  rw [Array.getElem?_modify, Array.getElem?_setIfInBounds]
  by_cases hik : i = k
  · subst hik
    simp only [if_true]
    by_cases hi : i < D.size
    · simp [hi]
    · simp [hi]
  · simp [hik]

theorem WF_bounds {n : Nat} {D : Mat} (h : Mat.WF n D) {i j : Nat} (hi : i < n) (hj : j < n) :
    i < D.size ∧ j < (aget D i).size := by
  have hsz : i < D.size := by rw [h.1]; exact hi
  refine ⟨hsz, ?_⟩
  have hr : D[i]? = some D[i] := Array.getElem?_eq_getElem hsz
  have : aget D i = D[i] := by simp [aget, hsz]
  rw [this, h.2 i _ hr]; exact hj

/-! ### first nest: `D[i][j] = (i == j) ? 0 : max` on an arbitrary (uninitialised) `n × n` array -/

def valDiag (a b : Nat) : Dist := if a = b then some 0 else none

theorem body1_eq (i j : Nat) (D : Mat) : floyd_warshall_body1 i j D = D.set i j (valDiag i j) := by
  unfold floyd_warshall_body1 valDiag
  simp only [set_eq]
  by_cases h : i = j <;> simp [h]

theorem row_init {n : Nat} (i : Nat) (hi : i < n) (D : Mat) (hD : Mat.WF n D) :
    Mat.WF n (forRange (floyd_warshall_body1 i) (n - 0) 0 D) ∧
    (∀ b, b < n → Mat.get (forRange (floyd_warshall_body1 i) (n - 0) 0 D) i b = valDiag i b) ∧
    (∀ a b, a ≠ i → Mat.get (forRange (floyd_warshall_body1 i) (n - 0) 0 D) a b = D.get a b) :=
  forRange_zero_inv
    (fun j (D' : Mat) => Mat.WF n D' ∧ (∀ b, b < j → D'.get i b = valDiag i b) ∧ (∀ a b, a ≠ i → D'.get a b = D.get a b))
    (floyd_warshall_body1 i) n D ⟨hD, fun b hb => absurd hb (Nat.not_lt_zero _), fun _ _ _ => rfl⟩
    (by
      intro j D' hjn ⟨hwf, hrow, hoth⟩
      rw [body1_eq]
      refine ⟨Mat.WF_set hwf _ _ _, ?_, ?_⟩
      · intro b hb
        by_cases hbj : b = j
        · subst hbj; exact Mat.get_set_eq _ hwf i b _ hi hjn
        · rw [Mat.get_set_ne _ i j i b _ (Or.inr hbj)]; exact hrow b (Nat.lt_of_le_of_ne (Nat.le_of_lt_succ hb) hbj)
      · intro a b ha
        rw [Mat.get_set_ne _ i j a b _ (Or.inl ha)]; exact hoth a b ha)

theorem body2_eq (n i : Nat) (D : Mat) : floyd_warshall_body2 n i D = forRange (floyd_warshall_body1 i) (n - 0) 0 D := rfl

theorem init_spec (n : Nat) (D : Mat) (hD : Mat.WF n D) :
    Mat.WF n (forRange (floyd_warshall_body2 n) (n - 0) 0 D) ∧
    ∀ a b, a < n → b < n → Mat.get (forRange (floyd_warshall_body2 n) (n - 0) 0 D) a b = valDiag a b :=
  forRange_zero_inv
    (fun i (D' : Mat) => Mat.WF n D' ∧ ∀ a b, a < i → b < n → D'.get a b = valDiag a b)
    (floyd_warshall_body2 n) n D ⟨hD, fun a b ha => absurd ha (Nat.not_lt_zero _)⟩
    (by
      intro i D' hin ⟨hwf, hdone⟩
      rw [body2_eq]
      obtain ⟨h1, h2, h3⟩ := row_init i hin D' hwf
      refine ⟨h1, ?_⟩
      intro a b ha hb
      by_cases hai : a = i
      · subst hai; exact h2 b hb
      · rw [h3 a b hai]; exact hdone a b (Nat.lt_of_le_of_ne (Nat.le_of_lt_succ ha) hai) hb)

theorem init_eq (n : Nat) (D : Mat) (hD : Mat.WF n D) :
    forRange (floyd_warshall_body2 n) (n - 0) 0 D = fwDiag n := by
  obtain ⟨hwf, hval⟩ := init_spec n D hD
  refine Mat.ext hwf (fwDiag_WF n) (fun a b ha hb => ?_)
  rw [hval a b ha hb, fwDiag_get, valDiag]
  by_cases hab : a = b
  · rw [if_pos hab, if_pos ⟨hab, ha⟩]
  · rw [if_neg hab, if_neg (fun h => hab h.1)]

/-! ### second loop: edges -/

/-- the caller's edge vector / weight array for a model graph: `es[i] = (u, v)`, `eweights[i] = w` -/
def esOf (edges : List (Nat × Nat × Rat)) : List (Nat × Nat) := edges.map (fun e => (e.1, e.2.1))
def wsOf (edges : List (Nat × Nat × Rat)) : List Dist := edges.map (fun e => some e.2.2)
/-- the model graph of a call with an EMPTY weight array: every edge has weight 1 -/
def unitEdges (es : List (Nat × Nat)) : List (Nat × Nat × Rat) := es.map (fun e => (e.1, e.2, 1))

theorem ltDist_some (w : Rat) (d : Dist) : ltDist (some w) d = gtD d w := by
  cases d <;> simp [ltDist, gtD]

theorem esOf_getD (edges : List (Nat × Nat × Rat)) {i : Nat} (hi : i < edges.length) :
    (esOf edges).getD i default = (edges[i].1, edges[i].2.1) := by
  simp [esOf, List.getD, hi]

theorem wsOf_getD (edges : List (Nat × Nat × Rat)) {i : Nat} (hi : i < edges.length) :
    (wsOf edges).getD i default = some edges[i].2.2 := by
  simp [wsOf, List.getD, hi]

/-- `COLA_ASSERT(eweights.size()==0 || eweights.size()==es.size())` makes the read `eweights[i]` safe -/
theorem weight_read_ok {ws : List Dist} {m i : Nat} (hw : ws.length = 0 ∨ ws.length = m) (hi : i < m) :
    (if decide (ws.length > 0) = true then decide (i < ws.length) else true) = true := by
  rcases hw with h0 | h0
  · simp [h0]
  · simp [h0, hi]

theorem edgeStep_eq (D : Mat) (u v : Nat) (w : Rat) :
    (if (decide (u ≠ v) && ltDist (some w) (aget (aget D u) v)) = true then
        aset (aset D v (aset (aget D v) u (some w))) u (aset (aget (aset D v (aset (aget D v) u (some w))) u) v (some w))
      else D) =
    (if u ≠ v ∧ gtD (D.get u v) w = true then (D.set v u (some w)).set u v (some w) else D) := by
  simp only [set_eq, get_eq, ltDist_some, Bool.and_eq_true, decide_eq_true_eq]

theorem edges_eq (n : Nat) (edges : List (Nat × Nat × Rat)) (D : Mat) :
    forRange (floyd_warshall_body3 n (esOf edges) (wsOf edges)) ((esOf edges).length - 0) 0 D = fwEdges edges D := by
  by_cases hne : edges = []
  · subst hne; rfl
  have hlen : (esOf edges).length = edges.length := by simp [esOf]
  have hpos : 0 < edges.length := List.length_pos_iff.mpr hne
  rw [Nat.sub_zero, hlen]
  unfold fwEdges
  apply forRange_list
  intro i hi s
  have h3 : (wsOf edges).length > 0 := by simp [wsOf]; exact hpos
  unfold floyd_warshall_body3
  simp only [Nat.zero_add, esOf_getD edges hi, wsOf_getD edges hi, h3, decide_true, if_true]
  exact edgeStep_eq s _ _ _

theorem edges_unit_eq (n : Nat) (es : List (Nat × Nat)) (D : Mat) :
    forRange (floyd_warshall_body3 n es []) (es.length - 0) 0 D = fwEdges (unitEdges es) D := by
  have hlen : (unitEdges es).length = es.length := by simp [unitEdges]
  rw [Nat.sub_zero, ← hlen]
  unfold fwEdges
  apply forRange_list
  intro i hi s
  have hi' : i < es.length := by rw [← hlen]; exact hi
  have h1 : es.getD i default = ((unitEdges es)[i].1, (unitEdges es)[i].2.1) := by
    simp [unitEdges, List.getD, hi']
  have h2 : (unitEdges es)[i].2.2 = 1 := by simp [unitEdges]
  unfold floyd_warshall_body3
  simp only [Nat.zero_add, h1, List.length_nil, gt_iff_lt, Nat.lt_irrefl, decide_false, Bool.false_eq_true, if_false]
  rw [← h2]
  exact edgeStep_eq s _ _ _

/-! ### third nest: the in-place triple loop -/

theorem body4_eq (k i j : Nat) (D : Mat) : floyd_warshall_body4 k i j D = relax D k i j := by
  unfold floyd_warshall_body4 relax
  simp only [set_eq, get_eq]

theorem body5_eq (n k i : Nat) (D : Mat) : floyd_warshall_body5 n k i D = fwRow n k i D := by
  unfold floyd_warshall_body5 fwRow
  simp only []
  rw [forRange_zero]
  congr 1
  funext D j
  exact body4_eq k i j D

theorem body6_eq (n k : Nat) (D : Mat) : floyd_warshall_body6 n k D = fwRound n k D := by
  unfold floyd_warshall_body6 fwRound
  simp only []
  rw [forRange_zero]
  congr 1
  funext D i
  exact body5_eq n k i D

theorem loop_eq (n : Nat) (D : Mat) : forRange (floyd_warshall_body6 n) (n - 0) 0 D = fwLoop n D := by
  unfold fwLoop
  rw [forRange_zero]
  congr 1
  funext D k
  exact body6_eq n k D

/-! ### `floyd_warshall_pre`: every loop body meets its obligations and keeps the array `n × n` -/

theorem body1_ok {n : Nat} (i j : Nat) (hi : i < n) (hj : j < n) (D : Mat) (hD : Mat.WF n D) :
    floyd_warshall_body1_pre i j D = true ∧ Mat.WF n (floyd_warshall_body1 i j D) := by
  obtain ⟨h1, h2⟩ := WF_bounds hD hi hj
  refine ⟨?_, by rw [body1_eq]; exact Mat.WF_set hD _ _ _⟩
  unfold floyd_warshall_body1_pre
  by_cases h : i = j
  · subst h; simp [h1, h2]
  · simp [h, h1, h2]

theorem body2_ok {n : Nat} (i : Nat) (hi : i < n) (D : Mat) (hD : Mat.WF n D) :
    floyd_warshall_body2_pre n i D = true ∧ Mat.WF n (floyd_warshall_body2 n i D) := by
  unfold floyd_warshall_body2_pre floyd_warshall_body2
  simp only [Bool.and_true]
  exact forRange_zero_keeps (Mat.WF n) _ _ n D hD (fun j D' hj h => body1_ok i j hi hj D' h)

theorem body3_ok {n : Nat} (es : List (Nat × Nat)) (ws : List Dist) (i : Nat) (hi : i < es.length)
    (hw : ws.length = 0 ∨ ws.length = es.length) (hu : (es.getD i default).1 < n) (hv : (es.getD i default).2 < n)
    (D : Mat) (hD : Mat.WF n D) :
    floyd_warshall_body3_pre n es ws i D = true ∧ Mat.WF n (floyd_warshall_body3 n es ws i D) := by
  obtain ⟨h1, h2⟩ := WF_bounds hD hu hv
  obtain ⟨h3, h4⟩ := WF_bounds hD hv hu
  have hD' := Mat.WF_set hD (es.getD i default).2 (es.getD i default).1
  unfold floyd_warshall_body3_pre floyd_warshall_body3
  simp only [set_eq]
  generalize (if decide (ws.length > 0) = true then ws.getD i default else (some 1 : Dist)) = w
  have hA := weight_read_ok hw hi
  have h5 := (WF_bounds (hD' w) hu hv).1
  have h6 := (WF_bounds (hD' w) hu hv).2
  refine ⟨by simp only [hi, hu, hv, h1, h2, h3, h4, h5, h6, hA, decide_true, Bool.or_true, Bool.and_self, ite_self], ?_⟩
  split
  · exact Mat.WF_set (hD' w) _ _ _
  · exact hD

theorem body4_ok {n : Nat} (k i j : Nat) (hk : k < n) (hi : i < n) (hj : j < n) (D : Mat) (hD : Mat.WF n D) :
    floyd_warshall_body4_pre k i j D = true ∧ Mat.WF n (floyd_warshall_body4 k i j D) := by
  obtain ⟨h1, h2⟩ := WF_bounds hD hi hj
  obtain ⟨_, h3⟩ := WF_bounds hD hi hk
  obtain ⟨h4, h5⟩ := WF_bounds hD hk hj
  refine ⟨?_, by rw [body4_eq]; exact Mat.WF_set hD _ _ _⟩
  unfold floyd_warshall_body4_pre
  simp [h1, h2, h3, h4, h5]

theorem body5_ok {n : Nat} (k i : Nat) (hk : k < n) (hi : i < n) (D : Mat) (hD : Mat.WF n D) :
    floyd_warshall_body5_pre n k i D = true ∧ Mat.WF n (floyd_warshall_body5 n k i D) := by
  unfold floyd_warshall_body5_pre floyd_warshall_body5
  simp only [Bool.and_true]
  exact forRange_zero_keeps (Mat.WF n) _ _ n D hD (fun j D' hj h => body4_ok k i j hk hi hj D' h)

theorem body6_ok {n : Nat} (k : Nat) (hk : k < n) (D : Mat) (hD : Mat.WF n D) :
    floyd_warshall_body6_pre n k D = true ∧ Mat.WF n (floyd_warshall_body6 n k D) := by
  unfold floyd_warshall_body6_pre floyd_warshall_body6
  simp only [Bool.and_true]
  exact forRange_zero_keeps (Mat.WF n) _ _ n D hD (fun i D' hi h => body5_ok k i hk hi D' h)

/-! ## `dijkstra_init`: the adjacency vectors it appends are the model's `adj` -/

open AdaptaVerif.Gen.KeysShortest

/-- one iteration of `dijkstra_init`'s loop on the model edge `(a, b, w)` -/
def initStep (vs : Array NodeK) (e : Nat × Nat × Rat) : Array NodeK :=
  let vs2 := aset vs e.1 { (aget vs e.1) with neighbours := (aget vs e.1).neighbours ++ [e.2.1] }
  let vs3 := aset vs2 e.1 { (aget vs2 e.1) with nweights := (aget vs2 e.1).nweights ++ [some e.2.2] }
  let vs4 := aset vs3 e.2.1 { (aget vs3 e.2.1) with neighbours := (aget vs3 e.2.1).neighbours ++ [e.1] }
  aset vs4 e.2.1 { (aget vs4 e.2.1) with nweights := (aget vs4 e.2.1).nweights ++ [some e.2.2] }

theorem initStep_size (vs : Array NodeK) (e : Nat × Nat × Rat) : (initStep vs e).size = vs.size := by
  simp [initStep, aset_size]

theorem initStep_get (vs : Array NodeK) (e : Nat × Nat × Rat) (ha : e.1 < vs.size) (hb : e.2.1 < vs.size) (u : Nat) :
    (aget (initStep vs e) u).neighbours =
      (aget vs u).neighbours ++ ((if e.1 = u then [e.2.1] else []) ++ (if e.2.1 = u then [e.1] else [])) ∧
    (aget (initStep vs e) u).nweights =
      (aget vs u).nweights ++ ((if e.1 = u then [some e.2.2] else []) ++ (if e.2.1 = u then [some e.2.2] else [])) := by
  unfold initStep
  simp only [aget_aset, aset_size, ha, hb]
  by_cases h1 : e.1 = u <;> by_cases h2 : e.2.1 = u <;> simp [h1, h2]

theorem initFold_size (edges : List (Nat × Nat × Rat)) (vs : Array NodeK) : (edges.foldl initStep vs).size = vs.size := by
  induction edges generalizing vs with
  | nil => rfl
  | cons e es ih => rw [List.foldl_cons, ih, initStep_size]

theorem initFold_get (edges : List (Nat × Nat × Rat)) (vs : Array NodeK)
    (hv : ∀ e ∈ edges, e.1 < vs.size ∧ e.2.1 < vs.size) (u : Nat) :
    (aget (edges.foldl initStep vs) u).neighbours = (aget vs u).neighbours ++ (adj edges u).map (·.1) ∧
    (aget (edges.foldl initStep vs) u).nweights = (aget vs u).nweights ++ (adj edges u).map (fun p => some p.2) := by
  induction edges generalizing vs with
  | nil => simp [adj]
  | cons e es ih =>
    obtain ⟨a, b, w⟩ := e
    have hab := hv (a, b, w) (by simp)
    have ih' := ih (initStep vs (a, b, w)) (fun e he => by rw [initStep_size]; exact hv e (by simp [he]))
    have hs := initStep_get vs (a, b, w) hab.1 hab.2 u
    simp only [List.foldl_cons, adj]
    rw [ih'.1, ih'.2, hs.1, hs.2]
    simp only [List.map_append, apply_ite (List.map _), List.map_cons, List.map_nil, List.append_assoc, and_self]

theorem dijkstra_init_eq (edges : List (Nat × Nat × Rat)) (vs : Array NodeK) :
    dijkstra_init vs (esOf edges) (wsOf edges) = edges.foldl initStep vs := by
  unfold dijkstra_init
  simp only []
  by_cases hne : edges = []
  · subst hne; rfl
  have hlen : (esOf edges).length = edges.length := by simp [esOf]
  have hpos : 0 < edges.length := List.length_pos_iff.mpr hne
  rw [Nat.sub_zero, hlen]
  apply forRange_list
  intro i hi s
  have h3 : (wsOf edges).length > 0 := by simp [wsOf]; exact hpos
  unfold dijkstra_init_body1 initStep
  simp only [Nat.zero_add, esOf_getD edges hi, wsOf_getD edges hi, h3, decide_true, if_true]

theorem dijkstra_init_fresh (edges : List (Nat × Nat × Rat)) (vs : Array NodeK)
    (hv : ∀ e ∈ edges, e.1 < vs.size ∧ e.2.1 < vs.size)
    (hfresh : ∀ u, (aget vs u).neighbours = [] ∧ (aget vs u).nweights = []) (u : Nat) :
    (aget (dijkstra_init vs (esOf edges) (wsOf edges)) u).neighbours = (adj edges u).map (·.1) ∧
    (aget (dijkstra_init vs (esOf edges) (wsOf edges)) u).nweights = (adj edges u).map (fun p => some p.2) ∧
    (dijkstra_init vs (esOf edges) (wsOf edges)).size = vs.size := by
  rw [dijkstra_init_eq]
  have h := initFold_get edges vs hv u
  rw [(hfresh u).1, (hfresh u).2] at h
  exact ⟨by simpa using h.1, by simpa using h.2, initFold_size edges vs⟩

end AdaptaVerif.Lemmas.ShortestPathsBridge
