/-
Geometric meaning of the predicates of Model/Geometry.lean.
-/
import AdaptaVerif.Model.Geometry
import Mathlib.Tactic.Linarith
import Mathlib.Tactic.Ring
import Mathlib.Tactic.LinearCombination
import Mathlib.Tactic.FieldSimp
import Mathlib.Tactic.Positivity
import Mathlib.Algebra.Order.Field.Rat
namespace AdaptaVerif.Lemmas.GeometrySpec
open AdaptaVerif.Model.Geometry

/-- translation by `t`: the vocabulary of `Props.C16.vecDir_translate` and `Props.C20.translation_invariant`; no lemma of this
    file mentions it -/
def addPt (a t : Pt) : Pt := ⟨a.x + t.x, a.y + t.y⟩

theorem vecDir_cases (a b c : Pt) :
    (area2 a b c < 0 ∧ vecDir a b c = -1) ∨ (area2 a b c = 0 ∧ vecDir a b c = 0) ∨ (0 < area2 a b c ∧ vecDir a b c = 1) := by
  simp only [vecDir, neg_zero]
  rcases lt_trichotomy (area2 a b c) 0 with h | h | h
  · exact Or.inl ⟨h, if_pos h⟩
  · exact Or.inr (Or.inl ⟨h, by rw [if_neg h.not_lt, if_neg h.not_gt]⟩)
  · exact Or.inr (Or.inr ⟨h, by rw [if_neg (lt_asymm h), if_pos h]⟩)

theorem vecDir_sign (a b c : Pt) :
    (vecDir a b c = 1 ↔ 0 < area2 a b c) ∧ (vecDir a b c = -1 ↔ area2 a b c < 0) ∧
    (vecDir a b c = 0 ↔ area2 a b c = 0) := by
  rcases vecDir_cases a b c with ⟨h, e⟩ | ⟨h, e⟩ | ⟨h, e⟩ <;> rw [e]
  · exact ⟨iff_of_false (by decide) (lt_asymm h), iff_of_true rfl h, iff_of_false (by decide) h.ne⟩
  · exact ⟨iff_of_false (by decide) h.not_gt, iff_of_false (by decide) h.not_lt, iff_of_true rfl h⟩
  · exact ⟨iff_of_true rfl h, iff_of_false (by decide) (lt_asymm h), iff_of_false (by decide) h.ne'⟩

theorem vecDir_pos (a b c : Pt) : vecDir a b c = 1 ↔ 0 < area2 a b c := (vecDir_sign a b c).1
theorem vecDir_neg (a b c : Pt) : vecDir a b c = -1 ↔ area2 a b c < 0 := (vecDir_sign a b c).2.1
theorem vecDir_zero (a b c : Pt) : vecDir a b c = 0 ↔ area2 a b c = 0 := (vecDir_sign a b c).2.2

theorem vecDir_lt_zero (a b c : Pt) : vecDir a b c < 0 ↔ area2 a b c < 0 := by
  rcases vecDir_cases a b c with ⟨h, e⟩ | ⟨h, e⟩ | ⟨h, e⟩ <;> rw [e]
  · exact iff_of_true (by decide) h
  · exact iff_of_false (by decide) h.not_lt
  · exact iff_of_false (by decide) (lt_asymm h)

theorem vecDir_gt_zero (a b c : Pt) : 0 < vecDir a b c ↔ 0 < area2 a b c := by
  rcases vecDir_cases a b c with ⟨h, e⟩ | ⟨h, e⟩ | ⟨h, e⟩ <;> rw [e]
  · exact iff_of_false (by decide) (lt_asymm h)
  · exact iff_of_false (by decide) h.not_gt
  · exact iff_of_true (by decide) h

theorem vecDir_congr_sign (a b c a' b' c' : Pt) (h : area2 a b c = area2 a' b' c') :
    vecDir a b c = vecDir a' b' c' := by
  simp only [vecDir, h]

theorem area2_swap (a b c : Pt) : area2 a b c = - area2 b a c := by unfold area2; ring

theorem vecDir_swap (a b c : Pt) : vecDir a b c = - vecDir b a c := by
  have h := area2_swap a b c
  rcases vecDir_cases b a c with ⟨h', e⟩ | ⟨h', e⟩ | ⟨h', e⟩ <;> rw [e]
  · exact (vecDir_pos a b c).2 (by linarith)
  · exact (vecDir_zero a b c).2 (by linarith)
  · exact (vecDir_neg a b c).2 (by linarith)

theorem int_mul_neg_of_dirs (a b c a' b' c' : Pt) :
    (vecDir a b c * vecDir a' b' c' < 0) ↔ area2 a b c * area2 a' b' c' < 0 := by
  rw [mul_neg_iff, mul_neg_iff, vecDir_lt_zero, vecDir_lt_zero, vecDir_gt_zero, vecDir_gt_zero]

/-- the two early exits of `segmentIntersect` are subsumed by the sign tests -/
theorem segmentIntersect_signs (a b c d : Pt) :
    segmentIntersect a b c d = true ↔
      area2 a b c * area2 a b d < 0 ∧ area2 c d a * area2 c d b < 0 := by
  rw [← int_mul_neg_of_dirs, ← int_mul_neg_of_dirs]
  simp only [segmentIntersect]
  by_cases h1 : vecDir a b c = 0
  · simp [h1]
  · by_cases h2 : vecDir a b d = 0 <;> simp [h1, h2]

/-- the common denominator D = (b−a)×(d−c) -/
def crossD (a b c d : Pt) : Rat := (b.x - a.x) * (d.y - c.y) - (b.y - a.y) * (d.x - c.x)

theorem area_diff1 (a b c d : Pt) : area2 a b d - area2 a b c = crossD a b c d := by
  unfold area2 crossD; ring
theorem area_diff2 (a b c d : Pt) : area2 c d a - area2 c d b = crossD a b c d := by
  unfold area2 crossD; ring

theorem opp_sign_param (p q : Rat) (h : p * q < 0) : 0 < p / (p - q) ∧ p / (p - q) < 1 := by
  rcases mul_neg_iff.1 h with ⟨hp, hq⟩ | ⟨hp, hq⟩
  · exact ⟨div_pos hp (by linarith), (div_lt_one (by linarith)).2 (by linarith)⟩
  · exact ⟨div_pos_of_neg_of_neg hp (by linarith), (div_lt_one_of_neg (by linarith)).2 (by linarith)⟩

theorem param_opp_sign (t D p q : Rat) (ht0 : 0 < t) (ht1 : t < 1) (hD : D ≠ 0) (hp : p = -t * D)
    (hq : q = (1 - t) * D) : p * q < 0 := by
  have e : p * q = -(t * (1 - t) * (D * D)) := by rw [hp, hq]; ring
  rw [e]
  exact neg_neg_of_pos (mul_pos (mul_pos ht0 (sub_pos.2 ht1)) (mul_self_pos.2 hD))

theorem segmentIntersect_iff (a b c d : Pt) :
    segmentIntersect a b c d = true ↔
      ∃ s t : Rat, 0 < s ∧ s < 1 ∧ 0 < t ∧ t < 1 ∧
        a.x + s * (b.x - a.x) = c.x + t * (d.x - c.x) ∧ a.y + s * (b.y - a.y) = c.y + t * (d.y - c.y) ∧
        (b.x - a.x) * (d.y - c.y) - (b.y - a.y) * (d.x - c.x) ≠ 0 := by
  rw [segmentIntersect_signs]
  have d1 := area_diff1 a b c d
  have d2 := area_diff2 a b c d
  constructor
  · -- s, t are where each segment crosses the line of the other
    rintro ⟨hPQ, hRS⟩
    have ht := opp_sign_param _ _ hPQ
    have hs := opp_sign_param _ _ hRS
    have hD : crossD a b c d ≠ 0 := by
      intro h0
      rw [h0] at d2
      rw [sub_eq_zero.1 d2] at hRS
      exact absurd hRS (not_lt.2 (mul_self_nonneg _))
    have e1 : area2 a b c - area2 a b d = -crossD a b c d := by linarith
    rw [e1] at ht
    rw [d2] at hs
    refine ⟨_, _, hs.1, hs.2, ht.1, ht.2, ?_, ?_, hD⟩ <;>
      · field_simp
        simp only [area2, crossD]
        ring
  · rintro ⟨s, t, hs0, hs1, ht0, ht1, ex, ey, hD⟩
    have hR : area2 c d a = s * crossD a b c d := by
      unfold area2 crossD; linear_combination (d.x - c.x) * ey - (d.y - c.y) * ex
    have hP : area2 a b c = - t * crossD a b c d := by
      unfold area2 crossD; linear_combination (b.y - a.y) * ex - (b.x - a.x) * ey
    have hD' : crossD a b c d ≠ 0 := hD
    exact ⟨param_opp_sign t (crossD a b c d) _ _ ht0 ht1 hD' hP (by linarith),
      param_opp_sign s (-crossD a b c d) _ _ hs0 hs1 (neg_ne_zero.2 hD') (by linarith) (by linarith)⟩

theorem segmentIntersect_symm (a b c d : Pt) :
    segmentIntersect a b c d = segmentIntersect b a c d ∧
    segmentIntersect a b c d = segmentIntersect a b d c ∧
    segmentIntersect a b c d = segmentIntersect c d a b := by
  refine ⟨Bool.eq_iff_iff.2 ?_, Bool.eq_iff_iff.2 ?_, Bool.eq_iff_iff.2 ?_⟩ <;> simp only [segmentIntersect_signs]
  · rw [area2_swap b a c, area2_swap b a d, neg_mul_neg, mul_comm (area2 c d a)]
  · rw [area2_swap d c a, area2_swap d c b, neg_mul_neg, mul_comm (area2 a b c)]
  · exact And.comm

theorem pt_ext (P Q : Pt) (hx : P.x = Q.x) (hy : P.y = Q.y) : P = Q := by
  cases P; cases Q; simp_all

theorem colinear_iff (a b c : Pt) : colinear a b c = true ↔ area2 a b c = 0 := by
  simp only [colinear]
  split_ifs with h1 h2 h3
  · subst h1; simp [area2]
  · -- vertical: area2 = (a.x − c.x)(b.y − a.y) with b.y ≠ a.y
    have hy : b.y - a.y ≠ 0 := sub_ne_zero.2 fun hy => h1 (pt_ext _ _ h2 hy.symm)
    have e : area2 a b c = (a.x - c.x) * (b.y - a.y) := by unfold area2; rw [h2]; ring
    rw [decide_eq_true_eq, e, mul_eq_zero, or_iff_left hy, sub_eq_zero]
  · -- horizontal: area2 = (b.x − a.x)(c.y − a.y) with b.x ≠ a.x
    have hx : b.x - a.x ≠ 0 := sub_ne_zero.2 (Ne.symm h2)
    have e : area2 a b c = (b.x - a.x) * (c.y - a.y) := by unfold area2; rw [h3]; ring
    rw [decide_eq_true_eq, e, mul_eq_zero, or_iff_right hx, sub_eq_zero, eq_comm]
  · simp only [decide_eq_true_eq]; exact vecDir_zero a b c

theorem strictBetween_iff (a b c : Rat) : strictBetween a b c = true ↔ (a < c ∧ c < b) ∨ (b < c ∧ c < a) := by
  simp [strictBetween]

theorem strictBetween_iff_param (a b c : Rat) :
    strictBetween a b c = true ↔ a ≠ b ∧ ∃ t : Rat, 0 < t ∧ t < 1 ∧ c = a + t * (b - a) := by
  rw [strictBetween_iff]
  constructor
  · intro h
    have hab : a ≠ b := by rintro rfl; rcases h with ⟨h1, h2⟩ | ⟨h1, h2⟩ <;> exact lt_asymm h1 h2
    have hne : b - a ≠ 0 := sub_ne_zero.2 hab.symm
    refine ⟨hab, (c - a) / (b - a), ?_, ?_, by rw [div_mul_cancel₀ _ hne]; ring⟩
    · rcases h with ⟨h1, h2⟩ | ⟨h1, h2⟩
      · exact div_pos (sub_pos.2 h1) (sub_pos.2 (h1.trans h2))
      · exact div_pos_of_neg_of_neg (sub_neg.2 h2) (sub_neg.2 (h1.trans h2))
    · rcases h with ⟨h1, h2⟩ | ⟨h1, h2⟩
      · exact (div_lt_one (sub_pos.2 (h1.trans h2))).2 (sub_lt_sub_right h2 a)
      · exact (div_lt_one_of_neg (sub_neg.2 (h1.trans h2))).2 (sub_lt_sub_right h1 a)
  · rintro ⟨hab, t, ht0, ht1, rfl⟩
    rcases lt_or_gt_of_ne hab with h | h
    · have h1 := mul_pos ht0 (sub_pos.2 h)
      have h2 := mul_pos (sub_pos.2 ht1) (sub_pos.2 h)
      exact Or.inl ⟨by linarith, by linarith⟩
    · have h1 := mul_pos ht0 (sub_pos.2 h)
      have h2 := mul_pos (sub_pos.2 ht1) (sub_pos.2 h)
      exact Or.inr ⟨by linarith, by linarith⟩

theorem pointOnLine_iff (a b c : Pt) :
    pointOnLine a b c = true ↔ ∃ t : Rat, 0 < t ∧ t < 1 ∧ c.x = a.x + t * (b.x - a.x) ∧ c.y = a.y + t * (b.y - a.y) ∧ a ≠ b := by
  simp only [pointOnLine]
  split_ifs with h1 h2
  · -- vertical (or degenerate) segment
    simp only [Bool.and_eq_true, decide_eq_true_eq, strictBetween_iff_param]
    constructor
    · rintro ⟨hx, hy, t, ht0, ht1, ey⟩
      exact ⟨t, ht0, ht1, by rw [← h1, sub_self, mul_zero, add_zero, hx], ey, fun h => hy (congrArg Pt.y h)⟩
    · rintro ⟨t, ht0, ht1, ex, ey, hne⟩
      exact ⟨by rw [ex, ← h1, sub_self, mul_zero, add_zero], fun hy => hne (pt_ext _ _ h1 hy), t, ht0, ht1, ey⟩
  · -- horizontal segment
    simp only [Bool.and_eq_true, decide_eq_true_eq, strictBetween_iff_param]
    constructor
    · rintro ⟨hy, hx, t, ht0, ht1, ex⟩
      exact ⟨t, ht0, ht1, ex, by rw [← h2, sub_self, mul_zero, add_zero, hy], fun h => hx (congrArg Pt.x h)⟩
    · rintro ⟨t, ht0, ht1, ex, ey, _⟩
      exact ⟨by rw [ey, ← h2, sub_self, mul_zero, add_zero], h1, t, ht0, ht1, ex⟩
  · -- general position: collinear, and between in the coordinate `inBetween` picks; by collinearity the
    -- parameter found in one coordinate serves the other
    have hnx : b.x - a.x ≠ 0 := sub_ne_zero.2 (Ne.symm h1)
    have hny : b.y - a.y ≠ 0 := sub_ne_zero.2 (Ne.symm h2)
    simp only [Bool.and_eq_true, decide_eq_true_eq, vecDir_zero, inBetween]
    constructor
    · rintro ⟨hcol, hb⟩
      unfold area2 at hcol
      split_ifs at hb
      · obtain ⟨_, t, ht0, ht1, ex⟩ := (strictBetween_iff_param _ _ _).1 hb
        refine ⟨t, ht0, ht1, ex, ?_, fun h => h1 (congrArg Pt.x h)⟩
        rw [ex] at hcol
        linarith [mul_left_cancel₀ hnx (by linarith : (b.x - a.x) * (c.y - a.y) = (b.x - a.x) * (t * (b.y - a.y)))]
      · obtain ⟨_, t, ht0, ht1, ey⟩ := (strictBetween_iff_param _ _ _).1 hb
        refine ⟨t, ht0, ht1, ?_, ey, fun h => h1 (congrArg Pt.x h)⟩
        rw [ey] at hcol
        linarith [mul_left_cancel₀ hny (by linarith : (b.y - a.y) * (c.x - a.x) = (b.y - a.y) * (t * (b.x - a.x)))]
    · rintro ⟨t, ht0, ht1, ex, ey, _⟩
      refine ⟨by unfold area2; rw [ex, ey]; ring, ?_⟩
      split_ifs
      · exact (strictBetween_iff_param _ _ _).2 ⟨h1, t, ht0, ht1, ex⟩
      · exact (strictBetween_iff_param _ _ _).2 ⟨h2, t, ht0, ht1, ey⟩

theorem pointOnLine_symm (a b c : Pt) : pointOnLine a b c = pointOnLine b a c := by
  apply Bool.eq_iff_iff.2
  rw [pointOnLine_iff, pointOnLine_iff]
  constructor <;> rintro ⟨t, ht0, ht1, ex, ey, hne⟩ <;>
    exact ⟨1 - t, by linarith, by linarith, by rw [ex]; ring, by rw [ey]; ring, fun h => hne h.symm⟩

theorem inPoly_iff (poly : List Pt) (q : Pt) :
    (inPoly poly q true = true ↔ ∀ e ∈ edges poly, 0 ≤ area2 e.1 e.2 q) ∧
    (inPoly poly q false = true ↔ ∀ e ∈ edges poly, 0 < area2 e.1 e.2 q) := by
  have hneg : ((edges poly).map fun e => vecDir e.1 e.2 q).any (· == -1) = true ↔
      ∃ e ∈ edges poly, area2 e.1 e.2 q < 0 := by
    simp only [List.any_map, List.any_eq_true, Function.comp_apply, beq_iff_eq, vecDir_neg]
  have hz : ((edges poly).map fun e => vecDir e.1 e.2 q).any (· == 0) = true ↔
      ∃ e ∈ edges poly, area2 e.1 e.2 q = 0 := by
    simp only [List.any_map, List.any_eq_true, Function.comp_apply, beq_iff_eq, vecDir_zero]
  simp only [inPoly]
  generalize ((edges poly).map fun e => vecDir e.1 e.2 q).any (· == -1) = A at hneg ⊢
  generalize ((edges poly).map fun e => vecDir e.1 e.2 q).any (· == 0) = Z at hz ⊢
  constructor
  · have : (if A = true then false else if (!true && Z) = true then false else true) = true ↔ ¬ A = true := by
      cases A <;> simp
    rw [this, hneg]
    exact ⟨fun h e he => not_lt.1 fun hlt => h ⟨e, he, hlt⟩, fun h ⟨e, he, hlt⟩ => not_lt.2 (h e he) hlt⟩
  · have : (if A = true then false else if (!false && Z) = true then false else true) = true ↔
        ¬ A = true ∧ ¬ Z = true := by
      cases A <;> cases Z <;> simp
    rw [this, hneg, hz]
    exact ⟨fun h e he => lt_of_le_of_ne (not_lt.1 fun hlt => h.1 ⟨e, he, hlt⟩) fun h0 => h.2 ⟨e, he, h0.symm⟩,
      fun h => ⟨fun ⟨e, he, hlt⟩ => lt_asymm (h e he) hlt, fun ⟨e, he, h0⟩ => (h e he).ne' h0⟩⟩

theorem area2_integer_bounded (B : Int) (ax ay bx by' cx cy : Int)
    (h : |ax| ≤ B ∧ |ay| ≤ B ∧ |bx| ≤ B ∧ |by'| ≤ B ∧ |cx| ≤ B ∧ |cy| ≤ B) :
    ∃ n : Int, area2 ⟨ax, ay⟩ ⟨bx, by'⟩ ⟨cx, cy⟩ = (n : Rat) ∧ |n| ≤ 8 * B * B ∧
      |(bx - ax) * (cy - ay)| ≤ 4 * B * B ∧ |(cx - ax) * (by' - ay)| ≤ 4 * B * B := by
  obtain ⟨h1, h2, h3, h4, h5, h6⟩ := h
  have hB : 0 ≤ B := le_trans (abs_nonneg _) h1
  have d : ∀ u v : Int, |u| ≤ B → |v| ≤ B → |u - v| ≤ 2 * B := by
    intro u v hu hv
    calc |u - v| ≤ |u| + |v| := abs_sub u v
      _ ≤ 2 * B := by linarith
  have m : ∀ u v : Int, |u| ≤ 2 * B → |v| ≤ 2 * B → |u * v| ≤ 4 * B * B := by
    intro u v hu hv
    rw [abs_mul]
    calc |u| * |v| ≤ (2 * B) * (2 * B) := mul_le_mul hu hv (abs_nonneg _) (by linarith)
      _ = 4 * B * B := by ring
  have p1 := m _ _ (d bx ax h3 h1) (d cy ay h6 h2)
  have p2 := m _ _ (d cx ax h5 h1) (d by' ay h4 h2)
  refine ⟨(bx - ax) * (cy - ay) - (cx - ax) * (by' - ay), ?_, ?_, p1, p2⟩
  · simp only [area2]; push_cast; ring
  · calc |(bx - ax) * (cy - ay) - (cx - ax) * (by' - ay)|
        ≤ |(bx - ax) * (cy - ay)| + |(cx - ax) * (by' - ay)| := abs_sub _ _
      _ ≤ 8 * B * B := by linarith

/-- the two range tests of `segmentIntersectPoint` on a numerator `d` put `d / f` into [0,1] -/
theorem unit_interval_of_tests (f d : Rat) (hf : f ≠ 0)
    (h : ¬ (if f > 0 then (decide (d < 0) || decide (d > f)) else (decide (d > 0) || decide (d < f))) = true) :
    0 ≤ d / f ∧ d / f ≤ 1 := by
  split_ifs at h with hp <;> simp only [Bool.or_eq_true, decide_eq_true_eq, not_or, not_lt] at h
  · exact ⟨div_nonneg h.1 hp.le, (div_le_one hp).2 h.2⟩
  · have hn : f < 0 := lt_of_le_of_ne (not_lt.1 hp) hf
    exact ⟨div_nonneg_of_nonpos h.1 hn.le, (div_le_one_of_neg hn).2 h.2⟩

/-- what an answer `r` of `segmentIntersectPoint` claims: with DO_INTERSECT a point on both closed segments, with
    PARALLEL parallel directions (DONT_INTERSECT claims nothing) -/
def SipSound (a1 a2 b1 b2 : Pt) (r : Int × Rat × Rat) : Prop :=
  (∀ x y, r = (DO_INTERSECT, x, y) →
    ∃ s t : Rat, 0 ≤ s ∧ s ≤ 1 ∧ 0 ≤ t ∧ t ≤ 1 ∧
      x = a1.x + s * (a2.x - a1.x) ∧ y = a1.y + s * (a2.y - a1.y) ∧
      x = b1.x + t * (b2.x - b1.x) ∧ y = b1.y + t * (b2.y - b1.y)) ∧
  (∀ x y, r = (PARALLEL, x, y) → (a2.y - a1.y) * (b1.x - b2.x) - (a2.x - a1.x) * (b1.y - b2.y) = 0)

theorem sipSound_dont (a1 a2 b1 b2 : Pt) : SipSound a1 a2 b1 b2 (DONT_INTERSECT, 0, 0) :=
  ⟨fun _ _ h => absurd (congrArg Prod.fst h) (by decide : DONT_INTERSECT ≠ DO_INTERSECT),
    fun _ _ h => absurd (congrArg Prod.fst h) (by decide : DONT_INTERSECT ≠ PARALLEL)⟩

theorem sipCore_sound (a1 a2 b1 b2 : Pt) : SipSound a1 a2 b1 b2 (sipCore a1 a2 b1 b2) := by
  unfold sipCore
  dsimp only
  generalize hF : (a2.y - a1.y) * (b1.x - b2.x) - (a2.x - a1.x) * (b1.y - b2.y) = F
  generalize hD : (b1.y - b2.y) * (a1.x - b1.x) - (b1.x - b2.x) * (a1.y - b1.y) = D
  generalize hE : (a2.x - a1.x) * (a1.y - b1.y) - (a2.y - a1.y) * (a1.x - b1.x) = E
  by_cases h3 : (if F > 0 then (decide (D < 0) || decide (D > F)) else (decide (D > 0) || decide (D < F))) = true
  · rw [if_pos h3]; exact sipSound_dont a1 a2 b1 b2
  rw [if_neg h3]
  by_cases h4 : (if F > 0 then (decide (E < 0) || decide (E > F)) else (decide (E > 0) || decide (E < F))) = true
  · rw [if_pos h4]; exact sipSound_dont a1 a2 b1 b2
  rw [if_neg h4]
  by_cases h5 : F = 0
  · rw [if_pos h5]
    exact ⟨fun _ _ h => absurd (congrArg Prod.fst h) (by decide : PARALLEL ≠ DO_INTERSECT), fun _ _ _ => hF.trans h5⟩
  rw [if_neg h5]
  refine ⟨fun x y h => ?_, fun _ _ h => absurd (congrArg Prod.fst h) (by decide : DO_INTERSECT ≠ PARALLEL)⟩
  simp only [Prod.mk.injEq] at h
  obtain ⟨_, hx, hy⟩ := h
  have r1 := unit_interval_of_tests _ _ h5 h3
  have r2 := unit_interval_of_tests _ _ h5 h4
  refine ⟨D / F, E / F, r1.1, r1.2, r2.1, r2.2, ?_, ?_, ?_, ?_⟩
  · rw [← hx]; ring
  · rw [← hy]; ring
  · rw [← hx]; field_simp; rw [← hD, ← hE, ← hF]; ring
  · rw [← hy]; field_simp; rw [← hD, ← hE, ← hF]; ring

theorem segmentIntersectPoint_sound (a1 a2 b1 b2 : Pt) :
    (∀ x y, segmentIntersectPoint a1 a2 b1 b2 = (DO_INTERSECT, x, y) →
      ∃ s t : Rat, 0 ≤ s ∧ s ≤ 1 ∧ 0 ≤ t ∧ t ≤ 1 ∧
        x = a1.x + s * (a2.x - a1.x) ∧ y = a1.y + s * (a2.y - a1.y) ∧
        x = b1.x + t * (b2.x - b1.x) ∧ y = b1.y + t * (b2.y - b1.y)) ∧
    (∀ x y, segmentIntersectPoint a1 a2 b1 b2 = (PARALLEL, x, y) →
      (a2.y - a1.y) * (b1.x - b2.x) - (a2.x - a1.x) * (b1.y - b2.y) = 0) := by
  unfold segmentIntersectPoint
  split_ifs
  · exact sipSound_dont a1 a2 b1 b2
  · exact sipSound_dont a1 a2 b1 b2
  · exact sipCore_sound a1 a2 b1 b2

end AdaptaVerif.Lemmas.GeometrySpec
