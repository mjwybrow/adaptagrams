/-
`Block::compute_dfdv` (model: `computeDfdv`) computes the tree multipliers:
on a state satisfying the block invariant with blocks at their stationary positions, the recursion
started at any variable of a block returns the `q`-sum of the subtree and assigns to every active
constraint of the block exactly `lamOf st j` (the multiplier that satisfies stationarity).
`dfdv_spec` is the statement for an arbitrary call; `Props/C02Model.dfdv_is_multiplier` is its root case.
The loops over `out` and over `in` are one loop body (`VpscTraverse.dStep fwd`), so one step is proved for
both; the direction enters through `VpscKkt.mult_far` only.
-/
import AdaptaVerif.Lemmas.VpscKktOpt
import AdaptaVerif.Lemmas.Util.Fold
import AdaptaVerif.Lemmas.Util.Array
namespace AdaptaVerif.Lemmas.VpscKktDfdv
open AdaptaVerif.Model.Vpsc
open AdaptaVerif.Lemmas.VpscGraph AdaptaVerif.Lemmas.VpscInv AdaptaVerif.Lemmas.VpscWalk
open AdaptaVerif.Lemmas.VpscKkt AdaptaVerif.Lemmas.VpscKktOpt
open AdaptaVerif.Lemmas.VpscLoop (forest_of_inv)
open AdaptaVerif.Lemmas.Util (foldl_ok)
open AdaptaVerif.Lemmas.VpscTraverse (farEnd nearEnd Acc sg follows dPut dStep computeDfdv_succ' follows_iff dStep_ok)
open AdaptaVerif.Spec.Qp (sumTo listSum)
open AdaptaVerif.Lemmas.Qp
open Relation

section Tree
variable {vars : Array Var} {cons : Array Con} {nb : Nat} {ia : Array Nat}

theorem parallel_eq (h : InvC vars cons nb ia) {j e a b : Nat} (h1 : AE cons j a b) (h2 : AE cons e b a) :
    j = e := by
  by_contra hne
  exact forest_of_inv h _ _ _ h2 (ReflTransGen.single ⟨j, hne, h1.symm⟩)

theorem ae_ne (h : InvC vars cons nb ia) {j a b : Nat} (hae : AE cons j a b) : b ≠ a := fun e =>
  forest_of_inv h _ _ _ hae (e ▸ ReflTransGen.refl)

theorem par_ne_iff (h : InvC vars cons nb ia) {e : Nat} {u : Option Nat} {v j y : Nat}
    (hp : Par cons e u v) (hae : AE cons j v y) : u ≠ some y ↔ j ≠ e := by
  rcases hp with ⟨rfl, hbig⟩ | ⟨u', rfl, hpe⟩
  · exact ⟨fun _ => by have := hae.1; omega, fun _ => nofun⟩
  · constructor
    · rintro hne rfl
      rcases ae_ends hpe hae with ⟨_, rfl⟩ | ⟨_, rfl⟩
      · exact ae_ne h hae rfl
      · exact hne rfl
    · intro hje heq
      obtain rfl : u' = y := Option.some.inj heq
      exact hje (parallel_eq h hae hpe)

/-- constraint `j` lies strictly inside the subtree of `v` cut off by `e`: it is not `e` and joins two
    vertices on `v`'s side of `e` -/
def Below (cons : Array Con) (e v j : Nat) : Prop :=
  j ≠ e ∧ ∃ a b, AE cons j a b ∧ ReachAvoid cons e v a ∧ ReachAvoid cons e v b

theorem below_cases (h : InvC vars cons nb ia) {e : Nat} {u : Option Nat} {v j : Nat}
    (hp : Par cons e u v) (hv : v < vars.size) (hb : Below cons e v j) :
    ∃ ci y, ci ≠ e ∧ AE cons ci v y ∧ (j = ci ∨ Below cons ci y j) := by
  obtain ⟨hje, a, b, haej, ha, hb⟩ := hb
  by_cases hav : a = v
  · exact ⟨j, b, hje, hav ▸ haej, Or.inl rfl⟩
  by_cases hbv : b = v
  · exact ⟨j, a, hje, hbv ▸ haej.symm, Or.inl rfl⟩
  have ha_lt : a < vars.size := by
    obtain ⟨hj, _, ⟨rfl, _⟩ | ⟨_, rfl⟩⟩ := haej
    · exact h.l_lt j hj
    · exact h.r_lt j hj
  obtain ⟨j0, _, ⟨y0, hae0, hy0⟩, _⟩ := beyond_unique h v a hv ha_lt (h.reach_blk ha).symm hav
  have hj0e : j0 ≠ e := by
    rintro rfl
    exact forest_of_inv h _ _ _ hae0 (ha.trans hy0.symm)
  have hjj0 : j ≠ j0 := by
    rintro rfl
    rcases ae_ends haej hae0 with ⟨e1, _⟩ | ⟨e1, _⟩
    · exact hav e1.symm
    · exact hbv e1.symm
  exact ⟨j0, y0, hj0e, hae0, Or.inr ⟨hjj0, a, b, haej, hy0, hy0.tail ⟨j, hjj0, haej⟩⟩⟩

end Tree

section Children
variable {st : St} (hinv : Inv st)
include hinv

theorem follows_iff_ne {bid e : Nat} {u : Option Nat} {v ci : Nat} {fwd : Bool} (hp : Par st.cons e u v)
    (hb : blk st.vars v = bid) (hae : AE st.cons ci v (farEnd fwd st.cons[ci]!)) :
    follows st bid u fwd ci = true ↔ ci ≠ e :=
  follows_iff.trans ⟨fun hh => (par_ne_iff hinv hp hae).1 hh.2,
    fun hh => ⟨⟨(hinv.ae_blk hae).symm.trans hb, hae.2.1⟩, (par_ne_iff hinv hp hae).2 hh⟩⟩

theorem children_sum (bid : Nat) {e : Nat} {u : Option Nat} {v : Nat}
    (hp : Par st.cons e u v) (hb : blk st.vars v = bid) (q : Nat → Rat) :
    listSum (fun ci => if follows st bid u true ci = true
        then beyondSum st.cons st.vars.size q v ci else 0) (st.vars[v]!).outs.toList +
    listSum (fun ci => if follows st bid u false ci = true
        then beyondSum st.cons st.vars.size q v ci else 0) (st.vars[v]!).ins.toList =
    sumTo st.cons.size (fun j => if j ≠ e then beyondSum st.cons st.vars.size q v j else 0) := by
  rw [listSum_indicator st.cons.size _ _ (hinv.outs_nodup v)
        (fun a ha => (hinv.outs_sound v a (Array.mem_toList_iff.mp ha)).1),
      listSum_indicator st.cons.size _ _ (hinv.ins_nodup v)
        (fun a ha => (hinv.ins_sound v a (Array.mem_toList_iff.mp ha)).1),
      ← sumTo_add]
  refine sumTo_congr fun j hj => ?_
  simp only [Array.mem_toList_iff]
  by_cases hB : ∃ y, AE st.cons j v y
  · -- `j` is an `out` or an `in` constraint of `v`, not both
    obtain ⟨y, hae⟩ := hB
    have hyv := ae_ne hinv hae
    obtain ⟨fwd, hnear, rfl⟩ := ae_dir hae
    cases fwd
    · rw [if_neg fun hm => hyv (hinv.outs_sound v j hm).2,
        if_pos (hnear ▸ hinv.ins_complete j hj), zero_add]
      exact if_congr (follows_iff_ne hinv hp hb hae) rfl rfl
    · rw [if_pos (hnear ▸ hinv.outs_complete j hj),
        if_neg fun hm => hyv (hinv.ins_sound v j hm).2, add_zero]
      exact if_congr (follows_iff_ne hinv hp hb hae) rfl rfl
  · rw [beyondSum_eq_zero _ q fun y hae => hB ⟨y, hae⟩]
    simp only [ite_self, add_zero]

end Children

section Rec
variable {st : St}

/-- `lm'` arises from `lm` by overwriting some entries of active constraints with their multiplier -/
def Keep (st : St) (lm lm' : Array Rat) : Prop :=
  ∀ j : Nat, lm'[j]! = lm[j]! ∨ ((st.cons[j]!).active = true ∧ lm'[j]! = lamOf st j)

theorem Keep.refl (st : St) (lm : Array Rat) : Keep st lm lm := fun _ => Or.inl rfl

theorem Keep.trans {st : St} {a b c : Array Rat} (h1 : Keep st a b) (h2 : Keep st b c) : Keep st a c := by
  intro j
  rcases h2 j with e2 | e2
  · rcases h1 j with e1 | e1
    · exact Or.inl (e2.trans e1)
    · exact Or.inr ⟨e1.1, e2.trans e1.2⟩
  · exact Or.inr e2

theorem Keep.stay {st : St} {a b : Array Rat} (h : Keep st a b) {j : Nat} (hj : a[j]! = lamOf st j) :
    b[j]! = lamOf st j := by
  rcases h j with e | e
  · exact e.trans hj
  · exact e.2

/-- the child constraint `ci` (whose far end is `y`) and the subtree hanging below it are finished -/
def ChildDone (st : St) (ci y : Nat) (lm : Array Rat) : Prop :=
  ∀ j : Nat, j = ci ∨ Below st.cons ci y j → lm[j]! = lamOf st j

theorem ChildDone.stay {st : St} {ci y : Nat} {a b : Array Rat} (h : ChildDone st ci y a)
    (hk : Keep st a b) : ChildDone st ci y b := fun j hj => hk.stay (h j hj)

/-- what a call of the recursion at `v`, entered over `e`, achieves -/
structure DSpec (st : St) (e v : Nat) (lm lm' : Array Rat) (D : Rat) : Prop where
  val : D = sideSum st.cons st.vars.size (qOf st) e v
  size : lm'.size = st.cons.size
  keep : Keep st lm lm'
  done : ∀ j : Nat, Below st.cons e v j → lm'[j]! = lamOf st j

/-- what a stretch `L` of the loop in direction `fwd` of the call at `v` (entered from `u`) does to the
    accumulator: every followed constraint adds what lies beyond it to the running value (in units of
    the scale of `v`), and it and the subtree below it are finished -/
structure LoopOk (st : St) (bid : Nat) (u : Option Nat) (v : Nat) (fwd : Bool) (L : List Nat)
    (acc acc' : Acc) : Prop where
  size : acc'.1.size = st.cons.size
  val : acc'.2.2.1 = acc.2.2.1 + (st.vars[v]!).scale * listSum (fun ci =>
    if follows st bid u fwd ci = true then beyondSum st.cons st.vars.size (qOf st) v ci else 0) L
  keep : Keep st acc.1 acc'.1
  done : ∀ ci ∈ L, follows st bid u fwd ci = true → ChildDone st ci (farEnd fwd st.cons[ci]!) acc'.1

theorem LoopOk.child (hinv : Inv st) (hstat : BlockStationary st) {bid v ci : Nat} {u : Option Nat}
    {fwd : Bool} {acc R : Acc} (hci : ci < st.cons.size) (hnear : nearEnd fwd st.cons[ci]! = v)
    (hcf : follows st bid u fwd ci = true)
    (sp : DSpec st ci (farEnd fwd st.cons[ci]!) acc.1 R.1 R.2.2.1) :
    LoopOk st bid u v fwd [ci] acc (dPut st fwd ci acc.2.2.1 acc.2.2.2 R) := by
  have hact := (follows_iff.mp hcf).1.2
  have hae : AE st.cons ci v (farEnd fwd st.cons[ci]!) := hnear ▸ ae_near_far hci hact fwd
  have hval : sg fwd R.2.2.1 = lamOf st ci :=
    (congrArg (sg fwd) sp.val).trans (mult_far hinv (qOf st) hstat hci hact fwd).symm
  have hget : ∀ j : Nat, (R.1.set! ci (sg fwd R.2.2.1))[j]! = if ci = j then lamOf st ci else R.1[j]! := by
    intro j
    rw [Util.get!_set!, hval]
    by_cases hcj : ci = j
    · rw [if_pos ⟨hcj, hcj ▸ sp.size ▸ hci⟩, if_pos hcj]
    · rw [if_neg fun hh => hcj hh.1, if_neg hcj]
  unfold dPut
  refine ⟨by rw [Array.set!_eq_setIfInBounds, Array.size_setIfInBounds]; exact sp.size, ?_, ?_, ?_⟩
  · rw [listSum, listSum, add_zero, if_pos hcf, beyondSum_of_ae hinv _ _ hae, ← sp.val, hnear,
      mul_comm R.2.2.1]
  · intro j
    rw [hget j]
    by_cases hcj : ci = j
    · rw [if_pos hcj]; exact Or.inr ⟨hcj ▸ hact, hcj ▸ rfl⟩
    · rw [if_neg hcj]; exact sp.keep j
  · intro c hc _
    rw [List.mem_singleton.mp hc]
    rintro j (rfl | hj)
    · rw [hget, if_pos rfl]
    · rw [hget, if_neg (Ne.symm hj.1)]; exact sp.done j hj

theorem LoopOk.skip {bid v ci : Nat} {u : Option Nat} {fwd : Bool} {acc : Acc}
    (hsz : acc.1.size = st.cons.size) (hnf : ¬ follows st bid u fwd ci = true) :
    LoopOk st bid u v fwd [ci] acc acc :=
  ⟨hsz, by rw [listSum, listSum, add_zero, if_neg hnf, mul_zero, add_zero], Keep.refl st _,
    fun c hc hf => absurd (List.mem_singleton.mp hc ▸ hf) hnf⟩

theorem fold_steps {bid fuel v : Nat} {u : Option Nat} {fwd : Bool} (valid : Nat → Prop)
    (hstep : ∀ (acc : Acc) (ci : Nat), valid ci → acc.1.size = st.cons.size →
      (dStep st bid fuel v u fwd acc ci).2.2.2 = true →
      LoopOk st bid u v fwd [ci] acc (dStep st bid fuel v u fwd acc ci)) :
    ∀ (L : List Nat) (acc : Acc), (∀ ci ∈ L, valid ci) → acc.1.size = st.cons.size →
      (L.foldl (dStep st bid fuel v u fwd) acc).2.2.2 = true →
      LoopOk st bid u v fwd L acc (L.foldl (dStep st bid fuel v u fwd) acc)
  | [], acc, _, hsz, _ => ⟨hsz, by simp [listSum], Keep.refl st _, by simp⟩
  | ci :: L, acc, hv, hsz, hok => by
    have h1 := hstep acc ci (hv ci List.mem_cons_self) hsz (foldl_ok (fun a : Acc => a.2.2.2) _ dStep_ok L _ hok)
    have h2 := fold_steps valid hstep L (dStep st bid fuel v u fwd acc ci)
      (fun c hc => hv c (List.mem_cons_of_mem _ hc)) h1.size hok
    refine ⟨h2.size, ?_, h1.keep.trans h2.keep, fun c hc hf => ?_⟩
    · rw [List.foldl_cons, h2.val, h1.val]; simp only [listSum]; ring
    · rcases List.mem_cons.1 hc with rfl | hc
      · exact (h1.done c List.mem_cons_self hf).stay h2.keep
      · exact h2.done c hc hf

end Rec

section Main
variable {st : St} (hinv : Inv st) (hstat : BlockStationary st)
  (hs : ∀ i : Nat, i < st.vars.size → (st.vars[i]!).scale ≠ 0)
include hinv hstat hs

theorem dfdv_spec (bid : Nat) : ∀ (fuel : Nat) (lm : Array Rat) (post : Array Nat) (v : Nat)
    (u : Option Nat) (e : Nat), Par st.cons e u v → v < st.vars.size → blk st.vars v = bid →
    lm.size = st.cons.size → (computeDfdv st bid fuel lm post v u).2.2.2 = true →
    DSpec st e v lm (computeDfdv st bid fuel lm post v u).1 (computeDfdv st bid fuel lm post v u).2.2.1 := by
  intro fuel
  induction fuel with
  | zero => intro lm post v u e _ _ _ _ h; simp [computeDfdv] at h
  | succ fuel ih =>
    intro lm post v u e hp hv hb hsz hok
    rw [computeDfdv_succ'] at hok ⊢
    -- one step of either loop: a followed constraint leads to a call that achieves `DSpec` below it
    have step : ∀ (fwd : Bool) (acc : Acc) (ci : Nat),
        (ci < st.cons.size ∧ nearEnd fwd st.cons[ci]! = v) → acc.1.size = st.cons.size →
        (dStep st bid fuel v u fwd acc ci).2.2.2 = true →
        LoopOk st bid u v fwd [ci] acc (dStep st bid fuel v u fwd acc ci) := by
      intro fwd acc ci ⟨hci, hnear⟩ hasz hokc
      unfold dStep at hokc ⊢
      by_cases hcf : follows st bid u fwd ci = true
      · rw [if_pos hcf] at hokc ⊢
        obtain ⟨⟨hbf, hact⟩, _⟩ := follows_iff.mp hcf
        exact LoopOk.child hinv hstat hci hnear hcf
          (ih acc.1 acc.2.1 _ (some v) ci (Or.inr ⟨v, rfl, hnear ▸ ae_near_far hci hact fwd⟩)
            (far_lt hinv.link.toLinkOK hci fwd) hbf hasz ((Bool.and_eq_true _ _).mp hokc).2)
      · rw [if_neg hcf] at hokc ⊢
        exact LoopOk.skip hasz hcf
    have hokOut := foldl_ok (fun a : Acc => a.2.2.2) _ dStep_ok (st.vars[v]!).ins.toList _ hok
    have o := fold_steps (fun ci => ci < st.cons.size ∧ nearEnd true st.cons[ci]! = v) (step true)
      (st.vars[v]!).outs.toList (lm, post, st.dfdv v, true)
      (fun ci hci => hinv.outs_sound v ci (Array.mem_toList_iff.mp hci)) hsz hokOut
    have i := fold_steps (fun ci => ci < st.cons.size ∧ nearEnd false st.cons[ci]! = v) (step false)
      (st.vars[v]!).ins.toList _
      (fun ci hci => hinv.ins_sound v ci (Array.mem_toList_iff.mp hci)) o.size hok
    generalize (st.vars[v]!).outs.toList.foldl (dStep st bid fuel v u true) (lm, post, st.dfdv v, true) = A1
      at o i hok hokOut ⊢
    generalize (st.vars[v]!).ins.toList.foldl (dStep st bid fuel v u false) A1 = A2 at i hok ⊢
    refine ⟨?_, i.size, o.keep.trans i.keep, ?_⟩
    · -- the value: the root plus what the two loops added, as `side_decomp` splits the subtree
      show A2.2.2.1 / _ = _
      rw [i.val, o.val, side_decomp hinv (qOf st) hp hv, ← children_sum hinv bid hp hb (qOf st),
        add_assoc, ← mul_add, add_div, mul_div_cancel_left₀ _ (hs v hv)]
      rfl
    · -- every constraint inside the subtree is a followed child constraint or lies below one
      intro j hj
      obtain ⟨ci, y, hcie, hae, hj⟩ := below_cases hinv hp hv hj
      obtain ⟨fwd, hnear, rfl⟩ := ae_dir hae
      have hfol := (follows_iff_ne hinv hp hb hae).mpr hcie
      cases fwd
      · exact i.done ci (Array.mem_toList_iff.mpr (hnear ▸ hinv.ins_complete ci hae.1)) hfol j hj
      · exact ((o.done ci (Array.mem_toList_iff.mpr (hnear ▸ hinv.outs_complete ci hae.1)) hfol).stay
          i.keep) j hj

end Main

end AdaptaVerif.Lemmas.VpscKktDfdv
