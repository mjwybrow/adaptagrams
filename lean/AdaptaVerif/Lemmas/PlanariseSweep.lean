/-
The computeCrossings sweep of `Model.Planarise`, one event at a time.  `Good`: the hypothesis on the segment list; `Inv`: the
tracking invariant; `pe_*`, `inv_*`: what each arm of `processEvent` does under it, and that it keeps it; `mkSeg_*`: the
`EdgeSegment` constructor on axis-parallel pairs.  The cut: `IsCut` says in lookup form, about any two states, what
`crossAt` does to ONE segment, `CutAt` where on the segment the new node lies; `Cut` is the one description of a cut of the
sweep, which is two cuts of one segment (`Cut.two`).  `GeoEq`: every other step leaves pieces, crossing nodes and pointers as
they are.
-/
import AdaptaVerif.Lemmas.PlanariseSort
namespace AdaptaVerif.Lemmas.Planarise
open AdaptaVerif.Model.Planarise

def SegH (s : Seg) : Prop :=
  s.ori = .H ∧ s.on.p.y = s.cc ∧ s.cn.p.y = s.cc ∧ s.on.p.x = s.lo ∧ s.cn.p.x = s.hi ∧ s.lo < s.hi
def SegV (s : Seg) : Prop :=
  s.ori = .V ∧ s.on.p.x = s.cc ∧ s.cn.p.x = s.cc ∧ s.on.p.y = s.lo ∧ s.cn.p.y = s.hi ∧ s.lo < s.hi

section
variable {s : Seg}
theorem SegH.ori (h : SegH s) : s.ori = .H := h.1
theorem SegH.on_y (h : SegH s) : s.on.p.y = s.cc := h.2.1
theorem SegH.on_x (h : SegH s) : s.on.p.x = s.lo := h.2.2.2.1
theorem SegH.cn_x (h : SegH s) : s.cn.p.x = s.hi := h.2.2.2.2.1
theorem SegH.lt (h : SegH s) : s.lo < s.hi := h.2.2.2.2.2
theorem SegV.ori (h : SegV s) : s.ori = .V := h.1
theorem SegV.on_x (h : SegV s) : s.on.p.x = s.cc := h.2.1
theorem SegV.cn_x (h : SegV s) : s.cn.p.x = s.cc := h.2.2.1
theorem SegV.on_y (h : SegV s) : s.on.p.y = s.lo := h.2.2.2.1
theorem SegV.cn_y (h : SegV s) : s.cn.p.y = s.hi := h.2.2.2.2.1
theorem SegV.lt (h : SegV s) : s.lo < s.hi := h.2.2.2.2.2
end

/-- the stored form of a segment, in the coordinates along (`vcOf`) and across (`ccOf`) its own line -/
def SegO (s : Seg) : Prop :=
  ccOf s.ori s.on = s.cc ∧ ccOf s.ori s.cn = s.cc ∧ vcOf s.ori s.on = s.lo ∧ vcOf s.ori s.cn = s.hi ∧ s.lo < s.hi

theorem segO_of_shape {s : Seg} (h : SegH s ∨ SegV s) : SegO s := by
  rcases h with h | h <;> obtain ⟨h0, h1, h2, h3, h4, h5⟩ := h <;>
    simp only [SegO, h0, ccOf_H, vcOf_H, ccOf_V, vcOf_V] <;>
    exact ⟨h1, h2, h3, h4, h5⟩

/-- axis-parallel segments of positive length, stored as the `EdgeSegment` constructor stores them; any two
x-coordinates (y-coordinates) of segment ends equal or more than 1 apart; segments on the same line do not overlap -/
structure Good (S : List Seg) : Prop where
  shape : ∀ s ∈ S, SegH s ∨ SegV s
  sepX : ∀ s ∈ S, ∀ t ∈ S, ∀ a ∈ [s.on.p.x, s.cn.p.x], ∀ b ∈ [t.on.p.x, t.cn.p.x], Apart a b
  sepY : ∀ s ∈ S, ∀ t ∈ S, ∀ a ∈ [s.on.p.y, s.cn.p.y], ∀ b ∈ [t.on.p.y, t.cn.p.y], Apart a b
  noOverlap : S.Pairwise (fun s t => s.ori = t.ori → s.cc = t.cc → s.hi ≤ t.lo ∨ t.hi ≤ s.lo)

theorem mkEvents_length (S : List Seg) : ∀ b, (mkEvents b S).length = 2 * S.length := by
  induction S with
  | nil => intro b; simp [mkEvents]
  | cons s r ih => intro b; simp [mkEvents, ih]; omega

theorem mkEvents_get (S : List Seg) : ∀ (b j : Nat) (s : Seg), S[j]? = some s →
    (mkEvents b S)[2 * j]? = some (mkEv (b + j) s s.on .opn (2 * (b + j) + 1)) ∧
    (mkEvents b S)[2 * j + 1]? = some (mkEv (b + j) s s.cn .close (2 * (b + j))) := by
  induction S with
  | nil => intro b j s h; simp at h
  | cons s0 r ih =>
    intro b j s h
    cases j with
    | zero =>
      simp at h; subst h
      simp [mkEvents]
    | succ j =>
      simp at h
      have := ih (b + 1) j s h
      have e1 : 2 * (j + 1) = (2 * j + 1) + 1 := by omega
      have e2 : b + 1 + j = b + (j + 1) := by omega
      rw [e2] at this
      simp only [mkEvents]
      refine ⟨?_, ?_⟩
      · rw [e1, List.getElem?_cons_succ, List.getElem?_cons_succ]; exact this.1
      · rw [e1, List.getElem?_cons_succ, List.getElem?_cons_succ]; exact this.2

def oriAt (segs : List Seg) (a : Nat) : Option Ori := (segs[a]?).map (·.ori)

/-- `P e`: event `e` has been processed in its own role (OPEN / CLOSE).  Events `2i` and `2i+1` stay the opening and
closing event of the original segment `S[i]` however often it is cut: companions, the closing end node and the
orientation of the segments they point to never change; `openH` holds exactly the horizontals opened and not closed. -/
structure Inv (S : List Seg) (P : Nat → Prop) (st : SwState) : Prop where
  len : st.evs.length = 2 * S.length
  ev : ∀ i s, S[i]? = some s → ∃ eo ec, st.evs[2 * i]? = some eo ∧ st.evs[2 * i + 1]? = some ec ∧
        eo.cc = s.cc ∧ eo.comp = 2 * i + 1 ∧ ec.comp = 2 * i ∧ ec.ty = .close ∧ ec.endpt = s.cn ∧
        oriAt st.segs eo.seg = some s.ori ∧ oriAt st.segs ec.seg = some s.ori ∧
        (s.ori = .H → eo.endpt.p.y = s.cc ∧ (P (2 * i) → eo.ty = .sustain) ∧ (¬ P (2 * i) → eo.ty = .opn)) ∧
        (s.ori = .V → eo.ty = .opn ∧ (¬ P (2 * i) → eo.endpt.p.y = s.lo))
  oh : ∀ e, e ∈ st.openH ↔ ∃ i s, S[i]? = some s ∧ e = 2 * i ∧ s.ori = .H ∧ P (2 * i) ∧ ¬ P (2 * i + 1)
  ohs : st.openH.Pairwise (· < ·)

section
variable {S : List Seg} {P : Nat → Prop} {st : SwState} {i : Nat} {s : Seg} {eo ec : Ev}

theorem Inv.open_get (hI : Inv S P st) (hs : S[i]? = some s) : ∃ eo, st.evs[2 * i]? = some eo := by
  obtain ⟨eo, _, h, _⟩ := hI.ev i s hs; exact ⟨eo, h⟩

theorem Inv.close_get (hI : Inv S P st) (hs : S[i]? = some s) : ∃ ec, st.evs[2 * i + 1]? = some ec := by
  obtain ⟨_, ec, _, h, _⟩ := hI.ev i s hs; exact ⟨ec, h⟩

theorem Inv.ev_open (hI : Inv S P st) (hs : S[i]? = some s) (he : st.evs[2 * i]? = some eo) :
    eo.cc = s.cc ∧ eo.comp = 2 * i + 1 ∧ oriAt st.segs eo.seg = some s.ori ∧
    (s.ori = .H → eo.endpt.p.y = s.cc ∧ (P (2 * i) → eo.ty = .sustain) ∧ (¬ P (2 * i) → eo.ty = .opn)) ∧
    (s.ori = .V → eo.ty = .opn ∧ (¬ P (2 * i) → eo.endpt.p.y = s.lo)) := by
  obtain ⟨_, _, h0, _, h2, h3, _, _, _, h7, _, h9, h10⟩ := hI.ev i s hs
  rw [he] at h0; cases h0; exact ⟨h2, h3, h7, h9, h10⟩

theorem Inv.ev_close (hI : Inv S P st) (hs : S[i]? = some s) (he : st.evs[2 * i + 1]? = some ec) :
    ec.comp = 2 * i ∧ ec.ty = .close ∧ ec.endpt = s.cn ∧ oriAt st.segs ec.seg = some s.ori := by
  obtain ⟨_, _, _, h1, _, _, h4, h5, h6, _, h8, _⟩ := hI.ev i s hs
  rw [he] at h1; cases h1; exact ⟨h4, h5, h6, h8⟩

variable (hI : Inv S P st) (hs : S[i]? = some s)
include hI hs

theorem Inv.open_cc (he : st.evs[2 * i]? = some eo) : eo.cc = s.cc := (hI.ev_open hs he).1
theorem Inv.open_comp (he : st.evs[2 * i]? = some eo) : eo.comp = 2 * i + 1 := (hI.ev_open hs he).2.1
theorem Inv.open_ori (he : st.evs[2 * i]? = some eo) : oriAt st.segs eo.seg = some s.ori := (hI.ev_open hs he).2.2.1
theorem Inv.open_y_of_H (he : st.evs[2 * i]? = some eo) (hH : s.ori = .H) : eo.endpt.p.y = s.cc :=
  ((hI.ev_open hs he).2.2.2.1 hH).1
theorem Inv.sustain_of_H (he : st.evs[2 * i]? = some eo) (hH : s.ori = .H) (hP : P (2 * i)) : eo.ty = .sustain :=
  ((hI.ev_open hs he).2.2.2.1 hH).2.1 hP
theorem Inv.opn_of_H (he : st.evs[2 * i]? = some eo) (hH : s.ori = .H) (hP : ¬ P (2 * i)) : eo.ty = .opn :=
  ((hI.ev_open hs he).2.2.2.1 hH).2.2 hP
theorem Inv.opn_of_V (he : st.evs[2 * i]? = some eo) (hV : s.ori = .V) : eo.ty = .opn :=
  ((hI.ev_open hs he).2.2.2.2 hV).1
theorem Inv.open_y_of_V (he : st.evs[2 * i]? = some eo) (hV : s.ori = .V) (hP : ¬ P (2 * i)) : eo.endpt.p.y = s.lo :=
  ((hI.ev_open hs he).2.2.2.2 hV).2 hP
theorem Inv.close_comp (he : st.evs[2 * i + 1]? = some ec) : ec.comp = 2 * i := (hI.ev_close hs he).1
theorem Inv.close_ty (he : st.evs[2 * i + 1]? = some ec) : ec.ty = .close := (hI.ev_close hs he).2.1
theorem Inv.close_endpt (he : st.evs[2 * i + 1]? = some ec) : ec.endpt = s.cn := (hI.ev_close hs he).2.2.1
theorem Inv.close_ori (he : st.evs[2 * i + 1]? = some ec) : oriAt st.segs ec.seg = some s.ori :=
  (hI.ev_close hs he).2.2.2
end

theorem oriAt_some {segs : List Seg} {a : Nat} {o : Ori} (h : oriAt segs a = some o) :
    ∃ s, segs[a]? = some s ∧ s.ori = o := by
  unfold oriAt at h
  cases hs : segs[a]? with
  | none => simp [hs] at h
  | some s => simp [hs] at h; exact ⟨s, rfl, h⟩

theorem mem_insertAsc (i : Nat) (l : List Nat) (x : Nat) : x ∈ insertAsc i l ↔ x = i ∨ x ∈ l := by
  induction l with
  | nil => simp [insertAsc]
  | cons j r ih =>
    simp only [insertAsc]
    split
    · simp
    · split
      · rename_i h; subst h; simp
      · simp [ih]; grind

theorem insertAsc_sorted (i : Nat) (l : List Nat) (h : l.Pairwise (· < ·)) :
    (insertAsc i l).Pairwise (· < ·) := by
  induction l with
  | nil => simp [insertAsc]
  | cons j r ih =>
    rw [List.pairwise_cons] at h
    simp only [insertAsc]
    split
    · rename_i hij
      rw [List.pairwise_cons]
      refine ⟨?_, List.pairwise_cons.2 h⟩
      intro x hx
      rcases List.mem_cons.1 hx with rfl | hx
      · exact hij
      · exact Nat.lt_trans hij (h.1 x hx)
    · split
      · exact List.pairwise_cons.2 h
      · rename_i h1 h2
        rw [List.pairwise_cons]
        refine ⟨?_, ih h.2⟩
        intro x hx
        rcases (mem_insertAsc i r x).1 hx with rfl | hx
        · omega
        · exact h.1 x hx

theorem mem_erase_sorted (l : List Nat) (h : l.Pairwise (· < ·)) (a x : Nat) :
    x ∈ l.erase a ↔ x ∈ l ∧ x ≠ a := by
  have hnd : l.Nodup := h.imp (fun hab => Nat.ne_of_lt hab)
  exact hnd.mem_erase_iff.trans (by constructor <;> (intro ⟨a, b⟩; exact ⟨b, a⟩))

variable {S : List Seg} {P : Nat → Prop} {st : SwState}

theorem Good.segH (hG : Good S) {i : Nat} {s : Seg} (hs : S[i]? = some s) (h : s.ori = .H) : SegH s := by
  rcases hG.shape s (List.mem_of_getElem? hs) with h' | h'
  · exact h'
  · rw [h'.ori] at h; cases h

theorem Good.segV (hG : Good S) {i : Nat} {s : Seg} (hs : S[i]? = some s) (h : s.ori = .V) : SegV s := by
  rcases hG.shape s (List.mem_of_getElem? hs) with h' | h'
  · rw [h'.ori] at h; cases h
  · exact h'

theorem Good.noOverlap_get (hG : Good S) {a b : Nat} {s t : Seg} (hs : S[a]? = some s) (ht : S[b]? = some t)
    (hab : a ≠ b) (ho : s.ori = t.ori) (hc : s.cc = t.cc) : s.hi ≤ t.lo ∨ t.hi ≤ s.lo := by
  obtain ⟨ha, hsa⟩ := List.getElem?_eq_some_iff.1 hs
  obtain ⟨hb, htb⟩ := List.getElem?_eq_some_iff.1 ht
  have hp := hG.noOverlap
  rw [List.pairwise_iff_getElem] at hp
  rcases Nat.lt_or_gt_of_ne hab with h | h
  · have := hp a b ha hb h; rw [hsa, htb] at this; exact this ho hc
  · have := hp b a hb ha h; rw [hsa, htb] at this
    exact (this ho.symm hc.symm).symm

theorem Good.not_inside_other (hG : Good S) {q m : Nat} {sq sm : Seg} (hq : S[q]? = some sq) (hm : S[m]? = some sm)
    (hmq : m ≠ q) (ho : sm.ori = sq.ori) {cr : Node} (hcq : ccOf sq.ori cr = sq.cc) (h1 : sq.lo < vcOf sq.ori cr)
    (h2 : vcOf sq.ori cr ≤ sq.hi) (hcm : ccOf sm.ori cr = sm.cc) : ¬ (sm.lo < vcOf sm.ori cr ∧ vcOf sm.ori cr < sm.hi) := by
  rw [ho] at hcm ⊢
  have := hG.noOverlap_get hq hm (Ne.symm hmq) ho.symm (by rw [← hcq, hcm])
  grind

theorem Inv.mem_openH (hI : Inv S P st) {i : Nat} {s : Seg} (hs : S[i]? = some s) :
    2 * i ∈ st.openH ↔ s.ori = .H ∧ P (2 * i) ∧ ¬ P (2 * i + 1) := by
  rw [hI.oh]
  constructor
  · rintro ⟨j, t, ht, he, r⟩
    obtain rfl : i = j := by omega
    rw [hs] at ht; cases ht; exact r
  · intro h; exact ⟨i, s, hs, rfl, h⟩

theorem Inv.close_not_openH (hI : Inv S P st) (i : Nat) : 2 * i + 1 ∉ st.openH := by
  intro h
  obtain ⟨j, _, _, he, _⟩ := (hI.oh _).1 h
  omega

theorem seg_of_ev (hI : Inv S P st) {j : Nat} {ej : Ev} (hj : st.evs[2 * j]? = some ej) :
    ∃ sj, S[j]? = some sj := by
  have hjl : j < S.length := by
    have := (List.getElem?_eq_some_iff.1 hj).1; rw [hI.len] at this; omega
  exact ⟨_, List.getElem?_eq_getElem hjl⟩

theorem H_not_V {i k : Nat} {si sk : Seg} (hsi : S[i]? = some si) (hH : si.ori = .H)
    (hsk : S[k]? = some sk) (hV : sk.ori = .V) : i ≠ k := by
  rintro rfl; rw [hsi] at hsk; cases hsk; rw [hH] at hV; cases hV

theorem pe_close (hI : Inv S P st) {i : Nat} {s : Seg} (hs : S[i]? = some s) :
    processEvent st (2 * i + 1) =
      if s.ori = .H then { st with openH := st.openH.erase (2 * i) } else { st with openV := none } := by
  obtain ⟨ec, hec⟩ := hI.close_get hs
  obtain ⟨sc, hsc, hori⟩ := oriAt_some (hI.close_ori hs hec)
  unfold processEvent
  simp only [hec, hsc, hI.close_ty hs hec, hI.close_comp hs hec, hori]

/-- the event part of the invariant only looks at `evs`, `segs` and `P` on OPEN events; for the OPEN event of a vertical
`P` may only grow -/
theorem Inv.transfer_gen {Q : Nat → Prop} {st' : SwState} (hI : Inv S P st)
    (hevs : st'.evs = st.evs) (hsegs : st'.segs = st.segs)
    (hH : ∀ j s, S[j]? = some s → s.ori = .H → (Q (2 * j) ↔ P (2 * j))) (hV : ∀ j, P (2 * j) → Q (2 * j))
    (hoh : ∀ e, e ∈ st'.openH ↔ ∃ i s, S[i]? = some s ∧ e = 2 * i ∧ s.ori = .H ∧ Q (2 * i) ∧ ¬ Q (2 * i + 1))
    (hohs : st'.openH.Pairwise (· < ·)) : Inv S Q st' := by
  refine ⟨by rw [hevs]; exact hI.len, ?_, hoh, hohs⟩
  intro i s hs
  obtain ⟨eo, heo⟩ := hI.open_get hs
  obtain ⟨ec, hec⟩ := hI.close_get hs
  exact ⟨eo, ec, by rw [hevs]; exact heo, by rw [hevs]; exact hec, hI.open_cc hs heo, hI.open_comp hs heo,
    hI.close_comp hs hec, hI.close_ty hs hec, hI.close_endpt hs hec, by rw [hsegs]; exact hI.open_ori hs heo,
    by rw [hsegs]; exact hI.close_ori hs hec,
    fun hh => ⟨hI.open_y_of_H hs heo hh, fun q => hI.sustain_of_H hs heo hh ((hH i s hs hh).1 q),
      fun q => hI.opn_of_H hs heo hh (fun p => q ((hH i s hs hh).2 p))⟩,
    fun hv => ⟨hI.opn_of_V hs heo hv, fun q => hI.open_y_of_V hs heo hv (fun p => q (hV i p))⟩⟩

theorem Inv.transfer {Q : Nat → Prop} {st' : SwState} (hI : Inv S P st)
    (hevs : st'.evs = st.evs) (hsegs : st'.segs = st.segs) (hPQ : ∀ j, Q (2 * j) ↔ P (2 * j))
    (hoh : ∀ e, e ∈ st'.openH ↔ ∃ i s, S[i]? = some s ∧ e = 2 * i ∧ s.ori = .H ∧ Q (2 * i) ∧ ¬ Q (2 * i + 1))
    (hohs : st'.openH.Pairwise (· < ·)) : Inv S Q st' :=
  hI.transfer_gen hevs hsegs (fun j _ _ _ => hPQ j) (fun j => (hPQ j).2) hoh hohs

theorem Inv.congr {Q : Nat → Prop} (hI : Inv S P st) (h : ∀ x, P x ↔ Q x) : Inv S Q st := by
  refine hI.transfer rfl rfl (fun j => (h _).symm) ?_ hI.ohs
  intro e; rw [hI.oh]
  constructor
  · rintro ⟨i, s, a, b, c, d, f⟩; exact ⟨i, s, a, b, c, (h _).1 d, fun q => f ((h _).2 q)⟩
  · rintro ⟨i, s, a, b, c, d, f⟩; exact ⟨i, s, a, b, c, (h _).2 d, fun q => f ((h _).1 q)⟩

theorem inv_closeH (hI : Inv S P st) (i : Nat) :
    Inv S (fun e => P e ∨ e = 2 * i + 1) { st with openH := st.openH.erase (2 * i) } := by
  refine hI.transfer rfl rfl (fun j => ⟨fun h => h.elim id (fun h => by omega), Or.inl⟩) ?_
    (List.Pairwise.sublist List.erase_sublist hI.ohs)
  intro e
  simp only
  rw [mem_erase_sorted _ hI.ohs, hI.oh]
  constructor
  · rintro ⟨⟨j, t, ht, rfl, htH, hp, hnp⟩, hne⟩
    refine ⟨j, t, ht, rfl, htH, Or.inl hp, ?_⟩
    rintro (h | h)
    · exact hnp h
    · omega
  · rintro ⟨j, t, ht, rfl, htH, hp, hnp⟩
    refine ⟨⟨j, t, ht, rfl, htH, hp.elim id (fun h => by omega), fun h => hnp (Or.inl h)⟩, ?_⟩
    intro h; exact hnp (Or.inr (by omega))

theorem inv_closeV (hI : Inv S P st) {k : Nat} {s : Seg} (hs : S[k]? = some s) (hV : s.ori = .V) :
    Inv S (fun e => P e ∨ e = 2 * k + 1) { st with openV := none } := by
  refine hI.transfer rfl rfl (fun j => ⟨fun h => h.elim id (fun h => by omega), Or.inl⟩) ?_ hI.ohs
  intro e
  simp only
  rw [hI.oh]
  constructor
  · rintro ⟨j, t, ht, rfl, htH, hp, hnp⟩
    refine ⟨j, t, ht, rfl, htH, Or.inl hp, ?_⟩
    rintro (h | h)
    · exact hnp h
    · have : j = k := by omega
      subst this; rw [hs] at ht; cases ht; rw [hV] at htH; cases htH
  · rintro ⟨j, t, ht, rfl, htH, hp, hnp⟩
    exact ⟨j, t, ht, rfl, htH, hp.elim id (fun h => by omega), fun h => hnp (Or.inl h)⟩

theorem pe_openV (hI : Inv S P st) {k : Nat} {s : Seg} (hs : S[k]? = some s) (hV : s.ori = .V) :
    processEvent st (2 * k) = { st with openV := some (2 * k) } := by
  obtain ⟨eo, heo⟩ := hI.open_get hs
  obtain ⟨so, hso, hori⟩ := oriAt_some (hI.open_ori hs heo)
  unfold processEvent
  simp only [heo, hso, hI.opn_of_V hs heo hV, hori, hV]
  simp

theorem inv_openV (hI : Inv S P st) {k : Nat} {s : Seg} (hs : S[k]? = some s) (hV : s.ori = .V) :
    Inv S (fun e => P e ∨ e = 2 * k) { st with openV := some (2 * k) } := by
  refine hI.transfer_gen rfl rfl ?_ (fun _ => Or.inl) ?_ hI.ohs
  · intro j t ht hH
    have := H_not_V ht hH hs hV
    exact ⟨fun h => h.elim id (fun h => by omega), Or.inl⟩
  · intro e
    simp only
    rw [hI.oh]
    constructor
    · rintro ⟨j, t, ht, rfl, htH, hp, hnp⟩
      exact ⟨j, t, ht, rfl, htH, Or.inl hp, fun h => h.elim hnp (fun h => by omega)⟩
    · rintro ⟨j, t, ht, rfl, htH, hp, hnp⟩
      have hjk := H_not_V ht htH hs hV
      exact ⟨j, t, ht, rfl, htH, hp.elim id (fun h => by omega), fun h => hnp (Or.inl h)⟩

theorem pe_openH (hI : Inv S P st) {i : Nat} {s : Seg} (hs : S[i]? = some s) (hH : s.ori = .H)
    (hnP : ¬ P (2 * i)) :
    ∃ eo, st.evs[2 * i]? = some eo ∧ processEvent st (2 * i) =
      { st with evs := st.evs.set (2 * i) { eo with ty := .sustain }, openH := insertAsc (2 * i) st.openH } := by
  obtain ⟨eo, heo⟩ := hI.open_get hs
  obtain ⟨so, hso, hori⟩ := oriAt_some (hI.open_ori hs heo)
  refine ⟨eo, heo, ?_⟩
  unfold processEvent
  simp only [heo, hso, hI.opn_of_H hs heo hH hnP, hori, hH]
  simp

theorem inv_openH (hI : Inv S P st) {i : Nat} {s : Seg} (hs : S[i]? = some s) (hH : s.ori = .H)
    (hnP : ¬ P (2 * i)) (hnP1 : ¬ P (2 * i + 1)) {eo : Ev} (heo : st.evs[2 * i]? = some eo) :
    Inv S (fun e => P e ∨ e = 2 * i)
      { st with evs := st.evs.set (2 * i) { eo with ty := .sustain }, openH := insertAsc (2 * i) st.openH } := by
  refine ⟨by simp [hI.len], ?_, ?_, insertAsc_sorted _ _ hI.ohs⟩
  · intro j t ht
    obtain ⟨ec, hec⟩ := hI.close_get ht
    by_cases hji : j = i
    · subst hji
      rw [hs] at ht; cases ht
      have hlt : 2 * j < st.evs.length := by
        rw [hI.len]; obtain ⟨hj, _⟩ := List.getElem?_eq_some_iff.1 hs; omega
      have hcc := hI.open_cc hs heo
      have hcomp := hI.open_comp hs heo
      have hori := hI.open_ori hs heo
      have hy := hI.open_y_of_H hs heo hH
      refine ⟨{ eo with ty := .sustain }, ec, ?_, ?_, hcc, hcomp, hI.close_comp hs hec,
        hI.close_ty hs hec, hI.close_endpt hs hec, hori, hI.close_ori hs hec, ?_, ?_⟩
      · simp [hlt]
      · simp only [List.getElem?_set]; rw [if_neg (by omega)]; exact hec
      · intro _; exact ⟨hy, fun _ => rfl, fun q => absurd (Or.inr rfl) q⟩
      · intro hV; rw [hH] at hV; cases hV
    · obtain ⟨eo', heo'⟩ := hI.open_get ht
      refine ⟨eo', ec, ?_, ?_, hI.open_cc ht heo', hI.open_comp ht heo', hI.close_comp ht hec, hI.close_ty ht hec,
        hI.close_endpt ht hec, hI.open_ori ht heo', hI.close_ori ht hec, ?_, ?_⟩
      · simp only [List.getElem?_set]; rw [if_neg (by omega)]; exact heo'
      · simp only [List.getElem?_set]; rw [if_neg (by omega)]; exact hec
      · intro hH'
        exact ⟨hI.open_y_of_H ht heo' hH', fun q => hI.sustain_of_H ht heo' hH' (q.elim id (fun h => by omega)),
          fun q => hI.opn_of_H ht heo' hH' (fun p => q (Or.inl p))⟩
      · intro hV'
        exact ⟨hI.opn_of_V ht heo' hV', fun q => hI.open_y_of_V ht heo' hV' (fun p => q (Or.inl p))⟩
  · intro e
    simp only
    rw [mem_insertAsc, hI.oh]
    constructor
    · rintro (rfl | ⟨j, t, ht, rfl, htH, hp, hnp⟩)
      · exact ⟨i, s, hs, rfl, hH, Or.inr rfl, fun h => h.elim hnP1 (fun h => by omega)⟩
      · exact ⟨j, t, ht, rfl, htH, Or.inl hp, fun h => h.elim hnp (fun h => by omega)⟩
    · rintro ⟨j, t, ht, rfl, htH, hp, hnp⟩
      by_cases hji : j = i
      · left; rw [hji]
      · right
        exact ⟨j, t, ht, rfl, htH, hp.elim id (fun h => by omega), fun h => hnp (Or.inl h)⟩

theorem absR_nonneg (r : Rat) : 0 ≤ absR r := by unfold absR; split <;> grind
theorem absR_pos {r : Rat} (h : r ≠ 0) : 0 < absR r := by unfold absR; split <;> grind

theorem mkSeg_testH {a b : Node} (hy : a.p.y = b.p.y) : absR (b.p.y - a.p.y) ≤ absR (b.p.x - a.p.x) := by
  have : b.p.y - a.p.y = 0 := by grind
  rw [this]; exact absR_nonneg _

theorem mkSeg_testV {a b : Node} (hx : a.p.x = b.p.x) (hy : a.p.y ≠ b.p.y) :
    ¬ absR (b.p.y - a.p.y) ≤ absR (b.p.x - a.p.x) := by
  have h0 : b.p.x - a.p.x = 0 := by grind
  have := absR_pos (r := b.p.y - a.p.y) (by grind)
  have z : absR 0 = 0 := by decide
  rw [h0, z]; grind

theorem mkSeg_H_fwd {a b : Node} (hy : a.p.y = b.p.y) (hx : a.p.x < b.p.x) :
    mkSeg a b = ⟨.H, a.p.y, a.p.x, b.p.x, a, b⟩ := by
  have h2 : b.p.x - a.p.x > 0 := by grind
  simp only [mkSeg, mkSeg_testH hy, h2, if_true]

theorem mkSeg_H_bwd {a b : Node} (hy : a.p.y = b.p.y) (hx : b.p.x ≤ a.p.x) :
    mkSeg a b = ⟨.H, a.p.y, b.p.x, a.p.x, b, a⟩ := by
  have h2 : ¬ b.p.x - a.p.x > 0 := by grind
  simp only [mkSeg, mkSeg_testH hy, h2, if_true, if_false]

theorem mkSeg_V_fwd {a b : Node} (hx : a.p.x = b.p.x) (hy : a.p.y < b.p.y) :
    mkSeg a b = ⟨.V, a.p.x, a.p.y, b.p.y, a, b⟩ := by
  have h2 : b.p.y - a.p.y > 0 := by grind
  simp only [mkSeg, mkSeg_testV hx (by grind), h2, if_true, if_false]

theorem mkSeg_V_bwd {a b : Node} (hx : a.p.x = b.p.x) (hy : b.p.y < a.p.y) :
    mkSeg a b = ⟨.V, a.p.x, b.p.y, a.p.y, b, a⟩ := by
  have h2 : ¬ b.p.y - a.p.y > 0 := by grind
  simp only [mkSeg, mkSeg_testV hx (by grind), h2, if_false]

theorem mkSeg_eq (o : Ori) {a b : Node} (hc : ccOf o a = ccOf o b) (hv : vcOf o a < vcOf o b) :
    mkSeg a b = ⟨o, ccOf o a, vcOf o a, vcOf o b, a, b⟩ := by
  cases o
  · exact mkSeg_H_fwd hc hv
  · exact mkSeg_V_fwd hc hv

theorem mkSeg_ends (a b : Node) :
    ((mkSeg a b).on = a ∧ (mkSeg a b).cn = b) ∨ ((mkSeg a b).on = b ∧ (mkSeg a b).cn = a) := by
  unfold mkSeg
  simp only
  by_cases h1 : absR (b.p.y - a.p.y) ≤ absR (b.p.x - a.p.x) <;> by_cases h2 : b.p.x - a.p.x > 0 <;>
    by_cases h3 : b.p.y - a.p.y > 0 <;> simp [h1, h2, h3]

theorem crossAt_eq (st : SwState) (i j : Nat) (e ov : Ev) (so sv : Seg) (ce cv : Ev)
    (h1 : st.segs[e.seg]? = some so)
    (h2 : (st.segs.set e.seg (so.setNewClosing ⟨st.nextId, ⟨ov.cc, e.cc⟩⟩))[ov.seg]? = some sv)
    (h3 : st.evs[e.comp]? = some ce)
    (h4 : (st.evs.set e.comp { ce with seg := st.segs.length })[ov.comp]? = some cv) :
    crossAt st i j e ov =
      { st with
        segs := ((st.segs.set e.seg (so.setNewClosing ⟨st.nextId, ⟨ov.cc, e.cc⟩⟩)).set ov.seg
                  (sv.setNewClosing ⟨st.nextId, ⟨ov.cc, e.cc⟩⟩)) ++ [mkSeg ⟨st.nextId, ⟨ov.cc, e.cc⟩⟩ ce.endpt]
                  ++ [mkSeg ⟨st.nextId, ⟨ov.cc, e.cc⟩⟩ cv.endpt],
        evs := (((st.evs.set e.comp { ce with seg := st.segs.length }).set ov.comp
                  { cv with seg := st.segs.length + 1 }).set i
                  { e with seg := st.segs.length, endpt := ⟨st.nextId, ⟨ov.cc, e.cc⟩⟩, vc := ov.cc }).set j
                  { ov with seg := st.segs.length + 1, endpt := ⟨st.nextId, ⟨ov.cc, e.cc⟩⟩, vc := e.cc },
        cross := ⟨st.nextId, ⟨ov.cc, e.cc⟩⟩ :: st.cross, nextId := st.nextId + 1 } := by
  unfold crossAt
  simp only [h1, h2, h3, h4, List.length_set, List.length_append, List.length_cons, List.length_nil]

theorem lookup_set_append {α : Type} {l : List α} {a : Nat} (x u : α) (ha : a < l.length) :
    (l.set a x ++ [u])[l.length]? = some u ∧ (l.set a x ++ [u])[a]? = some x ∧
    ∀ b, b ≠ a → b ≠ l.length → (l.set a x ++ [u])[b]? = l[b]? := by
  refine ⟨?_, ?_, ?_⟩
  · rw [List.getElem?_append_right (by simp)]; simp
  · rw [List.getElem?_append_left (by simpa using ha), List.getElem?_set]; simp [ha]
  · intro b h1 h2
    by_cases hb : b < l.length
    · rw [List.getElem?_append_left (by simpa using hb), List.getElem?_set, if_neg (Ne.symm h1)]
    · rw [List.getElem?_eq_none (by simp; omega), List.getElem?_eq_none (by omega)]

/-- the piece `t` runs along the line of `s` from position `u` to position `v` -/
def Along (s t : Seg) (u v : Rat) : Prop :=
  ccOf s.ori t.on = s.cc ∧ ccOf s.ori t.cn = s.cc ∧ vcOf s.ori t.on = u ∧ vcOf s.ori t.cn = v

/-- the segment `s`, whose OPEN/SUSTAIN event is `e`, is cut at the node `cr`: on its line, not before the end node of `e`, not
beyond its far end (a horizontal may be cut AT its far end: the T-touch) -/
structure CutAt (s : Seg) (e : Ev) (cr : Node) : Prop where
  shape : SegO s
  cc : ccOf s.ori cr = s.cc
  lo : vcOf s.ori e.endpt ≤ vcOf s.ori cr
  hi : vcOf s.ori cr ≤ s.hi
  hiV : s.ori = .V → vcOf s.ori cr < s.hi

/-- the `EdgeSegment` built from the new node to the far end of `s`; of zero length, with the ends swapped, in a T-touch -/
theorem mkSeg_along {s : Seg} (hs : SegO s) {cr : Node} (hcc : ccOf s.ori cr = s.cc) (h2 : vcOf s.ori cr ≤ s.hi)
    (hV : s.ori = .V → vcOf s.ori cr < s.hi) :
    Along s (mkSeg cr s.cn) (vcOf s.ori cr) s.hi ∧ (mkSeg cr s.cn).ori = s.ori ∧
      (vcOf s.ori cr < s.hi → (mkSeg cr s.cn).cn = s.cn) := by
  obtain ⟨a1, a2, a3, a4, a5⟩ := hs
  by_cases hlt : vcOf s.ori cr < s.hi
  · rw [mkSeg_eq s.ori (by rw [hcc, a2]) (by rw [a4]; exact hlt)]
    exact ⟨⟨hcc, a2, rfl, a4⟩, rfl, fun _ => rfl⟩
  · have hH : s.ori = .H := by cases ho : s.ori; rfl; exact absurd (hV ho) hlt
    have he : vcOf s.ori cr = s.hi := by grind
    simp only [Along, hH, ccOf_H, vcOf_H] at hcc he a2 a4 ⊢
    rw [mkSeg_H_bwd (by rw [hcc, a2]) (by rw [he, a4]; exact Rat.le_refl)]
    exact ⟨⟨a2, hcc, a4.trans he.symm, he⟩, rfl, fun h => absurd h (by rw [he]; exact Rat.lt_irrefl)⟩

theorem Along.setNewClosing {s t : Seg} {u : Rat} (h : Along s t u s.hi) {cr : Node} (hcc : ccOf s.ori cr = s.cc) :
    Along s (t.setNewClosing cr) u (vcOf s.ori cr) := ⟨h.1, hcc, h.2.2.1, rfl⟩

/-- one segment is cut: the piece the OPEN/SUSTAIN event `2 * j` (= `e`) points to now closes at `cr`, a new piece from `cr`
to `cn` is appended, the event ends at `cr` and points to the new piece.  In lookup form, about any two states. -/
structure IsCut (st st' : SwState) (j : Nat) (e : Ev) (so : Seg) (cr cn : Node) : Prop where
  he : st.evs[2 * j]? = some e
  hso : st.segs[e.seg]? = some so
  ev : ∃ e', st'.evs[2 * j]? = some e' ∧ e'.seg = st.segs.length ∧ e'.endpt = cr ∧ e'.cc = e.cc ∧ e'.comp = e.comp ∧
    e'.ty = e.ty
  evc : ∃ x, st'.evs[2 * j + 1]? = some x ∧ x.seg = st.segs.length ∧ x.comp = 2 * j ∧ x.ty = .close ∧ x.endpt = cn
  ev_rest : ∀ x, x ≠ 2 * j → x ≠ 2 * j + 1 → st'.evs[x]? = st.evs[x]?
  len : st'.evs.length = st.evs.length
  seg_new : st'.segs[st.segs.length]? = some (mkSeg cr cn)
  seg_cut : st'.segs[e.seg]? = some (so.setNewClosing cr)
  seg_rest : ∀ a, a ≠ e.seg → a ≠ st.segs.length → st'.segs[a]? = st.segs[a]?
  frame : st'.openH = st.openH ∧ st'.openV = st.openV

theorem IsCut.ev_old {st st' : SwState} {j : Nat} {e : Ev} {so : Seg} {cr cn : Node} (hc : IsCut st st' j e so cr cn)
    {m : Nat} (hm : m ≠ j) : st'.evs[2 * m]? = st.evs[2 * m]? := hc.ev_rest _ (by omega) (by omega)

theorem IsCut.ev_cases {st' : SwState} {j : Nat} {e : Ev} {so : Seg} {cr cn : Node} (hc : IsCut st st' j e so cr cn)
    {m : Nat} {em : Ev} (h : st'.evs[2 * m]? = some em) :
    (m = j ∧ em.endpt = cr) ∨ (m ≠ j ∧ st.evs[2 * m]? = some em) := by
  by_cases hm : m = j
  · obtain ⟨e', a1, _, a3, _⟩ := hc.ev
    subst hm; rw [a1] at h; cases h; exact Or.inl ⟨rfl, a3⟩
  · rw [hc.ev_old hm] at h; exact Or.inr ⟨hm, h⟩

/-- `crossAt` does the same to both segments; this is what it does to one: the piece `s` that the event `x` (= `ex`) points
to, its companion `ce` -/
def cutSeg (st : SwState) (x : Nat) (ex : Ev) (s : Seg) (ce : Ev) (cr : Node) (vc : Rat) : SwState :=
  { st with segs := st.segs.set ex.seg (s.setNewClosing cr) ++ [mkSeg cr ce.endpt],
            evs := (st.evs.set ex.comp { ce with seg := st.segs.length }).set x
              { ex with seg := st.segs.length, endpt := cr, vc := vc } }

theorem crossAt_eq_cuts (st : SwState) (i j : Nat) (e ov : Ev) (so sv : Seg) (ce cv : Ev)
    (h1 : st.segs[e.seg]? = some so) (h2 : st.segs[ov.seg]? = some sv) (hne : e.seg ≠ ov.seg)
    (h3 : st.evs[e.comp]? = some ce) (h4 : st.evs[ov.comp]? = some cv)
    (d1 : ov.comp ≠ e.comp) (d2 : ov.comp ≠ i) :
    crossAt st i j e ov =
      { cutSeg (cutSeg st i e so ce ⟨st.nextId, ⟨ov.cc, e.cc⟩⟩ ov.cc) j ov sv cv ⟨st.nextId, ⟨ov.cc, e.cc⟩⟩ e.cc with
        cross := ⟨st.nextId, ⟨ov.cc, e.cc⟩⟩ :: st.cross, nextId := st.nextId + 1 } := by
  have l2 := (List.getElem?_eq_some_iff.1 h2).1
  rw [crossAt_eq st i j e ov so sv ce cv h1 (by rw [List.getElem?_set, if_neg hne]; exact h2) h3
    (by rw [List.getElem?_set, if_neg (Ne.symm d1)]; exact h4)]
  simp only [cutSeg, List.length_append, List.length_set, List.length_cons, List.length_nil]
  congr 1
  · rw [List.set_append_left _ _ (by simpa using l2)]
  · rw [List.set_comm _ _ d2]

theorem cutSeg_isCut {st : SwState} {j : Nat} {e : Ev} {so : Seg} {ce : Ev} {cr : Node} {vc : Rat}
    (he : st.evs[2 * j]? = some e) (h1 : st.segs[e.seg]? = some so) (h3 : st.evs[2 * j + 1]? = some ce)
    (hcomp : e.comp = 2 * j + 1) (hcc : ce.comp = 2 * j) (hct : ce.ty = .close) :
    IsCut st (cutSeg st (2 * j) e so ce cr vc) j e so cr ce.endpt := by
  have l3 := (List.getElem?_eq_some_iff.1 h3).1
  have hj := (List.getElem?_eq_some_iff.1 he).1
  obtain ⟨s1, s2, s3⟩ := lookup_set_append (so.setNewClosing cr) (mkSeg cr ce.endpt) (List.getElem?_eq_some_iff.1 h1).1
  unfold cutSeg
  refine ⟨he, h1, ⟨{ e with seg := st.segs.length, endpt := cr, vc := vc }, by simp [hj], rfl, rfl, rfl, rfl, rfl⟩,
    ⟨{ ce with seg := st.segs.length }, ?_, rfl, hcc, hct, rfl⟩, ?_, by simp, s1, s2, s3, rfl, rfl⟩
  · simp only
    rw [List.getElem?_set, if_neg (by omega), ← hcomp, List.getElem?_set]; simp [hcomp, l3]
  · intro x hx hx'
    simp only
    rw [List.getElem?_set, if_neg (Ne.symm hx), List.getElem?_set, if_neg (by omega)]

theorem cut_pieces (hI : Inv S P st) {i k : Nat} {si sk : Seg}
    (hsi : S[i]? = some si) (hHi : si.ori = .H) (hsk : S[k]? = some sk) (hVk : sk.ori = .V)
    {e ov : Ev} (he : st.evs[2 * i]? = some e) (hov : st.evs[2 * k]? = some ov) :
    ∃ (so sv : Seg), st.segs[e.seg]? = some so ∧ st.segs[ov.seg]? = some sv ∧ e.seg ≠ ov.seg ∧
      e.cc = si.cc ∧ ov.cc = sk.cc := by
  obtain ⟨so, hso, hsoo⟩ := oriAt_some (hI.open_ori hsi he)
  obtain ⟨sv, hsv, hsvo⟩ := oriAt_some (hI.open_ori hsk hov)
  refine ⟨so, sv, hso, hsv, ?_, hI.open_cc hsi he, hI.open_cc hsk hov⟩
  intro h; rw [h, hsv] at hso; cases hso; rw [hsoo, hHi] at hsvo; rw [hVk] at hsvo; cases hsvo

/-- the SUSTAIN event `e` of the open horizontal `i` (segment `si`) meets the open vertical `k` (segment `sk`, event `ov`) of
the part at `X`; `so`, `sv` are the pieces cut.  What every invariant of the sweep needs to know at a cut; the state after
it is `Cut.two`. -/
structure Cut (S : List Seg) (X : Rat) (part pre : List Nat) (st : SwState) (i k : Nat) (si sk : Seg)
    (e ov : Ev) (so sv : Seg) : Prop where
  hsi : S[i]? = some si
  hH : si.ori = .H
  hsk : S[k]? = some sk
  hV : sk.ori = .V
  hX : sk.cc = X
  kpre : 2 * k ∈ pre
  kpart : 2 * k ∈ part
  he : st.evs[2 * i]? = some e
  hov : st.evs[2 * k]? = some ov
  loX : si.lo < X
  Xhi : X ≤ si.hi
  lo : sk.lo < si.cc
  hi : si.cc < sk.hi
  hso : st.segs[e.seg]? = some so
  hsv : st.segs[ov.seg]? = some sv
  hne : e.seg ≠ ov.seg
  ecc : e.cc = si.cc
  ovcc : ov.cc = sk.cc

theorem Cut.two {X : Rat} {part pre : List Nat} {i k : Nat} {si sk : Seg} {e ov : Ev} {so sv : Seg}
    (hI : Inv S P st) (hc : Cut S X part pre st i k si sk e ov so sv) :
    ∃ st1 st2, IsCut st st1 i e so ⟨st.nextId, ⟨sk.cc, si.cc⟩⟩ si.cn ∧
      IsCut st1 st2 k ov sv ⟨st.nextId, ⟨sk.cc, si.cc⟩⟩ sk.cn ∧
      crossAt st (2 * i) (2 * k) e ov =
        { st2 with cross := ⟨st.nextId, ⟨sk.cc, si.cc⟩⟩ :: st.cross, nextId := st.nextId + 1 } := by
  have hik : i ≠ k := H_not_V hc.hsi hc.hH hc.hsk hc.hV
  obtain ⟨ec, h1⟩ := hI.close_get hc.hsi
  obtain ⟨ec', k1⟩ := hI.close_get hc.hsk
  have h3 := hI.open_comp hc.hsi hc.he
  have k3 := hI.open_comp hc.hsk hc.hov
  have c1 := cutSeg_isCut (cr := ⟨st.nextId, ⟨sk.cc, si.cc⟩⟩) (vc := ov.cc) hc.he hc.hso h1 h3
    (hI.close_comp hc.hsi h1) (hI.close_ty hc.hsi h1)
  rw [hI.close_endpt hc.hsi h1] at c1
  have c2 := cutSeg_isCut (cr := ⟨st.nextId, ⟨sk.cc, si.cc⟩⟩) (vc := e.cc)
    (by rw [c1.ev_old (Ne.symm hik)]; exact hc.hov)
    (by rw [c1.seg_rest _ (Ne.symm hc.hne) (Nat.ne_of_lt (List.getElem?_eq_some_iff.1 hc.hsv).1)]; exact hc.hsv)
    (by rw [c1.ev_rest _ (by omega) (by omega)]; exact k1) k3 (hI.close_comp hc.hsk k1) (hI.close_ty hc.hsk k1)
  rw [hI.close_endpt hc.hsk k1] at c2
  refine ⟨_, _, c1, c2, ?_⟩
  rw [crossAt_eq_cuts st (2 * i) (2 * k) e ov so sv ec ec' hc.hso hc.hsv hc.hne (h3 ▸ h1) (k3 ▸ k1)
    (by omega) (by omega), hc.ecc, hc.ovcc]

theorem Inv.cut {st' : SwState} (hI : Inv S P st) {j : Nat} {s : Seg} {e : Ev} {so : Seg} {cr : Node}
    (hs : S[j]? = some s) (hc : IsCut st st' j e so cr s.cn) (hP : s.ori = .V → P (2 * j)) (hcc : ccOf s.ori cr = s.cc)
    (hori : (mkSeg cr s.cn).ori = s.ori) : Inv S P st' := by
  obtain ⟨e', a1, a2, a3, a4, a5, a6⟩ := hc.ev
  obtain ⟨x, b1, b2, b3, b4, b5⟩ := hc.evc
  refine ⟨by rw [hc.len]; exact hI.len, ?_, by rw [hc.frame.1]; exact hI.oh, by rw [hc.frame.1]; exact hI.ohs⟩
  have hL : oriAt st'.segs st.segs.length = some s.ori := by
    unfold oriAt; rw [hc.seg_new, Option.map_some, hori]
  have hmono : ∀ a o, oriAt st.segs a = some o → oriAt st'.segs a = some o := by
    intro a o ha
    obtain ⟨t, ht, rfl⟩ := oriAt_some ha
    unfold oriAt
    by_cases h1 : a = e.seg
    · subst h1; rw [hc.hso] at ht; cases ht; rw [hc.seg_cut]; rfl
    · rw [hc.seg_rest a h1 (Nat.ne_of_lt (List.getElem?_eq_some_iff.1 ht).1), ht]; rfl
  intro m t ht
  by_cases hmj : m = j
  · subst hmj; rw [hs] at ht; cases ht
    exact ⟨e', x, a1, b1, a4.trans (hI.open_cc hs hc.he), a5.trans (hI.open_comp hs hc.he), b3, b4, b5,
      by rw [a2]; exact hL, by rw [b2]; exact hL,
      fun hH => ⟨by rw [a3]; simpa [hH, ccOf_H] using hcc, by rw [a6]; exact hI.sustain_of_H hs hc.he hH,
        by rw [a6]; exact hI.opn_of_H hs hc.he hH⟩,
      fun hV => ⟨by rw [a6]; exact hI.opn_of_V hs hc.he hV, fun hn => absurd (hP hV) hn⟩⟩
  · obtain ⟨eo, heo⟩ := hI.open_get ht
    obtain ⟨ec, hec⟩ := hI.close_get ht
    exact ⟨eo, ec, by rw [hc.ev_rest _ (by omega) (by omega)]; exact heo,
      by rw [hc.ev_rest _ (by omega) (by omega)]; exact hec, hI.open_cc ht heo, hI.open_comp ht heo,
      hI.close_comp ht hec, hI.close_ty ht hec, hI.close_endpt ht hec, hmono _ _ (hI.open_ori ht heo),
      hmono _ _ (hI.close_ori ht hec),
      fun hH => ⟨hI.open_y_of_H ht heo hH, hI.sustain_of_H ht heo hH, hI.opn_of_H ht heo hH⟩,
      fun hV => ⟨hI.opn_of_V ht heo hV, hI.open_y_of_V ht heo hV⟩⟩

section
variable {X : Rat} {part pre : List Nat} {i k : Nat} {si sk : Seg} {e ov : Ev} {so sv : Seg}

theorem Cut.frame (hI : Inv S P st) (hc : Cut S X part pre st i k si sk e ov so sv) :
    (crossAt st (2 * i) (2 * k) e ov).openV = st.openV ∧
    (crossAt st (2 * i) (2 * k) e ov).cross = ⟨st.nextId, ⟨sk.cc, si.cc⟩⟩ :: st.cross := by
  obtain ⟨st1, st2, c1, c2, heq⟩ := hc.two hI
  rw [heq]; exact ⟨c2.frame.2.trans c1.frame.2, rfl⟩

theorem Cut.node (hG : Good S) (hc : Cut S X part pre st i k si sk e ov so sv) (n : Nat) :
    SegO si ∧ SegO sk ∧ ccOf si.ori (⟨n, ⟨sk.cc, si.cc⟩⟩ : Node) = si.cc ∧ vcOf si.ori (⟨n, ⟨sk.cc, si.cc⟩⟩ : Node) = sk.cc ∧
    ccOf sk.ori (⟨n, ⟨sk.cc, si.cc⟩⟩ : Node) = sk.cc ∧ vcOf sk.ori (⟨n, ⟨sk.cc, si.cc⟩⟩ : Node) = si.cc ∧ sk.cc ≤ si.hi :=
  ⟨segO_of_shape (hG.shape si (List.mem_of_getElem? hc.hsi)), segO_of_shape (hG.shape sk (List.mem_of_getElem? hc.hsk)),
    by rw [hc.hH, ccOf_H], by rw [hc.hH, vcOf_H], by rw [hc.hV, ccOf_V], by rw [hc.hV, vcOf_V], hc.hX ▸ hc.Xhi⟩

theorem inv_cross (hG : Good S) (hI : Inv S P st) (hc : Cut S X part pre st i k si sk e ov so sv) (hPk : P (2 * k)) :
    Inv S P (crossAt st (2 * i) (2 * k) e ov) := by
  obtain ⟨st1, st2, c1, c2, heq⟩ := hc.two hI
  obtain ⟨oi, ok, ci, vi, ck, vk, hXhi⟩ := hc.node hG st.nextId
  have hiV : ∀ {q : Prop}, si.ori = .V → q := fun h => by rw [hc.hH] at h; cases h
  have I1 := hI.cut hc.hsi c1 hiV ci (mkSeg_along oi ci (by rw [vi]; exact hXhi) hiV).2.1
  have I2 := I1.cut hc.hsk c2 (fun _ => hPk) ck
    (mkSeg_along ok ck (by rw [vk]; exact Rat.le_of_lt hc.hi) (fun _ => by rw [vk]; exact hc.hi)).2.1
  -- the state is `st2` with `cross` and `nextId` replaced: `Inv` reads neither, so the fields of `I2` fit where `I2` does not
  rw [heq]; exact ⟨I2.len, I2.ev, I2.oh, I2.ohs⟩

end

theorem pe_sustain (hI : Inv S P st) {i : Nat} {s : Seg} (hs : S[i]? = some s) (hH : s.ori = .H)
    (hP : P (2 * i)) :
    ∃ e, st.evs[2 * i]? = some e ∧ processEvent st (2 * i) =
      match st.openV with
      | none => st
      | some j => match st.evs[j]? with
        | none => st
        | some ov => crossAt st (2 * i) j e ov := by
  obtain ⟨eo, heo⟩ := hI.open_get hs
  obtain ⟨so, hso, _⟩ := oriAt_some (hI.open_ori hs heo)
  refine ⟨eo, heo, ?_⟩
  unfold processEvent
  simp only [heo, hso, hI.sustain_of_H hs heo hH hP]
  cases st.openV with
  | none => rfl
  | some j => simp only; cases st.evs[j]? <;> rfl

/-- `st'` has the pieces and crossing nodes of `st`, and every event points to the same piece and end node: the two
differ at most in event types, `openH`, `openV`.  The invariants about connections and geometry read nothing else. -/
structure GeoEq (st st' : SwState) : Prop where
  segs : st'.segs = st.segs
  cross : st'.cross = st.cross
  evs : ∀ y : Nat, (st'.evs[y]?).map (fun e : Ev => (e.seg, e.endpt)) = (st.evs[y]?).map (fun e : Ev => (e.seg, e.endpt))

theorem GeoEq.symm {st st' : SwState} (h : GeoEq st st') : GeoEq st' st :=
  ⟨h.segs.symm, h.cross.symm, fun y => (h.evs y).symm⟩

theorem GeoEq.ev {st st' : SwState} (h : GeoEq st st') {y : Nat} {e : Ev} (hy : st'.evs[y]? = some e) :
    ∃ e0 : Ev, st.evs[y]? = some e0 ∧ e.seg = e0.seg ∧ e.endpt = e0.endpt := by
  have := h.evs y
  rw [hy] at this
  cases h0 : st.evs[y]? with
  | none => simp [h0] at this
  | some e0 => simp [h0] at this; exact ⟨e0, rfl, this.1, this.2⟩

theorem GeoEq.of_eq {st st' : SwState} (h1 : st'.segs = st.segs) (h2 : st'.evs = st.evs) (h3 : st'.cross = st.cross) :
    GeoEq st st' := ⟨h1, h3, fun y => by rw [h2]⟩

theorem GeoEq.of_setTy {st st' : SwState} {x : Nat} {eo : Ev} (hx : st.evs[x]? = some eo) (ty : EvType)
    (h1 : st'.segs = st.segs) (h2 : st'.evs = st.evs.set x { eo with ty := ty }) (h3 : st'.cross = st.cross) :
    GeoEq st st' := by
  refine ⟨h1, h3, fun y => ?_⟩
  rw [h2, List.getElem?_set]
  split
  · rename_i hxy; subst hxy
    split
    · rw [hx]; rfl
    · rename_i hlt; rw [List.getElem?_eq_none (by omega)]
  · rfl

end AdaptaVerif.Lemmas.Planarise
