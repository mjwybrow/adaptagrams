/-
C19 (libdialect peel): the root chosen by `identifyRoot` for every connected component of the
stem graph H is the unique node of the component that is never a leaf. Core Lean only.
-/
import AdaptaVerif.Lemmas.PeelStems
import AdaptaVerif.Lemmas.PeelComps

namespace AdaptaVerif.Lemmas.PeelRoot
open AdaptaVerif.Spec.UGraph AdaptaVerif.Model.Peel AdaptaVerif.Lemmas.PeelDefs
open AdaptaVerif.Lemmas.Util (lookup_cons_ne)
open AdaptaVerif.Lemmas.PeelComps AdaptaVerif.Lemmas.PeelStems

theorem rankOf_le (stems : List (Nat × Nat)) (v : Nat) : rankOf stems v ≤ (stems.length : Int) := by
  unfold rankOf
  have := @List.idxOf_le_length _ _ _ (leafList stems) v
  rw [length_leafList] at this
  omega

theorem rankOf_notMem {stems : List (Nat × Nat)} {t : Nat} (ht : t ∉ leafList stems) :
    rankOf stems t = (stems.length : Int) := by
  unfold rankOf
  rw [List.idxOf_eq_length ht, length_leafList]

theorem exists_top {stems : List (Nat × Nat)} (hr : Ranked stems) {v : Nat}
    (hv : v ∈ hNodes stems) :
    ∃ t, t ∈ hNodes stems ∧ t ∉ leafList stems ∧ Reach (hEdges stems) v t := by
  obtain ⟨t, ht⟩ := exists_climb hr v
  exact ⟨t, ht.spec.2.2 hv, ht.spec.1, ht.spec.2.1⟩

/-- `m_treeSerialNumber` of `v` (0 if the node was never created) -/
def serialOf (ser : List (Nat × Nat)) (v : Nat) : Nat := (ser.lookup v).getD 0

/-- make sure `k` has a serial (node creation) -/
def ensure (mc : List (Nat × Nat) × Nat) (k : Nat) : List (Nat × Nat) × Nat :=
  if (mc.1.lookup k).isSome then mc else ((k, mc.2) :: mc.1, mc.2 + 1)

/-- one `Stem::addSelfToGraph` -/
def stepF (mc : List (Nat × Nat) × Nat) (s : Nat × Nat) : List (Nat × Nat) × Nat :=
  let mc2 := ensure (ensure mc s.1) s.2
  ((s.2, mc2.2) :: mc2.1, mc2.2 + 1)

theorem assignSerials_eq (stems : List (Nat × Nat)) :
    assignSerials stems = (stems.foldl stepF ([], 0)).1 := rfl

/-- all serials handed out so far are below the counter -/
def SerialsBelow (mc : List (Nat × Nat) × Nat) : Prop := ∀ v x, mc.1.lookup v = some x → x < mc.2

theorem serialsBelow_push {mc : List (Nat × Nat) × Nat} (h : SerialsBelow mc) (k : Nat) :
    SerialsBelow ((k, mc.2) :: mc.1, mc.2 + 1) := by
  intro v x hx
  show x < mc.2 + 1
  by_cases hv : v = k
  · subst hv
    rw [show ((v, mc.2) :: mc.1, mc.2 + 1).1 = (v, mc.2) :: mc.1 from rfl, List.lookup_cons_self] at hx
    have : mc.2 = x := Option.some.inj hx
    omega
  · rw [show ((k, mc.2) :: mc.1, mc.2 + 1).1 = (k, mc.2) :: mc.1 from rfl, lookup_cons_ne hv] at hx
    have := h v x hx
    omega

theorem ensure_spec {mc : List (Nat × Nat) × Nat} (h : SerialsBelow mc) (k : Nat) :
    SerialsBelow (ensure mc k) ∧ mc.2 ≤ (ensure mc k).2 ∧
    (∀ v x, mc.1.lookup v = some x → (ensure mc k).1.lookup v = some x) ∧
    (∃ x, (ensure mc k).1.lookup k = some x) ∧
    (∀ v, v ≠ k → (ensure mc k).1.lookup v = mc.1.lookup v) := by
  unfold ensure
  by_cases hk : (mc.1.lookup k).isSome = true
  · rw [if_pos hk]
    exact ⟨h, Nat.le_refl _, fun _ _ hx => hx, Option.isSome_iff_exists.mp hk, fun _ _ => rfl⟩
  · rw [if_neg hk]
    refine ⟨serialsBelow_push h k, Nat.le_succ _, ?_, ⟨mc.2, List.lookup_cons_self⟩,
      fun v hv => lookup_cons_ne hv⟩
    intro v x hx
    have hv : v ≠ k := by
      intro hvk
      rw [hvk] at hx
      rw [hx] at hk
      exact hk rfl
    show ((k, mc.2) :: mc.1).lookup v = some x
    rw [lookup_cons_ne hv]
    exact hx

theorem step_spec {mc : List (Nat × Nat) × Nat} (h : SerialsBelow mc) (l r : Nat) :
    SerialsBelow (stepF mc (l, r)) ∧
    (∀ v x, mc.1.lookup v = some x → ∃ y, (stepF mc (l, r)).1.lookup v = some y ∧ x ≤ y) ∧
    (∀ v x, v ≠ r → mc.1.lookup v = some x → (stepF mc (l, r)).1.lookup v = some x) ∧
    (l ≠ r → ∃ x y, (stepF mc (l, r)).1.lookup l = some x ∧
      (stepF mc (l, r)).1.lookup r = some y ∧ x < y) ∧
    (∃ y, (stepF mc (l, r)).1.lookup r = some y) := by
  obtain ⟨i1, c1, k1, e1, n1⟩ := ensure_spec h l
  obtain ⟨i2, c2, k2, e2, n2⟩ := ensure_spec i1 r
  have hst : stepF mc (l, r) =
      ((r, (ensure (ensure mc l) r).2) :: (ensure (ensure mc l) r).1,
        (ensure (ensure mc l) r).2 + 1) := rfl
  have hr : (stepF mc (l, r)).1.lookup r = some (ensure (ensure mc l) r).2 := by
    rw [hst]; exact List.lookup_cons_self
  have hne : ∀ v, v ≠ r → (stepF mc (l, r)).1.lookup v = (ensure (ensure mc l) r).1.lookup v := by
    intro v hv
    rw [hst]; exact lookup_cons_ne hv
  refine ⟨?_, ?_, ?_, ?_, ⟨_, hr⟩⟩
  · rw [hst]; exact serialsBelow_push i2 r
  · intro v x hx
    by_cases hv : v = r
    · subst hv
      refine ⟨_, hr, ?_⟩
      have := h v x hx
      omega
    · refine ⟨x, ?_, Nat.le_refl _⟩
      rw [hne v hv]
      exact k2 v x (k1 v x hx)
  · intro v x hv hx
    rw [hne v hv]
    exact k2 v x (k1 v x hx)
  · intro hlr
    obtain ⟨x, hx⟩ := e1
    refine ⟨x, _, ?_, hr, ?_⟩
    · rw [hne l hlr]
      exact k2 l x hx
    · have := i1 l x hx
      omega

theorem serialsBelow_nil : SerialsBelow ([], 0) := by
  intro v x hx
  cases hx

/-- the serials after the stems `A`: below the counter, every node of H has one, and (ranked list) the leaf
    of a stem has a smaller one than its root -/
def SerOK (A : List (Nat × Nat)) : Prop :=
  SerialsBelow (A.foldl stepF ([], 0)) ∧
  (∀ v, v ∈ hNodes A → ∃ x, (A.foldl stepF ([], 0)).1.lookup v = some x) ∧
  (Ranked A → ∀ l r, (l, r) ∈ A → ∃ x y, (A.foldl stepF ([], 0)).1.lookup l = some x ∧
    (A.foldl stepF ([], 0)).1.lookup r = some y ∧ x < y)

/-- one more `Stem::addSelfToGraph`: only the new root's serial changes, and it becomes the largest.
    (Going by the last stem, nothing has to be said about what the remaining stems do.) -/
theorem serOK_concat {A : List (Nat × Nat)} (s : Nat × Nat) (h : SerOK A) : SerOK (A ++ [s]) := by
  obtain ⟨hb, hex, hlt⟩ := h
  obtain ⟨b', mono, keep, new, root⟩ := step_spec hb s.1 s.2
  rw [SerOK, List.foldl_append, List.foldl_cons, List.foldl_nil]
  refine ⟨b', fun v hv => ?_, fun hr l r hm => ?_⟩
  · obtain ⟨t, ht, hor⟩ := mem_hNodes.1 hv
    rcases List.mem_append.1 ht with ht | ht
    · obtain ⟨x, hx⟩ := hex v (mem_hNodes.2 ⟨t, ht, hor⟩)
      obtain ⟨y, hy, _⟩ := mono v x hx
      exact ⟨y, hy⟩
    · rw [List.mem_singleton.1 ht] at hor
      by_cases e : v = s.2
      · exact e ▸ root
      · obtain ⟨x, _, hx, _⟩ := new (fun e' => e ((hor.resolve_right e).trans e'))
        exact ⟨x, hor.resolve_right e ▸ hx⟩
  · obtain ⟨hrA, hne, hnl⟩ := ranked_concat hr
    rcases List.mem_append.1 hm with hm | hm
    · obtain ⟨x, y, hx, hy, hxy⟩ := hlt hrA l r hm
      obtain ⟨y', hy', hyy⟩ := mono r y hy
      refine ⟨x, y', keep l x (fun e => hnl (e ▸ mem_leafList.2 ⟨r, hm⟩)) hx, hy', by omega⟩
    · have e := List.mem_singleton.1 hm
      subst e
      exact new (fun e => hne e.symm)

theorem serOK_append : ∀ (B A : List (Nat × Nat)), SerOK A → SerOK (A ++ B)
  | [], A, h => by rwa [List.append_nil]
  | s :: B, A, h => by
    have := serOK_append B (A ++ [s]) (serOK_concat s h)
    rwa [List.append_assoc] at this

theorem serOK (stems : List (Nat × Nat)) : SerOK stems := by
  refine serOK_append stems [] ⟨serialsBelow_nil, fun v hv => ?_, fun _ l r hm => nomatch hm⟩
  obtain ⟨t, ht, _⟩ := mem_hNodes.1 hv
  cases ht

theorem serial_lt {stems : List (Nat × Nat)} (hr : Ranked stems) {l r : Nat}
    (hm : (l, r) ∈ stems) :
    serialOf (assignSerials stems) l < serialOf (assignSerials stems) r := by
  obtain ⟨x, y, hx, hy, hxy⟩ := (serOK stems).2.2 hr l r hm
  unfold serialOf
  rw [assignSerials_eq, hx, hy]
  exact hxy

theorem serial_exists {stems : List (Nat × Nat)} {v : Nat} (hv : v ∈ hNodes stems) :
    ∃ x, (assignSerials stems).lookup v = some x :=
  (serOK stems).2.1 v hv

theorem exists_top_serial {stems : List (Nat × Nat)} (hr : Ranked stems) {v : Nat}
    (hv : v ∈ hNodes stems) :
    ∃ t, t ∈ hNodes stems ∧ t ∉ leafList stems ∧ Reach (hEdges stems) v t ∧
      (v = t ∨ serialOf (assignSerials stems) v < serialOf (assignSerials stems) t) := by
  obtain ⟨t, ht⟩ := exists_climb hr v
  exact ⟨t, ht.spec.2.2 hv, ht.spec.1, ht.spec.2.1, ht.mono _ (fun _ _ hm => serial_lt hr hm)⟩

/-- the scan step of `identifyRootNode` -/
def scanF (ser : List (Nat × Nat)) (cm : Nat × Nat) (v : Nat) : Nat × Nat :=
  if serialOf ser v ≥ cm.2 then (v, serialOf ser v) else cm

theorem identifyRoot_eq (ser : List (Nat × Nat)) (l : List Nat) :
    identifyRoot ser l = (l.foldl (scanF ser) (0, 0)).1 := rfl

theorem scan_max (ser : List (Nat × Nat)) (t : Nat) : ∀ (l : List Nat) (cm : Nat × Nat),
    cm.2 ≤ serialOf ser t → (cm = (t, serialOf ser t) ∨ t ∈ l) →
    (∀ v, v ∈ l → v ≠ t → serialOf ser v < serialOf ser t) →
    l.foldl (scanF ser) cm = (t, serialOf ser t)
  | [], _, _, h, _ => h.elim id (fun h => nomatch h)
  | a :: l, cm, hcm, h, hmax => by
    rw [List.foldl_cons]
    have hmax' := fun v hv => hmax v (List.mem_cons_of_mem _ hv)
    by_cases ha : a = t
    · subst ha
      have hstep : scanF ser cm a = (a, serialOf ser a) := if_pos hcm
      rw [hstep]
      exact scan_max ser a l _ (Nat.le_refl _) (Or.inl rfl) hmax'
    · have hlt := hmax a List.mem_cons_self ha
      have h' : scanF ser cm a = (t, serialOf ser t) ∨ t ∈ l := by
        rcases h with rfl | h
        · exact Or.inl (if_neg (Nat.not_le.2 hlt))
        · exact Or.inr ((List.mem_cons.1 h).resolve_left (fun e => ha e.symm))
      refine scan_max ser t l _ ?_ h' hmax'
      unfold scanF
      split
      · exact Nat.le_of_lt hlt
      · exact hcm

theorem identifyRoot_of_max (ser : List (Nat × Nat)) {l : List Nat} {t : Nat} (ht : t ∈ l)
    (hmax : ∀ v, v ∈ l → v ≠ t → serialOf ser v < serialOf ser t) :
    identifyRoot ser l = t := by
  rw [identifyRoot_eq, scan_max ser t l (0, 0) (Nat.zero_le _) (Or.inr ht) hmax]

theorem identifyRoot_spec {stems : List (Nat × Nat)} (hr : Ranked stems) {cs : List Comp}
    (h : getConnComps (sortNat (hNodes stems)) (hEdges stems) = some cs) (c : Comp) (hc : c ∈ cs) :
    identifyRoot (assignSerials stems) (sortNat c.nodes) ∈ c.nodes ∧
    identifyRoot (assignSerials stems) (sortNat c.nodes) ∉ leafList stems ∧
    ∀ v, v ∈ c.nodes → v ∉ leafList stems →
      v = identifyRoot (assignSerials stems) (sortNat c.nodes) := by
  have sp := comps_spec h (hEdges_endpoints stems)
  have hcls := comps_class sp c hc
  obtain ⟨u, hu⟩ := List.exists_mem_of_ne_nil _ (comps_nonempty sp c hc)
  obtain ⟨t, ht⟩ := exists_climb hr u
  have hall : ∀ v, v ∈ c.nodes → Climbs stems v t := fun v hv =>
    Reach.closed (P := fun x => Climbs stems x t) (fun _ _ h hab => h.adj hr hab) ((hcls u hu v).1 hv) ht
  have htc : t ∈ c.nodes := (hcls u hu t).2 ht.spec.2.1
  rw [identifyRoot_of_max _ (mem_sortNat.2 htc) (fun v hv hvt =>
    ((hall v (mem_sortNat.1 hv)).mono _ (fun _ _ hm => serial_lt hr hm)).resolve_left hvt)]
  exact ⟨htc, ht.spec.1, fun v hvc hvl => ((hall v hvc).of_not_leaf hvl).symm⟩

end AdaptaVerif.Lemmas.PeelRoot
