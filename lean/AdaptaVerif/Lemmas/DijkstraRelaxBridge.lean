/-
C17 — bridge for the relax loop of `dijkstra(s, vs, d)` (cola/libcola/shortest_paths.h) as GENERATED into
`Gen/DijkstraRelaxK.lean` (a fragment: the `for` over `u`'s neighbours; `Node<T>*` = index into `vs`, the pairing heap
abstract with `decreaseKey` as a parameter): instantiated with the model's heap it is the fold of
`Model.ShortestPaths.relaxEdgeH u` over the adjacency list `adj es u` — the loop `dijkstraHeapLoop` performs after every
`extractMin`, which `dijkstraHeap_correct` is about — and it leaves the adjacency vectors alone.
-/
import AdaptaVerif.Gen.DijkstraRelaxK
import AdaptaVerif.Lemmas.GenLoopBridge
import AdaptaVerif.Lemmas.ShortestPathsBridge
import AdaptaVerif.Lemmas.Util.List
namespace AdaptaVerif.Lemmas.DijkstraRelaxBridge
open AdaptaVerif.Gen AdaptaVerif.Gen.DijkstraRelaxK AdaptaVerif.Gen.KeysShortest
open AdaptaVerif.Model.ShortestPaths AdaptaVerif.Model.PairingHeap AdaptaVerif.Lemmas.GenLoopBridge

/-- the tentative distances `vs[i].d` as the model's vector -/
def dOf (vs : Array NodeK) : Vec := vs.map (·.d)

theorem dOf_at (vs : Array NodeK) (k : Nat) : (dOf vs).at k = (aget vs k).d := by
  unfold dOf Vec.at aget
  by_cases h : k < vs.size
  · simp [h]
  · simp [h]; rfl

theorem dOf_aset (vs : Array NodeK) (v : Nat) (x : NodeK) : dOf (aset vs v x) = (dOf vs).setIfInBounds v x.d := by
  unfold dOf aset
  apply Array.ext_getElem?
  intro k
  simp [Array.getElem?_setIfInBounds, Array.getElem?_map]

theorem ltDist_oadd (a w : Rat) (d : Dist) : ltDist (oadd (some a) (some w)) d = gtD d (a + w) := by
  cases d <;> simp [ltDist, gtD, oadd]

/-- one iteration of the relax loop on the generated state `(Q, vs)` for the neighbour entry `(v, w)` -/
def stepG {H : Type} (u : Nat) (decKey : H → Nat → Array NodeK → H) (s : H × Array NodeK) (vw : Nat × Dist) : H × Array NodeK :=
  if ((aget s.2 u).d != (none : Dist)) && ltDist (oadd (aget s.2 u).d vw.2) (aget s.2 vw.1).d then
    (decKey s.1 vw.1 (aset s.2 vw.1 { (aget s.2 vw.1) with d := oadd (aget s.2 u).d vw.2 }),
     aset s.2 vw.1 { (aget s.2 vw.1) with d := oadd (aget s.2 u).d vw.2 })
  else s

theorem body_eq {H : Type} (u : Nat) (decKey : H → Nat → Array NodeK → H) (i : Nat) (s : H × Array NodeK) :
    dijkstra_relax_body1 u decKey i s =
      stepG u decKey s ((aget s.2 u).neighbours.getD i default, (aget s.2 u).nweights.getD i default) := by
  unfold dijkstra_relax_body1 stepG
  rfl

/-- `decKeyM` (Gen/KeysShortest.lean): `decreaseKey` reads the new key from the node (`v->d`) -/
theorem decKeyM_eq (h : PTree Dist) (v : Nat) (vs : Array NodeK) : decKeyM h v vs = decreaseKey ltDist h v (aget vs v).d := rfl

/-- projection of the generated state to the model's `(d, heap)` -/
def proj (s : PTree Dist × Array NodeK) : Vec × PTree Dist := (dOf s.2, s.1)

theorem step_proj (u : Nat) (s : PTree Dist × Array NodeK) (v : Nat) (w : Rat) (hv : v < s.2.size) :
    proj (stepG u decKeyM s (v, some w)) = relaxEdgeH u (proj s) (v, w) := by
  unfold relaxEdgeH proj
  simp only [dOf_at]
  cases hu : (aget s.2 u).d with
  | none => simp [stepG, hu]
  | some a =>
    have hc : (((aget s.2 u).d != (none : Dist)) && ltDist (oadd (aget s.2 u).d (some w)) (aget s.2 v).d) = gtD (aget s.2 v).d (a + w) := by
      rw [hu]; simp [ltDist_oadd]
    unfold stepG
    simp only [hc]
    by_cases hg : gtD (aget s.2 v).d (a + w) = true
    · simp only [hg, if_true, hu, oadd, dOf_aset, decKeyM_eq]
      rw [aget_aset_eq _ _ _ hv]
    · simp only [hg, if_false, Bool.false_eq_true]

/-- the relax loop leaves the adjacency vectors, the `id`s (read by `d[u->id] = u->d`) and the size of the node array alone -/
def SameAdj (vs0 vs : Array NodeK) : Prop :=
  vs.size = vs0.size ∧ ∀ k, (aget vs k).neighbours = (aget vs0 k).neighbours ∧ (aget vs k).nweights = (aget vs0 k).nweights ∧
    (aget vs k).id = (aget vs0 k).id

theorem SameAdj.refl (vs : Array NodeK) : SameAdj vs vs := ⟨rfl, fun _ => ⟨rfl, rfl, rfl⟩⟩

theorem SameAdj.trans {a b c : Array NodeK} (h1 : SameAdj a b) (h2 : SameAdj b c) : SameAdj a c :=
  ⟨h2.1.trans h1.1, fun k => ⟨(h2.2 k).1.trans (h1.2 k).1, (h2.2 k).2.1.trans (h1.2 k).2.1, (h2.2 k).2.2.trans (h1.2 k).2.2⟩⟩

theorem stepG_sameAdj {H : Type} (u : Nat) (decKey : H → Nat → Array NodeK → H) (vs0 : Array NodeK) (s : H × Array NodeK)
    (vw : Nat × Dist) (h : SameAdj vs0 s.2) : SameAdj vs0 (stepG u decKey s vw).2 := by
  unfold stepG
  split
  · refine ⟨by simp [aset_size, h.1], ?_⟩
    intro k
    by_cases hk : vw.1 = k
    · subst hk
      by_cases hv : vw.1 < s.2.size
      · rw [aget_aset_eq _ _ _ hv]; exact h.2 vw.1
      · have : aset s.2 vw.1 { (aget s.2 vw.1) with d := oadd (aget s.2 u).d vw.2 } = s.2 := by
          simp [aset, Array.setIfInBounds, hv]
        rw [this]; exact h.2 vw.1
    · rw [aget_aset_ne _ _ _ _ hk]; exact h.2 k
  · exact h

theorem fold_proj (u : Nat) (vs0 : Array NodeK) (l : List (Nat × Rat)) (s : PTree Dist × Array NodeK)
    (hs : SameAdj vs0 s.2) (hval : ∀ p ∈ l, p.1 < vs0.size) :
    proj (l.foldl (fun s p => stepG u decKeyM s (p.1, some p.2)) s) = l.foldl (relaxEdgeH u) (proj s) := by
  induction l generalizing s with
  | nil => rfl
  | cons p ps ih =>
    simp only [List.foldl_cons]
    rw [ih _ (stepG_sameAdj u decKeyM vs0 s _ hs) (fun q hq => hval q (by simp [hq]))]
    rw [step_proj u s p.1 p.2 (by rw [hs.1]; exact hval p (by simp))]

theorem relax_eq (es : List (Nat × Nat × Rat)) (u : Nat) (vs : Array NodeK) (Q : PTree Dist)
    (hnb : (aget vs u).neighbours = (adj es u).map (·.1))
    (hnw : (aget vs u).nweights = (adj es u).map (fun p => some p.2))
    (hval : ∀ p ∈ adj es u, p.1 < vs.size) :
    (dOf (dijkstra_relax vs Q u decKeyM).1, (dijkstra_relax vs Q u decKeyM).2) = (adj es u).foldl (relaxEdgeH u) (dOf vs, Q) ∧
    SameAdj vs (dijkstra_relax vs Q u decKeyM).1 := by
  unfold dijkstra_relax
  simp only []
  have hlen : (aget vs u).neighbours.length = (adj es u).length := by rw [hnb]; simp
  rw [Nat.sub_zero, hlen]
  obtain ⟨h1, h2⟩ := forRange_list_inv (fun (s : PTree Dist × Array NodeK) => SameAdj vs s.2) (adj es u)
    (dijkstra_relax_body1 u decKeyM) (fun s p => stepG u decKeyM s (p.1, some p.2)) 0 (Q, vs) (SameAdj.refl vs)
    (by
      intro i hi s hs
      refine ⟨?_, stepG_sameAdj u decKeyM vs s _ hs⟩
      rw [Nat.zero_add, body_eq, (hs.2 u).1, (hs.2 u).2.1, hnb, hnw]
      simp [List.getD, hi])
  rw [h1]
  refine ⟨?_, h2⟩
  have := fold_proj u vs (adj es u) (Q, vs) (SameAdj.refl vs) hval
  simpa [proj] using this

theorem body_sameAdj {H : Type} (u : Nat) (decKey : H → Nat → Array NodeK → H) (vs0 : Array NodeK) (i : Nat) (s : H × Array NodeK)
    (h : SameAdj vs0 s.2) : SameAdj vs0 (dijkstra_relax_body1 u decKey i s).2 := by
  rw [body_eq]; exact stepG_sameAdj u decKey vs0 s _ h

theorem relax_pre_true {H : Type} (decKey : H → Nat → Array NodeK → H) (vs : Array NodeK) (Q : H) (u : Nat) (hu : u < vs.size)
    (hlen : (aget vs u).nweights.length = (aget vs u).neighbours.length)
    (hval : ∀ v ∈ (aget vs u).neighbours, v < vs.size) :
    dijkstra_relax_pre vs Q u decKey = true := by
  unfold dijkstra_relax_pre
  simp only [hu, decide_true, Bool.true_and, Bool.and_true]
  refine forRangePre_zero_of_inv (fun _ (s : H × Array NodeK) => SameAdj vs s.2) _ _ _ _ (SameAdj.refl vs) ?_
  intro i s hi' hs
  refine ⟨?_, body_sameAdj u decKey vs i s hs⟩
  have hus : u < s.2.size := by rw [hs.1]; exact hu
  have hv : (aget vs u).neighbours.getD i default < s.2.size := by
    rw [hs.1]; exact hval _ (Util.getD_mem hi')
  unfold dijkstra_relax_body1_pre
  simp only [(hs.2 u).1, (hs.2 u).2.1, hlen, hi', hus, hv, decide_true, Bool.and_self, Bool.or_true, ite_self]

end AdaptaVerif.Lemmas.DijkstraRelaxBridge
