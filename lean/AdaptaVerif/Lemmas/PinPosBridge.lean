/-
C11 — bridge between `ShapeConnectionPin::position` as GENERATED from cola/libavoid/connectionpin.cpp
(`Gen/PinPosK.lean`, with `Box::width/height` from geomtypes.cpp) and the hand model `Model.Pins.pinPosition`
(per-axis `axisPos`) that `pin_translation_equivariant`, `pin_in_box`, `pin_resize_proportional` … are about.
-/
import AdaptaVerif.Gen.PinPosK
namespace AdaptaVerif.Lemmas.PinPosBridge
open AdaptaVerif.Model.Pins AdaptaVerif.Gen AdaptaVerif.Gen.KeysPins AdaptaVerif.Gen.PinPosK

/-- the `Avoid::Box` of a model box -/
def boxK (b : Box) : BoxK := ⟨⟨b.minX, b.minY⟩, ⟨b.maxX, b.maxY⟩⟩

theorem width_boxK (b : Box) : width (boxK b) = b.maxX - b.minX := rfl
theorem height_boxK (b : Box) : height (boxK b) = b.maxY - b.minY := rfl

end AdaptaVerif.Lemmas.PinPosBridge
