/-
What the incremental solver can do to its variables and constraints at all: every function of the
call tree of `satisfy` is a chain of four kinds of primitive steps (`Prim`).  A fact that no
primitive step destroys — `fuelOut` is never cleared (`Chain.fuel`); the data of the constraints and
the scales of the variables are kept, `unsat` is only ever set (`fr_of_chain` in MakeFeasibleFrame.lean)
— is proved by four cases (`Chain.induct`) and then holds across `process` and `satisfy`.  No
invariant is involved: this is the unconditional frame.
-/
import AdaptaVerif.Lemmas.VpscSplit
namespace AdaptaVerif.Lemmas.VpscChain
open AdaptaVerif.Model.Vpsc
open AdaptaVerif.Lemmas.VpscMerge AdaptaVerif.Lemmas.VpscSplit
open Relation

/-- one primitive step: it leaves variables and constraints alone (it writes other fields and does
    not clear `fuelOut`), or it is `Block::merge`, `Block::split`, or `v->unsatisfiable = true` -/
inductive Prim : St → St → Prop
  | same {a b : St} : b.vars = a.vars → b.cons = a.cons → (a.fuelOut = true → b.fuelOut = true) → Prim a b
  | merge (a : St) (ci : Nat) : Prim a (a.mergeAcross ci).1
  | split (a : St) (old ci : Nat) : Prim a (a.split old ci).1
  | flag (a : St) (v : Nat) : Prim a (a.flag v)

abbrev Chain : St → St → Prop := ReflTransGen Prim

theorem Chain.induct {R : St → St → Prop} (refl : ∀ a, R a a)
    (trans : ∀ {a b c}, R a b → R b c → R a c) (prim : ∀ {a b}, Prim a b → R a b) {a b : St}
    (h : Chain a b) : R a b := by
  induction h with
  | refl => exact refl a
  | tail _ hp ih => exact trans ih (prim hp)

theorem Chain.same {a b : St} (hv : b.vars = a.vars) (hc : b.cons = a.cons)
    (hf : a.fuelOut = true → b.fuelOut = true) : Chain a b := .single (.same hv hc hf)

/-- The chain comes first, so that the state in the middle is known when the side conditions are
    checked.  (They are proved by `simp only` with the setters, not by `rfl`, wherever the state in the
    middle contains `note`, `mergeAcross` or a traversal: `rfl` would unfold those.) -/
theorem Chain.then_same {a b c : St} (h : Chain a b) (hv : c.vars = b.vars) (hc : c.cons = b.cons)
    (hf : b.fuelOut = true → c.fuelOut = true) : Chain a c := h.tail (.same hv hc hf)

theorem Chain.fuel {a b : St} (h : Chain a b) : a.fuelOut = true → b.fuelOut = true :=
  Chain.induct (R := fun a b => a.fuelOut = true → b.fuelOut = true) (fun _ => id)
    (fun h1 h2 h => h2 (h1 h))
    (fun p => by
      cases p with
      | same _ _ hf => exact hf
      | merge ci => exact fun h => by rw [(mergeAcross_frame _ ci).2.2]; exact h
      | split old ci => exact fun h => by rw [split_fst_fuelOut, h]; rfl
      | flag v => exact id) h

/-! ### the call tree -/

theorem chain_note (a : St) (m : Rat) : Chain a (a.note m) := Chain.same rfl rfl id

theorem chain_okAnd (a : St) (ok : Bool) : Chain a (a.okAnd ok) :=
  Chain.same rfl rfl fun h => by simp only [St.okAnd, h, Bool.true_or]

theorem chain_refreshBlock (a : St) (bid : Nat) : Chain a (a.refreshBlock bid) :=
  Chain.same (by simp only [St.refreshBlock]) (by simp only [St.refreshBlock])
    (by simp only [St.refreshBlock]; exact id)

theorem chain_cleanup (a : St) : Chain a a.cleanup := Chain.same rfl rfl id

theorem chain_moveBlocks (a : St) : Chain a a.moveBlocks := by
  unfold St.moveBlocks
  exact Array.foldl_induction (motive := fun _ (s : St) => Chain a s) .refl
    fun i s hs => hs.trans (chain_refreshBlock s _)

theorem chain_findMinLM (a : St) (bid : Nat) : Chain a (a.findMinLM bid).1 := by
  unfold St.findMinLM
  exact Chain.same rfl rfl fun h => by simp only [h, Bool.true_or]

theorem chain_splitOn (a : St) (old ci : Nat) : Chain a (a.splitOn old ci).1 :=
  Chain.then_same (.single (.split a old ci)) (splitOn_fields a old ci).1 (splitOn_fields a old ci).2.1
    fun h => by rw [(splitOn_fields a old ci).2.2.2.2.1]; exact h

theorem chain_splitBlockStep (a : St) (i : Nat) : Chain a (a.splitBlockStep i) := by
  unfold St.splitBlockStep
  simp only
  have h1 := chain_findMinLM a a.order[i]!
  generalize a.findMinLM a.order[i]! = r at h1 ⊢
  split
  · exact h1
  · rename_i ci lmv gap _
    split
    · have h2 := (h1.trans (chain_note r.1 _)).trans (chain_note (r.1.note (lmv - LAGRANGIAN_TOLERANCE)) gap)
      generalize (r.1.note (lmv - LAGRANGIAN_TOLERANCE)).note gap = st2 at h2 ⊢
      have h3 := h2.trans (chain_splitOn st2 (st2.vars[(st2.cons[ci]!).l]!).block ci)
      generalize st2.splitOn (st2.vars[(st2.cons[ci]!).l]!).block ci = q at h3 ⊢
      exact Chain.then_same h3 (by simp only [St.incSplit, St.insertBlocks])
        (by simp only [St.incSplit, St.insertBlocks]) (by simp only [St.incSplit, St.insertBlocks]; exact id)
    · exact h1.trans (chain_note r.1 _)

theorem chain_splitBlocks (a : St) : Chain a a.splitBlocks := by
  unfold St.splitBlocks
  simp only
  have h := List.foldlRecOn (motive := fun s => Chain a s) (List.range a.moveBlocks.order.size)
    St.splitBlockStep (chain_moveBlocks a) fun s hs i _ => hs.trans (chain_splitBlockStep s i)
  generalize List.foldl St.splitBlockStep _ _ = s at h ⊢
  exact h.trans (chain_cleanup s)

theorem chain_mostViolated (a : St) : Chain a a.mostViolated.1 := by
  unfold St.mostViolated
  simp only
  split
  · exact .refl
  · split
    · exact Chain.same rfl rfl id
    · split
      · exact .refl
      · split
        · split
          · exact Chain.same (by simp only [St.note]) (by simp only [St.note])
              (by simp only [St.note]; exact id)
          · exact Chain.same (by simp only [St.note]) (by simp only [St.note])
              (by simp only [St.note]; exact id)
        · exact Chain.same (by simp only [St.note]) (by simp only [St.note])
            (by simp only [St.note]; exact id)

theorem chain_afterSplit (a : St) (v lid rid : Nat) : Chain a (a.afterSplit v lid rid) := by
  unfold St.afterSplit
  split
  · exact .refl
  · simp only
    split
    · exact Chain.same (by simp only [St.incResat, St.insertBlocks, St.pushInactive, St.note])
        (by simp only [St.incResat, St.insertBlocks, St.pushInactive, St.note])
        (by simp only [St.incResat, St.insertBlocks, St.pushInactive, St.note]; exact id)
    · rename_i s _ _
      have h1 := (chain_note a s).tail (.merge (a.note s) v)
      generalize (a.note s).mergeAcross v = r at h1 ⊢
      exact Chain.then_same h1 rfl rfl id

theorem chain_searchSplit (a : St) (v : Nat) : Chain a (a.searchSplit v).1 := by
  unfold St.searchSplit
  simp only
  generalize computeDfdv a _ _ _ _ _ _ = d
  have h1 : Chain a ((a.setLm d.1).okAnd d.2.2.2) :=
    Chain.same rfl rfl fun h => by simp only [St.okAnd, St.setLm, h, Bool.true_or]
  generalize (a.setLm d.1).okAnd d.2.2.2 = st1 at h1 ⊢
  generalize splitPath st1 _ _ _ _ _ = p
  exact h1.trans (chain_okAnd st1 p.2)

theorem chain_splitBetweenWith (a : St) (v : Nat) (path : Option (Array Nat)) :
    Chain a (a.splitBetweenWith v path) := by
  unfold St.splitBetweenWith
  simp only
  split
  · exact Chain.then_same (.single (.flag a v)) rfl rfl id
  · rename_i sc x gap _
    have h1 : Chain a ((a.note gap).splitOn (a.vars[(a.cons[v]!).l]!).block sc).1 :=
      (chain_note a gap).trans (chain_splitOn (a.note gap) _ sc)
    generalize (a.note gap).splitOn (a.vars[(a.cons[v]!).l]!).block sc = q at h1 ⊢
    exact (Chain.then_same (c := q.1.incSplitBetween) h1 rfl rfl id).trans
      (chain_afterSplit q.1.incSplitBetween v q.2.1 q.2.2)

theorem chain_process (a : St) (v : Nat) : Chain a (a.process v) := by
  unfold St.process
  simp only
  split
  · exact .single (.merge a v)
  · split
    · generalize (isActiveDirectedPathBetween a _ _ _ _).2 = ok
      exact Chain.then_same ((chain_okAnd a ok).tail (.flag (a.okAnd ok) v)) rfl rfl id
    · generalize (isActiveDirectedPathBetween a _ _ _ _).2 = ok
      unfold St.splitBetween
      simp only
      have h1 := (chain_okAnd a ok).trans (chain_searchSplit (a.okAnd ok) v)
      generalize (a.okAnd ok).searchSplit v = r at h1 ⊢
      exact h1.trans (chain_splitBetweenWith r.1 v r.2)

theorem chain_satisfyLoop : ∀ (fuel : Nat) (a : St), Chain a (St.satisfyLoop fuel a) := by
  intro fuel
  induction fuel with
  | zero => intro a; unfold St.satisfyLoop; exact Chain.same rfl rfl fun _ => rfl
  | succ fuel ih =>
    intro a
    unfold St.satisfyLoop
    simp only
    have h1 := chain_mostViolated a
    generalize a.mostViolated = r at h1 ⊢
    obtain ⟨r1, r2⟩ := r
    cases r2 with
    | none => exact h1
    | some v =>
      simp only
      split
      · exact (h1.trans (chain_process r1 v)).trans (ih _)
      · exact h1

theorem chain_satisfy (a : St) : Chain a a.satisfy.1 := by
  have h := (chain_splitBlocks a).trans (chain_satisfyLoop a.splitBlocks.loopFuel a.splitBlocks)
  unfold St.satisfy
  simp only
  generalize St.satisfyLoop a.splitBlocks.loopFuel a.splitBlocks = s at h ⊢
  have h' := h.trans (chain_cleanup s)
  split
  · exact h'
  · split <;> exact h'

end AdaptaVerif.Lemmas.VpscChain
