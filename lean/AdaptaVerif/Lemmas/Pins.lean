/-
Helper lemmas for C11: pin position arithmetic and the assignment state machine.
-/
import AdaptaVerif.Model.Pins
import AdaptaVerif.Spec.Pins
import Mathlib.Tactic.Linarith
import Mathlib.Tactic.Ring
import Mathlib.Algebra.Order.Field.Rat
namespace AdaptaVerif.Lemmas.Pins
open AdaptaVerif.Model.Pins AdaptaVerif.Spec.Pins

theorem axisPos_translate (p : Bool) (off ins lo hi t : Rat) :
    axisPos p off ins (lo + t) (hi + t) = axisPos p off ins lo hi + t := by
  have hw : hi + t - (lo + t) = hi - lo := by ring
  -- the extent is unchanged, so the same branch is taken; push `+ t` into the branches
  simp only [axisPos, hw, apply_ite (· + t), add_right_comm lo _ t, sub_add_eq_add_sub]

theorem axisPos_in_range (p : Bool) (off ins lo hi : Rat) (h : AxisInRange p off ins lo hi) :
    lo ≤ axisPos p off ins lo hi ∧ axisPos p off ins lo hi ≤ hi := by
  obtain ⟨hlh, hi0, hiw, hoff⟩ := h
  unfold axisPos
  cases p with
  | true =>
    simp only [if_true] at hoff ⊢
    obtain ⟨h0, h1⟩ := hoff
    have hw : 0 ≤ hi - lo := by linarith
    split_ifs
    · constructor <;> linarith
    · constructor <;> linarith
    · have h2 : 0 ≤ off * (hi - lo) := mul_nonneg h0 hw
      have h3 : off * (hi - lo) ≤ 1 * (hi - lo) := mul_le_mul_of_nonneg_right h1 hw
      constructor <;> linarith
  | false =>
    simp only [Bool.false_eq_true, if_false] at hoff ⊢
    split_ifs with h0 h1
    · constructor <;> linarith
    · constructor <;> linarith
    · rcases hoff with hm | ⟨ha, hb⟩
      · exact absurd (Or.inl hm) h1
      · constructor <;> linarith

theorem axisPos_proportional (off ins lo hi : Rat) (h0 : off ≠ 0) (h1 : off ≠ 1) :
    axisPos true off ins lo hi - lo = off * (hi - lo) := by
  unfold axisPos
  simp only [if_true, h0, h1, if_false]
  ring

theorem axisPos_inside (p : Bool) (off ins lo hi : Rat) :
    (off = 0 → axisPos p off ins lo hi - lo = ins) ∧
    ((p = true ∧ off = 1) ∨ (p = false ∧ off ≠ 0 ∧ (off = -1 ∨ off = hi - lo)) →
      hi - axisPos p off ins lo hi = ins) := by
  constructor
  · intro h0
    simp only [axisPos, h0, if_true]
    split_ifs <;> ring
  · rintro (⟨hp, h1⟩ | ⟨hp, h0, h1⟩)
    · simp only [axisPos, hp, h1, if_true]
      norm_num
    · simp only [axisPos, hp, h0, h1, Bool.false_eq_true, if_false, if_true]
      ring

theorem isFree_excl {p : PinState} (he : p.exclusive = true) (hf : isFree p = true) : p.users = [] := by
  unfold isFree at hf
  simp only [he, Bool.not_true, Bool.false_or] at hf
  exact List.isEmpty_iff.mp hf

theorem routePin_users_le (conn : Nat) (sp dp : Option Nat) (p : PinState)
    (hok : sp = none ∨ dp = none ∨ sp ≠ dp) (he : p.exclusive = true) (hlen : p.users.length ≤ 1) :
    (routePin conn sp dp p).users.length ≤ 1 := by
  unfold routePin
  simp only
  by_cases hf : isFree p = true
  · have hu := isFree_excl he hf
    by_cases hs : sp = some p.id <;> by_cases hd : dp = some p.id
    · exfalso
      rcases hok with h | h | h
      · rw [h] at hs; cases hs
      · rw [h] at hd; cases hd
      · exact h (hs.trans hd.symm)
    · simp [hs, hd, hf, hu]
    · simp [hs, hd, hf, hu]
    · simp [hs, hd, hlen]
  · simp [hf, hlen]

theorem inv_freeAll (s : State) : ExclInv (step s .freeAll) := by
  intro q hq _
  simp only [step, List.mem_map] at hq
  obtain ⟨p, _, rfl⟩ := hq
  simp

theorem inv_step (s : State) (op : Op) (hinv : ExclInv s) (hok : Op.ok s op) : ExclInv (step s op) := by
  intro q hq hex
  cases op with
  | addPin id shape cls excl =>
    simp only [step, List.mem_append, List.mem_singleton] at hq
    rcases hq with hq | hq
    · exact hinv q hq hex
    · subst hq; simp
  | setExclusive id b =>
    simp only [step, List.mem_map] at hq
    obtain ⟨p, hp, rfl⟩ := hq
    by_cases hid : p.id = id
    · simp only [hid, if_true] at hex ⊢
      cases b with
      | true => exact hok p hp hid
      | false => simp at hex
    · simp only [hid, if_false] at hex ⊢
      exact hinv p hp hex
  | route conn sp dp =>
    simp only [step] at hq
    split at hq
    · exact hinv q hq hex
    · simp only [List.mem_map] at hq
      obtain ⟨p, hp, rfl⟩ := hq
      exact routePin_users_le conn sp dp p hok hex (hinv p hp hex)
  | release conn =>
    simp only [step, List.mem_map] at hq
    obtain ⟨p, hp, rfl⟩ := hq
    simp only at hex ⊢
    exact le_trans (List.length_filter_le _ _) (hinv p hp hex)
  | freeAll => exact inv_freeAll s q hq hex
  | deletePin id =>
    simp only [step, List.mem_filter] at hq
    exact hinv q hq.1 hex
  | deleteShape sh =>
    simp only [step, List.mem_filter] at hq
    exact hinv q hq.1 hex

end AdaptaVerif.Lemmas.Pins
