/-
C10/C11: reversing a connector (`Conn.rev`) mirrors the shift segments that
`buildOrthogonalNudgingSegments` (Model/NudgeSegs.lean: `segAt`, `connSegs`) creates for it.
The index arithmetic on the connector is in `cpsIn_rev` / `cpsOn_rev` (the cache) and `winAt_rev` (the window of the reversed
connector at the mirrored index is the mirrored window); `g_rev` mirrors the two indexes a segment stores;
`segOf_rev` is geometry on a window.
-/
import AdaptaVerif.Lemmas.NudgeSegsSpec
import AdaptaVerif.Lemmas.Util.List

namespace AdaptaVerif.Lemmas.NudgeSegsRev
open AdaptaVerif.Model.NudgeSegs AdaptaVerif.Lemmas.NudgeSegsSpec
open AdaptaVerif.Lemmas.NudgeSegs (cpLimits_congr)
open AdaptaVerif.Model.FinalSegLimits (finalLimits)
open AdaptaVerif.Lemmas.FinalSegLimits (finalLimits_comm)

/-- cache indexes refer to vertices / segments of the route -/
def CacheOk (c : Conn) : Prop := ∀ e ∈ c.cache, e.1 ≤ 2 * (c.ps.length - 1)

/-- the checkpoints of the cache whose index lies in `[lo, up]`: the three modes of `cpsOnSegment` are (definitionally) three
    such windows, `[2s, 2s+2]`, `[2s+1, 2s+2]` and `[2s, 2s+1]` -/
def cpsIn (cache : List (Nat × Pt)) (lo up : Nat) : List Pt :=
  (cache.filter (fun e => decide (lo ≤ e.1) && decide (e.1 ≤ up))).map (·.2)

theorem cpsIn_rev (c : Conn) (hc : CacheOk c) {lo lo' w : Nat} (h : lo + lo' + w = 2 * (c.ps.length - 1)) :
    cpsIn c.rev.cache lo' (lo' + w) = (cpsIn c.cache lo (lo + w)).reverse := by
  unfold cpsIn Conn.rev
  rw [List.filter_reverse, List.map_reverse, List.filter_map, List.map_map]
  congr 1
  rw [List.filter_congr (q := fun e => decide (lo ≤ e.1) && decide (e.1 ≤ lo + w)) fun e he => Bool.eq_iff_iff.2 (by
    have := hc e he
    simp only [Function.comp, Bool.and_eq_true, decide_eq_true_eq]
    omega)]
  rfl

theorem cpsOn_rev (c : Conn) (hc : CacheOk c) {s s' : Nat} (h : s + s' + 2 = c.ps.length) :
    cpsOnSegment c.rev.cache s' 0 = (cpsOnSegment c.cache s 0).reverse ∧
    cpsOnSegment c.rev.cache s' 1 = (cpsOnSegment c.cache s 2).reverse ∧
    cpsOnSegment c.rev.cache s' 2 = (cpsOnSegment c.cache s 1).reverse :=
  ⟨cpsIn_rev c hc (lo := 2 * s) (lo' := 2 * s') (w := 2) (by omega),
    cpsIn_rev c hc (lo := 2 * s) (lo' := 2 * s' + 1) (w := 1) (by omega),
    cpsIn_rev c hc (lo := 2 * s + 1) (lo' := 2 * s') (w := 1) (by omega)⟩

theorem rev_getElem? (c : Conn) {j k : Nat} (h : j + k + 1 = c.ps.length) : c.rev.ps[j]? = c.ps[k]? := by
  show c.ps.reverse[j]? = _
  rw [List.getElem?_reverse (by omega)]; congr 1; omega

/-- `i` and `k` are mirror images of each other.  The mirrored index is a variable: with `c.ps.length - i` in its place every
    `omega` below has to see through nested truncated subtraction, which is dear; for the same reason the points the window
    reads are split into cases and not shown to exist. -/
theorem winAt_rev (c : Conn) (hc : CacheOk c) {i k : Nat} (h1 : 1 ≤ i) (hk : 1 ≤ k) (h : i + k = c.ps.length) :
    winAt c.rev k = (winAt c i).map Win.rev := by
  have hn : c.rev.ps.length = c.ps.length := List.length_reverse
  obtain ⟨hon, _, _⟩ := cpsOn_rev c hc (s := i - 1) (s' := k - 1) (by omega)
  unfold winAt
  rw [if_neg (Nat.ne_of_gt hk), if_neg (Nat.ne_of_gt h1), rev_getElem? c (k := i) (by omega),
    rev_getElem? c (k := i - 1) (by omega), hn]
  cases c.ps[i - 1]? with
  | none => cases c.ps[i]? <;> rfl
  | some a =>
    cases c.ps[i]? with
    | none => rfl
    | some b =>
      dsimp only
      by_cases hE : i = 1 ∨ i + 1 = c.ps.length
      · rw [if_pos hE, if_pos (by omega)]
        obtain rfl := Nat.eq_sub_of_add_eq' h
        exact congrArg some (by unfold winOf Win.rev; rw [hon, hn]; rfl)
      · obtain ⟨_, _, hprev⟩ := cpsOn_rev c hc (s := i) (s' := k - 2) (by omega)
        obtain ⟨_, hnext, _⟩ := cpsOn_rev c hc (s := i - 2) (s' := k) (by omega)
        rw [if_neg hE, if_neg (by omega), rev_getElem? c (k := i + 1) (by omega), rev_getElem? c (k := i - 2) (by omega)]
        cases c.ps[i - 2]? with
        | none => cases c.ps[i + 1]? <;> rfl
        | some pv =>
          cases c.ps[i + 1]? with
          | none => rfl
          | some nx =>
            obtain rfl := Nat.eq_sub_of_add_eq' h
            exact congrArg some (by unfold winOf adjAt Win.rev Adj.rev; rw [hon, hn, hprev, hnext]; rfl)

theorem swapF_rev (dim : Nat) (a b : Pt) (hne : a.c (alt dim) ≠ b.c (alt dim)) : swapF dim b a = !swapF dim a b := by
  unfold swapF
  by_cases h : a.c (alt dim) > b.c (alt dim)
  · rw [decide_eq_true h, decide_eq_false (not_lt.2 (le_of_lt h))]; rfl
  · rw [decide_eq_false h, decide_eq_true (lt_of_le_of_ne (not_lt.1 h) hne)]; rfl

theorem g_rev (dim i n : Nat) (a b : Pt) (hne : a.c (alt dim) ≠ b.c (alt dim)) (h1 : 1 ≤ i) (h2 : i < n) :
    gIl dim (n - i) b a = n - 1 - gIl dim i a b ∧ gIh dim (n - i) b a = n - 1 - gIh dim i a b ∧
    gLo dim b a = gLo dim a b ∧ gHi dim b a = gHi dim a b ∧ gPos dim b a = gPos dim a b := by
  have hm : n - i = n - 1 - (i - 1) ∧ n - i - 1 = n - 1 - i := by omega
  unfold gIl gIh gLo gHi gPos
  rw [swapF_rev dim a b hne]
  cases swapF dim a b
  · exact ⟨hm.1, hm.2, rfl, rfl, rfl⟩
  · exact ⟨hm.2, hm.1, rfl, rfl, rfl⟩

/-- exchanging the neighbours turns the z-bend branch into the s-bend branch -/
theorem bendLims_rev (e : Bool) (lim : Rat × Rat) (x p y : Rat) :
    bendLims e lim y p x =
      ((bendLims e lim x p y).1, (bendLims e lim x p y).2.1, (bendLims e lim x p y).2.2.2, (bendLims e lim x p y).2.2.1) := by
  unfold bendLims
  split
  · by_cases hz : x < p ∧ y > p
    · rw [if_neg (fun h => absurd hz.1 (not_lt.2 (le_of_lt h.2))), if_pos ⟨hz.2, hz.1⟩, if_pos hz]
    · by_cases hs : x > p ∧ y < p
      · rw [if_pos ⟨hs.2, hs.1⟩, if_neg hz, if_pos hs]
      · rw [if_neg (fun h => hs ⟨h.2, h.1⟩), if_neg (fun h => hz ⟨h.2, h.1⟩), if_neg hz, if_neg hs]
  · rfl

theorem adjLim_rev (dim : Nat) (p : Rat) (j : Adj) : adjLim dim p j.rev = adjLim dim p j := by
  rw [adjLim_eq, adjLim_eq]
  exact cpLimits_congr _ _ _ _ _ fun _ => by simp only [Adj.rev, List.mem_append, List.mem_reverse, or_comm]

section
variable (dim : Nat) (w : Win) (hne : w.a.c (alt dim) ≠ w.b.c (alt dim)) (heq : w.a.c dim = w.b.c dim)
  (h1 : 1 ≤ w.i) (h2 : w.i < w.n)
include hne heq h1 h2

omit heq in
theorem fixedW_rev : fixedW dim w.rev = MSeg.mirror w.n (fixedW dim w) := by
  obtain ⟨e1, e2, e3, e4, e5⟩ := g_rev dim w.i w.n w.a w.b hne h1 h2
  simp only [fixedW, Win.rev, fixedSeg, MSeg.mirror, e1, e2, e3, e4, e5]
  rfl

theorem endW_rev (lims : List Rect) : endW lims dim w.rev = MSeg.mirror w.n (endW lims dim w) := by
  obtain ⟨e1, e2, e3, e4, e5⟩ := g_rev dim w.i w.n w.a w.b hne h1 h2
  obtain ⟨f1, f2, f3, f4⟩ := finalLimits_comm (decide (dim = 0)) w.a w.b lims (by rw [co_eq, co_eq]; exact heq)
  have hfree : endFreeW lims dim w.rev = MSeg.mirror w.n (endFreeW lims dim w) := by
    simp only [endFreeW, freeW, Win.rev, freeSeg, MSeg.mirror, e1, e2, e3, e4, e5, f1, f2, f3, f4, List.reverse_nil]
    rw [Bool.or_comm, Bool.and_assoc, Bool.and_assoc, Bool.and_comm (finalLimits _ w.a w.b lims).last]
    rfl
  unfold endW
  rw [apply_ite (MSeg.mirror w.n), ← fixedW_rev dim w hne h1 h2, ← hfree]
  simp only [Win.rev, Model.FinalSegLimits.Lim.isFixed, f1, f2]
  rfl

theorem midW_rev (j : Adj) : midW dim w.rev j.rev = MSeg.mirror w.n (midW dim w j) := by
  obtain ⟨e1, e2, e3, e4, e5⟩ := g_rev dim w.i w.n w.a w.b hne h1 h2
  unfold midW
  rw [show w.rev.on = w.on.reverse from rfl, show w.rev.b = w.a from rfl, show j.rev.pv = j.nx from rfl,
    show j.rev.nx = j.pv from rfl, List.isEmpty_reverse, heq, adjLim_rev, bendLims_rev, List.map_reverse]
  simp only [freeW, Win.rev, freeSeg, MSeg.mirror, e1, e2, e3, e4, e5]

end

theorem segOf_rev (nf : Bool) (lims : List Rect) (dim : Nat) (w : Win) (h1 : 1 ≤ w.i) (h2 : w.i < w.n) :
    segOf nf lims dim w.rev = (segOf nf lims dim w).map (MSeg.mirror w.n) := by
  unfold segOf
  rw [show w.rev.a = w.b from rfl, show w.rev.b = w.a from rfl, show w.rev.on = w.on.reverse from rfl,
    show w.rev.adj = w.adj.map Adj.rev from rfl, List.isEmpty_reverse]
  by_cases hd : w.a.c dim = w.b.c dim
  swap
  · rw [if_pos (fun h => hd h.symm), if_pos hd]; rfl
  rw [if_neg (not_not.2 hd.symm), if_neg (not_not.2 hd)]
  by_cases he : w.a.c (alt dim) = w.b.c (alt dim)
  · rw [if_pos he.symm, if_pos he]; rfl
  rw [if_neg (fun h => he h.symm), if_neg he, fixedW_rev dim w he h1 h2, endW_rev dim w he hd h1 h2]
  split
  · rfl
  · cases hj : w.adj with
    | none => cases nf <;> rfl
    | some j => exact congrArg some (midW_rev dim w he hd h1 h2 j)

theorem segAt_rev (nf : Bool) (lims : List Rect) (dim : Nat) (c : Conn) (hc : CacheOk c) {i k : Nat}
    (h1 : 1 ≤ i) (hk : 1 ≤ k) (h : i + k = c.ps.length) :
    segAt nf lims dim c.rev k = (segAt nf lims dim c i).map (MSeg.mirror c.ps.length) := by
  rw [segAt_eq, segAt_eq, winAt_rev c hc h1 hk h]
  cases hw : winAt c i with
  | none => rfl
  | some w =>
    obtain ⟨rfl, hn⟩ := winAt_idx hw
    rw [← hn] at h ⊢
    exact segOf_rev nf lims dim w h1 (by omega)

theorem segAt_zero (nf : Bool) (lims : List Rect) (dim : Nat) (c : Conn) : segAt nf lims dim c 0 = none := by
  rw [segAt_eq0, if_pos rfl]

theorem segAt_length (nf : Bool) (lims : List Rect) (dim : Nat) (c : Conn) :
    segAt nf lims dim c c.ps.length = none := by
  rw [segAt_eq0, List.getElem?_eq_none (Nat.le_refl _)]
  split
  · rfl
  · cases c.ps[c.ps.length - 1]? <;> rfl

theorem filterMap_range_shift {β : Type} (g : Nat → Option β) (n : Nat) (h0 : g 0 = none) (hn : g n = none) :
    (List.range n).filterMap g = (List.range n).filterMap (fun k => g (k + 1)) := by
  have e1 : (List.range (n + 1)).filterMap g = (List.range n).filterMap g := by
    rw [List.range_succ, List.filterMap_append]
    simp [hn]
  have e2 : (List.range (n + 1)).filterMap g = (List.range n).filterMap (fun k => g (k + 1)) := by
    rw [List.range_succ_eq_map, List.filterMap_cons, h0, List.filterMap_map]
    rfl
  rw [← e1, e2]

theorem filterMap_range_mirror {β : Type} (f g : Nat → Option β) (n : Nat) (h0 : f 0 = none) (hn : f n = none)
    (hg0 : g 0 = none) (hg : ∀ j, 1 ≤ j → j < n → g j = f (n - j)) :
    (List.range n).filterMap g = ((List.range n).filterMap f).reverse := by
  rw [filterMap_range_shift f n h0 hn, ← List.filterMap_reverse, List.range_eq_range', List.reverse_range',
    List.filterMap_map, ← List.range_eq_range']
  apply Util.filterMap_congr'
  intro j hj
  have hj' : j < n := List.mem_range.1 hj
  simp only [Function.comp]
  by_cases hj0 : j = 0
  · subst hj0
    simp only [Nat.zero_add, Nat.sub_zero]
    rw [hg0, show n - 1 + 1 = n by omega, hn]
  · rw [hg j (by omega) hj']
    congr 1
    omega

end AdaptaVerif.Lemmas.NudgeSegsRev
