/-
Lemmas about the model of `Tree::symmetricLayout`: the side placement (separated), the
placement loop keeps the per-rank invariant, the recursion over the tree establishes it for every (sub)tree,
and the invariant implies that no two node boxes overlap (given extents along the growth direction ≤ rankSep).
-/
import AdaptaVerif.Lemmas.TreeLayout
namespace AdaptaVerif.Lemmas.TreeLayout
open AdaptaVerif.Model.TreeLayout

/-- growth-axis step between consecutive ranks: the growth component of `baseTrans` -/
def gstep (cfg : Cfg) : Rat := gr cfg.dir (baseTrans cfg.dir cfg.rankSep)

theorem disp_baseTrans (d : Dir) (rs : Rat) : disp d (baseTrans d rs) = 0 := by
  cases d <;> simp [disp, baseTrans, Dir.isVertical]

theorem gstep_abs (cfg : Cfg) : gstep cfg = cfg.rankSep ∨ gstep cfg = -cfg.rankSep := by
  unfold gstep; cases h : cfg.dir <;> simp [gr, baseTrans, Dir.isVertical]

/-- the vector a side-placed subtree is moved by -/
def sideTrans (cfg : Cfg) (R : Rat) : Pt :=
  if cfg.dir.isVertical then ⟨R, (baseTrans cfg.dir cfg.rankSep).y⟩ else ⟨(baseTrans cfg.dir cfg.rankSep).x, R⟩

theorem disp_sideTrans (cfg : Cfg) (R : Rat) : disp cfg.dir (sideTrans cfg R) = R := by
  unfold disp sideTrans; cases cfg.dir.isVertical <;> simp

theorem gr_sideTrans (cfg : Cfg) (R : Rat) : gr cfg.dir (sideTrans cfg R) = gstep cfg := by
  unfold gr sideTrans gstep gr; cases cfg.dir.isVertical <;> simp

/-- the invariant of the placement loop: root rank and the ranks below are consistent and `gstep` apart, and as
    long as the central tree is still to come no rank below the root holds a node (`fresh`) -/
structure StOK (cfg : Cfg) (P : Rat → Rat → Prop) (st : St) : Prop where
  root : LevelOK cfg.dir (2 * cfg.nodeSep) P st.root
  rest : ∀ l ∈ st.rest, LevelOK cfg.dir (2 * cfg.nodeSep) P l
  grow : GrowAt cfg.dir (gstep cfg) 0 (st.root :: st.rest)
  fresh : st.mustCentral = true → ∀ p ∈ st.rest, p.nodes = []

theorem growAt_replicate (d : Dir) (s : Rat) : ∀ (k : Nat) (g : Rat),
    GrowAt d s g (List.replicate k (⟨0, 0, []⟩ : Level))
  | 0, _ => trivial
  | k + 1, g => by
    rw [List.replicate_succ]
    exact ⟨(by intro n hn; cases hn), growAt_replicate d s k (g + s)⟩

theorem levelOK_empty {d gap P} : LevelOK d gap P ⟨0, 0, []⟩ :=
  ⟨le_refl _, fun _ hn => (nomatch hn), List.Pairwise.nil, fun _ hn => (nomatch hn)⟩

theorem levelOK_single {d gap P} (n : PNode) (hP : P n.w n.h) (h0 : tr d n.c = 0) (hh : 0 ≤ ht d n) :
    LevelOK d gap P ⟨-ht d n, ht d n, [n]⟩ := by
  refine ⟨by show -ht d n ≤ ht d n; linarith, fun m hm => ?_, List.pairwise_singleton _ _, fun m hm => ?_⟩
  · rw [List.mem_singleton.1 hm]
    unfold lft rgt
    rw [h0, zero_sub, zero_add]
    exact ⟨le_refl _, le_refl _⟩
  · rw [List.mem_singleton.1 hm]
    exact hP

theorem initSt_ok (cfg : Cfg) (P : Rat → Rat → Prop) (id : Nat) (w h : Rat) (k : Nat) (c : Bool)
    (hP : P w h) (hw : 0 ≤ w) (hh : 0 ≤ h) : StOK cfg P (initSt cfg id w h k c) := by
  have hrest : ∀ l ∈ List.replicate k (⟨0, 0, []⟩ : Level), l = ⟨0, 0, []⟩ :=
    fun l hl => List.eq_of_mem_replicate hl
  refine ⟨levelOK_single ⟨id, ⟨0, 0⟩, w, h⟩ hP ?_ ?_, fun l hl => hrest l hl ▸ levelOK_empty,
    ⟨fun n hn => ?_, growAt_replicate _ _ _ _⟩, fun _ p hp => by rw [hrest p hp]⟩
  · unfold tr; split <;> rfl
  · show (0 : Rat) ≤ if cfg.dir.isVertical then w / 2 else h / 2
    split <;> linarith
  · rw [List.mem_singleton.1 hn]
    unfold gr; split <;> rfl

theorem placeCentral_ok {cfg P st t} (hst : StOK cfg P st) (hc : st.mustCentral = true)
    (ht : LayOK cfg.dir (2 * cfg.nodeSep) (gstep cfg) P t) : StOK cfg P (placeCentral cfg st t) := by
  have hlv := ht.translate_lv (baseTrans cfg.dir cfg.rankSep)
  refine ⟨hst.root, ?_, ⟨hst.grow.1, ?_⟩, ?_⟩
  · refine overlay_ok (fun _ p => p.nodes = []) (fun t p a b c => fCentral_ok t p a b c) _ _ hlv hst.rest ?_
    intro x hx
    exact hst.fresh hc x.2 (List.of_mem_zip hx).2
  · refine overlay_grow (fun _ _ => rfl) _ _ _ ?_ hst.grow.2
    exact ht.grow.translate (baseTrans cfg.dir cfg.rankSep)
  · intro h; exact absurd h (by simp [placeCentral])

/-- the transverse displacement chosen by the side branch -/
def sideRootPos (cfg : Cfg) (st : St) (t : Lay) : Rat :=
  rootPosOf st.positiveNext (candidates st.positiveNext cfg.nodeSep st.rest
    (if st.positiveNext then t else t.flip cfg.dir).levels)

theorem sideMoved_eq (cfg : Cfg) (st : St) (t : Lay) :
    sideMoved cfg st t =
      (if st.positiveNext then t else t.flip cfg.dir).translate cfg.dir (sideTrans cfg (sideRootPos cfg st t)) :=
  rfl

theorem sideMoved_sep (cfg : Cfg) (st : St) (t : Lay) :
    ∀ x ∈ (sideMoved cfg st t).levels.zip st.rest,
      (st.positiveNext = true → x.2.hi + 2 * cfg.nodeSep ≤ x.1.lo) ∧
      (st.positiveNext = false → x.1.hi + 2 * cfg.nodeSep ≤ x.2.lo) := by
  intro x hx
  rw [sideMoved_eq, sideRootPos] at hx
  cases hpos : st.positiveNext <;> rw [hpos] at hx
  · exact ⟨fun h => (nomatch h), fun _ =>
      zip_sep_neg cfg.dir cfg.nodeSep _ _ (disp_sideTrans cfg _) _ _ (rootPos_neg _) x hx⟩
  · exact ⟨fun _ =>
      zip_sep_pos cfg.dir cfg.nodeSep _ _ (disp_sideTrans cfg _) _ _ (rootPos_pos _) x hx, fun h => (nomatch h)⟩

theorem sideMoved_ok {cfg P st t} (ht : LayOK cfg.dir (2 * cfg.nodeSep) (gstep cfg) P t) :
    ∀ l ∈ (sideMoved cfg st t).levels, LevelOK cfg.dir (2 * cfg.nodeSep) P l := by
  rw [sideMoved_eq]
  cases st.positiveNext
  · exact ht.flip.translate_lv _
  · exact ht.translate_lv _

theorem GrowAt.translate_side {cfg : Cfg} {ls : List Level} (R : Rat) (h : GrowAt cfg.dir (gstep cfg) 0 ls) :
    GrowAt cfg.dir (gstep cfg) (0 + gstep cfg) (ls.map (Level.translate cfg.dir (sideTrans cfg R))) := by
  have := h.translate (sideTrans cfg R)
  rwa [gr_sideTrans] at this

theorem sideMoved_grow {cfg P st t} (ht : LayOK cfg.dir (2 * cfg.nodeSep) (gstep cfg) P t) :
    GrowAt cfg.dir (gstep cfg) (0 + gstep cfg) (sideMoved cfg st t).levels := by
  rw [sideMoved_eq]
  cases st.positiveNext
  · exact ht.flip.grow.translate_side _
  · exact ht.grow.translate_side _

theorem placeSide_ok {cfg P st t} (hns : 0 ≤ cfg.nodeSep) (hst : StOK cfg P st) (hmc : st.mustCentral = false)
    (ht : LayOK cfg.dir (2 * cfg.nodeSep) (gstep cfg) P t) : StOK cfg P (placeSide cfg st t) := by
  have hgap : (0 : Rat) ≤ 2 * cfg.nodeSep := by linarith
  have hsep := sideMoved_sep cfg st t
  refine ⟨hst.root, ?_, ⟨hst.grow.1, ?_⟩, fun h => absurd (hmc.symm.trans h) Bool.false_ne_true⟩
  · show ∀ l ∈ overlay (if st.positiveNext then fPos else fNeg) (sideMoved cfg st t).levels st.rest, _
    cases hpos : st.positiveNext
    · exact overlay_ok (fun t p => t.hi + 2 * cfg.nodeSep ≤ p.lo) (fun t p => fNeg_ok hgap t p) _ _
        (sideMoved_ok ht) hst.rest (fun x hx => (hsep x hx).2 hpos)
    · exact overlay_ok (fun t p => p.hi + 2 * cfg.nodeSep ≤ t.lo) (fun t p => fPos_ok hgap t p) _ _
        (sideMoved_ok ht) hst.rest (fun x hx => (hsep x hx).1 hpos)
  · show GrowAt _ _ _ (overlay (if st.positiveNext then fPos else fNeg) (sideMoved cfg st t).levels st.rest)
    cases st.positiveNext
    · exact overlay_grow (fun _ _ => rfl) _ _ _ (sideMoved_grow ht) hst.grow.2
    · exact overlay_grow (fun _ _ => rfl) _ _ _ (sideMoved_grow ht) hst.grow.2

theorem place_ok {cfg P st t} (hns : 0 ≤ cfg.nodeSep) (hst : StOK cfg P st)
    (ht : LayOK cfg.dir (2 * cfg.nodeSep) (gstep cfg) P t) : StOK cfg P (place cfg st t) := by
  unfold place
  cases hmc : st.mustCentral
  · simpa using placeSide_ok hns hst hmc ht
  · simpa using placeCentral_ok hst hmc ht

theorem foldl_place_ok {cfg P} (hns : 0 ≤ cfg.nodeSep) : ∀ (ts : List Lay) (st : St), StOK cfg P st →
    (∀ t ∈ ts, LayOK cfg.dir (2 * cfg.nodeSep) (gstep cfg) P t) → StOK cfg P (ts.foldl (place cfg) st)
  | [], _, hst, _ => hst
  | t :: ts, _, hst, ht =>
    foldl_place_ok hns ts _ (place_ok hns hst (ht t (List.mem_cons_self ..)))
      (fun x hx => ht x (List.mem_cons_of_mem _ hx))

theorem toLay_ok {cfg P st} (hst : StOK cfg P st) :
    LayOK cfg.dir (2 * cfg.nodeSep) (gstep cfg) P st.toLay := by
  refine ⟨?_, hst.grow⟩
  intro l hl
  rcases List.mem_cons.1 hl with rfl | hl
  · exact hst.root
  · exact hst.rest l hl

theorem placeAll_ok {cfg : Cfg} {P : Rat → Rat → Prop} (hns : 0 ≤ cfg.nodeSep) (id : Nat) (w h : Rat)
    (ordered : List Lay) (c : Bool) (hP : P w h) (hw : 0 ≤ w) (hh : 0 ≤ h)
    (ht : ∀ t ∈ ordered, LayOK cfg.dir (2 * cfg.nodeSep) (gstep cfg) P t) :
    LayOK cfg.dir (2 * cfg.nodeSep) (gstep cfg) P (placeAll cfg id w h ordered c) :=
  toLay_ok (foldl_place_ok hns ordered _ (initSt_ok cfg P id w h _ c hP hw hh) ht)

theorem mem_pick {perm : List Nat} {ls : List Lay} {t : Lay} (h : t ∈ pick perm ls) : t ∈ ls := by
  unfold pick at h
  obtain ⟨i, _, hi⟩ := List.mem_filterMap.1 h
  exact List.mem_of_getElem? hi

/-- every node size of the forest satisfies `P` -/
def ForestAll (P : Rat → Rat → Prop) : Forest → Prop
  | .nil => True
  | .cons _ w h kids rest => P w h ∧ ForestAll P kids ∧ ForestAll P rest

theorem layoutAll_ok (ord : Order) {cfg : Cfg} {P : Rat → Rat → Prop} (hns : 0 ≤ cfg.nodeSep)
    (hnn : ∀ w h, P w h → 0 ≤ w ∧ 0 ≤ h) :
    ∀ (f : Forest), ForestAll P f →
      ∀ t ∈ layoutAll ord cfg f, LayOK cfg.dir (2 * cfg.nodeSep) (gstep cfg) P t := by
  intro f
  induction f with
  | nil => intro _ t ht; simp [layoutAll] at ht
  | cons id w h kids rest ihk ihr =>
    intro hf t ht
    simp only [layoutAll, List.mem_cons] at ht
    rcases ht with rfl | ht
    · exact placeAll_ok hns id w h _ _ hf.1 (hnn w h hf.1).1 (hnn w h hf.1).2
        (fun x hx => ihk hf.2.1 x (mem_pick hx))
    · exact ihr hf.2.2 t ht

theorem layoutWith_ok (ord : Order) {cfg : Cfg} {P : Rat → Rat → Prop} (hns : 0 ≤ cfg.nodeSep)
    (hnn : ∀ w h, P w h → 0 ≤ w ∧ 0 ≤ h) (convex : Bool) (id : Nat) (w h : Rat) (kids : Forest)
    (hP : P w h) (hk : ForestAll P kids) :
    LayOK cfg.dir (2 * cfg.nodeSep) (gstep cfg) P (layoutWith ord cfg convex id w h kids) :=
  placeAll_ok hns id w h _ _ hP (hnn w h hP).1 (hnn w h hP).2
    (fun x hx => layoutAll_ok ord hns hnn kids hk x (mem_pick hx))

theorem growAt_exists {d s} : ∀ {g : Rat} {ls : List Level}, GrowAt d s g ls →
    ∀ n ∈ ls.flatMap (·.nodes), ∃ k : Nat, gr d n.c = g + k * s
  | _, [], _ => by simp
  | g, l :: ls, h => by
    intro n hn
    simp only [List.flatMap_cons, List.mem_append] at hn
    rcases hn with hn | hn
    · exact ⟨0, by simp [h.1 n hn]⟩
    · obtain ⟨k, hk⟩ := growAt_exists h.2 n hn
      exact ⟨k + 1, by rw [hk]; push_cast; ring⟩

theorem levelOK_sz_flat {d gap P} : ∀ {ls : List Level}, (∀ l ∈ ls, LevelOK d gap P l) →
    ∀ n ∈ ls.flatMap (·.nodes), P n.w n.h := by
  intro ls h n hn
  obtain ⟨l, hl, hn⟩ := List.mem_flatMap.1 hn
  exact (h l hl).sz n hn

theorem nodes_pairwise_rank {d : Dir} {gap s : Rat} {P : Rat → Rat → Prop} :
    ∀ (ls : List Level) (g : Rat), (∀ l ∈ ls, LevelOK d gap P l) → GrowAt d s g ls →
      (ls.flatMap (·.nodes)).Pairwise (fun m n => (P m.w m.h ∧ P n.w n.h) ∧
        (sepT d gap m n ∨ ∃ k : Nat, gr d n.c = gr d m.c + (k + 1) * s))
  | [], _, _, _ => by simp
  | l :: ls, g, hl, hg' => by
    have hl0 := hl l (List.mem_cons_self ..)
    have hls : ∀ x ∈ ls, LevelOK d gap P x := fun x hx => hl x (List.mem_cons_of_mem _ hx)
    simp only [List.flatMap_cons]
    rw [List.pairwise_append]
    refine ⟨?_, nodes_pairwise_rank ls (g + s) hls hg'.2, ?_⟩
    · exact hl0.sep.imp_of_mem (fun hm hn h => ⟨⟨hl0.sz _ hm, hl0.sz _ hn⟩, Or.inl h⟩)
    · intro m hm n hn
      obtain ⟨k, gn⟩ := growAt_exists hg'.2 n hn
      refine ⟨⟨hl0.sz m hm, levelOK_sz_flat hls n hn⟩, Or.inr ⟨k, ?_⟩⟩
      rw [gn, hg'.1 m hm]; ring

/-- the boxes of two nodes are `R`-separated (`R` = `≤`: no overlap of positive area; `<`: disjoint) -/
def boxSep (R : Rat → Rat → Prop) (m n : PNode) : Prop :=
  R (m.c.x + m.w / 2) (n.c.x - n.w / 2) ∨ R (n.c.x + n.w / 2) (m.c.x - m.w / 2) ∨
  R (m.c.y + m.h / 2) (n.c.y - n.h / 2) ∨ R (n.c.y + n.h / 2) (m.c.y - m.h / 2)

/-- the closed boxes are disjoint -/
def disjointBoxes (m n : PNode) : Prop :=
  m.c.x + m.w / 2 < n.c.x - n.w / 2 ∨ n.c.x + n.w / 2 < m.c.x - m.w / 2 ∨
  m.c.y + m.h / 2 < n.c.y - n.h / 2 ∨ n.c.y + n.h / 2 < m.c.y - m.h / 2

theorem boxSep_of {R : Rat → Rat → Prop} {d : Dir} {m n : PNode}
    (h : (R (rgt d m) (lft d n) ∨ R (rgt d n) (lft d m)) ∨
      (R (gr d m.c + hg d m) (gr d n.c - hg d n) ∨ R (gr d n.c + hg d n) (gr d m.c - hg d m))) :
    boxSep R m n := by
  unfold boxSep
  unfold lft rgt tr gr ht hg at h
  cases hd : d.isVertical <;> simp only [hd, Bool.false_eq_true, if_false, if_true] at h
  · rcases h with (h | h) | (h | h)
    · right; right; left; exact h
    · right; right; right; exact h
    · left; exact h
    · right; left; exact h
  · rcases h with (h | h) | (h | h)
    · left; exact h
    · right; left; exact h
    · right; right; left; exact h
    · right; right; right; exact h

theorem hg_eq (d : Dir) (n : PNode) : hg d n = (if d.isVertical then n.h else n.w) / 2 := by
  unfold hg; split <;> rfl

section
variable {d : Dir} {gap s rs : Rat} {P : Rat → Rat → Prop} {t : Lay}

/-- **separation from the invariant**, for a relation `R` (`≤`, `<`) that `gap` on the transverse axis
    establishes and that holds between the facing box ends of two nodes `k + 1` ranks (`rs` each) apart -/
theorem LayOK.separated {R : Rat → Rat → Prop}
    (h : LayOK d gap s P t) (hs : s = rs ∨ s = -rs) (hT : ∀ x y, x + gap ≤ y → R x y)
    (hG : ∀ (m n : PNode) (k : Nat) (x : Rat), P m.w m.h → P n.w n.h →
      R (x + hg d m) (x + (k + 1) * rs - hg d n)) :
    t.nodes.Pairwise (boxSep R) := by
  refine (nodes_pairwise_rank _ 0 h.lv h.grow).imp (fun {m n} hmn => boxSep_of (d := d) ?_)
  obtain ⟨⟨pm, pn⟩, hsep | ⟨k, hk⟩⟩ := hmn
  · exact Or.inl (hsep.imp (hT _ _) (hT _ _))
  · rcases hs with rfl | rfl
    · exact Or.inr (Or.inl (hk ▸ hG m n k _ pm pn))
    · have e : gr d m.c = gr d n.c + (k + 1) * rs := by rw [hk]; ring
      exact Or.inr (Or.inr (e ▸ hG n m k _ pn pm))

theorem rank_room {a b rs x : Rat} (k : Nat) (h0 : 0 ≤ a) (ha : a ≤ rs) (hb : b ≤ rs) :
    x + a / 2 ≤ x + (k + 1) * rs - b / 2 := by
  have hkr : (0 : Rat) ≤ k * rs := mul_nonneg (Nat.cast_nonneg k) (le_trans h0 ha)
  linarith only [ha, hb, hkr]

theorem rank_room_lt {a b rs x : Rat} (k : Nat) (h0 : 0 ≤ a) (ha : a < rs) (hb : b < rs) :
    x + a / 2 < x + (k + 1) * rs - b / 2 := by
  have hkr : (0 : Rat) ≤ k * rs := mul_nonneg (Nat.cast_nonneg k) (le_of_lt (lt_of_le_of_lt h0 ha))
  linarith only [ha, hb, hkr]

theorem extent_nonneg {d : Dir} {w h : Rat} (hw : 0 ≤ w) (hh : 0 ≤ h) :
    0 ≤ if d.isVertical then h else w := by
  split
  exacts [hh, hw]

theorem LayOK.noOverlap
    (h : LayOK d gap s P t) (hgap : 0 ≤ gap) (hs : s = rs ∨ s = -rs)
    (hP : ∀ w h, P w h → 0 ≤ w ∧ 0 ≤ h ∧ (if d.isVertical then h else w) ≤ rs) :
    t.nodes.Pairwise noOverlap :=
  h.separated (R := (· ≤ ·)) hs (fun _ _ => le_trans (le_add_of_nonneg_right hgap)) (fun m n k x pm pn => by
    obtain ⟨wm, hm, em⟩ := hP _ _ pm
    rw [hg_eq, hg_eq]
    exact rank_room k (extent_nonneg wm hm) em (hP _ _ pn).2.2)

theorem LayOK.disjoint
    (h : LayOK d gap s P t) (hgap : 0 < gap) (hs : s = rs ∨ s = -rs)
    (hP : ∀ w h, P w h → 0 ≤ w ∧ 0 ≤ h ∧ (if d.isVertical then h else w) < rs) :
    t.nodes.Pairwise disjointBoxes :=
  h.separated (R := (· < ·)) hs (fun _ _ => lt_of_lt_of_le (lt_add_of_pos_right _ hgap)) (fun m n k x pm pn => by
    obtain ⟨wm, hm, em⟩ := hP _ _ pm
    rw [hg_eq, hg_eq]
    exact rank_room_lt k (extent_nonneg wm hm) em (hP _ _ pn).2.2)
end

end AdaptaVerif.Lemmas.TreeLayout
