/-
The arithmetic of `Block::merge` in the static/incremental VPSC model on unit scales: the merged block sits at the
weighted mean of the two old positions (`merge_posn`), so the two blocks move apart from the violated constraint in
proportion to the OTHER block's weight (`mergeDir_moves`) — the key step of the VPSC satisfy argument ("the left
block moves left, the right block moves right").
-/
import AdaptaVerif.Lemmas.VpscKktFresh
import AdaptaVerif.Lemmas.VpscStatic
import Mathlib.Tactic.FieldSimp
import AdaptaVerif.Lemmas.Util.Array
namespace AdaptaVerif.Lemmas.VpscStaticMove
open AdaptaVerif.Model.Vpsc AdaptaVerif.Model.VpscStatic
open AdaptaVerif.Lemmas.VpscInv AdaptaVerif.Lemmas.VpscModel AdaptaVerif.Lemmas.VpscKktFresh
open AdaptaVerif.Spec.Qp (listSum)
open AdaptaVerif.Lemmas.Qp (listSum_add listSum_congr listSum_append listSum_mul_left)
open AdaptaVerif.Lemmas.Util (get!_set! getElem!_mem)

def wsum (vars : Array Var) (m : Array Nat) : Rat := listSum (fun i => (vars[i]!).weight) m.toList

/-- the weighted sum of `desired − offset` over a member list: on unit scales `updateWeightedPosition` puts the
    block at `wnum / wsum` -/
def wnum (vars : Array Var) (m : Array Nat) : Rat :=
  listSum (fun i => (vars[i]!).weight * ((vars[i]!).desired - (vars[i]!).offset)) m.toList

theorem wsum_append (vars : Array Var) (A B : Array Nat) : wsum vars (A ++ B) = wsum vars A + wsum vars B := by
  unfold wsum; rw [Array.toList_append, listSum_append]

theorem wnum_append (vars : Array Var) (A B : Array Nat) : wnum vars (A ++ B) = wnum vars A + wnum vars B := by
  unfold wnum; rw [Array.toList_append, listSum_append]

theorem wnum_shift {vars vars' : Array Var} {m : Array Nat} {d : Rat}
    (h : ∀ x ∈ m, (vars'[x]!).weight = (vars[x]!).weight ∧ (vars'[x]!).desired = (vars[x]!).desired ∧
      (vars'[x]!).offset = (vars[x]!).offset + d) :
    wsum vars' m = wsum vars m ∧ wnum vars' m = wnum vars m - d * wsum vars m := by
  unfold wsum wnum
  refine ⟨listSum_congr fun a ha => (h a (by simpa using ha)).1, ?_⟩
  rw [← listSum_mul_left, sub_eq_add_neg, neg_eq_neg_one_mul, ← listSum_mul_left, ← listSum_add]
  exact listSum_congr fun a ha => by
    obtain ⟨h1, h2, h3⟩ := h a (by simpa using ha)
    rw [h1, h2, h3]; ring

theorem blockPosn_unit (vars : Array Var) (m : Array Nat) (hs : ∀ x ∈ m, (vars[x]!).scale = 1)
    (h0 : (vars[m[0]!]!).scale = 1) : (blockPosn vars m).2 = wnum vars m / wsum vars m := by
  rw [blockPosn_eq]
  simp only [h0]
  unfold wnum wsum
  rw [sub_eq_add_neg, neg_eq_neg_one_mul, ← listSum_mul_left, ← listSum_add]
  congr 1 <;> exact listSum_congr fun a ha => by rw [hs a (by simpa using ha)]; ring

theorem shiftVars_keep {vars : Array Var} {dst src : Nat} (d : Rat) (hne : dst ≠ src) {x : Nat} (hlt : x < vars.size)
    (hb : blk vars x = dst) : (shiftVars vars src dst d)[x]! = vars[x]! := by
  rw [shiftVars_get _ _ _ _ _ hlt, if_neg]
  intro e
  exact hne (hb.symm.trans (by simpa [blk] using e))

theorem shiftVars_move {vars : Array Var} {dst src : Nat} (d : Rat) {x : Nat} (hlt : x < vars.size)
    (hb : blk vars x = src) :
    (shiftVars vars src dst d)[x]! = { vars[x]! with offset := (vars[x]!).offset + d, block := dst } := by
  rw [shiftVars_get _ _ _ _ _ hlt, if_pos (by simpa [blk] using hb)]

theorem merge_posn (vars : Array Var) (A B : Array Nat) (dst src : Nat) (d : Rat) (hne : dst ≠ src)
    (hA : ∀ x ∈ A, x < vars.size ∧ blk vars x = dst ∧ (vars[x]!).scale = 1)
    (hB : ∀ x ∈ B, x < vars.size ∧ blk vars x = src ∧ (vars[x]!).scale = 1)
    (hA0 : 0 < A.size) (hB0 : 0 < B.size)
    (hWA : wsum vars A ≠ 0) (hWB : wsum vars B ≠ 0) (hW : wsum vars A + wsum vars B ≠ 0) :
    (blockPosn (shiftVars vars src dst d) (A ++ B)).2 =
      (wsum vars A * (blockPosn vars A).2 + wsum vars B * ((blockPosn vars B).2 - d)) /
        (wsum vars A + wsum vars B) := by
  have hgA : ∀ x ∈ A, (shiftVars vars src dst d)[x]! = vars[x]! := fun x hx =>
    shiftVars_keep d hne (hA x hx).1 (hA x hx).2.1
  have hgB : ∀ x ∈ B, (shiftVars vars src dst d)[x]! =
      { vars[x]! with offset := (vars[x]!).offset + d, block := dst } := fun x hx =>
    shiftVars_move d (hB x hx).1 (hB x hx).2.1
  have hfirst : (A ++ B)[0]! = A[0]! := by
    rw [getElem!_pos (A ++ B) 0 (by simp; omega), getElem!_pos A 0 hA0]
    exact Array.getElem_append_left hA0
  have hsAB : ∀ x ∈ A ++ B, ((shiftVars vars src dst d)[x]!).scale = 1 := by
    intro x hx
    rcases Array.mem_append.1 hx with h | h
    · rw [hgA x h]; exact (hA x h).2.2
    · rw [hgB x h]; exact (hB x h).2.2
  obtain ⟨a1, a2⟩ := wnum_shift (vars := vars) (vars' := shiftVars vars src dst d) (m := A) (d := 0)
    fun x hx => by rw [hgA x hx]; simp
  obtain ⟨b1, b2⟩ := wnum_shift (vars := vars) (vars' := shiftVars vars src dst d) (m := B) (d := d)
    fun x hx => by rw [hgB x hx]; simp
  rw [blockPosn_unit _ (A ++ B) hsAB (by rw [hfirst]; exact hsAB _ (Array.mem_append.2 (Or.inl (getElem!_mem hA0)))),
    blockPosn_unit vars A (fun x hx => (hA x hx).2.2) ((hA _ (getElem!_mem hA0)).2.2),
    blockPosn_unit vars B (fun x hx => (hB x hx).2.2) ((hB _ (getElem!_mem hB0)).2.2),
    wsum_append, wnum_append, a1, a2, b1, b2]
  field_simp
  ring

theorem refreshBlock_self (st : St) (b : Nat) (hb : b < st.blocks.size) :
    ((st.refreshBlock b).blocks[b]!).scale = (blockPosn st.vars (st.blocks[b]!).vars).1 ∧
    ((st.refreshBlock b).blocks[b]!).posn = (blockPosn st.vars (st.blocks[b]!).vars).2 := by
  unfold St.refreshBlock
  simp only
  rw [get!_set!, if_pos ⟨rfl, hb⟩]
  exact ⟨rfl, rfl⟩

theorem mergeDir_block_dst (st : St) (ci dst src : Nat) (d : Rat) (hne : dst ≠ src) (hd : dst < st.blocks.size) :
    ((mergeDir st ci dst src d).blocks[dst]!).scale =
      (blockPosn (shiftVars st.vars src dst d) ((st.blocks[dst]!).vars ++ (st.blocks[src]!).vars)).1 ∧
    ((mergeDir st ci dst src d).blocks[dst]!).posn =
      (blockPosn (shiftVars st.vars src dst d) ((st.blocks[dst]!).vars ++ (st.blocks[src]!).vars)).2 := by
  have hget : ((st.blocks.set! dst { st.blocks[dst]! with vars := (st.blocks[dst]!).vars ++ (st.blocks[src]!).vars }).set! src
      { st.blocks[src]! with deleted := true })[dst]! =
      { st.blocks[dst]! with vars := (st.blocks[dst]!).vars ++ (st.blocks[src]!).vars } := by
    rw [get!_set!, if_neg (fun h => hne h.1.symm), get!_set!, if_pos ⟨rfl, hd⟩]
  unfold mergeDir
  simp only
  rw [(refreshBlock_self _ dst (by simpa using hd)).1, (refreshBlock_self _ dst (by simpa using hd)).2]
  simp only
  rw [hget]
  exact ⟨rfl, rfl⟩

/-- **how far a merge moves the variables** (unit scales, both blocks at the position
    `updateWeightedPosition` gives them): with `t = posn_dst − posn_src + d`, every variable of `dst` moves by
    `−t·W_src/W` and every variable of `src` by `t·W_dst/W` -/
theorem mergeDir_moves (st : St) (ci dst src : Nat) (d : Rat) (hne : dst ≠ src)
    (hd : dst < st.blocks.size)
    (hA : ∀ x ∈ (st.blocks[dst]!).vars, x < st.vars.size ∧ blk st.vars x = dst ∧ (st.vars[x]!).scale = 1)
    (hB : ∀ x ∈ (st.blocks[src]!).vars, x < st.vars.size ∧ blk st.vars x = src ∧ (st.vars[x]!).scale = 1)
    (hA0 : 0 < (st.blocks[dst]!).vars.size) (hB0 : 0 < (st.blocks[src]!).vars.size)
    (hfd : (st.blocks[dst]!).scale = 1 ∧ (st.blocks[dst]!).posn = (blockPosn st.vars (st.blocks[dst]!).vars).2)
    (hfs : (st.blocks[src]!).scale = 1 ∧ (st.blocks[src]!).posn = (blockPosn st.vars (st.blocks[src]!).vars).2)
    (hWA : wsum st.vars (st.blocks[dst]!).vars ≠ 0) (hWB : wsum st.vars (st.blocks[src]!).vars ≠ 0)
    (hW : wsum st.vars (st.blocks[dst]!).vars + wsum st.vars (st.blocks[src]!).vars ≠ 0) :
    (∀ x ∈ (st.blocks[dst]!).vars, (mergeDir st ci dst src d).pos x - st.pos x =
      -(((st.blocks[dst]!).posn - (st.blocks[src]!).posn + d) * wsum st.vars (st.blocks[src]!).vars) /
        (wsum st.vars (st.blocks[dst]!).vars + wsum st.vars (st.blocks[src]!).vars)) ∧
    (∀ x ∈ (st.blocks[src]!).vars, (mergeDir st ci dst src d).pos x - st.pos x =
      (((st.blocks[dst]!).posn - (st.blocks[src]!).posn + d) * wsum st.vars (st.blocks[dst]!).vars) /
        (wsum st.vars (st.blocks[dst]!).vars + wsum st.vars (st.blocks[src]!).vars)) := by
  obtain ⟨hsc, hpn⟩ := mergeDir_block_dst st ci dst src d hne hd
  have hformula := merge_posn st.vars _ _ dst src d hne hA hB hA0 hB0 hWA hWB hW
  have hscale' : ((mergeDir st ci dst src d).blocks[dst]!).scale = 1 := by
    rw [hsc]
    unfold blockPosn
    simp only
    have hfirst : ((st.blocks[dst]!).vars ++ (st.blocks[src]!).vars)[0]! = (st.blocks[dst]!).vars[0]! := by
      rw [getElem!_pos _ 0 (by simp; omega), getElem!_pos _ 0 hA0]
      exact Array.getElem_append_left hA0
    rw [hfirst]
    obtain ⟨hlt, hb, hs1⟩ := hA _ (getElem!_mem hA0)
    rw [shiftVars_keep d hne hlt hb]
    exact hs1
  have hvars := (AdaptaVerif.Lemmas.VpscStatic.mergeDir_core st ci dst src d).1
  constructor
  · intro x hx
    obtain ⟨hlt, hb, hs1⟩ := hA x hx
    have hv' : (mergeDir st ci dst src d).vars[x]! = st.vars[x]! := by rw [hvars, shiftVars_keep d hne hlt hb]
    have hbx : (st.vars[x]!).block = dst := hb
    unfold St.pos posOf
    simp only
    rw [hv', hbx, hscale', hpn, hformula, hs1, hfd.1, ← hfd.2, ← hfs.2]
    field_simp
    ring
  · intro x hx
    obtain ⟨hlt, hb, hs1⟩ := hB x hx
    have hv' : (mergeDir st ci dst src d).vars[x]! =
        { st.vars[x]! with offset := (st.vars[x]!).offset + d, block := dst } := by
      rw [hvars, shiftVars_move d hlt hb]
    have hbx : (st.vars[x]!).block = src := hb
    unfold St.pos posOf
    simp only
    rw [hv']
    simp only
    rw [hbx, hscale', hpn, hformula, hs1, hfs.1, ← hfd.2, ← hfs.2]
    field_simp
    ring

end AdaptaVerif.Lemmas.VpscStaticMove
