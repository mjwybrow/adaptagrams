/-
C07 — bridge between the eight `generateSeparationConstraints` methods as GENERATED from
cola/libcola/compound_constraints.cpp (`Gen/CompoundK.lean`: iterator loops over `_subConstraintInfo`,
`cs.push_back(new vpsc::Constraint(…))`) and the generators of `Model/Compound.lean` that
`gen_sound_*` / `gen_complete_*` (Props/C07.lean) are about: first method by method, then against the model's
DISPATCHER `genSepsOne` (the function the correspondence harness compares with the real libcola): whenever the
dispatcher reports no error for compound constraint `cc`, the method generated from the C++ source — applied to the
members `cc` stands for — returns exactly the dispatcher's constraints, and all its obligations hold.
-/
import AdaptaVerif.Gen.CompoundK
import AdaptaVerif.Lemmas.GenLoopBridge
import AdaptaVerif.Props.C07
import AdaptaVerif.Lemmas.Util.List
namespace AdaptaVerif.Lemmas.CompoundBridge
open AdaptaVerif.Gen AdaptaVerif.Gen.CompoundK AdaptaVerif.Gen.KeysCompound AdaptaVerif.Model.Compound
open AdaptaVerif.Lemmas.GenLoopBridge

/-- the shape of four of the generated methods -/
theorem guarded_forEach_eq {α : Type} (dim d : Dim) (body : α → List Sep → List Sep) (g : α → Sep)
    (hb : ∀ x s, body x s = s ++ [g x]) (l : List α) (cs : List Sep) :
    (if decide (dim = d) = true then forEach body l cs else cs) = cs ++ (if dim = d then l.map g else []) := by
  by_cases h : dim = d
  · rw [if_pos (decide_eq_true h), if_pos h, funext fun x => funext (hb x), forEach_push_map]
  · rw [if_neg (by simpa using h), if_neg h, List.append_nil]

theorem boundary_eq (dim : Dim) (nvars : Nat) (cs : List Sep) (self : OffsetCC) :
    boundaryGen dim nvars cs () self =
      cs ++ (if dim = self.primaryDim then boundarySeps (self.var.getD default) self.offs else []) :=
  guarded_forEach_eq dim self.primaryDim _ _ (fun item s => by
    unfold boundaryGen_body1
    by_cases h : item.2 < 0 <;> simp [h]) self.offs cs

theorem alignment_eq (dim : Dim) (nvars : Nat) (cs : List Sep) (self : OffsetCC) :
    alignmentGen dim nvars cs () self =
      cs ++ (if dim = self.primaryDim then alignmentSeps (self.var.getD default) self.offs else []) :=
  guarded_forEach_eq dim self.primaryDim _ _ (fun _ _ => rfl) self.offs cs

theorem boundary_pre_true (dim : Dim) (nvars : Nat) (cs : List Sep) (self : OffsetCC)
    (hv : dim = self.primaryDim → self.var.isSome = true) (hidx : dim = self.primaryDim → ∀ p ∈ self.offs, p.1 < nvars) :
    boundaryGen_pre dim nvars cs () self = true := by
  unfold boundaryGen_pre
  by_cases h : dim = self.primaryDim
  · simp only [h, decide_true, if_true, hv h, Bool.true_and, Bool.and_true]
    apply forEachPre_all
    intro p hp s
    unfold boundaryGen_body1_pre
    have := hidx h p hp
    simp only [this, hv h, decide_true, Bool.true_and, Bool.and_true, Bool.and_self]
    split <;> simp
  · simp [h]

theorem alignment_pre_true (dim : Dim) (nvars : Nat) (cs : List Sep) (self : OffsetCC)
    (hv : dim = self.primaryDim → self.var.isSome = true) (hidx : dim = self.primaryDim → ∀ p ∈ self.offs, p.1 < nvars) :
    alignmentGen_pre dim nvars cs () self = true := by
  unfold alignmentGen_pre
  by_cases h : dim = self.primaryDim
  · simp only [h, decide_true, if_true, hv h, Bool.true_and, Bool.and_true]
    apply forEachPre_all
    intro p hp s
    unfold alignmentGen_body1_pre
    have := hidx h p hp
    simp [this, hv h]
  · simp [h]

/-- `VarIndexPair` of a separation between two shapes -/
def shapePair (l r : Nat) : VarIndexPairK := { lConstraint := none, rConstraint := none, varIndex := l, varIndex2 := r }
/-- … between two alignment constraints with guideline variables `vl`, `vr` (`none` = not generated yet) -/
def alignPair (vl vr : Option Nat) (l r : Nat) : VarIndexPairK :=
  { lConstraint := some ⟨vl⟩, rConstraint := some ⟨vr⟩, varIndex := l, varIndex2 := r }

theorem index_shapePair (l r : Nat) : indexL (shapePair l r) = l ∧ indexR (shapePair l r) = r := ⟨rfl, rfl⟩
theorem index_alignPair (vl vr l r : Nat) :
    indexL (alignPair (some vl) (some vr) l r) = vl ∧ indexR (alignPair (some vl) (some vr) l r) = vr := ⟨rfl, rfl⟩

theorem separation_eq (dim : Dim) (nvars : Nat) (cs : List Sep) (self : SepCC) :
    separationGen dim nvars cs () self =
      cs ++ (if dim = self.primaryDim then
        separationSeps (indexL (self.info.headD default)) (indexR (self.info.headD default)) self.gap self.equality else []) := by
  unfold separationGen separationSeps
  by_cases h : dim = self.primaryDim <;> simp [h]

theorem separation_pre_true (dim : Dim) (nvars : Nat) (cs : List Sep) (self : SepCC) (p : VarIndexPairK)
    (hinfo : self.info = [p]) (hp : indexL_pre p = true ∧ indexR_pre p = true)
    (hidx : dim = self.primaryDim → indexL p < nvars ∧ indexR p < nvars) :
    separationGen_pre dim nvars cs () self = true := by
  unfold separationGen_pre
  by_cases h : dim = self.primaryDim
  · have := hidx h
    simp [h, hinfo, this.1, this.2, hp.1, hp.2]
  · simp [h]

theorem orthogonal_eq (dim : Dim) (nvars : Nat) (cs : List Sep) (self : OrthCC) :
    orthogonalGen dim nvars cs () self =
      cs ++ (if dim = self.primaryDim then separationSeps self.left self.right 0 true else []) := by
  unfold orthogonalGen separationSeps
  by_cases h : dim = self.primaryDim <;> simp [h]

theorem orthogonal_pre_true (dim : Dim) (nvars : Nat) (cs : List Sep) (self : OrthCC)
    (hidx : dim = self.primaryDim → self.left < nvars ∧ self.right < nvars) :
    orthogonalGen_pre dim nvars cs () self = true := by
  unfold orthogonalGen_pre
  by_cases h : dim = self.primaryDim
  · have := hidx h
    simp [h, this.1, this.2]
  · simp [h]

/-- guideline variables of an `AlignmentPair` -/
def pairIds (p : AlignK × AlignK) : Nat × Nat := (p.1.var.getD default, p.2.var.getD default)

theorem multiSep_eq (dim : Dim) (nvars : Nat) (cs : List Sep) (self : MultiCC) :
    multiSepGen dim nvars cs () self =
      cs ++ (if dim = self.primaryDim then multiSeps (self.pairs.map pairIds) self.sep self.equality else []) := by
  unfold multiSeps
  rw [List.map_map]
  exact guarded_forEach_eq dim self.primaryDim _ _ (fun _ _ => rfl) self.pairs cs

theorem distribution_eq (dim : Dim) (nvars : Nat) (cs : List Sep) (self : MultiCC) :
    distributionGen dim nvars cs () self =
      cs ++ (if dim = self.primaryDim then multiSeps (self.pairs.map pairIds) self.sep true else []) := by
  unfold multiSeps
  rw [List.map_map]
  exact guarded_forEach_eq dim self.primaryDim _ _ (fun _ _ => rfl) self.pairs cs

theorem multiSep_pre_true (dim : Dim) (nvars : Nat) (cs : List Sep) (self : MultiCC)
    (hv : dim = self.primaryDim → ∀ p ∈ self.pairs, p.1.var.isSome = true ∧ p.2.var.isSome = true) :
    multiSepGen_pre dim nvars cs () self = true := by
  unfold multiSepGen_pre
  by_cases h : dim = self.primaryDim
  · simp only [h, decide_true, if_true, Bool.and_true]
    refine forEachPre_all _ _ _ _ fun p hp s => ?_
    have := hv h p hp
    unfold multiSepGen_body1_pre
    simp [this.1, this.2]
  · simp [h]

theorem distribution_pre_true (dim : Dim) (nvars : Nat) (cs : List Sep) (self : MultiCC)
    (hv : dim = self.primaryDim → ∀ p ∈ self.pairs, p.1.var.isSome = true ∧ p.2.var.isSome = true) :
    distributionGen_pre dim nvars cs () self = true := by
  unfold distributionGen_pre
  by_cases h : dim = self.primaryDim
  · simp only [h, decide_true, if_true, Bool.and_true]
    refine forEachPre_all _ _ _ _ fun p hp s => ?_
    have := hv h p hp
    unfold distributionGen_body1_pre
    simp [this.1, this.2]
  · simp [h]

/-! ### FixedRelative (loop with `continue`) -/

theorem fixedRel_body (dim : Dim) (nvars : Nat) (self : FixedRelCC) :
    fixedRelGen_body1 dim nvars self = fun item s => s ++ fixedRelSeps dim [item] := by
  funext item s
  unfold fixedRelGen_body1 fixedRelSeps
  by_cases h : item.dim = dim
  · simp [h]
  · have h' : dim ≠ item.dim := fun hn => h hn.symm
    simp [h, h']

theorem fixedRelSeps_flatMap (dim : Dim) (rel : List RelOff) :
    rel.flatMap (fun o => fixedRelSeps dim [o]) = fixedRelSeps dim rel := by
  induction rel with
  | nil => rfl
  | cons o os ih =>
    rw [List.flatMap_cons, ih]
    unfold fixedRelSeps
    by_cases h : o.dim = dim <;> simp [h]

theorem fixedRel_eq (dim : Dim) (nvars : Nat) (cs : List Sep) (self : FixedRelCC) :
    fixedRelGen dim nvars cs () self = cs ++ fixedRelSeps dim self.rel := by
  unfold fixedRelGen
  simp only []
  rw [fixedRel_body, forEach_append_flatMap, fixedRelSeps_flatMap]

theorem fixedRel_pre_true (dim : Dim) (nvars : Nat) (cs : List Sep) (self : FixedRelCC)
    (hidx : ∀ o ∈ self.rel, o.dim = dim → o.first < nvars ∧ o.second < nvars) :
    fixedRelGen_pre dim nvars cs () self = true := by
  unfold fixedRelGen_pre
  simp only [Bool.and_true]
  refine forEachPre_all _ _ _ _ fun o ho s => ?_
  unfold fixedRelGen_body1_pre
  by_cases h : o.dim = dim
  · have h' : ¬ dim ≠ o.dim := fun hn => hn h.symm
    have := hidx o ho h
    simp [h', this.1, this.2]
  · have h' : dim ≠ o.dim := fun hn => h hn.symm
    simp [h']

/-- the model's `(id, halfWidth, halfHeight)` triple of a `PageBoundaryShapeOffsets` -/
def shapeTriple (s : PageShapeK) : Nat × Rat × Rat := (s.varIndex, s.halfDim .x, s.halfDim .y)

theorem page_body (dim : Dim) (nvars : Nat) (self : PageCC) :
    pageBoundaryGen_body1 dim nvars self = fun item s => s ++ pageSeps dim (self.vl dim) (self.vr dim) [shapeTriple item] := by
  funext item s
  unfold pageBoundaryGen_body1 pageSeps shapeTriple
  cases hl : self.vl dim <;> cases hr : self.vr dim <;> cases dim <;> simp

theorem pageSeps_flatMap (dim : Dim) (vl vr : Option Nat) (shapes : List (Nat × Rat × Rat)) :
    shapes.flatMap (fun s => pageSeps dim vl vr [s]) = pageSeps dim vl vr shapes := by
  unfold pageSeps
  simp only [List.flatMap_cons, List.flatMap_nil, List.append_nil]

theorem pageBoundary_eq (dim : Dim) (nvars : Nat) (cs : List Sep) (self : PageCC) :
    pageBoundaryGen dim nvars cs () self = cs ++ pageSeps dim (self.vl dim) (self.vr dim) (self.shapes.map shapeTriple) := by
  unfold pageBoundaryGen
  simp only []
  rw [page_body, forEach_append_flatMap, ← pageSeps_flatMap, List.flatMap_map]

theorem pageBoundary_pre_true (dim : Dim) (nvars : Nat) (cs : List Sep) (self : PageCC)
    (hidx : ∀ s ∈ self.shapes, s.varIndex < nvars) :
    pageBoundaryGen_pre dim nvars cs () self = true := by
  unfold pageBoundaryGen_pre
  simp only [Bool.and_true]
  refine forEachPre_all _ _ _ _ fun o ho s => ?_
  unfold pageBoundaryGen_body1_pre
  have := hidx o ho
  cases hl : self.vl dim <;> cases hr : self.vr dim <;> simp [this]


/-- key record of `PageBoundaryShapeOffsets(id, halfW, halfH)` -/
def pageShapeOf (s : Nat × Rat × Rat) : PageShapeK := ⟨s.1, fun d => match d with | .x => s.2.1 | .y => s.2.2⟩

/-- the generated method applied to the members the model's compound constraint `cc` (number `idx`) stands for,
    after `generateVariables` left the auxiliary variable ids `aux` -/
def genOf (dim : Dim) (nvars : Nat) (aux : List Aux) (idx : Nat) : CC → List Sep
  | .boundary d _ offs => boundaryGen dim nvars [] () ⟨d, guideOf aux idx, offs⟩
  | .alignment d _ _ offs => alignmentGen dim nvars [] () ⟨d, guideOf aux idx, offs⟩
  | .separation d l r gap eq => separationGen dim nvars [] () ⟨d, [shapePair l r], gap, eq⟩
  | .sepAlign d l r gap eq => separationGen dim nvars [] () ⟨d, [alignPair (guideOf aux l) (guideOf aux r) l r], gap, eq⟩
  | .multiSep d sep eq pairs => multiSepGen dim nvars [] () ⟨d, pairs.map (fun p => (⟨guideOf aux p.1⟩, ⟨guideOf aux p.2⟩)), sep, eq⟩
  | .distribution d sep pairs => distributionGen dim nvars [] () ⟨d, pairs.map (fun p => (⟨guideOf aux p.1⟩, ⟨guideOf aux p.2⟩)), sep, true⟩
  | .fixedRel _ _ rel => fixedRelGen dim nvars [] () ⟨rel⟩
  | .pageBounds _ _ _ _ _ shapes =>
    pageBoundaryGen dim nvars [] () ⟨fun _ => (aux.getD idx {}).pageL, fun _ => (aux.getD idx {}).pageR, shapes.map pageShapeOf⟩

def genOfPre (dim : Dim) (nvars : Nat) (aux : List Aux) (idx : Nat) : CC → Bool
  | .boundary d _ offs => boundaryGen_pre dim nvars [] () ⟨d, guideOf aux idx, offs⟩
  | .alignment d _ _ offs => alignmentGen_pre dim nvars [] () ⟨d, guideOf aux idx, offs⟩
  | .separation d l r gap eq => separationGen_pre dim nvars [] () ⟨d, [shapePair l r], gap, eq⟩
  | .sepAlign d l r gap eq => separationGen_pre dim nvars [] () ⟨d, [alignPair (guideOf aux l) (guideOf aux r) l r], gap, eq⟩
  | .multiSep d sep eq pairs => multiSepGen_pre dim nvars [] () ⟨d, pairs.map (fun p => (⟨guideOf aux p.1⟩, ⟨guideOf aux p.2⟩)), sep, eq⟩
  | .distribution d sep pairs => distributionGen_pre dim nvars [] () ⟨d, pairs.map (fun p => (⟨guideOf aux p.1⟩, ⟨guideOf aux p.2⟩)), sep, true⟩
  | .fixedRel _ _ rel => fixedRelGen_pre dim nvars [] () ⟨rel⟩
  | .pageBounds _ _ _ _ _ shapes =>
    pageBoundaryGen_pre dim nvars [] () ⟨fun _ => (aux.getD idx {}).pageL, fun _ => (aux.getD idx {}).pageR, shapes.map pageShapeOf⟩

theorem shapeTriple_pageShapeOf (s : Nat × Rat × Rat) : shapeTriple (pageShapeOf s) = s := rfl

theorem offsetItems_ok {nvars : Nat} {dim d : Dim} {aux : List Aux} {idx : Nat} {offs : List (Nat × Rat)}
    {items : List Item} (F : Nat → List (Nat × Rat) → List Sep)
    (hF : ∀ v, offs.flatMap (fun p => F v [p]) = F v offs)
    (h : (if dim = d then (guideOf aux idx).map fun v => offs.map fun p => Item.ok [p.1] (F v [p])
          else some []) = some items)
    (hinv : ∀ it ∈ items, ∃ ids seps, it = .ok ids seps ∧ ∀ i ∈ ids, i < nvars) :
    (if dim = d then F ((guideOf aux idx).getD default) offs else []) = items.flatMap Item.seps ∧
    (dim = d → (guideOf aux idx).isSome = true) ∧ (dim = d → ∀ p ∈ offs, p.1 < nvars) := by
  by_cases hd : dim = d
  · rw [if_pos hd] at h ⊢
    obtain ⟨v, hg, rfl⟩ := Option.map_eq_some_iff.1 h
    refine ⟨?_, fun _ => by rw [hg]; rfl, fun _ p hp => ?_⟩
    · rw [hg, List.flatMap_map]
      exact (hF v).symm
    · obtain ⟨ids, sp, he, hids⟩ := hinv _ (List.mem_map.mpr ⟨p, hp, rfl⟩)
      cases he
      exact hids p.1 (by simp)
  · rw [if_neg hd] at h ⊢
    cases h
    exact ⟨rfl, fun h' => absurd h' hd, fun h' => absurd h' hd⟩

theorem pairItems_ok {dim d : Dim} {items : List Item} (aux : List Aux) (pairs : List (Nat × Nat)) (sep : Rat)
    (eq : Bool) (h : (if dim = d then some (pairItems aux pairs sep eq) else some []) = some items)
    (hb : ∀ it ∈ items, it ≠ .bad) :
    (if dim = d then
      multiSeps (List.map pairIds (pairs.map fun p => ((⟨guideOf aux p.1⟩ : AlignK), (⟨guideOf aux p.2⟩ : AlignK))))
        sep eq else []) = items.flatMap Item.seps ∧
    (dim = d → ∀ p ∈ pairs, (guideOf aux p.1).isSome = true ∧ (guideOf aux p.2).isSome = true) := by
  by_cases hd : dim = d
  · rw [if_pos hd] at h ⊢
    cases h
    have hall : ∀ p ∈ pairs, (guideOf aux p.1).isSome = true ∧ (guideOf aux p.2).isSome = true := by
      intro p hp
      have he := hb _ (List.mem_map.mpr ⟨p, hp, rfl⟩)
      cases h1 : guideOf aux p.1 <;> cases h2 : guideOf aux p.2 <;> simp [h1, h2] at he ⊢
    refine ⟨?_, fun _ => hall⟩
    unfold pairItems multiSeps
    rw [List.flatMap_map, List.map_map, List.map_map]
    rw [List.map_eq_flatMap]
    apply Util.flatMap_congr'
    intro p hp
    have := hall p hp
    cases h1 : guideOf aux p.1 <;> cases h2 : guideOf aux p.2 <;> simp [h1, h2, Item.seps, pairIds] at this ⊢
  · rw [if_neg hd] at h ⊢
    cases h
    exact ⟨rfl, fun h' => absurd h' hd⟩

theorem gen_dispatch (dim : Dim) (nvars : Nat) (aux : List Aux) (idx : Nat) (cc : CC) (seps : List Sep)
    (h : genSepsOne dim nvars aux idx cc = (seps, none)) :
    genOf dim nvars aux idx cc = seps ∧ genOfPre dim nvars aux idx cc = true := by
  unfold genSepsOne at h
  cases hit : itemsOf dim aux idx cc with
  | none => rw [hit] at h; simp at h
  | some items =>
    rw [hit] at h
    simp only at h
    obtain ⟨hres, hinv⟩ := (AdaptaVerif.Lemmas.Compound.runItems_eq_none_iff _ _ _ _ _).1 h
    have hbad : ∀ it ∈ items, it ≠ .bad := fun it hi hb => by
      obtain ⟨_, _, he, _⟩ := hinv it hi
      rw [hb] at he
      cases he
    simp only [List.nil_append] at hres
    subst hres
    cases cc with
    | boundary d pos offs =>
      simp only [genOf, genOfPre, boundary_eq, List.nil_append]
      obtain ⟨hs, hv, hidx⟩ := offsetItems_ok boundarySeps
        (fun _ => List.map_eq_flatMap.symm) hit hinv
      exact ⟨hs, boundary_pre_true _ _ _ _ hv hidx⟩
    | alignment d pos f offs =>
      simp only [genOf, genOfPre, alignment_eq, List.nil_append]
      obtain ⟨hs, hv, hidx⟩ := offsetItems_ok alignmentSeps
        (fun _ => List.map_eq_flatMap.symm) hit hinv
      exact ⟨hs, alignment_pre_true _ _ _ _ hv hidx⟩
    | separation d l r gap eq =>
      simp only [genOf, genOfPre, separation_eq, List.nil_append, List.headD_cons, (index_shapePair l r).1, (index_shapePair l r).2]
      simp only [itemsOf] at hit
      by_cases hd : dim = d
      · simp only [hd, if_true, Option.some.injEq] at hit ⊢
        subst hit
        refine ⟨by simp [Item.seps], ?_⟩
        obtain ⟨ids, sp, he, hids⟩ := hinv (.ok [l, r] (separationSeps l r gap eq)) (by simp)
        cases he
        apply separation_pre_true _ _ _ _ (shapePair l r) rfl ⟨rfl, rfl⟩
        intro _
        rw [(index_shapePair l r).1, (index_shapePair l r).2]
        exact ⟨hids l (by simp), hids r (by simp)⟩
      · simp only [hd, if_false, Option.some.injEq] at hit
        subst hit
        refine ⟨by simp [hd], ?_⟩
        apply separation_pre_true _ _ _ _ (shapePair l r) rfl ⟨rfl, rfl⟩
        intro h'; exact absurd h' hd
    | sepAlign d l r gap eq =>
      simp only [genOf, genOfPre, separation_eq, List.nil_append, List.headD_cons]
      simp only [itemsOf] at hit
      by_cases hd : dim = d
      · simp only [hd, if_true] at hit ⊢
        cases hl : guideOf aux l with
        | none => rw [hl] at hit; simp at hit
        | some vl =>
          cases hr : guideOf aux r with
          | none => rw [hl, hr] at hit; simp at hit
          | some vr =>
            rw [hl, hr] at hit
            simp only [Option.some.injEq] at hit
            subst hit
            rw [(index_alignPair vl vr l r).1, (index_alignPair vl vr l r).2]
            refine ⟨by simp [Item.seps], ?_⟩
            obtain ⟨ids, sp, he, hids⟩ := hinv (.ok [vl, vr] (separationSeps vl vr gap eq)) (by simp)
            cases he
            apply separation_pre_true _ _ _ _ (alignPair (some vl) (some vr) l r) rfl ⟨rfl, rfl⟩
            intro _
            rw [(index_alignPair vl vr l r).1, (index_alignPair vl vr l r).2]
            exact ⟨hids vl (by simp), hids vr (by simp)⟩
      · simp only [hd, if_false, Option.some.injEq] at hit
        subst hit
        refine ⟨by simp [hd], ?_⟩
        unfold separationGen_pre
        simp [hd]
    | multiSep d sep eq pairs =>
      simp only [genOf, genOfPre, multiSep_eq, List.nil_append]
      obtain ⟨hs, hall⟩ := pairItems_ok aux pairs sep eq hit hbad
      refine ⟨hs, multiSep_pre_true _ _ _ _ fun hd p hp => ?_⟩
      obtain ⟨q, hq, rfl⟩ := List.mem_map.mp hp
      exact hall hd q hq
    | distribution d sep pairs =>
      simp only [genOf, genOfPre, distribution_eq, List.nil_append]
      obtain ⟨hs, hall⟩ := pairItems_ok aux pairs sep true hit hbad
      refine ⟨hs, distribution_pre_true _ _ _ _ fun hd p hp => ?_⟩
      obtain ⟨q, hq, rfl⟩ := List.mem_map.mp hp
      exact hall hd q hq
    | fixedRel fp sv rel =>
      simp only [genOf, genOfPre, fixedRel_eq, List.nil_append]
      have hv := AdaptaVerif.Props.C07.itemsOf_fixedRel dim aux idx fp sv rel
      rw [hit] at hv
      simp only [Option.map_some, Option.some.injEq] at hv
      refine ⟨hv.symm, ?_⟩
      simp only [itemsOf, Option.some.injEq] at hit
      subst hit
      apply fixedRel_pre_true
      intro o ho hod
      obtain ⟨ids, sp, he, hids⟩ := hinv (.ok [o.first, o.second] (fixedRelSeps dim [o]))
        (List.mem_map.mpr ⟨o, List.mem_filter.mpr ⟨ho, by simp [hod]⟩, rfl⟩)
      cases he
      exact ⟨hids _ (by simp), hids _ (by simp)⟩
    | pageBounds a b c e w shapes =>
      simp only [genOf, genOfPre, pageBoundary_eq, List.nil_append, List.map_map]
      have hv := AdaptaVerif.Props.C07.itemsOf_pageBounds dim aux idx a b c e w shapes
      rw [hit] at hv
      simp only [Option.map_some, Option.some.injEq] at hv
      refine ⟨?_, ?_⟩
      · rw [hv]
        rw [show shapeTriple ∘ pageShapeOf = id from funext shapeTriple_pageShapeOf, List.map_id]
      · simp only [itemsOf, Option.some.injEq] at hit
        subst hit
        apply pageBoundary_pre_true
        intro s hs
        obtain ⟨q, hq, rfl⟩ := List.mem_map.mp hs
        obtain ⟨ids, sp, he, hids⟩ := hinv _ (List.mem_map.mpr ⟨q, hq, rfl⟩)
        cases he
        show q.1 < nvars
        exact hids q.1 (by simp)

end AdaptaVerif.Lemmas.CompoundBridge
