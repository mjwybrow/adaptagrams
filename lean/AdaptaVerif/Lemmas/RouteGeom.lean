/-
Meaning of `StrictlyInside` for axis-parallel rectangles (sanity anchor of the half-plane definition),
symmetry of `SegHits` in the two ends of the segment, and two facts about points of a segment
(`mid_strict`, `lerp_ne_of_y`).
-/
import AdaptaVerif.Lemmas.Route
namespace AdaptaVerif.Lemmas.Route
open AdaptaVerif.Model.Geometry (Pt area2)
open AdaptaVerif.Check.Route AdaptaVerif.Spec.Route

/-- the rectangle [x0,x1]×[y0,y1] in libavoid's vertex order (counter-clockwise) -/
def rectPoly (x0 y0 x1 y1 : Rat) : Poly := [⟨x1, y0⟩, ⟨x1, y1⟩, ⟨x0, y1⟩, ⟨x0, y0⟩]

theorem polyEdges_rect (x0 y0 x1 y1 : Rat) :
    polyEdges (rectPoly x0 y0 x1 y1) =
      [(⟨x1, y0⟩, ⟨x1, y1⟩), (⟨x1, y1⟩, ⟨x0, y1⟩), (⟨x0, y1⟩, ⟨x0, y0⟩), (⟨x0, y0⟩, ⟨x1, y0⟩)] := rfl

theorem rectPoly_length (x0 y0 x1 y1 : Rat) : 3 ≤ (rectPoly x0 y0 x1 y1).length := Nat.le_succ 3

theorem area2_rect (x0 y0 x1 y1 : Rat) (p : Pt) :
    area2 ⟨x1, y0⟩ ⟨x1, y1⟩ p = (x1 - p.x) * (y1 - y0) ∧ area2 ⟨x1, y1⟩ ⟨x0, y1⟩ p = (y1 - p.y) * (x1 - x0) ∧
    area2 ⟨x0, y1⟩ ⟨x0, y0⟩ p = (p.x - x0) * (y1 - y0) ∧ area2 ⟨x0, y0⟩ ⟨x1, y0⟩ p = (p.y - y0) * (x1 - x0) := by
  refine ⟨?_, ?_, ?_, ?_⟩ <;> simp only [area2] <;> ring

theorem insideOriented_rect (s x0 y0 x1 y1 : Rat) (p : Pt) :
    InsideOriented s 0 (rectPoly x0 y0 x1 y1) p ↔
      0 < s * ((x1 - p.x) * (y1 - y0)) ∧ 0 < s * ((y1 - p.y) * (x1 - x0)) ∧
      0 < s * ((p.x - x0) * (y1 - y0)) ∧ 0 < s * ((p.y - y0) * (x1 - x0)) := by
  obtain ⟨h1, h2, h3, h4⟩ := area2_rect x0 y0 x1 y1 p
  simp only [InsideOriented, polyEdges_rect, List.forall_mem_cons, List.not_mem_nil, false_imp_iff, implies_true,
    and_true, zero_mul, h1, h2, h3, h4]
  exact and_iff_right (rectPoly_length x0 y0 x1 y1)

theorem insideOriented_rect_iff (x0 y0 x1 y1 : Rat) (hx : x0 < x1) (hy : y0 < y1) (p : Pt) :
    InsideOriented 1 0 (rectPoly x0 y0 x1 y1) p ↔ x0 < p.x ∧ p.x < x1 ∧ y0 < p.y ∧ p.y < y1 := by
  simp only [insideOriented_rect, one_mul, mul_pos_iff_of_pos_right (sub_pos.2 hx),
    mul_pos_iff_of_pos_right (sub_pos.2 hy), sub_pos]
  exact ⟨fun ⟨a, b, c, d⟩ => ⟨c, a, d, b⟩, fun ⟨c, a, d, b⟩ => ⟨a, b, c, d⟩⟩

/-- a point is not both right of the right side and left of the left side -/
theorem not_insideOriented_neg_rect (x0 y0 x1 y1 : Rat) (hx : x0 < x1) (hy : y0 < y1) (p : Pt) :
    ¬ InsideOriented (-1) 0 (rectPoly x0 y0 x1 y1) p := by
  rw [insideOriented_rect]
  rintro ⟨h1, _, h3, _⟩
  linarith [mul_pos (sub_pos.2 hx) (sub_pos.2 hy)]

theorem strictlyInside_rect_iff (x0 y0 x1 y1 : Rat) (hx : x0 < x1) (hy : y0 < y1) (p : Pt) :
    StrictlyInside (rectPoly x0 y0 x1 y1) p ↔ x0 < p.x ∧ p.x < x1 ∧ y0 < p.y ∧ p.y < y1 := by
  rw [← insideOriented_rect_iff x0 y0 x1 y1 hx hy]
  exact or_iff_left (not_insideOriented_neg_rect x0 y0 x1 y1 hx hy p)

theorem segHitsOriented_neg_rect (x0 y0 x1 y1 : Rat) (hx : x0 < x1) (hy : y0 < y1) (p q : Pt) :
    segHitsOriented (-1) 0 (rectPoly x0 y0 x1 y1) p q = false := by
  rw [← Bool.not_eq_true, segHitsOriented_iff]
  rintro ⟨t, _, _, h⟩
  exact not_insideOriented_neg_rect x0 y0 x1 y1 hx hy _ h

theorem segHitsInterior_rect (x0 y0 x1 y1 : Rat) (hx : x0 < x1) (hy : y0 < y1) (p q : Pt) :
    segHitsInterior (rectPoly x0 y0 x1 y1) p q = segHitsOriented 1 0 (rectPoly x0 y0 x1 y1) p q := by
  show (_ || segHitsOriented (-1) 0 _ p q) = _
  rw [segHitsOriented_neg_rect x0 y0 x1 y1 hx hy, Bool.or_false]

theorem mid_strict {lo hi u v : Rat} (hu0 : lo ≤ u) (hu1 : u ≤ hi) (hv0 : lo ≤ v) (hv1 : v ≤ hi)
    (h : u ≠ v ∨ (lo < u ∧ u < hi)) : lo < u + 1 / 2 * (v - u) ∧ u + 1 / 2 * (v - u) < hi := by
  rcases h with h | ⟨h1, h2⟩
  · rcases lt_or_gt_of_ne h with h | h <;> constructor <;> linarith
  · constructor <;> linarith

theorem lerp_ne_of_y (p q v : Pt) (t : Rat) (h : p.y = q.y) (hv : v.y ≠ p.y) : lerp p q t ≠ v := by
  intro e
  apply hv
  rw [← e, lerp, h, sub_self, mul_zero, add_zero]

theorem lerp_symm (p q : Pt) (t : Rat) : lerp p q t = lerp q p (1 - t) := by
  unfold lerp
  congr 1 <;> ring

theorem segHits_symm (poly : Poly) (p q : Pt) (h : SegHits poly p q) : SegHits poly q p := by
  obtain ⟨t, h0, h1, hin⟩ := h
  exact ⟨1 - t, by linarith, by linarith, by rw [← lerp_symm]; exact hin⟩

theorem unblocked_symm (shapes : List Poly) (excl : List Nat) (p q : Pt)
    (h : Unblocked shapes excl p q) : Unblocked shapes excl q p :=
  fun i hi hne hh => h i hi hne (segHits_symm _ _ _ hh)

end AdaptaVerif.Lemmas.Route
