/-
`Block::split` (model: `St.split`, built on the marking DFS `populateSplit`) preserves the full
block invariant: the two new blocks are exactly the two components of the active tree minus the
removed edge.  In three steps: one marking pass moves the component of its root (`PSpec`,
`PSpec.component`); hence where the two passes put every variable (`SplitClass`, `split_classify` —
this is also what the member lists and heaps of the static solver need); hence the invariant
(`InvC.split`).  `split_eq` names the two passes of `St.split` once.
-/
import AdaptaVerif.Lemmas.VpscMerge
import AdaptaVerif.Lemmas.Util.Fold
import AdaptaVerif.Lemmas.Util.Array
namespace AdaptaVerif.Lemmas.VpscSplit
open AdaptaVerif.Model.Vpsc
open AdaptaVerif.Lemmas.VpscGraph AdaptaVerif.Lemmas.VpscHistory
open AdaptaVerif.Lemmas.VpscInv AdaptaVerif.Lemmas.VpscMerge
open AdaptaVerif.Lemmas.VpscTraverse (farEnd nearEnd)
open Relation

/-- `b` arises from `a` by moving some variables of block `old` to block `nb`; nothing else changes -/
structure Mono (old nb : Nat) (a b : Array Var) : Prop where
  size : b.size = a.size
  offs : ∀ i : Nat, (b[i]!).offset = (a[i]!).offset
  ins : ∀ i : Nat, (b[i]!).ins = (a[i]!).ins
  outs : ∀ i : Nat, (b[i]!).outs = (a[i]!).outs
  blkc : ∀ i : Nat, blk b i = blk a i ∨ (blk a i = old ∧ blk b i = nb)

theorem Mono.refl (old nb : Nat) (a : Array Var) : Mono old nb a a :=
  ⟨rfl, fun _ => rfl, fun _ => rfl, fun _ => rfl, fun _ => Or.inl rfl⟩

theorem Mono.trans {old nb : Nat} (hnb : nb ≠ old) {a b c : Array Var}
    (h1 : Mono old nb a b) (h2 : Mono old nb b c) : Mono old nb a c := by
  refine ⟨h2.size.trans h1.size, fun i => (h2.offs i).trans (h1.offs i),
    fun i => (h2.ins i).trans (h1.ins i), fun i => (h2.outs i).trans (h1.outs i), fun i => ?_⟩
  rcases h1.blkc i with e1 | ⟨e1, e1'⟩ <;> rcases h2.blkc i with e2 | ⟨e2, e2'⟩
  · exact Or.inl (e2.trans e1)
  · exact Or.inr ⟨e1 ▸ e2, e2'⟩
  · exact Or.inr ⟨e1, e2.trans e1'⟩
  · exact absurd (e1'.symm.trans e2) hnb

theorem Mono.stay_eq {old nb : Nat} {a b : Array Var} (h : Mono old nb a b) {y : Nat}
    (hy : blk a y ≠ old) : blk b y = blk a y := by
  rcases h.blkc y with e | ⟨e, _⟩
  · exact e
  · exact absurd e hy

theorem Mono.stay {old nb : Nat} {a b : Array Var} (h : Mono old nb a b) {y : Nat}
    (hy : blk a y ≠ old) : blk b y ≠ old := by
  rw [h.stay_eq hy]
  exact hy

theorem Mono.stay_nb {old nb : Nat} (hnb : nb ≠ old) {a b : Array Var} (h : Mono old nb a b) {y : Nat}
    (hy : blk a y = nb) : blk b y = nb := by
  rcases h.blkc y with e | ⟨e, _⟩
  · rw [e]; exact hy
  · exact absurd (hy.symm.trans e) hnb

theorem Mono.still_old {old nb : Nat} {a b : Array Var} (h : Mono old nb a b) {y : Nat}
    (hy : blk a y = old) (hn : blk b y ≠ nb) : blk b y = old := by
  rcases h.blkc y with e | ⟨_, e⟩
  · rw [e]; exact hy
  · exact absurd e hn

theorem Mono.of_onlyBlock {old nb : Nat} {a b : Array Var} (h : OnlyBlock nb a b)
    (hb : ∀ i : Nat, blk b i = blk a i ∨ (blk a i = old ∧ blk b i = nb)) : Mono old nb a b :=
  ⟨h.1, fun i => (h.fields i).1, fun i => (h.fields i).2.2.1, fun i => (h.fields i).2.2.2, hb⟩

theorem mono_setBlock (old nb : Nat) (vars : Array Var) (v : Nat) (hb : blk vars v = old) :
    Mono old nb vars (vars.set! v { vars[v]! with block := nb }) := by
  refine Mono.of_onlyBlock (onlyBlock_set nb vars v) fun i => ?_
  unfold VpscInv.blk
  rw [Util.get!_set!]; split
  · rename_i h
    obtain ⟨rfl, _⟩ := h
    exact Or.inr ⟨hb, rfl⟩
  · exact Or.inl rfl

theorem blk_setBlock (nb : Nat) (vars : Array Var) (v : Nat) (hv : v < vars.size) :
    blk (vars.set! v { vars[v]! with block := nb }) v = nb := by
  unfold VpscInv.blk
  rw [Util.get!_set!]
  simp [hv]

/-- what a call of `populateSplit` at `v`, entered from `u`, has achieved (its `ok` being `true`) when
    the darts `todo` of `v` are still to be tried; `todo = []` when it returns -/
structure PSpec (cons : Array Con) (old nb : Nat) (vars vars' : Array Var) (v : Nat) (u : Option Nat)
    (todo : List (Nat × Bool)) : Prop where
  mono : Mono old nb vars vars'
  root : blk vars' v = nb
  /-- closed: no active edge leads from a variable moved by this call back into `old`, except from `v`
      to the vertex `u` it was entered from, or along a dart of `v` not yet tried -/
  clos : ∀ i : Nat, blk vars i = old → blk vars' i = nb → ∀ j y : Nat, AE cons j i y →
    blk vars' y ≠ old ∨ (i = v ∧ (u = some y ∨ ∃ fwd, (j, fwd) ∈ todo ∧ farEnd fwd cons[j]! = y))
  /-- sound: only variables connected to `v` are moved -/
  snd : ∀ i : Nat, blk vars i = old → blk vars' i = nb → Reach cons v i

/-- the loop of a call rooted at `v` works the list `todo` off; `ih` is the specification of the
    recursive calls -/
theorem markLoop (cons : Array Con) (old nb : Nat) (hnb : nb ≠ old) (fuel : Nat)
    (ih : ∀ (vars : Array Var) (mem : Array Nat) (v : Nat) (u : Option Nat),
      LinkOK cons vars → v < vars.size → blk vars v = old →
      (populateSplit cons old nb fuel vars mem v u).2.2 = true →
      PSpec cons old nb vars (populateSplit cons old nb fuel vars mem v u).1 v u [])
    (vars0 : Array Var) (hlk : LinkOK cons vars0) (v : Nat) (u : Option Nat) :
    ∀ (todo : List (Nat × Bool)), (∀ d ∈ todo, d ∈ darts vars0[v]!) →
    ∀ x : Array Var × Array Nat × Bool,
      (todo.foldl (pStep cons old nb fuel u v) x).2.2 = true → PSpec cons old nb vars0 x.1 v u todo →
      PSpec cons old nb vars0 (todo.foldl (pStep cons old nb fuel u v) x).1 v u [] := by
  intro todo
  induction todo with
  | nil => intro _ x _ g; exact g
  | cons d todo iht =>
    intro hd x hok g
    rw [List.foldl_cons] at hok ⊢
    refine iht (fun e he => hd e (List.mem_cons_of_mem _ he)) _ hok ?_
    have hok1 := Util.foldl_ok (fun x : Array Var × Array Nat × Bool => x.2.2) _ pStep_ok todo _ hok
    unfold pStep at hok1 ⊢
    by_cases hg : (x.1[farEnd d.2 cons[d.1]!]!.block == old && cons[d.1]!.active &&
        u != some (farEnd d.2 cons[d.1]!)) = true
    · -- the far end of `d` is still in `old`: a recursive call moves what hangs on it
      rw [if_pos hg] at hok1 ⊢
      simp only [Bool.and_eq_true, beq_iff_eq, bne_iff_ne, ne_eq] at hg hok1
      obtain ⟨⟨hbo, hact⟩, _⟩ := hg
      obtain ⟨hlt, hnear⟩ := (mem_darts hlk).1 (hd d List.mem_cons_self)
      have hae : AE cons d.1 v (farEnd d.2 cons[d.1]!) := hnear ▸ ae_near_far hlt hact d.2
      have sub := ih x.1 x.2.1 (farEnd d.2 cons[d.1]!) (some v) (hlk.congr g.mono.outs g.mono.ins)
        (by rw [g.mono.size]; exact far_lt hlk hlt d.2) hbo hok1.2
      have hv2 := sub.mono.stay_nb hnb g.root
      refine ⟨Mono.trans hnb g.mono sub.mono, hv2, fun i h0 h2 j y hjy => ?_, fun i h0 h2 => ?_⟩
      · by_cases h1 : blk x.1 i = nb
        · rcases g.clos i h0 h1 j y hjy with hy | ⟨hi, hu | ⟨fwd, hm, hf⟩⟩
          · exact Or.inl (sub.mono.stay hy)
          · exact Or.inr ⟨hi, Or.inl hu⟩
          · rcases List.mem_cons.1 hm with rfl | hm
            · exact Or.inl (by rw [← hf, sub.root]; exact hnb)
            · exact Or.inr ⟨hi, Or.inr ⟨fwd, hm, hf⟩⟩
        · rcases sub.clos i (g.mono.still_old h0 h1) h2 j y hjy with hy | ⟨_, hy | ⟨_, hm, _⟩⟩
          · exact Or.inl hy
          · exact Or.inl (by rw [← Option.some.inj hy, hv2]; exact hnb)
          · exact absurd hm List.not_mem_nil
      · by_cases h1 : blk x.1 i = nb
        · exact g.snd i h0 h1
        · exact (ReflTransGen.single ⟨d.1, trivial, hae⟩).trans
            (sub.snd i (g.mono.still_old h0 h1) h2)
    · -- `d` is not followed: it leads to `u`, or its far end is not in `old` (any more)
      rw [if_neg hg]
      refine ⟨g.mono, g.root, fun i h0 h1 j y hjy => ?_, g.snd⟩
      rcases g.clos i h0 h1 j y hjy with hy | ⟨hi, hu | ⟨fwd, hm, hf⟩⟩
      · exact Or.inl hy
      · exact Or.inr ⟨hi, Or.inl hu⟩
      · rcases List.mem_cons.1 hm with rfl | hm
        · by_cases hu : u = some y
          · exact Or.inr ⟨hi, Or.inl hu⟩
          · refine Or.inl fun hbo => hg ?_
            simp only [Bool.and_eq_true, beq_iff_eq, bne_iff_ne, ne_eq]
            exact ⟨⟨hf ▸ hbo, hjy.2.1⟩, hf ▸ hu⟩
        · exact Or.inr ⟨hi, Or.inr ⟨fwd, hm, hf⟩⟩

theorem populateSplit_spec (cons : Array Con) (old nb : Nat) (hnb : nb ≠ old) :
    ∀ (fuel : Nat) (vars : Array Var) (mem : Array Nat) (v : Nat) (u : Option Nat),
      LinkOK cons vars → v < vars.size → blk vars v = old →
      (populateSplit cons old nb fuel vars mem v u).2.2 = true →
      PSpec cons old nb vars (populateSplit cons old nb fuel vars mem v u).1 v u [] := by
  intro fuel
  induction fuel with
  | zero => intro vars mem v u _ _ _ h; simp [populateSplit] at h
  | succ fuel ih =>
    intro vars mem v u hlk hv hb hok
    rw [populateSplit_succ] at hok ⊢
    refine markLoop cons old nb hnb fuel ih vars hlk v u _ (fun _ hd => hd) _ hok ?_
    -- the state after marking `v`: nothing else has moved, and every edge at `v` is a dart of `v`
    have honly : ∀ i, blk vars i = old → blk (vars.set! v { vars[v]! with block := nb }) i = nb →
        i = v := by
      intro i h0 h1
      by_contra hi
      unfold VpscInv.blk at h0 h1
      rw [Util.get!_set!, if_neg (fun hh => hi hh.1.symm), h0] at h1
      exact hnb h1.symm
    refine ⟨mono_setBlock old nb vars v hb, blk_setBlock nb vars v hv, fun i h0 h1 j y hjy => ?_,
      fun i h0 h1 => ?_⟩
    · obtain rfl := honly i h0 h1
      obtain ⟨fwd, hn, hf⟩ := ae_dir hjy
      exact Or.inr ⟨rfl, Or.inr ⟨fwd, (mem_darts hlk).2 ⟨hjy.1, hn⟩, hf⟩⟩
    · obtain rfl := honly i h0 h1
      exact ReflTransGen.refl

theorem PSpec.component {cons : Array Con} {old nb : Nat} {vars vars' : Array Var} {v : Nat}
    {u : Option Nat} (s : PSpec cons old nb vars vars' v u [])
    (hends : ∀ j x y, AE cons j x y → x < vars.size)
    (hfresh : ∀ x, x < vars.size → blk vars x ≠ nb)
    (hblk : ∀ j x y, AE cons j x y → blk vars x = blk vars y)
    (hnou : ∀ j y, u = some y → ¬ AE cons j v y) :
    (∀ j a b, AE cons j a b → blk vars' a = nb → blk vars' b = nb) ∧
    (∀ x, Reach cons v x → blk vars' x = nb) ∧
    (∀ x, x < vars.size → blk vars' x = nb → blk vars x = old ∧ Reach cons v x) := by
  have moved : ∀ x, x < vars.size → blk vars' x = nb → blk vars x = old := by
    intro x hx e
    rcases s.mono.blkc x with e' | ⟨e', _⟩
    · exact absurd (e'.symm.trans e) (hfresh x hx)
    · exact e'
  have closed : ∀ j a b, AE cons j a b → blk vars' a = nb → blk vars' b = nb := by
    intro j a b hj ha
    have ha0 := moved a (hends j a b hj) ha
    rcases s.clos a ha0 ha j b hj with hb | ⟨rfl, hb | ⟨_, hm, _⟩⟩
    · rcases s.mono.blkc b with e | ⟨_, e⟩
      · rw [e, ← hblk j a b hj, ha0] at hb
        exact absurd rfl hb
      · exact e
    · exact absurd hj (hnou j b hb)
    · exact absurd hm List.not_mem_nil
  refine ⟨closed, fun x hx => ?_, fun x hx e => ⟨moved x hx e, s.snd x (moved x hx e) e⟩⟩
  induction hx with
  | refl => exact s.root
  | tail _ hbc ih =>
    obtain ⟨j, _, hj⟩ := hbc
    exact closed j _ _ hj ih

theorem ae_deactivate {cons : Array Con} {ci : Nat} (hci : ci < cons.size) (j x y : Nat) :
    AE (cons.set! ci { cons[ci]! with active := false }) j x y ↔ j ≠ ci ∧ AE cons j x y := by
  have U := flagUpd_set cons ci { cons[ci]! with active := false } hci ⟨rfl, rfl, rfl, rfl⟩
  constructor
  · intro hj
    have hjc : j ≠ ci := by
      rintro rfl
      have := hj.2.1
      rw [U.self] at this
      simp at this
    exact ⟨hjc, (U.ae_congr (by rw [U.ne j hjc]) x y).1 hj⟩
  · rintro ⟨hjc, hj⟩
    exact (U.ae_congr (by rw [U.ne j hjc]) x y).2 hj

theorem reach_deactivate {cons : Array Con} {ci : Nat} (hci : ci < cons.size) {x y : Nat} :
    Reach (cons.set! ci { cons[ci]! with active := false }) x y ↔ ReachAvoid cons ci x y :=
  ⟨reflTransGen_adj_mono fun j a b _ hj => (ae_deactivate hci j a b).1 hj,
   reflTransGen_adj_mono fun j a b hp hj => ⟨trivial, (ae_deactivate hci j a b).2 ⟨hp, hj⟩⟩⟩

/-- where the two passes of `Block::split` put every variable: `ci`, with ends `l`, `r` in block `old`,
    is the removed constraint; `vars1` is the array after the first pass (left side into the new block
    `n`), `vars2` after the second (right side into `n + 1`) -/
structure SplitClass (vars : Array Var) (cons : Array Con) (ci old l r n : Nat)
    (vars1 vars2 : Array Var) : Prop where
  mono1 : Mono old n vars vars1
  mono2 : Mono old (n + 1) vars1 vars2
  old_lt : old < n
  out : ∀ x, blk vars x ≠ old → blk vars2 x = blk vars x
  left : ∀ x, ReachAvoid cons ci l x → blk vars2 x = n
  right : ∀ x, ReachAvoid cons ci r x → blk vars2 x = n + 1
  sides : ∀ x, x < vars.size → blk vars x = old → ReachAvoid cons ci l x ∨ ReachAvoid cons ci r x
  left_of : ∀ x, x < vars.size → blk vars2 x = n → ReachAvoid cons ci l x
  right_of : ∀ x, x < vars.size → blk vars2 x = n + 1 → ReachAvoid cons ci r x

theorem SplitClass.final {vars cons ci old l r n vars1 vars2}
    (c : SplitClass vars cons ci old l r n vars1 vars2) :
    ∀ x, x < vars.size →
      (blk vars x ≠ old ∧ blk vars2 x = blk vars x) ∨
      (blk vars x = old ∧ (blk vars2 x = n ∨ blk vars2 x = n + 1)) := by
  intro x hx
  by_cases hxo : blk vars x = old
  · exact Or.inr ⟨hxo, (c.sides x hx hxo).imp (c.left x) (c.right x)⟩
  · exact Or.inl ⟨hxo, c.out x hxo⟩

/-- the removed constraint is a bridge of the active forest, so the first pass (from its left end) marks
    the left side and does not reach the right end, and the second pass marks the right side; `P1`, `P2`
    name the results of the two passes -/
theorem split_classify (vars : Array Var) (cons : Array Con) (n : Nat) (ia : Array Nat)
    (h : InvC vars cons n ia) (ci : Nat) (hci : ci < cons.size) (hact : (cons[ci]!).active = true)
    (fuel : Nat) (m1 m2 : Array Nat) {P1 P2 : Array Var × Array Nat × Bool}
    (hP1 : populateSplit (cons.set! ci { cons[ci]! with active := false })
      (blk vars (cons[ci]!).l) n fuel vars m1 (cons[ci]!).l (some (cons[ci]!).r) = P1)
    (hP2 : populateSplit (cons.set! ci { cons[ci]! with active := false })
      (blk vars (cons[ci]!).l) (n + 1) fuel P1.1 m2 (cons[ci]!).r (some (cons[ci]!).l) = P2)
    (hok1 : P1.2.2 = true) (hok2 : P2.2.2 = true) :
    SplitClass vars cons ci (blk vars (cons[ci]!).l) (cons[ci]!).l (cons[ci]!).r n P1.1 P2.1 := by
  subst hP2
  subst hP1
  have hae := @ae_deactivate cons ci hci
  have hre := @reach_deactivate cons ci hci
  have hlk : LinkOK (cons.set! ci { cons[ci]! with active := false }) vars :=
    ((flagUpd_set cons ci { cons[ci]! with active := false } hci ⟨rfl, rfl, rfl, rfl⟩).link h.link
      (fun _ => ⟨rfl, rfl⟩)).toLinkOK
  generalize cons.set! ci { cons[ci]! with active := false } = cons1 at *
  have hl : (cons[ci]!).l < vars.size := h.l_lt ci hci
  have hr : (cons[ci]!).r < vars.size := h.r_lt ci hci
  have hbr : blk vars (cons[ci]!).r = blk vars (cons[ci]!).l := (h.tight ci hci hact).1.symm
  have hbridge := h.bridge ci hci hact
  have holdlt : blk vars (cons[ci]!).l < n := h.fresh _ hl
  have hsides : ∀ x, x < vars.size → blk vars x = blk vars (cons[ci]!).l →
      ReachAvoid cons ci (cons[ci]!).l x ∨ ReachAvoid cons ci (cons[ci]!).r x := fun x hx hxo =>
    (side_cases h ci hci hact x hx (hxo.trans hbr.symm)).symm.imp And.left And.left
  generalize (cons[ci]!).l = l at *
  generalize (cons[ci]!).r = r at *
  generalize hold : blk vars l = old at *
  generalize hv1 : (populateSplit cons1 old n fuel vars m1 l (some r)).1 = vars1 at *
  generalize hv2 : (populateSplit cons1 old (n + 1) fuel vars1 m2 r (some l)).1 = vars2 at *
  have hends : ∀ j x y, AE cons1 j x y → x < vars.size := by
    intro j x y hj
    obtain ⟨_, h1, _, h3⟩ := (hae j x y).1 hj
    rcases h3 with ⟨rfl, rfl⟩ | ⟨rfl, rfl⟩
    · exact h.l_lt j h1
    · exact h.r_lt j h1
  have hblk0 : ∀ j x y, AE cons1 j x y → blk vars x = blk vars y :=
    fun j x y hj => h.ae_blk ((hae j x y).1 hj).2
  have hnolr : ∀ j, ¬ AE cons1 j l r := fun j hj =>
    hbridge (ReflTransGen.single ⟨j, (hae j l r).1 hj⟩)
  have s1 : PSpec cons1 old n vars vars1 l (some r) [] := by
    have := populateSplit_spec cons1 old n (by omega) fuel vars m1 l (some r) hlk hl hold hok1
    rwa [hv1] at this
  obtain ⟨closed1, reach1, conv1⟩ := s1.component hends
    (fun x hx => Nat.ne_of_lt (h.fresh x hx)) hblk0
    (fun j y hy => by
      have : y = r := by simpa using hy.symm
      subst this
      exact hnolr j)
  have hr1 : blk vars1 r = old := by
    rcases s1.mono.blkc r with e | ⟨_, e⟩
    · rw [e]; exact hbr
    · exact absurd (hre.1 (conv1 r hr e).2) hbridge
  -- after the first pass the edges still stay inside blocks: it marked whole components
  have hblk1 : ∀ j x y, AE cons1 j x y → blk vars1 x = blk vars1 y := by
    intro j x y hj
    by_cases hx : blk vars1 x = n
    · rw [hx, closed1 j x y hj hx]
    · have hy : blk vars1 y ≠ n := fun hy => hx (closed1 j y x hj.symm hy)
      rcases s1.mono.blkc x with ex | ⟨_, ex⟩
      · rcases s1.mono.blkc y with ey | ⟨_, ey⟩
        · rw [ex, ey]; exact hblk0 j x y hj
        · exact absurd ey hy
      · exact absurd ex hx
  have s2 : PSpec cons1 old (n + 1) vars1 vars2 r (some l) [] := by
    have := populateSplit_spec cons1 old (n + 1) (by omega) fuel vars1 m2 r (some l)
      (hlk.congr s1.mono.outs s1.mono.ins) (by rw [s1.mono.size]; exact hr) hr1 hok2
    rwa [hv2] at this
  obtain ⟨_, reach2, conv2⟩ := s2.component
    (fun j x y hj => by rw [s1.mono.size]; exact hends j x y hj)
    (fun x hx => by
      rw [s1.mono.size] at hx
      rcases s1.mono.blkc x with e | ⟨_, e⟩
      · rw [e]; exact Nat.ne_of_lt (Nat.lt_succ_of_lt (h.fresh x hx))
      · rw [e]; exact Nat.ne_of_lt (Nat.lt_succ_self n))
    hblk1
    (fun j y hy => by
      have : y = l := by simpa using hy.symm
      subst this
      exact fun hj => hnolr j hj.symm)
  have hn_back : ∀ x, blk vars2 x = n → blk vars1 x = n := by
    intro x e
    rcases s2.mono.blkc x with e' | ⟨_, e'⟩
    · rw [← e']; exact e
    · omega
  refine ⟨s1.mono, s2.mono, holdlt, fun x hx => ?_, fun x hx => ?_, fun x hx => reach2 x (hre.2 hx),
    hsides, fun x hx e => hre.1 (conv1 x hx (hn_back x e)).2,
    fun x hx e => hre.1 (conv2 x (by rw [s1.mono.size]; exact hx) e).2⟩
  · have e1 := s1.mono.stay_eq hx
    exact (s2.mono.stay_eq (by rw [e1]; exact hx)).trans e1
  · have := reach1 x (hre.2 hx)
    rw [s2.mono.stay_eq (by rw [this]; omega), this]

theorem InvC.split {vars : Array Var} {cons : Array Con} {n : Nat} {ia : Array Nat}
    (h : InvC vars cons n ia) {ci : Nat} (hci : ci < cons.size) (hact : (cons[ci]!).active = true)
    {vars1 vars2 : Array Var}
    (c : SplitClass vars cons ci (blk vars (cons[ci]!).l) (cons[ci]!).l (cons[ci]!).r n vars1 vars2) :
    InvC vars2 (cons.set! ci { cons[ci]! with active := false }) (n + 2) (ia.push ci) := by
  have U := flagUpd_set cons ci { cons[ci]! with active := false } hci ⟨rfl, rfl, rfl, rfl⟩
  have hae := @ae_deactivate cons ci hci
  have hre := @reach_deactivate cons ci hci
  generalize cons.set! ci { cons[ci]! with active := false } = cons1 at *
  have hsize2 : vars2.size = vars.size := c.mono2.size.trans c.mono1.size
  have hactive : ∀ j : Nat, (cons1[j]!).active = true → j ≠ ci ∧ (cons[j]!).active = true := by
    intro j ha
    have hj : j ≠ ci := by
      rintro rfl
      rw [U.self] at ha
      simp at ha
    rw [U.ne j hj] at ha
    exact ⟨hj, ha⟩
  have hold_lt := c.old_lt
  refine
    { U.link h.link (fun u =>
        ⟨(c.mono2.outs u).trans (c.mono1.outs u), (c.mono2.ins u).trans (c.mono1.ins u)⟩) with
      flags := U.flags h rfl, tight := ?tight, bridge := ?bridge, conn := ?conn,
      fresh := ?fresh, cover := ?cover, inact_lt := ?inact_lt }
  case tight =>
    intro j hj ha
    rw [U.size] at hj
    obtain ⟨hjc, ha0⟩ := hactive j ha
    rw [U.ne j hjc]
    obtain ⟨t1, t2⟩ := h.tight j hj ha0
    refine ⟨?_, by
      unfold offs at t2 ⊢
      rw [c.mono2.offs, c.mono1.offs, c.mono2.offs, c.mono1.offs]; exact t2⟩
    -- the two ends of `j` are on the same side of `ci`
    have hstep : ∀ s, ReachAvoid cons ci s (cons[j]!).l → ReachAvoid cons ci s (cons[j]!).r :=
      fun s hs => hs.tail ⟨j, hjc, hj, ha0, Or.inl ⟨rfl, rfl⟩⟩
    by_cases hxo : blk vars (cons[j]!).l = blk vars (cons[ci]!).l
    · rcases c.sides _ (h.l_lt j hj) hxo with hs | hs
      · rw [c.left _ hs, c.left _ (hstep _ hs)]
      · rw [c.right _ hs, c.right _ (hstep _ hs)]
    · rw [c.out _ hxo, c.out _ (by rw [← t1]; exact hxo)]
      exact t1
  case bridge =>
    intro j hj ha hreach
    rw [U.size] at hj
    obtain ⟨hjc, ha0⟩ := hactive j ha
    rw [U.ne j hjc] at hreach
    exact h.bridge j hj ha0
      (reflTransGen_adj_mono (fun k a b hp hk => ⟨hp, ((hae k a b).1 hk).2⟩) hreach)
  case conn =>
    intro x y hx hy hxy
    rw [hsize2] at hx hy
    apply hre.2
    rcases c.final x hx with ⟨a1, a2⟩ | ⟨a1, a2⟩
    · rcases c.final y hy with ⟨b1, b2⟩ | ⟨_, b2⟩
      · -- both outside the split block: the old connection cannot have used `ci`
        rcases VpscWalk.reach_cut (k := ci) ⟨hci, hact, Or.inl ⟨rfl, rfl⟩⟩
          (h.conn x y hx hy (by rw [← a2, ← b2]; exact hxy)) with h1 | ⟨h1, _⟩ | ⟨h1, _⟩
        · exact VpscWalk.avoid_snd h1
        · exact absurd (h.reach_blk h1) a1
        · exact absurd ((h.reach_blk h1).trans (h.tight ci hci hact).1.symm) a1
      · have := h.fresh x hx
        omega
    · have hy0 : blk vars y = blk vars (cons[ci]!).l := by
        rcases c.final y hy with ⟨_, b2⟩ | ⟨b1, _⟩
        · have := h.fresh y hy
          omega
        · exact b1
      rcases a2 with a2 | a2
      · exact (c.left_of x hx a2).symm.trans (c.left_of y hy (by rw [← hxy]; exact a2))
      · exact (c.right_of x hx a2).symm.trans (c.right_of y hy (by rw [← hxy]; exact a2))
  case fresh =>
    intro x hx
    rw [hsize2] at hx
    have := h.fresh x hx
    rcases c.final x hx with ⟨_, a2⟩ | ⟨_, a2 | a2⟩ <;> omega
  case cover =>
    intro j hj
    rw [U.size] at hj
    by_cases hjc : j = ci
    · exact Or.inr (Or.inr (Array.mem_push.2 (Or.inr hjc)))
    · rw [U.ne j hjc]
      exact (h.cover j hj).imp_right (Or.imp_right fun c1 => Array.mem_push.2 (Or.inl c1))
  case inact_lt =>
    intro j hj
    rw [U.size]
    rcases Array.mem_push.1 hj with h1 | rfl
    · exact h.inact_lt j h1
    · exact hci

theorem split_core (vars : Array Var) (cons : Array Con) (n : Nat) (ia : Array Nat)
    (h : InvC vars cons n ia) (ci : Nat) (hci : ci < cons.size) (hact : (cons[ci]!).active = true)
    (fuel : Nat) (m1 m2 : Array Nat)
    (hok1 : (populateSplit (cons.set! ci { cons[ci]! with active := false })
      (blk vars (cons[ci]!).l) n fuel vars m1 (cons[ci]!).l (some (cons[ci]!).r)).2.2 = true)
    (hok2 : (populateSplit (cons.set! ci { cons[ci]! with active := false })
      (blk vars (cons[ci]!).l) (n + 1) fuel
      (populateSplit (cons.set! ci { cons[ci]! with active := false })
        (blk vars (cons[ci]!).l) n fuel vars m1 (cons[ci]!).l (some (cons[ci]!).r)).1
      m2 (cons[ci]!).r (some (cons[ci]!).l)).2.2 = true) :
    InvC
      (populateSplit (cons.set! ci { cons[ci]! with active := false })
        (blk vars (cons[ci]!).l) (n + 1) fuel
        (populateSplit (cons.set! ci { cons[ci]! with active := false })
          (blk vars (cons[ci]!).l) n fuel vars m1 (cons[ci]!).l (some (cons[ci]!).r)).1
        m2 (cons[ci]!).r (some (cons[ci]!).l)).1
      (cons.set! ci { cons[ci]! with active := false }) (n + 2) (ia.push ci) ∧
    (∀ x, ReachAvoid cons ci (cons[ci]!).l x →
      blk (populateSplit (cons.set! ci { cons[ci]! with active := false })
        (blk vars (cons[ci]!).l) (n + 1) fuel
        (populateSplit (cons.set! ci { cons[ci]! with active := false })
          (blk vars (cons[ci]!).l) n fuel vars m1 (cons[ci]!).l (some (cons[ci]!).r)).1
        m2 (cons[ci]!).r (some (cons[ci]!).l)).1 x = n) ∧
    (∀ x, ReachAvoid cons ci (cons[ci]!).r x →
      blk (populateSplit (cons.set! ci { cons[ci]! with active := false })
        (blk vars (cons[ci]!).l) (n + 1) fuel
        (populateSplit (cons.set! ci { cons[ci]! with active := false })
          (blk vars (cons[ci]!).l) n fuel vars m1 (cons[ci]!).l (some (cons[ci]!).r)).1
        m2 (cons[ci]!).r (some (cons[ci]!).l)).1 x = n + 1) := by
  have c := split_classify vars cons n ia h ci hci hact fuel m1 m2 rfl rfl hok1 hok2
  exact ⟨InvC.split h hci hact c, c.left, c.right⟩

/-- the first marking pass of `Block::split`: the left side goes to the new block `blocks.size` -/
def splitPassL (st : St) (old ci : Nat) : Array Var × Array Nat × Bool :=
  populateSplit (st.cons.set! ci { st.cons[ci]! with active := false }) old st.blocks.size
    (st.vars.size + 1) st.vars #[] (st.cons[ci]!).l (some (st.cons[ci]!).r)

/-- the second pass: the right side goes to `blocks.size + 1` -/
def splitPassR (st : St) (old ci : Nat) : Array Var × Array Nat × Bool :=
  populateSplit (st.cons.set! ci { st.cons[ci]! with active := false }) old (st.blocks.size + 1)
    (st.vars.size + 1) (splitPassL st old ci).1 #[] (st.cons[ci]!).r (some (st.cons[ci]!).l)

theorem split_fst_vars (st : St) (old ci : Nat) :
    (st.split old ci).1.vars = (splitPassR st old ci).1 := by
  unfold St.split splitPassR splitPassL
  simp only [St.refreshBlock]

theorem split_fst_cons (st : St) (old ci : Nat) :
    (st.split old ci).1.cons = st.cons.set! ci { st.cons[ci]! with active := false } := by
  unfold St.split
  simp only [St.refreshBlock]

theorem split_fst_blocks_size (st : St) (old ci : Nat) :
    (st.split old ci).1.blocks.size = st.blocks.size + 2 := by
  unfold St.split
  simp [St.refreshBlock]

theorem split_fst_fuelOut (st : St) (old ci : Nat) :
    (st.split old ci).1.fuelOut =
      (st.fuelOut || !(splitPassL st old ci).2.2 || !(splitPassR st old ci).2.2) := by
  unfold St.split splitPassR splitPassL
  simp only [St.refreshBlock]

theorem split_snd (st : St) (old ci : Nat) :
    (st.split old ci).2 = (st.blocks.size, st.blocks.size + 1) := by
  unfold St.split
  simp only

theorem split_frame (st : St) (old ci : Nat) :
    (st.split old ci).1.inactive = st.inactive ∧
    ((st.split old ci).1.fuelOut = false → st.fuelOut = false) ∧
    (st.split old ci).1.order = st.order := by
  unfold St.split
  simp only [St.refreshBlock]
  refine ⟨trivial, ?_, trivial⟩
  intro hf
  simp only [Bool.or_eq_false_iff] at hf
  exact hf.1.1

theorem splitOn_fields (st : St) (old ci : Nat) :
    (st.splitOn old ci).1.vars = (st.split old ci).1.vars ∧
    (st.splitOn old ci).1.cons = (st.split old ci).1.cons ∧
    (st.splitOn old ci).1.blocks.size = (st.split old ci).1.blocks.size ∧
    (st.splitOn old ci).1.inactive = (st.split old ci).1.inactive.push ci ∧
    (st.splitOn old ci).1.fuelOut = (st.split old ci).1.fuelOut ∧
    (st.splitOn old ci).2 = (st.split old ci).2 := by
  simp [St.splitOn, St.markDeleted, St.pushInactive]

theorem refreshBlock_block_vars (st : St) (d b : Nat) :
    ((st.refreshBlock d).blocks[b]!).vars = (st.blocks[b]!).vars := by
  unfold St.refreshBlock
  simp only
  rw [Util.get!_set!]
  split
  · rename_i h; rw [h.1]
  · rfl

theorem split_block_vars (st : St) (old ci b : Nat) :
    ((st.split old ci).1.blocks[b]!).vars =
      if b < st.blocks.size then (st.blocks[b]!).vars
      else if b = st.blocks.size then (splitPassL st old ci).2.1
      else if b = st.blocks.size + 1 then (splitPassR st old ci).2.1
      else (default : Block).vars := by
  unfold St.split splitPassR splitPassL
  simp only
  rw [refreshBlock_block_vars, refreshBlock_block_vars]
  simp only
  generalize populateSplit _ old st.blocks.size _ st.vars _ _ _ = P1
  generalize populateSplit _ old (st.blocks.size + 1) _ P1.1 _ _ _ = P2
  by_cases h1 : b < st.blocks.size
  · rw [if_pos h1, Util.get!_push_lt _ _ _ (by simp; omega), Util.get!_push_lt _ _ _ h1]
  · rw [if_neg h1]
    by_cases h2 : b = st.blocks.size
    · rw [if_pos h2, h2, Util.get!_push_lt _ _ _ (by simp), Util.get!_push_eq]
    · rw [if_neg h2]
      by_cases h3 : b = st.blocks.size + 1
      · have e : b = (st.blocks.push { vars := P1.2.1 }).size := by simp; exact h3
        rw [if_pos h3, e, Util.get!_push_eq]
      · rw [if_neg h3, getElem!_neg _ b (by simp; omega)]

theorem split_eq (st : St) (old ci : Nat) : ∃ P1 P2 : Array Var × Array Nat × Bool,
    populateSplit (st.cons.set! ci { st.cons[ci]! with active := false }) old st.blocks.size
      (st.vars.size + 1) st.vars #[] (st.cons[ci]!).l (some (st.cons[ci]!).r) = P1 ∧
    populateSplit (st.cons.set! ci { st.cons[ci]! with active := false }) old (st.blocks.size + 1)
      (st.vars.size + 1) P1.1 #[] (st.cons[ci]!).r (some (st.cons[ci]!).l) = P2 ∧
    (st.split old ci).1.vars = P2.1 ∧
    (st.split old ci).1.cons = st.cons.set! ci { st.cons[ci]! with active := false } ∧
    (st.split old ci).1.blocks.size = st.blocks.size + 2 ∧
    (st.split old ci).1.fuelOut = (st.fuelOut || !P1.2.2 || !P2.2.2) ∧
    ∀ b : Nat, ((st.split old ci).1.blocks[b]!).vars =
      if b < st.blocks.size then (st.blocks[b]!).vars
      else if b = st.blocks.size then P1.2.1
      else if b = st.blocks.size + 1 then P2.2.1
      else (default : Block).vars :=
  -- the witnesses are written out: the unifier is slow to find them
  ⟨splitPassL st old ci, splitPassR st old ci, rfl, rfl, split_fst_vars st old ci,
    split_fst_cons st old ci, split_fst_blocks_size st old ci, split_fst_fuelOut st old ci,
    split_block_vars st old ci⟩

/-- the invariant holds once the split constraint is put back on the `inactive` list, as all
    callers do -/
theorem split_spec (st : St) (ci : Nat) (ia : Array Nat)
    (h : InvC st.vars st.cons st.blocks.size ia) (hci : ci < st.cons.size)
    (hact : (st.cons[ci]!).active = true)
    {q : St × Nat × Nat} (hq : st.split (blk st.vars (st.cons[ci]!).l) ci = q)
    (hfo : q.1.fuelOut = false) :
    InvC q.1.vars q.1.cons q.1.blocks.size (ia.push ci) ∧
    (∀ x, ReachAvoid st.cons ci (st.cons[ci]!).l x → blk q.1.vars x = q.2.1) ∧
    (∀ x, ReachAvoid st.cons ci (st.cons[ci]!).r x → blk q.1.vars x = q.2.2) ∧
    q.2.1 ≠ q.2.2 ∧ st.fuelOut = false := by
  subst hq
  obtain ⟨P1, P2, hP1, hP2, hv, hc, hb, hf, _⟩ := split_eq st (blk st.vars (st.cons[ci]!).l) ci
  rw [hf] at hfo
  simp only [Bool.or_eq_false_iff, Bool.not_eq_false'] at hfo
  have c := split_classify st.vars st.cons st.blocks.size ia h ci hci hact _ _ _ hP1 hP2
    hfo.1.2 hfo.2
  rw [hv, hc, hb, split_snd]
  exact ⟨InvC.split h hci hact c, c.left, c.right, by omega, hfo.1.1⟩

end AdaptaVerif.Lemmas.VpscSplit
