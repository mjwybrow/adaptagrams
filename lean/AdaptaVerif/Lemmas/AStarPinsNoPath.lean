/-
Lemmas for Props/C11Search about the A* search of Model/AStarPins.lean.
When the search cannot return a route (used by the C11 driver for searches that the harness reports as `sisolated`: no
graph is dumped for them):
* generic: `search` never pops a node outside a set of vertices that is closed under the examined edges and holds the
  PENDING nodes, whatever the fuel;
* `PGraph`: a search whose target lies outside such a set that contains the source returns no route, and every examined
  edge is an enabled entry of the edge list; the two no-route theorems of Props/C11Search (no enabled edge into the
  target, none out of the source) are instances.
The end-point list of the turn pruning holds exactly the points of the offered pins.
-/
import AdaptaVerif.Model.AStarPins
import AdaptaVerif.Lemmas.AStarSound
import AdaptaVerif.Lemmas.Util.InsertionSort
import AdaptaVerif.Lemmas.Util.List
namespace AdaptaVerif.Lemmas.AStarPinsNoPath
open AdaptaVerif.Model AdaptaVerif.Model.AStar AdaptaVerif.Model.AStarPins AdaptaVerif.Lemmas.AStarSound
open AdaptaVerif.Lemmas.Util (forall_mem_none forall_mem_some forall_mem_ite)

theorem search_confined (P : Problem) (C : Nat → Prop)
    (hs : ∀ pv v s, C v → some s ∈ P.succs pv v → C s.w) (ht : ¬ C P.tar)
    (fuel : Nat) (st : St) (hp : ∀ n ∈ st.pending, C n.v) (b : Node) (d : List Node) :
    search P fuel st ≠ .found b d := by
  intro h
  have := search_inv P (fun st => ∀ n ∈ st.pending, C n.v) (fun st b rest hp hx _ n hn => by
    have hmem := extractBest_mem _ _ _ _ hx
    rcases expand_pending_mem P st b rest n hn with h | ⟨s, t, hs', rfl⟩
    · exact hp n ((hmem n).2 (Or.inr h))
    · exact hs b.pv b.v s (hp b ((hmem b).2 (Or.inl rfl))) hs') fuel st hp
  rw [h] at this
  obtain ⟨st', rest, hp', hx, hbt, _⟩ := this
  exact ht (hbt ▸ hp' b ((extractBest_mem _ _ _ _ hx b).2 (Or.inl rfl)))

theorem route_none_of_confined (g : PGraph) (C : Nat → Prop)
    (hs : ∀ pv v s, C v → some s ∈ g.problem.succs pv v → C s.w) (h0 : C g.src) (ht : ¬ C g.tar) :
    g.route = none := by
  have hrun : ∀ b d, g.run ≠ .found b d := fun b d =>
    search_confined g.problem C hs ht _ _ (fun n hn => by
      unfold PGraph.initSt at hn
      cases hp : g.prevOfStart <;> rw [hp] at hn <;> rw [List.mem_singleton.1 hn] <;> exact h0) b d
  unfold PGraph.route
  cases hr : g.run with
  | found b d => exact absurd hr (hrun b d)
  | noPath => rfl
  | outOfFuel => rfl

theorem insertBy_isInsert (less : PEdge → PEdge → Bool) :
    Util.IsInsert (fun e a => less e a = true) (PGraph.insertBy less) :=
  ⟨fun _ => rfl, fun _ _ _ => rfl⟩

theorem mem_sortBy (less : PEdge → PEdge → Bool) (es : List PEdge) (x : PEdge) :
    x ∈ PGraph.sortBy less es ↔ x ∈ es :=
  ((insertBy_isInsert less).foldl_perm es).mem_iff

theorem edgeSucc_w (g : PGraph) (b : Graph) (cts : List (Nat × Nat × Rat)) (prev : Option Nat) (best : Nat)
    (e : PEdge) (s : Succ) (h : g.edgeSucc b cts prev best e = some s) : s.w = e.to := by
  unfold PGraph.edgeSucc at h
  extract_lets w atCostTarget hh c rest at h
  have hrest : ∀ s ∈ rest, s.w = w :=
    forall_mem_ite forall_mem_none (forall_mem_ite forall_mem_none
      (forall_mem_ite (forall_mem_some rfl) (forall_mem_some rfl)))
  exact forall_mem_ite forall_mem_none (forall_mem_ite (forall_mem_ite forall_mem_none hrest)
    (forall_mem_ite (forall_mem_ite forall_mem_none hrest) hrest)) s h

theorem succs_edge (g : PGraph) (b : Graph) (cts : List (Nat × Nat × Rat)) (prev : Option Nat) (best : Nat)
    (s : Succ) (h : some s ∈ g.succs b cts prev best) :
    ∃ e ∈ g.edges best, e.disabled = false ∧ e.to = s.w := by
  unfold PGraph.succs at h
  rw [List.mem_map] at h
  obtain ⟨e, he, hes⟩ := h
  have he' := (mem_sortBy _ _ e).1 he
  rw [List.mem_filter] at he'
  refine ⟨e, he'.1, by simpa using he'.2, (edgeSucc_w g b cts prev best e s hes).symm⟩

/-- `assignPinVisibilityTo` and `possiblePinPoints` apply the same test -/
theorem offeredPins_eq (s : Pins.State) (sh cls : Nat) : offeredPins s sh cls = Pins.freePins s sh cls := rfl

theorem mem_possiblePinPoints {s : Pins.State} {pos : Nat → Option Geometry.Pt} {sh cls : Nat} {q : Geometry.Pt} :
    q ∈ possiblePinPoints s pos sh cls ↔ ∃ p ∈ offeredPins s sh cls, pos p.id = some q := by
  rw [offeredPins_eq]; exact List.mem_filterMap

end AdaptaVerif.Lemmas.AStarPinsNoPath
