/-
C15 (A) — cluster boundaries that reference obstacle vertices
(`Avoid::ReferencingPolygon` keeps raw pointers into the referenced obstacles' polygons).

`RC s`: every reference of every cluster boundary names an obstacle that stays (allocated, no removal
queued).  A transaction only frees obstacles that have a queued removal, so the references survive it and
`St.routeClusters` finds nothing dangling.  Independent of the rest of the queue invariant: only "which
obstacles does `processActions` free" matters.
-/
import AdaptaVerif.Lemmas.LifecycleFault
namespace AdaptaVerif.Lemmas.Lifecycle
open AdaptaVerif.Model.Lifecycle

def RC (s : St) : Prop := ∀ k ∈ s.clusters, ∀ r ∈ k.refs, Stays s r

theorem dangling_nil {s : St} (h : RC s) : s.dangling = [] := by
  unfold St.dangling
  rw [List.flatMap_eq_nil_iff]
  intro k hk
  rw [List.filter_eq_nil_iff]
  intro r hr
  have := hasObst_iff.2 (h k (List.mem_filter.1 hk).1 r hr).1
  simp [this]

theorem rc_transfer {s t : St} (h : RC s) (hk : t.clusters = s.clusters)
    (hO : ∀ o ∈ oids s, o ∈ oids t)
    (ha : ∀ o, removed s.actions o = false → removed t.actions o = false) : RC t := by
  intro k hkm r hr
  rw [hk] at hkm
  exact (h k hkm r hr).imp (hO r) (ha r)

theorem rc_processTransaction {s : St} (h : RC s) : RC s.processTransaction := by
  intro k hk r hr
  rw [cl_processTransaction] at hk
  exact (h k hk r hr).processTransaction

theorem refFaults_processTransaction {s : St} (h : RC s) : s.processTransaction.refFaults = s.refFaults := by
  have hd := dangling_nil (rc_processTransaction h)
  unfold St.processTransaction at hd ⊢
  split
  · rfl
  · rename_i he
    rw [if_neg he] at hd
    have hd' : (reroute s.processActions).dangling = [] := hd
    show (reroute s.processActions).refFaults ++ (reroute s.processActions).dangling = _
    rw [hd', List.append_nil]
    exact congrArg (·.2.2.2.1) (frame_processActions s)

theorem not_referenced {s : St} {o : Id} (h : s.referenced o = false) : ∀ k ∈ s.clusters, o ∉ k.refs := by
  simpa only [St.referenced, List.any_eq_false, List.contains_iff_mem] using h

theorem rc_enqueue {s : St} (h : RC s) (t : AType) (o : Id) (href : isRemove t = true → s.referenced o = false) :
    RC (s.enqueue t o) := by
  intro k hk r hr
  rw [cl_enqueue] at hk
  refine ⟨by rw [oids, obst_enqueue]; exact (h k hk r hr).1, removed_enqueue (h k hk r hr).2 (fun ht e => ?_)⟩
  exact not_referenced (href ht) k hk (e ▸ hr)

theorem refsOk_spec {s : St} {refs : List Id} (h : refsOk s refs = true) : ∀ r ∈ refs, Stays s r := by
  intro r hr
  simp only [refsOk, List.all_eq_true, Bool.and_eq_true, Bool.not_eq_true', List.any_eq_true, beq_iff_eq] at h
  obtain ⟨⟨x, hx, hxi, _⟩, hp⟩ := h r hr
  exact ⟨hasObst_iff.1 (List.any_eq_true.2 ⟨x, hx, by simpa using hxi⟩), removed_of_pendingRemove hp⟩

theorem rc_addCluster {s : St} (h : RC s) (id : Id) {refs : List Id} (hr : refsOk s refs = true) :
    RC (s.addCluster id refs) := by
  intro k hk r hrk
  simp only [St.addCluster, List.mem_append, List.mem_singleton] at hk
  rcases hk with hk | rfl
  · exact h k hk r hrk
  · exact refsOk_spec hr r hrk

theorem rc_setClusterRefs {s : St} (h : RC s) (id : Id) {refs : List Id} (hr : refsOk s refs = true) :
    RC (s.setClusterRefs id refs) := by
  intro k hk r hrk
  simp only [St.setClusterRefs, List.mem_map] at hk
  obtain ⟨k0, hk0, rfl⟩ := hk
  split at hrk
  · exact refsOk_spec hr r hrk
  · exact h k0 hk0 r hrk

theorem rc_freeCluster {s : St} (h : RC s) (id : Id) : RC (s.freeCluster id) := by
  intro k hk r hrk
  simp only [St.freeCluster, List.mem_filter] at hk
  exact h k hk.1 r hrk

/-- the router frees an obstacle that no cluster boundary references (hyperedge improvement) -/
theorem rc_freeObstacle {s : St} (h : RC s) (o : Id) (href : s.referenced o = false) : RC (s.freeObstacle o) := by
  intro k hk r hrk
  refine ⟨?_, (h k hk r hrk).2⟩
  rw [oids_freeObstacle, List.mem_filter]
  refine ⟨(h k hk r hrk).1, ?_⟩
  simpa using fun (e : r = o) => not_referenced href k hk (e ▸ hrk)

end AdaptaVerif.Lemmas.Lifecycle
