/-
Order-theoretic lemmas behind the scan-line proofs of C09: what `prevIn`/`nextIn` compute on a
strictly sorted scan line, and how the "greatest element below" of every node changes when a
node is inserted into / erased from the scan line.  Pure list/order reasoning, no arithmetic.
-/
import AdaptaVerif.Model.Scanline
import AdaptaVerif.Lemmas.StrictWeakOrder
import AdaptaVerif.Lemmas.Util.InsertionSort
namespace AdaptaVerif.Lemmas.Scanline
open AdaptaVerif.Model.Scanline

structure StrictTotal (lt : Nat → Nat → Bool) : Prop where
  irrefl : ∀ a, lt a a = false
  trans : ∀ a b c, lt a b = true → lt b c = true → lt a c = true
  total : ∀ a b, a ≠ b → lt a b = true ∨ lt b a = true

theorem StrictTotal.flip {lt} (st : StrictTotal lt) : StrictTotal (fun a b => lt b a) :=
  ⟨st.irrefl, fun a b c h1 h2 => st.trans c b a h2 h1, fun a b h => (st.total a b h).symm⟩

theorem StrictTotal.of_swo {lt : Nat → Nat → Bool} (h : SWO.IsSWO lt) (hi : ∀ a b, SWO.Incomp lt a b → a = b) :
    StrictTotal lt :=
  ⟨h.irrefl, h.trans, fun a b hab => by
    cases h1 : lt a b
    · cases h2 : lt b a
      · exact absurd (hi a b ⟨h1, h2⟩) hab
      · exact Or.inr rfl
    · exact Or.inl rfl⟩

theorem StrictTotal.asymm {lt} (st : StrictTotal lt) {p q : Nat} (h1 : lt p q = true) (h2 : lt q p = true) : False := by
  have := st.trans _ _ _ h1 h2; rw [st.irrefl] at this; cases this

/-- `p` is the greatest element of `S` below `v` (or `none` if there is none); for the flipped order
    `fun a b => lt b a`, the least element above `v` -/
def IsPrev (lt : Nat → Nat → Bool) (S : List Nat) (v : Nat) (p : Option Nat) : Prop :=
  (∀ a, p = some a → a ∈ S ∧ lt a v = true ∧ ∀ x ∈ S, lt x v = true → x = a ∨ lt x a = true) ∧
  (p = none → ∀ x ∈ S, lt x v = false)

theorem isPrev_unique {lt} (st : StrictTotal lt) {S : List Nat} {v : Nat} {p q : Option Nat}
    (hp : IsPrev lt S v p) (hq : IsPrev lt S v q) : p = q := by
  cases p with
  | none =>
    cases q with
    | none => rfl
    | some b =>
      obtain ⟨hb, hbv, _⟩ := hq.1 b rfl
      have := hp.2 rfl b hb; rw [hbv] at this; cases this
  | some a =>
    obtain ⟨ha, hav, hamax⟩ := hp.1 a rfl
    cases q with
    | none => have := hq.2 rfl a ha; rw [hav] at this; cases this
    | some b =>
      obtain ⟨hb, hbv, hbmax⟩ := hq.1 b rfl
      rcases hamax b hb hbv with rfl | h1
      · rfl
      · rcases hbmax a ha hav with rfl | h2
        · rfl
        · exact (st.asymm h1 h2).elim

theorem isPrev_symm {lt} (st : StrictTotal lt) {S : List Nat} {v x : Nat} (hv : v ∈ S)
    (h : IsPrev (fun a b => lt b a) S v (some x)) : IsPrev lt S x (some v) := by
  obtain ⟨_, hvx, hmin⟩ := h.1 x rfl
  refine ⟨fun a ha => ?_, fun h => by cases h⟩
  cases ha
  refine ⟨hv, hvx, fun y hy hyx => ?_⟩
  by_cases hyv : y = v
  · exact Or.inl hyv
  · refine Or.inr ((st.total y v hyv).resolve_right fun h => ?_)
    rcases hmin y hy h with rfl | h'
    · rw [st.irrefl] at hyx; cases hyx
    · exact st.asymm h' hyx

theorem isPrev_insert_other {lt} (st : StrictTotal lt) {S S' : List Nat} {v x : Nat} {a n : Option Nat}
    (hmem : ∀ y, y ∈ S' ↔ y = v ∨ y ∈ S) (hx : x ∈ S)
    (hn : IsPrev (fun a b => lt b a) S' v n) (ha : IsPrev lt S x a) :
    IsPrev lt S' x (if n = some x then some v else a) := by
  by_cases hnx : n = some x
  · simp only [hnx, if_true]
    exact isPrev_symm st ((hmem v).2 (Or.inl rfl)) (hnx ▸ hn)
  · simp only [hnx, if_false]
    obtain ⟨ir, tr, -⟩ := st
    obtain ⟨hn1, hn2⟩ := hn
    dsimp only at hn1 hn2
    obtain ⟨ha1, ha2⟩ := ha
    -- if v is below x then the successor b of v is in S, b ≠ x, so b is below x
    have key : lt v x = true → ∃ b, b ∈ S ∧ lt v b = true ∧ lt b x = true := by
      intro hvx
      cases hn' : n with
      | none => have := hn2 hn' x ((hmem x).2 (Or.inr hx)); simp [hvx] at this
      | some b =>
        obtain ⟨hb, hvb, hmin⟩ := hn1 b hn'
        have hbx : b ≠ x := fun h => hnx (by rw [hn', h])
        rcases hmin x ((hmem x).2 (Or.inr hx)) hvx with h | h
        · exact absurd h.symm hbx
        · have hbv : b ≠ v := by rintro rfl; rw [ir] at hvb; cases hvb
          exact ⟨b, ((hmem b).1 hb).resolve_left hbv, hvb, h⟩
    refine ⟨fun a0 h0 => ?_, fun h0 y hy => ?_⟩
    · obtain ⟨h1, h2, h3⟩ := ha1 a0 h0
      refine ⟨(hmem a0).2 (Or.inr h1), h2, fun y hy hyx => ?_⟩
      rcases (hmem y).1 hy with rfl | hyS
      · obtain ⟨b, hbS, hvb, hbx⟩ := key hyx
        right
        rcases h3 b hbS hbx with rfl | h
        · exact hvb
        · exact tr _ _ _ hvb h
      · exact h3 y hyS hyx
    · rcases (hmem y).1 hy with rfl | hyS
      · cases hyx : lt y x with
        | false => rfl
        | true =>
          obtain ⟨b, hbS, _, hbx⟩ := key hyx
          have := ha2 h0 b hbS; rw [hbx] at this; cases this
      · exact ha2 h0 y hyS

theorem isPrev_erase_other {lt} (st : StrictTotal lt) {S S' : List Nat} {v x : Nat} {a l r : Option Nat}
    (hmem : ∀ y, y ∈ S' ↔ y ∈ S ∧ y ≠ v) (hv : v ∈ S) (hx : x ∈ S)
    (hl : IsPrev lt S v l) (hr : IsPrev (fun a b => lt b a) S v r) (ha : IsPrev lt S x a) :
    IsPrev lt S' x (if r = some x then l else a) := by
  by_cases hrx : r = some x
  · -- `v` is the predecessor of `x`: `x` inherits the predecessor of `v`
    simp only [hrx, if_true]
    obtain ⟨_, hvx, hmax⟩ := (isPrev_symm st hv (hrx ▸ hr)).1 v rfl
    have below : ∀ y, y ∈ S' → lt y x = true → lt y v = true := fun y hy hyx =>
      (hmax y ((hmem y).1 hy).1 hyx).resolve_left ((hmem y).1 hy).2
    refine ⟨fun a0 h0 => ?_, fun h0 y hy => ?_⟩
    · obtain ⟨h1, h2, h3⟩ := hl.1 a0 h0
      have : a0 ≠ v := by rintro rfl; rw [st.irrefl] at h2; cases h2
      exact ⟨(hmem a0).2 ⟨h1, this⟩, st.trans _ _ _ h2 hvx,
        fun y hy hyx => h3 y ((hmem y).1 hy).1 (below y hy hyx)⟩
    · cases hyx : lt y x with
      | false => rfl
      | true => have := hl.2 h0 y ((hmem y).1 hy).1; rw [below y hy hyx] at this; cases this
  · -- otherwise `v` is not the predecessor of `x`, which keeps its own
    simp only [hrx, if_false]
    refine ⟨fun a0 h0 => ?_, fun h0 y hy => ha.2 h0 y ((hmem y).1 hy).1⟩
    obtain ⟨h1, h2, h3⟩ := ha.1 a0 h0
    have hav : a0 ≠ v := by
      rintro rfl
      exact hrx (isPrev_unique st.flip hr (isPrev_symm st.flip hx (h0 ▸ ha)))
    exact ⟨(hmem a0).2 ⟨h1, hav⟩, h2, fun y hy hyx => h3 y ((hmem y).1 hy).1 hyx⟩

abbrev Sorted (lt : Nat → Nat → Bool) (S : List Nat) : Prop := S.Pairwise (fun a b => lt a b = true)

theorem insertSorted_isInsert (lt : Nat → Nat → Bool) : Util.IsInsert (fun v x => lt v x = true) (insertSorted lt) :=
  ⟨fun _ => rfl, fun _ _ _ => rfl⟩

theorem mem_insertSorted {lt} {v : Nat} {S : List Nat} {y : Nat} :
    y ∈ insertSorted lt v S ↔ y = v ∨ y ∈ S :=
  (insertSorted_isInsert lt).mem

theorem sorted_insertSorted {lt} (st : StrictTotal lt) {v : Nat} {S : List Nat}
    (hs : Sorted lt S) (hv : v ∉ S) : Sorted lt (insertSorted lt v S) :=
  (insertSorted_isInsert lt).pairwise hs (fun _ _ h => h)
    (fun x hx h => (st.total v x fun e => hv (e ▸ hx)).resolve_left h) fun _ _ _ _ => st.trans _ _ _

theorem mem_eraseNode {v y : Nat} {S : List Nat} : y ∈ eraseNode v S ↔ y ∈ S ∧ y ≠ v := by
  simp [eraseNode]

theorem mem_before {lt} {S : List Nat} {v u : Nat} : u ∈ before lt S v ↔ u ∈ S ∧ lt u v = true := by
  rw [before, List.mem_reverse, List.mem_filter]

theorem mem_after {lt} {S : List Nat} {v u : Nat} : u ∈ after lt S v ↔ u ∈ S ∧ lt v u = true := by
  rw [after, List.mem_filter]

theorem sorted_eraseNode {lt} {v : Nat} {S : List Nat} (hs : Sorted lt S) : Sorted lt (eraseNode v S) :=
  List.Pairwise.filter _ hs

theorem head?_pairwise {α} {R : α → α → Prop} {l : List α} {a : α} (hp : l.Pairwise R)
    (ha : l.head? = some a) : a ∈ l ∧ ∀ x ∈ l, x = a ∨ R a x := by
  cases l with
  | nil => cases ha
  | cons b t =>
    simp only [List.head?_cons, Option.some.injEq] at ha
    subst ha
    refine ⟨List.mem_cons_self, fun x hx => ?_⟩
    rcases List.mem_cons.1 hx with rfl | hx
    · exact Or.inl rfl
    · exact Or.inr ((List.pairwise_cons.1 hp).1 x hx)

theorem nextIn_spec {lt} {S : List Nat} (hs : Sorted lt S) (v : Nat) :
    IsPrev (fun a b => lt b a) S v (nextIn lt S v) := by
  unfold nextIn after
  have hp : (S.filter (fun u => lt v u)).Pairwise (fun a b => lt a b = true) := List.Pairwise.filter _ hs
  refine ⟨fun b hb => ?_, fun hn x hx => ?_⟩
  · obtain ⟨hmem, hmin⟩ := head?_pairwise hp hb
    have := List.mem_filter.1 hmem
    refine ⟨this.1, this.2, fun x hx hvx => ?_⟩
    exact hmin x (List.mem_filter.2 ⟨hx, hvx⟩)
  · rw [List.head?_eq_none_iff, List.filter_eq_nil_iff] at hn
    simpa using hn x hx

theorem prevIn_spec {lt} {S : List Nat} (hs : Sorted lt S) (v : Nat) :
    IsPrev lt S v (prevIn lt S v) := by
  unfold prevIn before
  have hp : (S.filter (fun u => lt u v)).reverse.Pairwise (fun a b => lt b a = true) :=
    List.pairwise_reverse.2 (List.Pairwise.filter _ hs)
  refine ⟨fun b hb => ?_, fun hn x hx => ?_⟩
  · obtain ⟨hmem, hmin⟩ := head?_pairwise hp hb
    have := List.mem_filter.1 (List.mem_reverse.1 hmem)
    refine ⟨this.1, this.2, fun x hx hvx => ?_⟩
    exact hmin x (List.mem_reverse.2 (List.mem_filter.2 ⟨hx, hvx⟩))
  · rw [List.head?_eq_none_iff, List.reverse_eq_nil_iff, List.filter_eq_nil_iff] at hn
    simpa using hn x hx

/-- value of a pointer field after the conditional update `if (o) o->field = x` -/
theorem setOpt_apply (m : PMap) (o x : Option Nat) (i : Nat) :
    (match o with | some u => m.set u x | none => m) i = if o = some i then x else m i := by
  cases o with
  | none => rfl
  | some u => simp only [PMap.set, Option.some.injEq, eq_comm]

/-- firstAbove / firstBelow of every node on the scan line are its order neighbours -/
def Linked (lt : Nat → Nat → Bool) (S : List Nat) (ab be : PMap) : Prop :=
  ∀ x ∈ S, IsPrev lt S x (ab x) ∧ IsPrev (fun a b => lt b a) S x (be x)

theorem linked_open {lt} (st : StrictTotal lt) {S : List Nat} {v : Nat} {ab be : PMap}
    (hs : Sorted lt S) (hv : v ∉ S) (hl : Linked lt S ab be) :
    let S' := insertSorted lt v S
    let p := prevIn lt S' v
    let n := nextIn lt S' v
    Linked lt S'
      (match n with | some u => (ab.set v p).set u (some v) | none => ab.set v p)
      ((match p with | some u => be.set u (some v) | none => be).set v n) := by
  intro S' p n
  have hs' : Sorted lt S' := sorted_insertSorted st hs hv
  have hp : IsPrev lt S' v p := prevIn_spec hs' v
  have hn : IsPrev (fun a b => lt b a) S' v n := nextIn_spec hs' v
  have hmem : ∀ y, y ∈ S' ↔ y = v ∨ y ∈ S := fun y => mem_insertSorted
  have hnv : n ≠ some v := by
    intro h; have := (hn.1 v h).2.1; dsimp only at this; rw [st.irrefl] at this; cases this
  intro x hx
  have hab : (match n with | some u => (ab.set v p).set u (some v) | none => ab.set v p) x
      = if n = some x then some v else if x = v then p else ab x := setOpt_apply _ _ _ _
  have hbe : ((match p with | some u => be.set u (some v) | none => be).set v n) x
      = if x = v then n else if p = some x then some v else be x := by
    rw [← setOpt_apply]; rfl
  rw [hab, hbe]
  rcases (hmem x).1 hx with rfl | hxS
  · simp only [hnv, if_false, if_true]
    exact ⟨hp, hn⟩
  · have hxv : x ≠ v := fun e => hv (e ▸ hxS)
    obtain ⟨ha, hb⟩ := hl x hxS
    constructor
    · have := isPrev_insert_other st hmem hxS hn ha
      by_cases h : n = some x <;> simp only [h, hxv, if_true, if_false] at this ⊢ <;> exact this
    · have := isPrev_insert_other st.flip hmem hxS (n := p) hp hb
      simp only [hxv, if_false]
      exact this

theorem linked_close {lt} (st : StrictTotal lt) {S : List Nat} {v : Nat} {ab be : PMap}
    (hv : v ∈ S) (hl : Linked lt S ab be) :
    Linked lt (eraseNode v S)
      (match be v with | some r => ab.set r (ab v) | none => ab)
      (match ab v with | some l => be.set l (be v) | none => be) := by
  have hmem : ∀ y, y ∈ eraseNode v S ↔ y ∈ S ∧ y ≠ v := fun y => mem_eraseNode
  obtain ⟨hlv, hrv⟩ := hl v hv
  intro x hx
  have hxS := ((hmem x).1 hx).1
  obtain ⟨ha, hb⟩ := hl x hxS
  rw [setOpt_apply, setOpt_apply]
  exact ⟨isPrev_erase_other st hmem hv hxS hlv hrv ha, isPrev_erase_other st.flip hmem hv hxS hrv hlv hb⟩

end AdaptaVerif.Lemmas.Scanline
