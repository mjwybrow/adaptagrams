/-
Lemmas about the C01 checkers (`Check/Vpsc.lean`) against the spec (`Spec/Vpsc.lean`).
-/
import AdaptaVerif.Check.Vpsc
import AdaptaVerif.Spec.Vpsc
import Mathlib.Tactic.Linarith
import Mathlib.Tactic.Ring
import Mathlib.Tactic.FieldSimp
import Mathlib.Algebra.Order.Field.Rat
namespace AdaptaVerif.Lemmas.Vpsc
open AdaptaVerif.Check.Vpsc AdaptaVerif.Spec.Vpsc

/-! ### telescoping along a walk -/

theorem walk_sum (u : Nat → Rat) (ε : Rat) :
    ∀ (es : List Edge) (a b : Nat), walkEnd a es = some b →
      (∀ e ∈ es, u e.a + e.w - ε ≤ u e.b) →
      u a + sumW es - ε * (es.length : Rat) ≤ u b := by
  intro es
  induction es with
  | nil =>
    intro a b h _
    simp only [walkEnd, Option.some.injEq] at h
    subst h
    simp [sumW]
  | cons e es ih =>
    intro a b h hall
    simp only [walkEnd] at h
    split at h
    · rename_i hea
      have h1 := ih e.b b h (fun x hx => hall x (List.mem_cons_of_mem _ hx))
      have h2 := hall e (List.mem_cons_self)
      simp only [sumW, List.length_cons, Nat.cast_add, Nat.cast_one]
      rw [hea] at h2
      linarith
    · exact absurd h (by simp)

theorem closed_walk_sum (u : Nat → Rat) (ε : Rat) (cyc : List Edge) (hc : ClosedWalk cyc)
    (hall : ∀ e ∈ cyc, u e.a + e.w - ε ≤ u e.b) : sumW cyc ≤ ε * (cyc.length : Rat) := by
  obtain ⟨e, rest, hcy, hw⟩ := hc
  have := walk_sum u ε cyc e.a e.a hw hall
  linarith

/-! ### constraints ↔ edges in scaled coordinates -/

theorem holds_iff_edge (scale pos : Nat → Rat) (c : C) :
    Holds scale pos c ↔ ∀ e ∈ edgesOf [c], EdgeHolds (fun i => scale i * pos i) e := by
  unfold Holds
  cases h : c.eq
  · simp [edgesOf, EdgeHolds, h]
  · simp only [edgesOf, h, if_true, List.flatMap_cons, List.flatMap_nil, List.append_nil,
      List.forall_mem_cons, EdgeHolds, List.not_mem_nil, false_imp_iff, implies_true, and_true]
    constructor
    · intro h; exact ⟨h.le, by linarith⟩
    · rintro ⟨h1, h2⟩; linarith

theorem holds_iff_edges (scale pos : Nat → Rat) (cs : List C) :
    (∀ c ∈ cs, Holds scale pos c) ↔
    (∀ e ∈ edgesOf cs, EdgeHolds (fun i => scale i * pos i) e) := by
  simp only [holds_iff_edge, edgesOf, List.mem_flatMap, List.flatMap_cons, List.flatMap_nil,
    List.append_nil]
  exact ⟨fun h e ⟨c, hc, he⟩ => h c hc e he, fun h c hc e he => h e ⟨c, hc, he⟩⟩

theorem feasible_iff_edges (scale : Nat → Rat) (hs : ∀ i, scale i ≠ 0) (cs : List C) :
    Feasible scale cs ↔ ∃ u : Nat → Rat, ∀ e ∈ edgesOf cs, EdgeHolds u e := by
  constructor
  · rintro ⟨pos, h⟩
    exact ⟨fun i => scale i * pos i, (holds_iff_edges scale pos cs).1 h⟩
  · rintro ⟨u, h⟩
    refine ⟨fun i => u i / scale i, (holds_iff_edges scale _ cs).2 ?_⟩
    have : (fun i => scale i * (u i / scale i)) = u := by
      funext i
      have := hs i
      field_simp
    rw [this]
    exact h

theorem holdsAll_iff (u : Nat → Rat) (es : List Edge) :
    holdsAll u es = true ↔ ∀ e ∈ es, EdgeHolds u e := by
  simp [holdsAll, EdgeHolds, List.all_eq_true]

theorem isPosCycle_spec (es cyc : List Edge) (h : isPosCycle es cyc = true) :
    (∀ e ∈ cyc, e ∈ es) ∧ ClosedWalk cyc ∧ 0 < sumW cyc := by
  unfold isPosCycle at h
  cases cyc with
  | nil => simp at h
  | cons e rest =>
    simp only [Bool.and_eq_true, List.all_eq_true, decide_eq_true_eq, beq_iff_eq] at h
    obtain ⟨⟨h1, h2⟩, h3⟩ := h
    refine ⟨?_, ⟨e, rest, rfl, h2⟩, h3⟩
    intro x hx
    have := h1 x hx
    simpa using this

theorem pos_cycle_infeasible_edges (es cyc : List Edge) (hsub : ∀ e ∈ cyc, e ∈ es)
    (hc : ClosedWalk cyc) (hpos : 0 < sumW cyc) : ¬ ∃ u : Nat → Rat, ∀ e ∈ es, EdgeHolds u e := by
  rintro ⟨u, hu⟩
  have := closed_walk_sum u 0 cyc hc (by
    intro e he
    have := hu e (hsub e he)
    simp only [EdgeHolds] at this
    linarith)
  linarith

theorem okWithin_iff (tol : Rat) (scale pos : Nat → Rat) (c : C) :
    okWithin tol scale pos c = true ↔ HoldsWithin tol scale pos c := by
  unfold okWithin HoldsWithin
  by_cases h : c.eq = true <;> simp [h]

end AdaptaVerif.Lemmas.Vpsc
