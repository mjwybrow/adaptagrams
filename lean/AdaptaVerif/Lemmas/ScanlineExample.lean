/-
A concrete instance used by the non-vacuity examples of Props/C09.lean: two overlapping squares
[0,2]² and [1,3]², borders 0, rank = index, events O0 O1 C0 C1.
-/
import AdaptaVerif.Lemmas.ScanlineCheck
namespace AdaptaVerif.Lemmas.Scanline.Example
open AdaptaVerif.Model.Scanline AdaptaVerif.Spec.Rects AdaptaVerif.Check.Rects
open AdaptaVerif.Lemmas.Scanline

def exRs : Array Rect := #[⟨0, 2, 0, 2⟩, ⟨1, 3, 1, 3⟩]
def exEvs : List Ev := [⟨false, 0⟩, ⟨false, 1⟩, ⟨true, 0⟩, ⟨true, 1⟩]
/-- a placement of the centres in y that satisfies the generated constraint -/
def exY : Nat → Rat := fun i => if i = 0 then 0 else 2

theorem ex0 : (rectAt exRs 0) = ⟨0, 2, 0, 2⟩ := rfl
theorem ex1 : (rectAt exRs 1) = ⟨1, 3, 1, 3⟩ := rfl

/-! Everything below is a closed fact about this one scene and is checked by evaluation. -/

theorem exCons : generateYConstraints exRs 0 0 id exEvs = [⟨0, 1, 2⟩] := by decide +kernel

theorem exSat : Sat exY (generateYConstraints exRs 0 0 id exEvs) := by
  unfold Sat; decide +kernel

theorem exMem (e : Ev) : e ∈ exEvs ↔ e.id < exRs.size := by
  obtain ⟨c, i⟩ := e
  cases c <;> simp [exEvs, exRs] <;> omega

theorem exValid : ValidOrder (yAxis exRs 0 0) exRs.size exEvs :=
  ⟨by decide +kernel, by decide, exMem⟩

theorem exGood : ∀ i, i < exRs.size → 0 ≤ (yAxis exRs 0 0).sz i ∧ (yAxis exRs 0 0).opn i ≤ (yAxis exRs 0 0).cls i := by
  decide +kernel

theorem exMeet : ScanMeet (yAxis exRs 0 0) 0 1 := by
  unfold ScanMeet; decide +kernel

theorem exXSat : Sat exY (generateXConstraints exRs 0 0 id exEvs false) := by
  unfold Sat; decide +kernel

theorem exXValid : ValidOrder (xAxis exRs 0 0) exRs.size exEvs :=
  ⟨by decide +kernel, by decide, exMem⟩

theorem exXGood : ∀ i, i < exRs.size → 0 ≤ (xAxis exRs 0 0).sz i ∧ (xAxis exRs 0 0).opn i ≤ (xAxis exRs 0 0).cls i := by
  decide +kernel

theorem exXMeet : ScanMeet (xAxis exRs 0 0) 0 1 := by
  unfold ScanMeet; decide +kernel

/-- the separation certificate for the y sweep of the example: ordering witness = index,
    reachability bit sets {1} for node 0 and {} for node 1 -/
theorem exCert : sepCert (yAxis exRs 0 0) 2 [⟨0, 1, 2⟩] id #[2, 0] = true := by decide +kernel

end AdaptaVerif.Lemmas.Scanline.Example
