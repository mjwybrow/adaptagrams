/-
C09: soundness (and, where it holds, completeness) of the executable checkers in Check/Rects.lean.
-/
import AdaptaVerif.Lemmas.ScanlineRects
import AdaptaVerif.Check.Rects
import AdaptaVerif.Lemmas.Interval
namespace AdaptaVerif.Lemmas.Scanline
open AdaptaVerif.Model.Scanline AdaptaVerif.Spec.Rects AdaptaVerif.Check.Rects

theorem ovLen_pos_iff (a1 a2 b1 b2 : Rat) : 0 < ovLen a1 a2 b1 b2 ↔ IntervalsMeet a1 a2 b1 b2 := by
  unfold ovLen rmin rmax IntervalsMeet
  rw [← min_def, ← max_def, sub_pos, Interval.openIntervals_meet_iff]

theorem overlap_iff (u v : Rect) :
    Overlap u v ↔ IntervalsMeet u.minX u.maxX v.minX v.maxX ∧ IntervalsMeet u.minY u.maxY v.minY v.maxY := by
  constructor
  · rintro ⟨x, y, h1, h2, h3, h4, h5, h6, h7, h8⟩
    exact ⟨⟨x, h1, h2, h3, h4⟩, ⟨y, h5, h6, h7, h8⟩⟩
  · rintro ⟨⟨x, h1, h2, h3, h4⟩, ⟨y, h5, h6, h7, h8⟩⟩
    exact ⟨x, y, h1, h2, h3, h4, h5, h6, h7, h8⟩

theorem overlap_symm {u v : Rect} (h : Overlap u v) : Overlap v u := by
  obtain ⟨x, y, h1, h2, h3, h4, h5, h6, h7, h8⟩ := h
  exact ⟨x, y, h3, h4, h1, h2, h7, h8, h5, h6⟩

theorem overlapsBy_zero_iff (u v : Rect) : overlapsBy 0 u v = true ↔ Overlap u v := by
  simp only [overlapsBy, Bool.and_eq_true, decide_eq_true_eq, ovLen_pos_iff, overlap_iff]

theorem scanMeet_iff (ax : Axis) (u v : Nat) : scanMeet ax u v = true ↔ ScanMeet ax u v := by
  simp [scanMeet, ScanMeet]

theorem succUnion_bit (masks : Array Nat) (u v : Nat) :
    ∀ (cs : List Con) (acc : Nat),
      (cs.foldl (fun acc c => if c.l = u then acc ||| (1 <<< c.r) ||| maskAt masks c.r else acc) acc).testBit v = true →
        acc.testBit v = true ∨ ∃ c ∈ cs, c.l = u ∧ (v = c.r ∨ (maskAt masks c.r).testBit v = true) := by
  intro cs
  induction cs with
  | nil => intro acc h; exact Or.inl h
  | cons c t ih =>
    intro acc h
    simp only [List.foldl_cons] at h
    rcases ih _ h with h' | ⟨c', hc', h'⟩
    · split at h'
      · rename_i hcl
        rw [Nat.testBit_or, Nat.testBit_or, Nat.one_shiftLeft, Nat.testBit_two_pow] at h'
        simp only [Bool.or_eq_true, decide_eq_true_eq] at h'
        rcases h' with (h' | h') | h'
        · exact Or.inl h'
        · exact Or.inr ⟨c, List.mem_cons_self, hcl, Or.inl h'.symm⟩
        · exact Or.inr ⟨c, List.mem_cons_self, hcl, Or.inr h'⟩
      · exact Or.inl h'
    · exact Or.inr ⟨c', List.mem_cons_of_mem _ hc', h'⟩

/-- The local claims of the certificate are unfolded along the ordering witness: `n - pos u` decreases along every
    constraint leaving `u`. -/
theorem reach_sound {masks : Array Nat} {cs : List Con} {pos : Nat → Nat} {n : Nat}
    (hacy : acyclicBy pos cs = true) (hbound : ∀ c ∈ cs, pos c.r < n)
    (hok : reachOK masks cs = true) {u v : Nat} (hb : (maskAt masks u).testBit v = true) : Chain cs u v := by
  have hup : ∀ c ∈ cs, pos c.l < pos c.r := by simpa [acyclicBy] using hacy
  have step : ∀ u v, (maskAt masks u).testBit v = true →
      ∃ c ∈ cs, c.l = u ∧ (v = c.r ∨ (maskAt masks c.r).testBit v = true) := by
    intro u v hb
    by_cases hu : u < masks.size
    · have h1 := (List.all_eq_true.1 hok) u (List.mem_range.2 hu)
      have h2 : (succUnion masks cs u).testBit v = true := by
        have := congrArg (fun m => Nat.testBit m v) (beq_iff_eq.1 h1)
        simp only [Nat.testBit_or, hb, Bool.true_or] at this
        exact this.symm
      exact (succUnion_bit masks u v cs 0 h2).resolve_left (by simp)
    · simp [maskAt, Array.getD, hu] at hb
  suffices h : ∀ k u v, n - pos u ≤ k → (maskAt masks u).testBit v = true → Chain cs u v from
    h _ u v (Nat.le_refl _) hb
  intro k
  induction k with
  | zero =>
    -- n ≤ pos u: no constraint leaves u (its target would have pos ≥ n)
    intro u v hk hb
    obtain ⟨c, hc, rfl, _⟩ := step u v hb
    have := hup c hc; have := hbound c hc; omega
  | succ k ih =>
    intro u v hk hb
    obtain ⟨c, hc, rfl, rfl | h4⟩ := step u v hb
    · exact Chain.single hc
    · have := hup c hc; have := hbound c hc
      exact Chain.cons hc (ih c.r v (by omega) h4)

end AdaptaVerif.Lemmas.Scanline
