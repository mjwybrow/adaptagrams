/-
The separation-constraint store of libdialect as a data structure (C18 (1)-(4); core Lean only).
-/
import AdaptaVerif.Spec.Sep
namespace AdaptaVerif.Lemmas.Sep
open AdaptaVerif.Num AdaptaVerif.Model.Sep AdaptaVerif.Spec.Sep

theorem toRat_mk_false (m : Rat) : (SZ.mk false m).toRat = m := by simp [SZ.toRat]
theorem toRat_mk_true (m : Rat) : (SZ.mk true m).toRat = -m := by simp [SZ.toRat]

theorem genCon_eq (st : SepType) (gt : GapType) (g : SZ) (e a b : Rat) :
    genCon st gt g e a b =
      if st = .none then none
      else some ⟨!g.signbit, g.mag + (if gt = .bdry then (a + b) / 2 + e else 0), st == .eq⟩ := by
  obtain ⟨n, m⟩ := g
  cases n <;> cases gt <;>
    simp [genCon, SZ.signbit, SZ.neg_def, toRat_mk_false, Rat.add_comm b a, Rat.add_zero]

theorem conHolds_neg (st : SepType) (gt : GapType) (g : SZ) (e a b s t : Rat) :
    conHolds (genCon st gt (-g) e a b) (-s) (-t) ↔ conHolds (genCon st gt g e a b) s t := by
  rw [genCon_eq, genCon_eq]
  -- the flipped bit exchanges left and right, and `-t + c ≤ -s` is `s + c ≤ t`
  cases st <;> cases hs : g.signbit <;> simp [conHolds, hs] <;> grind

theorem genCon_size_comm (st : SepType) (gt : GapType) (g : SZ) (e a b : Rat) :
    genCon st gt g e a b = genCon st gt g e b a := by
  rw [genCon_eq, genCon_eq, Rat.add_comm a b]

theorem conHolds_iff_holds (c : Option GenCon) (src tgt : Nat) (pos : Nat → Rat) :
    conHolds c (pos src) (pos tgt) ↔
      ∀ v, c.map (fun c => ({ left := if c.leftIsSrc then src else tgt,
                               right := if c.leftIsSrc then tgt else src,
                               gap := c.gap, equality := c.equality } : VCon)) = some v → VCon.holds v pos := by
  cases c with
  | none => simp [conHolds]
  | some c => cases hl : c.leftIsSrc <;> cases he : c.equality <;> simp [conHolds, VCon.holds, hl, he]

-- `SepTransform` is finite: a closed statement about all transforms is evaluated once over `SepTransform.all`
theorem mem_all (a : SepTransform) : a ∈ SepTransform.all := by cases a <;> decide

theorem applyPt_comp (a b : SepTransform) (x y : Rat) :
    a.applyPt (b.applyPt x y).1 (b.applyPt x y).2 = (a.comp b).applyPt x y := by
  cases a <;> cases b <;> simp only [SepTransform.applyPt, SepTransform.comp, Rat.neg_neg]

theorem applyPt_injective (a b : SepTransform) (h : a.applyPt 1 2 = b.applyPt 1 2) : a = b := by
  have table : ∀ a ∈ SepTransform.all, ∀ b ∈ SepTransform.all, a.applyPt 1 2 = b.applyPt 1 2 → a = b := by
    decide
  exact table a (mem_all a) b (mem_all b) h

theorem comp_assoc (a b c : SepTransform) : (a.comp b).comp c = a.comp (b.comp c) := by
  apply applyPt_injective
  rw [← applyPt_comp, ← applyPt_comp, ← applyPt_comp, ← applyPt_comp]

theorem swapsAxes_comp (a b : SepTransform) : (a.comp b).swapsAxes = (a.swapsAxes != b.swapsAxes) := by
  have table : ∀ a ∈ SepTransform.all, ∀ b ∈ SepTransform.all,
      (a.comp b).swapsAxes = (a.swapsAxes != b.swapsAxes) := by decide
  exact table a (mem_all a) b (mem_all b)

open AdaptaVerif.Model.Sep.SepMatrix

theorem lookupL_upsertL_self (k : Nat × Nat) (sp : SepPair) (l : List ((Nat × Nat) × SepPair)) :
    lookupL k (upsertL k sp l) = some sp := by
  induction l with
  | nil => simp [upsertL, lookupL]
  | cons hd tl ih =>
    obtain ⟨k', sp'⟩ := hd
    simp only [upsertL]
    split
    · simp [lookupL]
    · split
      · simp [lookupL]
      · rename_i h _
        simp [lookupL, h, ih]

theorem lookupL_upsertL_ne (k k' : Nat × Nat) (h : k' ≠ k) (sp : SepPair)
    (l : List ((Nat × Nat) × SepPair)) :
    lookupL k' (upsertL k sp l) = lookupL k' l := by
  induction l with
  | nil => simp [upsertL, lookupL, Ne.symm h]
  | cons hd tl ih =>
    obtain ⟨k'', sp''⟩ := hd
    simp only [upsertL]
    split
    · rename_i h1
      subst h1
      simp [lookupL, Ne.symm h]
    · split
      · simp [lookupL, Ne.symm h]
      · simp only [lookupL, ih]

theorem lookup_upsert_self (m : SepMatrix) (k : Nat × Nat) (sp : SepPair) :
    (m.upsert k sp).lookup k = some sp := lookupL_upsertL_self k sp m.pairs

theorem lookup_upsert_ne (m : SepMatrix) (k k' : Nat × Nat) (h : k' ≠ k) (sp : SepPair) :
    (m.upsert k sp).lookup k' = m.lookup k' := lookupL_upsertL_ne k k' h sp m.pairs

theorem lookupL_mem (k : Nat × Nat) (sp : SepPair) (l : List ((Nat × Nat) × SepPair))
    (h : lookupL k l = some sp) : (k, sp) ∈ l := by
  induction l with
  | nil => simp [lookupL] at h
  | cons hd tl ih =>
    obtain ⟨k', sp'⟩ := hd
    simp only [lookupL] at h
    split at h
    · rename_i hk; cases h; subst hk; exact List.mem_cons_self
    · exact List.mem_cons_of_mem _ (ih h)

theorem lookupL_map (f : (Nat × Nat) → SepPair → SepPair) (k : Nat × Nat)
    (ps : List ((Nat × Nat) × SepPair)) :
    lookupL k (ps.map fun (x : (Nat × Nat) × SepPair) => (x.1, f x.1 x.2)) = (lookupL k ps).map (f k) := by
  induction ps with
  | nil => rfl
  | cons hd tl ih =>
    obtain ⟨k', sp⟩ := hd
    by_cases h : k' = k
    · subst h; simp [lookupL]
    · simp [lookupL, h, ih]

theorem lookup_mapPairs (m : SepMatrix) (f : (Nat × Nat) → SepPair → SepPair) (k : Nat × Nat) :
    (m.mapPairs f).lookup k = (m.lookup k).map (f k) := by
  have := lookupL_map f k m.pairs
  simpa [SepMatrix.mapPairs, SepMatrix.lookup] using this

theorem key_comm (a b : Nat) : key a b = key b a := by
  unfold key
  by_cases h1 : a < b <;> by_cases h2 : b < a <;> simp [h1, h2]
  · omega
  · have : a = b := by omega
    subst this; exact ⟨rfl, rfl⟩

theorem key_lt {a b : Nat} (h : a < b) : key a b = (a, b) := by simp [key, h]

theorem key_fst_lt_snd {a b : Nat} (h : a ≠ b) : (key a b).1 < (key a b).2 := by
  unfold key; split <;> simp <;> omega

theorem addSep_negateSepDir (q : SepPair) (gt : GapType) (sd : SepDir) (st : SepType) (g : SZ) :
    q.addSep gt (negateSepDir sd) st g = q.addSep gt sd st (-g) := by
  unfold SepPair.addSep
  split
  · rfl
  · cases sd <;> simp only [negateSepDir, SZ.neg_neg]

def eraseFlag (sp : SepPair) : SepPair := { sp with flippedRetrieval := false }

theorem sat_eraseFlag (e : Rat) (sp : SepPair) (p : Placement) : Sat e (eraseFlag sp) p ↔ Sat e sp p :=
  Iff.rfl

theorem pairEquiv_of_eraseFlag_eq (e : Rat) {sp₁ sp₂ : SepPair} (h : eraseFlag sp₁ = eraseFlag sp₂) :
    PairEquiv e sp₁ e sp₂ := by
  intro p
  rw [← sat_eraseFlag e sp₁, ← sat_eraseFlag e sp₂, h]

theorem addSep_negate (sp : SepPair) (f₁ f₂ : Bool) (gt : GapType) (sd : SepDir) (st : SepType) (g : SZ) :
    eraseFlag (({ sp with flippedRetrieval := f₁ } : SepPair).addSep gt sd st g) =
    eraseFlag (({ sp with flippedRetrieval := f₂ } : SepPair).addSep gt (negateSepDir sd) st (-g)) := by
  unfold SepPair.addSep
  split
  · rfl
  · cases sd <;> simp [negateSepDir, eraseFlag]

theorem matrixEquiv_upsert (m : SepMatrix) (k : Nat × Nat) {sp₁ sp₂ : SepPair}
    (h : PairEquiv m.extraBdryGap sp₁ m.extraBdryGap sp₂) :
    MatrixEquiv (m.upsert k sp₁) (m.upsert k sp₂) := by
  intro k' p
  by_cases hk : k' = k
  · subst hk
    simp only [lookup_upsert_self, SatOpt]
    exact h p
  · simp only [lookup_upsert_ne _ _ _ hk]
    exact Iff.rfl

theorem getSepPair_flip (ff : Bool) (m : SepMatrix) (a b : Nat) (hab : a ≠ b)
    (h : ff = true ∨ m.lookup (key a b) = none) :
    ∃ sp : SepPair, getSepPair ff m a b = some { sp with flippedRetrieval := decide (b < a) } ∧
      getSepPair ff m b a = some { sp with flippedRetrieval := !decide (b < a) } := by
  have hflag : decide (a < b) = !decide (b < a) := by
    by_cases h1 : a < b <;> by_cases h2 : b < a <;> simp [h1, h2] <;> omega
  simp only [getSepPair, hab, Ne.symm hab, if_false, key_comm b a, hflag]
  cases hl : m.lookup (key a b) with
  | none => exact ⟨{ src := (key a b).1, tgt := (key a b).2 }, rfl, rfl⟩
  | some sp =>
    rcases h with rfl | h
    · exact ⟨sp, rfl, rfl⟩
    · rw [hl] at h; cases h

theorem flip_storage (ff : Bool) (m : SepMatrix) (a b : Nat) (hab : a ≠ b)
    (h : ff = true ∨ m.lookup (key a b) = none) (gt : GapType) (sd : SepDir) (st : SepType) (g : SZ) :
    ∃ m₁ m₂, m.addSep ff a b gt sd st g = some m₁ ∧
      m.addSep ff b a gt (negateSepDir sd) st g = some m₂ ∧ MatrixEquiv m₁ m₂ := by
  obtain ⟨sp, h₁, h₂⟩ := getSepPair_flip ff m a b hab h
  simp only [SepMatrix.addSep, h₁, h₂, key_comm b a]
  refine ⟨_, _, rfl, rfl, matrixEquiv_upsert m _ (pairEquiv_of_eraseFlag_eq _ ?_)⟩
  -- the call that is handed the pair with the flag set negates its gap before storing
  cases decide (b < a)
  · exact addSep_negate sp false true gt sd st g
  · simpa using addSep_negate sp true false gt sd st (-g)

theorem keyLt_iff (a b : Nat × Nat) : keyLt a b = true ↔ (a.1 < b.1 ∨ (a.1 = b.1 ∧ a.2 < b.2)) := by
  simp [keyLt]

theorem keyLt_trans {a b c : Nat × Nat} (h₁ : keyLt a b = true) (h₂ : keyLt b c = true) : keyLt a c = true := by
  rw [keyLt_iff] at *; omega

theorem keyLt_ne {a b : Nat × Nat} (h : keyLt a b = true) : a ≠ b := by
  rw [keyLt_iff] at h; intro e; subst e; omega

theorem keyLt_total {a b : Nat × Nat} (hne : a ≠ b) (h : ¬ keyLt a b = true) : keyLt b a = true := by
  rw [keyLt_iff] at *
  have : a.1 ≠ b.1 ∨ a.2 ≠ b.2 := by
    by_cases h1 : a.1 = b.1
    · right; intro h2; exact hne (Prod.ext h1 h2)
    · left; exact h1
  omega

/-- sorted by key like the nested `std::map`s -/
def SortedL (l : List ((Nat × Nat) × SepPair)) : Prop := l.Pairwise fun x y => keyLt x.1 y.1 = true

theorem mem_upsertL (k : Nat × Nat) (sp : SepPair) (l : List ((Nat × Nat) × SepPair)) :
    ∀ e ∈ upsertL k sp l, e = (k, sp) ∨ e ∈ l := by
  induction l with
  | nil => intro e he; exact Or.inl (List.mem_singleton.mp he)
  | cons hd tl ih =>
    obtain ⟨k', sp'⟩ := hd
    intro e he
    simp only [upsertL] at he
    split at he
    · exact (List.mem_cons.mp he).imp_right (List.mem_cons_of_mem _)
    · split at he
      · exact List.mem_cons.mp he
      · rcases List.mem_cons.mp he with h | h
        · exact Or.inr (h ▸ List.mem_cons_self)
        · exact (ih e h).imp_right (List.mem_cons_of_mem _)

theorem sorted_upsertL (k : Nat × Nat) (sp : SepPair) (l : List ((Nat × Nat) × SepPair)) (hs : SortedL l) :
    SortedL (upsertL k sp l) := by
  induction l with
  | nil => simp [upsertL, SortedL]
  | cons hd tl ih =>
    obtain ⟨k', sp'⟩ := hd
    simp only [SortedL, List.pairwise_cons] at hs
    obtain ⟨hhd, htl⟩ := hs
    simp only [upsertL]
    split
    · rename_i hk
      subst hk
      exact List.pairwise_cons.mpr ⟨hhd, htl⟩
    · split
      · rename_i hne hlt
        refine List.pairwise_cons.mpr ⟨?_, List.pairwise_cons.mpr ⟨hhd, htl⟩⟩
        intro y hy
        rcases List.mem_cons.mp hy with h | h
        · rw [h]; exact hlt
        · exact keyLt_trans hlt (hhd y h)
      · rename_i hne hlt
        refine List.pairwise_cons.mpr ⟨?_, ih htl⟩
        intro y hy
        rcases mem_upsertL k sp tl y hy with h | h
        · rw [h]; exact keyLt_total (fun e => hne e.symm) hlt
        · exact hhd y h

theorem nodup_of_sorted (l : List ((Nat × Nat) × SepPair)) (hs : SortedL l) : (l.map Prod.fst).Nodup := by
  unfold List.Nodup
  rw [List.pairwise_map]
  exact hs.imp fun h => keyLt_ne h

/-- the structural invariant of a SepMatrix: sorted by key, every record filed under its own
    `(src, tgt)` with `src < tgt` -/
structure StructOK (m : SepMatrix) : Prop where
  sorted : SortedL m.pairs
  keys : ∀ e ∈ m.pairs, e.1 = (e.2.src, e.2.tgt) ∧ e.2.src < e.2.tgt

theorem structOK_upsert (m : SepMatrix) (hm : StructOK m) (k : Nat × Nat) (sp : SepPair)
    (hk : k = (sp.src, sp.tgt)) (hlt : sp.src < sp.tgt) : StructOK (m.upsert k sp) :=
  ⟨sorted_upsertL k sp m.pairs hm.sorted, fun e he => by
    rcases mem_upsertL k sp m.pairs e he with h | h
    · rw [h]; exact ⟨hk, hlt⟩
    · exact hm.keys e h⟩

theorem structOK_mapPairs (m : SepMatrix) (hm : StructOK m) (f : (Nat × Nat) → SepPair → SepPair)
    (hf : ∀ k sp, (f k sp).src = sp.src ∧ (f k sp).tgt = sp.tgt) : StructOK (m.mapPairs f) := by
  constructor
  · show SortedL (m.pairs.map _)
    unfold SortedL
    rw [List.pairwise_map]
    exact hm.sorted
  · intro e he
    obtain ⟨e', he', rfl⟩ := List.mem_map.mp he
    obtain ⟨h1, h2⟩ := hm.keys e' he'
    obtain ⟨k, sp⟩ := e'
    simp only [(hf k sp).1, (hf k sp).2]
    exact ⟨h1, h2⟩

theorem structOK_filter (m : SepMatrix) (hm : StructOK m) (p : (Nat × Nat) × SepPair → Bool) :
    StructOK { m with pairs := m.pairs.filter p } :=
  ⟨hm.sorted.filter p, fun e he => hm.keys e (List.mem_filter.mp he).1⟩

theorem transform_src_tgt (tf : SepTransform) (sp : SepPair) :
    (sp.transform tf).src = sp.src ∧ (sp.transform tf).tgt = sp.tgt := by
  cases tf <;> exact ⟨rfl, rfl⟩

theorem ite_transform_src_tgt (c : Bool) (tf : SepTransform) (sp : SepPair) :
    (if c then sp.transform tf else sp).src = sp.src ∧ (if c then sp.transform tf else sp).tgt = sp.tgt := by
  split
  · exact transform_src_tgt tf sp
  · exact ⟨rfl, rfl⟩

theorem addSep_src_tgt (sp : SepPair) (gt : GapType) (sd : SepDir) (st : SepType) (g : SZ) :
    (sp.addSep gt sd st g).src = sp.src ∧ (sp.addSep gt sd st g).tgt = sp.tgt := by
  unfold SepPair.addSep
  split
  · exact ⟨rfl, rfl⟩
  · cases sd <;> exact ⟨rfl, rfl⟩

theorem getSepPair_ok (ff : Bool) (m : SepMatrix) (hm : StructOK m) (a b : Nat) (sp : SepPair)
    (h : getSepPair ff m a b = some sp) : key a b = (sp.src, sp.tgt) ∧ sp.src < sp.tgt := by
  unfold getSepPair at h
  split at h
  · cases h
  · rename_i hab
    simp only at h
    cases hl : m.lookup (key a b) with
    | none =>
      simp only [hl, Option.some.injEq] at h
      subst h
      exact ⟨rfl, key_fst_lt_snd hab⟩
    | some sp' =>
      simp only [hl, Option.some.injEq] at h
      have := hm.keys _ (lookupL_mem _ _ _ hl)
      subst h
      cases ff <;> simpa using this

theorem structOK_upsert_got (ff : Bool) (m : SepMatrix) (hm : StructOK m) (a b : Nat) (sp sp' : SepPair)
    (h : getSepPair ff m a b = some sp) (hs : sp'.src = sp.src) (ht : sp'.tgt = sp.tgt) :
    StructOK (m.upsert (key a b) sp') := by
  obtain ⟨h1, h2⟩ := getSepPair_ok ff m hm a b sp h
  exact structOK_upsert m hm _ _ (by rw [hs, ht]; exact h1) (by rw [hs, ht]; exact h2)

theorem structOK_addSep (ff : Bool) (m : SepMatrix) (hm : StructOK m) (a b : Nat) (gt : GapType)
    (sd : SepDir) (st : SepType) (g : SZ) (m' : SepMatrix) (h : m.addSep ff a b gt sd st g = some m') :
    StructOK m' := by
  unfold SepMatrix.addSep at h
  cases hg : getSepPair ff m a b with
  | none => simp [hg] at h
  | some sp =>
    simp only [hg, Option.some.injEq] at h
    subst h
    exact structOK_upsert_got ff m hm a b sp _ hg (addSep_src_tgt ..).1 (addSep_src_tgt ..).2

theorem structOK_addFixed (ff : Bool) (m : SepMatrix) (hm : StructOK m) (a b : Nat) (dx dy : SZ)
    (m' : SepMatrix) (h : m.addFixedRelativeSep ff a b dx dy = some m') : StructOK m' := by
  unfold SepMatrix.addFixedRelativeSep at h
  cases hg : getSepPair ff m a b with
  | none => simp [hg] at h
  | some sp =>
    simp only [hg, Option.some.injEq] at h
    subst h
    exact structOK_upsert_got ff m hm a b sp _ hg ((addSep_src_tgt ..).1.trans (addSep_src_tgt ..).1)
      ((addSep_src_tgt ..).2.trans (addSep_src_tgt ..).2)

theorem structOK_checkSepPair (m : SepMatrix) (hm : StructOK m) (a b : Nat) :
    StructOK (checkSepPair m a b).1 := by
  unfold checkSepPair
  split
  · exact hm
  · simp only
    cases hl : m.lookup (key a b) with
    | none => exact hm
    | some sp =>
      have := hm.keys _ (lookupL_mem _ _ _ hl)
      exact structOK_upsert m hm _ _ this.1 this.2

theorem getCardinalDir_fst (m : SepMatrix) (a b : Nat) : (m.getCardinalDir a b).1 = (checkSepPair m a b).1 := by
  unfold SepMatrix.getCardinalDir
  generalize checkSepPair m a b = r
  obtain ⟨m', _ | sp⟩ := r
  · rfl
  · dsimp only; split <;> rfl

theorem areHAligned_fst (m : SepMatrix) (a b : Nat) : (m.areHAligned a b).1 = (checkSepPair m a b).1 := by
  unfold SepMatrix.areHAligned
  generalize checkSepPair m a b = r
  obtain ⟨m', _ | sp⟩ := r <;> rfl

theorem areVAligned_fst (m : SepMatrix) (a b : Nat) : (m.areVAligned a b).1 = (checkSepPair m a b).1 := by
  unfold SepMatrix.areVAligned
  generalize checkSepPair m a b = r
  obtain ⟨m', _ | sp⟩ := r <;> rfl

theorem structOK_orThrow {m : SepMatrix} (hm : StructOK m) {o : Option SepMatrix}
    (h : ∀ m', o = some m' → StructOK m') :
    StructOK (match o with | some m' => (m', OpRes.done) | none => (m, OpRes.threw)).1 := by
  cases o with
  | none => exact hm
  | some m' => exact h m' rfl

theorem structOK_step (ff : Bool) (m : SepMatrix) (hm : StructOK m) (op : Op) : StructOK (op.step ff m).1 := by
  cases op with
  | addSep a b gt sd st g => exact structOK_orThrow hm (structOK_addSep ff m hm a b gt sd st g)
  | addFixedRelativeSep a b dx dy => exact structOK_orThrow hm (structOK_addFixed ff m hm a b dx dy)
  | setCardinalOP a b d => exact structOK_orThrow hm (structOK_addSep ff m hm a b _ _ _ _)
  | hAlign a b => exact structOK_orThrow hm (structOK_addSep ff m hm a b _ _ _ _)
  | vAlign a b => exact structOK_orThrow hm (structOK_addSep ff m hm a b _ _ _ _)
  | alignByEquatedCoord a b d =>
    cases d <;> exact structOK_orThrow hm (structOK_addSep ff m hm a b _ _ _ _)
  | free a b =>
    simp only [Op.step, SepMatrix.free]
    split
    · exact hm
    · exact structOK_filter m hm _
  | removeNode a => exact structOK_filter m hm _
  | clear => exact ⟨List.Pairwise.nil, fun e he => by cases he⟩
  | transform tf => exact structOK_mapPairs m hm _ fun _ sp => transform_src_tgt tf sp
  | transformClosed tf ids =>
    exact structOK_mapPairs m hm (fun k sp => if ids.contains k.1 && ids.contains k.2 then sp.transform tf else sp)
      fun _ sp => ite_transform_src_tgt _ tf sp
  | transformOpen tf ids =>
    exact structOK_mapPairs m hm (fun k sp => if ids.contains k.1 || ids.contains k.2 then sp.transform tf else sp)
      fun _ sp => ite_transform_src_tgt _ tf sp
  | roundGapsUpward =>
    -- the extra gap is rounded too: the state is not the mapped matrix, but `StructOK` reads `pairs` only
    have := structOK_mapPairs m hm (fun _ sp => sp.roundGapsUpAbs) fun _ _ => ⟨rfl, rfl⟩
    exact ⟨this.sorted, this.keys⟩
  | setExtraBdryGap e => exact ⟨hm.sorted, hm.keys⟩
  | getCardinalDir a b => exact getCardinalDir_fst m a b ▸ structOK_checkSepPair m hm a b
  | areHAligned a b => exact areHAligned_fst m a b ▸ structOK_checkSepPair m hm a b
  | areVAligned a b => exact areVAligned_fst m a b ▸ structOK_checkSepPair m hm a b

theorem structOK_runOps (ff : Bool) (ops : List Op) : ∀ m : SepMatrix, StructOK m → StructOK (runOps ff m ops) := by
  induction ops with
  | nil => intro m hm; exact hm
  | cons op rest ih => intro m hm; exact ih _ (structOK_step ff m hm op)

end AdaptaVerif.Lemmas.Sep
