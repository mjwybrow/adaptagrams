/-
C06: the queueing part of every API call (`enqueue`) keeps the queue invariant and changes what
the queue promises (`pending`) exactly as the immediate semantics `applyOp` changes the abstract
scene. Every call sets ONE entry of the map object ↦ (object, queued action): the three list edits of the code
are `SetAct.append / .updFirst / .eraseFirst`, and `step_obst` / `step_conn` give the invariant and the new promise
from the new entry alone.
-/
import AdaptaVerif.Lemmas.ActionQueueInv
namespace AdaptaVerif.Lemmas.ActionQueue
open AdaptaVerif.Model.ActionQueue AdaptaVerif.Spec.Scene

/-! ### the scene look-ups: after an object is added, and what the preconditions `idUsed` / `obstIs` say of them -/

theorem findObst_append (sc : Scene) (o : Obst) (id : Nat) :
    findObst { sc with obsts := sc.obsts ++ [o] } id
      = (findObst sc id).or (if o.id = id then some o else none) := by
  unfold findObst
  simp only [find?_append_one, beq_iff_eq]

theorem findConn_append (sc : Scene) (c : Conn) (id : Nat) :
    findConn { sc with conns := sc.conns ++ [c] } id
      = (findConn sc id).or (if c.id = id then some c else none) := by
  unfold findConn
  simp only [find?_append_one, beq_iff_eq]

theorem findObst_append_ne (sc : Scene) (o : Obst) (i : Nat) (h : o.id ≠ i) :
    findObst { sc with obsts := sc.obsts ++ [o] } i = findObst sc i := by
  rw [findObst_append, if_neg h, Option.or_none]

theorem findConn_append_ne (sc : Scene) (c : Conn) (i : Nat) (h : c.id ≠ i) :
    findConn { sc with conns := sc.conns ++ [c] } i = findConn sc i := by
  rw [findConn_append, if_neg h, Option.or_none]

theorem fresh_of_not_idUsed {st : State} {id : Nat} (h : idUsed st id = false) :
    findObst st.scene id = none ∧ findConn st.scene id = none := by
  unfold idUsed at h
  simp only [Bool.or_eq_false_iff, List.any_eq_false, beq_iff_eq] at h
  unfold findObst findConn
  simp only [List.find?_eq_none, beq_iff_eq]
  exact h

theorem findObst_of_obstIs {st : State} {j : Bool} {id : Nat} (h : obstIs st j id = true) :
    ∃ o, findObst st.scene id = some o ∧ o.isJ = j := by
  unfold obstIs at h
  cases hf : findObst st.scene id with
  | none => simp [hf] at h
  | some o => exact ⟨o, rfl, by simpa [hf] using h⟩

/-! ### the three ways a call edits the queue, as edits of ONE entry -/

theorem act_append (q : List Action) (a : Action) (b : Bool) (id : Nat) :
    act (q ++ [a]) b id = (act q b id).or (if a.isConn = b ∧ a.id = id then some a else none) := by
  unfold act
  rw [find?_append_one]
  simp only [Bool.and_eq_true, beq_iff_eq]

theorem act_map (q : List Action) (g : Action → Action) (hk : ∀ a, (g a).isConn = a.isConn) (hi : ∀ a, (g a).id = a.id)
    (b : Bool) (id : Nat) : act (q.map g) b id = (act q b id).map g := by
  unfold act
  rw [List.find?_map]
  congr 2
  funext a
  simp [hk, hi]

theorem act_filter {q : List Action} (hu : q.Pairwise Rel) (r : Action → Bool) (b : Bool) (id : Nat) :
    act (q.filter r) b id = (act q b id).filter r := by
  unfold act
  rw [List.find?_filter]
  simp only [Bool.decide_and, Bool.decide_eq_true]
  exact find?_and r _ q (uniq_act hu b id)

/-- `q'` is `q` with the entry of the object `(b, id)` set to `r` -/
structure SetAct (q q' : List Action) (b : Bool) (id : Nat) (r : Option Action) : Prop where
  uniq : q'.Pairwise Rel
  other : ∀ b' i, ¬(b' = b ∧ i = id) → act q' b' i = act q b' i
  entry : act q' b id = r

theorem SetAct.refl {q : List Action} (hu : q.Pairwise Rel) (b : Bool) (id : Nat) : SetAct q q b id (act q b id) :=
  ⟨hu, fun _ _ _ => rfl, rfl⟩

theorem SetAct.trans {q q' q'' : List Action} {b : Bool} {id : Nat} {r r' : Option Action} (h : SetAct q q' b id r)
    (h' : SetAct q' q'' b id r') : SetAct q q'' b id r' :=
  ⟨h'.uniq, fun b' i hn => (h'.other b' i hn).trans (h.other b' i hn), h'.entry⟩

/-- `actionList.push_back` for an object that has no entry -/
theorem SetAct.append {q : List Action} (hu : q.Pairwise Rel) (a : Action) (hn : act q a.isConn a.id = none) :
    SetAct q (q ++ [a]) a.isConn a.id (some a) := by
  refine ⟨List.pairwise_append.2 ⟨hu, List.pairwise_singleton _ _, fun b hb c hc hbc hi => ?_⟩, fun b' i hne => ?_, ?_⟩
  · cases List.mem_singleton.1 hc
    have := act_of_mem hu hb
    rw [hbc, hi, hn] at this
    cases this
  · rw [act_append, if_neg fun hh => hne ⟨hh.1.symm, hh.2.symm⟩, Option.or_none]
  · rw [act_append, hn]; simp

/-- `found->… = …` through `find(…, ActionInfo(kind, obj))`, on a field other than kind and id -/
theorem SetAct.updFirst {q : List Action} (hu : q.Pairwise Rel) {b : Bool} {id : Nat} {a : Action}
    (ha : act q b id = some a) (f : Action → Action) (hk : ∀ x, (f x).kind = x.kind) (hi : ∀ x, (f x).id = x.id) :
    SetAct q (updFirst (fun x => x.kind == a.kind && x.id == id) f q) b id (some (f a)) := by
  obtain ⟨_, hab, hai⟩ := act_some ha
  rw [updFirst_eq_map _ _ _ (uniq_kind_id hu a.kind id)]
  have hgk : ∀ x : Action, (if (x.kind == a.kind && x.id == id) = true then f x else x).isConn = x.isConn := by
    intro x; split <;> simp [Action.isConn, hk]
  have hgi : ∀ x : Action, (if (x.kind == a.kind && x.id == id) = true then f x else x).id = x.id := by
    intro x; split <;> simp [hi]
  refine ⟨List.Pairwise.map _ (fun x y hr => by unfold Rel; rw [hgk, hgk, hgi, hgi]; exact hr) hu, fun b' i hne => ?_, ?_⟩
  · rw [act_map _ _ hgk hgi]
    cases hc : act q b' i with
    | none => rfl
    | some c =>
      obtain ⟨_, hcb, hci⟩ := act_some hc
      rw [Option.map_some, if_neg]
      intro hh
      simp only [Bool.and_eq_true, beq_iff_eq] at hh
      exact hne ⟨by rw [← hcb, ← hab]; unfold Action.isConn; rw [hh.1], hci ▸ hh.2⟩
  · rw [act_map _ _ hgk hgi, ha]; simp [hai]

/-- `actionList.erase(find(…, ActionInfo(k, obj)))` -/
theorem SetAct.eraseFirst {q : List Action} (hu : q.Pairwise Rel) (k : Kind) (id : Nat) {b : Bool}
    (hb : (k == .connChange) = b) :
    SetAct q (eraseFirst (fun x => x.kind == k && x.id == id) q) b id ((act q b id).filter (·.kind != k)) := by
  rw [eraseFirst_eq_filter _ _ (uniq_kind_id hu k id)]
  refine ⟨hu.filter _, fun b' i hne => ?_, ?_⟩
  · rw [act_filter hu]
    cases hc : act q b' i with
    | none => rfl
    | some c =>
      obtain ⟨_, hcb, hci⟩ := act_some hc
      have : (c.kind == k && c.id == id) = false := by
        rw [Bool.eq_false_iff]
        intro hh
        simp only [Bool.and_eq_true, beq_iff_eq] at hh
        exact hne ⟨by rw [← hcb, ← hb]; unfold Action.isConn; rw [hh.1], hci ▸ hh.2⟩
      simp [Option.filter, this]
  · rw [act_filter hu]
    cases hc : act q b id with
    | none => rfl
    | some c => simp [Option.filter, (act_some hc).2.2]

/-! ### frame: a call that sets the entry of ONE object keeps the invariant if the new entry is in order, and changes
    the promise at that object only -/

theorem step_obst {st st' : State} (h : Inv st) {id : Nat} {x : Option Obst} {r : Option Action}
    (hq : SetAct st.queue st'.queue false id r) (hcs : st'.scene.conns = st.scene.conns)
    (ho : ∀ i, i ≠ id → findObst st'.scene i = findObst st.scene i) (hx : findObst st'.scene id = x)
    (hok : OkO x r) :
    Inv st' ∧ pending st' = { pending st with obst := upd (pending st).obst id (absO id x r) } := by
  have hc := fun c => findConn_congr hcs c
  have hqc := fun c => hq.other true c (fun hh => absurd hh.1 (by decide))
  refine ⟨Inv.of_ok hq.uniq (by unfold ConnUniq; rw [hcs]; exact h.connFind) (fun i => ?_) (fun c => ?_), ?_⟩
  · by_cases hi : i = id
    · rw [hi, hx, hq.entry]; exact hok
    · rw [ho i hi, hq.other false i fun hh => hi hh.2]; exact h.okO i
  · rw [hc, hqc]; exact h.okC c
  · refine AScene.ext' (fun i => ?_) fun c => ?_
    · rw [pending_obst st' hq.uniq]
      by_cases hi : i = id
      · simp [upd, hi, hx, hq.entry]
      · simp only [upd, hi, if_false]
        rw [pending_obst st h.uniq, ho i hi, hq.other false i fun hh => hi hh.2]
    · rw [pending_conn, pending_conn, hc, hqc]

theorem step_conn {st st' : State} (h : Inv st) {c : Nat} {x : Option Conn} {r : Option Action}
    (hq : SetAct st.queue st'.queue true c r) (hos : st'.scene.obsts = st.scene.obsts) (hcu : ConnUniq st'.scene)
    (hc : ∀ i, i ≠ c → findConn st'.scene i = findConn st.scene i) (hx : findConn st'.scene c = x)
    (hok : OkC x r) :
    Inv st' ∧ pending st' = { pending st with conn := upd (pending st).conn c (absC x r) } := by
  have ho := fun i => findObst_congr hos i
  have hqo := fun i => hq.other false i (fun hh => absurd hh.1 (by decide))
  refine ⟨Inv.of_ok hq.uniq hcu (fun i => ?_) (fun i => ?_), ?_⟩
  · rw [ho, hqo]; exact h.okO i
  · by_cases hi : i = c
    · rw [hi, hx, hq.entry]; exact hok
    · rw [hc i hi, hq.other true i fun hh => hi hh.2]; exact h.okC i
  · refine AScene.ext' (fun i => ?_) fun i => ?_
    · rw [pending_obst st' hq.uniq, pending_obst st h.uniq, ho, hqo]
    · rw [pending_conn]
      by_cases hi : i = c
      · simp [upd, hi, hx, hq.entry]
      · simp only [upd, hi, if_false]
        rw [pending_conn, hc i hi, hq.other true i fun hh => hi hh.2]

theorem OkO.map {x : Option Obst} {r : Option Action} (h : OkO x r) (f : Obst → Obst) (hf : ∀ o, (f o).active = o.active) :
    OkO (x.map f) r := by
  refine ⟨fun a ha => ⟨by simpa using (h.1 a ha).1, (h.1 a ha).2⟩, fun o' ho' hact => ?_⟩
  obtain ⟨o, rfl, rfl⟩ := Option.map_eq_some_iff.1 ho'
  exact h.2 o rfl (hf o ▸ hact)

theorem OkO.set {x : Option Obst} {a : Action} (hx : x.isSome = true) (hd : a.conns.Pairwise fun u v => u.1 ≠ v.1)
    (hadd : ∀ o, x = some o → o.active = false → a.kind = .add) : OkO x (some a) :=
  ⟨fun _ e => Option.some.inj e ▸ ⟨hx, hd⟩, fun o ho hact => by simp [Option.filter, hadd o ho hact]⟩

theorem enqueue_addObst (st : State) (j : Bool) (id : Nat) (g : Poly) (h : Inv st)
    (hfresh : idUsed st id = false) :
    Inv (enqueue st (.addObst j id g)).1
      ∧ pending (enqueue st (.addObst j id g)).1 = applyOp (pending st) (.addObst j id g) := by
  obtain ⟨hfo, _⟩ := fresh_of_not_idUsed hfresh
  have hact : act st.queue false id = none := by
    cases hact : act st.queue false id with
    | none => rfl
    | some a => have := ((h.okO id).1 a hact).1; rw [hfo] at this; cases this
  have := step_obst h (SetAct.append h.uniq { kind := .add, isJ := j, id := id } hact)
    (st' := { st with scene := { st.scene with obsts := st.scene.obsts ++ [{ id := id, isJ := j, geom := g, active := false }] },
                      queue := _ }) rfl
    (fun i hi => findObst_append_ne _ _ i (Ne.symm hi))
    (x := some { id := id, isJ := j, geom := g, active := false }) (by rw [findObst_append, hfo]; simp)
    (OkO.set rfl List.Pairwise.nil fun _ _ _ => rfl)
  simpa [enqueue, hasAct_obst h.uniq, hact, Option.filter, applyOp, absO_add] using this

theorem enqMoveAbs_spec (st : State) (j : Bool) (id : Nat) (g : Poly) (fm : Bool) (h : Inv st)
    (ho : obstIs st j id = true) (hr : hasAct st.queue .remove id = false) :
    Inv (enqMoveAbs st j id g fm).1
      ∧ pending (enqMoveAbs st j id g fm).1 = applyOp (pending st) (.moveAbs j id g fm) := by
  obtain ⟨o, hfo, _⟩ := findObst_of_obstIs ho
  have hok := h.okO id
  have hA := fun {k} hk => hasAct_obst h.uniq (k := k) hk id
  rw [hA (by decide)] at hr
  simp only [applyOp, pending_obst st h.uniq, hfo]
  unfold enqMoveAbs
  simp only [hA (k := .add) (by decide), hA (k := .move) (by decide)]
  rw [hfo] at hok
  cases hact : act st.queue false id with
  | none =>
    -- no action queued: the obstacle is active, a `Move` is appended
    rw [hact] at hok
    have hoa : o.active = true := by
      cases hoa : o.active with
      | true => rfl
      | false => cases hok.2 o rfl hoa
    have := step_obst h (SetAct.append h.uniq { kind := .move, isJ := j, id := id, geom := g, firstMove := fm } hact)
      (st' := { st with queue := _ }) rfl (fun _ _ => rfl) hfo
      (OkO.set rfl List.Pairwise.nil fun o' ho' hia => by cases ho'; rw [hoa] at hia; cases hia)
    simpa [Option.filter, absO_move, absO_none, viewObst, hoa] using this
  | some a =>
    obtain ⟨_, hac, hai⟩ := act_some hact
    rw [hact] at hok hr
    cases hk : a.kind with
    | remove => simp [Option.filter, hk] at hr
    | connChange => rw [(isConn_iff a).2 hk] at hac; cases hac
    | add =>
      -- "the Add is enough": the polygon is written into the object
      have e1 := fun i => findObst_mapObst st.scene id i (fun o => { o with geom := g }) (fun _ => rfl)
      have := step_obst h (hact ▸ SetAct.refl h.uniq false id)
        (st' := { st with scene := mapObst st.scene id fun o => { o with geom := g } }) rfl
        (fun i hi => by rw [e1, if_neg hi]) ((e1 id).trans (by rw [if_pos rfl, hfo]))
        (hok.map (fun o => { o with geom := g }) fun _ => rfl)
      simpa [Option.filter, hk, hai, absO_add] using this
    | move =>
      -- the queued `Move` gets the new polygon and keeps its `firstMove`
      have hs := SetAct.updFirst h.uniq hact (fun a => { a with geom := g }) (fun _ => rfl) (fun _ => rfl)
      rw [hk] at hs
      have := step_obst h hs (st' := { st with queue := _ }) rfl (fun _ _ => rfl) hfo
        (OkO.set rfl (hok.1 a rfl).2 fun o' ho' hia => by simpa [Option.filter, hk] using hok.2 o' ho' hia)
      simpa [Option.filter, hk, hai, absO_move] using this

theorem pending_relBase (st : State) (id : Nat) (jj : Bool) (base : Poly)
    (hp : (pending st).obst id = some (jj, base)) : base = relBase st id := by
  simp only [pending] at hp
  unfold relBase
  cases hfo : findObst st.scene id with
  | none => simp [hfo] at hp
  | some o =>
    simp only [hfo] at hp ⊢
    cases hmv : findAct st.queue .move id with
    | some a =>
      simp only [hmv] at hp ⊢
      split at hp
      · cases hp
      · simp only [Option.some.injEq, Prod.mk.injEq] at hp; exact hp.2.symm
    | none =>
      simp only [hmv] at hp ⊢
      split at hp
      · cases hp
      · split at hp
        · simp only [Option.some.injEq, Prod.mk.injEq] at hp; exact hp.2.symm
        · cases hp

theorem applyOp_moveRel (st : State) (j : Bool) (id : Nat) (dx dy : Rat) :
    applyOp (pending st) (.moveRel j id dx dy)
      = applyOp (pending st) (.moveAbs j id (translate (relBase st id) dx dy) false) := by
  simp only [applyOp]
  cases hp : (pending st).obst id with
  | none => rfl
  | some v =>
    obtain ⟨jj, base⟩ := v
    simp only [Option.map_some, pending_relBase st id jj base hp]

theorem enqueue_delete (st : State) (j : Bool) (id : Nat) (h : Inv st)
    (ho : obstIs st j id = true) (ha : hasAct st.queue .add id = false)
    (hr : hasAct st.queue .remove id = false) :
    Inv (enqueue st (.delete j id)).1
      ∧ pending (enqueue st (.delete j id)).1 = applyOp (pending st) (.delete j id) := by
  obtain ⟨o, hfo, _⟩ := findObst_of_obstIs ho
  rw [hasAct_obst h.uniq (by decide)] at ha hr
  -- neither `Add` nor `Remove` queued: the entry is empty or a `Move`, which is erased; the obstacle is active
  have he := SetAct.eraseFirst h.uniq .move id (b := false) rfl
  have hn : (act st.queue false id).filter (·.kind != .move) = none := by
    cases hact : act st.queue false id with
    | none => rfl
    | some a =>
      have := (isConn_false_iff a).1 (act_some hact).2.1
      cases hk : a.kind <;> simp_all [Option.filter]
  rw [hn] at he
  have := step_obst h (he.trans (SetAct.append he.uniq { kind := .remove, isJ := j, id := id } he.entry))
    (st' := { st with queue := _ }) rfl (fun _ _ => rfl) hfo
    (OkO.set rfl List.Pairwise.nil fun o' ho' hia => by
      rw [(h.okO id).2 o' (hfo.trans ho') hia] at ha; cases ha)
  have hrm : hasAct (eraseFirst (fun a => a.kind == .move && a.id == id) st.queue) .remove id = false := by
    rw [hasAct_obst he.uniq (by decide), he.entry]; rfl
  simpa [enqueue, hrm, applyOp, absO_remove] using this

theorem enqueue_newConn (st : State) (id : Nat) (h : Inv st) (hfresh : idUsed st id = false) :
    Inv (enqueue st (.newConn id)).1
      ∧ pending (enqueue st (.newConn id)).1 = applyOp (pending st) (.newConn id) := by
  obtain ⟨_, hfc⟩ := fresh_of_not_idUsed hfresh
  have hact : act st.queue true id = none := by
    cases hact : act st.queue true id with
    | none => rfl
    | some a => have := (h.okC id a hact).1; rw [hfc] at this; cases this
  have hcu : ((st.scene.conns ++ [({ id := id } : Conn)]).map (·.id)).Nodup := by
    rw [List.map_append, List.nodup_append]
    refine ⟨h.connFind, by simp, ?_⟩
    intro a ha b hb hab
    simp only [List.map_cons, List.map_nil, List.mem_singleton] at hb
    obtain ⟨k, hk, hki⟩ := List.mem_map.1 ha
    have := List.find?_eq_none.1 (show st.scene.conns.find? (·.id == id) = none from hfc) k hk
    simp only [beq_iff_eq] at this
    exact this (by rw [hki, hab, hb])
  have := step_conn (r := none) h (hact ▸ SetAct.refl h.uniq true id)
    (st' := { st with scene := { st.scene with conns := st.scene.conns ++ [{ id := id }] } }) rfl hcu
    (fun i hi => findConn_append_ne _ _ i (Ne.symm hi)) (x := some { id := id }) (by rw [findConn_append, hfc]; simp) nofun
  simpa [enqueue, applyOp, absC] using this

theorem enqueue_setEndpoint (st : State) (c : Nat) (e : End) (p : CEnd) (h : Inv st)
    (hc : (findConn st.scene c).isSome = true) :
    Inv (enqueue st (.setEndpoint c e p)).1
      ∧ pending (enqueue st (.setEndpoint c e p)).1 = applyOp (pending st) (.setEndpoint c e p) := by
  obtain ⟨k, hfc⟩ := Option.isSome_iff_exists.1 hc
  simp only [enqueue, modifyConnector, hasAct, findAct_conn_eq, applyOp, pending_conn, hfc]
  cases hact : act st.queue true c with
  | none =>
    have := step_conn h (SetAct.append h.uniq { kind := .connChange, id := c, conns := [(e, p)] } hact)
      (st' := { st with queue := _ }) rfl h.connFind (fun _ _ => rfl) hfc
      (fun _ ha => Option.some.inj ha ▸ ⟨rfl, List.pairwise_singleton _ _⟩)
    simpa [absC, Conn.applyUpdates, setEnd_ends] using this
  | some a =>
    -- the queued `ConnChange` absorbs the user's change (`addConnEndUpdate`)
    have hk := (isConn_iff a).1 (act_some hact).2.1
    have hs := SetAct.updFirst h.uniq hact (fun a => { a with conns := addConnEndUpdate a.conns e p false })
      (fun _ => rfl) (fun _ => rfl)
    rw [hk] at hs
    have hd := (h.okC c a hact).2
    have := step_conn h hs (st' := { st with queue := _ }) rfl h.connFind (fun _ _ => rfl) hfc
      (fun _ ha => Option.some.inj ha ▸ ⟨rfl, addConnEndUpdate_distinct _ _ _ _ hd⟩)
    simpa [absC, applyUpdates_addConnEndUpdate _ _ _ _ hd, setEnd_ends] using this

theorem legalCall_of_legal {st : State} {op : Op} (hl : legal st op = true) : legalCall st op = true := by
  unfold legal at hl
  rw [Bool.and_eq_true] at hl
  exact hl.1

theorem enqueue_spec (st : State) (op : Op) (h : Inv st) (hl : legal st op = true) :
    Inv (enqueue st op).1 ∧ pending (enqueue st op).1 = applyOp (pending st) op := by
  replace hl := legalCall_of_legal hl
  cases op with
  | addObst j id g =>
    simp only [legalCall, Bool.and_eq_true, Bool.not_eq_true'] at hl
    exact enqueue_addObst st j id g h hl.1.2
  | moveAbs j id g fm =>
    simp only [legalCall, Bool.and_eq_true, Bool.not_eq_true'] at hl
    exact enqMoveAbs_spec st j id g fm h hl.1.1.1 hl.1.1.2
  | moveRel j id dx dy =>
    simp only [legalCall, Bool.and_eq_true, Bool.not_eq_true'] at hl
    rw [applyOp_moveRel]
    exact enqMoveAbs_spec st j id _ false h hl.1 hl.2
  | delete j id =>
    simp only [legalCall, Bool.and_eq_true, Bool.not_eq_true'] at hl
    exact enqueue_delete st j id h hl.1.1 hl.1.2 hl.2
  | newConn id =>
    simp only [legalCall, Bool.and_eq_true, Bool.not_eq_true'] at hl
    exact enqueue_newConn st id h hl.2
  | setEndpoint c e p =>
    simp only [legalCall, Bool.and_eq_true] at hl
    exact enqueue_setEndpoint st c e p h hl.1
  | newPin o cl xo yo => exact ⟨h, rfl⟩
  | setTransactionUse b =>
    -- neither `Inv` nor `pending` looks at the transaction flag
    exact ⟨⟨h.uniq, h.obstRef, h.connRef, h.inactiveAdd, h.endsDistinct, h.connFind⟩, rfl⟩
  | processTransaction => exact ⟨h, rfl⟩

end AdaptaVerif.Lemmas.ActionQueue
