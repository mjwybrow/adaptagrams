/-
Strict weak orders for the comparators adaptagrams hands to `std::set`, `std::sort`,
`std::list::sort` and the pairing heap (C++ [alg.sorting]: a comparator that is not a strict weak
order is undefined behaviour, and what it treats as equivalent decides which elements a set keeps).

`cmpBy k rest` is the shape almost all of them have: "if the keys differ, compare the keys, else
`rest`".  A chain of `cmpBy` over linearly ordered keys ending in `fun _ _ => false` is a strict
weak order whose equivalence is equality of all keys.  Core Lean only.
-/
import AdaptaVerif.Lemmas.Util.InsertionSort
namespace AdaptaVerif.Lemmas.SWO

/-- strict weak order, the requirement of C++ `Compare` -/
structure IsSWO {α : Type} (lt : α → α → Bool) : Prop where
  irrefl : ∀ a, lt a a = false
  trans : ∀ a b c, lt a b = true → lt b c = true → lt a c = true
  incomp_trans : ∀ a b c, lt a b = false → lt b a = false → lt b c = false → lt c b = false →
      lt a c = false ∧ lt c a = false

/-- what `std::set` treats as "the same element" -/
def Incomp {α : Type} (lt : α → α → Bool) (a b : α) : Prop := lt a b = false ∧ lt b a = false

theorem IsSWO.asymm {α : Type} {lt : α → α → Bool} (h : IsSWO lt) (a b : α) : lt a b = true → lt b a = false := by
  intro hab
  cases hba : lt b a with
  | false => rfl
  | true => have := h.trans a b a hab hba; rw [h.irrefl] at this; exact absurd this (by simp)

theorem IsSWO.negTrans {α : Type} {lt : α → α → Bool} (h : IsSWO lt) (a b c : α)
    (h1 : lt a b = false) (h2 : lt b c = false) : lt a c = false := by
  cases hac : lt a c with
  | false => rfl
  | true =>
    cases hba : lt b a with
    | true => have := h.trans b a c hba hac; simp [h2] at this
    | false =>
      cases hcb : lt c b with
      | true => have := h.trans a c b hac hcb; simp [h1] at this
      | false => have := (h.incomp_trans a b c h1 hba h2 hcb).1; simp [hac] at this

theorem IsSWO.sortsBy {α : Type} {lt : α → α → Bool} (h : IsSWO lt) (D : α → Prop) :
    Util.SortsBy (fun a b => lt a b = true) (fun a b => lt b a = false) D :=
  ⟨fun a b _ _ => h.asymm a b, fun _ _ _ _ => Bool.eq_false_iff.2, fun a b c _ _ _ hab hbc => h.negTrans c b a hbc hab⟩

/-- linearly ordered key types (stated without Mathlib so that models stay core-only) -/
class LinKey (κ : Type) [LT κ] [DecidableEq κ] [DecidableLT κ] : Prop where
  irrefl : ∀ a : κ, ¬ a < a
  trans : ∀ a b c : κ, a < b → b < c → a < c
  tri : ∀ a b : κ, a < b ∨ a = b ∨ b < a

instance : LinKey Nat := ⟨by omega, by omega, by omega⟩
instance : LinKey Int := ⟨by omega, by omega, by omega⟩
instance : LinKey Rat := ⟨by grind, by grind, by grind⟩

def cmpBy {α κ : Type} [LT κ] [DecidableEq κ] [DecidableLT κ] (k : α → κ) (rest : α → α → Bool) (a b : α) : Bool :=
  if k a ≠ k b then decide (k a < k b) else rest a b

theorem swo_false {α : Type} : IsSWO (fun (_ _ : α) => false) := ⟨by simp, by simp, by simp⟩

theorem incomp_false {α : Type} (a b : α) : Incomp (fun (_ _ : α) => false) a b := ⟨rfl, rfl⟩

theorem swo_cmpBy {α κ : Type} [LT κ] [DecidableEq κ] [DecidableLT κ] [LinKey κ] (k : α → κ) {rest : α → α → Bool}
    (h : IsSWO rest) : IsSWO (cmpBy k rest) := by
  constructor
  · intro a; simp [cmpBy, h.irrefl]
  · intro a b c
    simp only [cmpBy]
    have i2 := LinKey.irrefl (k b)
    have tr := @LinKey.trans κ _ _ _ _
    have hr := h.trans a b c
    grind
  · intro a b c
    simp only [cmpBy]
    have t1 := LinKey.tri (k a) (k b); have t2 := LinKey.tri (k b) (k c)
    have tr := @LinKey.trans κ _ _ _ _
    have hr := h.incomp_trans a b c
    grind

theorem incomp_cmpBy {α κ : Type} [LT κ] [DecidableEq κ] [DecidableLT κ] [LinKey κ] (k : α → κ) (rest : α → α → Bool) (a b : α) :
    Incomp (cmpBy k rest) a b ↔ k a = k b ∧ Incomp rest a b := by
  simp only [Incomp, cmpBy]
  have t1 := LinKey.tri (k a) (k b)
  grind

theorem cmpBy_of_ne {α κ : Type} [LT κ] [DecidableEq κ] [DecidableLT κ] (k : α → κ) (r1 r2 : α → α → Bool) (a b : α)
    (h : k a ≠ k b) : cmpBy k r1 a b = cmpBy k r2 a b := by
  simp [cmpBy, h]

theorem cmpBy_total_of_ne {α κ : Type} [LT κ] [DecidableEq κ] [DecidableLT κ] [LinKey κ] (k : α → κ) (rest : α → α → Bool) (a b : α)
    (h : k a ≠ k b) : cmpBy k rest a b = !cmpBy k rest b a := by
  simp only [cmpBy]
  have t1 := LinKey.tri (k a) (k b)
  have i1 := LinKey.irrefl (k a)
  have tr := @LinKey.trans κ _ _ _ _
  grind

end AdaptaVerif.Lemmas.SWO
