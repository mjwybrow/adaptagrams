/-
The checkers of Check/Route.lean decide the predicates of Spec/Route.lean: `clip` (`clip_iff`), the clipping test
(`segHitsOriented_iff`), the route checker (`routeValid_iff`); a hit with a margin is a hit.
-/
import AdaptaVerif.Spec.Route
import Mathlib.Tactic.Linarith
import Mathlib.Tactic.Ring
import Mathlib.Tactic.FieldSimp
import Mathlib.Algebra.Order.Field.Basic
namespace AdaptaVerif.Lemmas.Route
open AdaptaVerif.Model.Geometry (Pt area2)
open AdaptaVerif.Check.Route AdaptaVerif.Spec.Route

theorem rmax_lt_iff (a b t : Rat) : rmax a b < t ↔ a < t ∧ b < t := by
  have : rmax a b = max a b := by
    unfold rmax; split_ifs with h
    · exact (max_eq_right h.le).symm
    · exact (max_eq_left (not_lt.1 h)).symm
  rw [this, max_lt_iff]

theorem lt_rmin_iff (a b t : Rat) : t < rmin a b ↔ t < a ∧ t < b := by
  have : rmin a b = min a b := by
    unfold rmin; split_ifs with h
    · exact (min_eq_right h.le).symm
    · exact (min_eq_left (not_lt.1 h)).symm
  rw [this, lt_min_iff]

theorem lower_iff (c d t : Rat) (hd : 0 < d) : -c / d < t ↔ 0 < c + t * d := by
  rw [div_lt_iff₀ hd]; constructor <;> intro h <;> linarith

theorem upper_iff (c d t : Rat) (hd : d < 0) : t < -c / d ↔ 0 < c + t * d := by
  rw [lt_div_iff_of_neg hd]; constructor <;> intro h <;> linarith

theorem clip_iff (cs : List (Rat × Rat)) : ∀ lo hi : Rat,
    clip cs lo hi = true ↔ ∃ t : Rat, lo < t ∧ t < hi ∧ ∀ cd ∈ cs, 0 < cd.1 + t * cd.2 := by
  induction cs with
  | nil =>
    intro lo hi
    simp only [clip, decide_eq_true_eq, List.not_mem_nil, false_imp_iff, implies_true, and_true]
    exact ⟨fun h => ⟨(lo + hi) / 2, by linarith, by linarith⟩, fun ⟨t, h1, h2⟩ => h1.trans h2⟩
  | cons cd cs ih =>
    intro lo hi
    obtain ⟨c, d⟩ := cd
    simp only [clip, List.forall_mem_cons]
    split_ifs with hd hd'
    · -- the constraint is a lower bound of t
      rw [ih]
      refine exists_congr fun t => ?_
      rw [rmax_lt_iff, lower_iff c d t hd]
      exact ⟨fun ⟨⟨a, b⟩, e, f⟩ => ⟨a, e, b, f⟩, fun ⟨a, e, b, f⟩ => ⟨⟨a, b⟩, e, f⟩⟩
    · -- an upper bound
      rw [ih]
      refine exists_congr fun t => ?_
      rw [lt_rmin_iff, upper_iff c d t hd']
      exact ⟨fun ⟨a, ⟨e, b⟩, f⟩ => ⟨a, e, b, f⟩, fun ⟨a, e, b, f⟩ => ⟨a, ⟨e, b⟩, f⟩⟩
    · -- constant
      obtain rfl : d = 0 := le_antisymm (not_lt.1 hd) (not_lt.1 hd')
      simp only [Bool.and_eq_true, decide_eq_true_eq, ih, mul_zero, add_zero]
      exact ⟨fun ⟨hc, t, a, e, f⟩ => ⟨t, a, e, hc, f⟩, fun ⟨t, a, e, hc, f⟩ => ⟨hc, t, a, e, f⟩⟩

/-! ### the clipping test: the affine constraint of an edge along a segment -/

theorem area2_lerp (a b p q : Pt) (t : Rat) :
    area2 a b (lerp p q t) = area2 a b p + t * (area2 a b q - area2 a b p) := by
  unfold area2 lerp; ring

theorem lerp_zero (p q : Pt) : lerp p q 0 = p := by
  cases p; simp [lerp]

theorem lerp_one (p q : Pt) : lerp p q 1 = q := by
  cases p; cases q; simp [lerp]

theorem lerp_self (p : Pt) (t : Rat) : lerp p p t = p := by
  cases p; simp [lerp]

theorem constraint_iff (s tol : Rat) (p q : Pt) (e : Pt × Pt) (t : Rat) :
    0 < (edgeConstraint s tol p q e).1 + t * (edgeConstraint s tol p q e).2 ↔
      tol * l1 e.1 e.2 < s * area2 e.1 e.2 (lerp p q t) := by
  unfold edgeConstraint
  rw [area2_lerp]
  constructor <;> intro h <;> linarith

theorem insideEdges_iff (s tol : Rat) (es : List (Pt × Pt)) (p : Pt) :
    insideEdges s tol es p = true ↔ ∀ e ∈ es, tol * l1 e.1 e.2 < s * area2 e.1 e.2 p := by
  unfold insideEdges
  simp only [List.all_eq_true, decide_eq_true_eq]

theorem insideBy_iff (s tol : Rat) (poly : Poly) (p : Pt) :
    insideBy s tol poly p = true ↔ InsideOriented s tol poly p := by
  unfold insideBy InsideOriented
  simp only [Bool.and_eq_true, decide_eq_true_eq, insideEdges_iff]

theorem strictlyInsideTol_iff (tol : Rat) (poly : Poly) (p : Pt) :
    strictlyInsideTol tol poly p = true ↔ InsideBy tol poly p := by
  unfold strictlyInsideTol InsideBy
  simp only [Bool.or_eq_true, insideBy_iff]

theorem strictlyInside_iff (poly : Poly) (p : Pt) :
    strictlyInside poly p = true ↔ StrictlyInside poly p :=
  strictlyInsideTol_iff 0 poly p

theorem constraints_iff (s tol : Rat) (poly : Poly) (p q : Pt) (t : Rat) :
    (∀ cd ∈ (polyEdges poly).map (edgeConstraint s tol p q), 0 < cd.1 + t * cd.2) ↔
      ∀ e ∈ polyEdges poly, tol * l1 e.1 e.2 < s * area2 e.1 e.2 (lerp p q t) := by
  constructor
  · intro h e he
    exact (constraint_iff s tol p q e t).mp (h _ (List.mem_map_of_mem he))
  · intro h cd hcd
    obtain ⟨e, he, rfl⟩ := List.mem_map.mp hcd
    exact (constraint_iff s tol p q e t).mpr (h e he)

/-- a constraint violated at both ends of the segment is violated on the whole segment -/
theorem quickReject_sound (cs : List (Rat × Rat)) (h : quickReject cs = true) (t : Rat)
    (h0 : 0 ≤ t) (h1 : t ≤ 1) : ¬ ∀ cd ∈ cs, 0 < cd.1 + t * cd.2 := by
  unfold quickReject at h
  simp only [List.any_eq_true, Bool.and_eq_true, decide_eq_true_eq] at h
  obtain ⟨cd, hcd, hc0, hc1⟩ := h
  intro hall
  have := hall cd hcd
  linarith [mul_nonneg h0 (neg_nonneg.mpr hc1), mul_nonneg (sub_nonneg.mpr h1) (neg_nonneg.mpr hc0)]

theorem segHitsOriented_iff (s tol : Rat) (poly : Poly) (p q : Pt) :
    segHitsOriented s tol poly p q = true ↔
      ∃ t : Rat, 0 ≤ t ∧ t ≤ 1 ∧ InsideOriented s tol poly (lerp p q t) := by
  unfold segHitsOriented
  simp only [Bool.and_eq_true, Bool.not_eq_true', Bool.or_eq_true, insideBy_iff, decide_eq_true_eq, clip_iff]
  constructor
  · rintro ⟨_, (hp | hq) | ⟨hlen, t, ht0, ht1, hc⟩⟩
    · exact ⟨0, le_refl _, by norm_num, by rw [lerp_zero]; exact hp⟩
    · exact ⟨1, by norm_num, le_refl _, by rw [lerp_one]; exact hq⟩
    · exact ⟨t, le_of_lt ht0, le_of_lt ht1, hlen, (constraints_iff s tol poly p q t).mp hc⟩
  · rintro ⟨t, ht0, ht1, hlen, hin⟩
    have hc := (constraints_iff s tol poly p q t).mpr hin
    refine ⟨Bool.eq_false_iff.mpr fun hq => quickReject_sound _ hq t ht0 ht1 hc, ?_⟩
    · by_cases h0 : t = 0
      · subst h0; left; left; rw [lerp_zero] at hin; exact ⟨hlen, hin⟩
      · by_cases h1 : t = 1
        · subst h1; left; right; rw [lerp_one] at hin; exact ⟨hlen, hin⟩
        · right
          exact ⟨hlen, t, lt_of_le_of_ne ht0 (Ne.symm h0), lt_of_le_of_ne ht1 h1, hc⟩

theorem segHitsInteriorTol_iff (tol : Rat) (poly : Poly) (p q : Pt) :
    segHitsInteriorTol tol poly p q = true ↔ SegHitsTol tol poly p q := by
  unfold segHitsInteriorTol SegHitsTol InsideBy
  simp only [Bool.or_eq_true, segHitsOriented_iff, and_or_left, exists_or]

theorem segHitsInterior_iff (poly : Poly) (p q : Pt) :
    segHitsInterior poly p q = true ↔ SegHits poly p q :=
  segHitsInteriorTol_iff 0 poly p q

/-! ### the route checker -/

theorem legHitsAny_iff (tol : Rat) (excl : List Nat) (l : Pt × Pt) :
    ∀ (shapes : List Poly) (i0 : Nat), legHitsAny tol excl shapes i0 l = true ↔
      ∃ j, ∃ h : j < shapes.length, (i0 + j) ∉ excl ∧ SegHitsTol tol shapes[j] l.1 l.2 := by
  intro shapes
  induction shapes with
  | nil => intro i0; simp [legHitsAny]
  | cons s ss ih =>
    intro i0
    unfold legHitsAny
    simp only [Bool.or_eq_true, Bool.and_eq_true, Bool.not_eq_true', ih, segHitsInteriorTol_iff]
    constructor
    · rintro (⟨hex, hh⟩ | ⟨j, hj, hne, hh⟩)
      · refine ⟨0, by simp, ?_, by simpa using hh⟩
        simpa [List.contains_iff_mem] using hex
      · refine ⟨j + 1, by simpa using hj, ?_, by simpa using hh⟩
        have : i0 + (j + 1) = i0 + 1 + j := by omega
        rw [this]; exact hne
    · rintro ⟨j, hj, hne, hh⟩
      cases j with
      | zero =>
        left
        refine ⟨?_, by simpa using hh⟩
        simpa [List.contains_iff_mem] using hne
      | succ j =>
        right
        refine ⟨j, by simpa using hj, ?_, by simpa using hh⟩
        have : i0 + 1 + j = i0 + (j + 1) := by omega
        rw [this]; exact hne

theorem legUnblocked_iff (tol : Rat) (excl : List Nat) (shapes : List Poly) (l : Pt × Pt) :
    legHitsAny tol excl shapes 0 l = false ↔ UnblockedTol tol shapes excl l.1 l.2 := by
  rw [← Bool.not_eq_true, legHitsAny_iff]
  unfold UnblockedTol
  constructor
  · intro h i hi hne hh
    exact h ⟨i, hi, by simpa using hne, hh⟩
  · rintro h ⟨j, hj, hne, hh⟩
    exact h j hj (by simpa using hne) hh

theorem routeValid_iff (shapes : List Poly) (excl : List Nat) (src dst : Pt) (route : List Pt) (tol : Rat) :
    routeValid shapes excl src dst route tol = true ↔ RouteValidTol tol shapes excl src dst route := by
  unfold routeValid RouteValidTol
  simp only [Bool.and_eq_true, decide_eq_true_eq, List.all_eq_true, Bool.not_eq_true', legUnblocked_iff]
  constructor
  · rintro ⟨⟨⟨h1, h2⟩, h3⟩, h4⟩; exact ⟨h1, h2, h3, h4⟩
  · rintro ⟨h1, h2, h3, h4⟩; exact ⟨⟨⟨h1, h2⟩, h3⟩, h4⟩

theorem unblockedTol_zero (shapes : List Poly) (excl : List Nat) (p q : Pt) :
    UnblockedTol 0 shapes excl p q ↔ Unblocked shapes excl p q := Iff.rfl

theorem routeValidTol_zero (shapes : List Poly) (excl : List Nat) (src dst : Pt) (route : List Pt) :
    RouteValidTol 0 shapes excl src dst route ↔ RouteValid shapes excl src dst route := Iff.rfl

/-! ### margins: a deeper hit is a hit -/

theorem rabs_nonneg (r : Rat) : 0 ≤ rabs r := by
  unfold rabs; split <;> linarith

theorem l1_nonneg (a b : Pt) : 0 ≤ l1 a b := by
  unfold l1; linarith [rabs_nonneg (b.x - a.x), rabs_nonneg (b.y - a.y)]

theorem insideOriented_mono (s tol : Rat) (htol : 0 ≤ tol) (poly : Poly) (p : Pt)
    (h : InsideOriented s tol poly p) : InsideOriented s 0 poly p := by
  refine ⟨h.1, fun e he => ?_⟩
  have := h.2 e he
  linarith [mul_nonneg htol (l1_nonneg e.1 e.2)]

theorem segHitsTol_segHits (tol : Rat) (htol : 0 ≤ tol) (poly : Poly) (p q : Pt)
    (h : SegHitsTol tol poly p q) : SegHits poly p q := by
  obtain ⟨t, h0, h1, hin⟩ := h
  exact ⟨t, h0, h1, hin.imp (insideOriented_mono 1 tol htol poly _) (insideOriented_mono (-1) tol htol poly _)⟩

theorem routeValid_routeValidTol (tol : Rat) (htol : 0 ≤ tol) (shapes : List Poly) (excl : List Nat)
    (src dst : Pt) (route : List Pt) (h : RouteValid shapes excl src dst route) :
    RouteValidTol tol shapes excl src dst route := by
  obtain ⟨h1, h2, h3, h4⟩ := h
  refine ⟨h1, h2, h3, fun l hl i hi hne hh => ?_⟩
  exact h4 l hl i hi hne (segHitsTol_segHits tol htol _ _ _ hh)

end AdaptaVerif.Lemmas.Route
