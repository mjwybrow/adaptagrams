/-
Enclosure property of Num/Sqrt.lean:  for x ≥ 0,  0 ≤ lo,  lo² ≤ x ≤ hi²,  0 < hi,  lo ≤ hi.
-/
import AdaptaVerif.Num.Sqrt
import Mathlib.Tactic.Linarith
import Mathlib.Algebra.Order.Field.Basic
import Mathlib.Data.Rat.Cast.Order
namespace AdaptaVerif.Lemmas.Sqrt
open AdaptaVerif.Num

theorem pow2_pos (k : Nat) : (0 : Rat) < ((2 ^ k : Nat) : Rat) := by
  have : 0 < 2 ^ k := Nat.pow_pos (by decide)
  exact_mod_cast this

theorem sqrtLo_nonneg (x : Rat) (k : Nat) : 0 ≤ sqrtLo x k := by
  unfold sqrtLo sqrtParts
  simp only []
  split
  · exact div_nonneg (Nat.cast_nonneg _) (le_of_lt (pow2_pos k))
  · exact le_refl _

theorem sqrtLo_sq_le (x : Rat) (hx : 0 ≤ x) (k : Nat) : sqrtLo x k * sqrtLo x k ≤ x := by
  unfold sqrtLo sqrtParts
  simp only []
  split
  · rename_i h
    obtain ⟨h1, h2⟩ := h
    have hs := pow2_pos k
    rw [div_mul_div_comm, div_le_iff₀ (mul_pos hs hs)]
    generalize (x * ((2 ^ k * 2 ^ k : Nat) : Rat)).floor.toNat = n at h1 h2 ⊢
    generalize Nat.sqrt n = r at h2 ⊢
    calc (r : Rat) * r ≤ n := by exact_mod_cast h2
      _ ≤ x * ((2 ^ k * 2 ^ k : Nat) : Rat) := h1
      _ = x * (((2 ^ k : Nat) : Rat) * ((2 ^ k : Nat) : Rat)) := by rw [Nat.cast_mul]
  · simpa using hx

theorem sqrtHi_pos (x : Rat) (hx : 0 ≤ x) (k : Nat) : 0 < sqrtHi x k := by
  unfold sqrtHi sqrtParts
  simp only []
  split
  · apply div_pos _ (pow2_pos k)
    exact_mod_cast Nat.succ_pos _
  · linarith

theorem le_sqrtHi_sq (x : Rat) (k : Nat) : x ≤ sqrtHi x k * sqrtHi x k := by
  unfold sqrtHi sqrtParts
  simp only []
  split
  · rename_i h
    obtain ⟨h1, h2⟩ := h
    have hs := pow2_pos k
    rw [div_mul_div_comm, le_div_iff₀ (mul_pos hs hs)]
    generalize (x * ((2 ^ k * 2 ^ k : Nat) : Rat)).floor.toNat = n at h1 h2 ⊢
    generalize Nat.sqrt n = r at h2 ⊢
    calc x * (((2 ^ k : Nat) : Rat) * ((2 ^ k : Nat) : Rat)) = x * ((2 ^ k * 2 ^ k : Nat) : Rat) := by rw [Nat.cast_mul]
      _ ≤ ((n + 1 : Nat) : Rat) := le_of_lt h1
      _ ≤ ((r + 1 : Nat) : Rat) * ((r + 1 : Nat) : Rat) := by exact_mod_cast Nat.succ_le_of_lt h2
  · linarith [mul_self_nonneg (x + 1 / 2)]

theorem sqrt_enclosure (x : Rat) (hx : 0 ≤ x) (k : Nat) :
    0 ≤ sqrtLo x k ∧ sqrtLo x k * sqrtLo x k ≤ x ∧ x ≤ sqrtHi x k * sqrtHi x k ∧ 0 < sqrtHi x k :=
  ⟨sqrtLo_nonneg x k, sqrtLo_sq_le x hx k, le_sqrtHi_sq x k, sqrtHi_pos x hx k⟩

theorem sqrtLo_le_sqrtHi (x : Rat) (hx : 0 ≤ x) (k : Nat) : sqrtLo x k ≤ sqrtHi x k := by
  obtain ⟨h0, h1, h2, h3⟩ := sqrt_enclosure x hx k
  exact (mul_self_le_mul_self_iff h0 h3.le).2 (h1.trans h2)

/-- comparison principle in any ordered field K ⊇ ℚ (K = ℝ: d = √x): a non-negative d with d² = x lies in
    the rational enclosure, because squaring is monotone on the non-negative elements -/
theorem sqrt_between_field {K : Type} [Field K] [LinearOrder K] [IsStrictOrderedRing K]
    (x : Rat) (hx : 0 ≤ x) (d : K) (hd : 0 ≤ d) (hdx : d * d = (x : K)) (k : Nat) :
    ((sqrtLo x k : Rat) : K) ≤ d ∧ d ≤ ((sqrtHi x k : Rat) : K) := by
  obtain ⟨h0, h1, h2, h3⟩ := sqrt_enclosure x hx k
  constructor
  · rw [mul_self_le_mul_self_iff (Rat.cast_nonneg.2 h0) hd, hdx, ← Rat.cast_mul]
    exact Rat.cast_le.2 h1
  · rw [mul_self_le_mul_self_iff hd (Rat.cast_nonneg.2 h3.le), hdx, ← Rat.cast_mul]
    exact Rat.cast_le.2 h2

theorem sqrt_between (x d : Rat) (hd : 0 ≤ d) (hdx : d * d = x) (k : Nat) :
    sqrtLo x k ≤ d ∧ d ≤ sqrtHi x k := by
  have hx : 0 ≤ x := by rw [← hdx]; exact mul_nonneg hd hd
  simpa using sqrt_between_field x hx d hd (by simpa using hdx) k

end AdaptaVerif.Lemmas.Sqrt
