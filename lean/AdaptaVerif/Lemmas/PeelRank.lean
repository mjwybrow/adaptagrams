/-
Rank/parent witnesses (C19): if every edge joins a vertex to its unique parent and the parent has
strictly larger rank, the graph has no simple cycle. Every walk contains a simple path. Core Lean only.
-/
import AdaptaVerif.Spec.UGraph
import AdaptaVerif.Lemmas.Util.List

namespace AdaptaVerif.Lemmas.PeelRank

open AdaptaVerif.Spec.UGraph

theorem getD_eq_getElem (l : List Nat) {i : Nat} (hi : i < l.length) : l.getD i 0 = l[i] := by
  rw [List.getD_eq_getElem?_getD, List.getElem?_eq_getElem hi, Option.getD_some]

theorem nodup_getD_inj (l : List Nat) (hnd : l.Nodup) (i j : Nat) (hi : i < l.length)
    (hj : j < l.length) (h : l.getD i 0 = l.getD j 0) : i = j := by
  rw [getD_eq_getElem l hi, getD_eq_getElem l hj] at h
  have hp := List.pairwise_iff_getElem.1 hnd
  rcases Nat.lt_trichotomy i j with hij | hij | hij
  · exact absurd h (hp i j hi hj hij)
  · exact hij
  · exact absurd h.symm (hp j i hj hi hij)

theorem cyc_succ {n i : Nat} (hi : i < n) :
    (i + 1) % n < n ∧ ((i + 1) % n = i + 1 ∨ ((i + 1) % n = 0 ∧ i + 1 = n)) := by
  refine ⟨Nat.mod_lt _ (Nat.zero_lt_of_lt hi), ?_⟩
  rcases Nat.lt_or_ge (i + 1) n with h | h
  · exact Or.inl (Nat.mod_eq_of_lt h)
  · have e : i + 1 = n := Nat.le_antisymm hi h
    exact Or.inr ⟨by rw [e, Nat.mod_self], e⟩

theorem cyc_pred {n i : Nat} (hi : i < n) :
    ∃ q, q < n ∧ (q + 1) % n = i ∧ (q + 1 = i ∨ (i = 0 ∧ q + 1 = n)) := by
  cases i with
  | zero =>
    obtain ⟨m, rfl⟩ := Nat.exists_eq_succ_of_ne_zero (Nat.ne_of_gt hi)
    exact ⟨m, Nat.lt_succ_self m, Nat.mod_self _, Or.inr ⟨rfl, rfl⟩⟩
  | succ k => exact ⟨k, Nat.lt_of_succ_lt hi, Nat.mod_eq_of_lt hi, Or.inl rfl⟩

/-- rank/parent witness: every edge joins a vertex to its parent `p`, which has strictly larger rank `r` -/
def RankWitness (es : List Edge) (p : Nat → Nat) (r : Nat → Int) : Prop :=
  ∀ a b, (a, b) ∈ es → (p a = b ∧ r a < r b) ∨ (p b = a ∧ r b < r a)

theorem parent_of_adj_min (es : List Edge) (p : Nat → Nat) (r : Nat → Int) (h : RankWitness es p r)
    {m x : Nat} (hadj : Adj es m x) (hmin : r m ≤ r x) : p m = x := by
  cases hadj with
  | inl hmem =>
    cases h m x hmem with
    | inl h1 => exact h1.1
    | inr h2 => have := h2.2; omega
  | inr hmem =>
    cases h x m hmem with
    | inl h1 => have := h1.2; omega
    | inr h2 => exact h2.1

/-- At a vertex of minimal rank both cycle neighbours are its parent. -/
theorem acyclic_of_rank (es : List Edge) (p : Nat → Nat) (r : Nat → Int) (h : RankWitness es p r) : Acyclic es := by
  intro c hc
  obtain ⟨hlen, hnd, hadj⟩ := hc
  obtain ⟨i, hi, hmin⟩ := Util.exists_max (fun j i => r (c.getD i 0) ≤ r (c.getD j 0)) (fun _ _ => Int.le_total _ _)
    (fun _ _ _ h1 h2 => Int.le_trans h2 h1) (List.range c.length) (by rw [Ne, List.range_eq_nil]; omega)
  rw [List.mem_range] at hi
  have hmin' : ∀ j, j < c.length → r (c.getD i 0) ≤ r (c.getD j 0) := fun j hj => hmin j (List.mem_range.2 hj)
  obtain ⟨hsn, hs⟩ := cyc_succ hi
  obtain ⟨q, hqn, hqs, hq⟩ := cyc_pred hi
  have a1 := hadj i hi
  have a2 : Adj es (c.getD i 0) (c.getD q 0) := by
    have := hadj q hqn
    rw [hqs] at this
    exact this.symm
  have e1 := parent_of_adj_min es p r h a1 (hmin' _ hsn)
  have e2 := parent_of_adj_min es p r h a2 (hmin' q hqn)
  have := nodup_getD_inj c hnd _ q hsn hqn (e1.symm.trans e2)
  generalize (i + 1) % c.length = s at hs this
  omega

theorem acyclic_of_depth (es : List Edge) (p : Nat → Nat) (d : Nat → Nat)
    (h : ∀ a b, (a, b) ∈ es → (p a = b ∧ d a = d b + 1) ∨ (p b = a ∧ d b = d a + 1)) : Acyclic es :=
  acyclic_of_rank es p (fun v => -(d v : Int)) fun a b hab =>
    (h a b hab).imp (fun h1 => ⟨h1.1, Int.neg_lt_neg (by omega)⟩) (fun h2 => ⟨h2.1, Int.neg_lt_neg (by omega)⟩)

/-- consecutive entries adjacent -/
def Chain (es : List Edge) : List Nat → Prop
  | [] => True
  | [_] => True
  | a :: b :: t => Adj es a b ∧ Chain es (b :: t)

theorem chain_getD (es : List Edge) : ∀ (l : List Nat), Chain es l →
    ∀ i, i + 1 < l.length → Adj es (l.getD i 0) (l.getD (i + 1) 0) := by
  intro l
  induction l with
  | nil => intro _ i hi; exact absurd hi (Nat.not_lt_zero _)
  | cons a t ih =>
    cases t with
    | nil =>
      intro _ i hi
      simp only [List.length_cons, List.length_nil] at hi
      omega
    | cons b t' =>
      intro hch i hi
      have hch' : Adj es a b ∧ Chain es (b :: t') := hch
      cases i with
      | zero =>
        rw [List.getD_cons_succ, List.getD_cons_zero, List.getD_cons_zero]
        exact hch'.1
      | succ k =>
        rw [List.getD_cons_succ, List.getD_cons_succ]
        have hk : k + 1 < (b :: t').length := by
          simp only [List.length_cons] at hi ⊢
          omega
        exact ih hch'.2 k hk

theorem chain_suffix (es : List Edge) (u w : Nat) : ∀ (P : List Nat), P.Nodup → Chain es P →
    P.getLast? = some w → u ∈ P →
    ∃ Q : List Nat, Q.Nodup ∧ Chain es Q ∧ Q.head? = some u ∧ Q.getLast? = some w := by
  intro P
  induction P with
  | nil => intro _ _ _ hu; exact absurd hu List.not_mem_nil
  | cons a t ih =>
    intro hnd hch hlast hu
    by_cases hau : a = u
    · refine ⟨a :: t, hnd, hch, ?_, hlast⟩
      rw [List.head?_cons, hau]
    · have hut : u ∈ t := by
        cases List.mem_cons.mp hu with
        | inl h1 => exact absurd h1.symm hau
        | inr h2 => exact h2
      cases t with
      | nil => exact absurd hut List.not_mem_nil
      | cons b t' =>
        have hch' : Adj es a b ∧ Chain es (b :: t') := hch
        rw [List.getLast?_cons_cons] at hlast
        exact ih (List.nodup_cons.mp hnd).2 hch'.2 hlast hut

theorem reach_simple_chain {es : List Edge} {u v : Nat} (h : Reach es u v) :
    ∃ path : List Nat, path.Nodup ∧ Chain es path ∧ path.head? = some u ∧
      path.getLast? = some v := by
  induction h with
  | refl u =>
    refine ⟨[u], ?_, True.intro, rfl, rfl⟩
    exact List.nodup_cons.mpr ⟨List.not_mem_nil, List.nodup_nil⟩
  | @step u v w hadj _ ih =>
    obtain ⟨P, hnd, hch, hhead, hlast⟩ := ih
    by_cases hu : u ∈ P
    · exact chain_suffix es u w P hnd hch hlast hu
    · cases P with
      | nil =>
        rw [List.head?_nil] at hhead
        cases hhead
      | cons b t' =>
        rw [List.head?_cons] at hhead
        have hbv : b = v := Option.some.inj hhead
        refine ⟨u :: b :: t', List.nodup_cons.mpr ⟨hu, hnd⟩, ?_, ?_, ?_⟩
        · show Adj es u b ∧ Chain es (b :: t')
          rw [hbv]
          rw [hbv] at hch
          exact ⟨hadj, hch⟩
        · rw [List.head?_cons]
        · rw [List.getLast?_cons_cons]
          exact hlast

theorem reach_simple_path {es : List Edge} {u v : Nat} (h : Reach es u v) :
    ∃ path : List Nat, path.Nodup ∧ path.head? = some u ∧ path.getLast? = some v ∧
      ∀ i, i + 1 < path.length → Adj es (path.getD i 0) (path.getD (i + 1) 0) := by
  obtain ⟨P, hnd, hch, hhead, hlast⟩ := reach_simple_chain h
  exact ⟨P, hnd, hhead, hlast, chain_getD es P hch⟩

theorem head?_getD {l : List Nat} {u : Nat} (h : l.head? = some u) : l.getD 0 0 = u := by
  cases l with
  | nil =>
    rw [List.head?_nil] at h
    cases h
  | cons a t =>
    rw [List.head?_cons] at h
    rw [List.getD_cons_zero]
    exact Option.some.inj h

theorem getLast?_getD {l : List Nat} {v : Nat} (h : l.getLast? = some v) :
    l.getD (l.length - 1) 0 = v := by
  rw [List.getLast?_eq_getElem?] at h
  rw [List.getD_eq_getElem?_getD, h]
  rfl

end AdaptaVerif.Lemmas.PeelRank
