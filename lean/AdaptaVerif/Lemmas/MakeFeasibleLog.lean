/-
Structure of the `makeFeasible` model (`Model/MakeFeasible.lean`) that does not depend on what the solver
answers: how `setDim`, one trial, the alternatives loop and the combined branch act on each field of the
state, and what the trial log, the marks and `valid` say about each other.  The loops of the model do nothing
but a sequence of moves (`Move`, `Reach`: trial, mark, `stuck`, combined item), so what every move keeps holds in
every state a run — the non-overlap item included — passes through.  Core Lean only.
-/
import AdaptaVerif.Model.MakeFeasible
namespace AdaptaVerif.Lemmas.MakeFeasibleLog
open AdaptaVerif.Model.MakeFeasible AdaptaVerif.Model.Vpsc
open AdaptaVerif.Model.Compound (Dim)

theorem tryCon_spec (n : Nat) (ds : DimSt) (c : Con) (own : Nat × Nat) :
    (ds.tryCon n c own).ds.vars = ds.vars ∧
    ((ds.tryCon n c own).returned = true ↔ ∃ pos ret, ((ds.solverFor c).satisfy).2 = .ok pos ret) ∧
    (ds.tryCon n c own).accepted =
      ((ds.tryCon n c own).returned && !((ds.solverFor c).satisfy).1.cons.any (·.unsat)) ∧
    ((ds.tryCon n c own).flagged = true → ((ds.solverFor c).satisfy).1.cons.any (·.unsat) = true) ∧
    ((ds.tryCon n c own).returned = true →
      (ds.tryCon n c own).flagged = ((ds.solverFor c).satisfy).1.cons.any (·.unsat)) ∧
    (ds.tryCon n c own).ds.valid = if (ds.tryCon n c own).accepted then ds.valid.push c else ds.valid := by
  unfold DimSt.tryCon
  simp only
  generalize (ds.solverFor c).satisfy = r
  obtain ⟨st', o⟩ := r
  cases o with
  | ok pos ret =>
    simp only
    cases hf : st'.cons.any (·.unsat) <;> simp
  | threw => simp
  | outOfFuel => simp

theorem tryCon_valid (n : Nat) (ds : DimSt) (c : Con) (own : Nat × Nat) :
    (ds.tryCon n c own).ds.valid =
      if (ds.tryCon n c own).accepted then ds.valid.push c else ds.valid :=
  (tryCon_spec n ds c own).2.2.2.2.2

theorem setDim_n (mf : MF) (d : Dim) (ds : DimSt) : (mf.setDim d ds).n = mf.n := by
  cases d <;> rfl
theorem setDim_log (mf : MF) (d : Dim) (ds : DimSt) : (mf.setDim d ds).log = mf.log := by
  cases d <;> rfl
theorem setDim_marks (mf : MF) (d : Dim) (ds : DimSt) : (mf.setDim d ds).marks = mf.marks := by
  cases d <;> rfl
theorem setDim_combineFlags (mf : MF) (d : Dim) (ds : DimSt) :
    (mf.setDim d ds).combineFlags = mf.combineFlags := by
  cases d <;> rfl
theorem setDim_escaped (mf : MF) (d : Dim) (ds : DimSt) : (mf.setDim d ds).escaped = mf.escaped := by
  cases d <;> rfl
theorem setDim_fuelOut (mf : MF) (d : Dim) (ds : DimSt) : (mf.setDim d ds).fuelOut = mf.fuelOut := by
  cases d <;> rfl
theorem setDim_dim_same (mf : MF) (d : Dim) (ds : DimSt) : (mf.setDim d ds).dim d = ds := by
  cases d <;> rfl
theorem setDim_dim_ne (mf : MF) {d d' : Dim} (ds : DimSt) (h : d' ≠ d) :
    (mf.setDim d ds).dim d' = mf.dim d' := by
  cases d <;> cases d' <;> first | rfl | exact absurd rfl h

theorem dim_congr {a b : MF} (hx : b.x = a.x) (hy : b.y = a.y) (d : Dim) : b.dim d = a.dim d := by
  cases d
  · exact hx
  · exact hy

structure Ext (a b : MF) : Prop where
  log : ∀ t ∈ a.log, t ∈ b.log
  valid : ∀ (d : Dim) (c : Con), c ∈ (a.dim d).valid → c ∈ (b.dim d).valid

theorem Ext.refl (a : MF) : Ext a a := ⟨fun _ h => h, fun _ _ h => h⟩
theorem Ext.trans {a b c : MF} (h1 : Ext a b) (h2 : Ext b c) : Ext a c :=
  ⟨fun t h => h2.log t (h1.log t h), fun d k h => h2.valid d k (h1.valid d k h)⟩

theorem Ext.of_eq {a b : MF} (hl : b.log = a.log) (hx : b.x = a.x) (hy : b.y = a.y) : Ext a b :=
  ⟨fun t h => by rw [hl]; exact h, fun d c h => by rw [dim_congr hx hy d]; exact h⟩

theorem ext_setDim (mf : MF) (d : Dim) (ds : DimSt)
    (h : ∀ c ∈ (mf.dim d).valid, c ∈ ds.valid) : Ext mf (mf.setDim d ds) := by
  refine ⟨fun t ht => by rw [setDim_log]; exact ht, fun d' c hc => ?_⟩
  by_cases hd : d' = d
  · subst hd
    rw [setDim_dim_same]
    exact h c hc
  · rw [setDim_dim_ne _ _ hd]
    exact hc

structure LogOk (mf : MF) : Prop where
  fields : ∀ t ∈ mf.log, (t.accepted = true → t.flagged = false ∧ t.returned = true) ∧
                         (t.accepted = false → t.flagged = true ∨ t.returned = false)
  kept : ∀ t ∈ mf.log, t.accepted = true → t.con ∈ (mf.dim t.dim).valid
  /-- a mark `false` is backed by a rejected logged trial of that (cc, sub) -/
  dropped : ∀ m ∈ mf.marks, m.2.2 = false →
    ∃ t ∈ mf.log, t.cc = m.1 ∧ t.sub = m.2.1 ∧ t.accepted = false

/-- a mark `true` is backed by an accepted logged trial of that (cc, sub), or its compound constraint
    is one of `L` (the combined ones) -/
def MarksTrue (L : List Nat) (mf : MF) : Prop :=
  ∀ m ∈ mf.marks, m.2.2 = true →
    (∃ t ∈ mf.log, t.cc = m.1 ∧ t.sub = m.2.1 ∧ t.accepted = true) ∨ m.1 ∈ L

structure Inv (L : List Nat) (mf : MF) : Prop where
  ok : LogOk mf
  marksTrue : MarksTrue L mf

theorem MarksTrue.mono {L L' : List Nat} {mf : MF} (h : MarksTrue L mf) (hL : ∀ c ∈ L, c ∈ L') :
    MarksTrue L' mf := fun m hm ht =>
  match h m hm ht with
  | .inl e => .inl e
  | .inr e => .inr (hL _ e)

theorem Inv.mono {L L' : List Nat} {mf : MF} (h : Inv L mf) (hL : ∀ c ∈ L, c ∈ L') : Inv L' mf :=
  ⟨h.ok, h.marksTrue.mono hL⟩

theorem Inv.step {L : List Nat} {a b : MF} (h : Inv L a) (he : Ext a b)
    (hlog : ∀ t ∈ b.log, t ∈ a.log ∨
      (((t.accepted = true → t.flagged = false ∧ t.returned = true) ∧
        (t.accepted = false → t.flagged = true ∨ t.returned = false)) ∧
       (t.accepted = true → t.con ∈ (b.dim t.dim).valid)))
    (hmarks : ∀ m ∈ b.marks, m ∈ a.marks ∨
      ((m.2.2 = false → ∃ t ∈ b.log, t.cc = m.1 ∧ t.sub = m.2.1 ∧ t.accepted = false) ∧
       (m.2.2 = true → (∃ t ∈ b.log, t.cc = m.1 ∧ t.sub = m.2.1 ∧ t.accepted = true) ∨ m.1 ∈ L))) :
    Inv L b := by
  refine ⟨⟨fun t ht => ?_, fun t ht hacc => ?_, fun m hm hf => ?_⟩, fun m hm htr => ?_⟩
  · rcases hlog t ht with h' | h'
    · exact h.ok.fields t h'
    · exact h'.1
  · rcases hlog t ht with h' | h'
    · exact he.valid _ _ (h.ok.kept t h' hacc)
    · exact h'.2 hacc
  · rcases hmarks m hm with h' | h'
    · obtain ⟨t, ht, e⟩ := h.ok.dropped m h' hf
      exact ⟨t, he.log t ht, e⟩
    · exact h'.1 hf
  · rcases hmarks m hm with h' | h'
    · exact (h.marksTrue m h' htr).imp (fun ⟨t, ht, e⟩ => ⟨t, he.log t ht, e⟩) id
    · exact h'.2 htr

theorem Inv.of_ext {L : List Nat} {a b : MF} (h : Inv L a) (he : Ext a b) (hl : b.log = a.log)
    (hm : b.marks = a.marks) : Inv L b :=
  h.step he (fun _ ht => .inl (hl ▸ ht)) (fun _ hm' => .inl (hm ▸ hm'))

theorem Inv.of_eq {L : List Nat} {a b : MF} (h : Inv L a) (hl : b.log = a.log)
    (hm : b.marks = a.marks) (hx : b.x = a.x) (hy : b.y = a.y) : Inv L b :=
  h.of_ext (Ext.of_eq hl hx hy) hl hm

theorem Inv.push_mark {L : List Nat} {a b : MF} (h : Inv L a) (m0 : Nat × Nat × Bool)
    (hl : b.log = a.log) (hm : b.marks = a.marks.push m0) (hx : b.x = a.x) (hy : b.y = a.y)
    (hf : m0.2.2 = false → ∃ t ∈ a.log, t.cc = m0.1 ∧ t.sub = m0.2.1 ∧ t.accepted = false)
    (ht : m0.2.2 = true →
      (∃ t ∈ a.log, t.cc = m0.1 ∧ t.sub = m0.2.1 ∧ t.accepted = true) ∨ m0.1 ∈ L) : Inv L b := by
  refine h.step (Ext.of_eq hl hx hy) (fun _ ht' => .inl (hl ▸ ht')) fun m hm' => ?_
  rw [hm, Array.mem_push] at hm'
  rcases hm' with hm' | rfl
  · exact .inl hm'
  · rw [hl]
    exact .inr ⟨hf, ht⟩

/-- the record `MF.trial` appends to the log -/
def newTrial (mf : MF) (cc sub k : Nat) (a : Alt) : Trial :=
  let o := (mf.dim a.dim).tryCon mf.n a.con (cc, sub)
  { cc := cc, sub := sub, alt := k, dim := a.dim, con := a.con, returned := o.returned,
    flagged := o.flagged, accepted := o.accepted, flaggedOwners := o.flaggedOwners }

theorem newTrial_accepted (mf : MF) (cc sub k : Nat) (a : Alt) :
    (newTrial mf cc sub k a).accepted = ((mf.dim a.dim).tryCon mf.n a.con (cc, sub)).accepted := by
  simp only [newTrial]
theorem newTrial_flagged (mf : MF) (cc sub k : Nat) (a : Alt) :
    (newTrial mf cc sub k a).flagged = ((mf.dim a.dim).tryCon mf.n a.con (cc, sub)).flagged := by
  simp only [newTrial]
theorem newTrial_returned (mf : MF) (cc sub k : Nat) (a : Alt) :
    (newTrial mf cc sub k a).returned = ((mf.dim a.dim).tryCon mf.n a.con (cc, sub)).returned := by
  simp only [newTrial]

/- The projections of `(mf.trial ..).1` go through the `setDim_*` lemmas: a bare `rfl` makes the unifier
   compare the two states field by field, and it unfolds the solver inside `tryCon` before it gives up. -/

theorem trial_log (mf : MF) (cc sub k : Nat) (a : Alt) :
    (mf.trial cc sub k a).1.log = mf.log.push (newTrial mf cc sub k a) := by
  unfold MF.trial newTrial
  simp only [setDim_log]

theorem trial_marks (mf : MF) (cc sub k : Nat) (a : Alt) :
    (mf.trial cc sub k a).1.marks = mf.marks := by
  unfold MF.trial
  simp only [setDim_marks]

theorem trial_n (mf : MF) (cc sub k : Nat) (a : Alt) : (mf.trial cc sub k a).1.n = mf.n := by
  unfold MF.trial
  simp only [setDim_n]

theorem trial_combineFlags (mf : MF) (cc sub k : Nat) (a : Alt) :
    (mf.trial cc sub k a).1.combineFlags = mf.combineFlags := by
  unfold MF.trial
  simp only [setDim_combineFlags]

theorem trial_escaped (mf : MF) (cc sub k : Nat) (a : Alt) :
    (mf.trial cc sub k a).1.escaped = mf.escaped := by
  unfold MF.trial
  simp only [setDim_escaped]

theorem trial_fuelOut (mf : MF) (cc sub k : Nat) (a : Alt) :
    (mf.trial cc sub k a).1.fuelOut =
      (mf.fuelOut || ((mf.dim a.dim).tryCon mf.n a.con (cc, sub)).fuelOut) := by
  unfold MF.trial
  simp only [setDim_fuelOut]

theorem trial_dim (mf : MF) (cc sub k : Nat) (a : Alt) (d : Dim) :
    (mf.trial cc sub k a).1.dim d =
      (mf.setDim a.dim ((mf.dim a.dim).tryCon mf.n a.con (cc, sub)).ds).dim d := by
  cases d <;> rfl

theorem trial_dim_same (mf : MF) (cc sub k : Nat) (a : Alt) :
    (mf.trial cc sub k a).1.dim a.dim = ((mf.dim a.dim).tryCon mf.n a.con (cc, sub)).ds := by
  rw [trial_dim, setDim_dim_same]

theorem trial_dim_ne (mf : MF) (cc sub k : Nat) (a : Alt) {d : Dim} (h : d ≠ a.dim) :
    (mf.trial cc sub k a).1.dim d = mf.dim d := by
  rw [trial_dim, setDim_dim_ne _ _ h]

theorem trial_ext (mf : MF) (cc sub k : Nat) (a : Alt) : Ext mf (mf.trial cc sub k a).1 := by
  refine ⟨fun t ht => ?_, fun d c hc => ?_⟩
  · rw [trial_log, Array.mem_push]
    exact .inl ht
  · rw [trial_dim]
    refine (ext_setDim mf a.dim _ fun c hc => ?_).valid d c hc
    rw [tryCon_valid]
    split
    · rw [Array.mem_push]; exact .inl hc
    · exact hc

theorem newTrial_mem (mf : MF) (cc sub k : Nat) (a : Alt) :
    newTrial mf cc sub k a ∈ (mf.trial cc sub k a).1.log := by
  rw [trial_log, Array.mem_push]
  exact .inr rfl

theorem trial_inv {L : List Nat} {mf : MF} (h : Inv L mf) (cc sub k : Nat) (a : Alt) :
    Inv L (mf.trial cc sub k a).1 := by
  refine h.step (trial_ext mf cc sub k a) (fun t ht => ?_) (fun _ hm => .inl (trial_marks mf cc sub k a ▸ hm))
  rw [trial_log, Array.mem_push] at ht
  rcases ht with ht | rfl
  · exact .inl ht
  · obtain ⟨_, _, h3, _, h5, _⟩ := tryCon_spec mf.n (mf.dim a.dim) a.con (cc, sub)
    refine .inr ⟨?_, fun hacc => ?_⟩
    · rw [newTrial_accepted, newTrial_flagged, newTrial_returned]
      -- `accepted = (returned && !flags)`, and a returned trial reports the flag scan
      refine ⟨fun h => ?_, fun h => ?_⟩
      · rw [h3, Bool.and_eq_true, Bool.not_eq_true'] at h
        exact ⟨(h5 h.1).trans h.2, h.1⟩
      · cases hr : ((mf.dim a.dim).tryCon mf.n a.con (cc, sub)).returned
        · exact .inr rfl
        · rw [h3, hr, Bool.true_and, Bool.not_eq_false'] at h
          exact .inl ((h5 hr).trans h)
    · show a.con ∈ ((mf.trial cc sub k a).1.dim a.dim).valid
      rw [newTrial_accepted] at hacc
      rw [trial_dim_same, tryCon_valid, hacc, if_pos rfl, Array.mem_push]
      exact .inr rfl

theorem tryAlts_cons_accepted {mf : MF} {cc sub k : Nat} {a : Alt} (rest : List Alt)
    (h : (mf.trial cc sub k a).2 = true) :
    mf.tryAlts cc sub k (a :: rest) = ((mf.trial cc sub k a).1, true) := by
  simp only [MF.tryAlts, h, if_true]

theorem tryAlts_cons_rejected {mf : MF} {cc sub k : Nat} {a : Alt} (rest : List Alt)
    (h : (mf.trial cc sub k a).2 = false) :
    mf.tryAlts cc sub k (a :: rest) = (mf.trial cc sub k a).1.tryAlts cc sub (k + 1) rest := by
  simp only [MF.tryAlts, h, Bool.false_eq_true, if_false]

theorem combinePush_nil (mf : MF) (cc i : Nat) : mf.combinePush cc i [] = mf := rfl

theorem combinePush_single (mf : MF) (cc i : Nat) (a : Alt) (rest : List (List Alt)) :
    mf.combinePush cc i ([a] :: rest) =
      ({ mf.setDim a.dim ((mf.dim a.dim).pushCon a.con (cc, i)) with
         marks := (mf.setDim a.dim ((mf.dim a.dim).pushCon a.con (cc, i))).marks.push (cc, i, true) }
        ).combinePush cc (i + 1) rest := rfl

theorem combinePush_empty (mf : MF) (cc i : Nat) (rest : List (List Alt)) :
    mf.combinePush cc i ([] :: rest) = { mf with stuck := true } := rfl

theorem combinePush_many (mf : MF) (cc i : Nat) (a b : Alt) (as : List Alt) (rest : List (List Alt)) :
    mf.combinePush cc i ((a :: b :: as) :: rest) = { mf with stuck := true } := rfl

theorem pushCon_ext (mf : MF) (d : Dim) (c : Con) (own : Nat × Nat) :
    Ext mf (mf.setDim d ((mf.dim d).pushCon c own)) := by
  refine ext_setDim mf d _ fun c' hc => ?_
  show c' ∈ ((mf.dim d).valid.push c)
  rw [Array.mem_push]
  exact .inl hc

theorem combinePush_rel {R : MF → MF → Prop} (hr : ∀ a, R a a) (ht : ∀ {a b c}, R a b → R b c → R a c)
    (hst : ∀ mf : MF, R mf { mf with stuck := true }) (cc : Nat) (subs : List (List Alt))
    (hp : ∀ (mf : MF) (i : Nat) (a : Alt), [a] ∈ subs →
      R mf { mf.setDim a.dim ((mf.dim a.dim).pushCon a.con (cc, i)) with
             marks := (mf.setDim a.dim ((mf.dim a.dim).pushCon a.con (cc, i))).marks.push (cc, i, true) }) :
    ∀ (mf : MF) (i : Nat), R mf (mf.combinePush cc i subs) := by
  induction subs with
  | nil => intro mf i; exact hr mf
  | cons alts rest ih =>
    intro mf i
    match alts with
    | [] => exact hst mf
    | _ :: _ :: _ => exact hst mf
    | [a] =>
      rw [combinePush_single]
      exact ht (hp mf i a List.mem_cons_self) (ih (fun mf i a ha => hp mf i a (List.mem_cons_of_mem _ ha)) _ _)

theorem combinePush_ext (cc : Nat) (subs : List (List Alt)) :
    ∀ (mf : MF) (i : Nat), Ext mf (mf.combinePush cc i subs) :=
  combinePush_rel Ext.refl Ext.trans (fun _ => Ext.of_eq rfl rfl rfl) cc subs fun mf i a _ =>
    (pushCon_ext mf a.dim a.con (cc, i)).trans (Ext.of_eq rfl rfl rfl)

theorem combinePush_inv {L : List Nat} (cc : Nat) (hcc : cc ∈ L) (subs : List (List Alt)) :
    ∀ (mf : MF) (i : Nat), Inv L mf → Inv L (mf.combinePush cc i subs) :=
  combinePush_rel (R := fun a b => Inv L a → Inv L b) (fun _ => id) (fun h1 h2 h => h2 (h1 h))
    (fun _ h => h.of_eq rfl rfl rfl rfl) cc subs fun mf i a _ h =>
    (h.of_ext (pushCon_ext mf a.dim a.con (cc, i)) (setDim_log _ _ _) (setDim_marks _ _ _)).push_mark
      (cc, i, true) rfl rfl rfl rfl (fun hf => absurd hf (by simp)) (fun _ => .inr hcc)

theorem combineSolve_log (mf : MF) (cc : Nat) (d : Dim) :
    Ext mf (mf.combineSolve cc d) ∧ (mf.combineSolve cc d).log = mf.log ∧
      (mf.combineSolve cc d).marks = mf.marks := by
  generalize hb : mf.combineSolve cc d = b
  unfold MF.combineSolve at hb
  split at hb
  · subst hb
    exact ⟨Ext.refl _, rfl, rfl⟩
  · simp only at hb
    generalize St.satisfy _ = r at hb
    obtain ⟨st', o⟩ := r
    cases o with
    | ok pos ret =>
      simp only at hb
      subst hb
      refine ⟨Ext.trans ?_ (ext_setDim _ d _ fun c hc => ?_), setDim_log .., setDim_marks ..⟩
      · exact Ext.of_eq rfl rfl rfl
      · exact hc
    | threw => subst hb; exact ⟨Ext.of_eq rfl rfl rfl, rfl, rfl⟩
    | outOfFuel => subst hb; exact ⟨Ext.of_eq rfl rfl rfl, rfl, rfl⟩

theorem combineSolve_ext (mf : MF) (cc : Nat) (d : Dim) : Ext mf (mf.combineSolve cc d) :=
  (combineSolve_log mf cc d).1

theorem combineSolve_inv {L : List Nat} {mf : MF} (h : Inv L mf) (cc : Nat) (d : Dim) :
    Inv L (mf.combineSolve cc d) :=
  h.of_ext (combineSolve_log mf cc d).1 (combineSolve_log mf cc d).2.1 (combineSolve_log mf cc d).2.2

/-- One move of `makeFeasible`: a trial of an alternative that `W` allows; the verdict of a logged trial written
    as the mark of its sub-constraint; the `stuck` flag; a combined item (one of `L`) as a whole — inside it the
    pushes break the invariant of `MakeFeasibleInv` and only the two solves restore it.
    `W` is what is known of every tried alternative (`True` for the facts about the log, `Alt.wf sx sy` for the
    invariant of `MakeFeasibleInv`); `L` lists the compound constraints that may take the combined branch
    (`combinedCCs items` for a run, `[]` where there is none: `MakeFeasibleInv.move_ustep`, the non-overlap item). -/
inductive Move (W : Alt → Prop) (L : List Nat) : MF → MF → Prop
  | trial (mf : MF) (cc sub k : Nat) (a : Alt) (hw : W a) : Move W L mf (mf.trial cc sub k a).1
  | mark (mf : MF) (cc sub : Nat) (b : Bool)
      (hb : ∃ t ∈ mf.log, t.cc = cc ∧ t.sub = sub ∧ t.accepted = b) :
      Move W L mf { mf with marks := mf.marks.push (cc, sub, b) }
  | stuck (mf : MF) : Move W L mf { mf with stuck := true }
  | combined (mf : MF) (cc : Nat) (subs : List (List Alt)) (hcc : cc ∈ L)
      (hw : ∀ alts ∈ subs, ∀ a ∈ alts, W a) :
      Move W L mf (((mf.combinePush cc 0 subs).combineSolve cc .x).combineSolve cc .y)

inductive Reach (W : Alt → Prop) (L : List Nat) (a : MF) : MF → Prop
  | refl : Reach W L a a
  | move {b c : MF} : Reach W L a b → Move W L b c → Reach W L a c

section
variable {W : Alt → Prop} {L : List Nat}

theorem Reach.trans {a b c : MF} (h1 : Reach W L a b) (h2 : Reach W L b c) : Reach W L a c := by
  induction h2 with
  | refl => exact h1
  | move _ hm ih => exact ih.move hm

theorem Move.reach {a b : MF} (h : Move W L a b) : Reach W L a b := Reach.refl.move h

theorem Move.ext {a b : MF} (h : Move W L a b) : Ext a b := by
  cases h with
  | trial cc sub k al => exact trial_ext a cc sub k al
  | mark => exact Ext.of_eq rfl rfl rfl
  | stuck => exact Ext.of_eq rfl rfl rfl
  | combined cc subs =>
    exact ((combinePush_ext cc subs a 0).trans (combineSolve_ext _ _ _)).trans (combineSolve_ext _ _ _)

theorem Reach.ext {a b : MF} (h : Reach W L a b) : Ext a b := by
  induction h with
  | refl => exact Ext.refl a
  | move _ hm ih => exact ih.trans hm.ext

theorem Move.inv {a b : MF} (h : Move W L a b) (hi : Inv L a) : Inv L b := by
  cases h with
  | trial cc sub k al => exact trial_inv hi cc sub k al
  | mark cc sub f hb =>
    exact hi.push_mark (cc, sub, f) rfl rfl rfl rfl (fun hf => hf ▸ hb) (fun ht => .inl (ht ▸ hb))
  | stuck => exact hi.of_eq rfl rfl rfl rfl
  | combined cc subs hcc =>
    exact combineSolve_inv (combineSolve_inv (combinePush_inv cc hcc subs a 0 hi) _ _) _ _

theorem Reach.inv {a b : MF} (h : Reach W L a b) (hi : Inv L a) : Inv L b := by
  induction h with
  | refl => exact hi
  | move _ hm ih => exact hm.inv ih

theorem tryAlts_reach (cc sub : Nat) : ∀ (alts : List Alt) (mf : MF) (k : Nat), (∀ a ∈ alts, W a) →
    Reach W L mf (mf.tryAlts cc sub k alts).1
  | [], _, _, _ => .refl
  | a :: rest, mf, k, hw => by
    have h1 := (Move.trial (L := L) mf cc sub k a (hw a List.mem_cons_self)).reach
    cases h : (mf.trial cc sub k a).2
    · rw [tryAlts_cons_rejected rest h]
      exact h1.trans (tryAlts_reach cc sub rest _ _ fun a ha => hw a (List.mem_cons_of_mem _ ha))
    · rw [tryAlts_cons_accepted rest h]
      exact h1

end

theorem tryAlts_marks (cc sub : Nat) (alts : List Alt) :
    ∀ (mf : MF) (k : Nat), (mf.tryAlts cc sub k alts).1.marks = mf.marks := by
  induction alts with
  | nil => intro mf k; rfl
  | cons a rest ih =>
    intro mf k
    cases h : (mf.trial cc sub k a).2
    · rw [tryAlts_cons_rejected rest h, ih, trial_marks]
    · rw [tryAlts_cons_accepted rest h, trial_marks]

theorem tryAlts_true (cc sub : Nat) (alts : List Alt) :
    ∀ (mf : MF) (k : Nat), (mf.tryAlts cc sub k alts).2 = true →
      ∃ t, (mf.tryAlts cc sub k alts).1.log.back? = some t ∧ t ∈ (mf.tryAlts cc sub k alts).1.log ∧
        t.cc = cc ∧ t.sub = sub ∧ t.accepted = true ∧
        ∃ j, ∃ hj : j < alts.length, t.alt = k + j ∧ t.con = alts[j].con ∧ t.dim = alts[j].dim := by
  induction alts with
  | nil => intro mf k h; exact absurd h (by simp [MF.tryAlts])
  | cons a rest ih =>
    intro mf k
    cases hacc : (mf.trial cc sub k a).2
    · rw [tryAlts_cons_rejected rest hacc]
      intro h
      obtain ⟨t, hb, ht, h1, h2, h3, j, hj, h4, h5, h6⟩ := ih _ _ h
      exact ⟨t, hb, ht, h1, h2, h3, j + 1, Nat.succ_lt_succ hj, by rw [h4]; omega, h5, h6⟩
    · rw [tryAlts_cons_accepted rest hacc]
      intro _
      refine ⟨newTrial mf cc sub k a, ?_, newTrial_mem mf cc sub k a, rfl, rfl, hacc,
        0, Nat.zero_lt_succ _, rfl, rfl, rfl⟩
      rw [trial_log, Array.back?_push]

theorem tryAlts_false (cc sub : Nat) (alts : List Alt) :
    ∀ (mf : MF) (k : Nat), (mf.tryAlts cc sub k alts).2 = false →
      ∀ (j : Nat) (hj : j < alts.length), ∃ t ∈ (mf.tryAlts cc sub k alts).1.log,
        t.cc = cc ∧ t.sub = sub ∧ t.alt = k + j ∧ t.con = alts[j].con ∧ t.dim = alts[j].dim ∧
        t.accepted = false := by
  induction alts with
  | nil => intro mf k _ j hj; exact absurd hj (Nat.not_lt_zero _)
  | cons a rest ih =>
    intro mf k
    cases hacc : (mf.trial cc sub k a).2
    · rw [tryAlts_cons_rejected rest hacc]
      intro h j hj
      cases j with
      | zero =>
        exact ⟨newTrial mf cc sub k a,
          (tryAlts_reach (W := fun _ => True) (L := []) cc sub rest _ _ fun _ _ => trivial).ext.log _
            (newTrial_mem mf cc sub k a),
          rfl, rfl, rfl, rfl, rfl, hacc⟩
      | succ j =>
        obtain ⟨t, ht, h1, h2, h3, h4, h5, h6⟩ := ih _ _ h j (Nat.lt_of_succ_lt_succ hj)
        exact ⟨t, ht, h1, h2, by rw [h3]; omega, h4, h5, h6⟩
    · rw [tryAlts_cons_accepted rest hacc]
      intro h
      cases h

theorem runSub_nil (mf : MF) (cc sub : Nat) : mf.runSub cc sub [] = { mf with stuck := true } := rfl

theorem runSub_cons (mf : MF) (cc sub : Nat) (a : Alt) (rest : List Alt) :
    mf.runSub cc sub (a :: rest) =
      { (mf.tryAlts cc sub 0 (a :: rest)).1 with
        marks := (mf.tryAlts cc sub 0 (a :: rest)).1.marks.push
          (cc, sub, (mf.tryAlts cc sub 0 (a :: rest)).2) } := rfl

theorem tryAlts_verdict (cc sub : Nat) (a : Alt) (rest : List Alt) (mf : MF) (k : Nat) :
    ∃ t ∈ (mf.tryAlts cc sub k (a :: rest)).1.log,
      t.cc = cc ∧ t.sub = sub ∧ t.accepted = (mf.tryAlts cc sub k (a :: rest)).2 := by
  cases h : (mf.tryAlts cc sub k (a :: rest)).2
  · obtain ⟨t, ht, h1, h2, _, _, _, h6⟩ := tryAlts_false cc sub (a :: rest) mf k h 0 (Nat.zero_lt_succ _)
    exact ⟨t, ht, h1, h2, h6⟩
  · obtain ⟨t, _, ht, h1, h2, h3, _⟩ := tryAlts_true cc sub (a :: rest) mf k h
    exact ⟨t, ht, h1, h2, h3⟩

section
variable {W : Alt → Prop} {L : List Nat}

theorem runSub_reach (mf : MF) (cc sub : Nat) (alts : List Alt) (hw : ∀ a ∈ alts, W a) :
    Reach W L mf (mf.runSub cc sub alts) := by
  cases alts with
  | nil => exact (Move.stuck mf).reach
  | cons a rest =>
    rw [runSub_cons]
    exact (tryAlts_reach cc sub _ mf 0 hw).move (.mark _ cc sub _ (tryAlts_verdict cc sub a rest mf 0))

theorem runSubs_reach (cc : Nat) : ∀ (subs : List (List Alt)) (mf : MF) (i : Nat),
    (∀ alts ∈ subs, ∀ a ∈ alts, W a) → Reach W L mf (mf.runSubs cc i subs)
  | [], _, _, _ => .refl
  | alts :: rest, mf, i, hw =>
    (runSub_reach mf cc i alts (hw alts List.mem_cons_self)).trans
      (runSubs_reach cc rest _ _ fun al ha => hw al (List.mem_cons_of_mem _ ha))

theorem runItem_reach (mf : MF) (it : Item) (hw : ∀ alts ∈ it.subs, ∀ a ∈ alts, W a)
    (hL : it.combine = true → it.cc ∈ L) : Reach W L mf (mf.runItem it) := by
  unfold MF.runItem
  split
  · exact .refl
  · split
    · rename_i hc
      exact (Move.combined mf it.cc it.subs (hL hc) hw).reach
    · exact runSubs_reach it.cc it.subs mf 0 hw

theorem run_reach (items : List Item) (mf : MF) (hw : ∀ it ∈ items, ∀ alts ∈ it.subs, ∀ a ∈ alts, W a)
    (hL : ∀ it ∈ items, it.combine = true → it.cc ∈ L) : Reach W L mf (mf.run items) :=
  List.foldlRecOn (motive := Reach W L mf) items MF.runItem .refl fun b hb it hit =>
    hb.trans (runItem_reach b it (hw it hit) (hL it hit))

end

theorem init_inv (L : List Nat) (n : Nat) (vx vy : Array (Rat × Rat × Rat)) :
    Inv L (MF.init n vx vy) := by
  refine ⟨⟨fun t ht => ?_, fun t ht => ?_, fun m hm => ?_⟩, fun m hm => ?_⟩
  · exact absurd ht (Array.not_mem_empty t)
  · exact absurd ht (Array.not_mem_empty t)
  · exact absurd hm (Array.not_mem_empty m)
  · exact absurd hm (Array.not_mem_empty m)

/-- the compound constraints that go through the combined (trial-less) branch -/
def combinedCCs (items : List Item) : List Nat := (items.filter (·.combine)).map (·.cc)

theorem mem_combinedCCs (items : List Item) (it : Item) (h : it ∈ items) (hc : it.combine = true) :
    it.cc ∈ combinedCCs items :=
  List.mem_map.2 ⟨it, List.mem_filter.2 ⟨h, hc⟩, rfl⟩

theorem run_ext (items : List Item) : ∀ mf : MF, Ext mf (mf.run items) :=
  fun mf => (run_reach (W := fun _ => True) items mf (fun _ _ _ _ _ _ => trivial) (mem_combinedCCs items)).ext

theorem makeFeasible_inv (n : Nat) (vx vy : Array (Rat × Rat × Rat)) (items : List Item) :
    Inv (combinedCCs items) (makeFeasible n vx vy items) :=
  (run_reach (W := fun _ => True) items _ (fun _ _ _ _ _ _ => trivial) (mem_combinedCCs items)).inv
    (init_inv _ n vx vy)

theorem makeFeasible_logOk (n : Nat) (vx vy : Array (Rat × Rat × Rat)) (items : List Item) :
    LogOk (makeFeasible n vx vy items) := (makeFeasible_inv n vx vy items).ok

theorem makeFeasible_dropped (n : Nat) (vx vy : Array (Rat × Rat × Rat)) (items : List Item) :
    ∀ p ∈ (makeFeasible n vx vy items).dropped,
      ∃ t ∈ (makeFeasible n vx vy items).log, t.cc = p.1 ∧ t.sub = p.2 ∧ t.accepted = false := by
  intro p hp
  unfold MF.dropped at hp
  obtain ⟨m, hm, rfl⟩ := List.mem_map.1 hp
  obtain ⟨hm1, hm2⟩ := List.mem_filter.1 hm
  exact (makeFeasible_logOk n vx vy items).dropped m (Array.mem_toList_iff.1 hm1) (by simpa using hm2)

end AdaptaVerif.Lemmas.MakeFeasibleLog
