/-
Connections through the computeCrossings sweep: cutting a segment at a new node preserves every connection
(`joined_of_cut`, `reach_reroute`, `reach_cut`, `IsCut.reach`); the H/V-explicit tail-tracking invariant `Tr`; where the end
node of a horizontal's event can be (`ExH`).  The run over the whole sweep is in PlanariseNoCross.
-/
import AdaptaVerif.Lemmas.PlanariseSweepParts
namespace AdaptaVerif.Lemmas.Planarise
open AdaptaVerif.Model.Planarise

def Joined (segs : List Seg) (a b : Node) : Prop :=
  ∃ t ∈ segs, (t.on = a ∧ t.cn = b) ∨ (t.on = b ∧ t.cn = a)

/-- `b` is reachable from `a` along segments, all intermediate nodes being in `new` -/
inductive Reach (segs : List Seg) (new : List Node) : Node → Node → Prop
  | edge {a b : Node} : Joined segs a b → Reach segs new a b
  | step {a m b : Node} : Joined segs a m → m ∈ new → Reach segs new m b → Reach segs new a b

theorem Joined.symm {segs : List Seg} {a b : Node} (h : Joined segs a b) : Joined segs b a := by
  obtain ⟨t, ht, h⟩ := h; exact ⟨t, ht, h.symm⟩

theorem reach_reroute {segs segs' : List Seg} {new : List Node} {cr : Node}
    (hJ : ∀ a b, Joined segs a b → Joined segs' a b ∨ (Joined segs' a cr ∧ Joined segs' cr b))
    {a b : Node} (h : Reach segs new a b) : Reach segs' (cr :: new) a b := by
  induction h with
  | edge hj =>
    rcases hJ _ _ hj with h | ⟨h1, h2⟩
    · exact Reach.edge h
    · exact Reach.step h1 (by simp) (Reach.edge h2)
  | step hj hm _ ih =>
    rcases hJ _ _ hj with h | ⟨h1, h2⟩
    · exact Reach.step h (by simp [hm]) ih
    · exact Reach.step h1 (by simp) (Reach.step h2 (by simp [hm]) ih)

def Linked (segs : List Seg) : List Node → Prop
  | a :: b :: rest => Joined segs a b ∧ Linked segs (b :: rest)
  | _ => True

theorem linked_of_reach {segs : List Seg} {new : List Node} {a b : Node} (h : Reach segs new a b) :
    ∃ mids : List Node, (∀ m ∈ mids, m ∈ new) ∧ Linked segs (a :: mids ++ [b]) := by
  induction h with
  | edge hj => exact ⟨[], by simp, by simp [Linked, hj]⟩
  | @step a m b hj hm _ ih =>
    obtain ⟨mids, h1, h2⟩ := ih
    refine ⟨m :: mids, ?_, ?_⟩
    · intro m hm'; rcases List.mem_cons.1 hm' with rfl | h
      · exact hm
      · exact h1 m h
    · simp only [List.cons_append, Linked]; exact ⟨hj, h2⟩

theorem Reach.mono {segs : List Seg} {new new' : List Node} (h : ∀ m ∈ new, m ∈ new') {a b : Node}
    (hr : Reach segs new a b) : Reach segs new' a b := by
  induction hr with
  | edge hj => exact Reach.edge hj
  | step hj hm _ ih => exact Reach.step hj (h _ hm) ih

theorem Reach.trans {segs : List Seg} {new : List Node} {a m b : Node}
    (h1 : Reach segs new a m) (hm : m ∈ new) (h2 : Reach segs new m b) : Reach segs new a b := by
  induction h1 with
  | edge hj => exact Reach.step hj hm h2
  | step hj hm' _ ih => exact Reach.step hj hm' (ih hm h2)

theorem Reach.symm {segs : List Seg} {new : List Node} {a b : Node} (h : Reach segs new a b) :
    Reach segs new b a := by
  induction h with
  | edge hj => exact Reach.edge hj.symm
  | step hj hm _ ih => exact ih.trans hm (Reach.edge hj.symm)

theorem reach_chain {segs : List Seg} {new : List Node} : ∀ (l : List Node) (a b : Node),
    (∀ p ∈ consecutive (a :: l ++ [b]), Reach segs new p.1 p.2) → (∀ m ∈ l, m ∈ new) → Reach segs new a b
  | [], a, b, h, _ => h (a, b) (by simp [consecutive])
  | m :: r, a, b, h, hm => by
    have h1 := h (a, m) (by simp [consecutive])
    have h2 := reach_chain r m b (fun p hp => h p (by
      simp only [List.cons_append, consecutive, List.mem_cons]; exact Or.inr hp)) (fun x hx => hm x (List.mem_cons_of_mem _ hx))
    exact h1.trans (hm m (by simp)) h2

theorem joined_of_cut {segs segs' : List Seg} {a : Nat} {t : Seg} {cr c : Node}
    (h1 : segs[a]? = some t) (hc : t.cn = c) (s1 : segs'[segs.length]? = some (mkSeg cr c))
    (s3 : segs'[a]? = some (t.setNewClosing cr)) (s5 : ∀ b, b ≠ a → b ≠ segs.length → segs'[b]? = segs[b]?)
    {x y : Node} (h : Joined segs x y) : Joined segs' x y ∨ (Joined segs' x cr ∧ Joined segs' cr y) := by
  subst hc
  obtain ⟨u, hu, hxy⟩ := h
  obtain ⟨idx, hidx⟩ := List.getElem?_of_mem hu
  have jc : Joined segs' cr t.cn := ⟨_, List.mem_of_getElem? s1, mkSeg_ends cr t.cn⟩
  have jo : Joined segs' t.on cr := ⟨_, List.mem_of_getElem? s3, Or.inl ⟨rfl, rfl⟩⟩
  by_cases e1 : idx = a
  · subst e1; rw [h1] at hidx; cases hidx
    right
    rcases hxy with ⟨rfl, rfl⟩ | ⟨rfl, rfl⟩
    · exact ⟨jo, jc⟩
    · exact ⟨jc.symm, jo.symm⟩
  · rw [← s5 idx e1 (Nat.ne_of_lt (List.getElem?_eq_some_iff.1 hidx).1)] at hidx
    exact Or.inl ⟨u, List.mem_of_getElem? hidx, hxy⟩

/-- `setNewClosingNode` and a continuation segment, on the segment list -/
theorem reach_cut {segs : List Seg} {a : Nat} {t : Seg} (h1 : segs[a]? = some t) (cr : Node) {new : List Node}
    {x y : Node} (h : Reach segs new x y) :
    Reach (segs.set a (t.setNewClosing cr) ++ [mkSeg cr t.cn]) (cr :: new) x y := by
  obtain ⟨s1, s2, s3⟩ := lookup_set_append (t.setNewClosing cr) (mkSeg cr t.cn) (List.getElem?_eq_some_iff.1 h1).1
  exact reach_reroute (fun _ _ hj => joined_of_cut h1 rfl s1 s2 s3 hj) h

variable {S : List Seg} {st : SwState}

theorem IsCut.reach {st' : SwState} {j : Nat} {e : Ev} {so : Seg} {cr cn : Node} (hc : IsCut st st' j e so cr cn)
    (hcn : so.cn = cn) {new : List Node} {a b : Node} (h : Reach st.segs new a b) : Reach st'.segs (cr :: new) a b :=
  reach_reroute (fun _ _ hj => joined_of_cut hc.hso hcn hc.seg_new hc.seg_cut hc.seg_rest hj) h

/-- tail tracking: the segment an OPEN/SUSTAIN event points to ends at the original closing node, as long as
the event's end node has not reached it.  The H/V-explicit reading of the connections and tails in `Geo` (`Geo.tr`), which is what
`computeCrossings_inv` states; the run carries `Geo`.  `reach` is read by `computeCrossings_reach`; `inj`, `tailV`, `tailH`
by `J2.simple` only. -/
structure Tr (S : List Seg) (st : SwState) : Prop where
  reach : ∀ (i : Nat) (s : Seg), S[i]? = some s → Reach st.segs st.cross s.on s.cn
  inj : ∀ (i j : Nat) (ei ej : Ev), st.evs[2 * i]? = some ei → st.evs[2 * j]? = some ej → ei.seg = ej.seg → i = j
  tailV : ∀ (k : Nat) (sk : Seg) (ov : Ev), S[k]? = some sk → sk.ori = .V → st.evs[2 * k]? = some ov →
    ov.endpt.p.y < sk.hi ∧ ∃ t, st.segs[ov.seg]? = some t ∧ t.cn = sk.cn
  tailH : ∀ (i : Nat) (si : Seg) (e : Ev), S[i]? = some si → si.ori = .H → st.evs[2 * i]? = some e → e.endpt.p.x < si.hi →
    ∃ t, st.segs[e.seg]? = some t ∧ t.cn = si.cn

/-- where the end node of a horizontal's OPEN/SUSTAIN event can be: its own left end, or on a vertical already
swept (`P0`), or on a vertical of the current part after its SUSTAIN was handled -/
def ExH (S : List Seg) (P0 : Nat → Prop) (X : Rat) (pre : List Nat) (st : SwState) : Prop :=
  ∀ (i : Nat) (si : Seg) (e : Ev), S[i]? = some si → si.ori = .H → st.evs[2 * i]? = some e →
    e.endpt.p.x = si.lo ∨
    (∃ (k : Nat) (sk : Seg), S[k]? = some sk ∧ sk.ori = .V ∧ P0 (2 * k) ∧ e.endpt.p.x = sk.cc) ∨
    (∃ (k : Nat) (sk : Seg), S[k]? = some sk ∧ sk.ori = .V ∧ sk.cc = X ∧ e.endpt.p.x = X ∧ 2 * i ∈ pre)

/-- `Tr` and `ExH` together: with `J3` the H/V-explicit reading of `JGeo`.  The run (`computeCrossings_inv`) does not carry it: it
carries `JGeo` and reads `Tr` off `Geo` at the end (`Geo.tr`).  Nothing reads `J2` or `J2.simple`. -/
structure J2 (S : List Seg) (P0 : Nat → Prop) (X : Rat) (pre : List Nat) (st : SwState) : Prop where
  tr : Tr S st
  ex : ExH S P0 X pre st

section
variable {P0 : Nat → Prop} {X : Rat} {pre : List Nat}

theorem ExH.congr {st' : SwState} (h : ExH S P0 X pre st) (x : Nat) (hg : GeoEq st st') : ExH S P0 X (pre ++ [x]) st' := by
  intro i si e hs hH he
  obtain ⟨e0, h0, _, hend⟩ := hg.ev he
  rw [hend]
  rcases h i si e0 hs hH h0 with a | a | ⟨k, sk, a, b, c, d, f⟩
  · exact Or.inl a
  · exact Or.inr (Or.inl a)
  · exact Or.inr (Or.inr ⟨k, sk, a, b, c, d, List.mem_append_left _ f⟩)

theorem J2.simple {st' : SwState} (h : J2 S P0 X pre st) (x : Nat) (h1 : st'.segs = st.segs)
    (h2 : st'.evs = st.evs) (h3 : st'.cross = st.cross) : J2 S P0 X (pre ++ [x]) st' :=
  ⟨⟨by rw [h1, h3]; exact h.tr.reach, by rw [h2]; exact h.tr.inj, by rw [h1, h2]; exact h.tr.tailV,
      by rw [h1, h2]; exact h.tr.tailH⟩, h.ex.congr x (.of_eq h1 h2 h3)⟩

end

section
variable {P0 : Nat → Prop} {X : Rat} {part : List Nat} {st0 : SwState}

/-- between two x-parts the third alternative of `ExH` is empty: entering the part at `X` -/
theorem ExH.enter {st' : SwState} (h : ExH S P0 0 [] st) (hev : st'.evs = st.evs) : ExH S P0 X [] st' := by
  intro i si e hs hH he
  rcases h i si e hs hH (hev ▸ he) with a | a | ⟨_, _, _, _, _, _, f⟩
  · exact Or.inl a
  · exact Or.inr (Or.inl a)
  · simp at f

theorem ExH.leave {done : List Nat} (hC : PartCtx S (fun x => x ∈ done) X part st0) {L : List Nat}
    (h : ExH S (fun x => x ∈ done) X L st) : ExH S (fun x => x ∈ done ++ part) 0 [] st := by
  intro i si e hs hH he
  rcases h i si e hs hH he with a | ⟨k, sk, a, b, c, d⟩ | ⟨k, sk, a, b, c, d, _⟩
  · exact Or.inl a
  · exact Or.inr (Or.inl ⟨k, sk, a, b, List.mem_append_left _ c, d⟩)
  · have := (hC.hpart k sk a).1.2 (by rw [(hC.good.segV a b).on_x, c])
    exact Or.inr (Or.inl ⟨k, sk, a, b, List.mem_append_right _ this, by rw [d, c]⟩)

end

theorem init_exH (hG : Good S) (nid : Nat) :
    ExH S (fun x => x ∈ ([] : List Nat)) 0 [] { segs := S, evs := mkEvents 0 S, nextId := nid } := by
  intro i si e hs hH he
  simp only at he
  have g := (mkEvents_get S 0 i si hs).1
  rw [he] at g; cases g
  exact Or.inl (by simp [mkEv, (hG.segH hs hH).on_x])

end AdaptaVerif.Lemmas.Planarise
