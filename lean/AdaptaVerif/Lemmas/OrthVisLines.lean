/-
Lemmas about `Model/OrthVis.lean`: the candidate segments of a whole sweep are good; the crossing phase
(`hVerts`, `vVerts`) keeps the vertices of a line, adds only dummy vertices, all inside the line's extent; the
sentinels bound the scene; the lines of the model (`hSegs`, `vSegs`, each with its vertices) are good and pairwise
disjoint, and a vertical line receives what a horizontal line has where the two cross.
-/
import AdaptaVerif.Lemmas.OrthVisCover

namespace AdaptaVerif.Lemmas.OrthVis
open AdaptaVerif.Model.OrthVis

def HasConnIn (conns : List Conn) (R : Rect) : Prop := ∃ c ∈ conns, StrictIn R c.x c.y

theorem rawSides_good (P : Rect → Prop) (lo hi : Rat) (rects : List Rect)
    (hb : ∀ v ∈ rects, lo ≤ v.x0 ∧ v.x1 ≤ hi) : ∀ s ∈ rawSides lo hi rects, Good P rects s := by
  intro s hs
  obtain ⟨⟨v, i⟩, hvi, hs⟩ := List.mem_flatMap.mp hs
  have hv : rects[i]? = some v := List.mem_zipIdx_iff_getElem?.mp hvi
  obtain ⟨b1, b2⟩ := hb v (List.mem_of_getElem? hv)
  rcases List.mem_append.mp hs with hs | hs
  · exact sideSegsH_good P lo hi rects i v hv v.y0 (Or.inl rfl) b1 b2 s hs
  · exact sideSegsH_good P lo hi rects i v hv v.y1 (Or.inr rfl) b1 b2 s hs

theorem rawH_good (lo hi : Rat) (rects : List Rect) (conns : List Conn)
    (hb : ∀ v ∈ rects, lo ≤ v.x0 ∧ v.x1 ≤ hi) :
    ∀ s ∈ rawH lo hi rects conns, Good (HasConnIn conns) rects s := by
  intro s hs
  rcases List.mem_append.mp hs with hs | hs
  · exact rawSides_good _ lo hi rects hb s hs
  · obtain ⟨⟨c, i⟩, hci, rfl⟩ := List.mem_map.mp hs
    have hc : c ∈ conns := List.mem_of_getElem? (List.mem_zipIdx_iff_getElem?.mp (List.mem_filter.mp hci).1)
    exact (connSegH_good lo hi rects i c).mono (fun R hR => ⟨c, hc, hR⟩)

theorem rawV_good (lo hi : Rat) (rects : List Rect) (conns : List Conn)
    (hb : ∀ v ∈ rects, lo ≤ v.x0 ∧ v.x1 ≤ hi) :
    ∀ s ∈ rawV lo hi rects conns, Good (HasConnIn conns) rects s := by
  intro s hs
  rcases List.mem_append.mp hs with hs | hs
  · exact rawSides_good _ lo hi rects hb s hs
  · obtain ⟨c, hc, hs⟩ := List.mem_flatMap.mp hs
    exact (connSegsV_good lo hi rects c s hs).mono (fun R hR => ⟨c, (List.mem_filter.mp hc).1, hR⟩)

theorem mem_ensure {vs : List LV} {t : Rat} {q : LV} (h : q ∈ ensure vs t) : q ∈ vs ∨ q = ⟨t, .node⟩ := by
  unfold ensure at h
  split at h
  · exact Or.inl h
  · exact (List.mem_append.mp h).imp_right List.mem_singleton.mp

theorem mem_ensureFin {inf : Rat} {vs : List LV} {t : Rat} {q : LV} (h : q ∈ ensureFin inf vs t) :
    q ∈ vs ∨ q = ⟨t, .node⟩ := by
  unfold ensureFin at h
  split at h
  · exact Or.inl h
  · exact mem_ensure h

theorem mem_foldl_ensure {ts : List Rat} {vs : List LV} {q : LV} (h : q ∈ ts.foldl ensure vs) :
    q ∈ vs ∨ ∃ t ∈ ts, q = ⟨t, .node⟩ := by
  induction ts generalizing vs with
  | nil => exact Or.inl h
  | cons t r ih =>
    rcases ih h with h | ⟨t', ht', h⟩
    · exact (mem_ensure h).imp_right fun e => ⟨t, List.mem_cons_self, e⟩
    · exact Or.inr ⟨t', List.mem_cons_of_mem _ ht', h⟩

theorem crosses_iff {h v : Seg} : crosses h v = true ↔ v.b ≤ h.p ∧ h.p ≤ v.f ∧ h.b ≤ v.p ∧ v.p ≤ h.f := by
  simp only [crosses, Bool.and_eq_true, decide_eq_true_eq, and_assoc]

theorem mem_hVerts {lo hi : Rat} {vls : List Seg} {h : Seg} {q : LV} (hq : q ∈ hVerts lo hi vls h) :
    q ∈ h.vs ∨ q.k = .node ∧ (q.t = h.b ∨ q.t = h.f ∨ ∃ v ∈ vls, crosses h v = true ∧ q.t = v.p) := by
  rcases mem_foldl_ensure hq with hq | ⟨t, ht, rfl⟩
  · rcases mem_ensureFin hq with hq | rfl
    · rcases mem_ensureFin hq with hq | rfl
      · rcases List.mem_append.mp hq with hq | hq
        · exact Or.inl hq
        · obtain ⟨v, hv, rfl⟩ := List.mem_map.mp hq
          have hcond := (List.mem_filter.mp hv).2
          simp only [Bool.and_eq_true, Bool.or_eq_true, beq_iff_eq] at hcond
          exact Or.inr ⟨rfl, hcond.1.imp_right Or.inl⟩
      · exact Or.inr ⟨rfl, Or.inl rfl⟩
    · exact Or.inr ⟨rfl, Or.inr (Or.inl rfl)⟩
  · obtain ⟨v, hv, rfl⟩ := List.mem_map.mp ht
    exact Or.inr ⟨rfl, Or.inr (Or.inr ⟨v, (List.mem_filter.mp hv).1, (List.mem_filter.mp hv).2, rfl⟩)⟩

theorem hVerts_range (lo hi : Rat) (vls : List Seg) (h : Seg) (wf : h.b ≤ h.f)
    (inr : ∀ q ∈ h.vs, h.b ≤ q.t ∧ q.t ≤ h.f) :
    ∀ q ∈ hVerts lo hi vls h, h.b ≤ q.t ∧ q.t ≤ h.f := by
  intro q hq
  rcases mem_hVerts hq with hq | ⟨_, e | e | ⟨v, _, hc, e⟩⟩
  · exact inr q hq
  · rw [e]; exact ⟨le_refl _, wf⟩
  · rw [e]; exact ⟨wf, le_refl _⟩
  · rw [e]; exact (crosses_iff.mp hc).2.2

theorem mem_vFrom {v h : Seg} {hv : List LV} {q : LV} :
    q ∈ vFrom v h hv ↔ crosses h v = true ∧ q.t = h.p ∧ (⟨v.p, q.k⟩ : LV) ∈ hv := by
  unfold vFrom
  constructor
  · intro h'
    split at h'
    · rename_i hc
      obtain ⟨⟨t, k⟩, hq', rfl⟩ := List.mem_map.mp h'
      obtain ⟨hm, ht⟩ := List.mem_filter.mp hq'
      obtain rfl : t = v.p := by simpa using ht
      exact ⟨hc, rfl, hm⟩
    · cases h'
  · rintro ⟨hc, ht, hm⟩
    rw [if_pos hc]
    obtain ⟨t, k⟩ := q
    obtain rfl : t = h.p := ht
    exact List.mem_map.mpr ⟨⟨v.p, k⟩, List.mem_filter.mpr ⟨hm, by simp⟩, rfl⟩

theorem mem_vVerts {lo hi : Rat} {hls : List (Seg × List LV)} {v : Seg} {q : LV} (hq : q ∈ vVerts lo hi hls v) :
    (∃ p ∈ hls, q ∈ vFrom v p.1 p.2) ∨ q = ⟨v.b, .node⟩ ∨ q = ⟨v.f, .node⟩ := by
  rcases mem_ensureFin hq with hq | rfl
  · rcases mem_ensureFin hq with hq | rfl
    · exact Or.inl (List.mem_flatMap.mp hq)
    · exact Or.inr (Or.inl rfl)
  · exact Or.inr (Or.inr rfl)

theorem vVerts_range (lo hi : Rat) (hls : List (Seg × List LV)) (v : Seg) (wf : v.b ≤ v.f) :
    ∀ q ∈ vVerts lo hi hls v, v.b ≤ q.t ∧ q.t ≤ v.f := by
  intro q hq
  rcases mem_vVerts hq with ⟨p, _, hq⟩ | rfl | rfl
  · obtain ⟨hc, e, _⟩ := mem_vFrom.mp hq
    rw [e]; exact ⟨(crosses_iff.mp hc).1, (crosses_iff.mp hc).2.1⟩
  · exact ⟨le_refl _, wf⟩
  · exact ⟨wf, le_refl _⟩

theorem mem_ensure_of_mem {vs : List LV} {t : Rat} {q : LV} (h : q ∈ vs) : q ∈ ensure vs t := by
  unfold ensure; split
  · exact h
  · exact List.mem_append_left _ h

theorem mem_ensureFin_of_mem {inf : Rat} {vs : List LV} {t : Rat} {q : LV} (h : q ∈ vs) :
    q ∈ ensureFin inf vs t := by
  unfold ensureFin; split
  · exact h
  · exact mem_ensure_of_mem h

theorem mem_foldl_ensure_of_mem {ts : List Rat} {vs : List LV} {q : LV} (h : q ∈ vs) :
    q ∈ ts.foldl ensure vs := by
  induction ts generalizing vs with
  | nil => exact h
  | cons t r ih => exact ih (mem_ensure_of_mem h)

theorem mem_hVerts_of_mem (lo hi : Rat) (vls : List Seg) (h : Seg) {q : LV} (hq : q ∈ h.vs) :
    q ∈ hVerts lo hi vls h :=
  mem_foldl_ensure_of_mem (mem_ensureFin_of_mem (mem_ensureFin_of_mem (List.mem_append_left _ hq)))

theorem hasAt_iff {vs : List LV} {t : Rat} : hasAt vs t = true ↔ ∃ q ∈ vs, q.t = t := by
  simp only [hasAt, List.any_eq_true, beq_iff_eq]

theorem exists_at_ensure (vs : List LV) (t : Rat) : ∃ q ∈ ensure vs t, q.t = t := by
  unfold ensure
  split
  · rename_i h; exact hasAt_iff.mp h
  · exact ⟨⟨t, .node⟩, List.mem_append_right _ (List.mem_singleton.mpr rfl), rfl⟩

theorem exists_at_foldl_ensure (ts : List Rat) (vs : List LV) (t : Rat) (ht : t ∈ ts) :
    ∃ q ∈ ts.foldl ensure vs, q.t = t := by
  induction ts generalizing vs with
  | nil => cases ht
  | cons a r ih =>
    rcases List.mem_cons.mp ht with rfl | ht
    · obtain ⟨q, hq, hqt⟩ := exists_at_ensure vs t
      exact ⟨q, mem_foldl_ensure_of_mem (ts := r) hq, hqt⟩
    · exact ih _ ht

theorem lo_hi_bound (s : Scene) : ∀ x ∈ s.coords, s.lo ≤ x ∧ x ≤ s.hi := fun _ hx =>
  ⟨le_trans (sub_le_self _ zero_le_one) (minL_le_mem hx), le_trans (mem_le_maxL hx) (le_add_of_nonneg_right zero_le_one)⟩

theorem rect_bounds (s : Scene) : ∀ v ∈ s.rects, (s.lo ≤ v.x0 ∧ v.x1 ≤ s.hi) ∧ (s.lo ≤ v.y0 ∧ v.y1 ≤ s.hi) := by
  intro v hv
  have hm : ∀ x ∈ [v.x0, v.y0, v.x1, v.y1], s.lo ≤ x ∧ x ≤ s.hi := fun x hx =>
    lo_hi_bound s x (List.mem_append_left _ (List.mem_flatMap.mpr ⟨v, hv, hx⟩))
  exact ⟨⟨(hm _ (by simp)).1, (hm _ (by simp)).2⟩, ⟨(hm _ (by simp)).1, (hm _ (by simp)).2⟩⟩

theorem Dirs.tr_none (d : Dirs) : d.tr.none = d.none := by
  rcases d with ⟨u, dn, l, r⟩
  cases u <;> cases dn <;> cases l <;> cases r <;> rfl

theorem fixDirs_pos (s : Scene) : ∀ c ∈ s.fixDirs, ∃ c' ∈ s.conns, c'.x = c.x ∧ c'.y = c.y := by
  intro c hc
  obtain ⟨c', hc', rfl⟩ := List.mem_map.mp hc
  exact ⟨c', hc', by split <;> rfl, by split <;> rfl⟩

theorem fixDirs_bounds (s : Scene) : ∀ c ∈ s.fixDirs, (s.lo ≤ c.x ∧ c.x ≤ s.hi) ∧ (s.lo ≤ c.y ∧ c.y ≤ s.hi) := by
  intro c hc
  obtain ⟨c', hc', e1, e2⟩ := fixDirs_pos s c hc
  have hm : ∀ x ∈ [c'.x, c'.y], s.lo ≤ x ∧ x ≤ s.hi := fun x hx =>
    lo_hi_bound s x (List.mem_append_right _ (List.mem_flatMap.mpr ⟨c', hc', hx⟩))
  rw [← e1, ← e2]
  exact ⟨hm _ (by simp), hm _ (by simp)⟩

/-- the merged segments of the vertical sweep (horizontal lines) and of the horizontal sweep (vertical lines, on
    the transposed scene) -/
def hSegs (s : Scene) : List Seg := mergeAll (rawH s.lo s.hi s.rects s.fixDirs)
def vSegs (s : Scene) : List Seg := mergeAll (rawV s.lo s.hi (s.rects.map Rect.tr) (s.fixDirs.map Conn.tr))

theorem mem_map_with {l : List Seg} {f : Seg → List LV} {p : Seg × List LV} :
    p ∈ l.map (fun h => (h, f h)) ↔ p.1 ∈ l ∧ p.2 = f p.1 := by
  rw [List.mem_map]
  exact ⟨fun ⟨_, hh, e⟩ => e ▸ ⟨hh, rfl⟩, fun ⟨hh, e⟩ => ⟨p.1, hh, Prod.ext rfl e.symm⟩⟩

theorem mem_lines_hs {s : Scene} {p : Seg × List LV} :
    p ∈ s.lines.hs ↔ p.1 ∈ hSegs s ∧ p.2 = hVerts s.lo s.hi (vSegs s) p.1 :=
  mem_map_with (l := hSegs s)

theorem mem_lines_vs {s : Scene} {p : Seg × List LV} :
    p ∈ s.lines.vs ↔ p.1 ∈ vSegs s ∧ p.2 = vVerts s.lo s.hi s.lines.hs p.1 :=
  mem_map_with (l := vSegs s)

theorem vline_receives {s : Scene} {pv ph : Seg × List LV} (hv : pv ∈ s.lines.vs) (hh : ph ∈ s.lines.hs) {q : LV}
    (hq : q ∈ vFrom pv.1 ph.1 ph.2) : q ∈ pv.2 := by
  rw [(mem_lines_vs.mp hv).2]
  exact mem_ensureFin_of_mem (mem_ensureFin_of_mem (List.mem_flatMap.mpr ⟨ph, hh, hq⟩))

theorem map_with_fst (l : List Seg) (f : Seg → List LV) : (l.map fun h => (h, f h)).map (·.1) = l := by
  rw [List.map_map]; exact List.map_id _

theorem lines_hs_fst (s : Scene) : s.lines.hs.map (·.1) = hSegs s := map_with_fst (hSegs s) _

theorem lines_vs_fst (s : Scene) : s.lines.vs.map (·.1) = vSegs s := map_with_fst (vSegs s) _

theorem scene_rawH_good (s : Scene) :
    ∀ r ∈ rawH s.lo s.hi s.rects s.fixDirs, Good (HasConnIn s.fixDirs) s.rects r :=
  rawH_good _ _ _ _ fun v hv => (rect_bounds s v hv).1

theorem scene_rawV_good (s : Scene) :
    ∀ r ∈ rawV s.lo s.hi (s.rects.map Rect.tr) (s.fixDirs.map Conn.tr),
      Good (HasConnIn (s.fixDirs.map Conn.tr)) (s.rects.map Rect.tr) r :=
  rawV_good _ _ _ _ fun r hr => by
    obtain ⟨r', hr', rfl⟩ := List.mem_map.mp hr
    exact (rect_bounds s r' hr').2

theorem segs_disjoint (s : Scene) : Disjoint (hSegs s) ∧ Disjoint (vSegs s) :=
  ⟨mergeAll_disjoint _ fun r hr => (scene_rawH_good s r hr).wf,
    mergeAll_disjoint _ fun r hr => (scene_rawV_good s r hr).wf⟩

theorem hline_eq_of_meets (s : Scene) {p q : Seg × List LV} (hp : p ∈ s.lines.hs) (hq : q ∈ s.lines.hs)
    (h : Meets p.1 q.1) : p = q := by
  have hsame : p.1 = q.1 := by
    by_contra hne
    exact (segs_disjoint s).1.not_meets (mem_lines_hs.mp hp).1 (mem_lines_hs.mp hq).1 hne h
  exact Prod.ext hsame (by rw [(mem_lines_hs.mp hp).2, (mem_lines_hs.mp hq).2, hsame])

theorem HasConnIn.of_fixDirs {s : Scene} {R : Rect} (h : HasConnIn s.fixDirs R) : HasConnIn s.conns R := by
  obtain ⟨c, hc, hin⟩ := h
  obtain ⟨c', hc', e1, e2⟩ := fixDirs_pos s c hc
  exact ⟨c', hc', by rw [e1, e2]; exact hin⟩

theorem hLines_good (s : Scene) : ∀ p ∈ s.lines.hs,
    Good (HasConnIn s.conns) s.rects p.1 ∧ ∀ q ∈ p.2, p.1.b ≤ q.t ∧ q.t ≤ p.1.f := by
  intro p hp
  obtain ⟨hm, e⟩ := mem_lines_hs.mp hp
  have g := mergeAll_good (scene_rawH_good s) p.1 hm
  exact ⟨g.mono fun _ => HasConnIn.of_fixDirs, e ▸ hVerts_range _ _ _ p.1 g.wf g.inr⟩

theorem vLines_good (s : Scene) : ∀ p ∈ s.lines.vs,
    Good (fun R => HasConnIn s.conns R.tr) (s.rects.map Rect.tr) p.1 ∧ ∀ q ∈ p.2, p.1.b ≤ q.t ∧ q.t ≤ p.1.f := by
  intro p hp
  obtain ⟨hm, e⟩ := mem_lines_vs.mp hp
  have g := mergeAll_good (scene_rawV_good s) p.1 hm
  refine ⟨g.mono fun R ⟨c, hc, hin⟩ => ?_, e ▸ vVerts_range _ _ _ p.1 g.wf⟩
  obtain ⟨c0, hc0, rfl⟩ := List.mem_map.mp hc
  exact HasConnIn.of_fixDirs ⟨c0, hc0, (StrictIn_tr R c0.x c0.y).mpr hin⟩

end AdaptaVerif.Lemmas.OrthVis
