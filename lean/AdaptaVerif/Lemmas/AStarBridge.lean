/-
Bridges: the kernels of the A* search regenerated from makepath.cpp / graph.cpp by cpp2lean
(`Gen/AStarK.lean`, job `astar` of tools/cpp2lean/jobs_astar.py) are the hand model of `Model/AStar.lean`.
-/
import AdaptaVerif.Gen.AStarK
import AdaptaVerif.Model.AStar
import AdaptaVerif.Lemmas.GenLoopBridge
namespace AdaptaVerif.Lemmas.AStarBridge
open AdaptaVerif.Model.Geometry (Pt)
open AdaptaVerif.Lemmas.GenLoopBridge
namespace G
export AdaptaVerif.Gen.AStarK (aNodeCmp aNodeCmp_pre Dot CrossLength orthogTurnOrder orthogTurnOrder_pre)
end G
namespace M
export AdaptaVerif.Model.AStar (worse Node ANodeK dot crossLength orthogTurnOrder epsDouble)
end M

/-- the key record the generated comparator reads, for a model node -/
def key (n : M.Node) : M.ANodeK := ⟨n.f, (n.ts : Int)⟩

theorem aNodeCmp_eq (a b : M.Node) : G.aNodeCmp (key a) (key b) = M.worse M.epsDouble a b := by
  unfold AdaptaVerif.Gen.AStarK.aNodeCmp AdaptaVerif.Model.AStar.worse key AdaptaVerif.Model.AStar.epsDouble
    AdaptaVerif.Gen.absR AdaptaVerif.Model.AStar.absR
  simp only [decide_eq_true_eq, ne_eq, Int.natCast_inj, Int.ofNat_lt]

theorem aNodeCmp_pre (a b : M.ANodeK) : G.aNodeCmp_pre a b = true := by
  unfold AdaptaVerif.Gen.AStarK.aNodeCmp_pre
  repeat' split
  all_goals rfl

theorem dot_eq (l r : Pt) : G.Dot l r = M.dot l r := rfl
theorem crossLength_eq (l r : Pt) : G.CrossLength l r = M.crossLength l r := rfl

theorem vecDir_eq (a b c : Pt) :
    AdaptaVerif.Gen.AStarK.vecDir a b c 0 = AdaptaVerif.Model.Geometry.vecDir a b c 0 := by
  unfold AdaptaVerif.Gen.AStarK.vecDir AdaptaVerif.Model.Geometry.vecDir AdaptaVerif.Model.Geometry.area2
  simp only [Rat.neg_zero]
  by_cases h : (b.x - a.x) * (c.y - a.y) - (c.x - a.x) * (b.y - a.y) < 0
  · simp [h]
  · simp [h]

theorem orthogTurnOrder_eq (a b c : Pt) : G.orthogTurnOrder a b c = (M.orthogTurnOrder a b c : Int) := by
  unfold AdaptaVerif.Gen.AStarK.orthogTurnOrder AdaptaVerif.Model.AStar.orthogTurnOrder
  simp only [vecDir_eq, earlyExit_ite, earlyExit_some, earlyExit_none, Bool.or_eq_true, Bool.and_eq_true, decide_eq_true_eq,
    ne_eq, apply_ite (Nat.cast : Nat → Int)]
  rfl

theorem vecDir_pre_zero (a b c : Pt) : AdaptaVerif.Gen.AStarK.vecDir_pre a b c 0 = true := by
  simp only [AdaptaVerif.Gen.AStarK.vecDir_pre, ite_self, ge_iff_le, Rat.le_refl, decide_true, Bool.and_self]

/-- the only assertion reached is `maybeZero >= 0` of `vecDir`, called with `0` -/
theorem orthogTurnOrder_pre (a b c : Pt) : G.orthogTurnOrder_pre a b c = true := by
  simp only [AdaptaVerif.Gen.AStarK.orthogTurnOrder_pre, vecDir_pre_zero, earlyExitPre_true, ite_self,
    Bool.and_self]

end AdaptaVerif.Lemmas.AStarBridge
