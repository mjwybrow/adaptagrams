/-
C17 — completeness of `checkApsp`: the exact distance matrix of a valid graph is accepted, so a
rejection (SPECFAIL) always means the examined matrix is NOT the shortest-path matrix.

The only non-trivial part is the tight-edge closure: it reaches a fixpoint within `n` sweeps
(counting argument: every changing sweep marks a new vertex), and a fixpoint containing the
source contains every vertex with a finite exact distance (walk induction: every prefix of a
minimum walk is a minimum walk, so its last edge is tight).
-/
import AdaptaVerif.Lemmas.ApspCheck
namespace AdaptaVerif.Lemmas.Apsp
open AdaptaVerif.Model.ShortestPaths AdaptaVerif.Spec.Apsp AdaptaVerif.Check.Apsp

def cnt (r : Array Bool) : Nat := r.count true

theorem cnt_le (r : Array Bool) : cnt r ≤ r.size := Array.count_le_size

theorem marked_false_get {r : Array Bool} {v : Nat} (hv : v < r.size) (h : marked r v = false) : r[v] = false := by
  unfold marked at h
  rw [Array.getElem?_eq_getElem hv] at h
  simpa using h

theorem cnt_mark {r : Array Bool} {v : Nat} (hv : v < r.size) (h : marked r v = false) :
    cnt (r.setIfInBounds v true) = cnt r + 1 := by
  unfold cnt
  have : r.setIfInBounds v true = r.set v true hv := by
    unfold Array.setIfInBounds; simp [hv]
  rw [this, Array.count_set hv, marked_false_get hv h]
  simp

theorem marked_set_self {r : Array Bool} {v : Nat} (hv : v < r.size) : marked (r.setIfInBounds v true) v = true := by
  unfold marked
  rw [Array.getElem?_setIfInBounds]
  simp [hv]

theorem marked_set_mono {r : Array Bool} {v x : Nat} (h : marked r x = true) : marked (r.setIfInBounds v true) x = true := by
  unfold marked at h ⊢
  rw [Array.getElem?_setIfInBounds]
  by_cases hvx : v = x
  · subst hvx
    by_cases hs : v < r.size
    · simp [hs]
    · have : r[v]? = none := Array.getElem?_eq_none (Nat.le_of_not_lt hs)
      rw [this] at h; simp at h
  · simp [hvx, h]

/-- the guard of `tryMark` -/
def fires (d : Nat → Dist) (r : Array Bool) (u v : Nat) (w : Rat) : Bool :=
  marked r u && !marked r v && tight d u v w

theorem tryMark_fire {d : Nat → Dist} {st : Array Bool × Bool} {u v : Nat} {w : Rat}
    (h : fires d st.1 u v w = true) : tryMark d st u v w = (st.1.setIfInBounds v true, true) := by
  unfold tryMark; unfold fires at h; rw [if_pos h]

theorem tryMark_nofire {d : Nat → Dist} {st : Array Bool × Bool} {u v : Nat} {w : Rat}
    (h : fires d st.1 u v w = false) : tryMark d st u v w = st := by
  unfold tryMark; unfold fires at h; rw [if_neg (by simp [h])]

/-- bookkeeping kept by every `tryMark` whose target vertex is in range -/
structure Prog (r0 : Array Bool) (st : Array Bool × Bool) : Prop where
  size : st.1.size = r0.size
  mono : ∀ x, marked r0 x = true → marked st.1 x = true
  count : cnt r0 ≤ cnt st.1
  strict : st.2 = true → cnt r0 < cnt st.1

theorem tryMark_prog {d : Nat → Dist} {r0 : Array Bool} {st : Array Bool × Bool} (h : Prog r0 st)
    {u v : Nat} (w : Rat) (hv : v < r0.size) : Prog r0 (tryMark d st u v w) := by
  cases hf : fires d st.1 u v w with
  | false => rw [tryMark_nofire hf]; exact h
  | true =>
    rw [tryMark_fire hf]
    unfold fires at hf
    simp only [Bool.and_eq_true, Bool.not_eq_true'] at hf
    have hvs : v < st.1.size := by rw [h.size]; exact hv
    have hc := cnt_mark hvs hf.1.2
    constructor
    · simp only; rw [Array.size_setIfInBounds]; exact h.size
    · intro x hx; exact marked_set_mono (h.mono x hx)
    · simp only; rw [hc]; have := h.count; omega
    · intro _; simp only; rw [hc]; have := h.count; omega

def sweepStep (d : Nat → Dist) (st : Array Bool × Bool) (e : Nat × Nat × Rat) : Array Bool × Bool :=
  tryMark d (tryMark d st e.1 e.2.1 e.2.2) e.2.1 e.1 e.2.2

theorem sweep_eq (es : List (Nat × Nat × Rat)) (d : Nat → Dist) (r : Array Bool) :
    sweep es d r = es.foldl (sweepStep d) (r, false) := rfl

theorem tryMark_flag_false {d : Nat → Dist} {st : Array Bool × Bool} {u v : Nat} {w : Rat}
    (h : (tryMark d st u v w).2 = false) : tryMark d st u v w = st ∧ fires d st.1 u v w = false := by
  cases hf : fires d st.1 u v w with
  | false => exact ⟨tryMark_nofire hf, rfl⟩
  | true => rw [tryMark_fire hf] at h; simp at h

theorem sweep_fold_unchanged {d : Nat → Dist} :
    ∀ (es : List (Nat × Nat × Rat)) (st : Array Bool × Bool), (es.foldl (sweepStep d) st).2 = false →
      es.foldl (sweepStep d) st = st ∧
      ∀ e ∈ es, fires d st.1 e.1 e.2.1 e.2.2 = false ∧ fires d st.1 e.2.1 e.1 e.2.2 = false := by
  intro es
  induction es with
  | nil => intro st _; exact ⟨rfl, fun e he => by cases he⟩
  | cons e rest ih =>
    intro st h
    rw [List.foldl_cons] at h ⊢
    obtain ⟨heq, hrest⟩ := ih _ h
    rw [heq] at h
    unfold sweepStep at h
    obtain ⟨h2eq, h2f⟩ := tryMark_flag_false h
    rw [h2eq] at h
    obtain ⟨h1eq, h1f⟩ := tryMark_flag_false h
    rw [h1eq] at h2f
    have hstep : sweepStep d st e = st := by unfold sweepStep; rw [h2eq, h1eq]
    rw [hstep] at heq hrest ⊢
    refine ⟨heq, ?_⟩
    intro e' he'
    rcases List.mem_cons.mp he' with rfl | he''
    · exact ⟨h1f, h2f⟩
    · exact hrest e' he''

def TightClosed (g : Graph) (d : Nat → Dist) (r : Array Bool) : Prop :=
  ∀ u v w, HasEdge g u v w → marked r u = true → tight d u v w = true → marked r v = true

theorem closed_of_unchanged {g : Graph} {d : Nat → Dist} {r : Array Bool}
    (h : (sweep g.edges d r).2 = false) : (sweep g.edges d r).1 = r ∧ TightClosed g d r := by
  rw [sweep_eq] at h ⊢
  obtain ⟨heq, hno⟩ := sweep_fold_unchanged g.edges (r, false) h
  refine ⟨by rw [heq], ?_⟩
  intro u v w he hu ht
  have hf : fires d r u v w = false := by
    rcases he with he | he
    · exact (hno _ he).1
    · exact (hno _ he).2
  unfold fires at hf
  rw [hu, ht] at hf
  simpa using hf

theorem closure_closed {g : Graph} (hv : Valid g) {d : Nat → Dist} :
    ∀ (fuel : Nat) (r : Array Bool), r.size = g.n → g.n < fuel + cnt r →
      TightClosed g d (closure g.edges d fuel r) ∧
      ∀ x, marked r x = true → marked (closure g.edges d fuel r) x = true := by
  intro fuel
  induction fuel with
  | zero =>
    intro r hsz hc
    have := cnt_le r
    omega
  | succ f ih =>
    intro r hsz hc
    unfold closure
    simp only
    have hlt : ∀ e ∈ g.edges, e.1 < r.size ∧ e.2.1 < r.size := by
      intro e he; rw [hsz]; exact ⟨(hv e he).1, (hv e he).2.1⟩
    have hprog : Prog r (sweep g.edges d r) :=
      List.foldlRecOn (motive := Prog r) g.edges (sweepStep d) ⟨rfl, fun _ h => h, le_refl _, fun h => by cases h⟩
        fun _ h e he => tryMark_prog (tryMark_prog h e.2.2 (hlt e he).2) e.2.2 (hlt e he).1
    by_cases hch : (sweep g.edges d r).2 = true
    · rw [if_pos hch]
      have hs := hprog.strict hch
      obtain ⟨h1, h2⟩ := ih (sweep g.edges d r).1 (by rw [hprog.size]; exact hsz) (by omega)
      exact ⟨h1, fun x hx => h2 x (hprog.mono x hx)⟩
    · rw [if_neg hch]
      have hch' : (sweep g.edges d r).2 = false := by simpa using hch
      obtain ⟨heq, hcl⟩ := closed_of_unchanged hch'
      rw [heq]
      exact ⟨hcl, fun _ h => h⟩

theorem reachTight_closed {g : Graph} (hv : Valid g) (d : Nat → Dist) {i : Nat} (hi : i < g.n) :
    TightClosed g d (reachTight g d i) ∧ marked (reachTight g d i) i = true := by
  unfold reachTight
  have hsz : ((Array.replicate g.n false).setIfInBounds i true).size = g.n := by simp
  have hi' : i < (Array.replicate g.n false).size := by simp [hi]
  have hm0 : marked (Array.replicate g.n false) i = false := by
    unfold marked; rw [Array.getElem?_replicate]; simp [hi]
  have hc : cnt ((Array.replicate g.n false).setIfInBounds i true) = cnt (Array.replicate g.n false) + 1 :=
    cnt_mark hi' hm0
  obtain ⟨h1, h2⟩ := closure_closed hv (d := d) g.n _ hsz (by omega)
  exact ⟨h1, h2 i (marked_set_self hi')⟩

theorem isDist_diag {g : Graph} (hv : Valid g) {i : Nat} (hi : i < g.n) {x : Dist} (h : IsDist g i i x) : x = some 0 := by
  cases x with
  | none => exact absurd (Walk.nil hi) (h 0)
  | some d =>
    have h1 := h.2 0 (Walk.nil hi)
    have h2 := Walk.nonneg hv h.1
    rw [le_antisymm h1 h2]

theorem isDist_relaxOk {g : Graph} {d : Nat → Dist} {i : Nat} (hd : ∀ j, j < g.n → IsDist g i j (d j)) (hv : Valid g)
    {u v : Nat} {w : Rat} (he : HasEdge g u v w) : relaxOk d u v w = true := by
  have hb := HasEdge.valid hv he
  unfold relaxOk
  cases hu : d u with
  | none => rfl
  | some a =>
    have hdu := hd u hb.1
    rw [hu] at hdu
    have hwalk : Walk g i v (a + w) := Walk.snoc hdu.1 he
    have hdv := hd v hb.2.1
    cases hv' : d v with
    | none => rw [hv'] at hdv; exact absurd hwalk (hdv _)
    | some b =>
      rw [hv'] at hdv
      simpa using hdv.2 _ hwalk

theorem closed_contains {g : Graph} (hv : Valid g) {d : Nat → Dist} {i : Nat}
    (hd : ∀ j, j < g.n → IsDist g i j (d j)) {r : Array Bool} (hcl : TightClosed g d r) (hri : marked r i = true) :
    ∀ {j : Nat} {c : Rat}, Walk g i j c → d j = some c → marked r j = true := by
  intro j c hw
  induction hw with
  | nil _ => intro _; exact hri
  | @snoc m k c w hwalk he ih =>
    intro hk
    have hm := (Walk.ends hv hwalk).2
    have hdm := hd m hm
    cases hdmv : d m with
    | none => rw [hdmv] at hdm; exact absurd hwalk (hdm _)
    | some a =>
      rw [hdmv] at hdm
      have h1 : a ≤ c := hdm.2 c hwalk
      have hdk := hd k (HasEdge.valid hv he).2.1
      rw [hk] at hdk
      have h2 : c + w ≤ a + w := hdk.2 _ (Walk.snoc hdm.1 he)
      have hac : a = c := le_antisymm h1 (le_of_add_le_add_right h2)
      have hmarked : marked r m = true := ih (by rw [hdmv, hac])
      apply hcl m k w he hmarked
      unfold tight
      rw [hdmv, hk]
      simp [hac]

theorem sourceOk_complete {g : Graph} (hv : Valid g) {d : Nat → Dist} {i : Nat} (hi : i < g.n)
    (hd : ∀ j, j < g.n → IsDist g i j (d j)) : sourceOk g d i = true := by
  unfold sourceOk
  simp only [Bool.and_eq_true, decide_eq_true_eq]
  refine ⟨⟨isDist_diag hv hi (hd i hi), ?_⟩, ?_⟩
  · unfold feasible
    rw [List.all_eq_true]
    intro e he
    have h1 : HasEdge g e.1 e.2.1 e.2.2 := Or.inl he
    simp only [Bool.and_eq_true]
    exact ⟨isDist_relaxOk hd hv h1, isDist_relaxOk hd hv (HasEdge.symm h1)⟩
  · rw [List.all_eq_true]
    intro j hj
    have hjn := List.mem_range.mp hj
    obtain ⟨hcl, hri⟩ := reachTight_closed hv d hi
    cases hdj : d j with
    | none => simp
    | some c =>
      have hdist := hd j hjn
      rw [hdj] at hdist
      simp only [Option.isNone_some, Bool.false_or]
      exact closed_contains hv hd hcl hri hdist.1 hdj

theorem isApsp_symmetric {g : Graph} (hv : Valid g) {D : Nat → Nat → Dist} (h : IsApsp g D) :
    symmetric g.n D = true := by
  unfold symmetric
  rw [List.all_eq_true]
  intro i hi
  rw [List.all_eq_true]
  intro j hj
  have hi' := List.mem_range.mp hi
  have hj' := List.mem_range.mp hj
  simp only [decide_eq_true_eq]
  exact IsDist.unique (h i j hi' hj') (IsDist.reverse hv (h j i hj' hi'))

end AdaptaVerif.Lemmas.Apsp
