/-
The computeCrossings sweep of `Model.Planarise` as a whole: the comparator as a sort key, the invariant `J` inside
an x-part, and two induction principles that carry every further invariant of the sweep: `part_induction` (along
the sorted active list of one x-part; `step_kinds` says what one event can do) and `sweep_induction` (over the
x-parts).  `crossSpec_step`: what one x-part adds to the reported crossings.
-/
import AdaptaVerif.Lemmas.PlanariseSweep
namespace AdaptaVerif.Lemmas.Planarise
open AdaptaVerif.Model.Planarise

variable {S : List Seg} {P : Nat → Prop} {st : SwState}

/-- sort key of an active event: y, then CLOSE < SUSTAIN < OPEN -/
def kk (y : Rat) : EvType → Rat
  | .close => y
  | .sustain => y + 1 / 4
  | .opn => y + 1 / 2

theorem kk_bounds (y : Rat) (t : EvType) : y ≤ kk y t ∧ kk y t ≤ y + 1 / 2 := by
  cases t <;> simp only [kk] <;> grind

theorem kk_lt_iff (y : Rat) (ta tb : EvType) : kk y ta < kk y tb ↔ ta.rank < tb.rank := by
  cases ta <;> cases tb <;> simp only [kk, EvType.rank] <;> grind

/-- on y-coordinates that are equal or more than the tolerance apart the comparator is the order of the keys: the
types only shift a key by less than the tolerance -/
theorem compareActive_key (ya yb : Rat) (ta tb : EvType) (h : Apart ya yb) :
    compareActive ya ta yb tb = true ↔ kk ya ta < kk yb tb := by
  have ba := kk_bounds ya ta
  have bb := kk_bounds yb tb
  unfold compareActive tolY
  rcases h with rfl | h | h
  · rw [if_neg (by grind), if_neg (by grind), kk_lt_iff, decide_eq_true_eq]
  · rw [if_pos (by grind)]; simp only [true_iff]; grind
  · rw [if_neg (by grind), if_pos (by grind)]; simp only [Bool.false_eq_true, false_iff]; grind

theorem sus_after_open {lo c : Rat} (h : Apart lo c) :
    (lo + 1 / 2 ≤ c + 1 / 4 → lo < c) ∧ (lo < c → lo + 1 / 2 < c + 1 / 4) := by
  unfold Apart at h; grind

theorem sus_before_close {hi c : Rat} (h : Apart hi c) :
    (c + 1 / 4 ≤ hi → c < hi) ∧ (c < hi → c + 1 / 4 < hi) := by
  unfold Apart at h; grind

/-- the key of the event with index `e` as `evs` holds it.  The active list of a part is sorted once, before its events are
processed, so the keys that count are those at the start of the part (`akey st0.evs`). -/
def akey (evs : List Ev) (e : Nat) : Rat :=
  match evs[e]? with
  | some ev => kk ev.endpt.p.y ev.ty
  | none => 0

theorem akey_of_get {evs : List Ev} {e : Nat} {ev : Ev} (h : evs[e]? = some ev) :
    akey evs e = kk ev.endpt.p.y ev.ty := by
  unfold akey; rw [h]

theorem cmpEv_key (evs : List Ev) (a b : Nat) (ea eb : Ev) (ha : evs[a]? = some ea) (hb : evs[b]? = some eb)
    (h : Apart ea.endpt.p.y eb.endpt.p.y) : cmpEv evs a b = true ↔ akey evs a < akey evs b := by
  rw [akey_of_get ha, akey_of_get hb]
  unfold cmpEv
  simp only [ha, hb]
  exact compareActive_key _ _ _ _ h

/-- the x-part being swept, from the state `st0` on: `part` = the events whose end node has x = `X`; `P0` = the events
left of `X` -/
structure PartCtx (S : List Seg) (P0 : Nat → Prop) (X : Rat) (part : List Nat) (st0 : SwState) : Prop where
  good : Good S
  inv0 : Inv S P0 st0
  nodup : part.Nodup
  hP0 : ∀ i s, S[i]? = some s → (P0 (2 * i) ↔ s.on.p.x < X) ∧ (P0 (2 * i + 1) ↔ s.cn.p.x < X)
  hpart : ∀ i s, S[i]? = some s → (2 * i ∈ part ↔ s.on.p.x = X) ∧ (2 * i + 1 ∈ part ↔ s.cn.p.x = X)
  hlt : ∀ e ∈ part, e < 2 * S.length

theorem PartCtx.open_fresh {P0 : Nat → Prop} {X : Rat} {part : List Nat} {st0 : SwState}
    (hC : PartCtx S P0 X part st0) {i : Nat}
    {s : Seg} (hs : S[i]? = some s) (hin : 2 * i ∈ part) : ¬ P0 (2 * i) := by
  intro hp
  have h1 := (hC.hpart i s hs).1.1 hin
  have h2 := (hC.hP0 i s hs).1.1 hp
  rw [h1] at h2; exact Rat.lt_irrefl h2

theorem idx_cases {e : Nat} (he : e < 2 * S.length) :
    ∃ i s, S[i]? = some s ∧ (e = 2 * i ∨ e = 2 * i + 1) := by
  have hj : e / 2 < S.length := by omega
  exact ⟨e / 2, S[e / 2], List.getElem?_eq_getElem hj, by omega⟩

theorem key_Hsus {P0 : Nat → Prop} {st0 : SwState} (hI0 : Inv S P0 st0) {i : Nat} {si : Seg}
    (hs : S[i]? = some si) (hH : si.ori = .H) (hp : P0 (2 * i)) : akey st0.evs (2 * i) = si.cc + 1 / 4 := by
  obtain ⟨eo, heo⟩ := hI0.open_get hs
  rw [akey_of_get heo, hI0.open_y_of_H hs heo hH, hI0.sustain_of_H hs heo hH hp]; rfl

/-- `p` is the point where the horizontal `i` meets a vertical at `X` that spans its line -/
def SpanAt (S : List Seg) (X : Rat) (i : Nat) (p : Pt) : Prop :=
  ∃ (k : Nat) (si sk : Seg), S[i]? = some si ∧ S[k]? = some sk ∧ si.ori = .H ∧ sk.ori = .V ∧ sk.cc = X ∧
    sk.lo < si.cc ∧ si.cc < sk.hi ∧ p = ⟨X, si.cc⟩

/-- the crossings of the current part found so far: one for each open horizontal whose SUSTAIN event is in `pre`
and whose line is spanned by a vertical of the part -/
def CrossIn (S : List Seg) (X : Rat) (oh0 pre : List Nat) (p : Pt) : Prop :=
  ∃ i, 2 * i ∈ pre ∧ 2 * i ∈ oh0 ∧ SpanAt S X i p

theorem crossIn_snoc {X : Rat} {oh0 pre : List Nat} (e : Nat) (p : Pt) :
    CrossIn S X oh0 (pre ++ [e]) p ↔ CrossIn S X oh0 pre p ∨ ∃ i, e = 2 * i ∧ e ∈ oh0 ∧ SpanAt S X i p := by
  unfold CrossIn
  simp only [List.mem_append, List.mem_singleton]
  constructor
  · rintro ⟨i, h | h, b, c⟩
    · exact Or.inl ⟨i, h, b, c⟩
    · exact Or.inr ⟨i, h.symm, h ▸ b, c⟩
  · rintro (⟨i, h, b, c⟩ | ⟨i, rfl, b, c⟩)
    · exact ⟨i, Or.inl h, b, c⟩
    · exact ⟨i, Or.inr rfl, b, c⟩

/-- state of the sweep inside a part after the prefix `pre` of the sorted active list -/
structure J (S : List Seg) (P0 : Nat → Prop) (X : Rat) (part oh0 : List Nat) (cross0 : List Pt)
    (pre : List Nat) (st : SwState) : Prop where
  inv : Inv S (fun x => P0 x ∨ (x ∈ pre ∧ x ∈ part)) st
  ov1 : ∀ k sk, S[k]? = some sk → sk.ori = .V → sk.cc = X → 2 * k ∈ pre → 2 * k + 1 ∉ pre →
          st.openV = some (2 * k)
  ov2 : ∀ j, st.openV = some j → ∃ k sk, S[k]? = some sk ∧ sk.ori = .V ∧ sk.cc = X ∧ j = 2 * k ∧
          2 * k ∈ pre ∧ 2 * k + 1 ∉ pre
  cr : ∀ p, p ∈ st.cross.map (·.p) ↔ p ∈ cross0 ∨ CrossIn S X oh0 pre p

theorem J.ov_transfer {P0 : Nat → Prop} {X : Rat} {part oh0 : List Nat} {cross0 : List Pt} {pre : List Nat}
    {st st' : SwState} (hJ : J S P0 X part oh0 cross0 pre st) {i : Nat} {si : Seg} (hs : S[i]? = some si)
    (hH : si.ori = .H) {e : Nat} (he : e = 2 * i ∨ e = 2 * i + 1) (hov : st'.openV = st.openV) :
    (∀ k sk, S[k]? = some sk → sk.ori = .V → sk.cc = X → 2 * k ∈ pre ++ [e] → 2 * k + 1 ∉ pre ++ [e] →
          st'.openV = some (2 * k)) ∧
    (∀ j, st'.openV = some j → ∃ k sk, S[k]? = some sk ∧ sk.ori = .V ∧ sk.cc = X ∧ j = 2 * k ∧
          2 * k ∈ pre ++ [e] ∧ 2 * k + 1 ∉ pre ++ [e]) := by
  have hne : ∀ k sk, S[k]? = some sk → sk.ori = .V → e ≠ 2 * k ∧ e ≠ 2 * k + 1 := by
    intro k sk hsk hV; have := H_not_V hs hH hsk hV; omega
  constructor
  · intro k sk hs hV hX h1 h2
    rw [hov]
    have := hne k sk hs hV
    refine hJ.ov1 k sk hs hV hX ?_ ?_
    · rcases List.mem_append.1 h1 with h | h
      · exact h
      · simp at h; exact absurd h.symm this.1
    · intro h; exact h2 (List.mem_append_left _ h)
  · intro j hj
    rw [hov] at hj
    obtain ⟨k, sk, hs, hV, hX, rfl, h1, h2⟩ := hJ.ov2 j hj
    have := hne k sk hs hV
    refine ⟨k, sk, hs, hV, hX, rfl, List.mem_append_left _ h1, ?_⟩
    intro h
    rcases List.mem_append.1 h with h | h
    · exact h2 h
    · simp at h; exact this.2 h.symm

theorem J.cr_transfer {P0 : Nat → Prop} {X : Rat} {part oh0 : List Nat} {cross0 : List Pt} {pre : List Nat}
    {st st' : SwState} (hJ : J S P0 X part oh0 cross0 pre st) (e : Nat) (he : e ∉ oh0)
    (hc : st'.cross = st.cross) :
    ∀ p, p ∈ st'.cross.map (·.p) ↔ p ∈ cross0 ∨ CrossIn S X oh0 (pre ++ [e]) p := by
  intro p
  rw [hc, hJ.cr, crossIn_snoc]
  exact or_congr_right ⟨Or.inl, fun h => h.elim id (fun ⟨_, _, h, _⟩ => absurd h he)⟩

/-- position of the current event `e` in the sorted active list `pre ++ e :: post` -/
structure SC (K : Nat → Rat) (pre post : List Nat) (e : Nat) (oh0 part : List Nat) : Prop where
  mem : ∀ x, (x ∈ pre ∨ x = e ∨ x ∈ post) ↔ (x ∈ oh0 ∨ x ∈ part)
  npre : e ∉ pre
  disj : ∀ x, x ∈ pre → x ∉ post
  k1 : ∀ a ∈ pre, K a ≤ K e
  k2 : ∀ b ∈ post, K e ≤ K b

theorem Vfacts {P0 : Nat → Prop} {X : Rat} {part : List Nat} {st0 : SwState} (hC : PartCtx S P0 X part st0)
    {k : Nat} {sk : Seg} (hs : S[k]? = some sk) (hV : sk.ori = .V)
    (hX : sk.cc = X) :
    ¬ P0 (2 * k) ∧ 2 * k ∈ part ∧ 2 * k + 1 ∈ part ∧ akey st0.evs (2 * k) = sk.lo + 1 / 2 ∧
    akey st0.evs (2 * k + 1) = sk.hi ∧ sk.lo < sk.hi ∧ Apart sk.lo sk.hi := by
  have sv := hC.good.segV hs hV
  have hm := List.mem_of_getElem? hs
  have hn : ¬ P0 (2 * k) := by
    rw [(hC.hP0 k sk hs).1, sv.on_x, hX]; exact Rat.lt_irrefl
  obtain ⟨eo, heo⟩ := hC.inv0.open_get hs
  obtain ⟨ec, hec⟩ := hC.inv0.close_get hs
  refine ⟨hn, (hC.hpart k sk hs).1.2 (by rw [sv.on_x, hX]), (hC.hpart k sk hs).2.2 (by rw [sv.cn_x, hX]),
    ?_, ?_, sv.lt, ?_⟩
  · rw [akey_of_get heo, hC.inv0.opn_of_V hs heo hV, hC.inv0.open_y_of_V hs heo hV hn]; rfl
  · rw [akey_of_get hec, hC.inv0.close_ty hs hec, hC.inv0.close_endpt hs hec, sv.cn_y]; rfl
  · have := hC.good.sepY sk hm sk hm sk.on.p.y (by simp) sk.cn.p.y (by simp)
    rw [sv.on_y, sv.cn_y] at this; exact this

theorem apart_V_H (hG : Good S) {i k : Nat} {si sk : Seg} (hsi : S[i]? = some si) (hsk : S[k]? = some sk)
    (hH : si.ori = .H) (hV : sk.ori = .V) : Apart sk.lo si.cc ∧ Apart sk.hi si.cc := by
  have sv := hG.segV hsk hV
  have sh := hG.segH hsi hH
  have hmi := List.mem_of_getElem? hsi
  have hmk := List.mem_of_getElem? hsk
  have a1 := hG.sepY sk hmk si hmi sk.on.p.y (by simp) si.on.p.y (by simp)
  have a2 := hG.sepY sk hmk si hmi sk.cn.p.y (by simp) si.on.p.y (by simp)
  rw [sv.on_y, sh.on_y] at a1
  rw [sv.cn_y, sh.on_y] at a2
  exact ⟨a1, a2⟩

section steps
variable {P0 : Nat → Prop} {X : Rat} {part : List Nat} {st0 : SwState} {cross0 : List Pt}
  {pre post : List Nat}

theorem not_openH_of_V (hI0 : Inv S P0 st0) {k : Nat} {sk : Seg}
    (hs : S[k]? = some sk) (hV : sk.ori = .V) : 2 * k ∉ st0.openH ∧ 2 * k + 1 ∉ st0.openH := by
  refine ⟨fun h => ?_, hI0.close_not_openH k⟩
  have := ((hI0.mem_openH hs).1 h).1
  rw [hV] at this; cases this

theorem step_pred {e : Nat} (hin : e ∈ part) (x : Nat) :
    ((P0 x ∨ (x ∈ pre ∧ x ∈ part)) ∨ x = e) ↔ (P0 x ∨ (x ∈ pre ++ [e] ∧ x ∈ part)) := by
  simp only [List.mem_append, List.mem_singleton]
  constructor
  · rintro ((h | ⟨h1, h2⟩) | rfl)
    · exact Or.inl h
    · exact Or.inr ⟨Or.inl h1, h2⟩
    · exact Or.inr ⟨Or.inr rfl, hin⟩
  · rintro (h | ⟨h1 | rfl, h2⟩)
    · exact Or.inl (Or.inl h)
    · exact Or.inl (Or.inr ⟨h1, h2⟩)
    · exact Or.inr rfl

theorem step_pred_of_not_mem {e : Nat} (hout : e ∉ part) (x : Nat) :
    (P0 x ∨ (x ∈ pre ∧ x ∈ part)) ↔ (P0 x ∨ (x ∈ pre ++ [e] ∧ x ∈ part)) := by
  simp only [List.mem_append, List.mem_singleton]
  constructor
  · rintro (h | ⟨h1, h2⟩)
    · exact Or.inl h
    · exact Or.inr ⟨Or.inl h1, h2⟩
  · rintro (h | ⟨h1 | rfl, h2⟩)
    · exact Or.inl h
    · exact Or.inr ⟨h1, h2⟩
    · exact absurd h2 hout

/-- at an event of the vertical `k` no other vertical `k'` of the part is open (OPEN sorted before, CLOSE after the
event): the two would overlap -/
theorem no_other_open (hC : PartCtx S P0 X part st0) {k k' e : Nat} {sk sk' : Seg}
    (he : e = 2 * k ∨ e = 2 * k + 1) (hsc : SC (akey st0.evs) pre post e st0.openH part)
    (hs : S[k]? = some sk) (hV : sk.ori = .V) (hX : sk.cc = X)
    (hs' : S[k']? = some sk') (hV' : sk'.ori = .V) (hX' : sk'.cc = X) (hne : k' ≠ k)
    (h1 : 2 * k' ∈ pre ++ [e]) (h2 : 2 * k' + 1 ∉ pre ++ [e]) : False := by
  obtain ⟨_, _, _, hk0, hk1, hlt, _⟩ := Vfacts hC hs hV hX
  obtain ⟨_, _, hc1', hk0', hk1', hlt', _⟩ := Vfacts hC hs' hV' hX'
  have h1' : 2 * k' ∈ pre := by
    rcases List.mem_append.1 h1 with h | h
    · exact h
    · simp at h; omega
  have h2' : 2 * k' + 1 ∈ post := by
    rcases (hsc.mem (2 * k' + 1)).2 (Or.inr hc1') with h | h | h
    · exact absurd (List.mem_append_left _ h) h2
    · omega
    · exact h
  have a := hsc.k1 _ h1'; have b := hsc.k2 _ h2'
  rw [hk0'] at a; rw [hk1'] at b
  have := hC.good.noOverlap_get hs hs' (Ne.symm hne) (by rw [hV, hV']) (by rw [hX, hX'])
  rcases he with rfl | rfl
  · rw [hk0] at a b; grind
  · rw [hk1] at a b; grind

theorem J_openV (hC : PartCtx S P0 X part st0) {k : Nat} {sk : Seg}
    (hsc : SC (akey st0.evs) pre post (2 * k) st0.openH part) (hs : S[k]? = some sk) (hV : sk.ori = .V)
    (hin : 2 * k ∈ part) (hJ : J S P0 X part st0.openH cross0 pre st) :
    J S P0 X part st0.openH cross0 (pre ++ [2 * k]) (processEvent st (2 * k)) := by
  have sv := hC.good.segV hs hV
  have hX : sk.cc = X := by rw [← sv.on_x]; exact (hC.hpart k sk hs).1.1 hin
  obtain ⟨_, _, hc1, hk0, hk1, hlt, hap⟩ := Vfacts hC hs hV hX
  rw [pe_openV hJ.inv hs hV]
  refine ⟨?_, ?_, ?_, ?_⟩
  · exact (inv_openV hJ.inv hs hV).congr (step_pred hin)
  · intro k' sk' hs' hV' hX' h1 h2
    simp only
    by_cases hkk : k' = k
    · rw [hkk]
    · exact (no_other_open hC (Or.inl rfl) hsc hs hV hX hs' hV' hX' hkk h1 h2).elim
  · intro j hj
    simp only at hj
    refine ⟨k, sk, hs, hV, hX, (Option.some.inj hj).symm, by simp, ?_⟩
    intro h
    rcases List.mem_append.1 h with h | h
    · have a := hsc.k1 _ h; rw [hk1, hk0] at a
      unfold Apart at hap; grind
    · simp at h
  · exact hJ.cr_transfer (st' := { st with openV := some (2 * k) }) (2 * k) (not_openH_of_V hC.inv0 hs hV).1 rfl

theorem J_closeV (hC : PartCtx S P0 X part st0) {k : Nat} {sk : Seg}
    (hsc : SC (akey st0.evs) pre post (2 * k + 1) st0.openH part) (hs : S[k]? = some sk) (hV : sk.ori = .V)
    (hin : 2 * k + 1 ∈ part) (hJ : J S P0 X part st0.openH cross0 pre st) :
    J S P0 X part st0.openH cross0 (pre ++ [2 * k + 1]) (processEvent st (2 * k + 1)) := by
  have sv := hC.good.segV hs hV
  have hX : sk.cc = X := by rw [← sv.cn_x]; exact (hC.hpart k sk hs).2.1 hin
  obtain ⟨_, _, hc1, hk0, hk1, hlt, hap⟩ := Vfacts hC hs hV hX
  rw [pe_close hJ.inv hs, if_neg (by rw [hV]; simp)]
  refine ⟨?_, ?_, ?_, ?_⟩
  · exact (inv_closeV hJ.inv hs hV).congr (step_pred hin)
  · intro k' sk' hs' hV' hX' h1 h2
    exfalso
    by_cases hkk : k' = k
    · subst hkk; exact h2 (by simp)
    · exact no_other_open hC (Or.inr rfl) hsc hs hV hX hs' hV' hX' hkk h1 h2
  · intro j hj; simp at hj
  · exact hJ.cr_transfer (st' := { st with openV := none }) (2 * k + 1) (not_openH_of_V hC.inv0 hs hV).2 rfl

theorem J_openH (hC : PartCtx S P0 X part st0) {i : Nat} {si : Seg}
    (hsc : SC (akey st0.evs) pre post (2 * i) st0.openH part) (hs : S[i]? = some si) (hH : si.ori = .H)
    (hin : 2 * i ∈ part) (hJ : J S P0 X part st0.openH cross0 pre st) :
    J S P0 X part st0.openH cross0 (pre ++ [2 * i]) (processEvent st (2 * i)) := by
  have sh := hC.good.segH hs hH
  have hX : si.on.p.x = X := (hC.hpart i si hs).1.1 hin
  have hnP0 : ¬ P0 (2 * i) := hC.open_fresh hs hin
  have hnP : ¬ (P0 (2 * i) ∨ (2 * i ∈ pre ∧ 2 * i ∈ part)) :=
    fun h => h.elim hnP0 (fun h => hsc.npre h.1)
  have hcn : X < si.cn.p.x := by rw [sh.cn_x, ← hX, sh.on_x]; exact sh.lt
  have hnP1 : ¬ (P0 (2 * i + 1) ∨ (2 * i + 1 ∈ pre ∧ 2 * i + 1 ∈ part)) := by
    rintro (h | h)
    · rw [(hC.hP0 i si hs).2] at h; grind
    · have := (hC.hpart i si hs).2.1 h.2; grind
  obtain ⟨eo, heo, hpe⟩ := pe_openH hJ.inv hs hH hnP
  rw [hpe]
  obtain ⟨o1, o2⟩ := hJ.ov_transfer
    (st' := { st with evs := st.evs.set (2 * i) { eo with ty := .sustain }, openH := insertAsc (2 * i) st.openH })
    hs hH (Or.inl rfl) rfl
  refine ⟨?_, o1, o2, ?_⟩
  · exact (inv_openH hJ.inv hs hH hnP hnP1 heo).congr (step_pred hin)
  · exact hJ.cr_transfer (2 * i) (fun h => hnP0 ((hC.inv0.mem_openH hs).1 h).2.1) rfl

theorem J_closeH (hI0 : Inv S P0 st0) {i : Nat} {si : Seg} (hs : S[i]? = some si) (hH : si.ori = .H)
    (hin : 2 * i + 1 ∈ part) (hJ : J S P0 X part st0.openH cross0 pre st) :
    J S P0 X part st0.openH cross0 (pre ++ [2 * i + 1]) (processEvent st (2 * i + 1)) := by
  rw [pe_close hJ.inv hs, if_pos hH]
  obtain ⟨o1, o2⟩ := hJ.ov_transfer (st' := { st with openH := st.openH.erase (2 * i) }) hs hH (Or.inr rfl) rfl
  refine ⟨?_, o1, o2, ?_⟩
  · exact (inv_closeH hJ.inv i).congr (step_pred hin)
  · exact hJ.cr_transfer (2 * i + 1) (hI0.close_not_openH i) rfl

/-- a SUSTAIN event does nothing when no vertical is open, and cuts otherwise; the open vertical then spans the
horizontal's line because its OPEN event is sorted before and its CLOSE event after the SUSTAIN event -/
theorem sus_cases (hC : PartCtx S P0 X part st0) {i : Nat} {si : Seg}
    (hsc : SC (akey st0.evs) pre post (2 * i) st0.openH part) (hs : S[i]? = some si) (hH : si.ori = .H)
    (hoh : 2 * i ∈ st0.openH) (hJ : J S P0 X part st0.openH cross0 pre st) :
    (st.openV = none ∧ processEvent st (2 * i) = st) ∨
    ∃ (k : Nat) (sk : Seg) (e ov : Ev) (so sv : Seg), Cut S X part pre st i k si sk e ov so sv ∧
      processEvent st (2 * i) = crossAt st (2 * i) (2 * k) e ov := by
  obtain ⟨_, hp0, hnp1⟩ := (hC.inv0.mem_openH hs).1 hoh
  have shi := hC.good.segH hs hH
  have hKi : akey st0.evs (2 * i) = si.cc + 1 / 4 := key_Hsus hC.inv0 hs hH hp0
  obtain ⟨ev, hev, hpe⟩ := pe_sustain hJ.inv hs hH (Or.inl hp0)
  rw [hpe]
  cases hov : st.openV with
  | none => exact Or.inl ⟨rfl, rfl⟩
  | some j =>
    right
    obtain ⟨k, sk, hsk, hVk, hXk, rfl, hk_pre, hk1_npre⟩ := hJ.ov2 j hov
    obtain ⟨_, hc0, hc1, hk0, hk1, _, _⟩ := Vfacts hC hsk hVk hXk
    obtain ⟨ap1, ap2⟩ := apart_V_H hC.good hs hsk hH hVk
    have hpost : 2 * k + 1 ∈ post := by
      rcases (hsc.mem (2 * k + 1)).2 (Or.inr hc1) with r | r | r
      · exact absurd r hk1_npre
      · omega
      · exact r
    have hlo : sk.lo < si.cc := by
      have := hsc.k1 _ hk_pre; rw [hk0, hKi] at this; exact (sus_after_open ap1).1 this
    have hhi : si.cc < sk.hi := by
      have := hsc.k2 _ hpost; rw [hKi, hk1] at this; exact (sus_before_close ap2).1 this
    obtain ⟨ov, hovv⟩ := hJ.inv.open_get hsk
    obtain ⟨so, sv, hso, hsv, hne, hecc, hovcc⟩ := cut_pieces hJ.inv hs hH hsk hVk hev hovv
    refine ⟨k, sk, ev, ov, so, sv, ⟨hs, hH, hsk, hVk, hXk, hk_pre, hc0, hev, hovv, ?_, ?_, hlo, hhi, hso, hsv, hne,
      hecc, hovcc⟩, by simp only [hovv]⟩
    · have := (hC.hP0 i si hs).1.1 hp0; rw [shi.on_x] at this; exact this
    · have := fun h => hnp1 ((hC.hP0 i si hs).2.2 h)
      rw [shi.cn_x] at this; exact Rat.not_lt.1 this

theorem J_sus (hC : PartCtx S P0 X part st0) {i : Nat} {si : Seg}
    (hsc : SC (akey st0.evs) pre post (2 * i) st0.openH part) (hs : S[i]? = some si) (hH : si.ori = .H)
    (hoh : 2 * i ∈ st0.openH) (hJ : J S P0 X part st0.openH cross0 pre st) :
    J S P0 X part st0.openH cross0 (pre ++ [2 * i]) (processEvent st (2 * i)) := by
  obtain ⟨_, hp0, _⟩ := (hC.inv0.mem_openH hs).1 hoh
  have hnpart : 2 * i ∉ part := fun h => hC.open_fresh hs h hp0
  have hcongr := step_pred_of_not_mem (P0 := P0) (pre := pre) hnpart
  rcases sus_cases hC hsc hs hH hoh hJ with ⟨hov, hpe⟩ | ⟨k, sk, ev, ov, so, sv, hc, hpe⟩
  · rw [hpe]
    obtain ⟨o1, o2⟩ := hJ.ov_transfer (st' := st) hs hH (Or.inl rfl) rfl
    refine ⟨hJ.inv.congr hcongr, o1, o2, ?_⟩
    intro p
    rw [hJ.cr, crossIn_snoc]
    refine or_congr_right ⟨Or.inl, fun h => h.elim id ?_⟩
    -- a vertical spanning the line of `i` would be open now: OPEN sorted before, CLOSE after this event
    rintro ⟨i', hi', _, k', si', sk', a, b, c, d, f, l1, l2, rest⟩
    exfalso
    have : i' = i := by omega
    subst this; rw [hs] at a; cases a
    have hKi : akey st0.evs (2 * i') = si.cc + 1 / 4 := key_Hsus hC.inv0 hs hH hp0
    obtain ⟨_, hc0, hc1, hk0, hk1, _, _⟩ := Vfacts hC b d f
    obtain ⟨ap1, ap2⟩ := apart_V_H hC.good hs b hH d
    rcases (hsc.mem (2 * k')).2 (Or.inr hc0) with q | q | q
    · rcases (hsc.mem (2 * k' + 1)).2 (Or.inr hc1) with r | r | r
      · have := hsc.k1 _ r; rw [hk1, hKi] at this
        exact Rat.not_le.2 ((sus_before_close ap2).2 l2) this
      · have := H_not_V hs hH b d; omega
      · have := hJ.ov1 k' sk' b d f q (fun hr => hsc.disj _ hr r)
        rw [hov] at this; cases this
    · have := H_not_V hs hH b d; omega
    · have := hsc.k2 _ q; rw [hKi, hk0] at this
      exact Rat.not_le.2 ((sus_after_open ap1).2 l1) this
  · rw [hpe]
    obtain ⟨fov, fcr⟩ := hc.frame hJ.inv
    obtain ⟨o1, o2⟩ := hJ.ov_transfer (st' := crossAt st (2 * i) (2 * k) ev ov) hs hH (Or.inl rfl) fov
    refine ⟨(inv_cross hC.good hJ.inv hc (Or.inr ⟨hc.kpre, hc.kpart⟩)).congr hcongr, o1, o2, ?_⟩
    intro p
    rw [fcr, List.map_cons, List.mem_cons, hJ.cr, crossIn_snoc]
    simp only
    constructor
    · rintro (h | h | h)
      · exact Or.inr (Or.inr ⟨i, rfl, hoh, k, si, sk, hs, hc.hsk, hH, hc.hV, hc.hX, hc.lo, hc.hi, by rw [h, hc.hX]⟩)
      · exact Or.inl h
      · exact Or.inr (Or.inl h)
    · rintro (h | h | ⟨i', hi', _, k', si', sk', a, _, _, _, _, _, _, rest⟩)
      · exact Or.inr (Or.inl h)
      · exact Or.inr (Or.inr h)
      · have : i' = i := by omega
        subst this; rw [hs] at a; cases a
        exact Or.inl (by rw [rest, hc.hX])

theorem event_role (hC : PartCtx S P0 X part st0) {e : Nat}
    (he : e ∈ st0.openH ∨ e ∈ part) :
    ∃ i s, S[i]? = some s ∧ ((e = 2 * i ∧ s.ori = .H ∧ e ∈ st0.openH) ∨ (e ∈ part ∧ (e = 2 * i ∨ e = 2 * i + 1))) := by
  rcases he with h | h
  · obtain ⟨i, s, hs, rfl, hH, _⟩ := (hC.inv0.oh _).1 h
    exact ⟨i, s, hs, Or.inl ⟨rfl, hH, h⟩⟩
  · obtain ⟨i, s, hs, hi⟩ := idx_cases (hC.hlt e h)
    exact ⟨i, s, hs, Or.inr ⟨h, hi⟩⟩

theorem J_step (hC : PartCtx S P0 X part st0) {e : Nat}
    (hsc : SC (akey st0.evs) pre post e st0.openH part) (he : e ∈ st0.openH ∨ e ∈ part)
    (hJ : J S P0 X part st0.openH cross0 pre st) :
    J S P0 X part st0.openH cross0 (pre ++ [e]) (processEvent st e) := by
  obtain ⟨i, s, hs, h⟩ := event_role hC he
  rcases h with ⟨rfl, hH, hoh⟩ | ⟨hin, rfl | rfl⟩
  · exact J_sus hC hsc hs hH hoh hJ
  · rcases hC.good.shape s (List.mem_of_getElem? hs) with sh | sv
    · exact J_openH hC hsc hs sh.ori hin hJ
    · exact J_openV hC hsc hs sv.ori hin hJ
  · rcases hC.good.shape s (List.mem_of_getElem? hs) with sh | sv
    · exact J_closeH hC.inv0 hs sh.ori hin hJ
    · exact J_closeV hC hsc hs sv.ori hin hJ

theorem step_kinds (hC : PartCtx S P0 X part st0) {e : Nat}
    (hsc : SC (akey st0.evs) pre post e st0.openH part) (he : e ∈ st0.openH ∨ e ∈ part)
    (hJ : J S P0 X part st0.openH cross0 pre st) :
    GeoEq st (processEvent st e) ∨
    (∃ (i k : Nat) (si sk : Seg) (ev ov : Ev) (so sv : Seg), e = 2 * i ∧ 2 * i ∈ st0.openH ∧
      Cut S X part pre st i k si sk ev ov so sv ∧ processEvent st e = crossAt st (2 * i) (2 * k) ev ov) := by
  obtain ⟨i, s, hs, h⟩ := event_role hC he
  rcases h with ⟨rfl, hH, hoh⟩ | ⟨hin, rfl | rfl⟩
  · rcases sus_cases hC hsc hs hH hoh hJ with ⟨_, hpe⟩ | ⟨k, sk, ev, ov, so, sv, hc, hpe⟩
    · rw [hpe]; exact Or.inl (.of_eq rfl rfl rfl)
    · exact Or.inr ⟨i, k, s, sk, ev, ov, so, sv, rfl, hoh, hc, hpe⟩
  · rcases hC.good.shape s (List.mem_of_getElem? hs) with sh | sv
    · obtain ⟨eo, heo, hpe⟩ := pe_openH hJ.inv hs sh.ori
        (fun h => h.elim (hC.open_fresh hs hin) (fun h => hsc.npre h.1))
      rw [hpe]; exact Or.inl (.of_setTy heo .sustain rfl rfl rfl)
    · rw [pe_openV hJ.inv hs sv.ori]; exact Or.inl (.of_eq rfl rfl rfl)
  · rw [pe_close hJ.inv hs]
    split <;> exact Or.inl (.of_eq rfl rfl rfl)

end steps

section part
variable {P0 : Nat → Prop} {X : Rat} {part : List Nat} {st0 : SwState}

theorem snap_y (hC : PartCtx S P0 X part st0) {a : Nat}
    (ha : a ∈ st0.openH ∨ a ∈ part) :
    ∃ ea s, st0.evs[a]? = some ea ∧ s ∈ S ∧ (ea.endpt.p.y = s.on.p.y ∨ ea.endpt.p.y = s.cn.p.y) := by
  obtain ⟨i, s, hs, h⟩ := event_role hC ha
  have hm := List.mem_of_getElem? hs
  obtain ⟨eo, heo⟩ := hC.inv0.open_get hs
  obtain ⟨ec, hec⟩ := hC.inv0.close_get hs
  rcases h with ⟨rfl, hH, _⟩ | ⟨hin, rfl | rfl⟩
  · exact ⟨eo, s, heo, hm, Or.inl (by rw [hC.inv0.open_y_of_H hs heo hH, (hC.good.segH hs hH).on_y])⟩
  · refine ⟨eo, s, heo, hm, Or.inl ?_⟩
    rcases hC.good.shape s hm with sh | sv
    · rw [hC.inv0.open_y_of_H hs heo sh.ori, sh.on_y]
    · rw [hC.inv0.open_y_of_V hs heo sv.ori (hC.open_fresh hs hin), sv.on_y]
  · exact ⟨ec, s, hec, hm, Or.inr (by rw [hC.inv0.close_endpt hs hec])⟩

theorem part_induction (hC : PartCtx S P0 X part st0)
    (Q : List Nat → SwState → Prop) (h0 : Q [] { st0 with openV := none })
    (hstep : ∀ (pre post : List Nat) (e : Nat) (st : SwState), SC (akey st0.evs) pre post e st0.openH part →
      (e ∈ st0.openH ∨ e ∈ part) → J S P0 X part st0.openH (st0.cross.map (·.p)) pre st → Q pre st →
      Q (pre ++ [e]) (processEvent st e)) :
    ∃ L, (∀ x, x ∈ L ↔ x ∈ st0.openH ∨ x ∈ part) ∧
      J S P0 X part st0.openH (st0.cross.map (·.p)) L (sweepPart st0 part) ∧ Q L (sweepPart st0 part) := by
  unfold sweepPart
  simp only
  generalize hL : stdSort (cmpEv st0.evs) (st0.openH ++ part) = L
  have hperm : L.Perm (st0.openH ++ part) := hL ▸ stdSort_perm _ _
  have hmem : ∀ x, x ∈ L ↔ x ∈ st0.openH ∨ x ∈ part := fun x => by rw [hperm.mem_iff, List.mem_append]
  have hLnd : L.Nodup := by
    rw [hperm.nodup_iff, List.nodup_append]
    refine ⟨hC.inv0.ohs.imp (fun h => Nat.ne_of_lt h), hC.nodup, ?_⟩
    intro a ha b hb hab; subst hab
    obtain ⟨i, s, hs, rfl, _, hp0, _⟩ := (hC.inv0.oh _).1 ha
    exact hC.open_fresh hs hb hp0
  have hsorted : L.Pairwise (fun a b => akey st0.evs a ≤ akey st0.evs b) := by
    rw [← hL]
    apply stdSort_sorted_key
    intro a ha b hb
    obtain ⟨ea, sa, hea, hsa, hya⟩ := snap_y hC (List.mem_append.1 ha)
    obtain ⟨eb, sb, heb, hsb, hyb⟩ := snap_y hC (List.mem_append.1 hb)
    refine cmpEv_key _ a b ea eb hea heb ?_
    rcases hya with h | h <;> rcases hyb with h' | h' <;> rw [h, h'] <;>
      exact hC.good.sepY sa hsa sb hsb _ (by simp) _ (by simp)
  have hJ0 : J S P0 X part st0.openH (st0.cross.map (·.p)) [] { st0 with openV := none } := by
    refine ⟨hC.inv0.transfer rfl rfl (fun _ => by simp) (by simpa using hC.inv0.oh) hC.inv0.ohs, ?_, ?_, ?_⟩
    · intro k sk _ _ _ h; simp at h
    · intro j hj; simp at hj
    · intro p; simp [CrossIn]
  have hres := foldl_pairwise_induction processEvent _ L (hLnd.and hsorted)
    (fun pre st => J S P0 X part st0.openH (st0.cross.map (·.p)) pre st ∧ Q pre st) _ ⟨hJ0, h0⟩ (by
      intro pre post e st h r1 r2 r3 ⟨hJ, hQ⟩
      have hsc : SC (akey st0.evs) pre post e st0.openH part :=
        ⟨fun x => by rw [← hmem, ← h]; simp, fun hp => (r1 e hp).1 rfl, fun x hx hx' => (r3 x hx x hx').1 rfl,
          fun a ha => (r1 a ha).2, fun b hb => (r2 b hb).2⟩
      have heL : e ∈ st0.openH ∨ e ∈ part := (hmem e).1 (by rw [← h]; simp)
      exact ⟨J_step hC hsc heL hJ, hstep pre post e st hsc heL hJ hQ⟩)
  exact ⟨L, hmem, hres⟩

theorem part_sweep (hC : PartCtx S P0 X part st0) :
    Inv S (fun x => P0 x ∨ x ∈ part) (sweepPart st0 part) ∧
    (∀ p, p ∈ (sweepPart st0 part).cross.map (·.p) ↔ p ∈ st0.cross.map (·.p) ∨
      ∃ i, 2 * i ∈ st0.openH ∧ SpanAt S X i p) := by
  obtain ⟨L, hmem, hJL, _⟩ := part_induction hC (fun _ _ => True) trivial (fun _ _ _ _ _ _ _ _ => trivial)
  refine ⟨hJL.inv.congr ?_, ?_⟩
  · intro x
    constructor
    · rintro (h | ⟨_, h⟩)
      · exact Or.inl h
      · exact Or.inr h
    · rintro (h | h)
      · exact Or.inl h
      · exact Or.inr ⟨(hmem x).2 (Or.inr h), h⟩
  · intro p
    rw [hJL.cr]
    exact or_congr_right ⟨fun ⟨i, _, h, r⟩ => ⟨i, h, r⟩, fun ⟨i, h, r⟩ => ⟨i, (hmem _).2 (Or.inl h), h, r⟩⟩

end part

theorem init_inv (hG : Good S) (nid : Nat) :
    Inv S (fun _ => False) { segs := S, evs := mkEvents 0 S, nextId := nid } := by
  refine ⟨mkEvents_length S 0, ?_, ?_, by simp⟩
  · intro i s hs
    obtain ⟨g0, g1⟩ := mkEvents_get S 0 i s hs
    simp only [Nat.zero_add] at g0 g1
    refine ⟨_, _, g0, g1, ?_, rfl, rfl, rfl, rfl, ?_, ?_, ?_, ?_⟩
    · simp only [mkEv]
      rcases hG.shape s (List.mem_of_getElem? hs) with sh | sv
      · rw [sh.ori]; simp [sh.on_y]
      · rw [sv.ori]; simp [sv.on_x]
    · simp [mkEv, oriAt, hs]
    · simp [mkEv, oriAt, hs]
    · intro hH
      have sh := hG.segH hs hH
      exact ⟨by simp [mkEv, sh.on_y], by simp, by simp [mkEv]⟩
    · intro hV
      have sv := hG.segV hs hV
      exact ⟨by simp [mkEv], by simp [mkEv, sv.on_y]⟩
  · intro e; simp

theorem evX_even {i : Nat} {s : Seg} (hs : S[i]? = some s) : evX (mkEvents 0 S) (2 * i) = s.on.p.x := by
  have := (mkEvents_get S 0 i s hs).1
  unfold evX; rw [this]; simp [mkEv]

theorem evX_odd {i : Nat} {s : Seg} (hs : S[i]? = some s) : evX (mkEvents 0 S) (2 * i + 1) = s.cn.p.x := by
  have := (mkEvents_get S 0 i s hs).2
  unfold evX; rw [this]; simp [mkEv]

theorem tolX_lt_one : tolX < 1 := by decide +kernel
theorem tolX_nonneg : 0 ≤ tolX := by decide +kernel

theorem evX_apart (hG : Good S) {a b : Nat} (ha : a < 2 * S.length) (hb : b < 2 * S.length) :
    Apart (evX (mkEvents 0 S) a) (evX (mkEvents 0 S) b) := by
  obtain ⟨i, s, hs, hi⟩ := idx_cases ha
  obtain ⟨j, t, ht, hj⟩ := idx_cases hb
  have hms := List.mem_of_getElem? hs
  have hmt := List.mem_of_getElem? ht
  rcases hi with rfl | rfl <;> rcases hj with rfl | rfl <;>
    simp only [evX_even hs, evX_odd hs, evX_even ht, evX_odd ht] <;>
    exact hG.sepX s hms t hmt _ (by simp) _ (by simp)

theorem sweep_induction (hG : Good S) (nid : Nat) (Q : List Nat → SwState → Prop)
    (h0 : Q [] { segs := S, evs := mkEvents 0 S, nextId := nid })
    (hstep : ∀ (done : List Nat) (X : Rat) (part : List Nat) (st : SwState),
      PartCtx S (fun x => x ∈ done) X part st → Q done st → Q (done ++ part) (sweepPart st part)) :
    ∃ done, (∀ e, e ∈ done ↔ e < 2 * S.length) ∧ Inv S (fun x => x ∈ done) (computeCrossings S nid) ∧
      Q done (computeCrossings S nid) := by
  unfold computeCrossings xParts
  simp only
  have hlen := mkEvents_length S 0
  have hap : ∀ a ∈ List.range (mkEvents 0 S).length, ∀ b ∈ List.range (mkEvents 0 S).length,
      Apart (evX (mkEvents 0 S) a) (evX (mkEvents 0 S) b) := by
    intro a ha b hb
    rw [List.mem_range, hlen] at ha hb
    exact evX_apart hG ha hb
  obtain ⟨hperm, _, hinc⟩ := partition_spec (evX (mkEvents 0 S)) tolX tolX_nonneg tolX_lt_one _ hap
  have hsplit := partition_split (evX (mkEvents 0 S)) tolX tolX_nonneg tolX_lt_one _ hap
  generalize partition (evX (mkEvents 0 S)) tolX (List.range (mkEvents 0 S).length) = ps at hperm hinc hsplit
  have hflat : ∀ e, e ∈ ps.flatten ↔ e < 2 * S.length := by
    intro e; rw [hperm.mem_iff, List.mem_range, hlen]
  have hflatnd : ps.flatten.Nodup := by rw [hperm.nodup_iff]; exact List.nodup_range
  refine ⟨ps.flatten, hflat, foldl_pairwise_induction sweepPart _ ps hinc
    (fun done st => Inv S (fun x => x ∈ done.flatten) st ∧ Q done.flatten st) _
    ⟨(init_inv hG nid).congr (fun x => by simp), h0⟩ ?_⟩
  intro done rest part st h _ _ _ ⟨hI, hQ⟩
  obtain ⟨X, loc⟩ := hsplit done part rest h
  have hidx : ∀ i s, S[i]? = some s → 2 * i ∈ List.range (mkEvents 0 S).length ∧
      2 * i + 1 ∈ List.range (mkEvents 0 S).length := by
    intro i s hs; obtain ⟨hi, _⟩ := List.getElem?_eq_some_iff.1 hs
    rw [List.mem_range, List.mem_range, hlen]; omega
  have hpm : part ∈ ps := by rw [← h]; simp
  have hC : PartCtx S (fun x => x ∈ done.flatten) X part st := by
    refine ⟨hG, hI, hflatnd.sublist (List.sublist_flatten_of_mem hpm), ?_, ?_, ?_⟩
    · intro i s hs
      have l0 := (loc _ (hidx i s hs).1).1; have l1 := (loc _ (hidx i s hs).2).1
      rw [evX_even hs] at l0; rw [evX_odd hs] at l1; exact ⟨l0, l1⟩
    · intro i s hs
      have l0 := (loc _ (hidx i s hs).1).2; have l1 := (loc _ (hidx i s hs).2).2
      rw [evX_even hs] at l0; rw [evX_odd hs] at l1; exact ⟨l0, l1⟩
    · intro e he; exact (hflat e).1 (List.mem_flatten.2 ⟨part, hpm, he⟩)
  have hfl : (done ++ [part]).flatten = done.flatten ++ part := by simp
  rw [hfl]
  exact ⟨(part_sweep hC).1.congr (fun x => by simp), hstep _ X part st hC hQ⟩

/-- the crossing points reported so far, after the x-parts whose events are `done` -/
def CrossSpec (S : List Seg) (done : List Nat) (p : Pt) : Prop :=
  ∃ (i k : Nat) (si sk : Seg), S[i]? = some si ∧ S[k]? = some sk ∧ si.ori = .H ∧ sk.ori = .V ∧
    2 * k ∈ done ∧ si.lo < sk.cc ∧ sk.cc ≤ si.hi ∧ sk.lo < si.cc ∧ si.cc < sk.hi ∧ p = ⟨sk.cc, si.cc⟩

theorem crossSpec_step {done : List Nat} {X : Rat} {part : List Nat} {st : SwState}
    (hC : PartCtx S (fun x => x ∈ done) X part st)
    (hc : ∀ p, p ∈ st.cross.map (·.p) ↔ CrossSpec S done p) :
    ∀ p, p ∈ (sweepPart st part).cross.map (·.p) ↔ CrossSpec S (done ++ part) p := by
  intro p
  rw [(part_sweep hC).2, hc]
  unfold CrossSpec
  constructor
  · rintro (⟨i, k, si, sk, a, b, c, d, f, rest⟩ | ⟨i, g, k, si, sk, a, b, c, d, f, l1, l2, rfl⟩)
    · exact ⟨i, k, si, sk, a, b, c, d, List.mem_append_left _ f, rest⟩
    · have sh := hC.good.segH a c
      have sv := hC.good.segV b d
      obtain ⟨_, hp1, hp2⟩ := (hC.inv0.mem_openH a).1 g
      have q1 := (hC.hP0 i si a).1.1 hp1
      have q2 := fun hlt => hp2 ((hC.hP0 i si a).2.2 hlt)
      rw [sh.on_x] at q1; rw [sh.cn_x] at q2
      refine ⟨i, k, si, sk, a, b, c, d, List.mem_append_right _ ?_, by rw [f]; exact q1,
        by rw [f]; exact Rat.not_lt.1 q2, l1, l2, by rw [f]⟩
      exact (hC.hpart k sk b).1.2 (by rw [sv.on_x, f])
  · rintro ⟨i, k, si, sk, a, b, c, d, f, g1, g2, l1, l2, rfl⟩
    have sh := hC.good.segH a c
    have sv := hC.good.segV b d
    rcases List.mem_append.1 f with f' | f'
    · exact Or.inl ⟨i, k, si, sk, a, b, c, d, f', g1, g2, l1, l2, rfl⟩
    · right
      have hXk : sk.cc = X := by rw [← sv.on_x]; exact (hC.hpart k sk b).1.1 f'
      refine ⟨i, ?_, k, si, sk, a, b, c, d, hXk, l1, l2, by rw [hXk]⟩
      refine (hC.inv0.mem_openH a).2 ⟨c, ?_, ?_⟩
      · exact (hC.hP0 i si a).1.2 (by rw [sh.on_x, ← hXk]; exact g1)
      · intro hh; have := (hC.hP0 i si a).2.1 hh
        rw [sh.cn_x, ← hXk] at this; grind

end AdaptaVerif.Lemmas.Planarise
