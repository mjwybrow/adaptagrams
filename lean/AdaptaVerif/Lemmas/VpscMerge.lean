/-
`Block::merge` (model: `St.mergeAcross`) preserves the full block invariant.  `FlagUpd` — one entry of
the constraint array replaced by one with other flags — is all that `merge`, `split` and the flagging
steps do to the constraints; VpscSplit.lean and VpscLoop.lean use it too.
-/
import AdaptaVerif.Lemmas.VpscInv
import AdaptaVerif.Lemmas.Util.Array
namespace AdaptaVerif.Lemmas.VpscMerge
open AdaptaVerif.Model.Vpsc
open AdaptaVerif.Lemmas.VpscGraph AdaptaVerif.Lemmas.VpscModel
open AdaptaVerif.Lemmas.VpscInv
open AdaptaVerif.Lemmas.VpscFlag (toC)
open Relation

/-! ### setting a flag of one constraint -/

def SameData (a b : Con) : Prop := a.l = b.l ∧ a.r = b.r ∧ a.gap = b.gap ∧ a.eq = b.eq

theorem cons_set_get (cons : Array Con) (ci : Nat) (c' : Con) (j : Nat) :
    (cons.set! ci c')[j]! = if ci = j ∧ j < cons.size then c' else cons[j]! := Util.get!_set! _ _ _ _

/-- `cons'` is `cons` with entry `ci` replaced by `c'`, which differs from the old entry in its
    flags only (what `merge`, `split` and the flagging steps do to the constraint array) -/
structure FlagUpd (cons cons' : Array Con) (ci : Nat) (c' : Con) : Prop where
  size : cons'.size = cons.size
  ne : ∀ j : Nat, j ≠ ci → cons'[j]! = cons[j]!
  self : cons'[ci]! = c'
  data : ∀ j : Nat, SameData (cons'[j]!) (cons[j]!)

theorem flagUpd_set (cons : Array Con) (ci : Nat) (c' : Con) (hci : ci < cons.size)
    (hd : SameData c' (cons[ci]!)) : FlagUpd cons (cons.set! ci c') ci c' where
  size := Util.set!_size _ _ _
  ne := fun j hj => by rw [cons_set_get, if_neg (fun hh => hj hh.1.symm)]
  self := by rw [cons_set_get, if_pos ⟨rfl, hci⟩]
  data := fun j => by
    rw [cons_set_get]
    split
    · rename_i hh
      rw [← hh.1]
      exact hd
    · exact ⟨rfl, rfl, rfl, rfl⟩

namespace FlagUpd
variable {cons cons' : Array Con} {ci : Nat} {c' : Con} (U : FlagUpd cons cons' ci c')
include U

theorem unsat_eq (hu : c'.unsat = (cons[ci]!).unsat) (j : Nat) :
    (cons'[j]!).unsat = (cons[j]!).unsat := by
  by_cases hj : j = ci
  · rw [hj, U.self, hu]
  · rw [U.ne j hj]

theorem ae_congr {j : Nat} (ha : (cons'[j]!).active = (cons[j]!).active) (x y : Nat) :
    AE cons' j x y ↔ AE cons j x y := by
  unfold AE
  rw [U.size, ha, (U.data j).1, (U.data j).2.1]

theorem toC_eq : cons'.toList.map toC = cons.toList.map toC := by
  apply List.ext_getElem
  · simp [U.size]
  · intro k h1 h2
    simp only [List.getElem_map, Array.getElem_toList]
    have hk : k < cons.size := by simpa using h2
    obtain ⟨a, b, c, d⟩ := U.data k
    rw [getElem!_pos _ k (by rw [U.size]; exact hk), getElem!_pos _ k hk] at a b c d
    simp [toC, a, b, c, d]

theorem link {vars vars' : Array Var} (h : Link vars cons)
    (hio : ∀ u : Nat, (vars'[u]!).outs = (vars[u]!).outs ∧ (vars'[u]!).ins = (vars[u]!).ins) :
    Link vars' cons' :=
  h.congr hio U.size fun j => ⟨(U.data j).1, (U.data j).2.1⟩

theorem flags {vars : Array Var} {n : Nat} {ia : Array Nat} (h : InvC vars cons n ia)
    (hu : c'.unsat = (cons[ci]!).unsat)
    (hineq : ∀ j : Nat, j < cons'.size → (cons'[j]!).eq = false) (j : Nat) (hj : j < cons'.size)
    (hun : (cons'[j]!).unsat = true) : AdaptaVerif.Spec.Vpsc.PosCycle (cons'.toList.map toC) := by
  rw [U.toC_eq]
  rw [U.size] at hj
  rw [U.unsat_eq hu] at hun
  exact h.flags (fun k hk => by
    have := hineq k (by rw [U.size]; exact hk)
    rw [(U.data k).2.2.2] at this
    exact this) j hj hun

end FlagUpd

theorem shiftVars_blk (vars : Array Var) (s d : Nat) (x : Rat) (u : Nat) (hu : u < vars.size) :
    blk (shiftVars vars s d x) u = if blk vars u = s then d else blk vars u := by
  unfold blk
  rw [shiftVars_get _ _ _ _ _ hu]
  by_cases h : (vars[u]!).block = s <;> simp [h]

theorem merged_pair {bx bz src dst : Nat} (hne : bx ≠ bz)
    (h : (if bx = src then dst else bx) = (if bz = src then dst else bz)) :
    (bx = src ∧ bz = dst) ∨ (bx = dst ∧ bz = src) := by
  by_cases hx : bx = src <;> by_cases hz : bz = src
  · exact absurd (hx.trans hz.symm) hne
  · rw [if_pos hx, if_neg hz] at h
    exact Or.inl ⟨hx, h.symm⟩
  · rw [if_neg hx, if_pos hz] at h
    exact Or.inr ⟨h, hz⟩
  · rw [if_neg hx, if_neg hz] at h
    exact absurd h hne

theorem merge_core (vars : Array Var) (cons : Array Con) (n : Nat) (ia : Array Nat)
    (h : InvC vars cons n ia) (ci : Nat) (hci : ci < cons.size)
    (hne : blk vars (cons[ci]!).l ≠ blk vars (cons[ci]!).r)
    (src dst : Nat) (d : Rat)
    (hsd : MergeDir vars (cons[ci]!) src dst d) :
    InvC (shiftVars vars src dst d) (cons.set! ci { cons[ci]! with active := true }) n ia := by
  have hl : (cons[ci]!).l < vars.size := h.l_lt ci hci
  have hr : (cons[ci]!).r < vars.size := h.r_lt ci hci
  have U := flagUpd_set cons ci { cons[ci]! with active := true } hci ⟨rfl, rfl, rfl, rfl⟩
  generalize cons.set! ci { cons[ci]! with active := true } = cons1 at U ⊢
  have hvsz : (shiftVars vars src dst d).size = vars.size := shiftVars_size _ _ _ _
  have hactive : ∀ j : Nat, (cons1[j]!).active = true →
      j = ci ∨ (cons[j]!).active = true := by
    intro j ha
    by_cases hj : j = ci
    · exact Or.inl hj
    · rw [U.ne j hj] at ha; exact Or.inr ha
  have hae1 : ∀ j x y, AE cons j x y → AE cons1 j x y := by
    intro j x y ⟨h1, h2, h3⟩
    refine ⟨by rw [U.size]; exact h1, ?_, ?_⟩
    · by_cases hj : j = ci
      · subst hj; rw [U.self]
      · rw [U.ne j hj]; exact h2
    · rw [(U.data j).1, (U.data j).2.1]; exact h3
  have hae2 : ∀ j x y, AE cons1 j x y →
      (j ≠ ci ∧ AE cons j x y) ∨
      (j = ci ∧ (((cons[ci]!).l = x ∧ (cons[ci]!).r = y) ∨ ((cons[ci]!).l = y ∧ (cons[ci]!).r = x))) := by
    intro j x y ⟨h1, h2, h3⟩
    rw [(U.data j).1, (U.data j).2.1] at h3
    by_cases hj : j = ci
    · subst hj; exact Or.inr ⟨rfl, h3⟩
    · rw [U.ne j hj] at h2
      exact Or.inl ⟨hj, by rw [U.size] at h1; exact h1, h2, h3⟩
  have hreach : ∀ {x y}, Reach cons x y → Reach cons1 x y :=
    fun hxy => reflTransGen_adj_mono (fun j a b hp hj => ⟨hp, hae1 j a b hj⟩) hxy
  have hedge : Reach cons1 (cons[ci]!).l (cons[ci]!).r :=
    ReflTransGen.single ⟨ci, trivial, by rw [U.size]; exact hci, by rw [U.self], by
      rw [U.self]; exact Or.inl ⟨rfl, rfl⟩⟩
  have hb : ∀ u, u < vars.size →
      blk (shiftVars vars src dst d) u = if blk vars u = src then dst else blk vars u :=
    fun u hu => shiftVars_blk _ _ _ _ _ hu
  refine
    { U.link h.link (fun u => ⟨shiftVars_outs _ _ _ _ u, shiftVars_ins _ _ _ _ u⟩) with
      flags := U.flags h rfl, tight := ?tight, bridge := ?bridge, conn := ?conn,
      fresh := ?fresh, cover := ?cover, inact_lt := ?inact_lt }
  case tight =>
    -- the merged constraint by the choice of the shift, the others because the shift is rigid
    intro j hj ha
    rw [U.size] at hj
    rw [(U.data j).1, (U.data j).2.1, (U.data j).2.2.1]
    by_cases hjc : j = ci
    · subst hjc
      have := shiftVars_tight hsd hl hr hne
      exact ⟨this.2, this.1⟩
    · rcases hactive j ha with hh | hh
      · exact absurd hh hjc
      · obtain ⟨t1, t2⟩ := h.tight j hj hh
        obtain ⟨e, b⟩ := shiftVars_rigid vars src dst d (h.l_lt j hj) (h.r_lt j hj) t1
        exact ⟨b, by unfold offs at t2 ⊢; linarith only [e, t2]⟩
  case bridge =>
    intro j hj ha hreachj
    rw [U.size] at hj
    rw [(U.data j).1, (U.data j).2.1] at hreachj
    by_cases hjc : j = ci
    · subst hjc
      -- avoiding the new edge, only old edges remain: they never leave a block
      have : ReachAvoid cons j (cons[j]!).l (cons[j]!).r :=
        reflTransGen_adj_mono (fun k a b hp hk => by
          rcases hae2 k a b hk with ⟨_, hk'⟩ | ⟨hk', _⟩
          · exact ⟨hp, hk'⟩
          · exact absurd hk' hp) hreachj
      exact hne (h.reach_blk this)
    · have haold : (cons[j]!).active = true := by
        rcases hactive j ha with hh | hh
        · exact absurd hh hjc
        · exact hh
      have hdec := reach_add_edge (R := Adj (fun k => k ≠ j) cons)
        (R' := Adj (fun k => k ≠ j) cons1)
        (l := (cons[ci]!).l) (r := (cons[ci]!).r) (by
          intro a b ⟨k, hp, hk⟩
          rcases hae2 k a b hk with ⟨_, hk'⟩ | ⟨_, hk'⟩
          · exact Or.inl ⟨k, hp, hk'⟩
          · rcases hk' with ⟨rfl, rfl⟩ | ⟨rfl, rfl⟩
            · exact Or.inr (Or.inl ⟨rfl, rfl⟩)
            · exact Or.inr (Or.inr ⟨rfl, rfl⟩)) hreachj
      have hjb := (h.tight j hj haold).1
      rcases hdec with h1 | ⟨h1, h2⟩ | ⟨h1, h2⟩
      · exact h.bridge j hj haold h1
      · have e1 := h.reach_blk h1
        have e2 := h.reach_blk h2
        exact hne (by rw [← e1, hjb, ← e2])
      · have e1 := h.reach_blk h1
        have e2 := h.reach_blk h2
        exact hne (by rw [e2, ← hjb, e1])
  case conn =>
    intro x y hx hy hxy
    rw [hvsz] at hx hy
    rw [hb x hx, hb y hy] at hxy
    by_cases hbxy : blk vars x = blk vars y
    · exact hreach (h.conn x y hx hy hbxy)
    · -- x and y are in the two merged blocks
      have key : (blk vars x = blk vars (cons[ci]!).l ∧ blk vars y = blk vars (cons[ci]!).r) ∨
                 (blk vars x = blk vars (cons[ci]!).r ∧ blk vars y = blk vars (cons[ci]!).l) := by
        rcases merged_pair hbxy hxy with ⟨hx', hy'⟩ | ⟨hx', hy'⟩ <;>
          rcases hsd with ⟨h1, h2, _⟩ | ⟨h1, h2, _⟩
        · exact Or.inl ⟨hx'.trans h1, hy'.trans h2⟩
        · exact Or.inr ⟨hx'.trans h1, hy'.trans h2⟩
        · exact Or.inr ⟨hx'.trans h2, hy'.trans h1⟩
        · exact Or.inl ⟨hx'.trans h2, hy'.trans h1⟩
      rcases key with ⟨kx, ky⟩ | ⟨kx, ky⟩
      · exact (hreach (h.conn x _ hx hl kx)).trans (hedge.trans (hreach (h.conn _ y hr hy ky.symm)))
      · exact (hreach (h.conn x _ hx hr kx)).trans
          (hedge.symm.trans (hreach (h.conn _ y hl hy ky.symm)))
  case fresh =>
    intro x hx
    rw [hvsz] at hx
    rw [hb x hx]
    split
    · rcases hsd with ⟨_, h2, _⟩ | ⟨_, h2, _⟩
      · rw [h2]; exact h.fresh _ hr
      · rw [h2]; exact h.fresh _ hl
    · exact h.fresh x hx
  case cover =>
    intro j hj
    rw [U.size] at hj
    by_cases hjc : j = ci
    · subst hjc; left; rw [U.self]
    · rw [U.ne j hjc]; exact h.cover j hj
  case inact_lt =>
    intro j hj
    rw [U.size]; exact h.inact_lt j hj

theorem mergeAcross_frame (st : St) (ci : Nat) :
    (st.mergeAcross ci).1.blocks.size = st.blocks.size ∧
    (st.mergeAcross ci).1.inactive = st.inactive ∧
    (st.mergeAcross ci).1.fuelOut = st.fuelOut := by
  unfold St.mergeAcross
  simp only [St.refreshBlock]
  split <;> simp

theorem mergeAcross_inv (st : St) (ci : Nat) (h : Inv st) (hci : ci < st.cons.size)
    (hne : blk st.vars (st.cons[ci]!).l ≠ blk st.vars (st.cons[ci]!).r) :
    Inv (st.mergeAcross ci).1 := by
  obtain ⟨src, dst, d, hdir, hv⟩ := mergeAcross_shift st ci
  unfold VpscInv.Inv
  rw [(mergeAcross_frame st ci).1, (mergeAcross_frame st ci).2.1, mergeAcross_cons, hv]
  exact merge_core _ _ _ _ h ci hci hne _ _ _ hdir

end AdaptaVerif.Lemmas.VpscMerge
