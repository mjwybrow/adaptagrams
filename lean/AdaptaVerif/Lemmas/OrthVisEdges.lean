/-
Lemmas about `Model/OrthVis.lean`: the breakpoint set of a line (`sortLV` / `toBPs`: same members, sorted by
position), its position groups (`groupsOf`: the list cut into non-empty groups of one position each, positions
strictly increasing), and where the edges of `lineEdges` come from: a pair of adjacent groups, the first vertex
from the earlier groups, the second from the later ones, direction flags respected.
Then completeness of `lineEdges` along a line.  Breakpoints in adjacent position groups are joined unless a connector
end point's flag forbids it (`groupEdges_adjacent`); hence dummy vertices chosen from a run of consecutive groups form a
chain, and on a sorted breakpoint list one reaches every higher breakpoint through dummy vertices (`line_reach`).
-/
import Mathlib.Algebra.Order.Field.Rat
import AdaptaVerif.Model.OrthVis
namespace AdaptaVerif.Lemmas.OrthVis
open AdaptaVerif.Model.OrthVis

theorem LV.lt_le {a b : LV} (h : a.lt b = true) : a.t ≤ b.t := by
  unfold LV.lt at h
  simp only [Bool.or_eq_true, Bool.and_eq_true, decide_eq_true_eq, beq_iff_eq] at h
  rcases h with h | h
  · exact le_of_lt h
  · exact le_of_eq h.1

theorem LV.eq_of_not_lt {a b : LV} (h1 : a.lt b = false) (h2 : b.lt a = false) : a = b := by
  obtain ⟨ta, ka⟩ := a
  obtain ⟨tb, kb⟩ := b
  simp only [LV.lt, Bool.or_eq_false_iff, decide_eq_false_iff_not, not_lt] at h1 h2
  obtain rfl : ta = tb := le_antisymm h2.1 h1.1
  cases ka <;> cases kb <;> simp at h1 h2 ⊢
  omega

theorem mem_insertLV {a x : LV} {l : List LV} : x ∈ insertLV a l ↔ x = a ∨ x ∈ l := by
  induction l with
  | nil => simp [insertLV]
  | cons b r ih =>
    unfold insertLV
    split
    · exact List.mem_cons
    · split
      · rw [List.mem_cons, ih, List.mem_cons]
        exact or_left_comm
      · rename_i h1 h2
        obtain rfl : a = b := LV.eq_of_not_lt (by simpa using h1) (by simpa using h2)
        simp

theorem mem_sortLV {x : LV} {l : List LV} : x ∈ sortLV l ↔ x ∈ l := by
  induction l with
  | nil => exact Iff.rfl
  | cons a r ih => exact mem_insertLV.trans ((or_congr_right ih).trans List.mem_cons.symm)

theorem mem_toBPs {dirs : VK → Bool × Bool} {l : List LV} {a : BP} (h : a ∈ toBPs dirs l) :
    (⟨a.t, a.k⟩ : LV) ∈ l ∧ a.dn = (dirs a.k).1 ∧ a.up = (dirs a.k).2 := by
  obtain ⟨q, hq, rfl⟩ := List.mem_map.mp h
  exact ⟨mem_sortLV.mp hq, rfl, rfl⟩

theorem mem_toBPs_of_mem {dirs : VK → Bool × Bool} {l : List LV} {q : LV} (h : q ∈ l) :
    (⟨q.t, q.k, (dirs q.k).1, (dirs q.k).2⟩ : BP) ∈ toBPs dirs l :=
  List.mem_map.mpr ⟨q, mem_sortLV.mpr h, rfl⟩

def SortedLV (l : List LV) : Prop := l.Pairwise (fun a b => a.t ≤ b.t)

theorem insertLV_sorted (a : LV) (l : List LV) (h : SortedLV l) : SortedLV (insertLV a l) := by
  unfold SortedLV at *
  induction l with
  | nil => exact List.pairwise_singleton _ _
  | cons b r ih =>
    obtain ⟨hb, hr⟩ := List.pairwise_cons.mp h
    unfold insertLV
    split
    · rename_i hab
      refine List.pairwise_cons.mpr ⟨fun x hx => ?_, h⟩
      rcases List.mem_cons.mp hx with rfl | hx
      · exact LV.lt_le hab
      · exact le_trans (LV.lt_le hab) (hb x hx)
    · split
      · rename_i hba
        refine List.pairwise_cons.mpr ⟨fun x hx => ?_, ih hr⟩
        rcases mem_insertLV.mp hx with rfl | hx
        · exact LV.lt_le hba
        · exact hb x hx
      · exact h

theorem sortLV_sorted (l : List LV) : SortedLV (sortLV l) := by
  induction l with
  | nil => exact List.Pairwise.nil
  | cons a r ih => exact insertLV_sorted a _ ih

def SortedBP (l : List BP) : Prop := l.Pairwise (fun a b => a.t ≤ b.t)

theorem toBPs_sorted (dirs : VK → Bool × Bool) (l : List LV) : SortedBP (toBPs dirs l) :=
  List.pairwise_map.mpr (sortLV_sorted l)

theorem dirsX_eq_true {conns : List Conn} {i : Nat} :
    ((dirsX conns (.conn i)).1 = true ↔ ∃ c, conns[i]? = some c ∧ c.d.left = true) ∧
    ((dirsX conns (.conn i)).2 = true ↔ ∃ c, conns[i]? = some c ∧ c.d.right = true) := by
  cases hc : conns[i]? <;> simp [dirsX, hc]

theorem dirsY_eq_true {conns : List Conn} {i : Nat} :
    ((dirsY conns (.conn i)).1 = true ↔ ∃ c, conns[i]? = some c ∧ c.d.up = true) ∧
    ((dirsY conns (.conn i)).2 = true ↔ ∃ c, conns[i]? = some c ∧ c.d.down = true) := by
  cases hc : conns[i]? <;> simp [dirsY, hc]

theorem dirsX_towards {conns : List Conn} {i : Nat} {c : Conn} (hc : conns[i]? = some c) {x X : Rat} (hne : x ≠ X)
    (hf : (x < X → c.d.right = true) ∧ (X < x → c.d.left = true)) :
    (if x < X then (dirsX conns (.conn i)).2 else (dirsX conns (.conn i)).1) = true := by
  rcases lt_or_gt_of_ne hne with h | h
  · rw [if_pos h]; exact dirsX_eq_true.2.mpr ⟨c, hc, hf.1 h⟩
  · rw [if_neg (lt_asymm h)]; exact dirsX_eq_true.1.mpr ⟨c, hc, hf.2 h⟩

theorem dirsY_from {conns : List Conn} {i : Nat} {c : Conn} (hc : conns[i]? = some c) {y Y : Rat} (hne : Y ≠ y)
    (hf : (Y < y → c.d.up = true) ∧ (y < Y → c.d.down = true)) :
    (if Y < y then (dirsY conns (.conn i)).1 else (dirsY conns (.conn i)).2) = true := by
  rcases lt_or_gt_of_ne hne with h | h
  · rw [if_pos h]; exact dirsY_eq_true.1.mpr ⟨c, hc, hf.1 h⟩
  · rw [if_neg (lt_asymm h)]; exact dirsY_eq_true.2.mpr ⟨c, hc, hf.2 h⟩

theorem groupsOf_flatten (l : List BP) : (groupsOf l).flatten = l := by
  induction l with
  | nil => rfl
  | cons a r ih =>
    unfold groupsOf
    split
    · rename_i b g gs heq
      rw [heq] at ih
      rw [← ih]
      split <;> simp
    · simp [ih]

theorem mem_groupsOf {l : List BP} {g : List BP} {x : BP} (hg : g ∈ groupsOf l) (hx : x ∈ g) : x ∈ l :=
  groupsOf_flatten l ▸ List.mem_flatten.mpr ⟨g, hg, hx⟩

theorem exists_group {l : List BP} {x : BP} (hx : x ∈ l) : ∃ g ∈ groupsOf l, x ∈ g :=
  List.mem_flatten.mp ((groupsOf_flatten l).symm ▸ hx)

structure GroupsOK (gs : List (List BP)) : Prop where
  ne : ∀ g ∈ gs, g ≠ []
  uni : ∀ g ∈ gs, ∀ x ∈ g, ∀ y ∈ g, x.t = y.t
  inc : gs.Pairwise (fun g g' => ∀ x ∈ g, ∀ y ∈ g', x.t < y.t)

theorem groupsOf_ok (l : List BP) (h : SortedBP l) : GroupsOK (groupsOf l) := by
  induction l with
  | nil => exact ⟨nofun, nofun, List.Pairwise.nil⟩
  | cons a r ih =>
    obtain ⟨ha, hr⟩ := List.pairwise_cons.mp h
    have ok := ih hr
    have hle : ∀ g ∈ groupsOf r, ∀ x ∈ g, a.t ≤ x.t := fun g hg x hx => ha x (mem_groupsOf hg hx)
    unfold groupsOf
    generalize groupsOf r = gs at ok hle
    have single : (∀ g ∈ gs, ∀ x ∈ g, a.t < x.t) → GroupsOK ([a] :: gs) := fun hlt =>
      ⟨List.forall_mem_cons.mpr ⟨List.cons_ne_nil _ _, ok.ne⟩,
       List.forall_mem_cons.mpr ⟨fun x hx y hy => by rw [List.mem_singleton.mp hx, List.mem_singleton.mp hy], ok.uni⟩,
       List.pairwise_cons.mpr ⟨fun g hg x hx y hy => by rw [List.mem_singleton.mp hx]; exact hlt g hg y hy, ok.inc⟩⟩
    match gs, ok, hle, single with
    | [], _, _, single => exact single nofun
    | [] :: gs, ok, _, _ => exact absurd rfl (ok.ne [] List.mem_cons_self)
    | (b :: g) :: gs, ok, hle, single =>
      obtain ⟨hinc1, hinc2⟩ := List.pairwise_cons.mp ok.inc
      have hub : ∀ x ∈ b :: g, x.t = b.t := fun x hx => ok.uni _ List.mem_cons_self x hx b List.mem_cons_self
      simp only
      split
      · rename_i hab
        have hab : a.t = b.t := by simpa using hab
        have hua : ∀ x ∈ a :: b :: g, x.t = b.t := List.forall_mem_cons.mpr ⟨hab, hub⟩
        exact ⟨List.forall_mem_cons.mpr ⟨List.cons_ne_nil _ _, fun g' hg' => ok.ne g' (List.mem_cons_of_mem _ hg')⟩,
          List.forall_mem_cons.mpr ⟨fun x hx y hy => (hua x hx).trans (hua y hy).symm,
            fun g' hg' => ok.uni g' (List.mem_cons_of_mem _ hg')⟩,
          List.pairwise_cons.mpr ⟨fun g' hg' x hx y hy => by
            rw [hua x hx]; exact hinc1 g' hg' b List.mem_cons_self y hy, hinc2⟩⟩
      · rename_i hab
        have hlt : a.t < b.t :=
          lt_of_le_of_ne (hle _ List.mem_cons_self b List.mem_cons_self) (by simpa using hab)
        refine single fun g' hg' y hy => ?_
        rcases List.mem_cons.mp hg' with rfl | hg'
        · rw [hub y hy]; exact hlt
        · exact lt_trans hlt (hinc1 g' hg' b List.mem_cons_self y hy)

theorem mem_splits {α} {pre l : List α} {p : List α × α × List α} (h : p ∈ splits pre l) :
    p.2.1 ∈ l ∧ (∀ y ∈ p.1, y ∈ pre ∨ y ∈ l) ∧ (∀ y ∈ p.2.2, y ∈ l) := by
  induction l generalizing pre with
  | nil => cases h
  | cons x r ih =>
    rcases List.mem_cons.mp h with rfl | h
    · exact ⟨List.mem_cons_self, fun y hy => Or.inl hy, fun y hy => List.mem_cons_of_mem _ hy⟩
    · obtain ⟨h1, h2, h3⟩ := ih h
      refine ⟨List.mem_cons_of_mem _ h1, fun y hy => ?_, fun y hy => List.mem_cons_of_mem _ (h3 y hy)⟩
      rcases h2 y hy with h | h
      · exact (List.mem_cons.mp h).elim (fun e => Or.inr (e ▸ List.mem_cons_self)) Or.inl
      · exact Or.inr (List.mem_cons_of_mem _ h)

theorem mem_splits_of_mem {α} (pre l : List α) (x : α) (hx : x ∈ l) :
    ∃ bl av, (bl, x, av) ∈ splits pre l := by
  induction l generalizing pre with
  | nil => cases hx
  | cons y r ih =>
    rcases List.mem_cons.mp hx with rfl | hx
    · exact ⟨pre, r, List.mem_cons_self⟩
    · obtain ⟨bl, av, h⟩ := ih (y :: pre) hx
      exact ⟨bl, av, List.mem_cons_of_mem _ h⟩

theorem mem_pairEdges {before after : List BP} {last vert : BP} {e : BP × BP}
    (h : e ∈ pairEdges before last vert after) :
    (e.1 = last ∨ e.1 ∈ before) ∧ (e.2 = vert ∨ e.2 ∈ after) ∧
    (e.1.k.isConn = true → e.1.up = true) ∧ (e.2.k.isConn = true → e.2.dn = true) := by
  unfold pairEdges at h
  rcases List.mem_append.mp h with h | h
  · split at h
    · rcases List.mem_append.mp h with h | h
      · split at h
        · rename_i side hf
          split at h
          · rename_i hdn
            obtain rfl := List.mem_singleton.mp h
            have := List.find?_some hf
            simp only [Bool.not_eq_true'] at this
            exact ⟨Or.inr (List.mem_of_find?_eq_some hf), Or.inl rfl, fun hc => by simp [this] at hc, fun _ => hdn⟩
          · cases h
        · cases h
      · split at h
        · rename_i side hf
          split at h
          · rename_i hup
            obtain rfl := List.mem_singleton.mp h
            have := List.find?_some hf
            simp only [Bool.not_eq_true'] at this
            exact ⟨Or.inl rfl, Or.inr (List.mem_of_find?_eq_some hf), fun _ => hup, fun hc => by simp [this] at hc⟩
          · cases h
        · cases h
    · cases h
  · split at h
    · cases h
    · rename_i hc
      obtain rfl := List.mem_singleton.mp h
      simp only [Bool.or_eq_true, Bool.and_eq_true, Bool.not_eq_true', not_or, not_and, Bool.not_eq_false] at hc
      exact ⟨Or.inl rfl, Or.inl rfl, hc.1, hc.2⟩

theorem pairEdges_normal (before after : List BP) (last vert : BP)
    (h1 : last.k.isConn = true → last.up = true) (h2 : vert.k.isConn = true → vert.dn = true) :
    (last, vert) ∈ pairEdges before last vert after := by
  unfold pairEdges
  apply List.mem_append_right
  have : ((last.k.isConn && !last.up) || (vert.k.isConn && !vert.dn)) = false := by
    cases hl : last.k.isConn <;> cases hv : vert.k.isConn <;> simp_all
  simp [this]

theorem mem_groupEdges {rp : List BP} {gs : List (List BP)} {e : BP × BP} (h : e ∈ groupEdges rp gs) :
    ∃ gs1 g g' gs2, gs = gs1 ++ g :: g' :: gs2 ∧
      (e.1 ∈ g ∨ e.1 ∈ rp ∨ ∃ g0 ∈ gs1, e.1 ∈ g0) ∧ (e.2 ∈ g' ∨ ∃ g2 ∈ gs2, e.2 ∈ g2) ∧
      (e.1.k.isConn = true → e.1.up = true) ∧ (e.2.k.isConn = true → e.2.dn = true) := by
  induction gs generalizing rp with
  | nil => cases h
  | cons g rest ih =>
    cases rest with
    | nil => cases h
    | cons g' more =>
      unfold groupEdges at h
      rcases List.mem_append.mp h with h | h
      · obtain ⟨s1, hs1, h⟩ := List.mem_flatMap.mp h
        obtain ⟨s2, hs2, h⟩ := List.mem_flatMap.mp h
        obtain ⟨a1, a2, _⟩ := mem_splits hs1
        obtain ⟨b1, _, b3⟩ := mem_splits hs2
        obtain ⟨p1, p2, d⟩ := mem_pairEdges h
        refine ⟨[], g, g', more, rfl, ?_, ?_, d⟩
        · rcases p1 with p | p
          · exact Or.inl (p ▸ a1)
          · rcases List.mem_append.mp p with p | p
            · exact Or.inl ((a2 _ p).resolve_left List.not_mem_nil)
            · exact Or.inr (Or.inl p)
        · rcases p2 with p | p
          · exact Or.inl (p ▸ b1)
          · rcases List.mem_append.mp p with p | p
            · exact Or.inl (b3 _ p)
            · exact Or.inr (List.mem_flatMap.mp p)
      · obtain ⟨gs1, ga, gb, gs2, hgs, q1, q2, d⟩ := ih h
        refine ⟨g :: gs1, ga, gb, gs2, congrArg (g :: ·) hgs, ?_, q2, d⟩
        rcases q1 with q | q | ⟨g0, hg0, q⟩
        · exact Or.inl q
        · rcases List.mem_append.mp q with q | q
          · exact Or.inr (Or.inr ⟨g, List.mem_cons_self, List.mem_reverse.mp q⟩)
          · exact Or.inr (Or.inl q)
        · exact Or.inr (Or.inr ⟨g0, List.mem_cons_of_mem _ hg0, q⟩)

theorem mem_lineEdges {bps : List BP} {e : BP × BP} (h : e ∈ lineEdges bps) : e.1 ∈ bps ∧ e.2 ∈ bps := by
  obtain ⟨gs1, g, g', gs2, hgs, q1, q2, _⟩ := mem_groupEdges h
  have hm : ∀ g0 ∈ gs1 ++ g :: g' :: gs2, ∀ x ∈ g0, x ∈ bps := fun g0 hg0 x hx => mem_groupsOf (hgs ▸ hg0) hx
  constructor
  · rcases q1 with q | q | ⟨g0, hg0, q⟩
    · exact hm g (by simp) _ q
    · cases q
    · exact hm g0 (by simp [hg0]) _ q
  · rcases q2 with q | ⟨g2, hg2, q⟩
    · exact hm g' (by simp) _ q
    · exact hm g2 (by simp [hg2]) _ q

theorem lineEdges_lt {bps : List BP} (h : SortedBP bps) : ∀ e ∈ lineEdges bps, e.1.t < e.2.t := by
  intro e he
  obtain ⟨gs1, g, g', gs2, hgs, q1, q2, _⟩ := mem_groupEdges he
  have hinc := (groupsOf_ok bps h).inc
  rw [show groupsOf bps = gs1 ++ g :: g' :: gs2 from hgs] at hinc
  obtain ⟨_, h2, hcross⟩ := List.pairwise_append.mp hinc
  have hg := (List.pairwise_cons.mp h2).1
  -- the group of `e.1` stands before the group of `e.2`
  rcases q1 with q | q | ⟨g0, hg0, q⟩
  · rcases q2 with r | ⟨g2, hg2, r⟩
    · exact hg g' List.mem_cons_self _ q _ r
    · exact hg g2 (List.mem_cons_of_mem _ hg2) _ q _ r
  · cases q
  · rcases q2 with r | ⟨g2, hg2, r⟩
    · exact hcross g0 hg0 g' (by simp) _ q _ r
    · exact hcross g0 hg0 g2 (by simp [hg2]) _ q _ r

theorem lineEdges_dirs (bps : List BP) :
    ∀ e ∈ lineEdges bps, (e.1.k.isConn = true → e.1.up = true) ∧ (e.2.k.isConn = true → e.2.dn = true) := by
  intro e he
  obtain ⟨_, _, _, _, _, _, _, d⟩ := mem_groupEdges he
  exact d

theorem lineEdge_within {dirs : VK → Bool × Bool} {vs : List LV} {ab : BP × BP} {b f : Rat}
    (hr : ∀ q ∈ vs, b ≤ q.t ∧ q.t ≤ f) (hab : ab ∈ lineEdges (toBPs dirs vs)) :
    b ≤ ab.1.t ∧ ab.1.t < ab.2.t ∧ ab.2.t ≤ f :=
  ⟨(hr _ (mem_toBPs (mem_lineEdges hab).1).1).1, lineEdges_lt (toBPs_sorted _ _) _ hab,
    (hr _ (mem_toBPs (mem_lineEdges hab).2).1).2⟩

theorem lineEdge_flags {dirs : VK → Bool × Bool} {vs : List LV} {ab : BP × BP} (hab : ab ∈ lineEdges (toBPs dirs vs)) :
    (∀ i, ab.1.k = .conn i → (dirs (.conn i)).2 = true) ∧ (∀ i, ab.2.k = .conn i → (dirs (.conn i)).1 = true) := by
  obtain ⟨d1, d2⟩ := lineEdges_dirs _ _ hab
  obtain ⟨ha, hb⟩ := mem_lineEdges hab
  refine ⟨fun i hi => ?_, fun i hi => ?_⟩
  · have := d1 (by rw [hi]; rfl)
    rwa [(mem_toBPs ha).2.2, hi] at this
  · have := d2 (by rw [hi]; rfl)
    rwa [(mem_toBPs hb).2.1, hi] at this


theorem groupEdges_adjacent (rp : List BP) (gs1 : List (List BP)) (g g' : List BP) (gs2 : List (List BP))
    (last vert : BP) (hl : last ∈ g) (hv : vert ∈ g')
    (h1 : last.k.isConn = true → last.up = true) (h2 : vert.k.isConn = true → vert.dn = true) :
    (last, vert) ∈ groupEdges rp (gs1 ++ g :: g' :: gs2) := by
  induction gs1 generalizing rp with
  | nil =>
    obtain ⟨bl, av, hs1⟩ := mem_splits_of_mem [] g last hl
    obtain ⟨bl', av', hs2⟩ := mem_splits_of_mem [] g' vert hv
    exact List.mem_append_left _
      (List.mem_flatMap.mpr ⟨_, hs1, List.mem_flatMap.mpr ⟨_, hs2, pairEdges_normal _ _ _ _ h1 h2⟩⟩)
  | cons g0 r ih =>
    -- `groupEdges` steps on a list with two heads: the second is `g` or the head of `r`
    cases r with
    | nil => exact List.mem_append_right _ (ih (rp := g0.reverse ++ rp))
    | cons g1 r' => exact List.mem_append_right _ (ih (rp := g0.reverse ++ rp))

def pairs {α} : List α → List (α × α)
  | a :: b :: r => (a, b) :: pairs (b :: r)
  | _ => []

/-- `ns` picks one dummy vertex from each group of `gs` -/
inductive Picks : List (List BP) → List BP → Prop
  | nil : Picks [] []
  | cons {g : List BP} {n : BP} {gs : List (List BP)} {ns : List BP} :
      n ∈ g → n.k.isConn = false → Picks gs ns → Picks (g :: gs) (n :: ns)

theorem not_isConn {b : BP} {x : Bool} (h : b.k.isConn = false) : b.k.isConn = true → x = true :=
  fun hc => absurd (h.symm.trans hc) Bool.false_ne_true

theorem groupEdges_node_chain (rp : List BP) (pre mid post : List (List BP)) (ns : List BP)
    (h : Picks mid ns) :
    ∀ e ∈ pairs ns, e ∈ groupEdges rp (pre ++ mid ++ post) := by
  induction h generalizing pre with
  | nil => exact fun _ he => absurd he List.not_mem_nil
  | @cons g n mid' ns' hm hk hrest ih =>
    cases hrest with
    | nil => exact fun _ he => absurd he List.not_mem_nil
    | @cons g' n' mid'' ns'' hm' hk' hrest' =>
      intro e he
      rcases List.mem_cons.mp he with rfl | he
      · rw [List.append_assoc]
        exact groupEdges_adjacent rp pre g g' (mid'' ++ post) n n' hm hm' (not_isConn hk) (not_isConn hk')
      · have := ih (pre ++ [g]) e he
        rw [List.append_assoc pre [g]] at this
        exact this

inductive Reach (E : List (BP × BP)) : BP → BP → Prop
  | refl (a : BP) : Reach E a a
  | step {a b c : BP} : (a, b) ∈ E → Reach E b c → Reach E a c

theorem groupEdges_reach (rp : List BP) (gs1 : List (List BP)) (g : List BP) (mids : List (List BP))
    (g' : List BP) (gs2 : List (List BP)) (a b : BP) (ha : a ∈ g) (hb : b ∈ g')
    (h1 : a.k.isConn = true → a.up = true) (h2 : b.k.isConn = true → b.dn = true)
    (hm : ∀ m ∈ mids, ∃ c ∈ m, c.k.isConn = false) :
    Reach (groupEdges rp (gs1 ++ g :: (mids ++ g' :: gs2))) a b := by
  induction mids generalizing gs1 g a with
  | nil => exact Reach.step (groupEdges_adjacent rp gs1 g g' gs2 a b ha hb h1 h2) (Reach.refl b)
  | cons m ms ih =>
    obtain ⟨c, hcm, hcn⟩ := hm m List.mem_cons_self
    have e1 := groupEdges_adjacent rp gs1 g m (ms ++ g' :: gs2) a c ha hcm h1 (not_isConn hcn)
    have := ih (gs1 ++ [g]) m c hcm (not_isConn hcn) (fun m' hm' => hm m' (List.mem_cons_of_mem _ hm'))
    rw [List.append_assoc] at this
    exact Reach.step e1 this

theorem groups_between {bps : List BP} (h : SortedBP bps) {a b : BP} (ha : a ∈ bps) (hb : b ∈ bps)
    (hab : a.t < b.t) :
    ∃ gs1 ga mids gb gs2, groupsOf bps = gs1 ++ ga :: (mids ++ gb :: gs2) ∧ a ∈ ga ∧ b ∈ gb ∧
      ∀ m ∈ mids, ∃ c ∈ m, c ∈ bps ∧ a.t < c.t ∧ c.t < b.t := by
  have ok := groupsOf_ok bps h
  obtain ⟨ga, hga, haga⟩ := exists_group ha
  obtain ⟨gb, hgb, hbgb⟩ := exists_group hb
  obtain ⟨s, t, hst⟩ := List.append_of_mem hga
  have hinc := ok.inc
  rw [hst] at hinc hgb
  obtain ⟨_, hinc2, hcross⟩ := List.pairwise_append.mp hinc
  obtain ⟨hat, hinct⟩ := List.pairwise_cons.mp hinc2
  rcases List.mem_append.mp hgb with hgb | hgb
  · exact absurd (hcross gb hgb ga List.mem_cons_self b hbgb a haga) (lt_asymm hab)
  rcases List.mem_cons.mp hgb with rfl | hgb
  · exact absurd (ok.uni gb hga a haga b hbgb) (ne_of_lt hab)
  obtain ⟨m, t2, rfl⟩ := List.append_of_mem hgb
  refine ⟨s, ga, m, gb, t2, hst, haga, hbgb, fun g1 hg1 => ?_⟩
  have hg1' : g1 ∈ groupsOf bps := by rw [hst]; simp [hg1]
  obtain ⟨c, hc⟩ := List.exists_mem_of_ne_nil g1 (ok.ne g1 hg1')
  exact ⟨c, hc, mem_groupsOf hg1' hc, hat g1 (List.mem_append_left _ hg1) a haga c hc,
    (List.pairwise_append.mp hinct).2.2 g1 hg1 gb List.mem_cons_self c hc b hbgb⟩

theorem lineEdges_adjacent {bps : List BP} (h : SortedBP bps) {a b : BP} (ha : a ∈ bps) (hb : b ∈ bps)
    (hab : a.t < b.t) (hno : ∀ c ∈ bps, ¬ (a.t < c.t ∧ c.t < b.t))
    (h1 : a.k.isConn = true → a.up = true) (h2 : b.k.isConn = true → b.dn = true) :
    (a, b) ∈ lineEdges bps := by
  obtain ⟨gs1, ga, mids, gb, gs2, hgs, haga, hbgb, hm⟩ := groups_between h ha hb hab
  unfold lineEdges
  rw [hgs]
  cases mids with
  | nil => exact groupEdges_adjacent [] gs1 ga gb gs2 a b haga hbgb h1 h2
  | cons m ms =>
    obtain ⟨c, _, hc, hbetween⟩ := hm m List.mem_cons_self
    exact absurd hbetween (hno c hc)

theorem line_reach {bps : List BP} (hs : SortedBP bps) {a b : BP} (ha : a ∈ bps) (hb : b ∈ bps) (hab : a.t < b.t)
    (h1 : a.k.isConn = true → a.up = true) (h2 : b.k.isConn = true → b.dn = true)
    (hmid : ∀ c ∈ bps, a.t < c.t → c.t < b.t → c.k.isConn = false) :
    Reach (lineEdges bps) a b := by
  obtain ⟨gs1, ga, mids, gb, gs2, hgs, haga, hbgb, hm⟩ := groups_between hs ha hb hab
  unfold lineEdges
  rw [hgs]
  refine groupEdges_reach [] gs1 ga mids gb gs2 a b haga hbgb h1 h2 fun m hmm => ?_
  obtain ⟨c, hcm, hc, h1c, h2c⟩ := hm m hmm
  exact ⟨c, hcm, hmid c hc h1c h2c⟩

theorem line_reach_either {bps : List BP} (hs : SortedBP bps) {a b : BP} (ha : a ∈ bps) (hb : b ∈ bps)
    (hne : a.t ≠ b.t)
    (fa : a.k.isConn = true → (if a.t < b.t then a.up else a.dn) = true)
    (fb : b.k.isConn = true → (if a.t < b.t then b.dn else b.up) = true)
    (hmid : ∀ c ∈ bps, (a.t < c.t ∧ c.t < b.t) ∨ (b.t < c.t ∧ c.t < a.t) → c.k.isConn = false) :
    Reach (lineEdges bps) a b ∨ Reach (lineEdges bps) b a := by
  by_cases hlt : a.t < b.t
  · rw [if_pos hlt] at fa fb
    exact Or.inl (line_reach hs ha hb hlt fa fb fun c hc h1 h2 => hmid c hc (Or.inl ⟨h1, h2⟩))
  · rw [if_neg hlt] at fa fb
    exact Or.inr (line_reach hs hb ha (lt_of_le_of_ne (not_lt.mp hlt) hne.symm) fb fa
      fun c hc h1 h2 => hmid c hc (Or.inr ⟨h1, h2⟩))

end AdaptaVerif.Lemmas.OrthVis
