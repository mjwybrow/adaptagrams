/-
Specification vocabulary for the A* model (`Model/AStar.lean`, part 1): paths of the problem's state
graph.  A state is (vertex, previous vertex); the edges out of state (v, pv) are the `some` entries of
`P.succs pv v`.
-/
import AdaptaVerif.Model.AStar
namespace AdaptaVerif.Lemmas.AStarSpec
open AdaptaVerif.Model.AStar

/-- `Reach P v pv c path`: `path` (vertices, the last one first) is a path of the state graph of `P`
    from the start node (P.src, none) to the node at vertex `v` whose previous vertex is `pv`, and `c`
    is the sum of the step costs `Succ.c` along it (the g-value `search` accumulates). -/
inductive Reach (P : Problem) : Nat → Option Nat → Rat → List Nat → Prop
  | start : Reach P P.src none 0 [P.src]
  | step {v : Nat} {pv : Option Nat} {c : Rat} {path : List Nat} (s : Succ) :
      Reach P v pv c path → some s ∈ P.succs pv v → Reach P s.w (some v) (c + s.c) (s.w :: path)

theorem reach_head {P : Problem} {v : Nat} {pv : Option Nat} {c : Rat} {path : List Nat}
    (h : Reach P v pv c path) : path.head? = some v := by
  cases h <;> rfl

theorem reach_pv {P : Problem} {v : Nat} {pv : Option Nat} {c : Rat} {path : List Nat}
    (h : Reach P v pv c path) : path.tail.head? = pv := by
  cases h with
  | start => rfl
  | step s hr _ => exact reach_head hr

end AdaptaVerif.Lemmas.AStarSpec
