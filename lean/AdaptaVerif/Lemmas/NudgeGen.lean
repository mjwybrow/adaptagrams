/-
Which constraints the generic generator `genG` (Model/NudgeRegion.lean) creates: `mem_genG_iff` — for every segment exactly the
constraints of `ConsAt` (channel-left, the separations from the earlier overlapping segments, channel-right).  The abstract
`genCons` of Model/Nudge.lean is the instance `absP`.  (Core Lean only.)
-/
import AdaptaVerif.Model.NudgeRegion
namespace AdaptaVerif.Lemmas.NudgeRegion
open AdaptaVerif.Model.Nudge AdaptaVerif.Model.NudgeRegion

variable {α : Type}

/-- what the code creates when it reaches segment `i` (= `s`) of `all`: the constraint `c` is the channel-left constraint,
    the separation from an earlier overlapping segment (not both fixed), or the channel-right constraint -/
def ConsAt (g : GenP α) (all : List α) (i : Nat) (s : α) (c : Cons) : Prop :=
  (g.fixed s = false ∧ ∃ l, g.lower s = some l ∧ c = Cons.lower i l) ∨
  (∃ j a, j < i ∧ all[j]? = some a ∧ g.ov s a = true ∧ (g.fixed s = false ∨ g.fixed a = false) ∧
    c = Cons.sep j i (g.gap a s).1 (g.gap a s).2) ∨
  (g.fixed s = false ∧ ∃ u, g.upper s = some u ∧ c = Cons.upper i u)

theorem mem_consForG_iff (g : GenP α) (prev : List (Nat × α)) (i : Nat) (s : α) (c : Cons) :
    c ∈ consForG g prev i s ↔
      (g.fixed s = false ∧ ∃ l, g.lower s = some l ∧ c = Cons.lower i l) ∨
      (∃ js ∈ prev, g.ov s js.2 = true ∧ (g.fixed s = false ∨ g.fixed js.2 = false) ∧
        c = Cons.sep js.1 i (g.gap js.2 s).1 (g.gap js.2 s).2) ∨
      (g.fixed s = false ∧ ∃ u, g.upper s = some u ∧ c = Cons.upper i u) := by
  unfold consForG
  rw [List.mem_append, List.mem_append, or_assoc]
  refine or_congr ?_ (or_congr ?_ ?_)
  · cases g.fixed s <;> cases g.lower s <;> simp
  · simp only [List.mem_filterMap, Option.ite_none_right_eq_some, Option.some.injEq, Bool.and_eq_true, Bool.or_eq_true,
      Bool.not_eq_true', eq_comm (a := c), and_assoc]
  · cases g.fixed s <;> cases g.upper s <;> simp

/-- `prev` lists exactly the segments of `pre` with their indexes -/
def Lists (prev : List (Nat × α)) (pre : List α) : Prop := ∀ j a, (j, a) ∈ prev ↔ pre[j]? = some a

theorem lists_snoc {prev : List (Nat × α)} {pre : List α} (h : Lists prev pre) (s : α) :
    Lists (prev ++ [(pre.length, s)]) (pre ++ [s]) := by
  intro j a
  rw [List.mem_append, h j a, List.mem_singleton, Prod.mk.injEq, List.getElem?_append]
  split
  · rename_i hlt
    exact ⟨fun h => h.elim id (fun e => absurd e.1 (by omega)), Or.inl⟩
  · rename_i hge
    rw [List.getElem?_singleton]
    have : pre[j]? = none := List.getElem?_eq_none (by omega)
    rw [this]
    constructor
    · rintro (h | ⟨rfl, rfl⟩)
      · cases h
      · simp
    · intro h
      split at h
      · exact Or.inr ⟨by omega, (Option.some.inj h).symm⟩
      · cases h

theorem mem_genFromG_iff (g : GenP α) (c : Cons) : ∀ (segs pre : List α) (prev : List (Nat × α)), Lists prev pre →
    (c ∈ genFromG g prev pre.length segs ↔
      ∃ i s, pre.length ≤ i ∧ (pre ++ segs)[i]? = some s ∧ ConsAt g (pre ++ segs) i s c) := by
  intro segs
  induction segs with
  | nil =>
    intro pre prev _
    simp only [genFromG, List.not_mem_nil, List.append_nil, false_iff, not_exists, not_and]
    intro i s hle hi
    rw [List.getElem?_eq_none hle] at hi
    cases hi
  | cons t rest ih =>
    intro pre prev hl
    have hassoc : pre ++ t :: rest = (pre ++ [t]) ++ rest := by simp
    unfold genFromG
    rw [List.mem_append, show pre.length + 1 = (pre ++ [t]).length by simp, ih (pre ++ [t]) _ (lists_snoc hl t),
      ← hassoc, mem_consForG_iff]
    constructor
    · rintro (h | ⟨i, s, hle, hi, hc⟩)
      · refine ⟨pre.length, t, Nat.le_refl _, by simp, ?_⟩
        refine h.imp_right (Or.imp_left ?_)
        rintro ⟨⟨j, a⟩, hm, h⟩
        have hj := (hl j a).1 hm
        have hlt := (List.getElem?_eq_some_iff.1 hj).1
        exact ⟨j, a, hlt, by rw [List.getElem?_append_left hlt]; exact hj, h⟩
      · exact ⟨i, s, by simp at hle; omega, hi, hc⟩
    · rintro ⟨i, s, hle, hi, hc⟩
      rcases Nat.eq_or_lt_of_le hle with rfl | hlt
      · left
        rw [List.getElem?_append_right (Nat.le_refl _), Nat.sub_self] at hi
        cases hi
        refine hc.imp_right (Or.imp_left ?_)
        rintro ⟨j, a, hj, ha, h⟩
        rw [List.getElem?_append_left hj] at ha
        exact ⟨(j, a), (hl j a).2 ha, h⟩
      · exact Or.inr ⟨i, s, by simp; omega, hi, hc⟩

theorem mem_genG_iff (g : GenP α) (segs : List α) (c : Cons) :
    c ∈ genG g segs ↔ ∃ i s, segs[i]? = some s ∧ ConsAt g segs i s c := by
  have := mem_genFromG_iff g c segs [] [] (fun j a => by simp)
  simpa [genG] using this

theorem sep_mem_genG (g : GenP α) (segs : List α) (j i : Nat) (a b : α)
    (hj : segs[j]? = some a) (hi : segs[i]? = some b) (hji : j < i)
    (hov : g.ov b a = true) (hfix : g.fixed b = false ∨ g.fixed a = false) :
    Cons.sep j i (g.gap a b).1 (g.gap a b).2 ∈ genG g segs :=
  (mem_genG_iff g segs _).2 ⟨i, b, hi, Or.inr (Or.inl ⟨j, a, hji, hj, hov, hfix, rfl⟩)⟩

theorem lower_mem_genG (g : GenP α) (segs : List α) (i : Nat) (s : α) (l : Rat)
    (hi : segs[i]? = some s) (hf : g.fixed s = false) (hm : g.lower s = some l) :
    Cons.lower i l ∈ genG g segs :=
  (mem_genG_iff g segs _).2 ⟨i, s, hi, Or.inl ⟨hf, l, hm, rfl⟩⟩

theorem upper_mem_genG (g : GenP α) (segs : List α) (i : Nat) (s : α) (u : Rat)
    (hi : segs[i]? = some s) (hf : g.fixed s = false) (hm : g.upper s = some u) :
    Cons.upper i u ∈ genG g segs :=
  (mem_genG_iff g segs _).2 ⟨i, s, hi, Or.inr (Or.inr ⟨hf, u, hm, rfl⟩)⟩

theorem genFrom_eq_genFromG (p : Params) : ∀ (segs : List Seg) (prev : List (Nat × Seg)) (i : Nat),
    genFrom p prev i segs = genFromG (absP p) prev i segs := by
  intro segs
  induction segs with
  | nil => intro prev i; rfl
  | cons s rest ih =>
    intro prev i
    unfold genFrom genFromG
    rw [ih]
    rfl

end AdaptaVerif.Lemmas.NudgeRegion

namespace AdaptaVerif.Lemmas.Nudge
open AdaptaVerif.Model.Nudge AdaptaVerif.Model.NudgeRegion AdaptaVerif.Lemmas.NudgeRegion

theorem genCons_eq (p : Params) (segs : List Seg) : genCons p segs = genG (absP p) segs :=
  genFrom_eq_genFromG p segs [] 0

end AdaptaVerif.Lemmas.Nudge
