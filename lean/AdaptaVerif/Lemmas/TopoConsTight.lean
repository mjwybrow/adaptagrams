/-
The StraightConstraint that stops the move phase of `TopologyConstraints::solve()` is tight at the
positions the move phase ends at, so the bend `StraightConstraint::satisfy` inserts (the corner
`c.ri` of the *moved* node) lies ON the *moved* segment, on the constraint's scan line, and the split
of the segment at that bend keeps every scan-line crossing of the leg.

All statements are for every axis number `d` (no `d < 2` needed: `cornerFor d` reads the node's
centre in the axis `moveCentre d` does not touch, and the facts used about the corner's position do
not depend on which node `cornerFor` looked at).
-/
import AdaptaVerif.Model.TopoCons
import AdaptaVerif.Lemmas.Tri
import AdaptaVerif.Lemmas.TopoConsGen
import AdaptaVerif.Lemmas.TopoConsRewrite
import Mathlib.Algebra.Order.Field.Rat
namespace AdaptaVerif.Lemmas.TopoConsTight
open AdaptaVerif.Model.TopoCons
open AdaptaVerif.Lemmas.TopoConsGen AdaptaVerif.Lemmas.TopoConsRewrite

theorem lo_movedTo (sg : Seg) (d : Nat) (x : Pos) : (sg.movedTo d x).lo d = sg.lo d := by
  unfold Seg.lo
  simp only [Seg.movedTo, pos_conj_movedTo]

theorem hi_movedTo (sg : Seg) (d : Nat) (x : Pos) : (sg.movedTo d x).hi d = sg.hi d := by
  unfold Seg.hi
  simp only [Seg.movedTo, pos_conj_movedTo]

theorem parallel_movedTo (sg : Seg) (d : Nat) (x : Pos) :
    (sg.movedTo d x).parallel d = sg.parallel d := by
  unfold Seg.parallel
  simp only [Seg.movedTo, pos_conj_movedTo]

theorem tight_bend_on_moved_segment {d : Nat} {sg : Seg} {n : Node} {pos : Rat} {c : SC}
    (h : createStraight d sg n pos = some c) (x : Pos) (htight : (triOf sg c).slackAt x = 0) :
    (⟨c.node.movedTo d x, c.ri⟩ : EPt).pos d = (sg.movedTo d x).inter d pos := by
  rw [slack_is_gap d sg n pos c h x] at htight
  obtain ⟨_, _, hn, _, _, hri, _⟩ := createStraight_some h
  rw [hri, hn, cornerFor_pos]
  exact facing_side_of_gap_zero htight

theorem tight_bend_on_scanline {d : Nat} {sg : Seg} {n : Node} {pos : Rat} {c : SC}
    (h : createStraight d sg n pos = some c) (x : Pos)
    (hev : pos = n.r.lo (conj d) ∨ pos = n.r.hi (conj d))
    (hrect : n.r.lo (conj d) < n.r.hi (conj d)) :
    (⟨c.node.movedTo d x, c.ri⟩ : EPt).pos (conj d) = pos := by
  obtain ⟨_, _, hn, _, _, hri, _⟩ := createStraight_some h
  refine (pos_conj_movedTo ⟨c.node, c.ri⟩ d x).trans ?_
  rw [hri, hn]
  exact cornerFor_pos_conj d n pos c.nodeLeft hev hrect

theorem tight_split_preserves_sides {d : Nat} {sg : Seg} {n : Node} {pos : Rat} {c : SC}
    (h : createStraight d sg n pos = some c) (x : Pos) (htight : (triOf sg c).slackAt x = 0)
    (hev : pos = n.r.lo (conj d) ∨ pos = n.r.hi (conj d))
    (hrect : n.r.lo (conj d) < n.r.hi (conj d))
    (hlo : sg.lo d ≤ pos) (hhi : pos ≤ sg.hi d) (c0 : Rat) :
    SplitKeeps ((sg.movedTo d x).s.pos d) ((sg.movedTo d x).s.pos (conj d))
      ((sg.movedTo d x).e.pos d) ((sg.movedTo d x).e.pos (conj d))
      ((⟨c.node.movedTo d x, c.ri⟩ : EPt).pos d) ((⟨c.node.movedTo d x, c.ri⟩ : EPt).pos (conj d))
      c0 := by
  obtain ⟨_, hpar, _⟩ := createStraight_some h
  exact splitKeeps_on_segment (sg := sg.movedTo d x) (by rw [parallel_movedTo]; exact hpar)
    (by rw [lo_movedTo]; exact hlo) (by rw [hi_movedTo]; exact hhi)
    (tight_bend_on_moved_segment h x htight) (tight_bend_on_scanline h x hev hrect) c0

section Step
open AdaptaVerif.Model.Tri AdaptaVerif.Spec.Tri AdaptaVerif.Lemmas.Tri

theorem tight_generated_preserves_sides {d : Nat} {bO bC : Node → Node → Bool} {nodes : List Node}
    {segs : List Seg} (hpos : ∀ n ∈ nodes, n.r.lo (conj d) < n.r.hi (conj d))
    {y : Seg × SC} (hy : y ∈ consClosed d bO bC nodes segs) (x : AdaptaVerif.Model.TopoCons.Pos)
    (htight : (triOf y.1 y.2).slackAt x = 0) :
    (⟨y.2.node.movedTo d x, y.2.ri⟩ : EPt).pos d = (y.1.movedTo d x).inter d y.2.pos ∧
    (⟨y.2.node.movedTo d x, y.2.ri⟩ : EPt).pos (conj d) = y.2.pos ∧
    ∀ c0 : Rat,
      SplitKeeps ((y.1.movedTo d x).s.pos d) ((y.1.movedTo d x).s.pos (conj d))
        ((y.1.movedTo d x).e.pos d) ((y.1.movedTo d x).e.pos (conj d))
        ((⟨y.2.node.movedTo d x, y.2.ri⟩ : EPt).pos d)
        ((⟨y.2.node.movedTo d x, y.2.ri⟩ : EPt).pos (conj d)) c0 := by
  obtain ⟨_, hn, _, _, hev, hlo, hhi, _, _, _, _, _, hcr⟩ :=
    generated_sound d bO bC nodes segs y hy
  have hrect := hpos _ hn
  exact ⟨tight_bend_on_moved_segment hcr x htight, tight_bend_on_scanline hcr x hev hrect,
    tight_split_preserves_sides hcr x htight hev hrect hlo hhi⟩

theorem solve_step_tight_generated_or_extra (d : Nat) (bO bC : Node → Node → Bool)
    (nodes : List Node) (segs : List Seg) (extra : List TriConstraint)
    (ini fin : AdaptaVerif.Model.Tri.Pos)
    (hpos : ∀ n ∈ nodes, n.r.lo (conj d) < n.r.hi (conj d))
    (hini : Feasible ((consClosed d bO bC nodes segs).map (fun x => triOf x.1 x.2) ++ extra) ini)
    (hlt : minAlpha ((consClosed d bO bC nodes segs).map (fun x => triOf x.1 x.2) ++ extra)
      ini fin < 1) :
    let cs := (consClosed d bO bC nodes segs).map (fun x => triOf x.1 x.2) ++ extra
    let x' := moveStep cs ini fin
    ∃ t ∈ cs, t.msa ini fin = minAlpha cs ini fin ∧ t.slackAt x' = 0 ∧
      (t ∈ extra ∨ ∃ y ∈ consClosed d bO bC nodes segs, t = triOf y.1 y.2 ∧
        (⟨y.2.node.movedTo d x', y.2.ri⟩ : EPt).pos d = (y.1.movedTo d x').inter d y.2.pos ∧
        (⟨y.2.node.movedTo d x', y.2.ri⟩ : EPt).pos (conj d) = y.2.pos ∧
        ∀ c0 : Rat,
          SplitKeeps ((y.1.movedTo d x').s.pos d) ((y.1.movedTo d x').s.pos (conj d))
            ((y.1.movedTo d x').e.pos d) ((y.1.movedTo d x').e.pos (conj d))
            ((⟨y.2.node.movedTo d x', y.2.ri⟩ : EPt).pos d)
            ((⟨y.2.node.movedTo d x', y.2.ri⟩ : EPt).pos (conj d)) c0) := by
  intro cs x'
  obtain ⟨t, ht, hmsa, hz⟩ := moveStep_stops_tight cs ini fin hini hlt
  refine ⟨t, ht, hmsa, hz, ?_⟩
  rcases List.mem_append.mp ht with hg | he
  · right
    obtain ⟨y, hy, rfl⟩ := List.mem_map.mp hg
    exact ⟨y, hy, rfl, tight_generated_preserves_sides hpos hy x' hz⟩
  · left; exact he

end Step

/-- construction positions (centres) of the three nodes of `exSt` (Lemmas/TopoConsRewrite) -/
def exPos : Pos := fun i => if i = 0 then 1 else if i = 1 then 9 else 21

-- hypotheses of `tight_bend_on_moved_segment`, `tight_bend_on_scanline`, `tight_split_preserves_sides`:
-- node 1 touches the segment centre(node 0) → centre(node 2) with its bottom right corner; the
-- constraint of its open event exists, is tight at the construction positions, the event position is
-- the node's low side, the node has positive height, the scan line is in the segment's range
example :
    createStraight 0 ⟨7, 0, ⟨exNode 0 0 0, 4⟩, ⟨exNode 2 20 20, 4⟩⟩ (exNode 1 8 10) 10 =
      some ⟨exNode 1 8 10, 1, 10, true, 9 / 20, -1⟩ ∧
    (triOf ⟨7, 0, ⟨exNode 0 0 0, 4⟩, ⟨exNode 2 20 20, 4⟩⟩
      ⟨exNode 1 8 10, 1, 10, true, 9 / 20, -1⟩).slackAt exPos = 0 ∧
    (10 : Rat) = (exNode 1 8 10).r.lo (conj 0) ∧
    (exNode 1 8 10).r.lo (conj 0) < (exNode 1 8 10).r.hi (conj 0) ∧
    (⟨7, 0, ⟨exNode 0 0 0, 4⟩, ⟨exNode 2 20 20, 4⟩⟩ : Seg).lo 0 ≤ 10 ∧
    (10 : Rat) ≤ (⟨7, 0, ⟨exNode 0 0 0, 4⟩, ⟨exNode 2 20 20, 4⟩⟩ : Seg).hi 0 := by
  refine ⟨by decide +kernel, by decide +kernel, by decide +kernel, by decide +kernel,
    by decide +kernel, by decide +kernel⟩

-- hypotheses of `solve_step_tight_generated_or_extra`: the control scene of Lemmas/TopoConsGen (node 2,
-- the segment's end, dragged to x = 100): feasible at the initial centres, the move is cut short
-- (minTAlpha = 6/13 < 1), nodes of positive height, no extra constraints - so the tight constraint is
-- a generated one
example :
    AdaptaVerif.Spec.Tri.Feasible
      ((consClosed 0 idLt idLt [w0, w1', w2] [wSg]).map (fun x => triOf x.1 x.2) ++ []) ctlIni ∧
    AdaptaVerif.Model.Tri.minAlpha
      ((consClosed 0 idLt idLt [w0, w1', w2] [wSg]).map (fun x => triOf x.1 x.2) ++ [])
      ctlIni ctlFin < 1 ∧
    (∀ n ∈ [w0, w1', w2], n.r.lo (conj 0) < n.r.hi (conj 0)) := by
  refine ⟨?_, by decide +kernel, by decide +kernel⟩
  unfold AdaptaVerif.Spec.Tri.Feasible
  decide +kernel

end AdaptaVerif.Lemmas.TopoConsTight
