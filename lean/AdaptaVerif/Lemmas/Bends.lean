/-
Lemmas for C05's estimator theorems (Props/C05.lean).  The code's `bends` depends on the two points only
through the signs of the displacement, so it is a finite table `tbl` over (sign dx, sign dy, currDir, destDir).
Read in the frame of the arrival heading (`f` ahead, `s` to the right) the table is the closed form
`frameBends`; admissibility is then an argument about approach paths with one to four legs, and
the estimator theorems follow.  The bound of `bends_admissible` is attained (`BendsTight.tight`): an explicit minimal
approach path is written down in coordinates relative to the arrival direction `dd` (`f` = how far `dest` lies ahead
along `dd`, `s` = how far to the right of it), following the nine pictures in the comment of `bends()`.
-/
import AdaptaVerif.Model.Bends
import AdaptaVerif.Spec.OrthPath
import Mathlib.Tactic.Linarith
import Mathlib.Tactic.Ring
import Mathlib.Tactic.LinearCombination
import Mathlib.Algebra.Order.Field.Rat
namespace AdaptaVerif.Spec.OrthPath.Dir
variable (d : Dir)
theorem right_left : d.right.left = d := by cases d <;> rfl
theorem left_right : d.left.right = d := by cases d <;> rfl
theorem left_left : d.left.left = d.rev := by cases d <;> rfl
theorem right_right : d.right.right = d.rev := by cases d <;> rfl
theorem rev_left : d.rev.left = d.right := by cases d <;> rfl
theorem rev_right : d.rev.right = d.left := by cases d <;> rfl
theorem left_rev : d.left.rev = d.right := by cases d <;> rfl
theorem right_rev : d.right.rev = d.left := by cases d <;> rfl
theorem right_ux : d.right.ux = -d.uy := by cases d <;> simp [Dir.right, Dir.ux, Dir.uy]
theorem right_uy : d.right.uy = d.ux := by cases d <;> simp [Dir.right, Dir.ux, Dir.uy]
theorem rev_ne : d.rev ≠ d := by cases d <;> decide
theorem right_ne : d.right ≠ d := by cases d <;> decide
theorem right_ne_rev : d.right ≠ d.rev := by cases d <;> decide
theorem left_ne : d.left ≠ d := by cases d <;> decide
theorem left_ne_rev : d.left ≠ d.rev := by cases d <;> decide
theorem left_ne_right : d.left ≠ d.right := by cases d <;> decide
theorem rel (c : Dir) : c = d ∨ c = d.rev ∨ c = d.right ∨ c = d.left := by cases d <;> cases c <;> decide
theorem norm_sq : d.ux * d.ux + d.uy * d.uy = 1 := by cases d <;> simp [Dir.ux, Dir.uy]
theorem mem_all : d ∈ all := by cases d <;> decide
end AdaptaVerif.Spec.OrthPath.Dir

theorem AdaptaVerif.Spec.OrthPath.perp_iff (cd dd : AdaptaVerif.Spec.OrthPath.Dir) :
    AdaptaVerif.Spec.OrthPath.Perp cd dd ↔ cd = dd.right ∨ cd = dd.left := by
  cases cd <;> cases dd <;> decide

namespace AdaptaVerif.Lemmas.Bends
open AdaptaVerif.Model.Bends AdaptaVerif.Spec.OrthPath
open AdaptaVerif.Model.Geometry (Pt)

/-- `bends` with the value of `orthogonalDirection(curr, dest)` abstracted -/
def bendsOd (c2d currDir destDir : Nat) : Option Nat :=
  if currDir = 0 then none
  else
    match dirReverse destDir, dirLeft destDir, dirRight destDir with
    | some reverseDestDir, some leftDestDir, some rightDestDir =>
      bendsChain currDir destDir c2d reverseDestDir
        (decide (currDir = leftDestDir) || decide (currDir = rightDestDir))
    | _, _, _ => none

theorem bends_eq (curr dest : Pt) (cd dd : Nat) :
    bends curr cd dest dd = bendsOd (orthogonalDirection curr dest) cd dd := rfl

/-- `orthogonalDirection` as a function of the signs of the displacement -/
def odOfSigns (sx sy : Int) : Nat :=
  (if sy > 0 then 0 ||| CostDirectionS else if sy < 0 then 0 ||| CostDirectionN else 0) |||
  (if sx > 0 then CostDirectionE else if sx < 0 then CostDirectionW else 0)

theorem dimDirection_of_neg {r : Rat} (h : r < 0) : dimDirection r = -1 := by
  unfold dimDirection; rw [if_neg (not_lt.2 h.le), if_pos h]
theorem dimDirection_of_pos {r : Rat} (h : 0 < r) : dimDirection r = 1 := if_pos h

theorem dimDirection_neg (r : Rat) : dimDirection (-r) = -dimDirection r := by
  rcases lt_trichotomy r 0 with h | rfl | h
  · rw [dimDirection_of_neg h, dimDirection_of_pos (neg_pos.2 h)]; rfl
  · rfl
  · rw [dimDirection_of_pos h, dimDirection_of_neg (neg_neg_of_pos h)]

theorem dimDirection_pos {r : Rat} : 0 < dimDirection r ↔ 0 < r := by
  unfold dimDirection
  split_ifs with h1 h2
  · exact iff_of_true Int.one_pos h1
  · exact iff_of_false (by decide) h1
  · exact iff_of_false (by decide) h1
theorem dimDirection_nonneg {r : Rat} : 0 ≤ dimDirection r ↔ 0 ≤ r := by
  unfold dimDirection
  split_ifs with h1 h2
  · exact iff_of_true (by decide) (le_of_lt h1)
  · exact iff_of_false (by decide) (not_le.2 h2)
  · exact iff_of_true (by decide) (not_lt.1 h2)
theorem dimDirection_lt_zero {r : Rat} : dimDirection r < 0 ↔ r < 0 := by
  unfold dimDirection
  split_ifs with h1 h2
  · exact iff_of_false (by decide) (not_lt.2 (le_of_lt h1))
  · exact iff_of_true (by decide) h2
  · exact iff_of_false (by decide) h2
theorem dimDirection_eq_zero {r : Rat} : dimDirection r = 0 ↔ r = 0 := by
  unfold dimDirection
  split_ifs with h1 h2
  · exact iff_of_false (by decide) (ne_of_gt h1)
  · exact iff_of_false (by decide) (ne_of_lt h2)
  · exact iff_of_true rfl (le_antisymm (not_lt.1 h1) (not_lt.1 h2))
theorem dimDirection_sub (a b : Rat) :
    dimDirection (b - a) = if a < b then 1 else if b < a then -1 else 0 := by
  unfold dimDirection
  simp only [gt_iff_lt, sub_pos, sub_neg]

theorem od_signs (a b : Pt) :
    orthogonalDirection a b = odOfSigns (dimDirection (b.x - a.x)) (dimDirection (b.y - a.y)) := by
  rw [dimDirection_sub, dimDirection_sub]
  unfold orthogonalDirection odOfSigns
  by_cases h1 : a.y < b.y <;> by_cases h2 : b.y < a.y <;> by_cases h3 : a.x < b.x <;> by_cases h4 : b.x < a.x <;>
    simp only [h1, h2, h3, h4, gt_iff_lt, if_true, if_false] <;> rfl

/-- the finite table: value of `bends` for given signs of (dx, dy) and single directions -/
def tbl (sx sy : Int) (cd dd : Dir) : Option Nat := bendsOd (odOfSigns sx sy) cd.mask dd.mask

theorem bends_tbl (curr dest : Pt) (cd dd : Dir) :
    bends curr cd.mask dest dd.mask =
      tbl (dimDirection (dest.x - curr.x)) (dimDirection (dest.y - curr.y)) cd dd := by
  rw [bends_eq, od_signs]; rfl

/-- "`o` is `some b` with `b ≤ k`" as a Boolean, so that one `decide` sweeps the table (`tbl_le4`) -/
def leOpt (o : Option Nat) (k : Nat) : Bool :=
  match o with
  | some b => decide (b ≤ k)
  | none => false

theorem leOpt_spec {o : Option Nat} {k : Nat} (h : leOpt o k = true) : ∃ b, o = some b ∧ b ≤ k := by
  cases o with
  | none => simp [leOpt] at h
  | some b => exact ⟨b, rfl, by simpa [leOpt] using h⟩

def signs : List Int := [-1, 0, 1]

/-- the table is total (the trailing `COLA_ASSERT(false)` is never reached) and bounded by 4 -/
theorem tbl_le4 : ∀ sx ∈ signs, ∀ sy ∈ signs, ∀ cd ∈ Dir.all, ∀ dd ∈ Dir.all,
    leOpt (tbl sx sy cd dd) 4 = true := by decide

theorem dimDirection_mem (r : Rat) : dimDirection r ∈ signs := by
  unfold dimDirection; split_ifs <;> decide

theorem bends_le4 (curr dest : Pt) (cd dd : Dir) :
    leOpt (bends curr cd.mask dest dd.mask) 4 = true := by
  rw [bends_tbl]
  exact tbl_le4 _ (dimDirection_mem _) _ (dimDirection_mem _) _ (Dir.mem_all _) _ (Dir.mem_all _)

theorem bends_isSome (curr dest : Pt) (cd dd : Dir) : ∃ b, bends curr cd.mask dest dd.mask = some b := by
  obtain ⟨b, hb, _⟩ := leOpt_spec (bends_le4 curr dest cd dd)
  exact ⟨b, hb⟩

/-- how far a displacement reaches ahead along `dd`, and how far to the right of it -/
def fwd (dd : Dir) (dx dy : Rat) : Rat := dx * dd.ux + dy * dd.uy
def lat (dd : Dir) (dx dy : Rat) : Rat := dx * dd.right.ux + dy * dd.right.uy

theorem frame_x (dd : Dir) (dx dy : Rat) : fwd dd dx dy * dd.ux - lat dd dx dy * dd.uy = dx := by
  unfold fwd lat; rw [Dir.right_ux, Dir.right_uy]; linear_combination dx * dd.norm_sq
theorem frame_y (dd : Dir) (dx dy : Rat) : fwd dd dx dy * dd.uy + lat dd dx dy * dd.ux = dy := by
  unfold fwd lat; rw [Dir.right_ux, Dir.right_uy]; linear_combination dy * dd.norm_sq

theorem fwd_add (dd : Dir) (a b c d : Rat) : fwd dd (a + b) (c + d) = fwd dd a c + fwd dd b d := by
  unfold fwd; ring
theorem fwd_smul (dd : Dir) (l x y : Rat) : fwd dd (l * x) (l * y) = l * fwd dd x y := by
  unfold fwd; ring
theorem fwd_zero (dd : Dir) : fwd dd 0 0 = 0 := by unfold fwd; ring
theorem lat_eq_fwd (dd : Dir) (x y : Rat) : lat dd x y = fwd dd.right x y := rfl
theorem fwd_self (d : Dir) : fwd d d.ux d.uy = 1 := d.norm_sq
theorem fwd_rev (d : Dir) : fwd d d.rev.ux d.rev.uy = -1 := by cases d <;> simp [fwd, Dir.ux, Dir.uy, Dir.rev]
theorem fwd_right (d : Dir) : fwd d d.right.ux d.right.uy = 0 := by cases d <;> simp [fwd, Dir.ux, Dir.uy, Dir.right]
theorem fwd_left (d : Dir) : fwd d d.left.ux d.left.uy = 0 := by cases d <;> simp [fwd, Dir.ux, Dir.uy, Dir.left]
theorem fwd_right_self (d : Dir) : fwd d.right d.ux d.uy = 0 := by cases d <;> simp [fwd, Dir.ux, Dir.uy, Dir.right]
theorem fwd_right_rev (d : Dir) : fwd d.right d.rev.ux d.rev.uy = 0 := by cases d <;> simp [fwd, Dir.ux, Dir.uy, Dir.right, Dir.rev]
theorem fwd_right_left (d : Dir) : fwd d.right d.left.ux d.left.uy = -1 := by cases d <;> simp [fwd, Dir.ux, Dir.uy, Dir.right, Dir.left]

/-- the value of `bends` in the frame of the arrival heading `dd`, as a function of the signs of `f` (how far
    `dest` lies ahead along `dd`) and `s` (how far to the right of it): the pictures in the comment of `bends()` -/
def frameBends (cd dd : Dir) (sf ss : Int) : Nat :=
  if cd = dd then
    if 0 ≤ sf then (if 0 < ss then 2 else if ss < 0 then 2 else 0) else 4
  else if cd = dd.rev then
    if 0 < ss then 2 else if ss < 0 then 2 else 4
  else if cd = dd.right then
    if ss < 0 then 3 else if sf < 0 then 3 else 1
  else
    if 0 < ss then 3 else if sf < 0 then 3 else 1

theorem fb_same (dd : Dir) (sf ss : Int) :
    frameBends dd dd sf ss = if 0 ≤ sf then (if 0 < ss then 2 else if ss < 0 then 2 else 0) else 4 := by
  unfold frameBends; rw [if_pos rfl]
theorem fb_rev (dd : Dir) (sf ss : Int) :
    frameBends dd.rev dd sf ss = if 0 < ss then 2 else if ss < 0 then 2 else 4 := by
  cases dd <;> rfl
theorem fb_right (dd : Dir) (sf ss : Int) :
    frameBends dd.right dd sf ss = if ss < 0 then 3 else if sf < 0 then 3 else 1 := by
  cases dd <;> rfl
theorem fb_left (dd : Dir) (sf ss : Int) :
    frameBends dd.left dd sf ss = if 0 < ss then 3 else if sf < 0 then 3 else 1 := by
  cases dd <;> rfl

theorem frameBends_le4 (cd dd : Dir) (sf ss : Int) : frameBends cd dd sf ss ≤ 4 := by
  rcases Dir.rel dd cd with rfl | rfl | rfl | rfl
  · rw [fb_same]; split_ifs <;> decide
  · rw [fb_rev]; split_ifs <;> decide
  · rw [fb_right]; split_ifs <;> decide
  · rw [fb_left]; split_ifs <;> decide

/-- sign of `fwd dd dx dy` from the signs of `dx`, `dy` -/
def fwdS : Dir → Int → Int → Int
  | .N, _, sy => -sy
  | .E, sx, _ => sx
  | .S, _, sy => sy
  | .W, sx, _ => -sx

theorem dimDirection_fwd (dd : Dir) (dx dy : Rat) :
    dimDirection (fwd dd dx dy) = fwdS dd (dimDirection dx) (dimDirection dy) := by
  cases dd <;> simp [fwd, fwdS, Dir.ux, Dir.uy, dimDirection_neg]

/-- the sign pair (0, 0) is `curr = dest`, where the code answers 2 for equal headings -/
theorem tbl_frame : ∀ sx ∈ signs, ∀ sy ∈ signs, (sx, sy) ≠ (0, 0) → ∀ cd ∈ Dir.all, ∀ dd ∈ Dir.all,
    tbl sx sy cd dd = some (frameBends cd dd (fwdS dd sx sy) (fwdS dd.right sx sy)) := by decide

theorem ne_disp {curr dest : Pt} (hne : curr ≠ dest) : ¬ (dest.x - curr.x = 0 ∧ dest.y - curr.y = 0) := by
  rintro ⟨hx, hy⟩
  apply hne
  cases curr; cases dest
  simp only [Pt.mk.injEq] at *
  constructor <;> linarith

theorem signs_ne_zero {a b : Pt} (hne : a ≠ b) :
    (dimDirection (b.x - a.x), dimDirection (b.y - a.y)) ≠ (0, 0) := by
  intro h
  simp only [Prod.mk.injEq, dimDirection_eq_zero] at h
  exact ne_disp hne h

theorem bends_frame {curr dest : Pt} (hne : curr ≠ dest) (cd dd : Dir) :
    bends curr cd.mask dest dd.mask = some (frameBends cd dd
      (dimDirection (fwd dd (dest.x - curr.x) (dest.y - curr.y)))
      (dimDirection (lat dd (dest.x - curr.x) (dest.y - curr.y)))) := by
  rw [bends_tbl, dimDirection_fwd, show lat dd = fwd dd.right from rfl, dimDirection_fwd]
  exact tbl_frame _ (dimDirection_mem _) _ (dimDirection_mem _) (signs_ne_zero hne) cd (Dir.mem_all _) dd (Dir.mem_all _)

variable {curr dest : Pt} in
/-- Legs alternate between along and across `dd`, so the number of legs fixes which the first heading is; what has
    to be excluded is: one leg unless `dest` is straight ahead, two legs unless both point towards `dest`, three legs
    when `dest` lies behind (`cd = dd`) or exactly in line (`cd = dd.rev`). -/
theorem frameBends_le (cd dd : Dir) (ls : List Leg) (h : IsApproach curr cd dest dd ls) :
    frameBends cd dd (dimDirection (fwd dd (dest.x - curr.x) (dest.y - curr.y)))
      (dimDirection (lat dd (dest.x - curr.x) (dest.y - curr.y))) ≤ bendsOf ls := by
  obtain ⟨hf, hl, hc, hn, hi, hx, hy⟩ := h
  rw [← hx, ← hy]
  rcases ls with _ | ⟨⟨d1, l1⟩, _ | ⟨⟨d2, l2⟩, _ | ⟨⟨d3, l3⟩, _ | ⟨⟨d4, l4⟩, _ | ⟨⟨d5, l5⟩, t⟩⟩⟩⟩⟩ <;>
    simp only [List.head?_nil, List.head?_cons, List.getLast?_cons_cons, List.getLast?_singleton, Option.map_some,
      Option.map_none, Option.some.injEq, reduceCtorEq, Chain, perp_iff, and_true, inner, List.tail_cons,
      List.dropLast_cons_cons, List.dropLast_singleton, List.dropLast_nil,
      List.mem_cons, List.mem_nil_iff, or_false, forall_eq_or_imp, forall_eq] at hf hl hc hn hi
  · -- one leg, `cd = dd`: f = l1 ≥ 0, s = 0
    subst hf; subst hl
    simp only [dispX, dispY, lat_eq_fwd, fwd_add, fwd_smul, fwd_zero, fwd_self, fwd_right_self, fb_same,
      dimDirection_nonneg, dimDirection_pos, dimDirection_lt_zero]
    split_ifs <;> first | exact Nat.zero_le _ | (exfalso; linarith)
  · -- two legs, `cd` = `dd.right` or `dd.left`: f = l2 ≥ 0, s = ±l1 on the side of `cd`
    subst hf; subst hl
    show frameBends _ _ _ _ ≤ 1
    rcases hc with rfl | rfl <;>
      simp only [dispX, dispY, lat_eq_fwd, fwd_add, fwd_smul, fwd_zero, fwd_self, fwd_right, fwd_left, fwd_right_self,
        fwd_right_left, fb_right, fb_left, dimDirection_pos, dimDirection_lt_zero] <;>
      split_ifs <;> first | exact Nat.le_refl _ | (exfalso; linarith [hn.1, hn.2])
  · -- three legs: `cd = dd` with f = l1 + l3 ≥ 0, or `cd = dd.rev` with s = ±l2 ≠ 0
    subst hf; subst hl
    show frameBends _ _ _ _ ≤ 2
    rcases hc.2 with rfl | rfl <;> rcases hc.1 with rfl | rfl <;>
      simp only [Dir.right_right, Dir.right_left, Dir.left_right, Dir.left_left, dispX, dispY, lat_eq_fwd, fwd_add,
        fwd_smul, fwd_zero, fwd_self, fwd_rev, fwd_right, fwd_left, fwd_right_self, fwd_right_rev, fwd_right_left,
        fb_same, fb_rev, dimDirection_nonneg, dimDirection_pos, dimDirection_lt_zero] <;>
      split_ifs <;> first | decide | (exfalso; linarith [hn.1, hn.2.2, hi])
  · -- four legs: `cd` is perpendicular to `dd`
    subst hf; subst hl
    show frameBends _ _ _ _ ≤ 3
    rcases hc.2.2 with rfl | rfl <;> rcases hc.2.1 with rfl | rfl <;> rcases hc.1 with rfl | rfl <;>
      simp only [Dir.right_right, Dir.right_left, Dir.left_right, Dir.left_left, Dir.rev_right, Dir.rev_left,
        fb_right, fb_left] <;>
      split_ifs <;> decide
  · exact le_trans (frameBends_le4 _ _ _ _) (by simp [bendsOf])

theorem admissible_exists (curr dest : Pt) (hne : curr ≠ dest) (cd dd : Dir) (ls : List Leg)
    (h : IsApproach curr cd dest dd ls) :
    ∃ b, bends curr cd.mask dest dd.mask = some b ∧ b ≤ bendsOf ls :=
  ⟨_, bends_frame hne cd dd, frameBends_le cd dd ls h⟩

theorem absR_nonneg (r : Rat) : 0 ≤ absR r := by unfold absR; split_ifs <;> linarith
theorem absR_add_le (a b : Rat) : absR (a + b) ≤ absR a + absR b := by
  unfold absR; split_ifs <;> linarith
theorem absR_neg (a : Rat) : absR (-a) = absR a := by
  unfold absR; split_ifs <;> linarith
theorem absR_zero_iff (a : Rat) : absR a = 0 ↔ a = 0 := by
  unfold absR; split_ifs <;> constructor <;> intro h <;> linarith

theorem absR_of_nonneg {r : Rat} (h : 0 ≤ r) : absR r = r := if_neg (not_lt.2 h)

theorem leg_abs (d : Dir) (l : Rat) (h : 0 ≤ l) : absR (l * d.ux) + absR (l * d.uy) = l := by
  cases d <;> simp only [Dir.ux, Dir.uy, mul_zero, mul_one, mul_neg, absR_neg, absR_of_nonneg h,
    absR_of_nonneg le_rfl, add_zero, zero_add]

theorem disp_le_totalLen (ls : List Leg) (hn : ∀ l ∈ ls, 0 ≤ l.len) :
    absR (dispX ls) + absR (dispY ls) ≤ totalLen ls := by
  induction ls with
  | nil => simp [dispX, dispY, totalLen, absR]
  | cons a t ih =>
    have h1 := ih (fun l hl => hn l (List.mem_cons_of_mem _ hl))
    have h2 := leg_abs a.dir a.len (hn a (by simp))
    have h3 := absR_add_le (a.len * a.dir.ux) (dispX t)
    have h4 := absR_add_le (a.len * a.dir.uy) (dispY t)
    simp only [dispX, dispY, totalLen]
    linarith

theorem manhattan_le (curr tar : Pt) (ls : List Leg) (hn : ∀ l ∈ ls, 0 ≤ l.len)
    (hx : dispX ls = tar.x - curr.x) (hy : dispY ls = tar.y - curr.y) :
    manhattanDist curr tar ≤ totalLen ls := by
  have h := disp_le_totalLen ls hn
  rw [hx, hy] at h
  unfold manhattanDist
  have e1 : curr.x - tar.x = -(tar.x - curr.x) := by linarith
  have e2 : curr.y - tar.y = -(tar.y - curr.y) := by linarith
  rw [e1, e2, absR_neg, absR_neg]
  exact h

theorem dist_pos {curr tar : Pt} (hne : curr ≠ tar) : manhattanDist curr tar > 0 := by
  unfold manhattanDist
  have h1 := absR_nonneg (curr.x - tar.x); have h2 := absR_nonneg (curr.y - tar.y)
  by_contra hc
  have hx : absR (curr.x - tar.x) = 0 := by linarith
  have hy : absR (curr.y - tar.y) = 0 := by linarith
  rw [absR_zero_iff] at hx hy
  exact ne_disp hne ⟨by linarith, by linarith⟩

theorem minStep_cases (bc dirs : Nat) (D : Dir) (curr tar : Pt) (cd : Dir) :
    ∃ r, minStep (some bc) dirs D.mask curr cd.mask tar = some r ∧ r ≤ bc ∧
      (dirs &&& D.mask ≠ 0 → ∃ b, bends curr cd.mask tar D.mask = some b ∧ r ≤ b) ∧
      (r = bc ∨ (dirs &&& D.mask ≠ 0 ∧ bends curr cd.mask tar D.mask = some r)) := by
  obtain ⟨b, hb⟩ := bends_isSome curr tar cd D
  unfold minStep
  dsimp only
  by_cases hm : dirs &&& D.mask ≠ 0
  · rw [if_pos hm, hb]
    refine ⟨min bc b, rfl, Nat.min_le_left _ _, fun _ => ⟨b, rfl, Nat.min_le_right _ _⟩, ?_⟩
    rcases Nat.le_total bc b with h | h
    · left; exact Nat.min_eq_left h
    · right; refine ⟨hm, ?_⟩; rw [Nat.min_eq_right h]
  · rw [if_neg hm]
    exact ⟨bc, rfl, Nat.le_refl _, fun h => absurd h hm, Or.inl rfl⟩

theorem minSteps_char (dirs : Nat) (curr tar : Pt) (cd : Dir) (L : List Dir) (bc : Nat) :
    ∃ r, L.foldl (fun acc D => minStep acc dirs D.mask curr cd.mask tar) (some bc) = some r ∧ r ≤ bc ∧
      (∀ D ∈ L, dirs &&& D.mask ≠ 0 → ∃ b, bends curr cd.mask tar D.mask = some b ∧ r ≤ b) ∧
      (r = bc ∨ ∃ D ∈ L, dirs &&& D.mask ≠ 0 ∧ bends curr cd.mask tar D.mask = some r) := by
  induction L generalizing bc with
  | nil => exact ⟨bc, rfl, le_rfl, fun _ h => (nomatch h), Or.inl rfl⟩
  | cons D L ih =>
    obtain ⟨r1, e1, l1, f1, c1⟩ := minStep_cases bc dirs D curr tar cd
    obtain ⟨r, e, l, f, c⟩ := ih r1
    refine ⟨r, by rw [List.foldl_cons, e1, e], l.trans l1, ?_, ?_⟩
    · intro D' hD' hen
      rcases List.mem_cons.1 hD' with rfl | h
      · obtain ⟨b, hb, hle⟩ := f1 hen
        exact ⟨b, hb, l.trans hle⟩
      · exact f D' h hen
    · rcases c with rfl | ⟨D', h, hen, hb⟩
      · exact c1.imp id fun ⟨hen, hb⟩ => ⟨D, List.mem_cons_self .., hen, hb⟩
      · exact Or.inr ⟨D', List.mem_cons_of_mem _ h, hen, hb⟩

theorem bendCount_char (last curr tar : Pt) (cd : Dir) (hdir : orthogonalDirection last curr = cd.mask)
    (dirs : Nat) (hne : curr ≠ tar) :
    ∃ r, bendCount (some last) curr tar dirs = some r ∧ r ≤ 10 ∧
      (∀ dd : Dir, dirs &&& dd.mask ≠ 0 → ∃ b, bends curr cd.mask tar dd.mask = some b ∧ r ≤ b) ∧
      (r = 10 ∨ ∃ dd : Dir, dirs &&& dd.mask ≠ 0 ∧ bends curr cd.mask tar dd.mask = some r) := by
  have hsingle : cd.mask > 0 ∧ orthogonalDirectionsCount cd.mask = 1 := by cases cd <;> decide
  obtain ⟨r, e, l, f, c⟩ := minSteps_char dirs curr tar cd Dir.all 10
  refine ⟨r, ?_, l, fun dd => f dd (Dir.mem_all dd), c.imp id fun ⟨D, _, h⟩ => ⟨D, h⟩⟩
  unfold bendCount
  simp only [dist_pos hne, if_true, hdir, hsingle, and_self]
  exact e

theorem pathCost_mono (pen : Rat) (hpen : 0 ≤ pen) (d : Rat) (r : Nat) (ls : List Leg)
    (hd : d ≤ totalLen ls) (hr : r ≤ bendsOf ls) : d + (r : Rat) * pen ≤ pathCost pen ls := by
  unfold pathCost
  have : (r : Rat) ≤ (bendsOf ls : Rat) := by exact_mod_cast hr
  have := mul_le_mul_of_nonneg_right this hpen
  linarith

theorem estimate_of_bendCount {last : Option Pt} {curr tar : Pt} {dirs : Nat} {pen : Rat} (hpen : 0 < pen)
    {r : Nat} (h : bendCount last curr tar dirs = some r) :
    estimatedCostSpecific last curr tar dirs pen = some (manhattanDist curr tar + (r : Rat) * pen) := by
  unfold estimatedCostSpecific
  simp [hpen, h]

theorem bendCount_start (curr tar : Pt) (dirs : Nat) :
    bendCount none curr tar dirs = some (if tar.x - curr.x ≠ 0 ∧ tar.y - curr.y ≠ 0 then 1 else 0) := by
  unfold bendCount
  dsimp only
  split_ifs <;> rfl

theorem bendCount_self (last curr : Pt) (dirs : Nat) : bendCount (some last) curr curr dirs = some 0 := by
  have hd0 : manhattanDist curr curr = 0 := by unfold manhattanDist; simp [absR]
  unfold bendCount
  simp [hd0]

theorem bendCount_noheading {last curr : Pt} (tar : Pt) (dirs : Nat)
    (hno : ¬ (orthogonalDirection last curr > 0 ∧
      orthogonalDirectionsCount (orthogonalDirection last curr) = 1)) :
    bendCount (some last) curr tar dirs = some 0 := by
  unfold bendCount
  simp only [hno, if_false]
  split_ifs <;> rfl

theorem estimate_le_of_bendCount {last : Option Pt} {curr tar : Pt} {cd dd : Dir} {dirs : Nat} {pen : Rat}
    (hpen : 0 < pen) {ls : List Leg} (h : IsApproach curr cd tar dd ls) {r : Nat}
    (hb : bendCount last curr tar dirs = some r) (hr : r ≤ bendsOf ls) :
    ∃ e, estimatedCostSpecific last curr tar dirs pen = some e ∧ e ≤ pathCost pen ls :=
  ⟨_, estimate_of_bendCount hpen hb,
    pathCost_mono pen (le_of_lt hpen) _ r ls (manhattan_le curr tar ls h.nonneg h.dx h.dy) hr⟩

theorem estimate_le_heading (last curr tar : Pt) (cd : Dir)
    (hdir : orthogonalDirection last curr = cd.mask) (dirs : Nat) (pen : Rat) (hpen : 0 < pen)
    (dd : Dir) (hdd : dirs &&& dd.mask ≠ 0) (ls : List Leg) (h : IsApproach curr cd tar dd ls) :
    ∃ e, estimatedCostSpecific (some last) curr tar dirs pen = some e ∧ e ≤ pathCost pen ls := by
  by_cases hne : curr = tar
  · subst hne
    exact estimate_le_of_bendCount hpen h (bendCount_self last curr dirs) (Nat.zero_le _)
  · obtain ⟨r, hbc, -, hle, -⟩ := bendCount_char last curr tar cd hdir dirs hne
    obtain ⟨b, hb, hrb⟩ := hle dd hdd
    obtain ⟨b', hb', hle⟩ := admissible_exists curr tar hne cd dd ls h
    rw [hb] at hb'; cases hb'
    exact estimate_le_of_bendCount hpen h hbc (le_trans hrb hle)

/-- a path with a single leg moves along one axis only -/
theorem free_two_legs (curr tar : Pt) (ls : List Leg) (h : IsFreeStart curr tar ls)
    (hx : tar.x - curr.x ≠ 0) (hy : tar.y - curr.y ≠ 0) : 1 ≤ bendsOf ls := by
  obtain ⟨cd, dd, hf, _, _, _, _, hdx, hdy⟩ := h
  rcases ls with _ | ⟨⟨d1, l1⟩, _ | ⟨b, t⟩⟩
  · simp at hf
  · exfalso
    simp only [dispX, dispY, add_zero] at hdx hdy
    cases d1 <;> simp only [Dir.ux, Dir.uy, mul_zero] at hdx hdy
    · exact hx hdx.symm
    · exact hy hdy.symm
    · exact hx hdx.symm
    · exact hy hdy.symm
  · simp [bendsOf]

/-- start node of the search (`last == nullptr`): heading free -/
theorem estimate_le_start (curr tar : Pt) (dirs : Nat) (pen : Rat) (hpen : 0 < pen)
    (ls : List Leg) (h : IsFreeStart curr tar ls) :
    ∃ e, estimatedCostSpecific none curr tar dirs pen = some e ∧ e ≤ pathCost pen ls := by
  obtain ⟨cd, dd, ha⟩ := h
  refine estimate_le_of_bendCount hpen ha (bendCount_start curr tar dirs) ?_
  split_ifs with hxy
  · exact free_two_legs curr tar ls ⟨cd, dd, ha⟩ hxy.1 hxy.2
  · exact Nat.zero_le _

/-- no usable heading (`last == curr`, or the previous hop was not axis-parallel): only the
    Manhattan distance is charged -/
theorem estimate_le_noheading (last curr tar : Pt) (dirs : Nat) (pen : Rat) (hpen : 0 < pen)
    (hno : ¬ (orthogonalDirection last curr > 0 ∧
      orthogonalDirectionsCount (orthogonalDirection last curr) = 1))
    (ls : List Leg) (h : IsFreeStart curr tar ls) :
    ∃ e, estimatedCostSpecific (some last) curr tar dirs pen = some e ∧ e ≤ pathCost pen ls := by
  obtain ⟨cd, dd, ha⟩ := h
  exact estimate_le_of_bendCount hpen ha (bendCount_noheading tar dirs hno) (Nat.zero_le _)

end AdaptaVerif.Lemmas.Bends

namespace AdaptaVerif.Lemmas.BendsTight
open AdaptaVerif.Model.Bends AdaptaVerif.Spec.OrthPath AdaptaVerif.Lemmas.Bends
open AdaptaVerif.Model.Geometry (Pt)

/-! Approach paths with concrete legs are checked by evaluation: the two instances serve the `decide +kernel` on `IsApproach` in
Props/C05.  In `decChain` the instance for the tail is the function being defined, which instance search does not see yet;
hence the explicit `@instDecidableAnd`. -/

instance decChain : (ls : List Leg) → Decidable (Chain ls)
  | [] | [_] => isTrue trivial
  | _ :: b :: t => @instDecidableAnd _ _ _ (decChain (b :: t))

instance (curr : Pt) (cd : Dir) (dest : Pt) (dd : Dir) (ls : List Leg) : Decidable (IsApproach curr cd dest dd ls) :=
  decidable_of_iff ((ls.head?).map Leg.dir = some cd ∧ (ls.getLast?).map Leg.dir = some dd ∧ Chain ls ∧
      (∀ l ∈ ls, 0 ≤ l.len) ∧ (∀ l ∈ inner ls, 0 < l.len) ∧ dispX ls = dest.x - curr.x ∧ dispY ls = dest.y - curr.y)
    ⟨fun ⟨a, b, c, d, e, f, g⟩ => ⟨a, b, c, d, e, f, g⟩, fun ⟨a, b, c, d, e, f, g⟩ => ⟨a, b, c, d, e, f, g⟩⟩

/-- a minimal approach path for heading `cd`, arrival heading `dd`, displacement (f ahead, s to the right) -/
def witness (cd dd : Dir) (f s : Rat) : List Leg :=
  if cd = dd then
    if 0 ≤ f then
      if 0 < s then [⟨dd, f⟩, ⟨dd.right, s⟩, ⟨dd, 0⟩]
      else if s < 0 then [⟨dd, f⟩, ⟨dd.left, -s⟩, ⟨dd, 0⟩]
      else [⟨dd, f⟩]
    else if 0 ≤ s then [⟨dd, 0⟩, ⟨dd.left, 1⟩, ⟨dd.rev, -f⟩, ⟨dd.right, 1 + s⟩, ⟨dd, 0⟩]
    else [⟨dd, 0⟩, ⟨dd.right, 1⟩, ⟨dd.rev, -f⟩, ⟨dd.left, 1 - s⟩, ⟨dd, 0⟩]
  else if cd = dd.rev then
    if 0 < s then
      if 0 ≤ f then [⟨cd, 0⟩, ⟨dd.right, s⟩, ⟨dd, f⟩] else [⟨cd, -f⟩, ⟨dd.right, s⟩, ⟨dd, 0⟩]
    else if s < 0 then
      if 0 ≤ f then [⟨cd, 0⟩, ⟨dd.left, -s⟩, ⟨dd, f⟩] else [⟨cd, -f⟩, ⟨dd.left, -s⟩, ⟨dd, 0⟩]
    else
      if 0 < f then [⟨cd, 0⟩, ⟨dd.left, 1⟩, ⟨dd, f⟩, ⟨dd.right, 1⟩, ⟨dd, 0⟩]
      else [⟨cd, 1 - f⟩, ⟨dd.left, 1⟩, ⟨dd, 1⟩, ⟨dd.right, 1⟩, ⟨dd, 0⟩]
  else
    let t := if cd = dd.right then s else -s
    if t < 0 then
      if 0 < f then [⟨cd, 0⟩, ⟨dd, f⟩, ⟨cd.rev, -t⟩, ⟨dd, 0⟩]
      else [⟨cd, 0⟩, ⟨dd.rev, 1 - f⟩, ⟨cd.rev, -t⟩, ⟨dd, 1⟩]
    else if f < 0 then
      if 0 < t then [⟨cd, 0⟩, ⟨dd.rev, -f⟩, ⟨cd, t⟩, ⟨dd, 0⟩]
      else [⟨cd, 1⟩, ⟨dd.rev, -f⟩, ⟨cd.rev, 1⟩, ⟨dd, 0⟩]
    else [⟨cd, t⟩, ⟨dd, f⟩]

variable {curr dest : Pt}

theorem isApproach_frame {cd dd : Dir} {ls : List Leg} {f s : Rat}
    (h1 : (ls.head?).map Leg.dir = some cd) (h2 : (ls.getLast?).map Leg.dir = some dd) (hc : Chain ls)
    (hn : ∀ l ∈ ls, 0 ≤ l.len) (hi : ∀ l ∈ inner ls, 0 < l.len)
    (hF : fwd dd (dispX ls) (dispY ls) = f ∧ lat dd (dispX ls) (dispY ls) = s)
    (hx : f * dd.ux - s * dd.uy = dest.x - curr.x) (hy : f * dd.uy + s * dd.ux = dest.y - curr.y) :
    IsApproach curr cd dest dd ls :=
  ⟨h1, h2, hc, hn, hi, by rw [← hx, ← hF.1, ← hF.2, frame_x], by rw [← hy, ← hF.1, ← hF.2, frame_y]⟩

theorem witness_isApproach (cd dd : Dir) (f s : Rat)
    (hx : f * dd.ux - s * dd.uy = dest.x - curr.x) (hy : f * dd.uy + s * dd.ux = dest.y - curr.y) :
    IsApproach curr cd dest dd (witness cd dd f s) := by
  rcases Dir.rel dd cd with rfl | rfl | rfl | rfl <;>
    simp only [witness, Dir.rev_ne, Dir.right_ne, Dir.right_ne_rev, Dir.left_ne, Dir.left_ne_rev, Dir.left_ne_right,
      if_true, if_false, Dir.right_rev, Dir.left_rev] <;>
    split_ifs <;>
    refine isApproach_frame rfl rfl
      -- quarter turns
      (by simp only [Chain, Perp, Dir.right_left, Dir.left_right, Dir.left_left, Dir.right_right, Dir.rev_left, Dir.rev_right,
            true_or, or_true, and_self])
      -- all legs ≥ 0, inner legs > 0: from the conditions of the branch
      (by simp only [List.mem_cons, List.mem_nil_iff, or_false, forall_eq_or_imp, forall_eq]; and_intros <;> linarith)
      (by simp only [inner, List.tail_cons, List.dropLast_cons_cons, List.dropLast_singleton, List.dropLast_nil,
            List.mem_cons, List.mem_nil_iff, or_false, forall_eq_or_imp, forall_eq, false_imp_iff, implies_true] <;>
          and_intros <;> linarith)
      -- the legs add up to `(f, s)`
      (by simp only [dispX, dispY, lat_eq_fwd, fwd_add, fwd_smul, fwd_zero, fwd_self, fwd_rev, fwd_right, fwd_left,
            fwd_right_self, fwd_right_rev, fwd_right_left]; and_intros <;> linarith) hx hy

theorem bendsOf_witness (cd dd : Dir) (f s : Rat) :
    bendsOf (witness cd dd f s) = frameBends cd dd (dimDirection f) (dimDirection s) := by
  rcases Dir.rel dd cd with rfl | rfl | rfl | rfl <;>
    simp only [witness, frameBends, Dir.rev_ne, Dir.right_ne, Dir.right_ne_rev, Dir.left_ne, Dir.left_ne_rev,
      Dir.left_ne_right, if_true, if_false, dimDirection_nonneg, dimDirection_pos, dimDirection_lt_zero,
      Left.neg_neg_iff] <;>
    split_ifs <;> rfl

theorem tight (curr dest : Pt) (hne : curr ≠ dest) (cd dd : Dir) :
    ∃ ls, IsApproach curr cd dest dd ls ∧ bends curr cd.mask dest dd.mask = some (bendsOf ls) := by
  refine ⟨witness cd dd (fwd dd (dest.x - curr.x) (dest.y - curr.y)) (lat dd (dest.x - curr.x) (dest.y - curr.y)),
    witness_isApproach cd dd _ _ (frame_x dd _ _) (frame_y dd _ _), ?_⟩
  rw [bendsOf_witness]
  exact bends_frame hne cd dd

end AdaptaVerif.Lemmas.BendsTight
