/-
The loop of the A* model (`Model/AStar.lean`, part 1) and its soundness.  `search_inv` is the invariant rule
of the loop; soundness here, optimality (`AStarOpt`), totality (`AStarTotal`) and the no-route lemma
(`AStarPinsNoPath`) each supply an invariant to it.
Soundness: when `search` returns `.found b done`, the node `b` is at the target vertex, it is the last DONE
entry, and its `prevNode` chain (`pathOf`) is a path of the problem's state graph from the start node whose
accumulated cost is `b.g`.
-/
import AdaptaVerif.Lemmas.AStarSpec
namespace AdaptaVerif.Lemmas.AStarSound
open AdaptaVerif.Model.AStar AdaptaVerif.Lemmas.AStarSpec

theorem extractBest_none (eps : Rat) (l : List Node) (h : extractBest eps l = none) : l = [] := by
  fun_induction extractBest eps l with
  | case1 => rfl
  | case2 | case3 | case4 => cases h

theorem extractBest_cons {eps : Rat} {x : Node} {xs : List Node} {b : Node} {rest : List Node}
    (h : extractBest eps (x :: xs) = some (b, rest)) :
    (xs = [] ∧ b = x ∧ rest = []) ∨
    ∃ b' r', extractBest eps xs = some (b', r') ∧
      ((worse eps x b' = true ∧ b = b' ∧ rest = x :: r') ∨ (worse eps x b' = false ∧ b = x ∧ rest = xs)) := by
  unfold extractBest at h
  cases hx : extractBest eps xs with
  | none =>
    rw [hx] at h
    obtain ⟨rfl, rfl⟩ := Prod.mk.inj (Option.some.inj h)
    exact Or.inl ⟨extractBest_none eps xs hx, rfl, rfl⟩
  | some p =>
    obtain ⟨b', r'⟩ := p
    rw [hx] at h
    refine Or.inr ⟨b', r', rfl, ?_⟩
    simp only at h
    split at h
    · rename_i hw
      obtain ⟨rfl, rfl⟩ := Prod.mk.inj (Option.some.inj h)
      exact Or.inl ⟨hw, rfl, rfl⟩
    · rename_i hw
      obtain ⟨rfl, rfl⟩ := Prod.mk.inj (Option.some.inj h)
      exact Or.inr ⟨by simpa using hw, rfl, rfl⟩

theorem extractBest_perm (eps : Rat) : ∀ (l : List Node) (b : Node) (rest : List Node),
    extractBest eps l = some (b, rest) → List.Perm l (b :: rest) := by
  intro l
  induction l with
  | nil => intro b rest h; simp [extractBest] at h
  | cons x xs ih =>
    intro b rest h
    rcases extractBest_cons h with ⟨rfl, rfl, rfl⟩ | ⟨b', r', hx, ⟨_, rfl, rfl⟩ | ⟨_, rfl, rfl⟩⟩
    · exact List.Perm.refl _
    · exact (List.Perm.cons x (ih _ _ hx)).trans (List.Perm.swap _ _ _)
    · exact List.Perm.refl _

theorem extractBest_mem (eps : Rat) (l : List Node) (b : Node) (rest : List Node)
    (h : extractBest eps l = some (b, rest)) (n : Node) : n ∈ l ↔ n = b ∨ n ∈ rest :=
  (extractBest_perm eps l b rest h).mem_iff.trans List.mem_cons

theorem sameKey_iff (a b : Node) : sameKey a b = true ↔ a.v = b.v ∧ a.pv = b.pv := by
  simp [sameKey]

theorem updPending_some (node : Node) (l p : List Node) (h : updPending node l = some p) :
    ∃ pre a post, l = pre ++ a :: post ∧ sameKey node a = true ∧
      p = pre ++ (if node.g < a.g then node else a) :: post := by
  fun_induction updPending node l generalizing p with
  | case1 => cases h
  | case2 a rest hk => exact ⟨[], a, rest, rfl, hk, by rw [← Option.some.inj h]; split <;> rfl⟩
  | case3 a rest hk ih =>
    obtain ⟨q, hq, rfl⟩ := Option.map_eq_some_iff.1 h
    obtain ⟨pre, a', post, rfl, hk', rfl⟩ := ih q hq
    exact ⟨a :: pre, a', post, rfl, hk', rfl⟩

theorem updPending_mem (node : Node) (l p : List Node) (h : updPending node l = some p) :
    ∀ n ∈ p, n ∈ l ∨ n = node := by
  obtain ⟨pre, a, post, rfl, _, rfl⟩ := updPending_some node l p h
  intro n hn
  simp only [List.mem_append, List.mem_cons] at hn ⊢
  rcases hn with hn | hn | hn
  · exact Or.inl (Or.inl hn)
  · split at hn
    · exact Or.inr hn
    · exact Or.inl (Or.inr (Or.inl hn))
  · exact Or.inl (Or.inr (Or.inr hn))

theorem relax_done (best : Node) (bi : Nat) (st : St) (e : Option Succ) :
    (relax best bi st e).done = st.done := by
  unfold relax
  cases e with
  | none => rfl
  | some s =>
    simp only
    split
    · rfl
    · split <;> rfl

theorem relax_pending_mem (best : Node) (bi : Nat) (st : St) (e : Option Succ) :
    ∀ n ∈ (relax best bi st e).pending, n ∈ st.pending ∨
      ∃ s, e = some s ∧ n = { v := s.w, pv := some best.v, prev := some bi, g := best.g + s.c,
                              h := s.h, ts := st.time } := by
  intro n hn
  unfold relax at hn
  cases e with
  | none => exact Or.inl hn
  | some s =>
    simp only at hn
    split at hn
    · rename_i p hp
      rcases updPending_mem _ _ _ hp n hn with h1 | h1
      · exact Or.inl h1
      · exact Or.inr ⟨s, rfl, h1⟩
    · split at hn
      · exact Or.inl hn
      · simp only [List.mem_append, List.mem_singleton] at hn
        rcases hn with h1 | h1
        · exact Or.inl h1
        · exact Or.inr ⟨s, rfl, h1⟩

theorem foldl_relax_done (b : Node) (bi : Nat) (todo : List (Option Succ)) (st : St) :
    (todo.foldl (relax b bi) st).done = st.done :=
  List.foldlRecOn (motive := fun s => s.done = st.done) todo _ rfl fun s h e _ => (relax_done b bi s e).trans h

/-- the state after the iteration that pops the non-target node `b`, `rest` being the other PENDING nodes -/
def expand (P : Problem) (st : St) (b : Node) (rest : List Node) : St :=
  (P.succs b.pv b.v).foldl (relax b st.done.length)
    { pending := rest, done := st.done ++ [b], time := st.time }

theorem expand_done (P : Problem) (st : St) (b : Node) (rest : List Node) :
    (expand P st b rest).done = st.done ++ [b] :=
  foldl_relax_done _ _ _ _

theorem expand_pending_mem (P : Problem) (st : St) (b : Node) (rest : List Node) :
    ∀ n ∈ (expand P st b rest).pending, n ∈ rest ∨ ∃ s t, some s ∈ P.succs b.pv b.v ∧
      n = { v := s.w, pv := some b.v, prev := some st.done.length, g := b.g + s.c, h := s.h, ts := t } := by
  refine List.foldlRecOn (motive := fun x => ∀ n ∈ x.pending, n ∈ rest ∨ ∃ s t,
    some s ∈ P.succs b.pv b.v ∧
      n = { v := s.w, pv := some b.v, prev := some st.done.length, g := b.g + s.c, h := s.h, ts := t })
    _ (relax b st.done.length) ?_ ?_
  · exact fun n hn => Or.inl hn
  · intro x h e he n hn
    rcases relax_pending_mem b _ x e n hn with h1 | ⟨s, rfl, h1⟩
    · exact h n h1
    · exact Or.inr ⟨s, x.time, he, h1⟩

theorem search_inv (P : Problem) (I : St → Prop)
    (hI : ∀ st b rest, I st → extractBest P.eps st.pending = some (b, rest) → b.v ≠ P.tar →
      I (expand P st b rest)) (fuel : Nat) (st : St) (h : I st) :
      match search P fuel st with
      | .found b done => ∃ st' rest, I st' ∧ extractBest P.eps st'.pending = some (b, rest) ∧
          b.v = P.tar ∧ done = st'.done ++ [b]
      | .noPath => True
      | .outOfFuel => ∃ st', I st' ∧ st'.done.length = st.done.length + fuel := by
  fun_induction search P fuel st with
  | case1 st => exact ⟨st, h, rfl⟩
  | case2 => trivial
  | case3 fuel st b rest hx bi hbt => exact ⟨st, rest, h, hx, hbt, rfl⟩
  | case4 fuel st b rest hx bi st1 hbt ih =>
    have := ih (hI st b rest h hx hbt)
    rw [foldl_relax_done, show st1.done.length + fuel = st.done.length + (fuel + 1) by
      simp only [st1, List.length_append, List.length_singleton]; omega] at this
    exact this

/-- node `n` is the start node, or it was built by `relax` from the DONE entry `done[j]` (`j < i`)
    along an examined edge -/
def Just (P : Problem) (done : List Node) (i : Nat) (n : Node) : Prop :=
  (n.prev = none ∧ n.v = P.src ∧ n.pv = none ∧ n.g = 0) ∨
  (∃ j p s, n.prev = some j ∧ j < i ∧ done[j]? = some p ∧ n.pv = some p.v ∧
      some s ∈ P.succs p.pv p.v ∧ s.w = n.v ∧ n.g = p.g + s.c)

theorem Just.mono {P : Problem} {done : List Node} {i : Nat} {n : Node} (h : Just P done i n)
    (ext : List Node) (i' : Nat) (hi : i ≤ i') : Just P (done ++ ext) i' n := by
  rcases h with h | ⟨j, p, s, h1, h2, h3, h4⟩
  · exact Or.inl h
  · refine Or.inr ⟨j, p, s, h1, by omega, ?_, h4⟩
    have hj : j < done.length := by
      rcases Nat.lt_or_ge j done.length with h | h
      · exact h
      · rw [List.getElem?_eq_none h] at h3; simp at h3
    rw [List.getElem?_append_left hj]; exact h3

/-- the invariant: a DONE entry is justified by earlier DONE entries, a PENDING node by DONE entries -/
structure S (P : Problem) (st : St) : Prop where
  dn : ∀ i n, st.done[i]? = some n → Just P st.done i n
  pd : ∀ n ∈ st.pending, Just P st.done st.done.length n

theorem S_init (P : Problem) : S P (init P) := by
  constructor
  · intro i n h; simp [init] at h
  · intro n hn
    simp only [init, List.mem_singleton] at hn
    subst hn
    exact Or.inl ⟨rfl, rfl, rfl, rfl⟩

theorem S_pop {P : Problem} {st : St} {b : Node} {rest : List Node} (hS : S P st)
    (hx : extractBest P.eps st.pending = some (b, rest)) :
    S P { pending := rest, done := st.done ++ [b], time := st.time } := by
  have hmem := extractBest_mem _ _ _ _ hx
  constructor
  · intro i n hi
    rcases Nat.lt_or_ge i st.done.length with hlt | hge
    · rw [List.getElem?_append_left hlt] at hi
      exact (hS.dn i n hi).mono _ _ (Nat.le_refl _)
    · have hlen : i < (st.done ++ [b]).length := (List.getElem?_eq_some_iff.1 hi).1
      rw [List.length_append, List.length_singleton] at hlen
      obtain rfl : i = st.done.length := by omega
      rw [List.getElem?_concat_length, Option.some.injEq] at hi
      subst hi
      exact (hS.pd b ((hmem b).2 (Or.inl rfl))).mono _ _ (Nat.le_refl _)
  · intro n hn
    exact (hS.pd n ((hmem n).2 (Or.inr hn))).mono _ _ (by simp)

theorem S_expand {P : Problem} {st : St} {b : Node} {rest : List Node} (hS : S P st)
    (hx : extractBest P.eps st.pending = some (b, rest)) : S P (expand P st b rest) := by
  have hp := S_pop hS hx
  constructor
  · rw [expand_done]; exact hp.dn
  · rw [expand_done]
    intro n hn
    rcases expand_pending_mem P st b rest n hn with h | ⟨s, t, hs, rfl⟩
    · exact hp.pd n h
    · exact Or.inr ⟨st.done.length, b, s, rfl, by simp, by simp, rfl, hs, rfl, rfl⟩

theorem reach_of_just (P : Problem) (done : List Node)
    (hdn : ∀ i n, done[i]? = some n → Just P done i n) :
    ∀ (i : Nat) (n : Node), Just P done i n → ∀ k, i ≤ k →
      Reach P n.v n.pv n.g (pathOf done k n) := by
  intro i
  induction i using Nat.strongRecOn with
  | _ i ih =>
    intro n hn k hk
    rcases hn with ⟨h1, h2, h3, h4⟩ | ⟨j, p, s, h1, h2, h3, h4, h5, h6, h7⟩
    · have hp : pathOf done k n = [n.v] := by
        cases k with
        | zero => rfl
        | succ k => simp [pathOf, h1]
      rw [hp, h2, h3, h4]
      exact Reach.start
    · obtain ⟨k', rfl⟩ : ∃ k', k = k' + 1 := ⟨k - 1, by omega⟩
      have hp : pathOf done (k' + 1) n = n.v :: pathOf done k' p := by
        simp [pathOf, h1, h3]
      have := ih j h2 p (hdn j p h3) k' (by omega)
      have hr := Reach.step s this h5
      rw [hp, h4, h7, ← h6]
      exact hr

theorem search_sound (P : Problem) (fuel : Nat) (b : Node) (done : List Node)
    (h : search P fuel (init P) = .found b done) :
    b.v = P.tar ∧ done.getLast? = some b ∧ Reach P b.v b.pv b.g (pathOf done done.length b) := by
  have := search_inv P (S P) (fun _ _ _ hS hx _ => S_expand hS hx) fuel (init P) (S_init P)
  rw [h] at this
  obtain ⟨st', rest, hS', hx, hbt, rfl⟩ := this
  have hp := S_pop hS' hx
  refine ⟨hbt, by simp, ?_⟩
  exact reach_of_just P _ hp.dn st'.done.length b (hp.dn _ _ (by simp)) _ (by simp)

end AdaptaVerif.Lemmas.AStarSound
