/-
Walks of the graph the shortest-path certificate checker (Check/Potential.lean) works on, and what its
tests `findEdge` and `feasible` say; its soundness is Props/C04.
True edge weights live in an arbitrary ordered field K (ℝ for Euclidean lengths); the checker only
sees rational enclosures.
-/
import AdaptaVerif.Check.Potential
import Mathlib.Tactic.Linarith
import Mathlib.Data.Rat.Cast.Order
namespace AdaptaVerif.Lemmas.Potential
open AdaptaVerif.Check.Potential

variable {K : Type} [Field K] [LinearOrder K] [IsStrictOrderedRing K]

/-- a walk a → b along edges of E; c = its total cost under the true weights `tw` -/
inductive Walk (E : List WEdge) (tw : WEdge → K) : Nat → Nat → K → Prop
  | nil (v : Nat) : Walk E tw v v 0
  | cons (e : WEdge) (t : Nat) (c : K) : e ∈ E → Walk E tw e.v t c → Walk E tw e.u t (tw e + c)

theorem findEdge_some (E : List WEdge) (u v : Nat) (e : WEdge) (h : findEdge E u v = some e) :
    e ∈ E ∧ e.u = u ∧ e.v = v := by
  unfold findEdge at h
  have hm := List.mem_of_find?_eq_some h
  have hp := List.find?_some h
  simp only [Bool.and_eq_true, beq_iff_eq] at hp
  exact ⟨hm, hp.1, hp.2⟩

theorem feasible_cast (E : List WEdge) (pot : List Rat) (h : feasible E pot = true)
    (tw : WEdge → K) (hw : ∀ e ∈ E, (e.wlo : K) ≤ tw e) :
    ∀ e ∈ E, ((potAt pot e.v : Rat) : K) ≤ ((potAt pot e.u : Rat) : K) + tw e := by
  intro e he
  unfold feasible at h
  simp only [List.all_eq_true, decide_eq_true_eq] at h
  have h1 : ((potAt pot e.v : Rat) : K) ≤ ((potAt pot e.u + e.wlo : Rat) : K) := Rat.cast_le.mpr (h e he)
  rw [Rat.cast_add] at h1
  exact h1.trans (add_le_add_right (hw e he) _)

end AdaptaVerif.Lemmas.Potential
