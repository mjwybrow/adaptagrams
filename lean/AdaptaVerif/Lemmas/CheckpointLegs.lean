/-
Lemmas about the visibility-direction protocol of `ConnRef::generateCheckpointsPath`
(Model/CheckpointLegs.lean). Property theorems: Props/C11Legs.lean.
-/
import AdaptaVerif.Model.CheckpointLegs
namespace AdaptaVerif.Lemmas.CheckpointLegs
open AdaptaVerif.Model.CheckpointLegs

set_option linter.unusedSectionVars false
variable {V : Type} [DecidableEq V]

/-- With `P` = "is one of the vertices restricted at this point of an iteration" this is what each call of the
    protocol keeps: `restrictBy v` adds `v` to `P`, the restoring call takes it away again; `P = False` is
    `allEnabled`. -/
def DisabledOnly (P : V → Prop) (g : Graph V) : Prop :=
  ∀ e ∈ g, e.disabled = true → P e.a ∨ P e.b

theorem DisabledOnly.mono {P Q : V → Prop} {g : Graph V} (h : DisabledOnly P g) (hpq : ∀ x, P x → Q x) :
    DisabledOnly Q g := fun e he hd => (h e he hd).imp (hpq _) (hpq _)

theorem allEnabled_iff_forall (g : Graph V) : allEnabled g = true ↔ ∀ e ∈ g, e.disabled = false := by
  simp [allEnabled]

theorem allEnabled_iff (g : Graph V) : allEnabled g = true ↔ DisabledOnly (fun _ => False) g := by
  rw [allEnabled_iff_forall]
  constructor
  · intro h e he hd
    rw [h e he] at hd
    cases hd
  · intro h e he
    cases hd : e.disabled with
    | false => rfl
    | true => exact ((h e he hd).elim id id).elim

theorem disabledFor_all (dir : Nat) : disabledFor connDirAll dir = false := by
  simp [disabledFor]

theorem setVisible_frame (v : V) (dirs : Nat) (e : Edge V) (ha : e.a ≠ v) (hb : e.b ≠ v) :
    Edge.setVisible v dirs e = e := by
  simp [Edge.setVisible, ha, hb]

theorem disabled_setVisible_all (v : V) (e : Edge V) (h : e.a = v ∨ e.b = v) :
    (Edge.setVisible v connDirAll e).disabled = false := by
  unfold Edge.setVisible
  split
  · exact disabledFor_all e.dirAB
  next ha =>
    rw [if_pos (h.resolve_left ha)]
    exact disabledFor_all e.dirBA

/-- `g.map clear` is the skeleton of the graph `g`, which the protocol never changes -/
def clear (e : Edge V) : Edge V := { e with disabled := false }

theorem fields_of_clear_eq {e' e : Edge V} (h : clear e' = clear e) :
    e'.a = e.a ∧ e'.b = e.b ∧ e'.dirAB = e.dirAB ∧ e'.dirBA = e.dirBA :=
  ⟨(congrArg Edge.a h :), (congrArg Edge.b h :), (congrArg Edge.dirAB h :), (congrArg Edge.dirBA h :)⟩

theorem clear_setVisible (v : V) (dirs : Nat) (e : Edge V) : clear (Edge.setVisible v dirs e) = clear e := by
  unfold Edge.setVisible
  split
  · rfl
  · split <;> rfl

theorem setVisible_a (v : V) (dirs : Nat) (e : Edge V) : (Edge.setVisible v dirs e).a = e.a :=
  (fields_of_clear_eq (clear_setVisible v dirs e)).1

theorem setVisible_b (v : V) (dirs : Nat) (e : Edge V) : (Edge.setVisible v dirs e).b = e.b :=
  (fields_of_clear_eq (clear_setVisible v dirs e)).2.1

def edgeRestrictBy (v : V) (mask : Option Nat) (e : Edge V) : Edge V :=
  match mask with
  | some d => if d ≠ connDirAll then Edge.setVisible v d e else e
  | none => e

theorem restrictBy_eq_map (v : V) (mask : Option Nat) (g : Graph V) :
    restrictBy v mask g = g.map (edgeRestrictBy v mask) := by
  unfold restrictBy edgeRestrictBy setVisibleDirections
  cases mask with
  | none => simp
  | some d => by_cases h : d ≠ connDirAll <;> simp [h]

theorem edgeRestrictBy_frame (v : V) (mask : Option Nat) (e : Edge V) (ha : e.a ≠ v) (hb : e.b ≠ v) :
    edgeRestrictBy v mask e = e := by
  unfold edgeRestrictBy
  split
  · split
    · exact setVisible_frame v _ e ha hb
    · rfl
  · rfl

theorem clear_edgeRestrictBy (v : V) (mask : Option Nat) (e : Edge V) :
    clear (edgeRestrictBy v mask e) = clear e := by
  unfold edgeRestrictBy
  split
  · split
    · exact clear_setVisible v _ e
    · rfl
  · rfl

theorem edgeRestrictBy_a (v : V) (mask : Option Nat) (e : Edge V) : (edgeRestrictBy v mask e).a = e.a :=
  (fields_of_clear_eq (clear_edgeRestrictBy v mask e)).1
theorem edgeRestrictBy_b (v : V) (mask : Option Nat) (e : Edge V) : (edgeRestrictBy v mask e).b = e.b :=
  (fields_of_clear_eq (clear_edgeRestrictBy v mask e)).2.1
theorem edgeRestrictBy_dirAB (v : V) (mask : Option Nat) (e : Edge V) : (edgeRestrictBy v mask e).dirAB = e.dirAB :=
  (fields_of_clear_eq (clear_edgeRestrictBy v mask e)).2.2.1
theorem edgeRestrictBy_dirBA (v : V) (mask : Option Nat) (e : Edge V) : (edgeRestrictBy v mask e).dirBA = e.dirBA :=
  (fields_of_clear_eq (clear_edgeRestrictBy v mask e)).2.2.2

theorem edgeRestrictBy_spec (v : V) (d : Nat) (hd : d ≠ connDirAll) (e : Edge V) :
    ((edgeRestrictBy v (some d) e).a = v →
      (edgeRestrictBy v (some d) e).disabled = disabledFor d (edgeRestrictBy v (some d) e).dirAB) ∧
    ((edgeRestrictBy v (some d) e).a ≠ v → (edgeRestrictBy v (some d) e).b = v →
      (edgeRestrictBy v (some d) e).disabled = disabledFor d (edgeRestrictBy v (some d) e).dirBA) := by
  rw [edgeRestrictBy_a, edgeRestrictBy_b, edgeRestrictBy_dirAB, edgeRestrictBy_dirBA]
  exact ⟨fun ha => by simp [edgeRestrictBy, hd, Edge.setVisible, ha],
    fun ha hb => by simp [edgeRestrictBy, hd, Edge.setVisible, ha, hb]⟩

theorem restore_disabledOnly {P : V → Prop} {g : Graph V} (v : V)
    (h : DisabledOnly (fun x => x = v ∨ P x) g) :
    DisabledOnly P (setVisibleDirections v connDirAll g) := by
  intro e he hd
  simp only [setVisibleDirections, List.mem_map] at he
  obtain ⟨e0, he0, rfl⟩ := he
  rw [setVisible_a, setVisible_b]
  by_cases ha : e0.a = v
  · rw [disabled_setVisible_all v e0 (Or.inl ha)] at hd
    cases hd
  · by_cases hb : e0.b = v
    · rw [disabled_setVisible_all v e0 (Or.inr hb)] at hd
      cases hd
    · rw [setVisible_frame v _ e0 ha hb] at hd
      rcases h e0 he0 hd with (h1 | h1) | (h1 | h1)
      · exact (ha h1).elim
      · exact Or.inl h1
      · exact (hb h1).elim
      · exact Or.inr h1

theorem restrictBy_disabledOnly {P : V → Prop} {g : Graph V} (v : V) (mask : Option Nat) (h : DisabledOnly P g) :
    DisabledOnly (fun x => x = v ∨ P x) (restrictBy v mask g) := by
  intro e he hd
  rw [restrictBy_eq_map] at he
  obtain ⟨e0, he0, rfl⟩ := List.mem_map.mp he
  rw [edgeRestrictBy_a, edgeRestrictBy_b]
  by_cases ha : e0.a = v
  · exact Or.inl (Or.inl ha)
  · by_cases hb : e0.b = v
    · exact Or.inr (Or.inl hb)
    · rw [edgeRestrictBy_frame v mask e0 ha hb] at hd
      exact (h e0 he0 hd).imp Or.inr Or.inr

theorem skeleton_setVisible (v : V) (dirs : Nat) (g : Graph V) :
    (setVisibleDirections v dirs g).map clear = g.map clear := by
  simp [setVisibleDirections, List.map_map, Function.comp_def, clear_setVisible]

theorem map_clear_of_allEnabled {g : Graph V} (h : allEnabled g = true) : g.map clear = g := by
  conv => rhs; rw [← List.map_id g]
  apply List.map_congr_left
  intro e he
  have := (allEnabled_iff_forall g).mp h e he
  cases e
  simp_all [clear]

theorem skeleton_restrictBy (v : V) (mask : Option Nat) (g : Graph V) :
    (restrictBy v mask g).map clear = g.map clear := by
  rw [restrictBy_eq_map, List.map_map]
  exact List.map_congr_left fun e _ => clear_edgeRestrictBy v mask e

theorem iteration_skeleton (search : Graph V → V → V → Bool) (verts : List V) (cps : List (Cp V))
    (s : LoopState V) (i : Nat) : (iteration search verts cps s i).g.map clear = s.g.map clear := by
  unfold iteration
  split
  · simp only []
    by_cases hl : s.last > 0 <;> by_cases hi : i + 1 < verts.length <;>
      simp only [hl, hi, if_true, if_false, skeleton_setVisible, skeleton_restrictBy]
  · rfl

theorem iteration_enabled (search : Graph V → V → V → Bool) (verts : List V) (cps : List (Cp V))
    (s : LoopState V) (i : Nat) (h : allEnabled s.g = true) :
    allEnabled (iteration search verts cps s i).g = true := by
  rw [allEnabled_iff] at h ⊢
  unfold iteration
  split
  next start stop _ _ =>
    simp only []
    by_cases hl : s.last > 0 <;> by_cases hi : i + 1 < verts.length <;> simp only [hl, hi, if_true, if_false]
    · apply restore_disabledOnly stop
      apply restore_disabledOnly start
      refine (restrictBy_disabledOnly stop _ (restrictBy_disabledOnly start _ h)).mono ?_
      intro x hx; rcases hx with h1 | h1 | h1
      · exact Or.inr (Or.inl h1)
      · exact Or.inl h1
      · exact h1.elim
    · apply restore_disabledOnly start
      exact restrictBy_disabledOnly start _ h
    · apply restore_disabledOnly stop
      exact restrictBy_disabledOnly stop _ h
    · exact h
  · exact h

theorem iteration_graph_eq (search : Graph V → V → V → Bool) (verts : List V) (cps : List (Cp V))
    (s : LoopState V) (i : Nat) (h : allEnabled s.g = true) : (iteration search verts cps s i).g = s.g := by
  rw [← map_clear_of_allEnabled h, ← map_clear_of_allEnabled (iteration_enabled search verts cps s i h),
    iteration_skeleton]

/-- the graph a leg's search sees, in terms of the graph `g` at the entry of the function -/
def legGraph (verts : List V) (cps : List (Cp V)) (g : Graph V) (last i : Nat) (start stop : V) : Graph V :=
  let g1 := if last > 0 then restrictBy start ((cps[last - 1]?).map (·.dep)) g else g
  if i + 1 < verts.length then restrictBy stop ((cps[i - 1]?).map (·.arr)) g1 else g1

/-- a search record is consistent with the C++ loop variables -/
structure LegOk (verts : List V) (cps : List (Cp V)) (g : Graph V) (r : LegRecord V) : Prop where
  lt : r.lastOk < r.index
  index_lt : r.index < verts.length
  start : verts[r.lastOk]? = some r.start
  stop : verts[r.index]? = some r.stop
  seen : r.seen = legGraph verts cps g r.lastOk r.index r.start r.stop

theorem iteration_eq (search : Graph V → V → V → Bool) (verts : List V) (cps : List (Cp V))
    (s : LoopState V) (i : Nat) (start stop : V) (h1 : verts[s.last]? = some start) (h2 : verts[i]? = some stop) :
    iteration search verts cps s i =
      { g := (iteration search verts cps s i).g,
        last := if search (legGraph verts cps s.g s.last i start stop) start stop then i else s.last,
        legs := s.legs ++ [⟨i, s.last, start, stop, legGraph verts cps s.g s.last i start stop,
                            search (legGraph verts cps s.g s.last i start stop) start stop⟩] } := by
  unfold iteration legGraph
  simp only [h1, h2]

/-- loop invariant of `generateCheckpointsPath` over the iterations `i0, i0+1, …` -/
structure Inv (verts : List V) (cps : List (Cp V)) (g : Graph V) (s : LoopState V) (i0 : Nat) : Prop where
  graph : s.g = g
  last_lt : s.last < i0
  count : s.legs.length + 1 = i0
  legs : ∀ r ∈ s.legs, LegOk verts cps g r

theorem fold_inv (search : Graph V → V → V → Bool) (verts : List V) (cps : List (Cp V)) (g : Graph V)
    (hg : allEnabled g = true) (k : Nat) :
    ∀ (s : LoopState V) (i0 : Nat), i0 + k = verts.length → Inv verts cps g s i0 →
      Inv verts cps g ((List.range' i0 k).foldl (iteration search verts cps) s) (i0 + k) := by
  induction k with
  | zero => intro s i0 _ h; simpa using h
  | succ k ih =>
    intro s i0 hlen h
    rw [List.range'_succ, List.foldl_cons]
    have hi : i0 < verts.length := by omega
    have hl : s.last < verts.length := by have := h.last_lt; omega
    have h1 : verts[s.last]? = some verts[s.last] := List.getElem?_eq_getElem hl
    have h2 : verts[i0]? = some verts[i0] := List.getElem?_eq_getElem hi
    have hsg : allEnabled s.g = true := by rw [h.graph]; exact hg
    have step : Inv verts cps g (iteration search verts cps s i0) (i0 + 1) := by
      have hgr := (iteration_graph_eq search verts cps s i0 hsg).trans h.graph
      rw [iteration_eq search verts cps s i0 _ _ h1 h2]
      refine ⟨hgr, ?_, ?_, ?_⟩
      · have := h.last_lt
        dsimp only
        split <;> omega
      · have := h.count
        simp only [List.length_append, List.length_singleton]
        omega
      · intro r hr
        rcases List.mem_append.mp hr with hr | hr
        · exact h.legs r hr
        · rw [List.mem_singleton.mp hr]
          exact ⟨h.last_lt, hi, h1, h2, by rw [h.graph]⟩
    have := ih (iteration search verts cps s i0) (i0 + 1) (by omega) step
    rw [show i0 + (k + 1) = i0 + 1 + k by omega]
    exact this

theorem legVertices_length (src dst : V) (cps : List (Cp V)) : (legVertices src dst cps).length = cps.length + 2 := by
  simp [legVertices]

theorem generate_inv (search : Graph V → V → V → Bool) (src dst : V) (cps : List (Cp V)) (g : Graph V)
    (hg : allEnabled g = true) :
    Inv (legVertices src dst cps) cps g (generateCheckpointsPath search src dst cps g) (cps.length + 2) := by
  unfold generateCheckpointsPath
  have hlen := legVertices_length src dst cps
  have := fold_inv search (legVertices src dst cps) cps g hg ((legVertices src dst cps).length - 1) ⟨g, 0, []⟩ 1
    (by omega) ⟨rfl, by simp, by simp, by simp⟩
  simp only [] at this ⊢
  rw [show 1 + ((legVertices src dst cps).length - 1) = cps.length + 2 by omega] at this
  exact this

def legEdge (verts : List V) (cps : List (Cp V)) (last i : Nat) (start stop : V) (e : Edge V) : Edge V :=
  let e1 := if last > 0 then edgeRestrictBy start ((cps[last - 1]?).map (·.dep)) e else e
  if i + 1 < verts.length then edgeRestrictBy stop ((cps[i - 1]?).map (·.arr)) e1 else e1

theorem legGraph_eq_map (verts : List V) (cps : List (Cp V)) (g : Graph V) (last i : Nat) (start stop : V) :
    legGraph verts cps g last i start stop = g.map (legEdge verts cps last i start stop) := by
  unfold legGraph legEdge
  by_cases hl : last > 0 <;> by_cases hi : i + 1 < verts.length <;>
    simp [hl, hi, restrictBy_eq_map, List.map_map, Function.comp_def]

theorem clear_legEdge (verts : List V) (cps : List (Cp V)) (last i : Nat) (start stop : V) (e : Edge V) :
    clear (legEdge verts cps last i start stop e) = clear e := by
  unfold legEdge
  split <;> split <;> simp only [clear_edgeRestrictBy]

theorem legEdge_a (verts : List V) (cps : List (Cp V)) (last i : Nat) (start stop : V) (e : Edge V) :
    (legEdge verts cps last i start stop e).a = e.a :=
  (fields_of_clear_eq (clear_legEdge verts cps last i start stop e)).1

theorem legEdge_b (verts : List V) (cps : List (Cp V)) (last i : Nat) (start stop : V) (e : Edge V) :
    (legEdge verts cps last i start stop e).b = e.b :=
  (fields_of_clear_eq (clear_legEdge verts cps last i start stop e)).2.1

theorem legEdge_frame (verts : List V) (cps : List (Cp V)) (last i : Nat) (start stop : V) (e : Edge V)
    (h1 : e.a ≠ start) (h2 : e.b ≠ start) (h3 : e.a ≠ stop) (h4 : e.b ≠ stop) :
    legEdge verts cps last i start stop e = e := by
  unfold legEdge
  simp only [edgeRestrictBy_frame _ _ e h1 h2, edgeRestrictBy_frame _ _ e h3 h4, ite_self]

end AdaptaVerif.Lemmas.CheckpointLegs
