/-
C17 — basic facts about walks and `IsDist` (used by the checker-soundness and the Floyd–Warshall / Dijkstra correctness
proofs). Every loop of the models is a `List.foldl`: invariants go through core's `List.foldlRecOn`, what one step achieves
through `Util.foldl_achieves`.
-/
import AdaptaVerif.Spec.Apsp
import AdaptaVerif.Lemmas.Util.Fold
import Mathlib.Tactic.Linarith
import Mathlib.Tactic.Ring
namespace AdaptaVerif.Lemmas.Apsp
open AdaptaVerif.Model.ShortestPaths AdaptaVerif.Spec.Apsp

theorem HasEdge.symm {g : Graph} {u v : Nat} {w : Rat} (h : HasEdge g u v w) : HasEdge g v u w :=
  Or.symm h

theorem HasEdge.valid {g : Graph} (hv : Valid g) {u v : Nat} {w : Rat} (h : HasEdge g u v w) :
    u < g.n ∧ v < g.n ∧ 0 ≤ w := by
  rcases h with h | h
  · have := hv _ h; exact ⟨this.1, this.2.1, this.2.2⟩
  · have := hv _ h; exact ⟨this.2.1, this.1, this.2.2⟩

theorem Walk.ends {g : Graph} (hv : Valid g) {i j : Nat} {c : Rat} (h : Walk g i j c) :
    i < g.n ∧ j < g.n := by
  induction h with
  | nil hi => exact ⟨hi, hi⟩
  | snoc _ he ih => exact ⟨ih.1, (HasEdge.valid hv he).2.1⟩

theorem Walk.nonneg {g : Graph} (hv : Valid g) {i j : Nat} {c : Rat} (h : Walk g i j c) : 0 ≤ c := by
  induction h with
  | nil hi => exact le_refl _
  | snoc _ he ih => exact add_nonneg ih (HasEdge.valid hv he).2.2

theorem Walk.append {g : Graph} {i j k : Nat} {c₁ c₂ : Rat} (h₁ : Walk g i j c₁) (h₂ : Walk g j k c₂) :
    Walk g i k (c₁ + c₂) := by
  induction h₂ with
  | nil hj => simpa using h₁
  | snoc _ he ih =>
    have := Walk.snoc ih he
    rwa [add_assoc] at this

theorem Walk.edge {g : Graph} (hv : Valid g) {u v : Nat} {w : Rat} (he : HasEdge g u v w) : Walk g u v w := by
  have := Walk.snoc (Walk.nil (HasEdge.valid hv he).1) he
  simpa using this

theorem Walk.reverse {g : Graph} (hv : Valid g) {i j : Nat} {c : Rat} (h : Walk g i j c) : Walk g j i c := by
  induction h with
  | nil hi => exact Walk.nil hi
  | snoc _ he ih =>
    have := Walk.append (Walk.edge hv (HasEdge.symm he)) ih
    rwa [add_comm] at this

theorem Walk.lower_bound {g : Graph} {d : Nat → Dist} {s : Nat} (h0 : d s = some 0)
    (hstep : ∀ {m k : Nat} {c w a : Rat}, Walk g s m c → HasEdge g m k w → d m = some a → ∃ b, d k = some b ∧ b ≤ a + w)
    {j : Nat} {c : Rat} (hw : Walk g s j c) : ∃ b, d j = some b ∧ b ≤ c := by
  induction hw with
  | nil _ => exact ⟨0, h0, le_refl _⟩
  | snoc hwalk he ih =>
    obtain ⟨a, ha, hac⟩ := ih
    obtain ⟨b, hb, hba⟩ := hstep hwalk he ha
    exact ⟨b, hb, le_trans hba (add_le_add_left hac _)⟩

theorem IsDist.unique {g : Graph} {i j : Nat} {a b : Dist} (ha : IsDist g i j a) (hb : IsDist g i j b) : a = b := by
  cases a with
  | none =>
    cases b with
    | none => rfl
    | some y => exact absurd hb.1 (ha y)
  | some x =>
    cases b with
    | none => exact absurd ha.1 (hb x)
    | some y => rw [le_antisymm (ha.2 y hb.1) (hb.2 x ha.1)]

theorem IsDist.reverse {g : Graph} (hv : Valid g) {i j : Nat} {x : Dist} (h : IsDist g i j x) : IsDist g j i x := by
  cases x with
  | none => exact fun c hw => h c (Walk.reverse hv hw)
  | some d => exact ⟨Walk.reverse hv h.1, fun c hw => h.2 c (Walk.reverse hv hw)⟩

theorem IsDist.of_bounds {g : Graph} {i j : Nat} {x : Dist} (hreal : ∀ d, x = some d → Walk g i j d)
    (hlow : ∀ c, Walk g i j c → ∃ d, x = some d ∧ d ≤ c) : IsDist g i j x := by
  cases x with
  | none =>
    intro c hw
    obtain ⟨d, hd, _⟩ := hlow c hw
    cases hd
  | some d =>
    refine ⟨hreal d rfl, fun c hw => ?_⟩
    obtain ⟨d', hd', hdc⟩ := hlow c hw
    cases hd'
    exact hdc

theorem isStepList_walk {g : Graph} (hv : Valid g) : ∀ (steps : List (Nat × Rat)) (i j : Nat),
    IsStepList g i steps j → Walk g i j (stepWeight steps) := by
  intro steps
  induction steps with
  | nil => intro i j h; obtain ⟨rfl, hi⟩ := h; exact Walk.nil hi
  | cons s rest ih =>
    intro i j h
    obtain ⟨v, w⟩ := s
    obtain ⟨he, hr⟩ := h
    exact Walk.append (Walk.edge hv he) (ih v j hr)

theorem isStepList_snoc {g : Graph} {j k : Nat} {w : Rat} (he : HasEdge g j k w) (hk : k < g.n) :
    ∀ (steps : List (Nat × Rat)) (i : Nat), IsStepList g i steps j → IsStepList g i (steps ++ [(k, w)]) k := by
  intro steps
  induction steps with
  | nil => intro i hs; obtain ⟨rfl, _⟩ := hs; exact ⟨he, rfl, hk⟩
  | cons s rest ih =>
    intro i hs
    obtain ⟨v, w'⟩ := s
    exact ⟨hs.1, ih v hs.2⟩

theorem stepWeight_snoc (k : Nat) (w : Rat) : ∀ (steps : List (Nat × Rat)),
    stepWeight (steps ++ [(k, w)]) = stepWeight steps + w := by
  intro steps
  induction steps with
  | nil => simp [stepWeight]
  | cons s rest ih =>
    obtain ⟨v, w'⟩ := s
    simp only [List.cons_append, stepWeight]
    rw [ih]; ring

theorem walk_isStepList {g : Graph} (hv : Valid g) {i j : Nat} {c : Rat} (h : Walk g i j c) :
    ∃ steps, IsStepList g i steps j ∧ stepWeight steps = c := by
  induction h with
  | nil hi => exact ⟨[], ⟨rfl, hi⟩, rfl⟩
  | @snoc j k c w _ he ih =>
    obtain ⟨steps, hs, hw⟩ := ih
    exact ⟨steps ++ [(k, w)], isStepList_snoc he (HasEdge.valid hv he).2.1 steps i hs, by
      rw [stepWeight_snoc, hw]⟩

end AdaptaVerif.Lemmas.Apsp
