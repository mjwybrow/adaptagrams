/-
C19 — the leaf-stripping loop of `AdaptaVerif.Model.Peel.peel`: what one `round` does, the invariant `Inv`
it keeps on every simple graph, totality, and, on connected graphs, that the stem list stays `Ranked`;
climbing along ranked stems maps the input graph onto what is left of it (`Inv.retract`), so that stays
connected. Core Lean only.
-/
import AdaptaVerif.Spec.UGraph
import AdaptaVerif.Spec.GraphParts
import AdaptaVerif.Model.Peel
import AdaptaVerif.Lemmas.PeelComps
import AdaptaVerif.Lemmas.PeelStems

namespace AdaptaVerif.Lemmas.PeelModel
open AdaptaVerif.Spec.UGraph AdaptaVerif.Model.Peel AdaptaVerif.Lemmas.PeelDefs
open AdaptaVerif.Lemmas.PeelComps (mem_nbrs)
open AdaptaVerif.Lemmas.PeelStems

theorem nbrs_of_degree_one {es : List (Nat × Nat)} {v : Nat} (h : degree es v = 1) :
    ∃ w, nbrs es v = [w] := by
  unfold degree at h
  obtain ⟨e, he⟩ := List.length_eq_one_iff.1 h
  exact ⟨otherEnd v e, by rw [nbrs, he]; rfl⟩

theorem leaf_stem {es : List (Nat × Nat)} {l : Nat} (h : degree es l = 1) :
    ∃ w, stemOf es l = (l, w) ∧ Adj es l w ∧ ∀ b, Adj es l b → b = w := by
  obtain ⟨w, hw⟩ := nbrs_of_degree_one h
  refine ⟨w, ?_, ?_, ?_⟩
  · rw [stemOf, hw]; rfl
  · exact mem_nbrs.1 (by rw [hw]; exact List.mem_singleton.2 rfl)
  · intro b hb
    have := mem_nbrs.2 hb
    rw [hw] at this
    exact List.mem_singleton.1 this

theorem stemOf_fst (es : List (Nat × Nat)) (l : Nat) : (stemOf es l).1 = l := rfl

theorem stemOf_eq {es : List (Nat × Nat)} {l w : Nat} (hd : degree es l = 1) (ha : Adj es l w) :
    stemOf es l = (l, w) := by
  obtain ⟨w', h1, _, h3⟩ := leaf_stem hd
  rw [h1, h3 w ha]

theorem mem_leavesOf {ns : List Nat} {es : List (Nat × Nat)} {v : Nat} :
    v ∈ leavesOf ns es ↔ v ∈ ns ∧ degree es v = 1 := by
  simp only [leavesOf, List.mem_filter, beq_iff_eq]

theorem noDegreeOne_of_leaves_nil {ns : List Nat} {es : List (Nat × Nat)}
    (h : leavesOf ns es = []) : NoDegreeOne ns es := by
  intro v hv hd
  have : v ∈ leavesOf ns es := mem_leavesOf.2 ⟨hv, hd⟩
  rw [h] at this
  cases this

theorem adjacent_leaves_all {ns : List Nat} {es : List (Nat × Nat)} (hc : Connected ns es) {l r : Nat}
    (hl : l ∈ leavesOf ns es) (hr : r ∈ leavesOf ns es) (ha : Adj es l r) :
    ∀ v, v ∈ ns → v = l ∨ v = r := by
  intro v hv
  obtain ⟨hln, hld⟩ := mem_leavesOf.1 hl
  obtain ⟨_, hrd⟩ := mem_leavesOf.1 hr
  obtain ⟨wl, _, _, hul⟩ := leaf_stem hld
  obtain ⟨wr, _, _, hur⟩ := leaf_stem hrd
  refine Reach.closed (P := fun x => x = l ∨ x = r) ?_ (hc l hln v hv) (Or.inl rfl)
  intro a b hp hab
  cases hp with
  | inl h =>
    subst h
    exact Or.inr ((hul b hab).trans (hul r ha).symm)
  | inr h =>
    subst h
    exact Or.inl ((hur b hab).trans (hur l ha.symm).symm)

/-- leaves whose stems are kept by the round (all, or all but the last when the graph
    becomes empty) -/
def kept (s : PState) : List Nat :=
  if (s.nodes.filter (fun v => !(leavesOf s.nodes s.edges).contains v)).isEmpty
  then (leavesOf s.nodes s.edges).dropLast else leavesOf s.nodes s.edges

theorem round_eq {s s' : PState} (h : round s = some s') :
    leavesOf s.nodes s.edges ≠ [] ∧
    s'.nodes = s.nodes.filter (fun v => !(leavesOf s.nodes s.edges).contains v) ∧
    s'.edges = s.edges.filter (fun e => !((leavesOf s.nodes s.edges).contains e.1 ||
        (leavesOf s.nodes s.edges).contains e.2)) ∧
    s'.stems = s.stems ++ (kept s).map (stemOf s.edges) := by
  unfold round at h
  simp only at h
  split at h
  · cases h
  · rename_i hne
    injection h with h
    subst h
    refine ⟨?_, rfl, rfl, ?_⟩
    · intro h0; rw [h0] at hne; exact hne rfl
    · simp only [kept]
      split
      · rw [List.map_dropLast]
      · rfl

theorem round_none {s : PState} (h : round s = none) : leavesOf s.nodes s.edges = [] := by
  unfold round at h
  simp only at h
  split at h
  · rename_i he
    exact List.isEmpty_iff.1 he
  · cases h

theorem kept_sublist (s : PState) : (kept s).Sublist (leavesOf s.nodes s.edges) := by
  unfold kept
  split
  · exact List.dropLast_sublist _
  · exact List.Sublist.refl _

theorem kept_cases (s : PState) (hne : leavesOf s.nodes s.edges ≠ []) :
    (s.nodes.filter (fun v => !(leavesOf s.nodes s.edges).contains v) ≠ [] ∧
      kept s = leavesOf s.nodes s.edges) ∨
    (s.nodes.filter (fun v => !(leavesOf s.nodes s.edges).contains v) = [] ∧
      ∃ c, leavesOf s.nodes s.edges = kept s ++ [c]) := by
  unfold kept
  split
  · rename_i he
    exact Or.inr ⟨List.isEmpty_iff.1 he, _, (List.dropLast_concat_getLast hne).symm⟩
  · rename_i he
    exact Or.inl ⟨fun h => he (List.isEmpty_iff.2 h), rfl⟩

theorem simple_adj {ns : List Nat} {es : List (Nat × Nat)} (hs : Simple ns es) {a b : Nat}
    (h : Adj es a b) : a ∈ ns ∧ b ∈ ns ∧ a ≠ b := by
  cases h with
  | inl h => exact hs.2.1 _ h
  | inr h =>
    obtain ⟨h1, h2, h3⟩ := hs.2.1 _ h
    exact ⟨h2, h1, fun e => h3 e.symm⟩

theorem mem_nodes_filter {s : PState} {v : Nat} :
    v ∈ s.nodes.filter (fun v => !(leavesOf s.nodes s.edges).contains v) ↔
      v ∈ s.nodes ∧ v ∉ leavesOf s.nodes s.edges := by
  simp only [List.mem_filter, Bool.not_eq_true', List.contains_eq_mem, decide_eq_false_iff_not]

theorem round_mem_nodes {s s' : PState} (h : round s = some s') {v : Nat} :
    v ∈ s'.nodes ↔ v ∈ s.nodes ∧ v ∉ leavesOf s.nodes s.edges := by
  rw [(round_eq h).2.1]
  exact mem_nodes_filter

theorem round_keeps_edge {s s' : PState} (h : round s = some s') {e : Nat × Nat} (he : e ∈ s.edges)
    (h1 : e.1 ∉ leavesOf s.nodes s.edges) (h2 : e.2 ∉ leavesOf s.nodes s.edges) : e ∈ s'.edges := by
  rw [(round_eq h).2.2.1]
  refine List.mem_filter.2 ⟨he, ?_⟩
  simp only [List.contains_eq_mem, h1, h2, decide_false, Bool.or_self, Bool.not_false]

theorem all_leaves_of_filter_nil {s : PState}
    (hnil : s.nodes.filter (fun v => !(leavesOf s.nodes s.edges).contains v) = []) {v : Nat}
    (hv : v ∈ s.nodes) : v ∈ leavesOf s.nodes s.edges := by
  apply Classical.byContradiction
  intro hnot
  have := mem_nodes_filter.2 ⟨hv, hnot⟩
  rw [hnil] at this
  cases this

theorem new_stem_cover {s : PState} (hsim : Simple s.nodes s.edges) {l w : Nat}
    (hl : l ∈ leavesOf s.nodes s.edges) (hw : Adj s.edges l w) :
    (l, w) ∈ (kept s).map (stemOf s.edges) ∨ (w, l) ∈ (kept s).map (stemOf s.edges) := by
  have hdl := (mem_leavesOf.1 hl).2
  by_cases hk : l ∈ kept s
  · exact Or.inl (List.mem_map.2 ⟨l, hk, stemOf_eq hdl hw⟩)
  · right
    cases kept_cases s (List.ne_nil_of_mem hl) with
    | inl h => rw [h.2] at hk; exact absurd hl hk
    | inr h =>
      obtain ⟨hnil, c, hc⟩ := h
      obtain ⟨_, hwn, hne⟩ := simple_adj hsim hw
      have hwl : w ∈ leavesOf s.nodes s.edges := all_leaves_of_filter_nil hnil hwn
      have hlc : l = c := by
        rw [hc] at hl
        cases List.mem_append.1 hl with
        | inl h => exact absurd h hk
        | inr h => exact List.mem_singleton.1 h
      have hwk : w ∈ kept s := by
        rw [hc] at hwl
        cases List.mem_append.1 hwl with
        | inl h => exact h
        | inr h => exact absurd ((List.mem_singleton.1 h).trans hlc.symm).symm hne
      exact List.mem_map.2 ⟨w, hwk, stemOf_eq (mem_leavesOf.1 hwl).2 hw.symm⟩

theorem new_stem_spec {s : PState} {l r : Nat} (h : (l, r) ∈ (kept s).map (stemOf s.edges)) :
    l ∈ kept s ∧ l ∈ leavesOf s.nodes s.edges ∧ Adj s.edges l r := by
  obtain ⟨x, hx, he⟩ := List.mem_map.1 h
  have hxl := (kept_sublist s).subset hx
  obtain ⟨w, h1, h2, _⟩ := leaf_stem (mem_leavesOf.1 hxl).2
  rw [h1] at he
  simp only [Prod.mk.injEq] at he
  obtain ⟨rfl, rfl⟩ := he
  exact ⟨hx, hxl, h2⟩

/-- what every loop state `s` reached from the simple graph `(ns, es)` satisfies: what is left is an induced
    subgraph, every removed node and edge lies on a stem, and no node is the leaf of two stems -/
structure Inv (ns : List Nat) (es : List (Nat × Nat)) (s : PState) : Prop where
  nodes_sub : s.nodes.Sublist ns
  edges_eq : s.edges = es.filter (fun e => s.nodes.contains e.1 && s.nodes.contains e.2)
  node_cover : ∀ v, v ∈ ns → v ∈ s.nodes ∨ ∃ st, st ∈ s.stems ∧ (v = st.1 ∨ v = st.2)
  stem_ok : ∀ l r, (l, r) ∈ s.stems → Adj es l r ∧ l ∉ s.nodes
  leaves_nodup : (leafList s.stems).Nodup
  edge_cover : ∀ e, e ∈ es → e ∈ s.edges ∨ (e.1, e.2) ∈ s.stems ∨ (e.2, e.1) ∈ s.stems

theorem inv_init {ns : List Nat} {es : List (Nat × Nat)} (hs : Simple ns es) :
    Inv ns es ⟨ns, es, []⟩ where
  nodes_sub := List.Sublist.refl _
  edges_eq := by
    symm
    apply List.filter_eq_self.2
    intro e he
    obtain ⟨h1, h2, _⟩ := hs.2.1 e he
    simp only [List.contains_eq_mem, h1, h2, decide_true, Bool.and_self]
  node_cover := fun v hv => Or.inl hv
  stem_ok := fun l r h => nomatch h
  leaves_nodup := List.nodup_nil
  edge_cover := fun e he => Or.inl he

section
variable {ns : List Nat} {es : List (Nat × Nat)} {s : PState}

theorem Inv.mem_edges (hinv : Inv ns es s) {e : Nat × Nat} :
    e ∈ s.edges ↔ e ∈ es ∧ e.1 ∈ s.nodes ∧ e.2 ∈ s.nodes := by
  rw [hinv.edges_eq]
  simp only [List.mem_filter, Bool.and_eq_true, List.contains_eq_mem, decide_eq_true_eq]

theorem Inv.edges_sublist (hinv : Inv ns es s) : s.edges.Sublist es := by
  rw [hinv.edges_eq]; exact List.filter_sublist

theorem Inv.adj_mono (hinv : Inv ns es s) {a b : Nat} (h : Adj s.edges a b) : Adj es a b :=
  h.mono (fun _ he => (hinv.mem_edges.1 he).1)

theorem Inv.core_simple (hs : Simple ns es) (hinv : Inv ns es s) : Simple s.nodes s.edges :=
  ⟨hinv.nodes_sub.nodup hs.1, fun e he =>
    ⟨(hinv.mem_edges.1 he).2.1, (hinv.mem_edges.1 he).2.2, (hs.2.1 e (hinv.mem_edges.1 he).1).2.2⟩,
    hinv.edges_sublist.nodup hs.2.2.1,
    fun u v h1 h2 => hs.2.2.2 u v (hinv.mem_edges.1 h1).1 (hinv.mem_edges.1 h2).1⟩

theorem Inv.stem_mem (hs : Simple ns es) (hinv : Inv ns es s) {l r : Nat} (h : (l, r) ∈ s.stems) :
    Adj es l r ∧ l ∉ s.nodes ∧ l ∈ ns ∧ r ∈ ns ∧ l ≠ r := by
  obtain ⟨h1, h2⟩ := hinv.stem_ok l r h
  obtain ⟨a, b, c⟩ := simple_adj hs h1
  exact ⟨h1, h2, a, b, c⟩

theorem Inv.hNodes_sub (hs : Simple ns es) (hinv : Inv ns es s) {v : Nat} (hv : v ∈ hNodes s.stems) :
    v ∈ ns := by
  obtain ⟨⟨l, r⟩, hst, hor⟩ := mem_hNodes.1 hv
  obtain ⟨_, _, h1, h2, _⟩ := hinv.stem_mem hs hst
  cases hor with
  | inl e => exact e ▸ h1
  | inr e => exact e ▸ h2

theorem Inv.edge_not_stem (hinv : Inv ns es s) {e : Nat × Nat} (he : e ∈ s.edges) :
    (e.1, e.2) ∉ s.stems ∧ (e.2, e.1) ∉ s.stems := by
  obtain ⟨_, h1, h2⟩ := hinv.mem_edges.1 he
  exact ⟨fun h => (hinv.stem_ok _ _ h).2 h1, fun h => (hinv.stem_ok _ _ h).2 h2⟩

theorem Inv.not_leaf (hinv : Inv ns es s) {v : Nat} (hv : v ∈ s.nodes) :
    v ∉ leafList s.stems := by
  intro hm
  obtain ⟨r, hr⟩ := mem_leafList.1 hm
  exact (hinv.stem_ok v r hr).2 hv

end

theorem filter_induced (es : List (Nat × Nat)) (N L : List Nat) :
    (es.filter (fun e => N.contains e.1 && N.contains e.2)).filter
        (fun e => !(L.contains e.1 || L.contains e.2)) =
      es.filter (fun e => (N.filter (fun v => !L.contains v)).contains e.1 &&
        (N.filter (fun v => !L.contains v)).contains e.2) := by
  rw [List.filter_filter]
  apply List.filter_congr
  intro e _
  rw [Bool.eq_iff_iff]
  simp only [Bool.and_eq_true, Bool.not_eq_true', Bool.or_eq_false_iff, List.contains_eq_mem,
    decide_eq_true_eq, decide_eq_false_iff_not, List.mem_filter]
  constructor
  · rintro ⟨⟨a, b⟩, c, d⟩; exact ⟨⟨c, a⟩, d, b⟩
  · rintro ⟨⟨c, a⟩, d, b⟩; exact ⟨⟨a, b⟩, c, d⟩

theorem leafList_map_stemOf (es : List (Nat × Nat)) (K : List Nat) :
    leafList (K.map (stemOf es)) = K := by
  unfold leafList
  rw [List.map_map]
  have : (Prod.fst ∘ stemOf es) = id := rfl
  rw [this, List.map_id]

theorem inv_round {ns : List Nat} {es : List (Nat × Nat)} {s s' : PState} (hs : Simple ns es)
    (h : round s = some s') (hinv : Inv ns es s) : Inv ns es s' := by
  obtain ⟨_, hn', he', hst'⟩ := round_eq h
  have hsim := hinv.core_simple hs
  have hmn : ∀ v, v ∈ s'.nodes ↔ v ∈ s.nodes ∧ v ∉ leavesOf s.nodes s.edges :=
    fun _ => round_mem_nodes h
  refine ⟨?_, ?_, ?_, ?_, ?_, ?_⟩
  · rw [hn']; exact List.filter_sublist.trans hinv.nodes_sub
  · rw [he', hn']
    have := filter_induced es s.nodes (leavesOf s.nodes s.edges)
    rw [← hinv.edges_eq] at this
    exact this
  · intro v hv
    cases hinv.node_cover v hv with
    | inl hvn =>
      by_cases hvl : v ∈ leavesOf s.nodes s.edges
      · right
        obtain ⟨w, _, haw, _⟩ := leaf_stem (mem_leavesOf.1 hvl).2
        rw [hst']
        cases new_stem_cover hsim hvl haw with
        | inl hm => exact ⟨(v, w), List.mem_append_right _ hm, Or.inl rfl⟩
        | inr hm => exact ⟨(w, v), List.mem_append_right _ hm, Or.inr rfl⟩
      · exact Or.inl ((hmn v).2 ⟨hvn, hvl⟩)
    | inr hst =>
      obtain ⟨st, hst, hor⟩ := hst
      exact Or.inr ⟨st, by rw [hst']; exact List.mem_append_left _ hst, hor⟩
  · intro l r hlr
    rw [hst'] at hlr
    cases List.mem_append.1 hlr with
    | inl hm =>
      obtain ⟨h1, h2⟩ := hinv.stem_ok l r hm
      exact ⟨h1, fun hm' => h2 ((hmn l).1 hm').1⟩
    | inr hm =>
      obtain ⟨_, hl, ha⟩ := new_stem_spec hm
      exact ⟨hinv.adj_mono ha, fun hm' => ((hmn l).1 hm').2 hl⟩
  · rw [hst', leafList_append, leafList_map_stemOf]
    refine List.nodup_append.2 ⟨hinv.leaves_nodup, ?_, ?_⟩
    · exact (kept_sublist s).nodup (List.filter_sublist.nodup hsim.1)
    · intro a ha b hb hab
      obtain ⟨r, hr⟩ := mem_leafList.1 ha
      have hb' := (mem_leavesOf.1 ((kept_sublist s).subset hb)).1
      exact (hinv.stem_ok a r hr).2 (hab ▸ hb')
  · intro e hee
    rw [hst']
    cases hinv.edge_cover e hee with
    | inl hes =>
      by_cases h1 : e.1 ∈ leavesOf s.nodes s.edges
      · right
        cases new_stem_cover hsim h1 (Or.inl hes : Adj s.edges e.1 e.2) with
        | inl hm => exact Or.inl (List.mem_append_right _ hm)
        | inr hm => exact Or.inr (List.mem_append_right _ hm)
      · by_cases h2 : e.2 ∈ leavesOf s.nodes s.edges
        · right
          cases new_stem_cover hsim h2 (Or.inr hes : Adj s.edges e.2 e.1) with
          | inl hm => exact Or.inr (List.mem_append_right _ hm)
          | inr hm => exact Or.inl (List.mem_append_right _ hm)
        · exact Or.inl (round_keeps_edge h hes h1 h2)
    | inr hst =>
      cases hst with
      | inl hm => exact Or.inr (Or.inl (List.mem_append_left _ hm))
      | inr hm => exact Or.inr (Or.inr (List.mem_append_left _ hm))

theorem rounds_inv (P : PState → Prop) (hP : ∀ s s', round s = some s' → P s → P s') :
    ∀ (f : Nat) (s s' : PState), rounds f s = some s' → P s → P s' ∧ round s' = none := by
  intro f s
  induction f, s using rounds.induct with
  | case1 s => intro s' h; cases h
  | case2 f s hr =>
    intro s' h hp
    simp only [rounds, hr, Option.some.injEq] at h
    exact h ▸ ⟨hp, hr⟩
  | case3 f s s1 hr ih =>
    intro s' h hp
    simp only [rounds, hr] at h
    exact ih s' h (hP s s1 hr hp)

theorem round_length_lt {s s' : PState} (h : round s = some s') :
    s'.nodes.length < s.nodes.length := by
  obtain ⟨hne, hn', _, _⟩ := round_eq h
  rw [hn', List.length_filter_lt_length_iff_exists]
  obtain ⟨x, hx⟩ := List.exists_mem_of_ne_nil _ hne
  refine ⟨x, (mem_leavesOf.1 hx).1, ?_⟩
  simp only [List.contains_eq_mem, hx, decide_true, Bool.not_true, Bool.false_eq_true,
    not_false_eq_true]

theorem rounds_total : ∀ (f : Nat) (s : PState), s.nodes.length < f → ∃ s', rounds f s = some s' := by
  intro f s
  induction f, s using rounds.induct with
  | case1 s => exact fun h => absurd h (Nat.not_lt_zero _)
  | case2 f s hr => exact fun _ => ⟨s, by simp only [rounds, hr]⟩
  | case3 f s s1 hr ih =>
    intro h
    simp only [rounds, hr]
    have := round_length_lt hr
    exact ih (by omega)

theorem peel_total (ns : List Nat) (es : List (Nat × Nat)) : ∃ out, peel ns es = some out := by
  obtain ⟨s, hs⟩ := rounds_total (ns.length + 1) ⟨ns, es, []⟩ (Nat.lt_succ_self _)
  obtain ⟨cs, hcs⟩ := AdaptaVerif.Lemmas.PeelComps.getConnComps_total
    (sortNat (hNodes s.stems)) (hEdges s.stems)
  unfold peel
  rw [hs]
  simp only [finish, hcs]
  exact ⟨_, rfl⟩

section
variable {ns : List Nat} {es : List (Nat × Nat)} {s : PState}

theorem Inv.adj_fate (hinv : Inv ns es s) {a b : Nat} (h : Adj es a b) :
    Adj s.edges a b ∨ Adj (hEdges s.stems) a b := by
  rcases h with h | h <;> rcases hinv.edge_cover _ h with h1 | h1 | h1
  · exact Or.inl (Or.inl h1)
  · exact Or.inr (Or.inr (mem_hEdges.2 h1))
  · exact Or.inr (Or.inl (mem_hEdges.2 h1))
  · exact Or.inl (Or.inr h1)
  · exact Or.inr (Or.inl (mem_hEdges.2 h1))
  · exact Or.inr (Or.inr (mem_hEdges.2 h1))

theorem Inv.adj_not_leaf (hinv : Inv ns es s) {a b : Nat} (h : Adj s.edges a b) :
    a ∉ leafList s.stems ∧ b ∉ leafList s.stems := by
  rcases h with h | h <;> obtain ⟨_, m1, m2⟩ := hinv.mem_edges.1 h
  · exact ⟨hinv.not_leaf m1, hinv.not_leaf m2⟩
  · exact ⟨hinv.not_leaf m2, hinv.not_leaf m1⟩

/-- The ends of a stem edge climb to the same node; every other edge is still there and its ends are never
    leaves. -/
theorem Inv.retract (hinv : Inv ns es s) (hr : Ranked s.stems) {a b : Nat} (h : Reach es a b) :
    ∀ {ta : Nat}, Climbs s.stems a ta → ∃ tb, Climbs s.stems b tb ∧ Reach s.edges ta tb := by
  induction h with
  | refl _ => exact fun h => ⟨_, h, Reach.refl _⟩
  | step hax _ ih =>
    intro ta hta
    rcases hinv.adj_fate hax with h1 | h1
    · obtain ⟨ha, hx⟩ := hinv.adj_not_leaf h1
      obtain ⟨tb, htb, h2⟩ := ih (Climbs.top hx)
      exact ⟨tb, htb, hta.of_not_leaf ha ▸ Reach.step h1 h2⟩
    · exact ih (hta.adj hr h1)

theorem Inv.core_connected (hinv : Inv ns es s) (hr : Ranked s.stems) (hc : Connected ns es) :
    Connected s.nodes s.edges := by
  intro u hu w hw
  obtain ⟨tw, htw, h⟩ := hinv.retract hr (hc u (hinv.nodes_sub.subset hu) w (hinv.nodes_sub.subset hw))
    (Climbs.top (hinv.not_leaf hu))
  exact htw.of_not_leaf (hinv.not_leaf hw) ▸ h

end

theorem ranked_round {ns : List Nat} {es : List (Nat × Nat)} {s s' : PState} (hs : Simple ns es)
    (h : round s = some s') (hinv : Inv ns es s) (hc : Connected s.nodes s.edges)
    (hr : Ranked s.stems) : Ranked s'.stems := by
  obtain ⟨_, _, _, hst'⟩ := round_eq h
  have hsim := hinv.core_simple hs
  obtain ⟨_, r2, r3⟩ := ranked_iff.1 hr
  refine ranked_iff.2 ⟨(inv_round hs h hinv).leaves_nodup, ?_, ?_⟩
  · intro t ht
    rw [hst'] at ht
    cases List.mem_append.1 ht with
    | inl hm => exact r2 t hm
    | inr hm =>
      obtain ⟨_, _, ha⟩ := new_stem_spec (l := t.1) (r := t.2) hm
      exact fun e => (simple_adj hsim ha).2.2 e.symm
  · rw [hst']
    refine List.pairwise_append.2 ⟨r3, ?_, ?_⟩
    · rw [List.pairwise_map]
      have hKnd : (kept s).Nodup := (kept_sublist s).nodup (List.filter_sublist.nodup hsim.1)
      refine List.Pairwise.imp_of_mem ?_ (List.nodup_iff_pairwise_ne.1 hKnd)
      intro x y hx hy hxy heq
      have hxl := (kept_sublist s).subset hx
      have hyl := (kept_sublist s).subset hy
      obtain ⟨w, hw1, hw2, _⟩ := leaf_stem (mem_leavesOf.1 hyl).2
      rw [hw1] at heq
      have hwx : w = x := heq
      subst hwx
      -- `y` and `w` are adjacent leaves: they are the whole graph
      have hall := adjacent_leaves_all hc hyl hxl hw2
      have hnil : s.nodes.filter (fun v => !(leavesOf s.nodes s.edges).contains v) = [] := by
        apply List.filter_eq_nil_iff.2
        intro v hv
        have hvl : v ∈ leavesOf s.nodes s.edges := by
          cases hall v hv with
          | inl e => exact e ▸ hyl
          | inr e => exact e ▸ hxl
        simp only [List.contains_eq_mem, hvl, decide_true, Bool.not_true, Bool.false_eq_true,
          not_false_eq_true]
      -- so the round empties the graph and drops the stem of its last leaf `c`, which is `y` or `w`: both are kept
      obtain ⟨c, hc'⟩ := (kept_cases s (List.ne_nil_of_mem hxl)).resolve_left (fun h => h.1 hnil) |>.2
      have hnd : (kept s ++ [c]).Nodup := hc' ▸ List.filter_sublist.nodup hsim.1
      have hcK := (List.nodup_append.1 hnd).2.2
      have hcl : c ∈ leavesOf s.nodes s.edges := by
        rw [hc']; exact List.mem_append_right _ (List.mem_singleton.2 rfl)
      cases hall c (mem_leavesOf.1 hcl).1 with
      | inl e => exact hcK y hy c (List.mem_singleton.2 rfl) e.symm
      | inr e => exact hcK w hx c (List.mem_singleton.2 rfl) e.symm
    · intro a ha b hb hab
      obtain ⟨_, _, hadj⟩ := new_stem_spec (l := b.1) (r := b.2) hb
      have h1 := (simple_adj hsim hadj).2.1
      exact (hinv.stem_ok a.1 a.2 ha).2 (hab ▸ h1)

theorem rounds_final {ns : List Nat} {es : List (Nat × Nat)} (hs : Simple ns es) {f : Nat}
    {s : PState} (h : rounds f ⟨ns, es, []⟩ = some s) :
    Inv ns es s ∧ leavesOf s.nodes s.edges = [] ∧ (Connected ns es → Ranked s.stems) := by
  obtain ⟨⟨h1, h2⟩, h3⟩ := rounds_inv (fun s => Inv ns es s ∧ (Connected ns es → Ranked s.stems))
    (fun _ _ hr hi => ⟨inv_round hs hr hi.1, fun hc =>
      ranked_round hs hr hi.1 (hi.1.core_connected (hi.2 hc) hc) (hi.2 hc)⟩) f _ _ h
    ⟨inv_init hs, fun _ => ranked_nil⟩
  exact ⟨h1, round_none h3, h2⟩

open AdaptaVerif.Spec.GraphParts (SameEdge)

theorem hEdges_pairwise {stems : List (Nat × Nat)} (hr : Ranked stems) :
    (hEdges stems).Pairwise (fun e f => ¬ SameEdge e f) := by
  obtain ⟨r1, _, r3⟩ := ranked_iff.1 hr
  unfold hEdges
  rw [List.pairwise_map]
  have r1' : stems.Pairwise (fun a b => a.1 ≠ b.1) := by
    have := List.nodup_iff_pairwise_ne.1 r1
    unfold leafList at this
    exact List.pairwise_map.1 this
  refine List.Pairwise.imp ?_ (r1'.and r3)
  intro a b hab hse
  cases hse with
  | inl h =>
    simp only [Prod.mk.injEq] at h
    exact hab.1 h.2
  | inr h =>
    simp only [Prod.mk.injEq] at h
    exact hab.2 h.2.symm

end AdaptaVerif.Lemmas.PeelModel
