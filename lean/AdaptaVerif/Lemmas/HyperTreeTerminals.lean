/-
C12: every contraction step of `removeZeroLengthEdges` keeps the SET OF TERMINALS (leaves) of the hyperedge tree
(`rzleStep_terminals`), for all trees in which no zero-length non-fixed edge ends at a leaf (`NoLeafZero`) — the
side condition is itself preserved by the step, so it only has to hold at the start of the traversal.
-/
import AdaptaVerif.Lemmas.HyperTreeRzle
namespace AdaptaVerif.Lemmas.HyperTreeTerminals
open AdaptaVerif.Model.HyperTree AdaptaVerif.Check.Tree AdaptaVerif.Spec.Tree AdaptaVerif.Lemmas.HyperTree
open AdaptaVerif.Lemmas.HyperTreeGraph AdaptaVerif.Lemmas.HyperTreeRzle

def ZeroLen (t : HTree) (e : HEdge) : Prop :=
  ∃ na ∈ t.nodes, ∃ nb ∈ t.nodes, e.e1 = some na.id ∧ e.e2 = some nb.id ∧ na.point = nb.point

theorem zeroLen_of_zeroLength {t : HTree} {e : HEdge} (h : zeroLength t e = true) : ZeroLen t e := by
  unfold zeroLength pointOf at h
  split at h
  · rename_i p q hp hq
    split at hp
    · simp at hp
    · rename_i a ha
      split at hq
      · simp at hq
      · rename_i b hb
        simp only [Option.map_eq_some_iff] at hp hq
        obtain ⟨na, hna, rfl⟩ := hp
        obtain ⟨nb, hnb, rfl⟩ := hq
        obtain ⟨h1, h2⟩ := node?_mem hna
        obtain ⟨h3, h4⟩ := node?_mem hnb
        refine ⟨na, h1, nb, h3, by rw [h2]; exact ha, by rw [h4]; exact hb, ?_⟩
        exact pt_beq_iff.mp h
  · simp at h

theorem zeroLength_of_zeroLen {t : HTree} (hw : WF t) {e : HEdge} (h : ZeroLen t e) : zeroLength t e = true := by
  obtain ⟨na, hna, nb, hnb, h1, h2, hp⟩ := h
  unfold zeroLength pointOf
  rw [h1, h2]
  simp only [node?_of_mem hw.nodupN hna, node?_of_mem hw.nodupN hnb, Option.map_some]
  exact pt_beq_iff.mpr hp

/-- no zero-length edge with a non-fixed route ends at a leaf -/
def NoLeafZero (t : HTree) : Prop :=
  ∀ e ∈ t.edges, e.hasFixedRoute = false → ZeroLen t e →
    ∀ a b, Joins e a b → 2 ≤ deg t.graphE a ∧ 2 ≤ deg t.graphE b

/-- the data of a contraction of a zero-length edge -/
structure ZContract (t t' : HTree) (e : HEdge) (tg src : Nat) : Prop where
  tree : Tree t
  mem : e ∈ t.edges
  joins : Joins e tg src
  zero : ZeroLen t e
  free : e.hasFixedRoute = false
  spec : IdentifySpec t e tg tg src t'

theorem ZeroLen.same_point {t : HTree} (hw : WF t) {e : HEdge} (hz : ZeroLen t e) {a b : Nat}
    (hj : Joins e a b) {n m : HNode} (hn : n ∈ t.nodes) (hm : m ∈ t.nodes) (hnid : n.id = a)
    (hmid : m.id = b) : n.point = m.point := by
  obtain ⟨na, hna, nb, hnb, h1, h2, hp⟩ := hz
  rcases hj with ⟨j1, j2⟩ | ⟨j1, j2⟩
  · rw [h1] at j1; rw [h2] at j2
    cases j1; cases j2
    rw [hw.node_eq hn hna hnid, hw.node_eq hm hnb hmid]; exact hp
  · rw [h1] at j1; rw [h2] at j2
    cases j1; cases j2
    rw [hw.node_eq hn hnb hnid, hw.node_eq hm hna hmid]; exact hp.symm

theorem ZContract.point_back {t t' : HTree} {e : HEdge} {tg src : Nat} (h : ZContract t t' e tg src)
    {n' : HNode} (hn' : n' ∈ t'.nodes) {a0 : Nat} (ha0 : a0 ∈ t.graphV) (hid : n'.id = ren src tg a0) :
    ∃ n0 ∈ t.nodes, n0.id = a0 ∧ n0.point = n'.point := by
  obtain ⟨n, hn, _, hk, _⟩ := h.spec.nodes n' hn'
  obtain ⟨n0, hn0, hn0id⟩ := WF.node_of_mem_graphV ha0
  by_cases hsrc : a0 = src
  · subst hsrc
    rw [ren_self] at hid
    refine ⟨n0, hn0, hn0id, ?_⟩
    have : n.point = n0.point := h.zero.same_point h.tree.1 h.joins hn hn0 (by rw [← hk.id, hid]) hn0id
    rw [← this, hk.point]
  · rw [ren_of_ne hsrc] at hid
    have : n = n0 := h.tree.1.node_eq hn hn0 (by rw [← hk.id, hid, hn0id])
    subst this
    exact ⟨n, hn, hn0id, hk.point.symm⟩

theorem ZContract.noLeafZero {t t' : HTree} {e : HEdge} {tg src : Nat} (h : ZContract t t' e tg src)
    (hz : NoLeafZero t) : NoLeafZero t' := by
  have hts : tg ≠ src := h.tree.ne_of_joins h.mem h.joins
  obtain ⟨hdt, hds⟩ := hz e h.mem h.free h.zero tg src h.joins
  intro e' he' hfree' hzero' a' b' hj'
  obtain ⟨x0, hx0, _, hk, he1, he2⟩ := h.spec.edges e' he'
  obtain ⟨a0, b0, hx1, hx2, ha0, hb0⟩ := h.tree.1.ends x0 hx0
  rw [hx1] at he1; rw [hx2] at he2
  simp only [Option.map_some] at he1 he2
  have hzero0 : ZeroLen t x0 := by
    obtain ⟨na', hna', nb', hnb', h1, h2, hp⟩ := hzero'
    rw [he1] at h1; rw [he2] at h2
    have hida : na'.id = ren src tg a0 := (Option.some.inj h1).symm
    have hidb : nb'.id = ren src tg b0 := (Option.some.inj h2).symm
    obtain ⟨n1, hn1, hid1, hp1⟩ := h.point_back hna' ha0 hida
    obtain ⟨n2, hn2, hid2, hp2⟩ := h.point_back hnb' hb0 hidb
    exact ⟨n1, hn1, n2, hn2, by rw [hid1]; exact hx1, by rw [hid2]; exact hx2, by rw [hp1, hp2, hp]⟩
  have hfree0 : x0.hasFixedRoute = false := by rw [← hk.hasFixedRoute]; exact hfree'
  obtain ⟨hda, hdb⟩ := hz x0 hx0 hfree0 hzero0 a0 b0 (Or.inl ⟨hx1, hx2⟩)
  have hdeg : ∀ v0, 2 ≤ deg t.graphE v0 → 2 ≤ deg t'.graphE (ren src tg v0) := by
    intro v0 hv0
    rw [identify_deg h.spec hts hts]
    by_cases hv : v0 = src
    · subst hv
      rw [ren_self]
      simp only [hts, if_false, if_true]
      omega
    · rw [ren_of_ne hv]
      simp only [hv, if_false]
      by_cases hvt : v0 = tg
      · subst hvt
        simp only [if_true]
        omega
      · simp only [hvt, Ne.symm hvt, if_false]
        exact hv0
  rcases hj' with ⟨j1, j2⟩ | ⟨j1, j2⟩
  · rw [he1] at j1; rw [he2] at j2
    cases j1; cases j2
    exact ⟨hdeg a0 hda, hdeg b0 hdb⟩
  · rw [he1] at j1; rw [he2] at j2
    cases j1; cases j2
    exact ⟨hdeg b0 hdb, hdeg a0 hda⟩

theorem ZContract.leaves {t t' : HTree} {e : HEdge} {tg src : Nat} (h : ZContract t t' e tg src)
    (hz : NoLeafZero t) (T : List Nat) (hT : LeavesAre t.graphV t.graphE T) :
    LeavesAre t'.graphV t'.graphE T := by
  obtain ⟨hdt, hds⟩ := hz e h.mem h.free h.zero tg src h.joins
  have hts := h.tree.ne_of_joins h.mem h.joins
  exact identify_leaves h.spec hts hts hdt hds (Or.inl rfl) hT

theorem _root_.AdaptaVerif.Lemmas.HyperTree.Relabel.zeroLen {gN : HNode → HNode} {gE : HEdge → HEdge} {t t1 : HTree} (h : Relabel gN gE t t1)
    (hp : ∀ n, (gN n).point = n.point) (x : HEdge) : ZeroLen t1 (gE x) ↔ ZeroLen t x := by
  constructor
  · rintro ⟨na, hna, nb, hnb, g1, g2, hpt⟩
    obtain ⟨n, hn, rfl⟩ := h.mem_nodes.mp hna
    obtain ⟨m, hm, rfl⟩ := h.mem_nodes.mp hnb
    exact ⟨n, hn, m, hm, by rw [← h.e1, g1, h.nid], by rw [← h.e2, g2, h.nid], by rw [← hp n, ← hp m, hpt]⟩
  · rintro ⟨na, hna, nb, hnb, g1, g2, hpt⟩
    exact ⟨gN na, h.mem_nodes.mpr ⟨na, hna, rfl⟩, gN nb, h.mem_nodes.mpr ⟨nb, hnb, rfl⟩,
      by rw [h.e1, g1, h.nid], by rw [h.e2, g2, h.nid], by rw [hp, hp, hpt]⟩

theorem _root_.AdaptaVerif.Lemmas.HyperTree.Relabel.noLeafZero {gN : HNode → HNode} {gE : HEdge → HEdge} {t t1 : HTree} (h : Relabel gN gE t t1)
    (hp : ∀ n, (gN n).point = n.point) (hf : ∀ x, (gE x).hasFixedRoute = x.hasFixedRoute)
    (hz : NoLeafZero t) : NoLeafZero t1 := by
  intro x1 hx1 hf1 hzl a b hj
  obtain ⟨x, hx, rfl⟩ := h.mem_edges.mp hx1
  rw [h.graphE]
  exact hz x hx ((hf x).symm.trans hf1) ((h.zeroLen hp x).mp hzl) a b (hj.congr (h.e1 x).symm (h.e2 x).symm)

/-- every contraction step of the traversal is a `ZContract` (after the field updates of `rzleDecide` and
    the attribute copy of fix 6964517, which change neither graph, nor positions, nor `hasFixedRoute`) -/
theorem rzleStep_terminals {s s2 : Imp} (ht : Tree s.t) (hz : NoLeafZero s.t) (h : RzleStep s s2)
    (T : List Nat) (hT : LeavesAre s.t.graphV s.t.graphE T) :
    Tree s2.t ∧ NoLeafZero s2.t ∧ LeavesAre s2.t.graphV s2.t.graphE T := by
  obtain ⟨e, sn, tg, src, s1, t2, he, hsn, hl, hdec, hc, rfl⟩ := h.step
  obtain ⟨hfree, hzl, -⟩ := rzleDec_cases hdec
  obtain ⟨gN, gE, hg, hpt, hfx⟩ := rzlePrep_of_dec hdec
  have hj := (rzleDec_joins hdec ht.1 he hsn hl rfl).congr (hg.e1 e) (hg.e2 e)
  have he1 := hg.mem_edges.mpr ⟨e, he, rfl⟩
  obtain ⟨t2', hc', ht2, hspec⟩ := contract_tree (hg.tree ht) he1 hj
  rw [hg.eid, hc] at hc'
  cases hc'
  have hzc : ZContract (rzlePrep s1 e.id tg src) t2 (gE e) tg src :=
    ⟨hg.tree ht, he1, hj, (hg.zeroLen hpt e).mpr (zeroLen_of_zeroLength hzl), (hfx e).trans hfree, hspec⟩
  have hz1 := hg.noLeafZero hpt hfx hz
  exact ⟨ht2, hzc.noLeafZero hz1, hzc.leaves hz1 T (by rw [hg.graphV, hg.graphE]; exact hT)⟩

end AdaptaVerif.Lemmas.HyperTreeTerminals
