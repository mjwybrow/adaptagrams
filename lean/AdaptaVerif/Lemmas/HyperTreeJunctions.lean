/-
C12, junction bookkeeping of the improver model (`m_hyperedge_tree_junctions`, `m_deleted_junctions`,
`m_new_junctions` vs. the junction pointers carried by tree nodes) under `removeZeroLengthEdges`.
-/
import AdaptaVerif.Lemmas.HyperTreeRzle
import AdaptaVerif.Lemmas.HyperTreeJPairs
namespace AdaptaVerif.Lemmas.HyperTreeJunctions
open AdaptaVerif.Model.HyperTree AdaptaVerif.Check.Tree AdaptaVerif.Spec.Tree AdaptaVerif.Lemmas.HyperTree
open AdaptaVerif.Lemmas.HyperTreeRzle
open AdaptaVerif.Lemmas.HyperTreeMove (JPairs JSame JInv' JPairs_modNode_junction JPairs_unique)

def Carried (t : HTree) (j : Nat) : Prop := ∃ n ∈ t.nodes, n.junction = some j

/-- consistency of the improver's junction bookkeeping with the tree -/
structure JInv (s : Imp) : Prop where
  uniq : ∀ n ∈ s.t.nodes, ∀ m ∈ s.t.nodes, ∀ j, n.junction = some j → m.junction = some j → n.id = m.id
  mapSound : ∀ p ∈ s.junctions, ∃ n ∈ s.t.nodes, n.id = p.2 ∧ n.junction = some p.1
  mapComplete : ∀ n ∈ s.t.nodes, ∀ j, n.junction = some j → (j, n.id) ∈ s.junctions
  deleted : ∀ j ∈ s.delJ, ¬ Carried s.t j

theorem jinvb_sound {s : Imp} (h : jinvb s = true) : JInv s := by
  simp only [jinvb, Bool.and_eq_true, List.all_eq_true] at h
  obtain ⟨⟨⟨h1, h2⟩, h3⟩, h4⟩ := h
  refine ⟨?_, ?_, ?_, ?_⟩
  · intro n hn m hm j hj1 hj2
    have := h1 n hn m hm
    simp [hj1, hj2] at this
    exact this
  · intro p hp
    have := h2 p hp
    split at this
    · rename_i n hn
      obtain ⟨hn1, hn2⟩ := node?_mem hn
      exact ⟨n, hn1, hn2, by simpa using this⟩
    · simp at this
  · intro n hn j hj
    have := h3 n hn
    rw [hj] at this
    simpa using this
  · rintro j hj ⟨n, hn, hc⟩
    have := h4 j hj n hn
    simp [hc] at this

/-- heap `t'` keeps the junction attachments of `t`, except that the junction-less node `src` is gone -/
structure SameJunctions (t t' : HTree) (src : Nat) : Prop where
  back : ∀ n' ∈ t'.nodes, ∃ n ∈ t.nodes, n.id = n'.id ∧ n.junction = n'.junction
  fwd : ∀ n ∈ t.nodes, n.id ≠ src → ∃ n' ∈ t'.nodes, n'.id = n.id ∧ n'.junction = n.junction
  srcFree : ∀ n ∈ t.nodes, n.id = src → n.junction = none

theorem SameJunctions.ne_src {t t' : HTree} {src : Nat} (h : SameJunctions t t' src) {n : HNode}
    (hn : n ∈ t.nodes) {j : Nat} (hj : n.junction = some j) : n.id ≠ src := by
  intro hh
  rw [h.srcFree n hn hh] at hj
  cases hj

theorem SameJunctions.carried {t t' : HTree} {src : Nat} (h : SameJunctions t t' src) (j : Nat) :
    Carried t' j ↔ Carried t j := by
  constructor
  · rintro ⟨n', hn', hj⟩
    obtain ⟨n, hn, _, hjn⟩ := h.back n' hn'
    exact ⟨n, hn, hjn.trans hj⟩
  · rintro ⟨n, hn, hj⟩
    obtain ⟨n', hn', _, hjn⟩ := h.fwd n hn (h.ne_src hn hj)
    exact ⟨n', hn', hjn.trans hj⟩

theorem JInv.transfer {s : Imp} {t' : HTree} {src : Nat} (h : JInv s) (hs : SameJunctions s.t t' src) :
    JInv { s with t := t' } := by
  refine ⟨?_, ?_, ?_, ?_⟩
  · intro n' hn' m' hm' j hj1 hj2
    obtain ⟨n, hn, hid1, hjn⟩ := hs.back n' hn'
    obtain ⟨m, hm, hid2, hjm⟩ := hs.back m' hm'
    have := h.uniq n hn m hm j (hjn.trans hj1) (hjm.trans hj2)
    omega
  · intro p hp
    obtain ⟨n, hn, hid, hj⟩ := h.mapSound p hp
    obtain ⟨n', hn', hid', hj'⟩ := hs.fwd n hn (hs.ne_src hn hj)
    exact ⟨n', hn', hid'.trans hid, hj'.trans hj⟩
  · intro n' hn' j hj
    obtain ⟨n, hn, hid, hjn⟩ := hs.back n' hn'
    have := h.mapComplete n hn j (hjn.trans hj)
    rw [hid] at this
    exact this
  · intro j hj hc
    exact h.deleted j hj ((hs.carried j).mp hc)

theorem carried_iff {t : HTree} {j : Nat} : Carried t j ↔ ∃ i, JPairs t j i := by
  constructor
  · rintro ⟨n, hn, hj⟩; exact ⟨n.id, n, hn, rfl, hj⟩
  · rintro ⟨_, n, hn, _, hj⟩; exact ⟨n, hn, hj⟩

theorem jinv_iff' {s : Imp} : JInv s ↔ JInv' s := by
  constructor
  · intro h
    refine ⟨?_, h.mapSound, ?_, fun j hj i hc => h.deleted j hj (carried_iff.mpr ⟨i, hc⟩)⟩
    · rintro j i i' ⟨n, hn, rfl, hj⟩ ⟨m, hm, rfl, hj'⟩
      exact h.uniq n hn m hm j hj hj'
    · rintro j i ⟨n, hn, rfl, hj⟩
      exact h.mapComplete n hn j hj
  · intro h
    exact ⟨fun n hn m hm j hj hj' => h.inj j n.id m.id ⟨n, hn, rfl, hj⟩ ⟨m, hm, rfl, hj'⟩, h.live,
      fun n hn j hj => h.reg j n.id ⟨n, hn, rfl, hj⟩,
      fun j hj hc => (carried_iff.mp hc).elim (h.del j hj)⟩

theorem rzleStep_jpairs {s1 : Imp} (ht1 : Tree s1.t) {e1 : HEdge} {tg src : Nat} (he1 : e1 ∈ s1.t.edges)
    (hj : Joins e1 tg src) {t2 : HTree} (hc : contract (rzlePrep s1 e1.id tg src) e1.id tg src = some t2)
    (j k : Nat) : JPairs t2 j k ↔ (JPairs s1.t j k ∧ k ≠ src) := by
  obtain ⟨gP, hp, hkP⟩ := rzlePrep_relabel s1 e1.id tg src
  obtain ⟨t2', hc', -, hs⟩ := contract_tree (hp.tree ht1) (hp.mem_edges.mpr ⟨e1, he1, rfl⟩) hj
  rw [show (id e1).id = e1.id from rfl, hc] at hc'
  cases hc'
  rw [hs.jpairs (hp.tree ht1).1, hp.jsame (fun n => (hkP n).1) j k]

theorem rzleStep_jinv {s s2 : Imp} (ht : Tree s.t) (hi : JInv s) (h : RzleStep s s2) :
    JInv s2 ∧ (∀ j, (Carried s2.t j ∨ j ∈ s2.delJ) ↔ (Carried s.t j ∨ j ∈ s.delJ)) ∧ s2.newJ = s.newJ := by
  obtain ⟨e, sn, tg, src, s1, t2, he, hsn, hl, hdec, hc, rfl⟩ := h.step
  obtain ⟨gN, gE, hk, -⟩ := rzleDec_relabel hdec
  have hI := jinv_iff'.mp hi
  have h2 := rzleStep_jpairs (hk.tree ht) (hk.mem_edges.mpr ⟨e, he, rfl⟩)
    ((rzleDec_joins hdec ht.1 he hsn hl rfl).congr (hk.e1 e) (hk.e2 e)) (by rw [hk.eid]; exact hc)
  simp only [jinv_iff', carried_iff]
  obtain ⟨-, -, on, honm, -, ⟨rfl, hplain⟩ | ⟨rfl, rfl, oj, sj, hoj, hsj, -, rfl⟩⟩ := rzleDec_cases hdec
  · -- nothing is recorded; the node that goes carries no junction
    have hfree : ∀ j, ¬ JPairs s1.t j src := by
      rintro j ⟨n, hn, hnid, hnj⟩
      rcases hplain with ⟨-, rfl, hnone⟩ | ⟨-, rfl, hnone⟩
      · rw [ht.1.node_eq hn hsn hnid, hnone] at hnj; cases hnj
      · rw [ht.1.node_eq hn honm hnid, hnone] at hnj; cases hnj
    have hJ : JSame s1.t t2 := fun j k =>
      ((h2 j k).trans ⟨fun a => a.1, fun a => ⟨a, fun hk => hfree j (hk ▸ a)⟩⟩).symm
    exact ⟨hI.of_jsame hJ rfl rfl, fun j => by simp only [← hJ j], rfl⟩
  · -- `on` loses its junction `oj`, which is recorded deleted; everything else as before
    have hon : JPairs s.t oj on.id := ⟨on, honm, rfl, hoj⟩
    have h3 : ∀ j k, JPairs t2 j k ↔ (JPairs s.t j k ∧ j ≠ oj) := by
      intro j k
      rw [h2 j k]
      show (JPairs (s.t.modNode on.id (fun x => { x with junction := none })) j k ∧ _) ↔ _
      rw [JPairs_modNode_junction]
      constructor
      · rintro ⟨⟨-, hh, -⟩ | ⟨hk, a⟩, -⟩
        · cases hh
        · exact ⟨a, fun hjo => hk (hI.inj _ _ _ (hjo ▸ a) hon)⟩
      · rintro ⟨a, hjo⟩
        have hk : k ≠ on.id := fun hk => hjo (JPairs_unique ht.1 (hk ▸ a) hon)
        exact ⟨Or.inr ⟨hk, a⟩, hk⟩
    refine ⟨hI.drop h3 (fun p => by show p ∈ s.junctions.filter _ ↔ _; simp) (fun j => by
      show j ∈ s.delJ ++ [oj] ↔ _; simp), fun j => ?_, rfl⟩
    show ((∃ k, JPairs t2 j k) ∨ j ∈ s.delJ ++ [oj]) ↔ _
    simp only [h3, List.mem_append, List.mem_singleton]
    constructor
    · rintro (⟨k, a, -⟩ | hh | rfl)
      · exact Or.inl ⟨k, a⟩
      · exact Or.inr hh
      · exact Or.inl ⟨_, hon⟩
    · rintro (⟨k, a⟩ | hh)
      · by_cases hjo : j = oj
        · exact Or.inr (Or.inr hjo)
        · exact Or.inl ⟨k, a, hjo⟩
      · exact Or.inr (Or.inl hh)

theorem rzleNode_jinv {f : Nat} {s0 : Imp} {self : Nat} {ign : Option Nat} {s' : Imp}
    (ht : Tree s0.t) (hi : JInv s0) (h : rzleNode f s0 self ign = some s') :
    Tree s'.t ∧ JInv s' ∧
      (∀ j, (Carried s'.t j ∨ j ∈ s'.delJ) ↔ (Carried s0.t j ∨ j ∈ s0.delJ)) ∧ s'.newJ = s0.newJ := by
  have := (rzle_inv_all
    (fun s => Tree s.t ∧ JInv s ∧
      (∀ j, (Carried s.t j ∨ j ∈ s.delJ) ↔ (Carried s0.t j ∨ j ∈ s0.delJ)) ∧ s.newJ = s0.newJ)
    (fun s s2 hP hstep => by
      obtain ⟨hT, hJ, hC, hN⟩ := hP
      obtain ⟨hJ2, hC2, hN2⟩ := rzleStep_jinv hT hJ hstep
      exact ⟨rzleStep_tree hT hstep, hJ2, fun j => (hC2 j).trans (hC j), hN2.trans hN⟩) f).1
      s0 self ign s' ⟨ht, hi, fun _ => Iff.rfl, rfl⟩ h
  exact this

end AdaptaVerif.Lemmas.HyperTreeJunctions
