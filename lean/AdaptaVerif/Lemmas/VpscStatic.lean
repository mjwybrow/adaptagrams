/-
Lemmas about the model of the static VPSC solver (`Model/VpscStatic.lean`):
 * the block invariant `InvC` of the IncSolver model (active constraints of a block = a tight spanning
   tree, in/out lists exact) is preserved by the body of the loops of `mergeLeft` / `mergeRight`, by
   `Block::split` and `Block::findMinLM`, for all inputs, in the form `SJ` = fuel flag set or `IC`; `Joins`,
   `mergeLeftStep_eq` / `mergeRightStep_eq` name survivor, merged block and distance of one round.  Along whole
   runs the invariant, with member lists and heap contents, is carried by `PresIf` of
   `Lemmas/VpscStaticRun.lean` (no fuel alternative: `Lemmas/VpscStaticFuel.lean`);
 * what `satisfy` / `solve` can return; the exit scans.
The heap side (`HS`) never writes the variable / constraint / block arrays, so most of the work is
frames; the two merges go through `merge_core`, the split through `split_classify` + `InvC.split`.
-/
import AdaptaVerif.Model.VpscStatic
import AdaptaVerif.Lemmas.VpscLoop
import AdaptaVerif.Lemmas.Util.Array
namespace AdaptaVerif.Lemmas.VpscStatic
open AdaptaVerif.Model.Vpsc AdaptaVerif.Model.VpscStatic
open AdaptaVerif.Lemmas.VpscInv AdaptaVerif.Lemmas.VpscMerge AdaptaVerif.Lemmas.VpscSplit
open AdaptaVerif.Lemmas.VpscLoop AdaptaVerif.Lemmas.VpscTraverse

/-- the block invariant on a state of the static solver: `InvC` with "every constraint" as the list of
    constraints that may be inactive (the static solver keeps no such list) -/
def IC (st : St) : Prop := InvC st.vars st.cons st.blocks.size (Array.range st.cons.size)

/-- … unless one of the tree traversals of `Block::split` ran out of fuel -/
def SJ (st : St) : Prop := st.fuelOut = true ∨ IC st

theorem InvC.toRange {vars : Array Var} {cons : Array Con} {n : Nat} {ia : Array Nat}
    (h : InvC vars cons n ia) : InvC vars cons n (Array.range cons.size) :=
  { h with
    cover := fun _ hj => Or.inr (Or.inr (Array.mem_range.2 hj))
    inact_lt := fun _ hj => Array.mem_range.1 hj }

/-- agreement on everything `SJ` reads -/
def Same (a b : St) : Prop :=
  a.vars = b.vars ∧ a.cons = b.cons ∧ a.blocks.size = b.blocks.size ∧ a.fuelOut = b.fuelOut

theorem Same.trans {a b c : St} (h1 : Same a b) (h2 : Same b c) : Same a c :=
  ⟨h1.1.trans h2.1, h1.2.1.trans h2.2.1, h1.2.2.1.trans h2.2.2.1, h1.2.2.2.trans h2.2.2.2⟩

theorem IC.of_same {a b : St} (hs : Same a b) (h : IC b) : IC a := by
  obtain ⟨hv, hc, hb, _⟩ := hs
  unfold IC at *
  rw [hv, hc, hb]
  exact h

theorem SJ.of_same {a b : St} (hs : Same a b) (h : SJ b) : SJ a :=
  h.imp (fun hf => hs.2.2.2.trans hf) (IC.of_same hs)

theorem same_insertBlocks (st : St) (a b : Nat) : Same (st.insertBlocks a b) st := ⟨rfl, rfl, rfl, rfl⟩
theorem same_cleanup (st : St) : Same st.cleanup st := ⟨rfl, rfl, rfl, rfl⟩
theorem same_setPosn (st : St) (b : Nat) (p : Rat) : Same (setPosn st b p) st := by
  simp [Same, setPosn]
theorem same_markDeleted (st : St) (b : Nat) : Same (st.markDeleted b) st := by
  simp [Same, St.markDeleted]
theorem same_refreshBlock (st : St) (b : Nat) : Same (st.refreshBlock b) st := by
  obtain ⟨a, b', c, _, e⟩ := refreshBlock_core st b
  exact ⟨a, b', c, e⟩

theorem mergeDir_core (st : St) (ci dst src : Nat) (d : Rat) :
    (mergeDir st ci dst src d).vars = shiftVars st.vars src dst d ∧
    (mergeDir st ci dst src d).cons = st.cons.set! ci { st.cons[ci]! with active := true } ∧
    (mergeDir st ci dst src d).blocks.size = st.blocks.size ∧
    (mergeDir st ci dst src d).fuelOut = st.fuelOut := by
  simp [mergeDir, St.refreshBlock]

theorem external_lt (st : St) (ci : Nat)
    (hne : blk st.vars (st.cons[ci]!).l ≠ blk st.vars (st.cons[ci]!).r) : ci < st.cons.size := by
  by_contra hge
  apply hne
  rw [getElem!_neg st.cons ci hge]
  rfl

/-- `dst->merge(src, ci, d)` is the merge of the two different blocks that constraint `ci` joins, and `d` is
    the violation of `ci` in offsets, signed by the direction of the merge -/
def Joins (st : St) (ci dst src : Nat) (d : Rat) : Prop :=
  blk st.vars (st.cons[ci]!).l ≠ blk st.vars (st.cons[ci]!).r ∧
  VpscModel.MergeDir st.vars (st.cons[ci]!) src dst d

theorem mergeDir_IC (st : St) (ci dst src : Nat) (d : Rat) (h : IC st) (hj : Joins st ci dst src d) :
    IC (mergeDir st ci dst src d) := by
  obtain ⟨hv, hc, hb, _⟩ := mergeDir_core st ci dst src d
  unfold IC
  rw [hv, hc, hb, Util.set!_size]
  exact merge_core st.vars st.cons st.blocks.size _ h ci (external_lt st ci hj.1) hj.1 src dst d hj.2

theorem mergeDir_SJ (st : St) (ci dst src : Nat) (d : Rat) (h : SJ st) (hj : Joins st ci dst src d) :
    SJ (mergeDir st ci dst src d) := by
  rcases h with h | h
  · left; rw [(mergeDir_core st ci dst src d).2.2.2]; exact h
  · exact Or.inr (mergeDir_IC st ci dst src d h hj)

theorem internal_false (st : St) (c : Nat) (h : internal st c = false) :
    blk st.vars (st.cons[c]!).l ≠ blk st.vars (st.cons[c]!).r := by
  unfold internal blkOf at h
  simpa [blk] using h

/-- `b->timeStamp = blockTimeCtr;` -/
def stampB (hs : HS) (b : Nat) : HS := { hs with bts := hs.bts.set! b hs.ctr }

/-- the body of the loop of `mergeLeft` with the three `swap ? … : …` of the code named: the survivor `dst`,
    the block `src` merged into it, the distance `d`; `Joins` holds when `c` came out of `r`'s in-heap -/
theorem mergeLeftStep_eq (s : SSt) (r c : Nat) : ∃ dst src d,
    (mergeLeftStep s r c).1.st = mergeDir s.st c dst src d ∧
    (mergeLeftStep s r c).1.hs =
      stampB (mergeIn (mergeDir s.st c dst src d) ((mergeLeftPre s r c).checkExact (mergeDir s.st c dst src d) dst)
        dst src) dst ∧
    (mergeLeftStep s r c).2 = dst ∧
    (internal s.st c = false → blkOf s.st (s.st.cons[c]!).r = r → Joins s.st c dst src d) := by
  -- reduce the `let`s and projections first: left to the three `rfl`, that costs ten times as much
  unfold mergeLeftStep
  simp only
  refine ⟨_, _, _, rfl, rfl, rfl, fun hint hr => ⟨internal_false s.st c hint, ?_⟩⟩
  split
  · right; exact ⟨hr.symm, rfl, rfl⟩
  · left; exact ⟨rfl, hr.symm, rfl⟩

theorem mergeLeftStep_SJ (s : SSt) (r c : Nat) (h : SJ s.st) (hint : internal s.st c = false)
    (hr : blkOf s.st (s.st.cons[c]!).r = r) : SJ (mergeLeftStep s r c).1.st := by
  obtain ⟨dst, src, d, he, _, _, hj⟩ := mergeLeftStep_eq s r c
  rw [he]
  exact mergeDir_SJ _ _ _ _ _ h (hj hint hr)

theorem mergeRightStep_eq (s : SSt) (l c : Nat) : ∃ dst src d,
    (mergeRightStep s l c).1.st = mergeDir s.st c dst src d ∧
    (mergeRightStep s l c).1.hs =
      mergeOut (mergeDir s.st c dst src d) ((mergeRightPre s l c).checkExact (mergeDir s.st c dst src d) dst)
        dst src ∧
    (mergeRightStep s l c).2 = dst ∧
    (internal s.st c = false → blkOf s.st (s.st.cons[c]!).l = l → Joins s.st c dst src d) := by
  unfold mergeRightStep
  simp only
  refine ⟨_, _, _, rfl, rfl, rfl, fun hint hl => ⟨internal_false s.st c hint, ?_⟩⟩
  split
  · left
    refine ⟨hl.symm, rfl, ?_⟩
    grind
  · right
    refine ⟨rfl, hl.symm, ?_⟩
    grind

theorem mergeRightStep_SJ (s : SSt) (l c : Nat) (h : SJ s.st) (hint : internal s.st c = false)
    (hl : blkOf s.st (s.st.cons[c]!).l = l) : SJ (mergeRightStep s l c).1.st := by
  obtain ⟨dst, src, d, he, _, _, hj⟩ := mergeRightStep_eq s l c
  rw [he]
  exact mergeDir_SJ _ _ _ _ _ h (hj hint hl)

theorem split_ia (st : St) (ci : Nat) (ia : Array Nat) (h : InvC st.vars st.cons st.blocks.size ia)
    (hci : ci < st.cons.size) (hact : (st.cons[ci]!).active = true)
    (hfo : (st.split (blk st.vars (st.cons[ci]!).l) ci).1.fuelOut = false) :
    InvC (st.split (blk st.vars (st.cons[ci]!).l) ci).1.vars
      (st.split (blk st.vars (st.cons[ci]!).l) ci).1.cons
      (st.split (blk st.vars (st.cons[ci]!).l) ci).1.blocks.size
      (ia.push ci) := by
  obtain ⟨P1, P2, hP1, hP2, hv, hc, hb, hf, _⟩ := split_eq st (blk st.vars (st.cons[ci]!).l) ci
  rw [hf, Bool.or_eq_false_iff, Bool.or_eq_false_iff, Bool.not_eq_false', Bool.not_eq_false'] at hfo
  rw [hv, hc, hb]
  exact InvC.split h hci hact (split_classify _ _ _ ia h ci hci hact _ _ _ hP1 hP2 hfo.1.2 hfo.2)

theorem split_fuel_true (st : St) (old ci : Nat) (h : st.fuelOut = true) :
    (st.split old ci).1.fuelOut = true := by
  rw [split_fst_fuelOut, h]
  rfl

theorem split_SJ (st : St) (ci : Nat) (h : SJ st) (hact : (st.cons[ci]!).active = true) :
    SJ (st.split (blk st.vars (st.cons[ci]!).l) ci).1 := by
  by_cases hfo : (st.split (blk st.vars (st.cons[ci]!).l) ci).1.fuelOut = true
  · exact Or.inl hfo
  · have hfo' : (st.split (blk st.vars (st.cons[ci]!).l) ci).1.fuelOut = false := by simpa using hfo
    rcases h with h | h
    · rw [split_fuel_true st _ ci h] at hfo'; exact absurd hfo' (by simp)
    · right
      exact InvC.toRange (split_ia st ci _ h (active_lt _ _ hact) hact hfo')

theorem splitPre_st (s : SSt) (b c : Nat) :
    (splitPre s b c).1.st =
      setPosn ((s.st.split b c).1.insertBlocks (s.st.split b c).2.1 (s.st.split b c).2.2)
        (s.st.split b c).2.2 (s.st.blocks[b]!).posn := rfl

theorem splitMid_st (s : SSt) (c : Nat) :
    (splitMid s c).1.st = s.st.refreshBlock (blkOf s.st (s.st.cons[c]!).r) := rfl

theorem computeDfdv_post_blk (st : St) (bid fuel : Nat) (lm : Array Rat) (v : Nat) (u : Option Nat) :
    ∀ ci ∈ (computeDfdv st bid fuel lm #[] v u).2.1, (st.cons[ci]!).active = true ∧
      (blk st.vars (st.cons[ci]!).r = bid ∨ blk st.vars (st.cons[ci]!).l = bid) := fun ci hci =>
  (computeDfdv_post_mem st bid fuel lm #[] v u ci hci).elim (fun h => absurd h (Array.not_mem_empty ci))
    fun ⟨ha, fwd, hb⟩ => ⟨ha, by cases fwd; exact Or.inr hb; exact Or.inl hb⟩

theorem findMinLM_blk (st : St) (bid : Nat) {n : Nat} {ia : Array Nat} (h : InvC st.vars st.cons n ia)
    (ci : Nat) (lmv gap : Rat) (hr : (st.findMinLM bid).2 = some (ci, lmv, gap)) :
    blk st.vars (st.cons[ci]!).l = bid := by
  unfold St.findMinLM at hr
  simp only at hr
  have hm := argMinFirst_mem _ _ _ _ hr
  simp only [Array.mem_map, Array.mem_filter] at hm
  obtain ⟨cj, ⟨hcj, _⟩, heq⟩ := hm
  simp only [Prod.mk.injEq] at heq
  obtain ⟨rfl, _⟩ := heq
  obtain ⟨ha, hb⟩ := computeDfdv_post_blk st bid (st.vars.size + 1) st.lm _ none cj hcj
  rcases hb with hb | hb
  · rw [(h.tight cj (active_lt _ _ ha) ha).1]; exact hb
  · exact hb

theorem findMinLM_SJ (st : St) (b : Nat) (h : SJ st) : SJ (st.findMinLM b).1 := by
  obtain ⟨hv, hc, hb, _, hf, _⟩ := findMinLM_spec st b
  by_cases hfo : (st.findMinLM b).1.fuelOut = true
  · exact Or.inl hfo
  · have hfo' : (st.findMinLM b).1.fuelOut = false := by simpa using hfo
    rcases h with h | h
    · rw [hf hfo'] at h; exact absurd h (by simp)
    · right
      unfold IC
      rw [hv, hc, hb]
      exact h

theorem init_SJ (vs : Array (Rat × Rat × Rat)) (cs : Array Con)
    (hv : ∀ c ∈ cs, c.l < vs.size ∧ c.r < vs.size ∧ c.unsat = false) : SJ (SSt.init vs cs).st :=
  Or.inr (InvC.toRange (init_inv vs cs hv))

theorem satisfy_ok (s : SSt) : ∀ pos ret, (s.satisfy).2 = .ok pos ret →
    (s.satisfy).1.bad = false ∧ scanStatic (s.satisfy).1.st = true ∧ pos = (s.satisfy).1.st.positions := by
  unfold SSt.satisfy
  simp only
  split
  · exact fun _ _ h => by cases h
  · split
    · rename_i hb hs
      intro pos ret h
      simp only [Outcome.ok.injEq] at h
      exact ⟨by simpa using hb, hs, h.1.symm⟩
    · exact fun _ _ h => by cases h

theorem solve_ok (s : SSt) : ∀ pos ret, (s.solve).2 = .ok pos ret →
    (s.solve).1.bad = false ∧ scanStatic (s.solve).1.st = true ∧ pos = (s.solve).1.st.positions := by
  unfold SSt.solve
  split
  · simp only
    split
    · exact fun _ _ h => by cases h
    · split
      · rename_i hb hs
        intro pos ret h
        simp only [Outcome.ok.injEq] at h
        exact ⟨by simpa using hb, hs, h.1.symm⟩
      · exact fun _ _ h => by cases h
  · rename_i r hne
    intro pos ret h
    cases hr : s.satisfy with
    | mk a o =>
      rw [hr] at h
      simp only at h
      exact absurd (by rw [hr, h]) (hne a pos ret)

theorem satisfy_outcome_bad (u : SSt) (hu : (u.satisfy).2 = .outOfFuel) : (u.satisfy).1.bad = true := by
  unfold SSt.satisfy at hu ⊢
  simp only at hu ⊢
  by_cases hbad : ({ satisfyCore u with hs := noteScan (satisfyCore u).st (satisfyCore u).hs } : SSt).bad = true
  · rw [if_pos hbad]; exact hbad
  · rw [if_neg hbad] at hu
    split at hu <;> cases hu

theorem solve_outcome_bad (t : SSt) (ht : (t.solve).2 = .outOfFuel) : (t.solve).1.bad = true := by
  unfold SSt.solve at ht ⊢
  split at ht
  · rename_i s1 p r heq
    simp only at ht ⊢
    by_cases hbad : ({ refineCore s1 with hs := noteScan (refineCore s1).st (refineCore s1).hs } : SSt).bad = true
    · rw [if_pos hbad]; exact hbad
    · rw [if_neg hbad] at ht
      split at ht <;> cases ht
  · rename_i r hne
    exact satisfy_outcome_bad t ht

theorem ok_or_threw {r : SSt × Outcome} (hb : r.1.bad = false) (ho : r.2 = .outOfFuel → r.1.bad = true) :
    (∃ s pos ret, r = (s, .ok pos ret)) ∨ (∃ s, r = (s, .threw)) := by
  obtain ⟨s, o⟩ := r
  cases o with
  | ok pos ret => exact Or.inl ⟨s, pos, ret, rfl⟩
  | threw => exact Or.inr ⟨s, rfl⟩
  | outOfFuel => rw [ho rfl] at hb; cases hb

theorem scanStatic_iff (st : St) :
    scanStatic st = true ↔ ∀ ci : Nat, ci < st.cons.size → ZERO_UPPERBOUND ≤ rawSlack st ci := by
  unfold scanStatic
  simp [List.all_eq_true]

theorem bad_false (s : SSt) (h : s.bad = false) : s.st.fuelOut = false ∧ s.hs.fuelOut = false := by
  unfold SSt.bad at h
  simp only [Bool.or_eq_false_iff] at h
  exact ⟨h.2, h.1⟩

end AdaptaVerif.Lemmas.VpscStatic
