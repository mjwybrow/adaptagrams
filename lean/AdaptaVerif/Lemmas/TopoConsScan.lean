/-
C13: the plane scan of the `TopologyConstraints` constructor (`Model.TopoCons.scan`, a fold of
`step` over the sorted event list) creates exactly the StraightConstraints of the closed form
`Model.TopoCons.consClosed` (per node event: which nodes / segments are open, written as filters
over the scene).  `Inv` says which nodes and segments are open after a prefix of the sorted events;
`scan_records`: whatever the run records (on `scanNO`, of which `scan` is the first component) is
recorded at an event of the scene in such a state.
-/
import AdaptaVerif.Model.TopoCons
import AdaptaVerif.Lemmas.Util.List
import Mathlib.Tactic.Linarith
import Mathlib.Algebra.Order.Field.Rat
namespace AdaptaVerif.Lemmas.TopoConsScan
open AdaptaVerif.Model.TopoCons

/-- tie order induced by the tie-break numbers -/
def bOof (tb : Ev → Nat) (m n : Node) : Bool := decide (tb (.nodeOpen m) < tb (.nodeOpen n))
def bCof (tb : Ev → Nat) (m n : Node) : Bool := decide (tb (.nodeClose m) < tb (.nodeClose n))

theorem evLe_iff (d : Nat) (tb : Ev → Nat) (a b : Ev) :
    evLe d tb a b = true ↔
      a.pos d < b.pos d ∨
        (a.pos d = b.pos d ∧ (a.rank < b.rank ∨ (a.rank = b.rank ∧ tb a ≤ tb b))) := by
  simp [evLe]

theorem evLe_refl (d : Nat) (tb : Ev → Nat) (a : Ev) : evLe d tb a a = true := by
  rw [evLe_iff]; exact Or.inr ⟨rfl, Or.inr ⟨rfl, Nat.le_refl _⟩⟩

theorem evLe_total (d : Nat) (tb : Ev → Nat) (a b : Ev) : (evLe d tb a b || evLe d tb b a) = true := by
  rw [Bool.or_eq_true, evLe_iff, evLe_iff]
  rcases lt_trichotomy (a.pos d) (b.pos d) with h | h | h
  · exact Or.inl (Or.inl h)
  · rcases Nat.lt_trichotomy a.rank b.rank with r | r | r
    · exact Or.inl (Or.inr ⟨h, Or.inl r⟩)
    · rcases Nat.le_total (tb a) (tb b) with t | t
      · exact Or.inl (Or.inr ⟨h, Or.inr ⟨r, t⟩⟩)
      · exact Or.inr (Or.inr ⟨h.symm, Or.inr ⟨r.symm, t⟩⟩)
    · exact Or.inr (Or.inr ⟨h.symm, Or.inl r⟩)
  · exact Or.inr (Or.inl h)

theorem evLe_trans (d : Nat) (tb : Ev → Nat) (a b c : Ev)
    (h1 : evLe d tb a b = true) (h2 : evLe d tb b c = true) : evLe d tb a c = true := by
  rw [evLe_iff] at *
  rcases h1 with h1 | ⟨h1, h1'⟩
  · rcases h2 with h2 | ⟨h2, _⟩
    · exact Or.inl (lt_trans h1 h2)
    · exact Or.inl (by linarith)
  · rcases h2 with h2 | ⟨h2, h2'⟩
    · exact Or.inl (by linarith)
    · refine Or.inr ⟨h1.trans h2, ?_⟩
      omega

theorem mem_mkEvents_nodeOpen (d : Nat) (nodes : List Node) (segs : List Seg) (n : Node) :
    Ev.nodeOpen n ∈ mkEvents d nodes segs ↔ n ∈ nodes := by
  simp [mkEvents]

theorem mem_mkEvents_nodeClose (d : Nat) (nodes : List Node) (segs : List Seg) (n : Node) :
    Ev.nodeClose n ∈ mkEvents d nodes segs ↔ n ∈ nodes := by
  simp [mkEvents]

theorem mem_mkEvents_segOpen (d : Nat) (nodes : List Node) (segs : List Seg) (s : Seg) :
    Ev.segOpen s ∈ mkEvents d nodes segs ↔ s ∈ segs ∧ s.parallel d = false := by
  simp [mkEvents]

theorem mem_mkEvents_segClose (d : Nat) (nodes : List Node) (segs : List Seg) (s : Seg) :
    Ev.segClose s ∈ mkEvents d nodes segs ↔ s ∈ segs ∧ s.parallel d = false := by
  simp [mkEvents]

theorem eq_of_id_eq {nodes : List Node} (hids : nodes.Pairwise (fun a b => a.id ≠ b.id))
    {m n : Node} (hm : m ∈ nodes) (hn : n ∈ nodes) (h : m.id = n.id) : m = n :=
  Classical.byContradiction fun hne => Util.pairwise_of_symm_ne (fun _ _ => Ne.symm) hids hm hn hne h

theorem eq_of_sameSeg {segs : List Seg}
    (hsegs : segs.Pairwise (fun a b => ¬ (a.edge = b.edge ∧ a.idx = b.idx)))
    {s t : Seg} (hs : s ∈ segs) (ht : t ∈ segs) (h : sameSeg s t = true) : s = t :=
  Classical.byContradiction fun hne =>
    Util.pairwise_of_symm_ne (fun _ _ hn e => hn ⟨e.1.symm, e.2.symm⟩) hsegs hs ht hne
      (by simpa [sameSeg] using h)

theorem nodup_mkEvents (d : Nat) (nodes : List Node) (segs : List Seg)
    (hids : nodes.Pairwise (fun a b => a.id ≠ b.id))
    (hsegs : segs.Pairwise (fun a b => ¬ (a.edge = b.edge ∧ a.idx = b.idx))) :
    (mkEvents d nodes segs).Nodup := by
  unfold mkEvents
  rw [List.nodup_append]
  refine ⟨?_, ?_, ?_⟩
  · unfold List.Nodup
    rw [List.pairwise_flatMap]
    refine ⟨fun a _ => by simp, hids.imp ?_⟩
    intro a b hab x hx y hy
    have : a ≠ b := fun h => hab (by rw [h])
    simp only [List.mem_cons, List.not_mem_nil, or_false] at hx hy
    rcases hx with rfl | rfl <;> rcases hy with rfl | rfl <;> simp [this]
  · unfold List.Nodup
    rw [List.pairwise_flatMap]
    refine ⟨fun a _ => by simp, (hsegs.filter _).imp ?_⟩
    intro a b hab x hx y hy
    have : a ≠ b := fun h => hab (by rw [h]; exact ⟨rfl, rfl⟩)
    simp only [List.mem_cons, List.not_mem_nil, or_false] at hx hy
    rcases hx with rfl | rfl <;> rcases hy with rfl | rfl <;> simp [this]
  · intro a ha b hb
    simp only [List.mem_flatMap, List.mem_cons, List.not_mem_nil, or_false] at ha hb
    rcases ha with ⟨_, _, rfl | rfl⟩ <;> rcases hb with ⟨_, _, rfl | rfl⟩ <;> simp

theorem seg_lo_le_hi (s : Seg) (d : Nat) : s.lo d ≤ s.hi d := by
  unfold Seg.lo Seg.hi
  split <;> split <;> linarith

theorem seg_lo_eq_hi_of_parallel (s : Seg) (d : Nat) (h : s.parallel d = true) : s.lo d = s.hi d := by
  have h' : s.s.pos (conj d) = s.e.pos (conj d) := by simpa [Seg.parallel] using h
  unfold Seg.lo Seg.hi
  rw [h']; simp

theorem parallel_false_of_lo_lt_hi {d : Nat} {sg : Seg} (h : sg.lo d < sg.hi d) :
    sg.parallel d = false := by
  cases hp : sg.parallel d
  · rfl
  · exact absurd (seg_lo_eq_hi_of_parallel sg d hp) (ne_of_lt h)

/-- the hypotheses on the scene: node ids and segment names are unique, no node of zero height -/
structure Scene0 (d : Nat) (nodes : List Node) (segs : List Seg) : Prop where
  hids : nodes.Pairwise (fun a b => a.id ≠ b.id)
  hsegs : segs.Pairwise (fun a b => ¬ (a.edge = b.edge ∧ a.idx = b.idx))
  hpos : ∀ n ∈ nodes, n.r.lo (conj d) < n.r.hi (conj d)

/-- ... and the tie-break numbers order the NodeOpen (NodeClose) events of different nodes -/
structure Scene (d : Nat) (tb : Ev → Nat) (nodes : List Node) (segs : List Seg) : Prop
    extends Scene0 d nodes segs where
  htbO : ∀ m ∈ nodes, ∀ n ∈ nodes, m.id ≠ n.id → tb (.nodeOpen m) ≠ tb (.nodeOpen n)
  htbC : ∀ m ∈ nodes, ∀ n ∈ nodes, m.id ≠ n.id → tb (.nodeClose m) ≠ tb (.nodeClose n)

-- `ev` is an event of the sorted list, `pre` the events processed before it
def Split (d : Nat) (tb : Ev → Nat) (nodes : List Node) (segs : List Seg)
    (pre : List Ev) (ev : Ev) (post : List Ev) : Prop :=
  sortEvents d tb (mkEvents d nodes segs) = pre ++ ev :: post

section split
variable {d : Nat} {tb : Ev → Nat} {nodes : List Node} {segs : List Seg}
  {pre post : List Ev} {ev : Ev}

theorem exists_split_of_mem {e : Ev} (he : e ∈ mkEvents d nodes segs) :
    ∃ p q, Split d tb nodes segs p e q :=
  List.append_of_mem (List.mem_mergeSort.2 he)

theorem Split.mem_iff (h : Split d tb nodes segs pre ev post) (e : Ev) :
    e ∈ mkEvents d nodes segs ↔ e ∈ pre ∨ e = ev ∨ e ∈ post := by
  have := (List.mergeSort_perm (mkEvents d nodes segs) (evLe d tb)).mem_iff (a := e)
  unfold Split sortEvents at h
  rw [h] at this
  rw [← this]; simp

theorem Split.sorted (h : Split d tb nodes segs pre ev post) :
    (pre ++ ev :: post).Pairwise (fun a b => evLe d tb a b = true) := by
  unfold Split sortEvents at h
  rw [← h]
  exact List.pairwise_mergeSort (evLe_trans d tb) (evLe_total d tb) _

theorem Split.le_of_mem_pre (h : Split d tb nodes segs pre ev post) {e : Ev} (he : e ∈ pre) :
    evLe d tb e ev = true :=
  (List.pairwise_append.1 h.sorted).2.2 e he ev (List.mem_cons_self)

theorem Split.le_of_mem_post (h : Split d tb nodes segs pre ev post) {e : Ev} (he : e ∈ post) :
    evLe d tb ev e = true :=
  (List.pairwise_cons.1 (List.pairwise_append.1 h.sorted).2.1).1 e he

theorem Split.mem_pre (h : Split d tb nodes segs pre ev post) {e : Ev}
    (he : e ∈ mkEvents d nodes segs) (hlt : evLe d tb ev e = false) : e ∈ pre := by
  rcases (h.mem_iff e).1 he with h1 | rfl | h1
  · exact h1
  · rw [evLe_refl] at hlt; cases hlt
  · rw [h.le_of_mem_post h1] at hlt; cases hlt

theorem Split.self_not_mem_pre (h : Split d tb nodes segs pre ev post)
    (sc : Scene0 d nodes segs) : ev ∉ pre := by
  have hn : (pre ++ ev :: post).Nodup := by
    unfold Split sortEvents at h
    rw [← h]
    exact (List.mergeSort_perm _ _).nodup_iff.2 (nodup_mkEvents d nodes segs sc.hids sc.hsegs)
  intro he
  exact (List.nodup_append.1 hn).2.2 ev he ev List.mem_cons_self rfl

theorem Split.mem_pre_sub (h : Split d tb nodes segs pre ev post) {e : Ev} (he : e ∈ pre) :
    e ∈ mkEvents d nodes segs := (h.mem_iff e).2 (Or.inl he)

theorem Split.ev_mem (h : Split d tb nodes segs pre ev post) : ev ∈ mkEvents d nodes segs :=
  (h.mem_iff ev).2 (Or.inr (Or.inl rfl))

/-! `evLe` is the lexicographic `≤` on (position, kind, tie-break); `evLt` is its strict part. -/

def evLt (d : Nat) (tb : Ev → Nat) (a b : Ev) : Prop :=
  a.pos d < b.pos d ∨ (a.pos d = b.pos d ∧ (a.rank < b.rank ∨ (a.rank = b.rank ∧ tb a < tb b)))

theorem evLe_eq_false_iff (d : Nat) (tb : Ev → Nat) (a b : Ev) :
    evLe d tb a b = false ↔ evLt d tb b a := by
  rw [← Bool.not_eq_true, evLe_iff, evLt]
  rcases lt_trichotomy (a.pos d) (b.pos d) with h | h | h
  · exact iff_of_false (fun hn => hn (Or.inl h)) fun hr => hr.elim (lt_asymm h) fun e => h.ne' e.1
  · simp only [h, lt_self_iff_false, true_and, false_or]; omega
  · exact iff_of_true (fun hl => hl.elim (lt_asymm h) fun e => h.ne' e.1) (Or.inl h)

theorem Split.mem_pre_iff_lt (h : Split d tb nodes segs pre ev post) {e : Ev}
    (he : e ∈ mkEvents d nodes segs) (hne : e.rank ≠ ev.rank ∨ tb e ≠ tb ev) :
    e ∈ pre ↔ evLt d tb e ev := by
  rw [← evLe_eq_false_iff]
  refine ⟨fun hp => ?_, h.mem_pre he⟩
  rw [evLe_eq_false_iff]
  rcases (evLe_iff d tb e ev).1 (h.le_of_mem_pre hp) with hlt | ⟨hp, hr | ⟨hr, ht⟩⟩
  · exact Or.inl hlt
  · exact Or.inr ⟨hp, Or.inl hr⟩
  · exact Or.inr ⟨hp, Or.inr ⟨hr, lt_of_le_of_ne ht (hne.resolve_left (not_not.2 hr))⟩⟩

theorem Split.mem_pre_of_rank_lt (h : Split d tb nodes segs pre ev post) {e : Ev}
    (he : e ∈ mkEvents d nodes segs) (hr : e.rank < ev.rank) : e ∈ pre ↔ e.pos d ≤ ev.pos d := by
  rw [h.mem_pre_iff_lt he (Or.inl hr.ne)]
  simp only [evLt, hr, true_or, and_true, le_iff_lt_or_eq]

theorem Split.mem_pre_of_rank_gt (h : Split d tb nodes segs pre ev post) {e : Ev}
    (he : e ∈ mkEvents d nodes segs) (hr : ev.rank < e.rank) : e ∈ pre ↔ e.pos d < ev.pos d := by
  rw [h.mem_pre_iff_lt he (Or.inl hr.ne')]
  simp only [evLt, Nat.lt_asymm hr, hr.ne', false_and, or_false, and_false]

theorem Split.mem_pre_of_rank_eq (h : Split d tb nodes segs pre ev post) {e : Ev}
    (he : e ∈ mkEvents d nodes segs) (hr : e.rank = ev.rank) (ht : tb e ≠ tb ev) :
    e ∈ pre ↔ e.pos d < ev.pos d ∨ (e.pos d = ev.pos d ∧ tb e < tb ev) := by
  rw [h.mem_pre_iff_lt he (Or.inr ht)]
  simp only [evLt, hr, Nat.lt_irrefl, false_or, true_and]

end split

def Inv (pre : List Ev) (st : ScanSt) : Prop :=
  (∀ m, m ∈ st.openNodes ↔ Ev.nodeOpen m ∈ pre ∧ Ev.nodeClose m ∉ pre) ∧
  (∀ s, s ∈ st.openSegs ↔ Ev.segOpen s ∈ pre ∧ Ev.segClose s ∉ pre)

theorem inv_nil : Inv [] ({} : ScanSt) := by
  constructor <;> intro _ <;> simp

section inv
variable {d : Nat} {tb : Ev → Nat} {nodes : List Node} {segs : List Seg}
  {pre post : List Ev} {ev : Ev} {st : ScanSt}

theorem inv_step (sc : Scene0 d nodes segs) (h : Split d tb nodes segs pre ev post)
    (hi : Inv pre st) : Inv (pre ++ [ev]) (step d st ev) := by
  cases ev with
  | nodeOpen n =>
    have hn : n ∈ nodes := (mem_mkEvents_nodeOpen d nodes segs n).1 h.ev_mem
    have hc : Ev.nodeClose n ∉ pre := fun hmem =>
      absurd ((h.mem_pre_of_rank_lt ((mem_mkEvents_nodeClose d nodes segs n).2 hn)
        (by simp [Ev.rank])).1 hmem) (not_le.2 (sc.hpos n hn))
    constructor
    · intro m
      simp only [step, List.mem_append, List.mem_singleton, hi.1 m, Ev.nodeOpen.injEq, reduceCtorEq,
        or_false]
      constructor
      · rintro (⟨a, b⟩ | rfl)
        · exact ⟨Or.inl a, b⟩
        · exact ⟨Or.inr rfl, hc⟩
      · rintro ⟨a | rfl, b⟩
        · exact Or.inl ⟨a, b⟩
        · exact Or.inr rfl
    · intro s
      simp [step, hi.2 s]
  | nodeClose n =>
    have hn : n ∈ nodes := (mem_mkEvents_nodeClose d nodes segs n).1 h.ev_mem
    constructor
    · intro m
      simp only [step, List.mem_filter, List.mem_append, List.mem_singleton, hi.1 m,
        Ev.nodeClose.injEq, reduceCtorEq, or_false, bne_iff_ne, ne_eq, not_or]
      constructor
      · rintro ⟨⟨a, b⟩, c⟩
        exact ⟨a, b, fun e => c (by rw [e])⟩
      · rintro ⟨a, b, c⟩
        have hm : m ∈ nodes := (mem_mkEvents_nodeOpen d nodes segs m).1 (h.mem_pre_sub a)
        exact ⟨⟨a, b⟩, fun e => c (eq_of_id_eq sc.hids hm hn e)⟩
    · intro s
      simp [step, hi.2 s]
  | segOpen s =>
    have hc : Ev.segClose s ∉ pre := fun hmem =>
      absurd ((h.mem_pre_of_rank_gt ((mem_mkEvents_segClose d nodes segs s).2
        ((mem_mkEvents_segOpen d nodes segs s).1 h.ev_mem)) (by simp [Ev.rank])).1 hmem)
        (not_lt.2 (seg_lo_le_hi s d))
    constructor
    · intro m
      simp [step, hi.1 m]
    · intro t
      simp only [step, List.mem_append, List.mem_singleton, hi.2 t, Ev.segOpen.injEq, reduceCtorEq,
        or_false]
      constructor
      · rintro (⟨a, b⟩ | rfl)
        · exact ⟨Or.inl a, b⟩
        · exact ⟨Or.inr rfl, hc⟩
      · rintro ⟨a | rfl, b⟩
        · exact Or.inl ⟨a, b⟩
        · exact Or.inr rfl
  | segClose s =>
    have hs : s ∈ segs := ((mem_mkEvents_segClose d nodes segs s).1 h.ev_mem).1
    constructor
    · intro m
      simp [step, hi.1 m]
    · intro t
      simp only [step, List.mem_filter, List.mem_append, List.mem_singleton, hi.2 t,
        Ev.segClose.injEq, reduceCtorEq, or_false, not_or, Bool.not_eq_true', ]
      constructor
      · rintro ⟨⟨a, b⟩, c⟩
        refine ⟨a, b, ?_⟩
        rintro rfl
        simp [sameSeg] at c
      · rintro ⟨a, b, c⟩
        have ht : t ∈ segs := ((mem_mkEvents_segOpen d nodes segs t).1 (h.mem_pre_sub a)).1
        refine ⟨⟨a, b⟩, ?_⟩
        cases hss : sameSeg t s
        · rfl
        · exact absurd (eq_of_sameSeg sc.hsegs ht hs hss) c

theorem inv_prefix (sc : Scene0 d nodes segs) :
    ∀ (p1 pre : List Ev) (st : ScanSt) (rest : List Ev), Inv pre st →
      sortEvents d tb (mkEvents d nodes segs) = pre ++ p1 ++ rest →
      Inv (pre ++ p1) (p1.foldl (step d) st) := by
  intro p1
  induction p1 with
  | nil => intro pre st rest hi _; simpa using hi
  | cons e p1 ih =>
    intro pre st rest hi hL
    have h1 : Inv (pre ++ [e]) (step d st e) :=
      inv_step sc (post := p1 ++ rest) (by unfold Split; rw [hL]; simp) hi
    have h2 := ih (pre ++ [e]) (step d st e) rest h1 (by rw [hL]; simp)
    simpa using h2

theorem inv_of_split (sc : Scene0 d nodes segs) (h : Split d tb nodes segs pre ev post) :
    Inv pre (pre.foldl (step d) {}) := by
  have := inv_prefix sc pre [] {} (ev :: post) inv_nil (by simpa [Split] using h)
  simpa using this

end inv

/-- what `step` appends to `out` -/
def evOut (d : Nat) (st : ScanSt) : Ev → List (Seg × SC)
  | .nodeOpen n =>
    nodeEventCons d n (n.r.lo (conj d)) (leftNb d n st.openNodes) (rightNb d n st.openNodes) st.openSegs
  | .nodeClose n =>
    nodeEventCons d n (n.r.hi (conj d)) (leftNb d n (st.openNodes.filter fun m => m.id != n.id))
      (rightNb d n (st.openNodes.filter fun m => m.id != n.id)) st.openSegs
  | .segOpen _ => []
  | .segClose _ => []

theorem foldl_acc {σ α : Type} (f : σ → α → σ) (Q : σ → Prop) (C : σ → α → Prop)
    (hstep : ∀ s a, Q (f s a) ↔ Q s ∨ C s a) : ∀ (l : List α) (s : σ),
    Q (l.foldl f s) ↔ Q s ∨ ∃ p e q, l = p ++ e :: q ∧ C (p.foldl f s) e := by
  intro l
  induction l with
  | nil => intro s; simp
  | cons a l ih =>
    intro s
    rw [List.foldl_cons, ih, hstep]
    constructor
    · rintro ((h | h) | ⟨p, e, q, rfl, h⟩)
      · exact Or.inl h
      · exact Or.inr ⟨[], a, l, rfl, h⟩
      · exact Or.inr ⟨a :: p, e, q, rfl, h⟩
    · rintro (h | ⟨p, e, q, hl, h⟩)
      · exact Or.inl (Or.inl h)
      · cases p with
        | nil =>
          obtain ⟨rfl, rfl⟩ := List.cons.inj hl
          exact Or.inl (Or.inr h)
        | cons b p =>
          obtain ⟨rfl, rfl⟩ := List.cons.inj hl
          exact Or.inr ⟨p, e, q, rfl, h⟩

theorem stepNO_fst (d : Nat) (acc : ScanSt × List NOC) (ev : Ev) :
    (stepNO d acc ev).1 = step d acc.1 ev := by
  cases ev <;> rfl

theorem foldl_stepNO_fst (d : Nat) (l : List Ev) (acc : ScanSt × List NOC) :
    (l.foldl (stepNO d) acc).1 = l.foldl (step d) acc.1 := by
  induction l generalizing acc with
  | nil => rfl
  | cons a l ih => rw [List.foldl_cons, List.foldl_cons, ih, stepNO_fst]

theorem scanNO_fst (d : Nat) (tb : Ev → Nat) (nodes : List Node) (segs : List Seg) :
    (scanNO d tb nodes segs).1 = scan d tb nodes segs := by
  unfold scanNO scan
  rw [foldl_stepNO_fst]

theorem scan_records (d : Nat) (tb : Ev → Nat) (nodes : List Node) (segs : List Seg)
    (Q : ScanSt × List NOC → Prop) (C : ScanSt → Ev → Prop)
    (hstep : ∀ s a, Q (stepNO d s a) ↔ Q s ∨ C s.1 a) (h0 : ¬ Q ({}, [])) :
    Q (scanNO d tb nodes segs) ↔
      ∃ pre ev post, Split d tb nodes segs pre ev post ∧ C (pre.foldl (step d) {}) ev := by
  unfold scanNO
  rw [foldl_acc (stepNO d) Q (fun s e => C s.1 e) hstep, or_iff_right h0]
  simp only [foldl_stepNO_fst]
  rfl

/-- the last argument is the member of `S` with the largest centre below `n`'s (`none`: no member lies below) -/
def IsLeftNb (d : Nat) (n : Node) (S : Node → Prop) : Option Node → Prop
  | none => ∀ m, S m → ¬ m.r.centre d < n.r.centre d
  | some b => S b ∧ b.r.centre d < n.r.centre d ∧
      ∀ m, S m → m.r.centre d < n.r.centre d → m.r.centre d ≤ b.r.centre d

/-- the last argument is the member of `S` with the smallest centre above `n`'s (`none`: no member lies above) -/
def IsRightNb (d : Nat) (n : Node) (S : Node → Prop) : Option Node → Prop
  | none => ∀ m, S m → ¬ n.r.centre d < m.r.centre d
  | some b => S b ∧ n.r.centre d < b.r.centre d ∧
      ∀ m, S m → n.r.centre d < m.r.centre d → b.r.centre d ≤ m.r.centre d

/-! Both neighbours are one fold: the member with the largest `key` below `c`, with `key` = the
centre for the left neighbour and its negative for the right one. -/

def nbStep (key : Node → Rat) (c : Rat) (best : Option Node) (m : Node) : Option Node :=
  if key m < c then
    (match best with
     | none => some m
     | some b => if key b < key m then some m else some b)
  else best

/-- the last argument is the member of `S` with the largest key below `c` (`none`: no member has its key below `c`) -/
def IsNb (key : Node → Rat) (c : Rat) (S : Node → Prop) : Option Node → Prop
  | none => ∀ m, S m → ¬ key m < c
  | some b => S b ∧ key b < c ∧ ∀ m, S m → key m < c → key m ≤ key b

theorem rightNb_eq (d : Nat) (n : Node) (l : List Node) :
    rightNb d n l = l.foldl (nbStep (fun m => -m.r.centre d) (-n.r.centre d)) none := by
  unfold rightNb nbStep
  simp only [neg_lt_neg_iff]
  congr

theorem isLeftNb_iff {d : Nat} {n : Node} {S : Node → Prop} {r : Option Node} :
    IsLeftNb d n S r ↔ IsNb (fun m => m.r.centre d) (n.r.centre d) S r := by
  cases r <;> rfl

theorem isRightNb_iff {d : Nat} {n : Node} {S : Node → Prop} {r : Option Node} :
    IsRightNb d n S r ↔ IsNb (fun m => -m.r.centre d) (-n.r.centre d) S r := by
  cases r <;> simp only [IsRightNb, IsNb, neg_lt_neg_iff, neg_le_neg_iff]

theorem IsNb.congr {key : Node → Rat} {c : Rat} {S S' : Node → Prop} {r : Option Node}
    (h : ∀ m, S m ↔ S' m) (hr : IsNb key c S r) : IsNb key c S' r := by
  have : S = S' := funext fun m => propext (h m)
  rw [← this]; exact hr

theorem nbStep_spec (key : Node → Rat) (c : Rat) (a : Node) (S : Node → Prop) (best : Option Node)
    (h : IsNb key c S best) : IsNb key c (fun m => S m ∨ m = a) (nbStep key c best a) := by
  unfold nbStep
  split
  · rename_i ha
    cases best with
    | none =>
      refine ⟨Or.inr rfl, ha, ?_⟩
      rintro m (hm | rfl) hlt
      · exact absurd hlt (h m hm)
      · exact le_refl _
    | some b =>
      obtain ⟨hb, hbn, hmax⟩ := h
      dsimp only
      split
      · rename_i hba
        refine ⟨Or.inr rfl, ha, ?_⟩
        rintro m (hm | rfl) hlt
        · exact le_trans (hmax m hm hlt) (le_of_lt hba)
        · exact le_refl _
      · rename_i hba
        refine ⟨Or.inl hb, hbn, ?_⟩
        rintro m (hm | rfl) hlt
        · exact hmax m hm hlt
        · exact not_lt.1 hba
  · rename_i ha
    cases best with
    | none =>
      rintro m (hm | rfl)
      · exact h m hm
      · exact ha
    | some b =>
      obtain ⟨hb, hbn, hmax⟩ := h
      refine ⟨Or.inl hb, hbn, ?_⟩
      rintro m (hm | rfl) hlt
      · exact hmax m hm hlt
      · exact absurd hlt ha

theorem nbFold_spec_aux (key : Node → Rat) (c : Rat) :
    ∀ (l : List Node) (best : Option Node) (S : Node → Prop),
    IsNb key c S best → IsNb key c (fun m => S m ∨ m ∈ l) (l.foldl (nbStep key c) best) := by
  intro l
  induction l with
  | nil => intro best S h; exact h.congr (by simp)
  | cons a l ih =>
    intro best S h
    rw [List.foldl_cons]
    exact (ih _ _ (nbStep_spec key c a S best h)).congr (by intro m; simp [or_assoc])

theorem nbFold_spec (key : Node → Rat) (c : Rat) (l : List Node) :
    IsNb key c (· ∈ l) (l.foldl (nbStep key c) none) :=
  (nbFold_spec_aux key c l none (fun _ => False) (fun _ hm => hm.elim)).congr (by simp)

theorem IsNb.unique {key : Node → Rat} {c : Rat} {S : Node → Prop} {r1 r2 : Option Node}
    (hS : ∀ a b, S a → S b → key a = key b → a = b)
    (h1 : IsNb key c S r1) (h2 : IsNb key c S r2) : r1 = r2 := by
  cases r1 with
  | none =>
    cases r2 with
    | none => rfl
    | some b => exact absurd h2.2.1 (h1 b h2.1)
  | some a =>
    cases r2 with
    | none => exact absurd h1.2.1 (h2 a h1.1)
    | some b =>
      rw [hS a b h1.1 h2.1 (le_antisymm (h2.2.2 a h1.1 h1.2.1) (h1.2.2 b h2.1 h2.2.1))]

theorem nbFold_congr (key : Node → Rat) (c : Rat) {l1 l2 : List Node} (h : ∀ m, m ∈ l1 ↔ m ∈ l2)
    (hS : ∀ a b, a ∈ l2 → b ∈ l2 → key a = key b → a = b) :
    l1.foldl (nbStep key c) none = l2.foldl (nbStep key c) none :=
  IsNb.unique hS ((nbFold_spec key c l1).congr h) (nbFold_spec key c l2)

theorem leftNb_spec (d : Nat) (n : Node) (l : List Node) : IsLeftNb d n (· ∈ l) (leftNb d n l) :=
  isLeftNb_iff.2 (nbFold_spec _ _ l)

theorem rightNb_spec (d : Nat) (n : Node) (l : List Node) : IsRightNb d n (· ∈ l) (rightNb d n l) := by
  rw [isRightNb_iff, rightNb_eq]
  exact nbFold_spec _ _ l

theorem leftNb_some {d : Nat} {n m : Node} {l : List Node} (h : leftNb d n l = some m) :
    m ∈ l ∧ m.r.centre d < n.r.centre d := by
  have := leftNb_spec d n l
  rw [h] at this
  exact ⟨this.1, this.2.1⟩

theorem rightNb_some {d : Nat} {n m : Node} {l : List Node} (h : rightNb d n l = some m) :
    m ∈ l ∧ n.r.centre d < m.r.centre d := by
  have := rightNb_spec d n l
  rw [h] at this
  exact ⟨this.1, this.2.1⟩

theorem IsLeftNb.unique {d : Nat} {n : Node} {S : Node → Prop} {r1 r2 : Option Node}
    (hS : ∀ a b, S a → S b → a.r.centre d = b.r.centre d → a = b)
    (h1 : IsLeftNb d n S r1) (h2 : IsLeftNb d n S r2) : r1 = r2 :=
  IsNb.unique hS (isLeftNb_iff.1 h1) (isLeftNb_iff.1 h2)

theorem IsRightNb.unique {d : Nat} {n : Node} {S : Node → Prop} {r1 r2 : Option Node}
    (hS : ∀ a b, S a → S b → a.r.centre d = b.r.centre d → a = b)
    (h1 : IsRightNb d n S r1) (h2 : IsRightNb d n S r2) : r1 = r2 :=
  IsNb.unique (fun a b ha hb e => hS a b ha hb (neg_inj.1 e)) (isRightNb_iff.1 h1) (isRightNb_iff.1 h2)

theorem nbs_congr (d : Nat) (n : Node) {l1 l2 : List Node} (h : ∀ m, m ∈ l1 ↔ m ∈ l2)
    (hS : ∀ a b, a ∈ l2 → b ∈ l2 → a.r.centre d = b.r.centre d → a = b) :
    leftNb d n l1 = leftNb d n l2 ∧ rightNb d n l1 = rightNb d n l2 := by
  refine ⟨nbFold_congr (fun m => m.r.centre d) (n.r.centre d) h hS, ?_⟩
  rw [rightNb_eq, rightNb_eq]
  exact nbFold_congr _ _ h (fun a b ha hb e => hS a b ha hb (neg_inj.1 e))

theorem nodeEventCons_congr (d : Nat) (n : Node) (pos : Rat) (L R : Option Node) {l1 l2 : List Seg}
    (h : ∀ s, s ∈ l1 ↔ s ∈ l2) (x : Seg × SC) :
    x ∈ nodeEventCons d n pos L R l1 ↔ x ∈ nodeEventCons d n pos L R l2 := by
  unfold nodeEventCons
  simp only [List.mem_filterMap, h]

theorem mem_openNodesAtOpen {d : Nat} {bO : Node → Node → Bool} {n m : Node} {nodes : List Node} :
    m ∈ openNodesAtOpen d bO n nodes ↔
      m ∈ nodes ∧ m.id ≠ n.id ∧
      (m.r.lo (conj d) < n.r.lo (conj d) ∨ (m.r.lo (conj d) = n.r.lo (conj d) ∧ bO m n = true)) ∧
      n.r.lo (conj d) < m.r.hi (conj d) := by
  unfold openNodesAtOpen
  simp only [List.mem_filter, Bool.and_eq_true, Bool.or_eq_true, decide_eq_true_eq, bne_iff_ne,
    ne_eq, and_assoc]

theorem mem_openNodesAtClose {d : Nat} {bC : Node → Node → Bool} {n m : Node} {nodes : List Node} :
    m ∈ openNodesAtClose d bC n nodes ↔
      m ∈ nodes ∧ m.id ≠ n.id ∧ m.r.lo (conj d) < n.r.hi (conj d) ∧
      (n.r.hi (conj d) < m.r.hi (conj d) ∨ (m.r.hi (conj d) = n.r.hi (conj d) ∧ bC n m = true)) := by
  unfold openNodesAtClose
  simp only [List.mem_filter, Bool.and_eq_true, Bool.or_eq_true, decide_eq_true_eq, bne_iff_ne,
    ne_eq, and_assoc]

section atEvent
variable {d : Nat} {tb : Ev → Nat} {nodes : List Node} {segs : List Seg}
  {pre post : List Ev} {n : Node} {st : ScanSt}

theorem openNodes_at_open (sc : Scene d tb nodes segs)
    (h : Split d tb nodes segs pre (.nodeOpen n) post) (hi : Inv pre st) (m : Node) :
    m ∈ st.openNodes ↔ m ∈ openNodesAtOpen d (bOof tb) n nodes := by
  have hn : n ∈ nodes := (mem_mkEvents_nodeOpen d nodes segs n).1 h.ev_mem
  rw [hi.1 m, mem_openNodesAtOpen]
  by_cases hm : m ∈ nodes
  swap
  · exact ⟨fun h' => absurd ((mem_mkEvents_nodeOpen d nodes segs m).1 (h.mem_pre_sub h'.1)) hm,
      fun h' => absurd h'.1 hm⟩
  by_cases hid : m.id = n.id
  · obtain rfl := eq_of_id_eq sc.hids hm hn hid
    exact ⟨fun h' => absurd h'.1 (h.self_not_mem_pre sc.toScene0), fun h' => absurd rfl h'.2.1⟩
  rw [h.mem_pre_of_rank_eq ((mem_mkEvents_nodeOpen d nodes segs m).2 hm) rfl (sc.htbO m hm n hn hid),
    h.mem_pre_of_rank_lt ((mem_mkEvents_nodeClose d nodes segs m).2 hm) (by simp [Ev.rank]), not_le]
  simp only [bOof, decide_eq_true_eq]
  exact ⟨fun h' => ⟨hm, hid, h'⟩, fun h' => h'.2.2⟩

theorem openSegs_at_open (h : Split d tb nodes segs pre (.nodeOpen n) post) (hi : Inv pre st)
    (s : Seg) : s ∈ st.openSegs ↔ s ∈ openSegsAtOpen d (n.r.lo (conj d)) segs := by
  rw [hi.2 s]
  simp only [openSegsAtOpen, List.mem_filter, Bool.and_eq_true, decide_eq_true_eq]
  by_cases hs : s ∈ segs ∧ s.parallel d = false
  · rw [h.mem_pre_of_rank_lt ((mem_mkEvents_segOpen d nodes segs s).2 hs) (by simp [Ev.rank]),
      h.mem_pre_of_rank_lt ((mem_mkEvents_segClose d nodes segs s).2 hs) (by simp [Ev.rank]), not_le]
    exact ⟨fun h' => ⟨hs.1, h'⟩, fun h' => h'.2⟩
  · exact ⟨fun h' => absurd ((mem_mkEvents_segOpen d nodes segs s).1 (h.mem_pre_sub h'.1)) hs,
      fun h' => absurd ⟨h'.1, parallel_false_of_lo_lt_hi (lt_of_le_of_lt h'.2.1 h'.2.2)⟩ hs⟩

theorem openNodes_at_close (sc : Scene d tb nodes segs)
    (h : Split d tb nodes segs pre (.nodeClose n) post) (hi : Inv pre st) (m : Node) :
    m ∈ (st.openNodes.filter fun m => m.id != n.id) ↔ m ∈ openNodesAtClose d (bCof tb) n nodes := by
  have hn : n ∈ nodes := (mem_mkEvents_nodeClose d nodes segs n).1 h.ev_mem
  rw [List.mem_filter, hi.1 m, mem_openNodesAtClose, bne_iff_ne]
  by_cases hm : m ∈ nodes
  swap
  · exact ⟨fun h' => absurd ((mem_mkEvents_nodeOpen d nodes segs m).1 (h.mem_pre_sub h'.1.1)) hm,
      fun h' => absurd h'.1 hm⟩
  by_cases hid : m.id = n.id
  · exact ⟨fun h' => absurd hid h'.2, fun h' => absurd hid h'.2.1⟩
  have ht := sc.htbC m hm n hn hid
  rw [h.mem_pre_of_rank_gt ((mem_mkEvents_nodeOpen d nodes segs m).2 hm) (by simp [Ev.rank]),
    h.mem_pre_of_rank_eq ((mem_mkEvents_nodeClose d nodes segs m).2 hm) rfl ht]
  simp only [Ev.pos, bCof, decide_eq_true_eq]
  constructor
  · rintro ⟨⟨h1, h2⟩, _⟩
    refine ⟨hm, hid, h1, ?_⟩
    rcases lt_trichotomy (m.r.hi (conj d)) (n.r.hi (conj d)) with h3 | h3 | h3
    · exact absurd (Or.inl h3) h2
    · exact Or.inr ⟨h3, lt_of_le_of_ne (not_lt.mp fun h4 => h2 (Or.inr ⟨h3, h4⟩)) (Ne.symm ht)⟩
    · exact Or.inl h3
  · rintro ⟨_, _, h1, h2⟩
    refine ⟨⟨h1, ?_⟩, hid⟩
    rintro (h3 | ⟨e3, h3⟩) <;> rcases h2 with h4 | ⟨e4, h4⟩
    · exact lt_asymm h3 h4
    · exact absurd e4 (ne_of_lt h3)
    · exact absurd e3.symm (ne_of_lt h4)
    · exact lt_asymm h3 h4

theorem openSegs_at_close (h : Split d tb nodes segs pre (.nodeClose n) post) (hi : Inv pre st)
    (s : Seg) : s ∈ st.openSegs ↔ s ∈ openSegsAtClose d (n.r.hi (conj d)) segs := by
  rw [hi.2 s]
  simp only [openSegsAtClose, List.mem_filter, Bool.and_eq_true, decide_eq_true_eq]
  by_cases hs : s ∈ segs ∧ s.parallel d = false
  · rw [h.mem_pre_of_rank_gt ((mem_mkEvents_segOpen d nodes segs s).2 hs) (by simp [Ev.rank]),
      h.mem_pre_of_rank_gt ((mem_mkEvents_segClose d nodes segs s).2 hs) (by simp [Ev.rank]), not_lt]
    exact ⟨fun h' => ⟨hs.1, h'⟩, fun h' => h'.2⟩
  · exact ⟨fun h' => absurd ((mem_mkEvents_segOpen d nodes segs s).1 (h.mem_pre_sub h'.1)) hs,
      fun h' => absurd ⟨h'.1, parallel_false_of_lo_lt_hi (lt_of_lt_of_le h'.2.1 h'.2.2)⟩ hs⟩

end atEvent

/-- `COLA_ASSERT(r.second)` of the `openNodes` map: two nodes that are open at the same time
    (their extents in the scan direction overlap) do not have the same centre in `d` -/
def UniqueKeys (d : Nat) (nodes : List Node) : Prop :=
  ∀ m ∈ nodes, ∀ n ∈ nodes, m.id ≠ n.id →
    m.r.lo (conj d) < n.r.hi (conj d) → n.r.lo (conj d) < m.r.hi (conj d) →
    m.r.centre d ≠ n.r.centre d

section main
variable {d : Nat} {tb : Ev → Nat} {nodes : List Node} {segs : List Seg}
  {pre post : List Ev} {n : Node} {st : ScanSt}

theorem lo_lt_hi_of_mem_openNodesAtOpen {bO : Node → Node → Bool} {a b : Node}
    (ha : a ∈ openNodesAtOpen d bO n nodes) (hb : b ∈ openNodesAtOpen d bO n nodes) :
    a.r.lo (conj d) < b.r.hi (conj d) := by
  obtain ⟨_, _, ha1, _⟩ := mem_openNodesAtOpen.1 ha
  obtain ⟨_, _, _, hb2⟩ := mem_openNodesAtOpen.1 hb
  exact lt_of_le_of_lt (ha1.elim le_of_lt fun h => le_of_eq h.1) hb2

theorem lo_lt_hi_of_mem_openNodesAtClose {bC : Node → Node → Bool} {a b : Node}
    (ha : a ∈ openNodesAtClose d bC n nodes) (hb : b ∈ openNodesAtClose d bC n nodes) :
    a.r.lo (conj d) < b.r.hi (conj d) := by
  obtain ⟨_, _, ha1, _⟩ := mem_openNodesAtClose.1 ha
  obtain ⟨_, _, _, hb2⟩ := mem_openNodesAtClose.1 hb
  exact lt_of_lt_of_le ha1 (hb2.elim le_of_lt fun h => le_of_eq h.1.symm)

theorem keys_at_open (sc : Scene d tb nodes segs) (hk : UniqueKeys d nodes) (bO : Node → Node → Bool)
    (a b : Node) (ha : a ∈ openNodesAtOpen d bO n nodes) (hb : b ∈ openNodesAtOpen d bO n nodes)
    (hc : a.r.centre d = b.r.centre d) : a = b := by
  have ha' := (mem_openNodesAtOpen.1 ha).1
  have hb' := (mem_openNodesAtOpen.1 hb).1
  by_cases hab : a.id = b.id
  · exact eq_of_id_eq sc.hids ha' hb' hab
  · exact absurd hc (hk a ha' b hb' hab (lo_lt_hi_of_mem_openNodesAtOpen ha hb)
      (lo_lt_hi_of_mem_openNodesAtOpen hb ha))

theorem keys_at_close (sc : Scene d tb nodes segs) (hk : UniqueKeys d nodes) (bC : Node → Node → Bool)
    (a b : Node) (ha : a ∈ openNodesAtClose d bC n nodes) (hb : b ∈ openNodesAtClose d bC n nodes)
    (hc : a.r.centre d = b.r.centre d) : a = b := by
  have ha' := (mem_openNodesAtClose.1 ha).1
  have hb' := (mem_openNodesAtClose.1 hb).1
  by_cases hab : a.id = b.id
  · exact eq_of_id_eq sc.hids ha' hb' hab
  · exact absurd hc (hk a ha' b hb' hab (lo_lt_hi_of_mem_openNodesAtClose ha hb)
      (lo_lt_hi_of_mem_openNodesAtClose hb ha))

theorem evOut_open (sc : Scene d tb nodes segs) (hk : UniqueKeys d nodes)
    (h : Split d tb nodes segs pre (.nodeOpen n) post) (hi : Inv pre st) (x : Seg × SC) :
    x ∈ evOut d st (.nodeOpen n) ↔ x ∈ consAtOpen d (bOof tb) nodes segs n := by
  obtain ⟨hL, hR⟩ := nbs_congr d n (openNodes_at_open sc h hi) (keys_at_open sc hk (bOof tb))
  simp only [evOut, consAtOpen]
  rw [hL, hR]
  exact nodeEventCons_congr d n _ _ _ (openSegs_at_open h hi) x

theorem evOut_close (sc : Scene d tb nodes segs) (hk : UniqueKeys d nodes)
    (h : Split d tb nodes segs pre (.nodeClose n) post) (hi : Inv pre st) (x : Seg × SC) :
    x ∈ evOut d st (.nodeClose n) ↔ x ∈ consAtClose d (bCof tb) nodes segs n := by
  obtain ⟨hL, hR⟩ := nbs_congr d n (openNodes_at_close sc h hi) (keys_at_close sc hk (bCof tb))
  simp only [evOut, consAtClose]
  rw [hL, hR]
  exact nodeEventCons_congr d n _ _ _ (openSegs_at_close h hi) x

theorem scan_mem_iff_scene (sc : Scene d tb nodes segs) (hk : UniqueKeys d nodes) (x : Seg × SC) :
    x ∈ (scan d tb nodes segs).out ↔ x ∈ consClosed d (bOof tb) (bCof tb) nodes segs := by
  rw [← scanNO_fst, scan_records d tb nodes segs (fun a => x ∈ a.1.out) (fun st e => x ∈ evOut d st e)
    (fun s a => by cases a <;> simp [stepNO, step, evOut]) (by simp)]
  simp only [consClosed, List.mem_flatMap, List.mem_append]
  constructor
  · rintro ⟨p, e, q, hsp, hx⟩
    have hi := inv_of_split sc.toScene0 hsp
    cases e with
    | nodeOpen n =>
      exact ⟨n, (mem_mkEvents_nodeOpen d nodes segs n).1 hsp.ev_mem,
        Or.inl ((evOut_open sc hk hsp hi x).1 hx)⟩
    | nodeClose n =>
      exact ⟨n, (mem_mkEvents_nodeClose d nodes segs n).1 hsp.ev_mem,
        Or.inr ((evOut_close sc hk hsp hi x).1 hx)⟩
    | segOpen s => cases hx
    | segClose s => cases hx
  · rintro ⟨n, hn, hx | hx⟩
    · obtain ⟨p, q, hsp⟩ := exists_split_of_mem (tb := tb) ((mem_mkEvents_nodeOpen d nodes segs n).2 hn)
      exact ⟨p, _, q, hsp, (evOut_open sc hk hsp (inv_of_split sc.toScene0 hsp) x).2 hx⟩
    · obtain ⟨p, q, hsp⟩ := exists_split_of_mem (tb := tb) ((mem_mkEvents_nodeClose d nodes segs n).2 hn)
      exact ⟨p, _, q, hsp, (evOut_close sc hk hsp (inv_of_split sc.toScene0 hsp) x).2 hx⟩

end main

theorem scan_mem_iff (d : Nat) (tb : Ev → Nat) (nodes : List Node) (segs : List Seg)
    (hids : nodes.Pairwise (fun a b => a.id ≠ b.id))
    (hsegs : segs.Pairwise (fun a b => ¬ (a.edge = b.edge ∧ a.idx = b.idx)))
    (hpos : ∀ n ∈ nodes, n.r.lo (conj d) < n.r.hi (conj d))
    (htbO : ∀ m ∈ nodes, ∀ n ∈ nodes, m.id ≠ n.id → tb (.nodeOpen m) ≠ tb (.nodeOpen n))
    (htbC : ∀ m ∈ nodes, ∀ n ∈ nodes, m.id ≠ n.id → tb (.nodeClose m) ≠ tb (.nodeClose n))
    (hkeys : ∀ m ∈ nodes, ∀ n ∈ nodes, m.id ≠ n.id →
      m.r.lo (conj d) < n.r.hi (conj d) → n.r.lo (conj d) < m.r.hi (conj d) →
      m.r.centre d ≠ n.r.centre d)
    (x : Seg × SC) :
    x ∈ (scan d tb nodes segs).out ↔ x ∈ consClosed d (bOof tb) (bCof tb) nodes segs :=
  scan_mem_iff_scene ⟨⟨hids, hsegs, hpos⟩, htbO, htbC⟩ hkeys x

theorem scan_ends_empty {d : Nat} {nodes : List Node} {segs : List Seg} (tb : Ev → Nat)
    (sc : Scene0 d nodes segs) :
    (scan d tb nodes segs).openNodes = [] ∧ (scan d tb nodes segs).openSegs = [] := by
  have hi : Inv (sortEvents d tb (mkEvents d nodes segs)) (scan d tb nodes segs) := by
    simpa [scan] using
      inv_prefix (tb := tb) sc (sortEvents d tb (mkEvents d nodes segs)) [] {} [] inv_nil (by simp)
  have hmem : ∀ e, e ∈ sortEvents d tb (mkEvents d nodes segs) ↔ e ∈ mkEvents d nodes segs :=
    fun _ => List.mem_mergeSort
  constructor <;> rw [List.eq_nil_iff_forall_not_mem]
  · intro m hm
    obtain ⟨ho, hc⟩ := (hi.1 m).1 hm
    rw [hmem] at ho hc
    exact hc ((mem_mkEvents_nodeClose d nodes segs m).2 ((mem_mkEvents_nodeOpen d nodes segs m).1 ho))
  · intro s hs
    obtain ⟨ho, hc⟩ := (hi.2 s).1 hs
    rw [hmem] at ho hc
    exact hc ((mem_mkEvents_segClose d nodes segs s).2 ((mem_mkEvents_segOpen d nodes segs s).1 ho))

/-- what `step` ors into `dupKey` -/
def evDup (d : Nat) (st : ScanSt) : Ev → Bool
  | .nodeOpen n => st.openNodes.any (fun m => decide (m.r.centre d = n.r.centre d))
  | _ => false

section dup
variable {d : Nat} {tb : Ev → Nat} {nodes : List Node} {segs : List Seg}

theorem scan_dupKey_iff (sc : Scene d tb nodes segs) :
    (scan d tb nodes segs).dupKey = true ↔
      ∃ m n, n ∈ nodes ∧ m ∈ openNodesAtOpen d (bOof tb) n nodes ∧ m.r.centre d = n.r.centre d := by
  rw [← scanNO_fst, scan_records d tb nodes segs (fun a => a.1.dupKey = true)
    (fun st e => evDup d st e = true) (fun s a => by cases a <;> simp [stepNO, step, evDup]) (by simp)]
  constructor
  · rintro ⟨p, e, q, hsp, hx⟩
    cases e with
    | nodeOpen n =>
      simp only [evDup, List.any_eq_true, decide_eq_true_eq] at hx
      obtain ⟨m, hm, hc⟩ := hx
      exact ⟨m, n, (mem_mkEvents_nodeOpen d nodes segs n).1 hsp.ev_mem,
        (openNodes_at_open sc hsp (inv_of_split sc.toScene0 hsp) m).1 hm, hc⟩
    | nodeClose n => cases hx
    | segOpen s => cases hx
    | segClose s => cases hx
  · rintro ⟨m, n, hn, hm, hc⟩
    obtain ⟨p, q, hsp⟩ := exists_split_of_mem (tb := tb) ((mem_mkEvents_nodeOpen d nodes segs n).2 hn)
    refine ⟨p, _, q, hsp, ?_⟩
    simp only [evDup, List.any_eq_true, decide_eq_true_eq]
    exact ⟨m, (openNodes_at_open sc hsp (inv_of_split sc.toScene0 hsp) m).2 hm, hc⟩

theorem scan_dupKey_false_iff (sc : Scene d tb nodes segs) :
    (scan d tb nodes segs).dupKey = false ↔ UniqueKeys d nodes := by
  rw [← Bool.not_eq_true, scan_dupKey_iff sc]
  constructor
  · intro hd m hm n hn hid h1 h2 hc
    have ht := sc.htbO m hm n hn hid
    -- the one that opens later finds the other one open
    rcases lt_trichotomy (m.r.lo (conj d)) (n.r.lo (conj d)) with h | h | h
    · exact hd ⟨m, n, hn, mem_openNodesAtOpen.2 ⟨hm, hid, Or.inl h, h2⟩, hc⟩
    · rcases Nat.lt_or_gt_of_ne ht with t | t
      · exact hd ⟨m, n, hn, mem_openNodesAtOpen.2 ⟨hm, hid, Or.inr ⟨h, decide_eq_true t⟩, h2⟩, hc⟩
      · exact hd ⟨n, m, hm,
          mem_openNodesAtOpen.2 ⟨hn, Ne.symm hid, Or.inr ⟨h.symm, decide_eq_true t⟩, h1⟩, hc.symm⟩
    · exact hd ⟨n, m, hm, mem_openNodesAtOpen.2 ⟨hn, Ne.symm hid, Or.inl h, h1⟩, hc.symm⟩
  · rintro hk ⟨m, n, hn, hm, hc⟩
    obtain ⟨hmn, hid, h1, h2⟩ := mem_openNodesAtOpen.1 hm
    exact hk m hmn n hn hid
      (lt_of_le_of_lt (h1.elim le_of_lt fun h => le_of_eq h.1) (sc.hpos n hn)) h2 hc

end dup

/-! ### the non-overlap constraints `NodeClose::process` pushes during the scan (`scanNO`, a fold of `stepNO`)
are exactly those of the closed form `nonOverlapClosed` -/

/-- what `stepNO` appends to the list of non-overlap constraints -/
def evNO (d : Nat) (st : ScanSt) : Ev → List NOC
  | .nodeClose n =>
    (match leftNb d n (st.openNodes.filter fun m => m.id != n.id) with
      | some l => [mkNOC d l n] | none => []) ++
    (match rightNb d n (st.openNodes.filter fun m => m.id != n.id) with
      | some r => [mkNOC d n r] | none => [])
  | .nodeOpen _ => []
  | .segOpen _ => []
  | .segClose _ => []

theorem stepNO_snd (d : Nat) (acc : ScanSt × List NOC) (ev : Ev) :
    (stepNO d acc ev).2 = acc.2 ++ evNO d acc.1 ev := by
  cases ev with
  | nodeClose n =>
    simp only [stepNO, evNO]
    generalize leftNb d n _ = L
    generalize rightNb d n _ = R
    cases L <;> cases R <;> simp
  | nodeOpen n => simp [stepNO, evNO]
  | segOpen s => simp [stepNO, evNO]
  | segClose s => simp [stepNO, evNO]

section nonOverlap
variable {d : Nat} {tb : Ev → Nat} {nodes : List Node} {segs : List Seg}
  {pre post : List Ev} {n : Node} {st : ScanSt}

theorem evNO_close (sc : Scene d tb nodes segs) (hk : UniqueKeys d nodes)
    (h : Split d tb nodes segs pre (.nodeClose n) post) (hi : Inv pre st) :
    evNO d st (.nodeClose n) = nonOverlapAtClose d (bCof tb) nodes n := by
  obtain ⟨hL, hR⟩ := nbs_congr d n (openNodes_at_close sc h hi) (keys_at_close sc hk (bCof tb))
  simp only [evNO, nonOverlapAtClose]
  rw [hL, hR]
  generalize leftNb d n _ = L
  generalize rightNb d n _ = R
  cases L <;> cases R <;> rfl

theorem scanNO_mem_iff_scene (sc : Scene d tb nodes segs) (hk : UniqueKeys d nodes) (c : NOC) :
    c ∈ (scanNO d tb nodes segs).2 ↔ c ∈ nonOverlapClosed d (bCof tb) nodes := by
  rw [scan_records d tb nodes segs (fun a => c ∈ a.2) (fun st e => c ∈ evNO d st e)
    (fun s a => by rw [stepNO_snd, List.mem_append]) (by simp)]
  simp only [nonOverlapClosed, List.mem_flatMap]
  constructor
  · rintro ⟨p, e, q, hsp, hx⟩
    cases e with
    | nodeClose n =>
      rw [evNO_close sc hk hsp (inv_of_split sc.toScene0 hsp)] at hx
      exact ⟨n, (mem_mkEvents_nodeClose d nodes segs n).1 hsp.ev_mem, hx⟩
    | nodeOpen n => cases hx
    | segOpen s => cases hx
    | segClose s => cases hx
  · rintro ⟨n, hn, hx⟩
    obtain ⟨p, q, hsp⟩ := exists_split_of_mem (tb := tb) ((mem_mkEvents_nodeClose d nodes segs n).2 hn)
    exact ⟨p, _, q, hsp, by rw [evNO_close sc hk hsp (inv_of_split sc.toScene0 hsp)]; exact hx⟩

end nonOverlap

end AdaptaVerif.Lemmas.TopoConsScan
