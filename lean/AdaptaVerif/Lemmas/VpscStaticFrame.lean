/-
What the constructor and the steps of both VPSC solver models do to the data of the constraints (ends, gap, equality
flag): nothing.  `CD` is that frame between two states (the solvers only ever write `active` / `unsat`); the
constraints of `Solver(vs, cs)` are `cs` with `active` cleared (`init_cons`).  Together they read the exit scan of
`satisfy` / `solve` as a statement about the INPUT constraints (Props/C09Static, `MakeFeasible`).  Nothing here depends
on the static solver's heap side.
-/
import AdaptaVerif.Lemmas.VpscMerge
import AdaptaVerif.Lemmas.Util.Array
namespace AdaptaVerif.Lemmas.VpscStaticMem
open AdaptaVerif.Model.Vpsc
open AdaptaVerif.Lemmas.VpscInv AdaptaVerif.Lemmas.VpscMerge AdaptaVerif.Lemmas.VpscHistory

theorem set_active_data (cons : Array Con) (ci : Nat) (v : Bool) (c : Nat) :
    SameData ((cons.set! ci { cons[ci]! with active := v })[c]!) (cons[c]!) := by
  rw [cons_set_get]
  split
  · rename_i h; rw [← h.1]; exact ⟨rfl, rfl, rfl, rfl⟩
  · exact ⟨rfl, rfl, rfl, rfl⟩

theorem cons_deact_lr (cons : Array Con) (ci c : Nat) :
    ((cons.set! ci { cons[ci]! with active := false })[c]!).l = (cons[c]!).l ∧
    ((cons.set! ci { cons[ci]! with active := false })[c]!).r = (cons[c]!).r :=
  ⟨(set_active_data cons ci false c).1, (set_active_data cons ci false c).2.1⟩

theorem foldl_addConstraint_frame (cs : List Con) (st : St) :
    (cs.foldl (fun st c => st.addConstraint c) st).blocks = st.blocks ∧
    (cs.foldl (fun st c => st.addConstraint c) st).vars.size = st.vars.size ∧
    ∀ x, blk (cs.foldl (fun st c => st.addConstraint c) st).vars x = blk st.vars x :=
  foldl_addConstraint_pres
    (P := fun s => s.blocks = st.blocks ∧ s.vars.size = st.vars.size ∧ ∀ x, blk s.vars x = blk st.vars x) cs st
    (fun s c _ ⟨a, b, d⟩ => ⟨a, (addConstraint_size s c).trans b, fun x => (addConstraint_blk s c x).trans (d x)⟩)
    ⟨rfl, rfl, fun _ => rfl⟩

theorem foldl_addConstraint_fuel (cs : List Con) (st : St) :
    (cs.foldl (fun st c => st.addConstraint c) st).fuelOut = st.fuelOut :=
  foldl_addConstraint_pres (P := fun s => s.fuelOut = st.fuelOut) cs st (fun _ _ _ h => h) rfl

end AdaptaVerif.Lemmas.VpscStaticMem

namespace AdaptaVerif.Lemmas.VpscStaticFrame
open AdaptaVerif.Model.Vpsc
open AdaptaVerif.Lemmas.VpscMerge AdaptaVerif.Lemmas.VpscHistory

/-- the constraint data (ends, gap, equality flag) of two states agree: the solvers only ever write
    `Constraint::active` and `Constraint::unsatisfiable` -/
def CD (a b : St) : Prop := b.cons.size = a.cons.size ∧ ∀ ci : Nat, SameData (b.cons[ci]!) (a.cons[ci]!)

theorem CD.refl (a : St) : CD a a := ⟨rfl, fun _ => ⟨rfl, rfl, rfl, rfl⟩⟩
theorem CD.trans {a b c : St} (h1 : CD a b) (h2 : CD b c) : CD a c :=
  ⟨h2.1.trans h1.1, fun ci =>
    ⟨(h2.2 ci).1.trans (h1.2 ci).1, (h2.2 ci).2.1.trans (h1.2 ci).2.1,
     (h2.2 ci).2.2.1.trans (h1.2 ci).2.2.1, (h2.2 ci).2.2.2.trans (h1.2 ci).2.2.2⟩⟩
theorem CD.of_eq {a b : St} (h : b.cons = a.cons) : CD a b := by
  unfold CD; rw [h]; exact ⟨rfl, fun _ => ⟨rfl, rfl, rfl, rfl⟩⟩
theorem CD.of_set_active {a b : St} {ci : Nat} {v : Bool}
    (h : b.cons = a.cons.set! ci { a.cons[ci]! with active := v }) : CD a b := by
  unfold CD; rw [h]; exact ⟨Util.set!_size _ _ _, fun c => VpscStaticMem.set_active_data a.cons ci v c⟩

theorem foldl_addConstraint_cons : ∀ (cs : List Con) (st : St),
    (cs.foldl (fun st c => st.addConstraint c) st).cons.toList =
      st.cons.toList ++ cs.map (fun c => { c with active := false })
  | [], st => by simp
  | c :: rest, st => by
    rw [List.foldl_cons, foldl_addConstraint_cons rest, addConstraint_cons]
    simp

theorem init_cons_eq (vs : Array (Rat × Rat × Rat)) (cs : Array Con) :
    (St.init vs cs).cons = cs.map fun c => { c with active := false } := by
  apply Array.ext'
  unfold St.init
  simp only
  rw [← Array.foldl_toList, foldl_addConstraint_cons]
  simp

theorem init_cons (vs : Array (Rat × Rat × Rat)) (cs : Array Con) :
    (St.init vs cs).cons.size = cs.size ∧
    ∀ ci : Nat, ci < cs.size → SameData ((St.init vs cs).cons[ci]!) (cs[ci]!) := by
  rw [init_cons_eq]
  refine ⟨Array.size_map .., fun ci hci => ?_⟩
  rw [getElem!_pos _ ci (by simpa using hci), getElem!_pos cs ci hci, Array.getElem_map]
  exact ⟨rfl, rfl, rfl, rfl⟩

end AdaptaVerif.Lemmas.VpscStaticFrame
