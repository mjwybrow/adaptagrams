/-
`computeNodeGroups` of `Model.Planarise` (the overlap-removal sweep): invariant of the sweep along one line,
`groupsOfPart_spec`.
-/
import AdaptaVerif.Lemmas.PlanariseSort
namespace AdaptaVerif.Lemmas.Planarise
open AdaptaVerif.Model.Planarise

/-- the indexed segments of one part: same orientation, positive length, distinct indices, and on this line
a node is identified by its position (and by its id) -/
structure LineOK (o : Ori) (part : List (Nat × Seg)) : Prop where
  idx : (part.map (·.1)).Nodup
  shape : ∀ is ∈ part, is.2.ori = o ∧ vcOf o is.2.on < vcOf o is.2.cn
  ident : ∀ is ∈ part, ∀ js ∈ part, ∀ a ∈ [is.2.on, is.2.cn], ∀ b ∈ [js.2.on, js.2.cn],
    (vcOf o a = vcOf o b ↔ a.id = b.id) ∧ (a.id = b.id → a = b)

theorem mem_events {part : List (Nat × Seg)} {e : GEv} (h : e ∈ part.flatMap segEventsG) :
    ∃ is ∈ part, e.seg = is.1 ∧
      ((e.isOpen = true ∧ e.endpt = is.2.on ∧ e.vc = vcOf is.2.ori is.2.on) ∨
       (e.isOpen = false ∧ e.endpt = is.2.cn ∧ e.vc = vcOf is.2.ori is.2.cn)) := by
  obtain ⟨is, his, he⟩ := List.mem_flatMap.1 h
  refine ⟨is, his, ?_⟩
  simp only [segEventsG, List.mem_cons, List.mem_nil_iff, or_false] at he
  rcases he with rfl | rfl
  · exact ⟨rfl, Or.inl ⟨rfl, rfl, by simp [vcOf]⟩⟩
  · exact ⟨rfl, Or.inr ⟨rfl, rfl, by simp [vcOf]⟩⟩

theorem segEventsG_mem {part : List (Nat × Seg)} {is : Nat × Seg} (h : is ∈ part) :
    (⟨is.1, is.2.on, vcOf is.2.ori is.2.on, true⟩ : GEv) ∈ part.flatMap segEventsG ∧
    (⟨is.1, is.2.cn, vcOf is.2.ori is.2.cn, false⟩ : GEv) ∈ part.flatMap segEventsG := by
  constructor <;> refine List.mem_flatMap.2 ⟨is, h, ?_⟩ <;> simp [segEventsG, vcOf]

/-- invariant of the group sweep after the prefix `pre` of the sorted events -/
structure GI (o : Ori) (part : List (Nat × Seg)) (pre : List GEv) (st : GState) : Prop where
  os_nodup : st.openSegs.Nodup
  os_mem : ∀ i, i ∈ st.openSegs ↔
    ((∃ e ∈ pre, e.seg = i ∧ e.isOpen = true) ∧ ¬ ∃ e ∈ pre, e.seg = i ∧ e.isOpen = false)
  empty_iff : st.group = [] ↔ st.openSegs = []
  head : ∀ b r, st.group = b :: r → ∃ e ∈ pre, e.endpt = b ∧ ∀ e' ∈ pre, e'.vc ≤ e.vc
  grp_sorted : st.group.Pairwise (fun a b => vcOf o b < vcOf o a)
  nodes : ∀ n, (n ∈ st.group ∨ ∃ g ∈ st.groups, n ∈ g) → ∃ e ∈ pre, e.endpt = n
  fin_sorted : ∀ g ∈ st.groups, g.Pairwise (fun a b => vcOf o a < vcOf o b)
  fin_order : st.groups.Pairwise (fun g2 g1 => ∀ a ∈ g1, ∀ b ∈ g2, vcOf o a ≤ vcOf o b)
  fin_cur : ∀ g ∈ st.groups, ∀ a ∈ g, ∀ b ∈ st.group, vcOf o a ≤ vcOf o b
  open_on : ∀ is ∈ part, is.1 ∈ st.openSegs → is.2.on ∈ st.group
  closed : ∀ is ∈ part, (∃ e ∈ pre, e.seg = is.1 ∧ e.isOpen = false) →
    (∃ g ∈ st.groups, is.2.on ∈ g ∧ is.2.cn ∈ g) ∨ (is.2.on ∈ st.group ∧ is.2.cn ∈ st.group)

section gstep
variable {o : Ori} {part : List (Nat × Seg)}

theorem ev_facts (hL : LineOK o part) {e : GEv} (he : e ∈ part.flatMap segEventsG) :
    ∃ is ∈ part, e.seg = is.1 ∧ e.vc = vcOf o e.endpt ∧ e.endpt = if e.isOpen then is.2.on else is.2.cn := by
  obtain ⟨is, his, hseg, h⟩ := mem_events he
  have ho := (hL.shape is his).1
  refine ⟨is, his, hseg, ?_, ?_⟩
  · rcases h with ⟨_, h2, h3⟩ | ⟨_, h2, h3⟩ <;> rw [h3, h2, ho]
  · rcases h with ⟨h1, h2, _⟩ | ⟨h1, h2, _⟩ <;> rw [h1, h2] <;> rfl

theorem idx_inj (hL : LineOK o part) {is js : Nat × Seg} (hi : is ∈ part) (hj : js ∈ part) (h : is.1 = js.1) :
    is = js := by
  have := hL.idx
  induction part with
  | nil => simp at hi
  | cons x r ih =>
    simp only [List.map_cons, List.nodup_cons] at this
    rcases List.mem_cons.1 hi with rfl | hi' <;> rcases List.mem_cons.1 hj with rfl | hj'
    · rfl
    · exact absurd (List.mem_map.2 ⟨js, hj', h.symm⟩) this.1
    · exact absurd (List.mem_map.2 ⟨is, hi', h⟩) this.1
    · exact ih ⟨this.2, fun is h => hL.shape is (List.mem_cons_of_mem _ h),
        fun is h js h' => hL.ident is (List.mem_cons_of_mem _ h) js (List.mem_cons_of_mem _ h')⟩ hi' hj' this.2

theorem ev_ident (hL : LineOK o part) {e e' : GEv} (he : e ∈ part.flatMap segEventsG)
    (he' : e' ∈ part.flatMap segEventsG) :
    (vcOf o e.endpt = vcOf o e'.endpt ↔ e.endpt.id = e'.endpt.id) ∧ (e.endpt.id = e'.endpt.id → e.endpt = e'.endpt) := by
  obtain ⟨is, his, _, _, h⟩ := ev_facts hL he
  obtain ⟨js, hjs, _, _, h'⟩ := ev_facts hL he'
  have key := hL.ident is his js hjs
  rw [h, h']
  split <;> split <;> exact key _ (by simp) _ (by simp)

/-- `if (group.size() == 0 || group.back() != endpt) group.push_back(endpt)`, on the reversed group -/
def pushNode (group : List Node) (n : Node) : List Node :=
  match group with
  | [] => [n]
  | b :: r => if b.id = n.id then b :: r else n :: b :: r

/-- position of the event `e` in the sorted list of all events of the part -/
structure GSC (part : List (Nat × Seg)) (pre post : List GEv) (e : GEv) : Prop where
  mem : ∀ x, (x ∈ pre ∨ x = e ∨ x ∈ post) ↔ x ∈ part.flatMap segEventsG
  npre : e ∉ pre
  k1 : ∀ a ∈ pre, a.vc ≤ e.vc
  k2 : ∀ b ∈ post, e.vc ≤ b.vc

theorem GSC.max {pre post : List GEv} {e : GEv} (hsc : GSC part pre post e) : ∀ e' ∈ pre ++ [e], e'.vc ≤ e.vc := by
  intro e' he'
  rcases List.mem_append.1 he' with h | h
  · exact hsc.k1 e' h
  · simp at h; subst h; exact Rat.le_refl

theorem push_facts (hL : LineOK o part) {pre post : List GEv} {e : GEv} (hsc : GSC part pre post e)
    {st : GState} (hGI : GI o part pre st) :
    e.endpt ∈ pushNode st.group e.endpt ∧ (∀ n ∈ st.group, n ∈ pushNode st.group e.endpt) ∧
    (∀ n ∈ pushNode st.group e.endpt, n = e.endpt ∨ n ∈ st.group) ∧
    (pushNode st.group e.endpt).Pairwise (fun a b => vcOf o b < vcOf o a) ∧
    (∃ r, pushNode st.group e.endpt = e.endpt :: r) := by
  have heM : e ∈ part.flatMap segEventsG := (hsc.mem e).1 (Or.inr (Or.inl rfl))
  obtain ⟨_, _, _, hvc, _⟩ := ev_facts hL heM
  cases hg : st.group with
  | nil => simp [pushNode]
  | cons b r =>
    obtain ⟨eb, hebp, hebb, _⟩ := hGI.head b r hg
    have hebM : eb ∈ part.flatMap segEventsG := (hsc.mem eb).1 (Or.inl hebp)
    obtain ⟨_, _, _, hvcb, _⟩ := ev_facts hL hebM
    have hid := ev_ident hL hebM heM
    rw [hebb] at hid
    have hs := hGI.grp_sorted; rw [hg, List.pairwise_cons] at hs
    simp only [pushNode]
    split
    · rename_i hbid
      have hbe : b = e.endpt := hid.2 hbid
      subst hbe
      refine ⟨by simp, fun n hn => hn, fun n hn => Or.inr hn, List.pairwise_cons.2 hs, r, rfl⟩
    · rename_i hbid
      have hlt : vcOf o b < vcOf o e.endpt := by
        have h1 := hsc.k1 eb hebp
        rw [hvcb, hvc, hebb] at h1
        have : vcOf o b ≠ vcOf o e.endpt := fun h => hbid (hid.1.1 h)
        grind
      refine ⟨by simp, fun n hn => List.mem_cons_of_mem _ hn, fun n hn => ?_, ?_, b :: r, rfl⟩
      · rcases List.mem_cons.1 hn with h | h
        · exact Or.inl h
        · exact Or.inr h
      · rw [List.pairwise_cons]
        refine ⟨?_, List.pairwise_cons.2 hs⟩
        intro n hn
        rcases List.mem_cons.1 hn with rfl | hn
        · exact hlt
        · have := hs.1 n hn; grind

theorem push_nodes (hL : LineOK o part) {pre post : List GEv} {e : GEv} (hsc : GSC part pre post e)
    {st : GState} (hGI : GI o part pre st) :
    (∀ n, (n ∈ pushNode st.group e.endpt ∨ ∃ g ∈ st.groups, n ∈ g) → ∃ e0 ∈ pre ++ [e], e0.endpt = n) ∧
    (∀ g ∈ st.groups, ∀ a ∈ g, ∀ b ∈ pushNode st.group e.endpt, vcOf o a ≤ vcOf o b) := by
  obtain ⟨_, _, _, hvc, _⟩ := ev_facts hL ((hsc.mem e).1 (Or.inr (Or.inl rfl)))
  obtain ⟨_, _, p3, _, _, _⟩ := push_facts hL hsc hGI
  have hold : ∀ n, (n ∈ st.group ∨ ∃ g ∈ st.groups, n ∈ g) → ∃ e0 ∈ pre ++ [e], e0.endpt = n := fun n hn => by
    obtain ⟨e0, h0, h1⟩ := hGI.nodes n hn; exact ⟨e0, List.mem_append_left _ h0, h1⟩
  constructor
  · rintro n (hn | hn)
    · rcases p3 n hn with rfl | h
      · exact ⟨e, by simp, rfl⟩
      · exact hold n (Or.inl h)
    · exact hold n (Or.inr hn)
  · intro g hg a ha b hb
    rcases p3 b hb with rfl | h
    · obtain ⟨ea, hea, heaa⟩ := hGI.nodes a (Or.inr ⟨g, hg, ha⟩)
      obtain ⟨_, _, _, hvca, _⟩ := ev_facts hL ((hsc.mem ea).1 (Or.inl hea))
      have := hsc.k1 ea hea
      rw [hvca, hvc, heaa] at this; exact this
    · exact hGI.fin_cur g hg a ha b h

theorem gStep_eq (st : GState) (e : GEv) :
    gStep st e =
      if e.isOpen then
        { st with group := pushNode st.group e.endpt,
                  openSegs := if st.openSegs.contains e.seg then st.openSegs else e.seg :: st.openSegs }
      else
        if (st.openSegs.erase e.seg).isEmpty then
          { group := [], openSegs := [], groups := (pushNode st.group e.endpt).reverse :: st.groups }
        else { st with group := pushNode st.group e.endpt, openSegs := st.openSegs.erase e.seg } := by
  unfold gStep pushNode
  cases st.group <;> rfl

theorem same_seg_event (hL : LineOK o part) {e e' : GEv} (he : e ∈ part.flatMap segEventsG)
    (he' : e' ∈ part.flatMap segEventsG) (hs : e.seg = e'.seg) (ho : e.isOpen = e'.isOpen) : e = e' := by
  obtain ⟨is, his, h1, h2, h3⟩ := ev_facts hL he
  obtain ⟨js, hjs, h1', h2', h3'⟩ := ev_facts hL he'
  have : is = js := idx_inj hL his hjs (by rw [← h1, ← h1', hs])
  subst this
  have hend : e.endpt = e'.endpt := by rw [h3, h3', ho]
  have hvc : e.vc = e'.vc := by rw [h2, h2', hend]
  cases e; cases e'
  rw [GEv.mk.injEq]
  exact ⟨hs, hend, hvc, ho⟩

theorem open_before_close (hL : LineOK o part) {pre post : List GEv} {e : GEv} (hsc : GSC part pre post e)
    (hclose : e.isOpen = false) : ∃ e0 ∈ pre, e0.seg = e.seg ∧ e0.isOpen = true := by
  have heM : e ∈ part.flatMap segEventsG := (hsc.mem e).1 (Or.inr (Or.inl rfl))
  obtain ⟨is, his, h1, h2, h3⟩ := ev_facts hL heM
  have hend : e.endpt = is.2.cn := by rw [h3, hclose]; rfl
  have ho := (hL.shape is his)
  have hop := (segEventsG_mem his).1
  rw [ho.1] at hop
  rcases (hsc.mem _).2 hop with h | h | h
  · exact ⟨_, h, h1.symm, rfl⟩
  · rw [← h] at hclose; cases hclose
  · have := hsc.k2 _ h
    simp only at this
    rw [h2, hend] at this
    have := ho.2; grind

theorem exists_mem_snoc {α : Type} {l : List α} {a : α} {p : α → Prop} :
    (∃ x ∈ l ++ [a], p x) ↔ (∃ x ∈ l, p x) ∨ p a := by
  constructor
  · rintro ⟨x, hx, hp⟩
    rcases List.mem_append.1 hx with h | h
    · exact Or.inl ⟨x, h, hp⟩
    · simp at h; subst h; exact Or.inr hp
  · rintro (⟨x, hx, hp⟩ | hp)
    · exact ⟨x, List.mem_append_left _ hx, hp⟩
    · exact ⟨a, by simp, hp⟩

theorem GI_open (hL : LineOK o part) {pre post : List GEv} {e : GEv} (hsc : GSC part pre post e)
    {st : GState} (hGI : GI o part pre st) (hopen : e.isOpen = true) :
    GI o part (pre ++ [e]) (gStep st e) := by
  have heM : e ∈ part.flatMap segEventsG := (hsc.mem e).1 (Or.inr (Or.inl rfl))
  have hpreM : ∀ x ∈ pre, x ∈ part.flatMap segEventsG := fun x hx => (hsc.mem x).1 (Or.inl hx)
  obtain ⟨is, his, hseg, hvc, hkind⟩ := ev_facts hL heM
  have hon : e.endpt = is.2.on := by rw [hkind, hopen]; rfl
  obtain ⟨p1, p2, p3, p4, pr, p5⟩ := push_facts hL hsc hGI
  obtain ⟨hnodes, hfincur⟩ := push_nodes hL hsc hGI
  have hnot : e.seg ∉ st.openSegs := by
    intro h
    obtain ⟨⟨e0, h0, h01, h02⟩, _⟩ := (hGI.os_mem _).1 h
    have := same_seg_event hL (hpreM e0 h0) heM h01 (by rw [h02, hopen])
    subst this; exact hsc.npre h0
  rw [gStep_eq, if_pos hopen]
  have hc : st.openSegs.contains e.seg = false := by simpa using hnot
  simp only [hc, Bool.false_eq_true, if_false]
  have hC : ∀ i, (∃ e' ∈ pre ++ [e], e'.seg = i ∧ e'.isOpen = false) ↔ ∃ e' ∈ pre, e'.seg = i ∧ e'.isOpen = false := by
    intro i; rw [exists_mem_snoc]; simp [hopen]
  have hO : ∀ i, (∃ e' ∈ pre ++ [e], e'.seg = i ∧ e'.isOpen = true) ↔
      (∃ e' ∈ pre, e'.seg = i ∧ e'.isOpen = true) ∨ e.seg = i := by
    intro i; rw [exists_mem_snoc]; simp [hopen]
  -- no close event of this segment so far: a close before the open contradicts the order
  have hnoclose : ¬ ∃ e' ∈ pre, e'.seg = e.seg ∧ e'.isOpen = false := by
    rintro ⟨e', h, hs', hc'⟩
    obtain ⟨js, hjs, j1, j2, j3⟩ := ev_facts hL (hpreM e' h)
    have : js = is := idx_inj hL hjs his (by rw [← j1, hs', hseg])
    subst this
    have hcn : e'.endpt = js.2.cn := by rw [j3, hc']; rfl
    have := hsc.k1 e' h
    rw [j2, hvc, hcn, hon] at this
    have := (hL.shape js hjs).2; grind
  refine ⟨?_, ?_, ?_, ?_, p4, ?_, hGI.fin_sorted, hGI.fin_order, ?_, ?_, ?_⟩
  · exact List.nodup_cons.2 ⟨hnot, hGI.os_nodup⟩
  · intro i
    rw [List.mem_cons, hO, hC, hGI.os_mem]
    constructor
    · rintro (rfl | ⟨a, c⟩)
      · exact ⟨Or.inr rfl, hnoclose⟩
      · exact ⟨Or.inl a, c⟩
    · rintro ⟨a | rfl, c⟩
      · exact Or.inr ⟨a, c⟩
      · exact Or.inl rfl
  · simp only
    constructor
    · intro h; rw [p5] at h; cases h
    · intro h; cases h
  · intro b r hb
    simp only at hb
    rw [p5] at hb; cases hb
    exact ⟨e, by simp, rfl, hsc.max⟩
  · exact hnodes
  · exact hfincur
  · intro js hjs hj
    simp only at hj ⊢
    rcases List.mem_cons.1 hj with h | h
    · have : js = is := idx_inj hL hjs his (by rw [h, hseg])
      subst this; rw [← hon]; exact p1
    · exact p2 _ (hGI.open_on js hjs h)
  · intro js hjs hcl
    rcases hGI.closed js hjs ((hC _).1 hcl) with h1 | ⟨h1, h2⟩
    · exact Or.inl h1
    · exact Or.inr ⟨p2 _ h1, p2 _ h2⟩

theorem GI_close (hL : LineOK o part) {pre post : List GEv} {e : GEv} (hsc : GSC part pre post e)
    {st : GState} (hGI : GI o part pre st) (hclose : e.isOpen = false) :
    GI o part (pre ++ [e]) (gStep st e) := by
  have heM : e ∈ part.flatMap segEventsG := (hsc.mem e).1 (Or.inr (Or.inl rfl))
  have hpreM : ∀ x ∈ pre, x ∈ part.flatMap segEventsG := fun x hx => (hsc.mem x).1 (Or.inl hx)
  obtain ⟨is, his, hseg, hvc, hkind⟩ := ev_facts hL heM
  have hcn : e.endpt = is.2.cn := by rw [hkind, hclose]; rfl
  obtain ⟨p1, p2, p3, p4, pr, p5⟩ := push_facts hL hsc hGI
  have hin : e.seg ∈ st.openSegs := by
    obtain ⟨e0, h0, h01, h02⟩ := open_before_close hL hsc hclose
    refine (hGI.os_mem _).2 ⟨⟨e0, h0, h01, h02⟩, ?_⟩
    rintro ⟨e', he', hs', hc'⟩
    have := same_seg_event hL (hpreM e' he') heM hs' (by rw [hc', hclose])
    subst this; exact hsc.npre he'
  have hon : is.2.on ∈ st.group := hGI.open_on is his (hseg ▸ hin)
  have hmemE : ∀ i, i ∈ st.openSegs.erase e.seg ↔ i ∈ st.openSegs ∧ i ≠ e.seg := fun i =>
    (hGI.os_nodup.mem_erase_iff).trans (by constructor <;> (intro ⟨a, b⟩; exact ⟨b, a⟩))
  obtain ⟨hnodes, hfincur⟩ := push_nodes hL hsc hGI
  have hosmem : ∀ i, i ∈ st.openSegs.erase e.seg ↔
      ((∃ e' ∈ pre ++ [e], e'.seg = i ∧ e'.isOpen = true) ∧ ¬ ∃ e' ∈ pre ++ [e], e'.seg = i ∧ e'.isOpen = false) := by
    intro i
    have hO : (∃ e' ∈ pre ++ [e], e'.seg = i ∧ e'.isOpen = true) ↔ ∃ e' ∈ pre, e'.seg = i ∧ e'.isOpen = true := by
      rw [exists_mem_snoc]; simp [hclose]
    have hC : (∃ e' ∈ pre ++ [e], e'.seg = i ∧ e'.isOpen = false) ↔
        (∃ e' ∈ pre, e'.seg = i ∧ e'.isOpen = false) ∨ e.seg = i := by
      rw [exists_mem_snoc]; simp [hclose]
    rw [hmemE, hGI.os_mem, hO, hC]
    constructor
    · rintro ⟨⟨a, c⟩, hne⟩; exact ⟨a, fun h => h.elim c (fun h => hne h.symm)⟩
    · rintro ⟨a, c⟩; exact ⟨⟨a, fun h => c (Or.inl h)⟩, fun h => c (Or.inr h.symm)⟩
  have hpre : ∀ js ∈ part, js ≠ is → ∀ e' ∈ pre ++ [e], e'.seg = js.1 → e' ∈ pre := by
    intro js hjs hjis e' he' hs'
    rcases List.mem_append.1 he' with h | h
    · exact h
    · simp at h; subst h
      exact absurd (idx_inj hL hjs his (by rw [← hs', hseg])) hjis
  rw [gStep_eq, if_neg (by rw [hclose]; simp)]
  split
  · rename_i hemp
    have hemp' : st.openSegs.erase e.seg = [] := by simpa using hemp
    refine ⟨by simp, ?_, by simp, ?_, by simp, ?_, ?_, ?_, ?_, ?_, ?_⟩
    · intro i
      rw [← hosmem, hemp']
    · intro b r hb; simp at hb
    · intro n hn
      simp only at hn
      rcases hn with hn | ⟨g, hg, hn⟩
      · simp at hn
      · rcases List.mem_cons.1 hg with rfl | hg
        · exact hnodes n (Or.inl (by simpa using hn))
        · exact hnodes n (Or.inr ⟨g, hg, hn⟩)
    · intro g hg
      simp only at hg
      rcases List.mem_cons.1 hg with rfl | hg
      · rw [List.pairwise_reverse]; exact p4
      · exact hGI.fin_sorted g hg
    · simp only
      rw [List.pairwise_cons]
      refine ⟨?_, hGI.fin_order⟩
      intro g1 hg1 a ha b hb
      exact hfincur g1 hg1 a ha b (by simpa using hb)
    · intro g hg a ha b hb; simp at hb
    · intro js hjs hj; simp at hj
    · intro js hjs hcl
      left
      obtain ⟨e', he', hs', hc'⟩ := hcl
      simp only
      by_cases hjis : js = is
      · subst hjis
        exact ⟨(pushNode st.group e.endpt).reverse, List.mem_cons_self, by simpa using p2 _ hon, by simpa using (hcn ▸ p1)⟩
      · rcases hGI.closed js hjs ⟨e', hpre js hjs hjis e' he' hs', hs', hc'⟩ with ⟨g, hg, h1, h2⟩ | ⟨h1, h2⟩
        · exact ⟨g, List.mem_cons_of_mem _ hg, h1, h2⟩
        · exact ⟨(pushNode st.group e.endpt).reverse, List.mem_cons_self, by simpa using p2 _ h1, by simpa using p2 _ h2⟩
  · rename_i hemp
    have hemp' : st.openSegs.erase e.seg ≠ [] := by simpa using hemp
    refine ⟨hGI.os_nodup.sublist List.erase_sublist, hosmem, ?_, ?_, p4, ?_, hGI.fin_sorted, hGI.fin_order,
      hfincur, ?_, ?_⟩
    · simp only
      constructor
      · intro h; rw [p5] at h; cases h
      · intro h; exact absurd h hemp'
    · intro b r hb
      simp only at hb
      rw [p5] at hb; cases hb
      exact ⟨e, by simp, rfl, hsc.max⟩
    · exact hnodes
    · intro js hjs hj
      simp only at hj ⊢
      exact p2 _ (hGI.open_on js hjs ((hmemE _).1 hj).1)
    · intro js hjs hcl
      obtain ⟨e', he', hs', hc'⟩ := hcl
      simp only
      by_cases hjis : js = is
      · subst hjis
        exact Or.inr ⟨p2 _ hon, hcn ▸ p1⟩
      · rcases hGI.closed js hjs ⟨e', hpre js hjs hjis e' he' hs', hs', hc'⟩ with h1 | ⟨h1, h2⟩
        · exact Or.inl h1
        · exact Or.inr ⟨p2 _ h1, p2 _ h2⟩

theorem events_nodup : ∀ {part : List (Nat × Seg)}, (part.map (·.1)).Nodup → (part.flatMap segEventsG).Nodup
  | [], _ => by simp
  | x :: r, h => by
    simp only [List.map_cons, List.nodup_cons] at h
    simp only [List.flatMap_cons]
    rw [List.nodup_append]
    refine ⟨by simp [segEventsG], events_nodup h.2, ?_⟩
    intro a ha b hb hab
    subst hab
    obtain ⟨js, hjs, hb'⟩ := List.mem_flatMap.1 hb
    have h1 : a.seg = x.1 := by
      simp only [segEventsG, List.mem_cons, List.mem_nil_iff, or_false] at ha
      rcases ha with rfl | rfl <;> rfl
    have h2 : a.seg = js.1 := by
      simp only [segEventsG, List.mem_cons, List.mem_nil_iff, or_false] at hb'
      rcases hb' with rfl | rfl <;> rfl
    exact h.1 (List.mem_map.2 ⟨js, hjs, by rw [← h2, h1]⟩)

theorem groupsOfPart_spec (hL : LineOK o part) :
    (∀ g ∈ groupsOfPart part, g.Pairwise (fun a b => vcOf o a < vcOf o b)) ∧
    (groupsOfPart part).Pairwise (fun g1 g2 => ∀ a ∈ g1, ∀ b ∈ g2, vcOf o a ≤ vcOf o b) ∧
    (∀ is ∈ part, ∃ g ∈ groupsOfPart part, is.2.on ∈ g ∧ is.2.cn ∈ g) ∧
    (∀ g ∈ groupsOfPart part, ∀ n ∈ g, ∃ is ∈ part, n = is.2.on ∨ n = is.2.cn) := by
  unfold groupsOfPart
  simp only
  generalize hLdef : stdSort (fun a b => decide (a.vc < b.vc)) (part.flatMap segEventsG) = L
  have hperm : L.Perm (part.flatMap segEventsG) := hLdef ▸ stdSort_perm _ _
  have hnd : L.Nodup := hperm.nodup_iff.2 (events_nodup hL.idx)
  have hsorted : L.Pairwise (fun a b => a.vc ≤ b.vc) := by
    rw [← hLdef]
    exact stdSort_sorted_key (fun (a b : GEv) => decide (a.vc < b.vc)) (fun (e : GEv) => e.vc) _ (by intros; simp)
  have hGI0 : GI o part [] {} := by
    refine ⟨by simp, by simp, by simp, by simp, by simp, by simp, by simp, by simp, by simp, by simp, by simp⟩
  have hF := foldl_pairwise_induction gStep _ L (hnd.and hsorted) (GI o part) {} hGI0 (by
    intro pre post e st h r1 r2 _ hGI
    have hsc : GSC part pre post e := ⟨fun x => by rw [← hperm.mem_iff, ← h]; simp, fun hp => (r1 e hp).1 rfl,
      fun a ha => (r1 a ha).2, fun b hb => (r2 b hb).2⟩
    cases hopen : e.isOpen with
    | true => exact GI_open hL hsc hGI hopen
    | false => exact GI_close hL hsc hGI hopen)
  generalize L.foldl gStep {} = stF at hF
  have hos : stF.openSegs = [] := by
    cases hh : stF.openSegs with
    | nil => rfl
    | cons i r =>
      exfalso
      obtain ⟨⟨e0, h0, h01, h02⟩, hn⟩ := (hF.os_mem i).1 (by rw [hh]; simp)
      obtain ⟨is, his, hs1, _, _⟩ := ev_facts hL (hperm.mem_iff.1 h0)
      have hcl := (segEventsG_mem his).2
      rw [(hL.shape is his).1] at hcl
      exact hn ⟨_, hperm.mem_iff.2 hcl, by simp only; rw [← hs1, h01], rfl⟩
  have hgrp : stF.group = [] := hF.empty_iff.2 hos
  refine ⟨?_, ?_, ?_, ?_⟩
  · intro g hg; exact hF.fin_sorted g (by simpa using hg)
  · rw [List.pairwise_reverse]; exact hF.fin_order
  · intro is his
    have hcl := (segEventsG_mem his).2
    rw [(hL.shape is his).1] at hcl
    rcases hF.closed is his ⟨_, hperm.mem_iff.2 hcl, rfl, rfl⟩ with ⟨g, hg, h1, h2⟩ | ⟨h1, _⟩
    · exact ⟨g, by simpa using hg, h1, h2⟩
    · rw [hgrp] at h1; simp at h1
  · intro g hg n hn
    obtain ⟨e0, h0, h1⟩ := hF.nodes n (Or.inr ⟨g, by simpa using hg, hn⟩)
    obtain ⟨is, his, _, _, hk⟩ := ev_facts hL (hperm.mem_iff.1 h0)
    refine ⟨is, his, ?_⟩
    rw [← h1, hk]
    split
    · exact Or.inl rfl
    · exact Or.inr rfl

end gstep

end AdaptaVerif.Lemmas.Planarise
