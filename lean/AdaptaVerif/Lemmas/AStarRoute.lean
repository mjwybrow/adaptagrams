/-
The route libavoid reads back from the per-vertex `pathNext` pointers (`Model.AStar.routeOfChain`) is the
loop-erased node chain: it starts where the chain starts (the target), ends where the chain ends (the
source), visits no vertex twice, and each of its hops is a hop of the chain.
-/
import AdaptaVerif.Model.AStar
namespace AdaptaVerif.Lemmas.AStarRoute
open AdaptaVerif.Model.AStar

def Hop (a b : Nat) (l : List Nat) : Prop := ∃ p q, l = p ++ a :: b :: q

theorem hop_cons {a b x : Nat} {l : List Nat} :
    Hop a b (x :: l) ↔ (x = a ∧ l.head? = some b) ∨ Hop a b l := by
  constructor
  · rintro ⟨p, q, h⟩
    cases p with
    | nil => obtain ⟨rfl, rfl⟩ := List.cons.inj h; exact Or.inl ⟨rfl, rfl⟩
    | cons y p => exact Or.inr ⟨p, q, (List.cons.inj h).2⟩
  · rintro (⟨rfl, h⟩ | ⟨p, q, rfl⟩)
    · cases l with
      | nil => cases h
      | cons y t => obtain rfl := Option.some.inj h; exact ⟨[], t, rfl⟩
    · exact ⟨x :: p, q, rfl⟩

theorem Hop.append_left {a b : Nat} {l : List Nat} (pre : List Nat) (h : Hop a b l) : Hop a b (pre ++ l) := by
  obtain ⟨p, q, rfl⟩ := h
  exact ⟨pre ++ p, q, by simp⟩

theorem afterLast_split (v : Nat) (l : List Nat) :
    v ∉ afterLast v l ∧ ∃ pre, v :: l = pre ++ v :: afterLast v l := by
  fun_induction afterLast v l with
  | case1 => exact ⟨by simp, [], rfl⟩
  | case2 x xs hv ih =>
    obtain ⟨hn, pre, hpre⟩ := ih
    refine ⟨hn, ?_⟩
    cases pre with
    | nil => exact absurd ((List.cons.inj hpre).2 ▸ hv) hn
    | cons p pre =>
      have hxs : xs = pre ++ v :: afterLast v xs := (List.cons.inj hpre).2
      exact ⟨v :: x :: pre, by rw [List.cons_append, List.cons_append, ← hxs]⟩
  | case3 xs hv => exact ⟨hv, [v], rfl⟩
  | case4 x xs hv hx => exact ⟨by simp [hv, Ne.symm hx], [], rfl⟩

theorem route_props : ∀ (fuel : Nat) (chain : List Nat), chain.length ≤ fuel →
    (∀ x ∈ routeOfChain fuel chain, x ∈ chain) ∧
    (routeOfChain fuel chain).Nodup ∧
    (routeOfChain fuel chain).head? = chain.head? ∧
    (routeOfChain fuel chain).getLast? = chain.getLast? ∧
    (∀ a b, Hop a b (routeOfChain fuel chain) → Hop a b chain) := by
  intro fuel
  induction fuel with
  | zero =>
    intro chain hf
    obtain rfl := List.eq_nil_of_length_eq_zero (Nat.le_zero.1 hf)
    simp [routeOfChain]
  | succ fuel ih =>
    intro chain hf
    cases chain with
    | nil => simp [routeOfChain]
    | cons v rest =>
      -- the chain is `pre ++ v :: A` with `v ∉ A`, its route `v ::` the route of `A`
      obtain ⟨hnot, pre, hpre⟩ := afterLast_split v rest
      have hlen := congrArg List.length hpre
      simp only [List.length_append, List.length_cons] at hlen hf
      obtain ⟨i1, i2, i3, i4, i5⟩ := ih (afterLast v rest) (by omega)
      simp only [routeOfChain]
      refine ⟨?_, ?_, rfl, ?_, ?_⟩
      · intro x hx
        rw [hpre]
        rcases List.mem_cons.1 hx with h | h
        · simp [h]
        · simp [i1 x h]
      · exact List.nodup_cons.2 ⟨fun hm => hnot (i1 v hm), i2⟩
      · rw [hpre, List.getLast?_append, List.getLast?_cons, List.getLast?_cons, i4]; rfl
      · intro a b hab
        rw [hpre]
        refine Hop.append_left pre (hop_cons.2 ((hop_cons.1 hab).imp ?_ (i5 a b)))
        rw [i3]; exact id

end AdaptaVerif.Lemmas.AStarRoute
