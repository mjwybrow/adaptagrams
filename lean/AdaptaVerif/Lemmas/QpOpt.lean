/-
Main proofs for property C02: KKT sufficiency (one gap inequality, exact and ε-relaxed), uniqueness
of the optimum, transport of optima along maps between problems (renaming of variables, translation),
the optimal position of a rigid block.
-/
import AdaptaVerif.Lemmas.Qp

namespace AdaptaVerif.Lemmas.Qp
open AdaptaVerif.Spec.Qp

theorem term_bound (eps : Rat) (s : Nat → Rat) (c : Con) (lam : Rat) (x y : Nat → Rat)
    (hy : c.Holds s y) (hsign : c.eq = true ∨ -eps ≤ lam) (hcs : lam * slack s c x = 0) :
    -eps * (if c.eq then 0 else slack s c y) ≤ lam * (slack s c y - slack s c x) := by
  rw [mul_sub, hcs, sub_zero]
  cases he : c.eq with
  | true => rw [(holds_eq he).mp hy, if_pos rfl, mul_zero, mul_zero]
  | false =>
    have h0 : 0 ≤ slack s c y := (holds_ineq he).mp hy
    have hl : -eps ≤ lam := hsign.resolve_left (by rw [he]; exact Bool.false_ne_true)
    rw [if_neg Bool.false_ne_true]
    exact mul_le_mul_of_nonneg_right hl h0

/-- The gap inequality: second-order expansion of the cost, exchange of the two sums, and `term_bound` per
    constraint. -/
theorem kktEps_gap (eps : Rat) (P : Problem) (hWF : WF P) (x : Nat → Rat) (lam : List Rat)
    (h : KKTeps eps P x lam) (y : Nat → Rat) (hy : Feasible P y) :
    cost P x + sumTo P.n (fun i => P.w i * ((y i - x i) * (y i - x i))) ≤
      cost P y + eps * ineqSlackSum P y := by
  obtain ⟨hlen, _, hstat, hsc⟩ := h
  have hmem : ∀ p ∈ P.cons.zip lam, p.1 ∈ P.cons := fun p hp => (List.of_mem_zip (a := p.1) (b := p.2) hp).1
  rw [cost_exact P (P.cons.zip lam) x y (fun p hp => hWF.2 p.1 (hmem p hp)) hstat]
  have h2 : -eps * ineqSlackSum P y ≤
      listSum (fun p : Con × Rat => p.2 * (slack P.s p.1 y - slack P.s p.1 x)) (P.cons.zip lam) := by
    unfold ineqSlackSum
    rw [← listSum_zip_fst (fun c : Con => if c.eq then 0 else slack P.s c y) P.cons lam hlen,
      ← listSum_mul_left]
    exact listSum_le fun p hp =>
      term_bound eps P.s p.1 p.2 x y (hy p.1 (hmem p hp)) (hsc p hp).1 (hsc p hp).2
  linarith

theorem kkt_iff_eps0 (P : Problem) (x : Nat → Rat) (lam : List Rat) :
    KKT P x lam ↔ KKTeps 0 P x lam := by
  unfold KKT KKTeps; rw [neg_zero]

theorem kktEps_of_kkt {eps : Rat} (heps : 0 ≤ eps) {P : Problem} {x : Nat → Rat} {lam : List Rat}
    (h : KKT P x lam) : KKTeps eps P x lam :=
  ⟨h.1, h.2.1, h.2.2.1, fun p hp =>
    ⟨(h.2.2.2 p hp).1.imp_right fun h0 => le_trans (neg_nonpos.mpr heps) h0, (h.2.2.2 p hp).2⟩⟩

theorem kkt_optimal (P : Problem) (x : Nat → Rat) (lam : List Rat)
    (hWF : WF P) (h : KKT P x lam) : IsOptimum P x := by
  refine ⟨h.2.1, fun y hy => ?_⟩
  have := kktEps_gap 0 P hWF x lam ((kkt_iff_eps0 P x lam).mp h) y hy
  have := wsq_nonneg hWF y x
  linarith

theorem optimum_unique (P : Problem) (hWF : WF P) (x y : Nat → Rat)
    (hx : IsOptimum P x) (hy : IsOptimum P y) : ∀ i, i < P.n → x i = y i := by
  have hz := feasible_midpoint P x y hx.1 hy.1
  have h1 := hx.2 _ hz
  have h2 := hy.2 _ hz
  rw [cost_midpoint] at h1 h2
  have hS : sumTo P.n (fun i => P.w i * ((x i - y i) * (x i - y i))) ≤ 0 := by linarith
  have hnn : ∀ i, i < P.n → 0 ≤ P.w i * ((x i - y i) * (x i - y i)) :=
    fun i hi => mul_nonneg (le_of_lt (hWF.1 i hi)) (mul_self_nonneg _)
  intro i hi
  rcases mul_eq_zero.mp (sumTo_terms_zero hnn hS i hi) with h | h
  · exact absurd h (hWF.1 i hi).ne'
  · exact sub_eq_zero.mp (mul_self_eq_zero.mp h)

theorem kkt_optimum_unique {P : Problem} (hWF : WF P) {x : Nat → Rat} {lam : List Rat} (h : KKT P x lam) :
    IsOptimum P x ∧ ∀ y, IsOptimum P y → ∀ i, i < P.n → y i = x i :=
  have hopt := kkt_optimal P x lam hWF h
  ⟨hopt, fun y hy => optimum_unique P hWF y x hy hopt⟩

theorem optimum_transport {P P' : Problem} (f g : (Nat → Rat) → Nat → Rat)
    (hf : ∀ x, Feasible P x → Feasible P' (f x)) (hg : ∀ y, Feasible P' y → Feasible P (g y))
    (cf : ∀ x, cost P' (f x) = cost P x) (cg : ∀ y, cost P (g y) = cost P' y)
    {x : Nat → Rat} (h : IsOptimum P x) : IsOptimum P' (f x) :=
  ⟨hf x h.1, fun y hy => by rw [cf, ← cg]; exact h.2 _ (hg y hy)⟩

theorem holds_rename (P : Problem) (σ τ : Nat → Nat) (cons' : List Con) (c : Con) (x' : Nat → Rat)
    (hl : τ (σ c.l) = c.l) (hr : τ (σ c.r) = c.r) :
    (c.rename σ).Holds (P.permute τ cons').s x' ↔ c.Holds P.s (fun i => x' (σ i)) :=
  holds_congr rfl (by simp only [slack, Problem.permute, Con.rename, hl, hr])

theorem feasible_pull (P : Problem) (σ τ : Nat → Nat) (cons' : List Con) (hWF : WF P)
    (hp : IsPerm P.n σ τ) (hc : ∀ c, c ∈ cons' ↔ c ∈ P.cons.map (Con.rename σ)) (x' : Nat → Rat)
    (h : Feasible (P.permute τ cons') x') : Feasible P (fun i => x' (σ i)) := by
  intro c hcm
  have hb := hWF.2 c hcm
  have hmem : c.rename σ ∈ cons' := (hc _).mpr (List.mem_map_of_mem hcm)
  exact (holds_rename P σ τ cons' c x' (hp.1 _ hb.1).2 (hp.1 _ hb.2).2).mp (h _ hmem)

theorem feasible_push (P : Problem) (σ τ : Nat → Nat) (cons' : List Con) (hWF : WF P)
    (hp : IsPerm P.n σ τ) (hc : ∀ c, c ∈ cons' ↔ c ∈ P.cons.map (Con.rename σ)) (y : Nat → Rat)
    (h : Feasible P y) : Feasible (P.permute τ cons') (fun j => y (τ j)) := by
  intro c' hc'
  obtain ⟨c, hcm, rfl⟩ := List.mem_map.mp ((hc _).mp hc')
  have hb := hWF.2 c hcm
  have hl := (hp.1 _ hb.1).2
  have hr := (hp.1 _ hb.2).2
  refine (holds_rename P σ τ cons' c _ hl hr).mpr ((holds_congr rfl ?_).mpr (h c hcm))
  simp only [slack, hl, hr]

theorem cost_pull (P : Problem) (σ τ : Nat → Nat) (cons' : List Con)
    (hp : IsPerm P.n σ τ) (x' : Nat → Rat) :
    cost (P.permute τ cons') x' = cost P (fun i => x' (σ i)) := by
  unfold cost
  simp only [Problem.permute]
  rw [← sumTo_perm hp (fun j => P.w (τ j) * ((x' j - P.d (τ j)) * (x' j - P.d (τ j))))]
  exact sumTo_congr fun i hi => by simp only [(hp.1 i hi).2]

theorem cost_push (P : Problem) (σ τ : Nat → Nat) (cons' : List Con)
    (hp : IsPerm P.n σ τ) (y : Nat → Rat) :
    cost (P.permute τ cons') (fun j => y (τ j)) = cost P y :=
  sumTo_perm hp.symm (fun i => P.w i * ((y i - P.d i) * (y i - P.d i)))

theorem optimum_pull (P : Problem) (σ τ : Nat → Nat) (cons' : List Con) (hWF : WF P)
    (hp : IsPerm P.n σ τ) (hc : ∀ c, c ∈ cons' ↔ c ∈ P.cons.map (Con.rename σ)) (x' : Nat → Rat)
    (h : IsOptimum (P.permute τ cons') x') : IsOptimum P (fun i => x' (σ i)) :=
  optimum_transport (fun x' i => x' (σ i)) (fun y j => y (τ j)) (feasible_pull P σ τ cons' hWF hp hc)
    (feasible_push P σ τ cons' hWF hp hc) (fun x' => (cost_pull P σ τ cons' hp x').symm)
    (cost_push P σ τ cons' hp) h

theorem optimum_push (P : Problem) (σ τ : Nat → Nat) (cons' : List Con) (hWF : WF P)
    (hp : IsPerm P.n σ τ) (hc : ∀ c, c ∈ cons' ↔ c ∈ P.cons.map (Con.rename σ)) (x : Nat → Rat)
    (h : IsOptimum P x) : IsOptimum (P.permute τ cons') (fun j => x (τ j)) :=
  optimum_transport (fun y j => y (τ j)) (fun x' i => x' (σ i)) (feasible_push P σ τ cons' hWF hp hc)
    (feasible_pull P σ τ cons' hWF hp hc) (cost_push P σ τ cons' hp)
    (fun x' => (cost_pull P σ τ cons' hp x').symm) h

theorem slack_shift (P : Problem) (t : Rat) (c : Con) (y : Nat → Rat) (hs : P.s c.l = P.s c.r) :
    slack (P.shift t).s c y = slack P.s c (fun i => y i - t) := by
  simp only [slack, Problem.shift, hs]; ring

theorem cost_shift (P : Problem) (t : Rat) (y : Nat → Rat) :
    cost (P.shift t) y = cost P (fun i => y i - t) := by
  unfold cost
  simp only [Problem.shift]
  exact sumTo_congr fun i _ => by ring

theorem optimum_shift_iff (P : Problem) (t : Rat) (hs : ∀ c ∈ P.cons, P.s c.l = P.s c.r) (x : Nat → Rat) :
    IsOptimum P x ↔ IsOptimum (P.shift t) (fun i => x i + t) := by
  have hfe : ∀ y, Feasible (P.shift t) y ↔ Feasible P (fun i => y i - t) := fun y =>
    forall₂_congr fun c hc => holds_congr rfl (slack_shift P t c y (hs c hc))
  have hf : ∀ x, Feasible P x → Feasible (P.shift t) (fun i => x i + t) := fun x hx =>
    (hfe _).mpr (by simpa only [add_sub_cancel_right] using hx)
  have cf : ∀ x, cost (P.shift t) (fun i => x i + t) = cost P x := fun x => by
    simp only [cost_shift, add_sub_cancel_right]
  refine ⟨optimum_transport (fun x i => x i + t) (fun y i => y i - t) hf (fun y => (hfe y).mp) cf
    (fun y => (cost_shift P t y).symm), fun h => ?_⟩
  have := optimum_transport (fun y i => y i - t) (fun x i => x i + t) (fun y => (hfe y).mp) hf
    (fun y => (cost_shift P t y).symm) cf h
  simpa only [add_sub_cancel_right] using this

theorem blockCost_expand (m : Nat) (w a b d : Nat → Rat) (p : Rat) :
    blockCost m w a b d p =
      p * p * sumTo m (fun k => w k * a k * a k)
        - 2 * p * (sumTo m (fun k => w k * a k * d k) - sumTo m (fun k => w k * a k * b k))
        + sumTo m (fun k => w k * ((b k - d k) * (b k - d k))) := by
  unfold blockCost
  have e : ∀ k, k < m → w k * ((a k * p + b k - d k) * (a k * p + b k - d k)) =
      (p * p) * (w k * a k * a k) - ((2 * p) * (w k * a k * d k) - (2 * p) * (w k * a k * b k))
        + w k * ((b k - d k) * (b k - d k)) := by
    intro k _; ring
  rw [sumTo_congr e, sumTo_add, sumTo_sub, sumTo_sub, sumTo_mul_left, sumTo_mul_left, sumTo_mul_left]
  ring

theorem quad_min {A : Rat} (hA : 0 < A) (N C p : Rat) :
    N / A * (N / A) * A - 2 * (N / A) * N + C ≤ p * p * A - 2 * p * N + C := by
  obtain ⟨q, rfl⟩ : ∃ q, N = q * A := ⟨N / A, (div_mul_cancel₀ N hA.ne').symm⟩
  rw [mul_div_cancel_right₀ q hA.ne']
  have := mul_nonneg hA.le (mul_self_nonneg (p - q))
  linarith

end AdaptaVerif.Lemmas.Qp
