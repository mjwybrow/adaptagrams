/-
Glue between the scan-line constraint lists of `Model/Scanline.lean` (C09) and the static VPSC solver model
(`Model/VpscStatic.lean`): the constraint array handed to the solver, acyclicity of its constraint graph, ranks
read off `Blocks::totalOrder`, and the shift that turns an ε-feasible placement into an exactly feasible one.
-/
import AdaptaVerif.Lemmas.ScanlineCheck
import AdaptaVerif.Lemmas.VpscStaticFrame
import AdaptaVerif.Lemmas.VpscStaticOrder
import Mathlib.Tactic.Linarith
namespace AdaptaVerif.Lemmas.VpscStaticScan
open AdaptaVerif.Model.Vpsc AdaptaVerif.Model.VpscStatic
open AdaptaVerif.Lemmas.VpscInv AdaptaVerif.Lemmas.VpscStaticMem
open AdaptaVerif.Lemmas.VpscStaticOrder AdaptaVerif.Lemmas.VpscStaticFrame
open AdaptaVerif.Spec.Rects (Sat Chain)
open Relation

abbrev SCon := AdaptaVerif.Model.Scanline.Con

/-- the constraints handed to `vpsc::Solver` by `removeoverlaps` -/
def toVpsc (cs : List SCon) : Array Con := (cs.map fun c => mkCon c.l c.r c.gap false).toArray

theorem toVpsc_size (cs : List SCon) : (toVpsc cs).size = cs.length := by simp [toVpsc]

theorem toVpsc_get (cs : List SCon) (ci : Nat) (h : ci < cs.length) :
    ((toVpsc cs)[ci]!).l = (cs[ci]).l ∧ ((toVpsc cs)[ci]!).r = (cs[ci]).r ∧ ((toVpsc cs)[ci]!).gap = (cs[ci]).gap := by
  have : (toVpsc cs)[ci]! = mkCon (cs[ci]).l (cs[ci]).r (cs[ci]).gap false := by
    rw [getElem!_pos _ ci (by rw [toVpsc_size]; exact h)]
    simp [toVpsc]
  rw [this]
  exact ⟨rfl, rfl, rfl⟩

theorem toVpsc_wf (cs : List SCon) (n : Nat) (h : ∀ c ∈ cs, c.l < n ∧ c.r < n) :
    ∀ c ∈ toVpsc cs, c.l < n ∧ c.r < n ∧ c.unsat = false := by
  intro c hc
  simp only [toVpsc, List.mem_toArray, List.mem_map] at hc
  obtain ⟨c0, hc0, rfl⟩ := hc
  exact ⟨(h c0 hc0).1, (h c0 hc0).2, rfl⟩

theorem run_cons (vs : Array (Rat × Rat × Rat)) (cs : List SCon) (st : St)
    (hcd : CD (SSt.init vs (toVpsc cs)).st st) :
    st.cons.size = cs.length ∧
    ∀ ci (h : ci < cs.length), (st.cons[ci]!).l = (cs[ci]).l ∧ (st.cons[ci]!).r = (cs[ci]).r ∧
      (st.cons[ci]!).gap = (cs[ci]).gap := by
  obtain ⟨i1, i2⟩ := init_cons vs (toVpsc cs)
  have hsz : st.cons.size = cs.length := by
    rw [hcd.1]; show (St.init vs (toVpsc cs)).cons.size = cs.length; rw [i1, toVpsc_size]
  refine ⟨hsz, fun ci h => ?_⟩
  have h' : ci < (toVpsc cs).size := by rw [toVpsc_size]; exact h
  obtain ⟨a1, a2, a3, _⟩ := hcd.2 ci
  obtain ⟨b1, b2, b3, _⟩ := i2 ci h'
  obtain ⟨c1, c2, c3⟩ := toVpsc_get cs ci h
  exact ⟨a1.trans (b1.trans c1), a2.trans (b2.trans c2), a3.trans (b3.trans c3)⟩

theorem acyclic_init (vs : Array (Rat × Rat × Rat)) (cs : List SCon)
    (hac : AdaptaVerif.Spec.Rects.Acyclic cs) : Acyclic (SSt.init vs (toVpsc cs)).st := by
  obtain ⟨hsz, hdata⟩ := run_cons vs cs (SSt.init vs (toVpsc cs)).st (CD.refl _)
  have hedge : ∀ a b, E (SSt.init vs (toVpsc cs)).st a b → ∃ c ∈ cs, c.l = a ∧ c.r = b := by
    intro a b ⟨ci, hci, hl, hr⟩
    rw [hsz] at hci
    obtain ⟨d1, d2, _⟩ := hdata ci hci
    exact ⟨cs[ci], List.getElem_mem hci, d1.symm.trans hl, d2.symm.trans hr⟩
  have hchain : ∀ a b, TransGen (E (SSt.init vs (toVpsc cs)).st) a b → Chain cs a b := by
    intro a b h
    induction h using TransGen.head_induction_on with
    | single h1 =>
      obtain ⟨c, hc, rfl, rfl⟩ := hedge _ _ h1
      exact Chain.single hc
    | head h1 _ ih =>
      obtain ⟨c, hc, rfl, rfl⟩ := hedge _ _ h1
      exact Chain.cons hc ih
  exact fun x hx => hac x (hchain x x hx)

theorem init_vars_size (vs : Array (Rat × Rat × Rat)) (cs : Array Con) : (SSt.init vs cs).st.vars.size = vs.size := by
  show (St.init vs cs).vars.size = vs.size
  unfold St.init
  simp only
  rw [← Array.foldl_toList, (foldl_addConstraint_frame _ _).2.1]
  simp

theorem rank_of_before {l : List Nat} (hnd : l.Nodup) {a b : Nat} (h : Before l a b) :
    List.idxOf a l < List.idxOf b l := by
  obtain ⟨A, B, rfl, hb⟩ := h
  have hnd' := List.nodup_append.1 hnd
  have haA : a ∉ A := fun hm => hnd'.2.2 a hm a (by simp) rfl
  have hbA : b ∉ A := fun hm => hnd'.2.2 b hm b (by simp [hb]) rfl
  have hba : b ≠ a := by
    have := (List.nodup_cons.1 hnd'.2.1).1
    exact fun e => this (e ▸ hb)
  rw [List.idxOf_append_of_notMem haA, List.idxOf_append_of_notMem hbA, List.idxOf_cons_self,
    List.idxOf_cons_ne _ (Ne.symm hba)]
  omega

theorem order_ranks (vs : Array (Rat × Rat × Rat)) (cs : List SCon)
    (hrange : ∀ c ∈ cs, c.l < vs.size ∧ c.r < vs.size) (hac : AdaptaVerif.Spec.Rects.Acyclic cs) :
    ∃ rk : Nat → Nat, (∀ c ∈ cs, rk c.l < rk c.r) ∧ ∀ v, rk v ≤ vs.size := by
  have hwf := toVpsc_wf cs vs.size hrange
  have hI := init_inv vs (toVpsc cs) hwf
  obtain ⟨hnd, _, hbefore⟩ := totalOrder_topological (SSt.init vs (toVpsc cs)).st hI (acyclic_init vs cs hac)
    (totalOrder_ok (SSt.init vs (toVpsc cs)).st hI)
  obtain ⟨hsz, hdata⟩ := run_cons vs cs (SSt.init vs (toVpsc cs)).st (CD.refl _)
  refine ⟨fun v => List.idxOf v (totalOrder (SSt.init vs (toVpsc cs)).st).1, ?_, ?_⟩
  · intro c hc
    obtain ⟨ci, hci, rfl⟩ := List.mem_iff_getElem.1 hc
    have hb := hbefore ci (by rw [hsz]; exact hci)
    obtain ⟨d1, d2, _⟩ := hdata ci hci
    rw [d1, d2] at hb
    exact rank_of_before hnd hb
  · intro v
    have hle : (totalOrder (SSt.init vs (toVpsc cs)).st).1.length ≤ vs.size := by
      have hsub : (totalOrder (SSt.init vs (toVpsc cs)).st).1 ⊆ List.range vs.size := by
        intro x hx
        have := totalOrder_bound (SSt.init vs (toVpsc cs)).st hI x hx
        rw [init_vars_size] at this
        exact List.mem_range.2 this
      have := (List.subperm_of_subset hnd hsub).length_le
      simpa using this
    exact le_trans List.idxOf_le_length hle

theorem eps_shift_feasible (cs : List SCon) (y : Nat → Rat) (ε : Rat) (hε : 0 ≤ ε) (rank : Nat → Nat)
    (hrank : ∀ c ∈ cs, rank c.l < rank c.r) (hslack : ∀ c ∈ cs, y c.l + c.gap - ε ≤ y c.r) :
    Sat (fun v => y v + ε * (rank v : Rat)) cs := by
  intro c hc
  have h1 := hslack c hc
  have h2 : (rank c.l : Rat) + 1 ≤ (rank c.r : Rat) := by exact_mod_cast hrank c hc
  have h3 : ε * ((rank c.l : Rat) + 1) ≤ ε * (rank c.r : Rat) := mul_le_mul_of_nonneg_left h2 hε
  simp only
  linarith

end AdaptaVerif.Lemmas.VpscStaticScan
