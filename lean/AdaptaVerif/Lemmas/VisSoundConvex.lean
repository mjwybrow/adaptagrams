/-
Strictly convex polygons (every corner a strict left turn) satisfy the boundary characterisation of
Lemmas/VisSound.lean; the two edge enumerations (`Geometry.edges`, used by `firstBlocker`, and
`Check.Route.polyEdges`, used by `newBlockingShape` and the route checker) are rotations of each other, so the
per-shape loop gives the same answer on both (`shapeBlocks_eq`); the soundness of the loop in the terms of the
route specification (`InsideOriented`, polygon vertices); axis-parallel rectangles are strictly convex;
`firstBlocker`.
-/
import AdaptaVerif.Lemmas.VisSound
namespace AdaptaVerif.Lemmas.VisSound
open AdaptaVerif.Model.Geometry (Pt area2)
open AdaptaVerif.Check.Route (lerp Poly polyEdges)
open AdaptaVerif.Spec.Route (InsideOriented)
open AdaptaVerif.Lemmas.Route (rectPoly polyEdges_rect)
open AdaptaVerif.Model.Visibility
open AdaptaVerif.Lemmas.GeometrySpec (pt_ext)

/-- Local strict convexity of a closed edge cycle (counter-clockwise): every edge is non-degenerate, is
    followed by an edge that starts at its end and has its start strictly to the left (strict left turn
    at e.2), and is preceded by an edge that ends at its start and has its end strictly to the left
    (strict left turn at e.1). -/
structure ConvexCycle (es : List (Pt × Pt)) : Prop where
  nondeg : ∀ e ∈ es, e.1 ≠ e.2
  next : ∀ e ∈ es, ∃ n ∈ es, n.1 = e.2 ∧ 0 < F n e.1
  prev : ∀ e ∈ es, ∃ p ∈ es, p.2 = e.1 ∧ 0 < F p e.2

theorem on_line_param (e : Pt × Pt) (hne : e.1 ≠ e.2) (P : Pt) (h : F e P = 0) :
    ∃ s : Rat, P = lerp e.1 e.2 s := by
  unfold F area2 at h
  by_cases hx : e.2.x - e.1.x = 0
  · have hy : e.2.y - e.1.y ≠ 0 := fun hy => hne (pt_ext _ _ (sub_eq_zero.1 hx).symm (sub_eq_zero.1 hy).symm)
    refine ⟨(P.y - e.1.y) / (e.2.y - e.1.y), pt_ext _ _ ?_ ?_⟩ <;> simp only [lerp]
    · rw [hx, zero_mul, zero_sub, neg_eq_zero, mul_eq_zero, or_iff_left hy, sub_eq_zero] at h
      rw [hx, mul_zero, add_zero, h]
    · rw [div_mul_cancel₀ _ hy, add_sub_cancel]
  · refine ⟨(P.x - e.1.x) / (e.2.x - e.1.x), pt_ext _ _ ?_ ?_⟩ <;> simp only [lerp]
    · rw [div_mul_cancel₀ _ hx, add_sub_cancel]
    · have : (e.2.x - e.1.x) * (P.y - e.1.y) =
          (e.2.x - e.1.x) * ((P.x - e.1.x) / (e.2.x - e.1.x) * (e.2.y - e.1.y)) := by
        rw [← mul_assoc, mul_div_cancel₀ _ hx]; linarith
      linarith [mul_left_cancel₀ hx this]

theorem boundaryChar_of_convexCycle (es : List (Pt × Pt)) (hC : ConvexCycle es) : BoundaryChar es := by
  refine ⟨hC.nondeg, ?_, ?_⟩
  · intro e he P hF hall
    obtain ⟨s, hs⟩ := on_line_param e (hC.nondeg e he) P hF
    obtain ⟨n, hn, hn1, hnpos⟩ := hC.next e he
    obtain ⟨p, hp, hp2, hppos⟩ := hC.prev e he
    have h1 := hall n hn
    have h2 := hall p hp
    rw [hs, F_lerp] at h1 h2
    have hn0 : F n e.2 = 0 := by rw [← hn1]; exact F_start n
    have hp0 : F p e.1 = 0 := by rw [← hp2]; exact F_end p
    rw [hn0] at h1; rw [hp0] at h2
    refine ⟨s, ?_, ?_, hs⟩
    · by_contra hneg
      linarith [mul_neg_of_neg_of_pos (not_le.mp hneg) hppos]
    · by_contra hgt
      linarith [mul_neg_of_neg_of_pos (sub_neg.2 (not_le.mp hgt)) hnpos]
  · intro e he
    obtain ⟨p, hp, hp2, _⟩ := hC.prev e he
    exact ⟨p, hp, hp2⟩

theorem edges_rotation (v : Pt) (vs : List Pt) :
    ∃ (X : List (Pt × Pt)) (y : Pt × Pt),
      AdaptaVerif.Model.Geometry.edges (v :: vs) = y :: X ∧ polyEdges (v :: vs) = X ++ [y] := by
  have hne : (v :: vs) ≠ [] := by simp
  refine ⟨(v :: vs).dropLast.zip vs, ((v :: vs).getLast hne, v), ?_, ?_⟩
  · unfold AdaptaVerif.Model.Geometry.edges AdaptaVerif.Model.Geometry.prevs
    rw [List.getLast?_eq_some_getLast hne]
    simp
  · show (v :: vs).zip (vs ++ [v]) = _
    have hlen : (v :: vs).dropLast.length = vs.length := by simp
    have hL : v :: vs = (v :: vs).dropLast ++ [(v :: vs).getLast hne] := (List.dropLast_append_getLast hne).symm
    have e1 : (v :: vs).zip (vs ++ [v]) = ((v :: vs).dropLast ++ [(v :: vs).getLast hne]).zip (vs ++ [v]) :=
      congrArg (fun l => l.zip (vs ++ [v])) hL
    rw [e1, List.zip_append hlen]
    simp

theorem edges_perm (poly : Poly) : (AdaptaVerif.Model.Geometry.edges poly).Perm (polyEdges poly) := by
  cases poly with
  | nil => exact .refl _
  | cons v vs =>
    obtain ⟨X, y, h1, h2⟩ := edges_rotation v vs
    rw [h1, h2]
    exact (List.perm_append_singleton y X).symm

theorem edges_mem_iff (poly : Poly) (e : Pt × Pt) :
    e ∈ AdaptaVerif.Model.Geometry.edges poly ↔ e ∈ polyEdges poly := (edges_perm poly).mem_iff

theorem shapeBlocks_eq (poly : Poly) (a b : Pt) : shapeBlocks poly a b = shapeBlocksGo a b (polyEdges poly) false :=
  go_perm a b (edges_perm poly) false

theorem polyEdges_mem_vertices (poly : Poly) (e : Pt × Pt) (he : e ∈ polyEdges poly) : e.1 ∈ poly ∧ e.2 ∈ poly := by
  cases poly with
  | nil => simp [polyEdges] at he
  | cons v vs =>
    unfold polyEdges at he
    have := List.of_mem_zip (a := e.1) (b := e.2) he
    refine ⟨this.1, ?_⟩
    rcases List.mem_append.mp this.2 with h | h
    · exact List.mem_cons_of_mem _ h
    · simp at h; rw [h]; exact List.mem_cons_self

theorem segHitsOriented_false_of_loop (poly : Poly) (hlen : 3 ≤ poly.length) (hB : BoundaryChar (polyEdges poly))
    (a b : Pt) (hloop : shapeBlocksGo a b (polyEdges poly) false = false)
    (ha : ¬ InsideOriented 1 0 poly a) (hb : ¬ InsideOriented 1 0 poly b)
    (hnov : ∀ v ∈ poly, ∀ t : Rat, 0 < t → t < 1 → lerp a b t ≠ v) :
    AdaptaVerif.Check.Route.segHitsOriented 1 0 poly a b = false := by
  have inside_iff : ∀ p : Pt, InsideOriented 1 0 poly p ↔ ∀ e ∈ polyEdges poly, 0 < F e p := by
    intro p
    simp only [InsideOriented, F, zero_mul, one_mul]
    exact and_iff_right hlen
  have notin : ∀ p : Pt, ¬ InsideOriented 1 0 poly p → ∃ e ∈ polyEdges poly, F e p ≤ 0 := by
    intro p hp
    by_contra hne
    exact hp ((inside_iff p).mpr fun e he => not_le.mp fun hle => hne ⟨e, he, hle⟩)
  rw [← Bool.not_eq_true, AdaptaVerif.Lemmas.Route.segHitsOriented_iff]
  rintro ⟨t, h0, h1, hin⟩
  refine Bool.false_ne_true (hloop.symm.trans (shapeBlocksGo_of_interior _ hB a b t h0 h1 ((inside_iff _).mp hin)
    (notin a ha) (notin b hb) fun e he t ht0 ht1 => ?_))
  have hv := polyEdges_mem_vertices poly e he
  exact ⟨hnov _ hv.1 t ht0 ht1, hnov _ hv.2 t ht0 ht1⟩

/-- every corner is a strict left turn: the triangle of three consecutive corners has twice the area
    (x1 − x0)(y1 − y0) -/
theorem rect_convexCycle (x0 y0 x1 y1 : Rat) (hx : x0 < x1) (hy : y0 < y1) :
    ConvexCycle (polyEdges (rectPoly x0 y0 x1 y1)) := by
  have hA : 0 < (x1 - x0) * (y1 - y0) := mul_pos (sub_pos.2 hx) (sub_pos.2 hy)
  have turn : ∀ a b c : Pt, area2 a b c = (x1 - x0) * (y1 - y0) → 0 < F (a, b) c := by
    intro a b c h
    rw [← h] at hA
    exact hA
  rw [polyEdges_rect]
  refine ⟨?_, ?_, ?_⟩ <;> simp only [List.forall_mem_cons, List.not_mem_nil, false_imp_iff, implies_true, and_true]
  · exact ⟨fun h => ne_of_lt hy (congrArg Pt.y h), fun h => ne_of_gt hx (congrArg Pt.x h),
      fun h => ne_of_gt hy (congrArg Pt.y h), fun h => ne_of_lt hx (congrArg Pt.x h)⟩
  · exact ⟨⟨_, .tail _ (.head _), rfl, turn _ _ _ (by simp only [area2]; ring)⟩,
      ⟨_, .tail _ (.tail _ (.head _)), rfl, turn _ _ _ (by simp only [area2]; ring)⟩,
      ⟨_, .tail _ (.tail _ (.tail _ (.head _))), rfl, turn _ _ _ (by simp only [area2]; ring)⟩,
      ⟨_, .head _, rfl, turn _ _ _ (by simp only [area2]; ring)⟩⟩
  · exact ⟨⟨_, .tail _ (.tail _ (.tail _ (.head _))), rfl, turn _ _ _ (by simp only [area2]; ring)⟩,
      ⟨_, .head _, rfl, turn _ _ _ (by simp only [area2]; ring)⟩,
      ⟨_, .tail _ (.head _), rfl, turn _ _ _ (by simp only [area2]; ring)⟩,
      ⟨_, .tail _ (.tail _ (.head _)), rfl, turn _ _ _ (by simp only [area2]; ring)⟩⟩

theorem firstBlockerFrom_none (skip : List Nat) (a b : Pt) :
    ∀ (shapes : List (List Pt)) (i0 : Nat), firstBlockerFrom skip a b shapes i0 = none →
      ∀ j, (h : j < shapes.length) → (i0 + j) ∉ skip → shapeBlocks shapes[j] a b = false
  | [], _, _, j, h, _ => absurd h (Nat.not_lt_zero j)
  | s :: ss, i0, hnone, j, hj, hns => by
    unfold firstBlockerFrom at hnone
    cases j with
    | zero =>
      rw [if_neg (by simpa [List.contains_iff_mem] using hns)] at hnone
      split_ifs at hnone with hsb
      exact Bool.eq_false_iff.mpr hsb
    | succ j =>
      have hrest : firstBlockerFrom skip a b ss (i0 + 1) = none := by
        split_ifs at hnone
        · exact hnone
        · exact hnone
      exact firstBlockerFrom_none skip a b ss (i0 + 1) hrest j (Nat.lt_of_succ_lt_succ hj)
        (by rwa [Nat.add_right_comm, Nat.add_assoc])

end AdaptaVerif.Lemmas.VisSound
