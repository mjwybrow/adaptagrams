/-
C17 — the pairing-heap model refines a multiset of `(key, id)` pairs:
heap order (`Ordered`) is preserved by every operation, the root is a minimum, and the stored
elements change as the multiset operations prescribe (stated with `List.Perm`).
`Op`, `applyOp`, `LegalSeq`: scripts of heap operations, the terms in which Props/C17 states heap order over all legal
operation sequences (`pairingheap_findMin_is_minimum`).
The last section asks nothing of the comparison; it is what `Lemmas/VpscStaticMem.lean` uses of the heap (the static
solver's comparison changes under the heap).
-/
import AdaptaVerif.Model.PairingHeap
import Mathlib.Tactic.Linarith
import Batteries.Data.List.Perm
namespace AdaptaVerif.Lemmas.PairingHeap
open AdaptaVerif.Model.PairingHeap

variable {κ : Type}

/-- what the proofs need from the comparison `lt` (a strict weak order):
    with `a ≤ b :⇔ lt b a = false` -/
structure LtLaws (lt : κ → κ → Bool) : Prop where
  asymm : ∀ a b, lt a b = true → lt b a = false
  le_trans : ∀ a b c, lt b a = false → lt c b = false → lt c a = false

def le (lt : κ → κ → Bool) (a b : κ) : Prop := lt b a = false

theorem le_refl' {lt : κ → κ → Bool} (hl : LtLaws lt) (a : κ) : le lt a a := by
  unfold le
  cases h : lt a a with
  | false => rfl
  | true => have := hl.asymm a a h; rw [h] at this; cases this

theorem le_of_lt' {lt : κ → κ → Bool} (hl : LtLaws lt) {a b : κ} (h : lt a b = true) : le lt a b := hl.asymm a b h

theorem le_of_not_lt' {lt : κ → κ → Bool} {a b : κ} (h : ¬ lt b a = true) : le lt a b := by
  unfold le; simpa using h

theorem le_trans' {lt : κ → κ → Bool} (hl : LtLaws lt) {a b c : κ} (h1 : le lt a b) (h2 : le lt b c) : le lt a c :=
  hl.le_trans a b c h1 h2

theorem LtLaws.of_key {α : Type} [LinearOrder α] {lt : κ → κ → Bool} (f : κ → α)
    (h : ∀ a b, lt a b = true ↔ f a < f b) : LtLaws lt := by
  have h' : ∀ a b, lt b a = false ↔ f a ≤ f b := fun a b => by rw [← not_lt, ← h, Bool.not_eq_true]
  exact ⟨fun a b hab => (h' a b).mpr (le_of_lt ((h a b).mp hab)),
    fun a b c h1 h2 => (h' a c).mpr (_root_.le_trans ((h' a b).mp h1) ((h' b c).mp h2))⟩

theorem ltRat_laws : LtLaws ltRat := LtLaws.of_key id (fun _ _ => decide_eq_true_iff)

/-- `ltDist` is `<` on `WithTop ℚ`: the sentinel is the top element -/
theorem ltDist_laws : LtLaws ltDist :=
  LtLaws.of_key (α := WithTop Rat) (fun o => o) (fun a b => by
    cases a <;> cases b <;> simp [ltDist, WithTop.none_eq_top, WithTop.some_eq_coe])

def keyLe (lt : κ → κ → Bool) (k : κ) (t : PTree κ) : Prop := ∀ x ∈ elems t, le lt k x.1

/-- heap order: every node's key is `≤` all keys below it -/
def Ordered (lt : κ → κ → Bool) : PTree κ → Prop
  | .nil => True
  | .node k _ c s => keyLe lt k c ∧ Ordered lt c ∧ Ordered lt s

/-- a root: no sibling -/
def Single : PTree κ → Prop
  | .nil => True
  | .node _ _ _ s => s = .nil

variable {lt : κ → κ → Bool}

theorem ordered_node {k : κ} {i : Nat} {c s : PTree κ} :
    Ordered lt (.node k i c s) ↔ keyLe lt k c ∧ Ordered lt c ∧ Ordered lt s := Iff.rfl

theorem ordered_nil : Ordered lt (.nil : PTree κ) := trivial

theorem keyLe_nil (k : κ) : keyLe lt k .nil := fun x hx => by cases hx

theorem keyLe_node {k k' : κ} {i : Nat} {c s : PTree κ} :
    keyLe lt k (.node k' i c s) ↔ le lt k k' ∧ keyLe lt k c ∧ keyLe lt k s := by
  unfold keyLe
  simp only [elems, List.mem_cons, List.mem_append]
  constructor
  · intro h
    exact ⟨h (k', i) (Or.inl rfl), fun x hx => h x (Or.inr (Or.inl hx)), fun x hx => h x (Or.inr (Or.inr hx))⟩
  · rintro ⟨h1, h2, h3⟩ x (rfl | hx | hx)
    · exact h1
    · exact h2 x hx
    · exact h3 x hx

theorem keyLe_mono (hl : LtLaws lt) {k k' : κ} {t : PTree κ} (h : keyLe lt k' t) (hk : le lt k k') : keyLe lt k t :=
  fun x hx => le_trans' hl hk (h x hx)

theorem link_nil_right (a : PTree κ) : link lt a .nil = a := by cases a <;> rfl
theorem link_nil_left (b : PTree κ) : link lt .nil b = b := by cases b <;> rfl

theorem elems_link {a b : PTree κ} (ha : Single a) : (elems (link lt a b)).Perm (elems a ++ elems b) := by
  cases a with
  | nil => rw [link_nil_left]; simp [elems]
  | node ka ia ca sa =>
    cases b with
    | nil => rw [link_nil_right]; simp [elems]
    | node kb ib cb sb =>
      have hsa : sa = .nil := ha
      subst hsa
      by_cases hlt : lt kb ka = true
      · simp only [link, if_pos hlt, elems, List.append_nil, List.cons_append, List.append_assoc]
        exact (List.Perm.swap _ _ _).trans (List.Perm.cons _ List.perm_middle.symm)
      · simp only [link, if_neg hlt, elems, List.append_nil, List.cons_append, List.append_assoc]
        exact List.Perm.cons _ ((List.Perm.cons _ (List.perm_append_comm_assoc _ _ _)).trans List.perm_middle.symm)

/-- a heap-ordered root (or the empty heap) -/
def Good (lt : κ → κ → Bool) (h : PTree κ) : Prop := Single h ∧ Ordered lt h

theorem good_nil : Good lt (.nil : PTree κ) := ⟨trivial, ordered_nil⟩

theorem good_link (hl : LtLaws lt) {a b : PTree κ} (ha : Good lt a) (hb : Good lt b) : Good lt (link lt a b) := by
  cases a with
  | nil => rw [link_nil_left]; exact hb
  | node ka ia ca sa =>
    cases b with
    | nil => rw [link_nil_right]; exact ha
    | node kb ib cb sb =>
      obtain ⟨ha1, ha2, _⟩ := ordered_node.mp ha.2
      obtain ⟨hb1, hb2, hb3⟩ := ordered_node.mp hb.2
      by_cases hlt : lt kb ka = true
      · simp only [link, if_pos hlt]
        have hle : le lt kb ka := le_of_lt' hl hlt
        exact ⟨hb.1, ordered_node.mpr ⟨keyLe_node.mpr ⟨hle, keyLe_mono hl ha1 hle, hb1⟩,
          ordered_node.mpr ⟨ha1, ha2, hb2⟩, hb3⟩⟩
      · simp only [link, if_neg hlt]
        have hle : le lt ka kb := le_of_not_lt' hlt
        exact ⟨hb.1, ordered_node.mpr ⟨keyLe_node.mpr ⟨hle, keyLe_mono hl hb1 hle, ha1⟩,
          ordered_node.mpr ⟨hb1, hb2, ha2⟩, hb3⟩⟩

theorem merge_spec (hl : LtLaws lt) {h r : PTree κ} (hg : Good lt h) (rg : Good lt r) :
    (elems (merge lt h r)).Perm (elems h ++ elems r) ∧ Good lt (merge lt h r) := by
  cases h with
  | nil => exact ⟨by simp [merge, elems], rg⟩
  | node kh ih ch sh => exact ⟨elems_link hg.1, good_link hl hg rg⟩

theorem insert_eq_merge (h : PTree κ) (k : κ) (i : Nat) :
    Model.PairingHeap.insert lt h k i = merge lt h (.node k i .nil .nil) := by
  cases h <;> rfl

theorem insert_spec (hl : LtLaws lt) {h : PTree κ} (hg : Good lt h) (k : κ) (i : Nat) :
    (elems (Model.PairingHeap.insert lt h k i)).Perm ((k, i) :: elems h) ∧ Good lt (Model.PairingHeap.insert lt h k i) := by
  rw [insert_eq_merge]
  obtain ⟨hp, hgood⟩ := merge_spec hl hg (r := .node k i .nil .nil) ⟨rfl, ordered_node.mpr ⟨keyLe_nil k, ordered_nil, ordered_nil⟩⟩
  exact ⟨hp.trans (by simp only [elems, List.append_nil]; exact List.perm_append_comm), hgood⟩

theorem good_insert (hl : LtLaws lt) {h : PTree κ} (hg : Good lt h) (k : κ) (i : Nat) :
    Good lt (Model.PairingHeap.insert lt h k i) :=
  (insert_spec hl hg k i).2

theorem findMin_spec (hl : LtLaws lt) {h : PTree κ} (hg : Good lt h) {k : κ} {i : Nat}
    (hf : findMin h = some (k, i)) : (k, i) ∈ elems h ∧ ∀ x ∈ elems h, le lt k x.1 := by
  cases h with
  | nil => cases hf
  | node kh ih ch sh =>
    cases hf
    obtain rfl : sh = .nil := hg.1
    refine ⟨List.mem_cons_self, fun x hx => ?_⟩
    simp only [elems, List.append_nil, List.mem_cons] at hx
    rcases hx with rfl | hx
    · exact le_refl' hl _
    · exact (ordered_node.mp hg.2).1 x hx

theorem findMin_none {h : PTree κ} : findMin h = none ↔ elems h = [] := by
  cases h <;> simp [findMin, elems]

def Roots (lt : κ → κ → Bool) (l : List (PTree κ)) : Prop := ∀ t ∈ l, Good lt t

theorem siblings_elems : ∀ (t : PTree κ), (siblings t).flatMap elems = elems t
  | .nil => rfl
  | .node k i c s => by simp [siblings, elems, siblings_elems s]

theorem siblings_roots : ∀ (t : PTree κ), Ordered lt t → Roots lt (siblings t)
  | .nil, _ => fun _ ht => by cases ht
  | .node k i c s, ho => by
    obtain ⟨ho1, ho2, ho3⟩ := ordered_node.mp ho
    intro t ht
    rcases List.mem_cons.mp ht with rfl | ht
    · exact ⟨rfl, ordered_node.mpr ⟨ho1, ho2, ordered_nil⟩⟩
    · exact siblings_roots s ho3 t ht

theorem pass1_spec (hl : LtLaws lt) : ∀ (l : List (PTree κ)), Roots lt l →
    Roots lt (pass1 lt l) ∧ ((pass1 lt l).flatMap elems).Perm (l.flatMap elems)
  | [], hr => ⟨hr, List.Perm.refl _⟩
  | [_], hr => ⟨hr, List.Perm.refl _⟩
  | a :: b :: rest, hr => by
    have ha := hr a (by simp)
    obtain ⟨h1, h2⟩ := pass1_spec hl rest (fun t ht => hr t (by simp [ht]))
    refine ⟨fun t ht => ?_, ?_⟩
    · rcases List.mem_cons.mp ht with rfl | ht
      · exact good_link hl ha (hr b (by simp))
      · exact h1 t ht
    · simp only [pass1, List.flatMap_cons]
      rw [← List.append_assoc]
      exact List.Perm.append (elems_link ha.1) h2

theorem pass2_spec (hl : LtLaws lt) : ∀ (l : List (PTree κ)), Roots lt l →
    Good lt (pass2 lt l) ∧ (elems (pass2 lt l)).Perm (l.flatMap elems)
  | [], _ => ⟨good_nil, List.Perm.refl _⟩
  | [a], hr => ⟨hr a (by simp), by simp [pass2]⟩
  | a :: b :: rest, hr => by
    have ha := hr a (by simp)
    obtain ⟨h1, h3⟩ := pass2_spec hl (b :: rest) (fun t ht => hr t (List.mem_cons_of_mem _ ht))
    refine ⟨good_link hl ha h1, ?_⟩
    rw [List.flatMap_cons]
    exact (elems_link ha.1).trans (List.Perm.append_left _ h3)

theorem deleteMin_spec (hl : LtLaws lt) {k : κ} {i : Nat} {c : PTree κ} (ho : Ordered lt (.node k i c .nil)) :
    (elems (.node k i c .nil)).Perm ((k, i) :: elems (deleteMin lt (.node k i c .nil))) ∧
    Good lt (deleteMin lt (.node k i c .nil)) := by
  obtain ⟨hp1, hp2⟩ := pass1_spec hl _ (siblings_roots c (ordered_node.mp ho).2.1)
  obtain ⟨hg, h3⟩ := pass2_spec hl _ hp1
  refine ⟨?_, hg⟩
  simp only [elems, List.append_nil]
  exact List.Perm.cons _ (siblings_elems c ▸ (h3.trans hp2).symm)

theorem good_deleteMin (hl : LtLaws lt) {h : PTree κ} (hg : Good lt h) : Good lt (deleteMin lt h) := by
  cases h with
  | nil => exact good_nil
  | node k i c s =>
    obtain rfl : s = .nil := hg.1
    exact (deleteMin_spec hl hg.2).2

theorem deleteMin_perm (hl : LtLaws lt) {h : PTree κ} (hg : Good lt h) {k : κ} {i : Nat} (hf : findMin h = some (k, i)) :
    (elems h).Perm ((k, i) :: elems (deleteMin lt h)) := by
  cases h with
  | nil => cases hf
  | node kh ih c s =>
    obtain rfl : s = .nil := hg.1
    cases hf
    exact (deleteMin_spec hl hg.2).1

theorem detach_spec (id : Nat) (t : PTree κ) (ho : Ordered lt t) :
    (∀ t' d, detach id t = (t', some d) →
      (∃ kd cd, d = .node kd id cd .nil) ∧ Ordered lt d ∧ Ordered lt t' ∧ (elems t).Perm (elems d ++ elems t')) ∧
    (∀ t', detach id t = (t', none) → t' = t ∧ ∀ x ∈ elems t, x.2 ≠ id) := by
  induction t using detach.induct id with
  | case1 =>
    refine ⟨fun t' d h => ?_, fun t' h => ?_⟩
    · cases h
    · cases h; exact ⟨rfl, fun x hx => by cases hx⟩
  | case2 k c s =>
    obtain ⟨hkc, hoc, hos⟩ := ordered_node.mp ho
    rw [detach, if_pos rfl]
    refine ⟨fun t' d h => ?_, fun t' h => by cases h⟩
    cases h
    exact ⟨⟨k, c, rfl⟩, ordered_node.mpr ⟨hkc, hoc, ordered_nil⟩, hos, by simp [elems]⟩
  | case3 k i c s hid c' dt hdc ihc =>
    obtain ⟨hkc, hoc, hos⟩ := ordered_node.mp ho
    obtain ⟨hform, hod, hoc', hperm⟩ := (ihc hoc).1 c' dt hdc
    rw [detach, if_neg hid, hdc]
    refine ⟨fun t' d h => ?_, fun t' h => by cases h⟩
    cases h
    refine ⟨hform, hod, ordered_node.mpr ⟨fun x hx => hkc x (hperm.mem_iff.mpr (List.mem_append_right _ hx)), hoc', hos⟩, ?_⟩
    simp only [elems]
    refine ((hperm.append_right _).cons _).trans ?_
    rw [List.append_assoc]
    exact List.perm_middle.symm
  | case4 k i c s hid c' hdc s' r hds ihc ihs =>
    obtain ⟨hkc, hoc, hos⟩ := ordered_node.mp ho
    rw [detach, if_neg hid, hdc, hds]
    refine ⟨fun t' d h => ?_, fun t' h => ?_⟩
    · cases h
      obtain ⟨hform, hod, hos', hperm⟩ := (ihs hos).1 s' d hds
      refine ⟨hform, hod, ordered_node.mpr ⟨hkc, hoc, hos'⟩, ?_⟩
      simp only [elems]
      exact ((hperm.append_left _).cons _).trans
        ((List.Perm.cons _ (List.perm_append_comm_assoc _ _ _)).trans List.perm_middle.symm)
    · cases h
      obtain ⟨rfl, hsno⟩ := (ihs hos).2 s' hds
      refine ⟨rfl, fun x hx => ?_⟩
      simp only [elems, List.mem_cons, List.mem_append] at hx
      rcases hx with rfl | hx | hx
      · exact hid
      · exact ((ihc hoc).2 c' hdc).2 x hx
      · exact hsno x hx

theorem decreaseKey_spec (hl : LtLaws lt) {h : PTree κ} (hg : Good lt h) (id : Nat) (nk : κ) :
    (decreaseKey lt h id nk = h ∧ ∀ x ∈ elems h, x.2 ≠ id) ∨
    (∃ ok rest, (elems h).Perm ((ok, id) :: rest) ∧ (elems (decreaseKey lt h id nk)).Perm ((nk, id) :: rest) ∧
      (le lt nk ok → Good lt (decreaseKey lt h id nk))) := by
  cases h with
  | nil => left; exact ⟨rfl, fun x hx => by cases hx⟩
  | node k i c s =>
    obtain rfl : s = .nil := hg.1
    obtain ⟨hkc, hoc, _⟩ := ordered_node.mp hg.2
    by_cases hid : i = id
    · simp only [decreaseKey, if_pos hid]
      right
      refine ⟨k, elems c ++ [], ?_, ?_, fun hle => ⟨rfl, ordered_node.mpr ⟨keyLe_mono hl hkc hle, hoc, ordered_nil⟩⟩⟩
      · rw [← hid]; simp [elems]
      · rw [← hid]; simp [elems]
    · simp only [decreaseKey, if_neg hid]
      obtain ⟨hd1, hd2⟩ := detach_spec (lt := lt) id c hoc
      cases hdc : detach id c with
      | mk c' rc =>
        cases rc with
        | none =>
          left
          obtain ⟨_, hno⟩ := hd2 c' hdc
          refine ⟨rfl, ?_⟩
          intro x hx
          simp only [elems, List.append_nil, List.mem_cons] at hx
          rcases hx with rfl | hx
          · exact hid
          · exact hno x hx
        | some d =>
          simp only
          right
          obtain ⟨⟨kd, cd, rfl⟩, hod, hoc', hperm⟩ := hd1 c' _ hdc
          have hroot : Single (.node k i c' .nil : PTree κ) := rfl
          have hkc' : keyLe lt k c' := fun x hx => hkc x (hperm.mem_iff.mpr (List.mem_append_right _ hx))
          refine ⟨kd, (k, i) :: (elems cd ++ elems c'), ?_, ?_, fun hle => ?_⟩
          · simp only [elems, List.append_nil, List.cons_append] at hperm ⊢
            exact (hperm.cons _).trans (List.Perm.swap _ _ _)
          · refine (elems_link hroot).trans ?_
            simp only [setKey, elems, List.append_nil, List.cons_append]
            exact ((List.perm_middle.trans (List.Perm.cons _ List.perm_append_comm)).cons _).trans (List.Perm.swap _ _ _)
          · exact good_link hl ⟨hroot, ordered_node.mpr ⟨hkc', hoc', ordered_nil⟩⟩
              ⟨rfl, ordered_node.mpr ⟨keyLe_mono hl (ordered_node.mp hod).1 hle, (ordered_node.mp hod).2.1, ordered_nil⟩⟩

inductive Op (κ : Type) where
  | insert (key : κ) (id : Nat)
  | deleteMin
  | decreaseKey (id : Nat) (newKey : κ)
  | merge (items : List (κ × Nat))      -- a second heap built by inserting `items`, then merged

def build (lt : κ → κ → Bool) (items : List (κ × Nat)) : PTree κ :=
  items.foldl (fun h x => Model.PairingHeap.insert lt h x.1 x.2) .nil

def applyOp (lt : κ → κ → Bool) (h : PTree κ) : Op κ → PTree κ
  | .insert k i => Model.PairingHeap.insert lt h k i
  | .deleteMin => deleteMin lt h
  | .decreaseKey i nk => decreaseKey lt h i nk
  | .merge items => merge lt h (build lt items)

/-- the documented precondition of `decreaseKey`: the new value is not larger than the stored one -/
def Legal (lt : κ → κ → Bool) (h : PTree κ) : Op κ → Prop
  | .decreaseKey i nk => ∀ x ∈ elems h, x.2 = i → le lt nk x.1
  | _ => True

def LegalSeq (lt : κ → κ → Bool) : PTree κ → List (Op κ) → Prop
  | _, [] => True
  | h, op :: rest => Legal lt h op ∧ LegalSeq lt (applyOp lt h op) rest

theorem good_build (hl : LtLaws lt) (items : List (κ × Nat)) : Good lt (build lt items) :=
  List.foldlRecOn items _ (motive := Good lt) good_nil fun _ hg x _ => good_insert hl hg x.1 x.2

theorem good_applyOp (hl : LtLaws lt) {h : PTree κ} (hg : Good lt h) {op : Op κ} (hlg : Legal lt h op) :
    Good lt (applyOp lt h op) := by
  cases op with
  | insert k i => exact good_insert hl hg k i
  | deleteMin => exact good_deleteMin hl hg
  | decreaseKey i nk =>
    rcases decreaseKey_spec hl hg i nk with ⟨e, _⟩ | ⟨ok, rest, hp, _, ho⟩
    · show Good lt (decreaseKey lt h i nk); rw [e]; exact hg
    · exact ho (hlg (ok, i) (hp.mem_iff.mpr (List.mem_cons_self)) rfl)
  | merge items =>
    exact (merge_spec hl hg (good_build hl items)).2

theorem good_run (hl : LtLaws lt) : ∀ (ops : List (Op κ)) (h : PTree κ), Good lt h → LegalSeq lt h ops →
    Good lt (ops.foldl (applyOp lt) h) := by
  intro ops
  induction ops with
  | nil => intro h hg _; exact hg
  | cons op rest ih => intro h hg hlg; exact ih _ (good_applyOp hl hg hlg.1) hlg.2

/-! ### what holds for every comparison

No operation adds an element that was not put in, and the root of a result is a root of an argument. Nothing is asked of
`lt` or of the shape of the heaps (`link` drops the sibling of its first argument, hence `Subperm`, not `Perm`). -/

theorem subperm_append {α : Type} {l₁ l₂ r₁ r₂ : List α} (h1 : l₁.Subperm l₂) (h2 : r₁.Subperm r₂) :
    (l₁ ++ r₁).Subperm (l₂ ++ r₂) :=
  ((List.subperm_append_right r₁).2 h1).trans ((List.subperm_append_left l₂).2 h2)

theorem elems_link_subperm (a b : PTree κ) : (elems (link lt a b)).Subperm (elems a ++ elems b) := by
  classical
  rw [List.subperm_ext_iff]
  intro x _
  cases a with
  | nil => cases b <;> simp [link, elems]
  | node ka ia ca sa =>
    cases b with
    | nil => simp [link, elems]
    | node kb ib cb sb =>
      simp only [link]
      split <;> simp only [elems, List.count_cons, List.count_append] <;> omega

theorem elems_merge_subperm (a b : PTree κ) : (elems (merge lt a b)).Subperm (elems a ++ elems b) := by
  cases a with
  | nil => exact List.Subperm.refl _
  | node k i c s => exact elems_link_subperm _ b

theorem elems_insert_subperm (h : PTree κ) (k : κ) (i : Nat) :
    (elems (Model.PairingHeap.insert lt h k i)).Subperm ((k, i) :: elems h) := by
  rw [insert_eq_merge]
  exact (elems_merge_subperm h _).trans (by simp only [elems, List.append_nil]; exact List.perm_append_comm.subperm)

theorem pass1_subperm : ∀ (l : List (PTree κ)), ((pass1 lt l).flatMap elems).Subperm (l.flatMap elems)
  | [] => List.Subperm.refl _
  | [a] => List.Subperm.refl _
  | a :: b :: rest => by
    simp only [pass1, List.flatMap_cons]
    rw [← List.append_assoc]
    exact subperm_append (elems_link_subperm a b) (pass1_subperm rest)

theorem pass2_subperm : ∀ (l : List (PTree κ)), (elems (pass2 lt l)).Subperm (l.flatMap elems)
  | [] => List.Subperm.refl _
  | [a] => by simpa [pass2] using List.Subperm.refl (elems a)
  | a :: b :: rest => by
    rw [List.flatMap_cons]
    exact (elems_link_subperm a (pass2 lt (b :: rest))).trans
      (subperm_append (List.Subperm.refl (elems a)) (pass2_subperm (b :: rest)))

theorem elems_deleteMin_subperm (k : κ) (i : Nat) (c s : PTree κ) :
    (elems (deleteMin lt (.node k i c s))).Subperm (elems c) := by
  have := (pass2_subperm (lt := lt) _).trans (pass1_subperm (lt := lt) (siblings c))
  rwa [siblings_elems] at this

theorem length_elems_deleteMin_lt {h : PTree κ} {x : κ × Nat} (hx : findMin h = some x) :
    (elems (deleteMin lt h)).length < (elems h).length := by
  cases h with
  | nil => cases hx
  | node k i c s =>
    have := (elems_deleteMin_subperm (lt := lt) k i c s).length_le
    simp only [elems, List.length_cons, List.length_append]
    omega

theorem findMin_mem {h : PTree κ} {x : κ × Nat} (hx : findMin h = some x) : x ∈ elems h := by
  cases h with
  | nil => cases hx
  | node k i c s => cases hx; exact List.mem_cons_self

theorem findMin_link (a b : PTree κ) (x : κ × Nat) (h : findMin (link lt a b) = some x) :
    findMin a = some x ∨ findMin b = some x := by
  cases a with
  | nil => right; rwa [link_nil_left] at h
  | node ka ia ca sa =>
    cases b with
    | nil => left; exact h
    | node kb ib cb sb =>
      simp only [link] at h
      split at h
      · right; exact h
      · left; exact h

theorem findMin_insert (h : PTree κ) (k : κ) (i : Nat) (x : κ × Nat)
    (hx : findMin (Model.PairingHeap.insert lt h k i) = some x) : x = (k, i) ∨ findMin h = some x := by
  cases h with
  | nil => left; cases hx; rfl
  | node kh ih c s =>
    rcases findMin_link (lt := lt) (.node kh ih c s) (.node k i .nil .nil) x hx with h1 | h1
    · exact Or.inr h1
    · left; cases h1; rfl

end AdaptaVerif.Lemmas.PairingHeap
