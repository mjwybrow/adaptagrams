/-
Geometric meaning of `Model.Reroute.edgeBlocked` (the as-coded `newBlockingShape` test): for a strictly
convex counter-clockwise polygon, if the test does NOT report the edge blocked then the edge does not
enter the polygon's interior — away from the known weakness of the per-shape `segmentShapeIntersect` loop
(no vertex of the polygon in the open segment; ends not strictly inside).  Reuses Lemmas/VisSound*.
-/
import AdaptaVerif.Model.Reroute
import AdaptaVerif.Lemmas.VisSoundConvex
namespace AdaptaVerif.Lemmas.RerouteGeom
open AdaptaVerif.Model.Geometry (Pt inPoly)
open AdaptaVerif.Check.Route (lerp Poly polyEdges segHitsOriented)
open AdaptaVerif.Spec.Route (InsideOriented)
open AdaptaVerif.Model.Reroute
open AdaptaVerif.Lemmas.VisSound
open AdaptaVerif.Lemmas.Route (segHitsOriented_iff lerp_self)
open AdaptaVerif.Lemmas.GeometrySpec (inPoly_iff)

theorem inPoly_strict (poly : Poly) (q : Pt) (hlen : 3 ≤ poly.length) (h : inPoly poly q false = true) :
    InsideOriented 1 0 poly q := by
  refine ⟨hlen, ?_⟩
  intro e he
  have := ((inPoly_iff poly q).2.mp h) e ((edges_mem_iff poly e).mpr he)
  simpa using this

theorem edgeBlocked_false_sound (poly : Poly) (r : Reg)
    (hlen : 3 ≤ poly.length) (hC : ConvexCycle (polyEdges poly))
    (hb : edgeBlocked poly r = false)
    (ha : ¬ InsideOriented 1 0 poly r.pu) (hb' : ¬ InsideOriented 1 0 poly r.pv)
    (hnov : ∀ v ∈ poly, ∀ t : Rat, 0 < t → t < 1 → lerp r.pu r.pv t ≠ v) :
    segHitsOriented 1 0 poly r.pu r.pv = false := by
  by_cases hne : r.pu = r.pv
  · -- a degenerate edge is its end point, which is not inside
    rw [← Bool.not_eq_true, segHitsOriented_iff]
    rintro ⟨t, _, _, hin⟩
    rw [← hne, lerp_self] at hin
    exact ha hin
  -- the other early exit of `edgeBlocked` is excluded by the hypotheses on the ends
  have hnoex : ((r.u.isConn && inPoly poly r.pu false) || (r.v.isConn && inPoly poly r.pv false)) = false := by
    rw [Bool.or_eq_false_iff, Bool.and_eq_false_imp, Bool.and_eq_false_imp]
    exact ⟨fun _ => Bool.eq_false_iff.mpr fun hi => ha (inPoly_strict poly _ hlen hi),
      fun _ => Bool.eq_false_iff.mpr fun hi => hb' (inPoly_strict poly _ hlen hi)⟩
  rw [edgeBlocked, if_neg hne, hnoex, if_neg Bool.false_ne_true] at hb
  exact segHitsOriented_false_of_loop poly hlen (boundaryChar_of_convexCycle _ hC) _ _ hb ha hb' hnov

open AdaptaVerif.Lemmas.Route (rectPoly rectPoly_length) in
open AdaptaVerif.Spec.Route (SegHits StrictlyInside) in
/-- rectangles: the conclusion in terms of the C03 specification `SegHits` (either orientation; the clockwise
    interior of a rectangle in libavoid's vertex order is empty) -/
theorem edgeBlocked_false_sound_rect (x0 y0 x1 y1 : Rat) (hx : x0 < x1) (hy : y0 < y1) (r : Reg)
    (hb : edgeBlocked (rectPoly x0 y0 x1 y1) r = false)
    (ha : ¬ StrictlyInside (rectPoly x0 y0 x1 y1) r.pu) (hb' : ¬ StrictlyInside (rectPoly x0 y0 x1 y1) r.pv)
    (hnov : ∀ v ∈ rectPoly x0 y0 x1 y1, ∀ t : Rat, 0 < t → t < 1 → lerp r.pu r.pv t ≠ v) :
    ¬ SegHits (rectPoly x0 y0 x1 y1) r.pu r.pv := by
  rw [← AdaptaVerif.Lemmas.Route.segHitsInterior_iff, AdaptaVerif.Lemmas.Route.segHitsInterior_rect x0 y0 x1 y1 hx hy,
    edgeBlocked_false_sound _ r (rectPoly_length x0 y0 x1 y1) (rect_convexCycle x0 y0 x1 y1 hx hy) hb
      (fun h => ha (Or.inl h)) (fun h => hb' (Or.inl h)) hnov]
  exact Bool.false_ne_true

end AdaptaVerif.Lemmas.RerouteGeom
