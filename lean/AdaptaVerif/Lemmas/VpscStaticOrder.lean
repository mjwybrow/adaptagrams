/-
`Blocks::totalOrder` / `Blocks::dfsVisit` (blocks.cpp) of the static VPSC solver's model
(`Model/VpscStatic.lean`): on an acyclic constraint graph the depth-first search returns a TOPOLOGICAL
order — no variable twice, every variable listed, every constraint's left variable strictly before its
right variable (`totalOrder_topological`) — and it never runs out of the model's fuel
(`totalOrder_ok`, cyclic graphs included).
Proof: the classical grey/black argument.  `DS`: the visited set is the recursion stack `G` (grey) plus
the finished list `ord` (black), and every edge out of a black vertex leads to a black vertex later in the
list; a grey successor would close a cycle.  The two loops (over an out-list, over the roots) are one fold of
visits (`visits_spec`).  Completeness (every variable is listed) is well-founded
induction along the finite acyclic graph from the roots `in.size()==0`.
-/
import AdaptaVerif.Model.VpscStatic
import AdaptaVerif.Lemmas.VpscInv
import AdaptaVerif.Lemmas.Util.List
import Mathlib.Logic.Relation
import Mathlib.Data.Fintype.EquivFin
import AdaptaVerif.Lemmas.Util.Array
namespace AdaptaVerif.Lemmas.VpscStaticOrder
open AdaptaVerif.Model.Vpsc AdaptaVerif.Model.VpscStatic
open AdaptaVerif.Lemmas.VpscInv
open Relation

/-- an edge of the constraint graph -/
def E (st : St) (a b : Nat) : Prop :=
  ∃ ci, ci < st.cons.size ∧ (st.cons[ci]!).l = a ∧ (st.cons[ci]!).r = b

def Acyclic (st : St) : Prop := ∀ x, ¬ TransGen (E st) x x

/-- `a` occurs in `l` strictly before an occurrence of `b` -/
def Before (l : List Nat) (a b : Nat) : Prop := ∃ A B, l = A ++ a :: B ∧ b ∈ B

theorem Before.append_left {l : List Nat} {a b : Nat} (p : List Nat) (h : Before l a b) : Before (p ++ l) a b := by
  obtain ⟨A, B, rfl, hb⟩ := h
  exact ⟨p ++ A, B, by simp, hb⟩

theorem Before.cons {l : List Nat} {a b : Nat} (x : Nat) (h : Before l a b) : Before (x :: l) a b :=
  h.append_left [x]

theorem Before.head {l : List Nat} {a b : Nat} (hb : b ∈ l) : Before (a :: l) a b := ⟨[], l, rfl, hb⟩

theorem Before.mem_right {l : List Nat} {a b : Nat} (h : Before l a b) : b ∈ l := by
  obtain ⟨A, B, rfl, hb⟩ := h
  simp [hb]

/-- the state of the search: `vis` = grey vertices (on the recursion stack, `G`) ∪ finished vertices
    (`ord`, each with all its successors later in the list) -/
structure DS (st : St) (G : Nat → Prop) (vis : Array Bool) (ord : List Nat) : Prop where
  size : vis.size = st.vars.size
  vis_iff : ∀ x, vis[x]! = true ↔ (G x ∨ x ∈ ord)
  disj : ∀ x, G x → x ∉ ord
  nodup : ord.Nodup
  closed : ∀ a ∈ ord, ∀ b, E st a b → Before ord a b

open AdaptaVerif.Lemmas.Util (get!_set!)

theorem vis_set (vis : Array Bool) (v x : Nat) (hv : v < vis.size) :
    (vis.set! v true)[x]! = true ↔ (x = v ∨ vis[x]! = true) := by
  rw [get!_set!]
  split
  · rename_i h; simp [h.1]
  · rename_i h
    constructor
    · exact Or.inr
    · rintro (rfl | h')
      · exact absurd ⟨rfl, hv⟩ h
      · exact h'

/-- a recursive call of `dfsVisit` from one of the two loops: visited set and order are taken over, the
    fuel flags are and-ed -/
def visit (st : St) (fuel : Nat) (acc : Array Bool × List Nat × Bool) (v : Nat) : Array Bool × List Nat × Bool :=
  ((dfsVisit st fuel acc.1 acc.2.1 v).1, (dfsVisit st fuel acc.1 acc.2.1 v).2.1,
    acc.2.2 && (dfsVisit st fuel acc.1 acc.2.1 v).2.2)

/-- the body of the `for` loop of `dfsVisit` -/
def dfsStep (st : St) (fuel : Nat) (acc : Array Bool × List Nat × Bool) (ci : Nat) : Array Bool × List Nat × Bool :=
  if !(acc.1[(st.cons[ci]!).r]!) then visit st fuel acc (st.cons[ci]!).r else acc

theorem dfsStep_ok (st : St) (fuel : Nat) (a : Array Bool × List Nat × Bool) (ci : Nat)
    (h : (dfsStep st fuel a ci).2.2 = true) : a.2.2 = true := by
  unfold dfsStep visit at h
  split at h
  · exact (Bool.and_eq_true_iff.1 h).1
  · exact h

theorem dfsVisit_succ (st : St) (fuel : Nat) (vis : Array Bool) (ord : List Nat) (v : Nat) :
    dfsVisit st (fuel + 1) vis ord v =
      (((st.vars[v]!).outs.foldl (dfsStep st fuel) (vis.set! v true, ord, true)).1,
        v :: ((st.vars[v]!).outs.foldl (dfsStep st fuel) (vis.set! v true, ord, true)).2.1,
        ((st.vars[v]!).outs.foldl (dfsStep st fuel) (vis.set! v true, ord, true)).2.2) := by
  rw [dfsVisit]
  have : (fun (x : Array Bool × List Nat × Bool) (ci : Nat) =>
      match x with
      | (vis, ord, ok) =>
        if (!vis[(st.cons[ci]!).r]!) = true then
          match dfsVisit st fuel vis ord (st.cons[ci]!).r with
          | (vis, ord, ok') => (vis, ord, ok && ok')
        else (vis, ord, ok)) = dfsStep st fuel := by
    funext x ci
    obtain ⟨a, b, c⟩ := x
    simp only [dfsStep, visit]
  simp only [this]

def IsTarget (st : St) (x : Nat) : Prop := ∃ ci, ci < st.cons.size ∧ (st.cons[ci]!).r = x

/-- a fold of visits, the loop of `dfsVisit` over an out-list and the loop of `totalOrder` over the roots alike: each
    step either calls `dfsVisit` on a vertex `t x` that is unvisited and reached from every grey vertex, or leaves the
    state alone (`hstep`, which may use what has been listed so far: targets and start vertices of earlier steps).  Given
    what one call achieves (`spec`), the fold keeps the search state, lists targets and start vertices only, and every
    start vertex with `P`, called or skipped because it was visited, is visited at the end. -/
theorem visits_spec (st : St) (G : Nat → Prop) (fuel : Nat) {α : Type}
    (step : Array Bool × List Nat × Bool → α → Array Bool × List Nat × Bool) (t : α → Nat) (P : α → Prop)
    (l : List α) (acc0 : Array Bool × List Nat × Bool)
    (spec : ∀ (vis : Array Bool) (ord : List Nat) (v : Nat), DS st G vis ord → v < st.vars.size → vis[v]! = false →
      (∀ g, G g → TransGen (E st) g v) → (dfsVisit st fuel vis ord v).2.2 = true →
      DS st G (dfsVisit st fuel vis ord v).1 (dfsVisit st fuel vis ord v).2.1 ∧
      ∃ new, (dfsVisit st fuel vis ord v).2.1 = new ++ ord ∧ v ∈ new ∧ ∀ x ∈ new, x = v ∨ IsTarget st x)
    (hD : DS st G acc0.1 acc0.2.1) (hok : ∀ a x, (step a x).2.2 = true → a.2.2 = true)
    (hstep : ∀ (init : List α) (x : α) (acc : Array Bool × List Nat × Bool), init ++ [x] <+: l →
      DS st G acc.1 acc.2.1 →
      (∃ new, acc.2.1 = new ++ acc0.2.1 ∧ ∀ y ∈ new, IsTarget st y ∨ ∃ z ∈ init, y = t z) →
      (step acc x = visit st fuel acc (t x) ∧ acc.1[t x]! = false ∧ t x < st.vars.size ∧
        ∀ g, G g → TransGen (E st) g (t x)) ∨
      (step acc x = acc ∧ (P x → acc.1[t x]! = true))) :
    ∀ m : List α, m <+: l → (m.foldl step acc0).2.2 = true →
      DS st G (m.foldl step acc0).1 (m.foldl step acc0).2.1 ∧
      (∃ new, (m.foldl step acc0).2.1 = new ++ acc0.2.1 ∧ ∀ y ∈ new, IsTarget st y ∨ ∃ z ∈ m, y = t z) ∧
      ∀ z ∈ m, P z → (m.foldl step acc0).1[t z]! = true := by
  intro m
  induction m using List.reverseRecOn with
  | nil => exact fun _ _ => ⟨hD, ⟨[], rfl, fun _ h => by cases h⟩, fun _ h => by cases h⟩
  | append_singleton init x ih =>
    intro hpre hok'
    rw [List.foldl_append, List.foldl_cons, List.foldl_nil] at hok' ⊢
    obtain ⟨hDa, ⟨newa, hna, hna2⟩, hPa⟩ := ih ((List.prefix_append init [x]).trans hpre) (hok _ _ hok')
    have hold : ∀ y ∈ newa, IsTarget st y ∨ ∃ z ∈ init ++ [x], y = t z := fun y hy =>
      (hna2 y hy).imp_right fun ⟨z, hz, e⟩ => ⟨z, List.mem_append_left _ hz, e⟩
    generalize init.foldl step acc0 = acc at *
    rcases hstep init x acc hpre hDa ⟨newa, hna, hna2⟩ with ⟨e, hnv, hlt, hG⟩ | ⟨e, hP⟩
    · rw [e] at hok' ⊢
      unfold visit at hok' ⊢
      obtain ⟨hDr, newr, hnr, hin, hnr2⟩ := spec acc.1 acc.2.1 (t x) hDa hlt hnv hG (Bool.and_eq_true_iff.1 hok').2
      refine ⟨hDr, ⟨newr ++ newa, by rw [hnr, hna, List.append_assoc], fun y hy => ?_⟩, fun z hz hp => ?_⟩
      · rcases List.mem_append.1 hy with hy | hy
        · exact (hnr2 y hy).symm.imp_right fun e => ⟨x, by simp, e⟩
        · exact hold y hy
      · refine (hDr.vis_iff _).2 ?_
        rw [hnr]
        rcases List.mem_append.1 hz with hz | hz
        · exact ((hDa.vis_iff _).1 (hPa z hz hp)).imp_right (List.mem_append_right _)
        · obtain rfl := List.mem_singleton.1 hz
          exact Or.inr (List.mem_append_left _ hin)
    · rw [e]
      refine ⟨hDa, ⟨newa, hna, hold⟩, fun z hz hp => ?_⟩
      rcases List.mem_append.1 hz with hz | hz
      · exact hPa z hz hp
      · obtain rfl := List.mem_singleton.1 hz
        exact hP hp

theorem dfs_spec (st : St) {n' : Nat} {ia : Array Nat} (hI : InvC st.vars st.cons n' ia) (hac : Acyclic st) :
    ∀ (fuel : Nat) (vis : Array Bool) (ord : List Nat) (v : Nat) (G : Nat → Prop),
      DS st G vis ord → v < st.vars.size → vis[v]! = false → (∀ g, G g → TransGen (E st) g v) →
      (dfsVisit st fuel vis ord v).2.2 = true →
      DS st G (dfsVisit st fuel vis ord v).1 (dfsVisit st fuel vis ord v).2.1 ∧
      ∃ new, (dfsVisit st fuel vis ord v).2.1 = new ++ ord ∧ v ∈ new ∧
        ∀ x ∈ new, x = v ∨ IsTarget st x := by
  intro fuel
  induction fuel with
  | zero => intro vis ord v G _ _ _ _ hok; simp [dfsVisit] at hok
  | succ fuel ih =>
    intro vis ord v G hD hv hnv hG hok
    rw [dfsVisit_succ] at hok ⊢
    simp only at hok
    let G1 : Nat → Prop := fun x => G x ∨ x = v
    have hvsz : v < vis.size := by rw [hD.size]; exact hv
    have hnew : ¬ (G v ∨ v ∈ ord) := fun h => by
      have := (hD.vis_iff v).2 h
      rw [hnv] at this
      cases this
    have hD1 : DS st G1 (vis.set! v true) ord :=
      { size := by rw [← hD.size]; simp
        vis_iff := fun x => by
          rw [vis_set vis v x hvsz, hD.vis_iff x]
          simp only [G1]; tauto
        disj := fun x hx => by
          rcases hx with hx | rfl
          · exact hD.disj x hx
          · exact fun hm => hnew (Or.inr hm)
        nodup := hD.nodup
        closed := hD.closed }
    rw [← Array.foldl_toList] at hok ⊢
    obtain ⟨hDF, ⟨newF, hnewF, hnewF2⟩, htargets⟩ := visits_spec st G1 fuel (dfsStep st fuel)
      (fun ci => (st.cons[ci]!).r) (fun _ => True) (st.vars[v]!).outs.toList (vis.set! v true, ord, true)
      (fun vis ord w => ih vis ord w G1) hD1 (dfsStep_ok st fuel)
      (fun init ci acc hpre _ _ => by
        obtain ⟨hcilt, hcil⟩ := hI.outs_sound v ci (by simpa using hpre.subset (by simp))
        have hEv : E st v (st.cons[ci]!).r := ⟨ci, hcilt, hcil, rfl⟩
        by_cases hvr : acc.1[(st.cons[ci]!).r]! = true
        · exact Or.inr ⟨by simp [dfsStep, hvr], fun _ => hvr⟩
        · have hvr' : acc.1[(st.cons[ci]!).r]! = false := by simpa using hvr
          exact Or.inl ⟨by simp [dfsStep, hvr'], hvr', hI.r_lt ci hcilt, fun g hg =>
            hg.elim (fun h => TransGen.tail (hG g h) hEv) fun e => e ▸ TransGen.single hEv⟩)
      _ List.prefix_rfl hok
    generalize ((st.vars[v]!).outs.toList.foldl (dfsStep st fuel) (vis.set! v true, ord, true)) = F at *
    have hvF : v ∉ F.2.1 := hDF.disj v (Or.inr rfl)
    refine ⟨?_, v :: newF, by simp [hnewF], by simp, ?_⟩
    · exact
        { size := hDF.size
          vis_iff := fun x => by
            rw [hDF.vis_iff x]
            simp only [G1, List.mem_cons]; tauto
          disj := fun x hx => by
            intro hm
            rcases List.mem_cons.1 hm with rfl | hm
            · exact hnew (Or.inl hx)
            · exact hDF.disj x (Or.inl hx) hm
          nodup := List.nodup_cons.2 ⟨hvF, hDF.nodup⟩
          closed := fun a ha b hab => by
            rcases List.mem_cons.1 ha with rfl | ha
            · obtain ⟨ci, hcilt, hcil, hcir⟩ := hab
              have hmem : ci ∈ (st.vars[a]!).outs := by
                have := hI.outs_complete ci hcilt; rwa [hcil] at this
              have hvis := htargets ci (by simpa using hmem) trivial
              rw [hcir] at hvis
              rcases (hDF.vis_iff b).1 hvis with hg | hb
              · exfalso
                rcases hg with hg | rfl
                · exact hac b (TransGen.tail (hG b hg) ⟨ci, hcilt, hcil, hcir⟩)
                · exact hac b (TransGen.single ⟨ci, hcilt, hcil, hcir⟩)
              · exact Before.head hb
            · exact (hDF.closed a ha b hab).cons v }
    · intro x hx
      rcases List.mem_cons.1 hx with rfl | hx
      · exact Or.inl rfl
      · exact Or.inr ((hnewF2 x hx).elim id fun ⟨ci, hci, e⟩ =>
          ⟨ci, (hI.outs_sound v ci (by simpa using hci)).1, e.symm⟩)

/-- the body of the second `for` loop of `totalOrder` -/
def topStep (st : St) (acc : Array Bool × List Nat × Bool) (i : Nat) : Array Bool × List Nat × Bool :=
  if (st.vars[i]!).ins.size == 0 then visit st (st.vars.size + 1) acc i else acc

theorem topStep_ok (st : St) (a : Array Bool × List Nat × Bool) (i : Nat) (h : (topStep st a i).2.2 = true) :
    a.2.2 = true := by
  unfold topStep visit at h
  split at h
  · exact (Bool.and_eq_true_iff.1 h).1
  · exact h

theorem totalOrder_eq (st : St) :
    totalOrder st =
      (((List.range st.vars.size).foldl (topStep st) (Array.replicate st.vars.size false, [], true)).2.1,
       ((List.range st.vars.size).foldl (topStep st) (Array.replicate st.vars.size false, [], true)).2.2) := by
  unfold totalOrder
  have : (fun (x : Array Bool × List Nat × Bool) (i : Nat) =>
      match x with
      | (vis, ord, ok) =>
        if ((st.vars[i]!).ins.size == 0) = true then
          match dfsVisit st (st.vars.size + 1) vis ord i with
          | (vis, ord, ok') => (vis, ord, ok && ok')
        else (vis, ord, ok)) = topStep st := by
    funext x i
    obtain ⟨a, b, c⟩ := x
    simp only [topStep, visit]
  simp only [this]

/-- between the top-level calls of `totalOrder` the recursion stack is empty: no grey vertex -/
def NoG : Nat → Prop := fun _ => False

theorem totalOrder_topological (st : St) {n' : Nat} {ia : Array Nat} (hI : InvC st.vars st.cons n' ia)
    (hac : Acyclic st) (hok : (totalOrder st).2 = true) :
    (totalOrder st).1.Nodup ∧ (∀ v, v < st.vars.size → v ∈ (totalOrder st).1) ∧
    ∀ ci, ci < st.cons.size → Before (totalOrder st).1 (st.cons[ci]!).l (st.cons[ci]!).r := by
  rw [totalOrder_eq] at hok ⊢
  simp only at hok ⊢
  have hD0 : DS st NoG (Array.replicate st.vars.size false) [] :=
    { size := by simp
      vis_iff := fun x => by
        have : (Array.replicate st.vars.size false)[x]! = false := by
          by_cases hx : x < st.vars.size
          · rw [getElem!_pos _ x (by simpa using hx)]; simp
          · rw [getElem!_neg _ x (by simpa using hx)]; rfl
        rw [this]; simp [NoG]
      disj := fun _ h => absurd h id
      nodup := List.nodup_nil
      closed := fun _ h => by cases h }
  obtain ⟨hDF, _, hroots⟩ := visits_spec st NoG (st.vars.size + 1) (topStep st) id
    (fun i => (st.vars[i]!).ins.size = 0) (List.range st.vars.size) (Array.replicate st.vars.size false, [], true)
    (dfs_spec st hI hac _ · · · NoG) hD0 (topStep_ok st)
    (fun init i acc hpre hDa ⟨new, hnew, hnew2⟩ => by
      have hnd := List.nodup_append.1 (List.nodup_range.sublist hpre.sublist)
      by_cases hsrc : (st.vars[i]!).ins.size = 0
      · refine Or.inl ⟨by simp [topStep, hsrc], ?_, List.mem_range.1 (hpre.subset (by simp)), fun g hg => absurd hg id⟩
        -- `i` has not been visited: it is no target and no earlier root
        by_contra hc
        rcases (hDa.vis_iff i).1 (by simpa using hc) with h | h
        · exact h
        · rw [hnew, List.append_nil] at h
          rcases hnew2 i h with ⟨ci, hci, hr⟩ | ⟨z, hz, e⟩
          · have := Array.size_pos_of_mem (hr ▸ hI.ins_complete ci hci)
            omega
          · exact hnd.2.2 z hz i (by simp) e.symm
      · exact Or.inr ⟨by simp [topStep, hsrc], fun hp => absurd hp hsrc⟩)
    _ List.prefix_rfl hok
  generalize ((List.range st.vars.size).foldl (topStep st) (Array.replicate st.vars.size false, [], true)) = F at *
  -- every variable is listed: well-founded induction along the (finite, acyclic) constraint graph
  have hall : ∀ v, v < st.vars.size → v ∈ F.2.1 := by
    let r : Fin st.vars.size → Fin st.vars.size → Prop := fun a b => TransGen (E st) a.1 b.1
    have : Finite (Fin st.vars.size) := inferInstance
    have : IsTrans (Fin st.vars.size) r := ⟨fun a b c h1 h2 => TransGen.trans h1 h2⟩
    have : Std.Irrefl r := ⟨fun a h => hac a.1 h⟩
    have hwf : WellFounded r := Finite.wellFounded_of_trans_of_irrefl r
    intro v hv
    have : ∀ a : Fin st.vars.size, a.1 ∈ F.2.1 := by
      intro a
      induction a using hwf.induction with
      | _ a iha =>
        by_cases hsrc : (st.vars[a.1]!).ins.size = 0
        · exact ((hDF.vis_iff _).1 (hroots a.1 (List.mem_range.2 a.2) hsrc)).resolve_left id
        · have hpos : 0 < (st.vars[a.1]!).ins.size := Nat.pos_of_ne_zero hsrc
          have hmem : (st.vars[a.1]!).ins[0] ∈ (st.vars[a.1]!).ins := Array.getElem_mem hpos
          obtain ⟨hci, hr⟩ := hI.ins_sound a.1 _ hmem
          have hl := hI.l_lt _ hci
          have hE : E st (st.cons[(st.vars[a.1]!).ins[0]]!).l a.1 := ⟨_, hci, rfl, hr⟩
          have := iha ⟨_, hl⟩ (TransGen.single hE)
          exact (hDF.closed _ this a.1 hE).mem_right
    exact this ⟨v, hv⟩
  refine ⟨hDF.nodup, hall, ?_⟩
  intro ci hci
  exact hDF.closed _ (hall _ (hI.l_lt ci hci)) _ ⟨ci, hci, rfl, rfl⟩

/-- how many of the `n` variables are unvisited: what the fuel of `dfsVisit` is measured against (`dfs_frame`) -/
def unv (n : Nat) (vis : Array Bool) : Nat := ((List.range n).filter fun x => !vis[x]!).length

theorem unv_mono (n : Nat) (a b : Array Bool) (h : ∀ x : Nat, a[x]! = true → b[x]! = true) : unv n b ≤ unv n a := by
  refine (List.monotone_filter_right _ fun x hx => ?_).length_le
  by_contra hc
  have : a[x]! = true := by simpa using hc
  have := h x this
  simp [this] at hx

theorem unv_set (n : Nat) (vis : Array Bool) (v : Nat) (hv : v < n) (hsz : vis.size = n) (hnv : vis[v]! = false) :
    unv n (vis.set! v true) < unv n vis := by
  have hself : (vis.set! v true)[v]! = true := (vis_set vis v v (by omega)).2 (Or.inl rfl)
  apply Util.length_filter_lt (fun x => !(vis.set! v true)[x]!) (fun x => !vis[x]!) _ _ v
  · show (!vis[v]!) = true
    rw [hnv]; rfl
  · show (!(vis.set! v true)[v]!) = false
    rw [hself]; rfl
  · exact List.mem_range.2 hv
  · intro x _ hx
    by_contra hc
    have h1 : vis[x]! = true := by simpa using hc
    have h2 := (vis_set vis v x (by omega)).2 (Or.inr h1)
    have hx' : (!(vis.set! v true)[x]!) = true := hx
    rw [h2] at hx'
    exact absurd hx' (by simp)

theorem dfs_frame (st : St) {n' : Nat} {ia : Array Nat} (hI : InvC st.vars st.cons n' ia) :
    ∀ (fuel : Nat) (vis : Array Bool) (ord : List Nat) (v : Nat), v < st.vars.size →
      (dfsVisit st fuel vis ord v).1.size = vis.size ∧
      (∀ x : Nat, vis[x]! = true → (dfsVisit st fuel vis ord v).1[x]! = true) ∧
      (∀ x ∈ (dfsVisit st fuel vis ord v).2.1, x ∈ ord ∨ x < st.vars.size) ∧
      (vis.size = st.vars.size → unv st.vars.size vis + (if vis[v]! = true then 1 else 0) ≤ fuel →
        (dfsVisit st fuel vis ord v).2.2 = true) := by
  intro fuel
  induction fuel with
  | zero =>
    intro vis ord v hv
    refine ⟨rfl, fun _ h => h, fun x hx => Or.inl hx, fun hsz hu => ?_⟩
    exfalso
    by_cases hnv : vis[v]! = true
    · simp [hnv] at hu
    · have := unv_set _ vis v hv hsz (by simpa using hnv)
      omega
  | succ fuel ih =>
    intro vis ord v hv
    rw [dfsVisit_succ]
    simp only
    have hmono1 : ∀ x : Nat, vis[x]! = true → (vis.set! v true)[x]! = true := fun x hx => by
      rw [get!_set!]; split
      · rfl
      · exact hx
    rw [← Array.foldl_toList]
    obtain ⟨k1, k2, k3, k4⟩ := List.foldlRecOn
      (motive := fun acc => acc.1.size = vis.size ∧ (∀ x : Nat, (vis.set! v true)[x]! = true → acc.1[x]! = true) ∧
        (∀ x ∈ acc.2.1, x ∈ ord ∨ x < st.vars.size) ∧
        (vis.size = st.vars.size → unv st.vars.size (vis.set! v true) ≤ fuel → acc.2.2 = true))
      (st.vars[v]!).outs.toList (dfsStep st fuel) (b := (vis.set! v true, ord, true))
      ⟨by simp, fun _ h => h, fun x hx => Or.inl hx, fun _ _ => rfl⟩
      (fun acc ⟨h1, h2, h3, h4⟩ ci hci => by
        unfold dfsStep
        split
        · rename_i hvr
          have hvr' : acc.1[(st.cons[ci]!).r]! = false := by simpa using hvr
          obtain ⟨r1, r2, r3, r4⟩ := ih acc.1 acc.2.1 (st.cons[ci]!).r
            (hI.r_lt ci (hI.outs_sound v ci (by simpa using hci)).1)
          refine ⟨r1.trans h1, fun x hx => r2 x (h2 x hx), fun x hx => (r3 x hx).elim (h3 x) Or.inr, fun hsz h0 => ?_⟩
          have := le_trans (unv_mono _ _ _ h2) h0
          simp [visit, h4 hsz h0, r4 (h1.trans hsz) (by simp [hvr']; exact this)]
        · exact ⟨h1, h2, h3, h4⟩)
    refine ⟨k1, fun x hx => k2 x (hmono1 x hx), fun x hx => ?_, fun hsz hu => k4 hsz ?_⟩
    · rcases List.mem_cons.1 hx with rfl | hx
      · exact Or.inr hv
      · exact k3 x hx
    · by_cases hnv : vis[v]! = true
      · have := unv_mono st.vars.size _ _ hmono1
        simp [hnv] at hu; omega
      · have := unv_set _ vis v hv hsz (by simpa using hnv); omega

theorem totalOrder_ok (st : St) {n' : Nat} {ia : Array Nat} (hI : InvC st.vars st.cons n' ia) :
    (totalOrder st).2 = true := by
  rw [totalOrder_eq]
  simp only
  refine (List.foldlRecOn (motive := fun acc => acc.2.2 = true ∧ acc.1.size = st.vars.size) _ (topStep st)
    ⟨rfl, by simp⟩ fun acc ⟨h1, h2⟩ i hi => ?_).1
  unfold topStep
  split
  · have hu : unv st.vars.size acc.1 + (if acc.1[i]! = true then 1 else 0) ≤ st.vars.size + 1 := by
      have : unv st.vars.size acc.1 ≤ st.vars.size :=
        (List.length_filter_le _ _).trans List.length_range.le
      split <;> omega
    obtain ⟨r1, _, _, r4⟩ := dfs_frame st hI (st.vars.size + 1) acc.1 acc.2.1 i (List.mem_range.1 hi)
    exact ⟨by simp [visit, h1, r4 h2 hu], r1.trans h2⟩
  · exact ⟨h1, h2⟩

theorem totalOrder_bound (st : St) {n' : Nat} {ia : Array Nat} (hI : InvC st.vars st.cons n' ia) :
    ∀ x ∈ (totalOrder st).1, x < st.vars.size := by
  rw [totalOrder_eq]
  simp only
  refine List.foldlRecOn (motive := fun acc => ∀ x ∈ acc.2.1, x < st.vars.size) _ (topStep st)
    (b := (Array.replicate st.vars.size false, [], true)) (fun _ h => by cases h) fun acc h i hi => ?_
  unfold topStep
  split
  · exact fun x hx => ((dfs_frame st hI _ acc.1 acc.2.1 i (List.mem_range.1 hi)).2.2.1 x hx).elim (h x) id
  · exact h

end AdaptaVerif.Lemmas.VpscStaticOrder
