/-
`Router::contains` maintained incrementally (Model.Reroute.cTxn) equals its from-scratch meaning: the three loops act entry by
entry (`cTxn_eq`); the first two keep an entry's point and change its ids in closed form (`fold12_spec`); the third keeps the
from-scratch meaning (`fold3_scratch`).
-/
import AdaptaVerif.Model.Reroute
import AdaptaVerif.Lemmas.Util.Fold
namespace AdaptaVerif.Lemmas.RerouteContains
open AdaptaVerif.Model.Geometry (Pt inPoly)
open AdaptaVerif.Model.Reroute
open AdaptaVerif.Model.ActionQueue (Action Kind End)

/-! per-entry versions of the three loops -/

def eDel (o : Nat) (e : CEntry) : CEntry := { e with ids := e.ids.filter (· != o) }
def eAdd (poly : List Pt) (o : Nat) (e : CEntry) : CEntry :=
  if inPoly poly e.pt false && !e.ids.contains o then { e with ids := o :: e.ids } else e
def eGen (active : List Nat) (rp : Polys) (k : VKey) (p : Pt) (e : CEntry) : CEntry :=
  if e.key = k then { e with pt := p, ids := active.filter fun o => inPoly (rp o) p false } else e

def isRM (a : Action) : Bool := a.kind == .remove || a.kind == .move
def isAM (a : Action) : Bool := a.kind == .add || a.kind == .move

def ePass1 (e : CEntry) (a : Action) : CEntry := if isRM a then eDel a.id e else e
def ePass2 (rpNew : Polys) (e : CEntry) (a : Action) : CEntry := if isAM a then eAdd (rpNew a.id) a.id e else e
def ePass3 (activeNew : List Nat) (rpNew : Polys) (e : CEntry) (a : Action) : CEntry :=
  match a.kind with
  | .connChange => a.conns.foldl (fun e u => eGen activeNew rpNew (VKey.ofEnd a.id u.1) ⟨u.2.x, u.2.y⟩ e) e
  | _ => e

theorem foldl_entrywise {α β : Type} (cp : List α → β → List α) (ep : α → β → α)
    (h : ∀ cs b, cp cs b = cs.map (fun e => ep e b)) :
    ∀ (l : List β) (cs : List α), l.foldl cp cs = cs.map (fun e => l.foldl ep e)
  | [], cs => by simp
  | b :: l, cs => by
    simp only [List.foldl_cons]
    rw [h, foldl_entrywise cp ep h l, List.map_map]
    rfl

theorem cPass1_eq (cs : List CEntry) (a : Action) : cPass1 cs a = cs.map (fun e => ePass1 e a) := by
  unfold cPass1 ePass1 isRM cDel eDel
  cases a.kind <;> simp

theorem cPass2_eq (rp : Polys) (cs : List CEntry) (a : Action) : cPass2 rp cs a = cs.map (fun e => ePass2 rp e a) := by
  unfold cPass2 ePass2 isAM cAdd eAdd
  cases a.kind <;> simp

theorem cPass3_eq (act : List Nat) (rp : Polys) (cs : List CEntry) (a : Action) :
    cPass3 act rp cs a = cs.map (fun e => ePass3 act rp e a) := by
  unfold cPass3 ePass3
  cases a.kind
  case connChange =>
    exact foldl_entrywise _ (fun e (u : End × AdaptaVerif.Model.ActionQueue.CEnd) =>
      eGen act rp (VKey.ofEnd a.id u.1) ⟨u.2.x, u.2.y⟩ e) (fun _ _ => rfl) a.conns cs
  all_goals simp

theorem cTxn_eq (act : List Nat) (rp : Polys) (acts : List Action) (cs : List CEntry) :
    cTxn act rp acts cs = cs.map (fun e =>
      acts.foldl (ePass3 act rp) (acts.foldl (ePass2 rp) (acts.foldl ePass1 e))) := by
  unfold cTxn
  rw [foldl_entrywise _ _ cPass1_eq, foldl_entrywise _ _ (cPass2_eq rp), foldl_entrywise _ _ (cPass3_eq act rp),
    List.map_map, List.map_map]
  rfl

theorem ePass1_pt (e : CEntry) (a : Action) : (ePass1 e a).pt = e.pt := by unfold ePass1; split <;> rfl

theorem ePass1_mem (e : CEntry) (a : Action) (o : Nat) :
    o ∈ (ePass1 e a).ids ↔ (o ∈ e.ids ∧ ¬ (isRM a = true ∧ a.id = o)) := by
  unfold ePass1
  cases isRM a
  · exact ⟨fun h => ⟨h, fun h' => Bool.noConfusion h'.1⟩, And.left⟩
  · simp only [eDel, if_true, List.mem_filter, bne_iff_ne, ne_eq, true_and, and_congr_right_iff]
    exact fun _ => not_congr eq_comm

theorem ePass2_pt (rp : Polys) (e : CEntry) (a : Action) : (ePass2 rp e a).pt = e.pt := by
  unfold ePass2 eAdd; split
  · split <;> rfl
  · rfl

theorem ePass2_mem (rp : Polys) (e : CEntry) (a : Action) (o : Nat) :
    o ∈ (ePass2 rp e a).ids ↔ (o ∈ e.ids ∨ (isAM a = true ∧ a.id = o ∧ inPoly (rp o) e.pt false = true)) := by
  unfold ePass2
  cases isAM a
  · exact ⟨Or.inl, fun h => h.elim id fun h => Bool.noConfusion h.1⟩
  simp only [if_true, true_and]
  unfold eAdd
  split
  · next hc =>
    -- inserted: `a.id` was not in the list, and the polygon contains the point
    rw [Bool.and_eq_true] at hc
    rw [List.mem_cons, or_comm]
    exact or_congr_right ⟨fun h => ⟨h.symm, h ▸ hc.1⟩, fun h => h.1.symm⟩
  · next hc =>
    -- not inserted: if the polygon contains the point, `a.id` was there already
    refine ⟨Or.inl, fun h => h.elim id ?_⟩
    rintro ⟨rfl, hin⟩
    simpa [hin] using hc

theorem fold12_spec (rp : Polys) (acts : List Action) (e : CEntry) :
    (acts.foldl (ePass2 rp) (acts.foldl ePass1 e)).pt = e.pt ∧
    ∀ o, o ∈ (acts.foldl (ePass2 rp) (acts.foldl ePass1 e)).ids ↔
      ((o ∈ e.ids ∧ ∀ a ∈ acts, ¬ (isRM a = true ∧ a.id = o)) ∨
        ∃ a ∈ acts, isAM a = true ∧ a.id = o ∧ inPoly (rp o) e.pt false = true) := by
  have p1 : (acts.foldl ePass1 e).pt = e.pt :=
    List.foldlRecOn (motive := fun s => s.pt = e.pt) acts _ rfl fun s h a _ => (ePass1_pt s a).trans h
  refine ⟨?_, fun o => ?_⟩
  · exact List.foldlRecOn (motive := fun s => s.pt = e.pt) acts _ p1 fun s h a _ => (ePass2_pt rp s a).trans h
  · rw [Util.foldl_exists (ePass2 rp) (·.pt = e.pt) (o ∈ ·.ids) _ (fun s a h => (ePass2_pt rp s a).trans h)
      (fun s a h => h ▸ ePass2_mem rp s a o) acts _ p1,
      Util.foldl_and ePass1 (o ∈ ·.ids) _ (fun s a => ePass1_mem s a o) acts e]

theorem eGen_scratch (act : List Nat) (rp : Polys) (k : VKey) (p : Pt) (e : CEntry) (h : e.scratch act rp) :
    (eGen act rp k p e).scratch act rp := by
  unfold eGen
  split
  · intro o; simp [List.mem_filter]
  · exact h

theorem ePass3_scratch (act : List Nat) (rp : Polys) (e : CEntry) (a : Action) (h : e.scratch act rp) :
    (ePass3 act rp e a).scratch act rp := by
  unfold ePass3
  split
  · exact List.foldlRecOn a.conns _ h fun e he _ _ => eGen_scratch act rp _ _ e he
  · exact h

theorem fold3_scratch (act : List Nat) (rp : Polys) (acts : List Action) (e : CEntry) (h : e.scratch act rp) :
    (acts.foldl (ePass3 act rp) e).scratch act rp :=
  List.foldlRecOn acts _ h fun e he a _ => ePass3_scratch act rp e a he

end AdaptaVerif.Lemmas.RerouteContains
