/-
Invariance of the segment construction of `Model/NudgeSegs.lean` under transposition: exchanging x ↔ y of
every point and rectangle and processing the other dimension gives literally the same segment list
(`buildSegs`) and the same scan-line nodes (`scanObs`), hence the same limits (`passSegs`: Props/C10Segs.lean).  All statements hold
for every `dim : Nat` (the model reads `dim = 0` as x and anything else as y).
-/
import AdaptaVerif.Model.NudgeSegs
namespace AdaptaVerif.Lemmas.NudgeSegsSwap
open AdaptaVerif.Model.NudgeSegs AdaptaVerif.Model.NudgeRegion
open AdaptaVerif.Model.FinalSegLimits (insideBounds stepShape shapeLimits finalLimits Lim)

@[simp] theorem alt_alt_alt (d : Nat) : alt (alt (alt d)) = alt d := by
  unfold alt; by_cases h : d = 0 <;> simp [h]

@[simp] theorem decide_alt (d : Nat) : decide (alt d = 0) = !decide (d = 0) := by
  unfold alt; by_cases h : d = 0 <;> simp [h]

@[simp] theorem Pt.swap_swap (p : Pt) : p.swap.swap = p := rfl
@[simp] theorem Rect.swap_swap (r : Rect) : r.swap.swap = r := rfl

@[simp] theorem Pt.swap_c_alt (p : Pt) (d : Nat) : (Pt.swap p).c (alt d) = p.c d := by
  unfold Pt.c alt Pt.swap; by_cases h : d = 0 <;> simp [h]

@[simp] theorem Pt.swap_c_alt_alt (p : Pt) (d : Nat) : (Pt.swap p).c (alt (alt d)) = p.c (alt d) := by
  unfold Pt.c alt Pt.swap; by_cases h : d = 0 <;> simp [h]

@[simp] theorem Rect.swap_mnc_alt (r : Rect) (d : Nat) : (Rect.swap r).mnc (alt d) = r.mnc d := by
  unfold Rect.mnc alt Rect.swap; by_cases h : d = 0 <;> simp [h]

@[simp] theorem Rect.swap_mnc_alt_alt (r : Rect) (d : Nat) : (Rect.swap r).mnc (alt (alt d)) = r.mnc (alt d) := by
  unfold Rect.mnc alt Rect.swap; by_cases h : d = 0 <;> simp [h]

@[simp] theorem Rect.swap_mxc_alt (r : Rect) (d : Nat) : (Rect.swap r).mxc (alt d) = r.mxc d := by
  unfold Rect.mxc alt Rect.swap; by_cases h : d = 0 <;> simp [h]

@[simp] theorem Rect.swap_mxc_alt_alt (r : Rect) (d : Nat) : (Rect.swap r).mxc (alt (alt d)) = r.mxc (alt d) := by
  unfold Rect.mxc alt Rect.swap; by_cases h : d = 0 <;> simp [h]

@[simp] theorem co_swap (p : Pt) (dx : Bool) :
    AdaptaVerif.Model.FinalSegLimits.P.co p.swap (!dx) = AdaptaVerif.Model.FinalSegLimits.P.co p dx := by
  cases dx <;> rfl

@[simp] theorem lo_swap (r : Rect) (dx : Bool) :
    AdaptaVerif.Model.FinalSegLimits.Rect.lo r.swap (!dx) = AdaptaVerif.Model.FinalSegLimits.Rect.lo r dx := by
  cases dx <;> rfl

@[simp] theorem hi_swap (r : Rect) (dx : Bool) :
    AdaptaVerif.Model.FinalSegLimits.Rect.hi r.swap (!dx) = AdaptaVerif.Model.FinalSegLimits.Rect.hi r dx := by
  cases dx <;> rfl

@[simp] theorem insideBounds_swap (p : Pt) (r : Rect) : insideBounds p.swap r.swap = insideBounds p r := by
  unfold insideBounds Pt.swap Rect.swap
  simp only
  rw [Bool.and_comm (decide (r.y0 = 0)), Bool.and_right_comm _ (decide (r.y1 = 0))]
  ac_rfl

@[simp] theorem clamp_swap (l : Lim) (dx : Bool) (r : Rect) : l.clamp (!dx) r.swap = l.clamp dx r := by
  unfold Lim.clamp; simp

theorem stepShape_swap (dx : Bool) (a b : Pt) (l : Lim) (r : Rect) :
    stepShape (!dx) a.swap b.swap l r.swap = stepShape dx a b l r := by
  unfold stepShape; simp

theorem shapeLimits_swap (dx : Bool) (a b : Pt) (lims : List Rect) :
    shapeLimits (!dx) a.swap b.swap (lims.map Rect.swap) = shapeLimits dx a b lims := by
  unfold shapeLimits
  rw [List.foldl_map]
  congr 1
  funext l r
  exact stepShape_swap dx a b l r

theorem finalLimits_swap (dx : Bool) (a b : Pt) (lims : List Rect) :
    finalLimits (!dx) a.swap b.swap (lims.map Rect.swap) = finalLimits dx a b lims := by
  unfold finalLimits
  simp only [shapeLimits_swap, co_swap]

theorem cpsOnSegment_swap (cache : List (Nat × Pt)) (s m : Nat) :
    cpsOnSegment (cache.map (fun e => (e.1, e.2.swap))) s m = (cpsOnSegment cache s m).map Pt.swap := by
  unfold cpsOnSegment
  simp only [List.filter_map, List.map_map]
  rfl

theorem cpLimits_swap (dim : Nat) (p : Rat) (l : List Pt) (acc : Rat × Rat) :
    cpLimits (alt dim) p (l.map Pt.swap) acc = cpLimits dim p l acc := by
  unfold cpLimits
  rw [List.foldl_map]
  simp only [Pt.swap_c_alt]

theorem segAt_swap (nf : Bool) (lims : List Rect) (dim : Nat) (c : Conn) (i : Nat) :
    segAt nf (lims.map Rect.swap) (alt dim) c.swap i = segAt nf lims dim c i := by
  unfold segAt
  by_cases hi : i = 0
  · simp [hi]
  · simp only [hi, if_false, Conn.swap, List.getElem?_map, List.length_map, cpsOnSegment_swap]
    cases h1 : c.ps[i - 1]? with
    | none => simp
    | some a =>
      cases h2 : c.ps[i]? with
      | none => simp
      | some b =>
        cases h3 : c.ps[i - 2]? with
        | none => simp [finalLimits_swap]
        | some pv =>
          cases h4 : c.ps[i + 1]? with
          | none => simp [finalLimits_swap]
          | some nx => simp [cpLimits_swap, finalLimits_swap, Function.comp_def]

theorem connSegs_swap (nf : Bool) (lims : List Rect) (dim : Nat) (c : Conn) :
    connSegs nf (lims.map Rect.swap) (alt dim) c.swap = connSegs nf lims dim c := by
  unfold connSegs
  have hl : c.swap.ps.length = c.ps.length := by simp [Conn.swap]
  rw [hl]
  congr 1
  funext i
  exact segAt_swap nf lims dim c i

theorem shapeLimit_swap (o : Obs) : shapeLimit o.swap = (shapeLimit o).swap := by
  unfold shapeLimit Obs.swap
  cases o.kind <;> rfl

theorem buildSegs_swap (pz nf : Bool) (obs : List Obs) (dim : Nat) (conns : List Conn) :
    buildSegs pz nf (obs.map Obs.swap) (alt dim) (conns.map Conn.swap) = buildSegs pz nf obs dim conns := by
  unfold buildSegs
  cases pz
  · have hl : (if nf then (obs.map Obs.swap).map shapeLimit else [])
        = (if nf then obs.map shapeLimit else []).map Rect.swap := by
      cases nf
      · rfl
      · simp only [if_true, List.map_map]
        congr 1
        funext o
        exact shapeLimit_swap o
    simp only [hl, List.flatMap_map, Bool.false_eq_true, if_false]
    congr 1
    funext c
    exact connSegs_swap nf _ dim c
  · rw [if_pos rfl, if_pos rfl]

theorem scanObs_swap (dim : Nat) (obs : List Obs) : scanObs (alt dim) (obs.map Obs.swap) = scanObs dim obs := by
  unfold scanObs
  rw [List.filter_map, List.map_map]
  have hf : ((fun o : Obs => o.inScan) ∘ Obs.swap) = (fun o : Obs => o.inScan) := by
    funext o; rfl
  rw [hf]
  congr 1
  funext o
  simp [Obs.swap]

end AdaptaVerif.Lemmas.NudgeSegsSwap
