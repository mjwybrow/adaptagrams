/-
C17 — correctness of the in-place Floyd–Warshall triple loop (`Model.ShortestPaths.fwLoop`).

Invariants (robust against the in-place update, no "row/column k unchanged" argument needed):
  * `Real g D`   every finite entry is the weight of an actual walk      (kept by every relaxation)
  * `Mat.Le D D₀` entries only decrease                                   (kept by every relaxation)
  * `LB g k D`   `D[i][j] ≤` weight of every non-empty walk `i → j` whose intermediate vertices
                  are all `< k`                                            (round `k` turns `k` into `k+1`)
The step `LB k → LB (k+1)` uses an induction over walks with a slack (`WalkK.split`) instead of
cutting vertex lists at the first/last visit of `k`.
-/
import AdaptaVerif.Lemmas.ApspMat
namespace AdaptaVerif.Lemmas.Apsp
open AdaptaVerif.Model.ShortestPaths AdaptaVerif.Spec.Apsp

def Real (g : Graph) (D : Mat) : Prop := ∀ a b d, D.get a b = some d → Walk g a b d

theorem relax_WF {n : Nat} {D : Mat} (h : Mat.WF n D) (k i j : Nat) : Mat.WF n (relax D k i j) :=
  Mat.WF_set h _ _ _

theorem relax_le (D : Mat) (k i j : Nat) : Mat.Le (relax D k i j) D := by
  rintro a b c ⟨d, hd, hdc⟩
  rcases Mat.get_set_cases D i j a b (omin (D.get i j) (oadd (D.get i k) (D.get k j))) with e | ⟨rfl, rfl, e⟩
  · exact ⟨d, e.trans hd, hdc⟩
  · obtain ⟨z, hz, hzc⟩ := omin_le_left (b := oadd (D.get a k) (D.get k b)) hd hdc
    exact ⟨z, e.trans hz, hzc⟩

theorem relax_real {g : Graph} {D : Mat} (h : Real g D) (k i j : Nat) : Real g (relax D k i j) := by
  intro a b d hd
  rcases Mat.get_set_cases D i j a b (omin (D.get i j) (oadd (D.get i k) (D.get k j))) with e | ⟨rfl, rfl, e⟩
  · exact h a b d (e.symm.trans hd)
  · have hd' := e.symm.trans hd
    rcases omin_cases (D.get a b) (oadd (D.get a k) (D.get k b)) with e2 | e2
    · exact h a b d (e2.symm.trans hd')
    · obtain ⟨x, y, hx, hy, rfl⟩ := oadd_eq_some (e2.symm.trans hd')
      exact Walk.append (h a k x hx) (h k b y hy)

theorem relax_achieves {n : Nat} {D : Mat} (hwf : Mat.WF n D) {k i j : Nat} (hi : i < n) (hj : j < n)
    {c₁ c₂ : Rat} (h₁ : leC D i k c₁) (h₂ : leC D k j c₂) : leC (relax D k i j) i j (c₁ + c₂) := by
  unfold relax leC
  rw [Mat.get_set_eq D hwf i j _ hi hj]
  obtain ⟨x, hx, hxc⟩ := h₁
  obtain ⟨y, hy, hyc⟩ := h₂
  rw [hx, hy]
  exact omin_le_right (a := D.get i j) (b := oadd (some x) (some y)) (y := x + y) rfl (add_le_add hxc hyc)

theorem fwRow_lift {P : Mat → Prop} (h : ∀ D k i j, P D → P (relax D k i j)) (n k i : Nat) {D : Mat} (hD : P D) :
    P (fwRow n k i D) :=
  List.foldlRecOn (motive := P) _ _ hD fun D hD j _ => h D k i j hD

theorem fwRound_lift {P : Mat → Prop} (h : ∀ D k i j, P D → P (relax D k i j)) (n k : Nat) {D : Mat} (hD : P D) :
    P (fwRound n k D) :=
  List.foldlRecOn (motive := P) _ _ hD fun _ hD i _ => fwRow_lift h n k i hD

theorem fwRow_le (n k i : Nat) (D : Mat) : Mat.Le (fwRow n k i D) D :=
  fwRow_lift (P := fun D' => Mat.Le D' D) (fun D' k i j hD => (relax_le D' k i j).trans hD) n k i (Mat.Le.refl D)

theorem fwRound_le (n k : Nat) (D : Mat) : Mat.Le (fwRound n k D) D :=
  fwRound_lift (P := fun D' => Mat.Le D' D) (fun D' k i j hD => (relax_le D' k i j).trans hD) n k (Mat.Le.refl D)

theorem fwRow_achieves {n k i : Nat} (hi : i < n) {D : Mat} (hwf : Mat.WF n D) {j : Nat} (hj : j < n)
    {c₁ c₂ : Rat} (h₁ : leC D i k c₁) (h₂ : leC D k j c₂) : leC (fwRow n k i D) i j (c₁ + c₂) :=
  Util.foldl_achieves (fun D j => relax D k i j) (fun D => Mat.WF n D ∧ leC D i k c₁ ∧ leC D k j c₂)
    (fun D => leC D i j (c₁ + c₂)) (List.mem_range.mpr hj)
    (fun D y _ h => ⟨relax_WF h.1 k i y, relax_le D k i y _ _ _ h.2.1, relax_le D k i y _ _ _ h.2.2⟩)
    (fun D y _ h => relax_le D k i y _ _ _ h) (fun _ h => relax_achieves h.1 hi hj h.2.1 h.2.2) ⟨hwf, h₁, h₂⟩

theorem fwRound_achieves {n k : Nat} {D : Mat} (hwf : Mat.WF n D) {i j : Nat} (hi : i < n) (hj : j < n)
    {c₁ c₂ : Rat} (h₁ : leC D i k c₁) (h₂ : leC D k j c₂) : leC (fwRound n k D) i j (c₁ + c₂) :=
  Util.foldl_achieves (fun D i => fwRow n k i D) (fun D => Mat.WF n D ∧ leC D i k c₁ ∧ leC D k j c₂)
    (fun D => leC D i j (c₁ + c₂)) (List.mem_range.mpr hi)
    (fun D y _ h => ⟨fwRow_lift (fun _ _ _ _ h => relax_WF h _ _ _) n k y h.1, fwRow_le n k y D _ _ _ h.2.1,
      fwRow_le n k y D _ _ _ h.2.2⟩)
    (fun D y _ h => fwRow_le n k y D _ _ _ h) (fun _ h => fwRow_achieves hi h.1 hj h.2.1 h.2.2) ⟨hwf, h₁, h₂⟩

/-- non-empty walk from `i` to `j` of weight `c` all of whose intermediate vertices are `< k` -/
inductive WalkK (g : Graph) (k : Nat) (i : Nat) : Nat → Rat → Prop where
  | edge {j : Nat} {w : Rat} : HasEdge g i j w → WalkK g k i j w
  | snoc {m j : Nat} {c w : Rat} : WalkK g k i m c → m < k → HasEdge g m j w → WalkK g k i j (c + w)

theorem WalkK.nonneg {g : Graph} (hv : Valid g) {k i j : Nat} {c : Rat} (h : WalkK g k i j c) : 0 ≤ c := by
  induction h with
  | edge he => exact (HasEdge.valid hv he).2.2
  | snoc _ _ he ih => exact add_nonneg ih (HasEdge.valid hv he).2.2

theorem WalkK.ends {g : Graph} (hv : Valid g) {k i j : Nat} {c : Rat} (h : WalkK g k i j c) :
    i < g.n ∧ j < g.n := by
  induction h with
  | edge he => exact ⟨(HasEdge.valid hv he).1, (HasEdge.valid hv he).2.1⟩
  | snoc _ _ he ih => exact ⟨ih.1, (HasEdge.valid hv he).2.1⟩

theorem WalkK.split {g : Graph} (hv : Valid g) {k i j : Nat} {c : Rat} (h : WalkK g (k + 1) i j c) :
    (∃ c', c' ≤ c ∧ WalkK g k i j c') ∨
    (∃ c₁ c₂, c₁ + c₂ ≤ c ∧ WalkK g k i k c₁ ∧ WalkK g k k j c₂) := by
  induction h with
  | edge he => exact Or.inl ⟨_, le_refl _, WalkK.edge he⟩
  | @snoc m j c w _ hm he ih =>
    by_cases hmk : m < k
    · rcases ih with ⟨c', hc', hw'⟩ | ⟨c₁, c₂, hc, h₁, h₂⟩
      · exact Or.inl ⟨c' + w, add_le_add_left hc' w, WalkK.snoc hw' hmk he⟩
      · exact Or.inr ⟨c₁, c₂ + w, by rw [← add_assoc]; exact add_le_add_left hc w, h₁, WalkK.snoc h₂ hmk he⟩
    · -- the walk so far ends in `k`: the new edge starts the second half; an earlier second half was a closed walk at `k`
      obtain rfl : m = k := Nat.le_antisymm (Nat.le_of_lt_succ hm) (Nat.le_of_not_lt hmk)
      rcases ih with ⟨c', hc', hw'⟩ | ⟨c₁, c₂, hc, h₁, h₂⟩
      · exact Or.inr ⟨c', w, add_le_add_left hc' w, hw', WalkK.edge he⟩
      · exact Or.inr ⟨c₁, w, add_le_add_left (le_trans (le_add_of_nonneg_right (WalkK.nonneg hv h₂)) hc) w, h₁, WalkK.edge he⟩

theorem walk_walkK {g : Graph} (hv : Valid g) {i j : Nat} {c : Rat} (h : Walk g i j c) :
    (i = j ∧ c = 0) ∨ WalkK g g.n i j c := by
  induction h with
  | nil _ => exact Or.inl ⟨rfl, rfl⟩
  | @snoc m j c w hwalk he ih =>
    rcases ih with ⟨rfl, rfl⟩ | ih
    · right
      have := WalkK.edge (k := g.n) he
      simpa using this
    · exact Or.inr (WalkK.snoc ih (Walk.ends hv hwalk).2 he)

def LB (g : Graph) (k : Nat) (D : Mat) : Prop := ∀ i j c, WalkK g k i j c → leC D i j c

theorem fwRound_LB {g : Graph} (hv : Valid g) {k : Nat} {D : Mat} (hwf : Mat.WF g.n D)
    (h : LB g k D) : LB g (k + 1) (fwRound g.n k D) := by
  intro i j c hw
  have hends := WalkK.ends hv hw
  rcases WalkK.split hv hw with ⟨c', hc', hw'⟩ | ⟨c₁, c₂, hc, h₁, h₂⟩
  · exact (fwRound_le g.n k D _ _ _ (h i j c' hw')).mono hc'
  · exact (fwRound_achieves hwf hends.1 hends.2 (h i k c₁ h₁) (h k j c₂ h₂)).mono hc

def fwRounds (n m : Nat) (D : Mat) : Mat := (List.range m).foldl (fun D k => fwRound n k D) D

theorem fwRounds_succ (n m : Nat) (D : Mat) : fwRounds n (m + 1) D = fwRound n m (fwRounds n m D) := by
  unfold fwRounds
  rw [List.range_succ, List.foldl_append]
  rfl

theorem fwLoop_eq (n : Nat) (D : Mat) : fwLoop n D = fwRounds n n D := rfl

theorem fwRounds_inv {g : Graph} (hv : Valid g) {D₀ : Mat} (hwf : Mat.WF g.n D₀) (hreal : Real g D₀)
    (hlb : LB g 0 D₀) (m : Nat) :
    Mat.WF g.n (fwRounds g.n m D₀) ∧ Real g (fwRounds g.n m D₀) ∧
      Mat.Le (fwRounds g.n m D₀) D₀ ∧ LB g m (fwRounds g.n m D₀) := by
  induction m with
  | zero => exact ⟨hwf, hreal, Mat.Le.refl _, hlb⟩
  | succ m ih =>
    obtain ⟨h1, h2, h3, h4⟩ := ih
    rw [fwRounds_succ]
    exact ⟨fwRound_lift (fun _ _ _ _ h => relax_WF h _ _ _) g.n m h1, fwRound_lift (fun _ k i j h => relax_real h k i j) g.n m h2,
      Mat.Le.trans (fwRound_le g.n m _) h3, fwRound_LB hv h1 h4⟩

/-- a start matrix from which the triple loop computes the distances -/
structure FwStart (g : Graph) (D₀ : Mat) : Prop where
  wf : Mat.WF g.n D₀
  real : Real g D₀
  diag : ∀ i, i < g.n → leC D₀ i i 0
  edge : ∀ i j w, HasEdge g i j w → leC D₀ i j w

theorem fwLoop_correct {g : Graph} (hv : Valid g) {D₀ : Mat} (h : FwStart g D₀) : IsApsp g (fwLoop g.n D₀).get := by
  obtain ⟨hwf, hreal, hdiag, hedge⟩ := h
  have hlb : LB g 0 D₀ := by
    intro i j c hw
    cases hw with
    | edge he => exact hedge i j c he
    | snoc _ hm _ => exact absurd hm (Nat.not_lt_zero _)
  obtain ⟨_, hR, hLe, hLB⟩ := fwRounds_inv hv hwf hreal hlb g.n
  rw [fwLoop_eq]
  intro i j hi hj
  have hlower : ∀ c, Walk g i j c → leC (fwRounds g.n g.n D₀) i j c := by
    intro c hw
    rcases walk_walkK hv hw with ⟨rfl, rfl⟩ | hk
    · exact hLe _ _ _ (hdiag i hi)
    · exact hLB i j c hk
  exact IsDist.of_bounds (hR i j) hlower

end AdaptaVerif.Lemmas.Apsp
