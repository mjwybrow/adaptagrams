/-
`removeEdgeOverlaps` of `Model.Planarise`: node groups over all lines (`nodeGroups_spec`), consecutive pairs of sorted
node lists, the overlap-free edge list is a `Good` segment list (`overlapFree_good`) and covers every route segment by a
path (`overlapFree_chain`).
-/
import AdaptaVerif.Lemmas.PlanariseGroups
import AdaptaVerif.Lemmas.PlanariseSweep
namespace AdaptaVerif.Lemmas.Planarise
open AdaptaVerif.Model.Planarise

theorem pt_of_vc_cc {o : Ori} {a b : Node} (h1 : vcOf o a = vcOf o b) (h2 : ccOf o a = ccOf o b) : a.p = b.p := by
  rw [pt_eta a.p, pt_eta b.p]
  cases o
  · rw [show a.p.x = b.p.x from h1, show a.p.y = b.p.y from h2]
  · rw [show a.p.y = b.p.y from h1, show a.p.x = b.p.x from h2]

theorem zipIdxFrom_map_fst : ∀ (b : Nat) (l : List Seg), (zipIdxFrom b l).map (·.1) = List.range' b l.length
  | _, [] => by simp [zipIdxFrom]
  | b, s :: r => by simp [zipIdxFrom, zipIdxFrom_map_fst (b + 1) r, List.range'_succ]

theorem zipIdxFrom_snd : ∀ (b : Nat) (l : List Seg) (is : Nat × Seg), is ∈ zipIdxFrom b l → is.2 ∈ l
  | _, [], _, h => by simp [zipIdxFrom] at h
  | b, s :: r, is, h => by
    simp only [zipIdxFrom, List.mem_cons] at h
    rcases h with rfl | h
    · simp
    · exact List.mem_cons_of_mem _ (zipIdxFrom_snd (b + 1) r is h)

theorem zipIdxFrom_mem : ∀ (b : Nat) (l : List Seg) (s : Seg), s ∈ l → ∃ i, (i, s) ∈ zipIdxFrom b l
  | _, [], _, h => by simp at h
  | b, t :: r, s, h => by
    rcases List.mem_cons.1 h with rfl | h
    · exact ⟨b, by simp [zipIdxFrom]⟩
    · obtain ⟨i, hi⟩ := zipIdxFrom_mem (b + 1) r s h
      exact ⟨i, by simp [zipIdxFrom, hi]⟩

theorem tolGroup_lt_one : tolGroup < 1 := by decide +kernel
theorem tolGroup_nonneg : 0 ≤ tolGroup := by decide +kernel

/-- segments of one orientation, ready for the group sweep -/
structure OriOK (o : Ori) (segs : List Seg) : Prop where
  shape : ∀ s ∈ segs, s.ori = o ∧ vcOf o s.on < vcOf o s.cn ∧ ccOf o s.on = s.cc ∧ ccOf o s.cn = s.cc
  apart : ∀ s ∈ segs, ∀ t ∈ segs, Apart s.cc t.cc
  ident : ∀ s ∈ segs, ∀ t ∈ segs, ∀ a ∈ [s.on, s.cn], ∀ b ∈ [t.on, t.cn], (a.p = b.p → a = b) ∧ (a.id = b.id → a = b)

theorem nodeGroups_spec {o : Ori} {segs : List Seg} (hO : OriOK o segs) :
    (∀ g ∈ computeNodeGroups segs, g.Pairwise (fun a b => vcOf o a < vcOf o b) ∧
        ∃ c, ∀ n ∈ g, ccOf o n = c ∧ ∃ s ∈ segs, n = s.on ∨ n = s.cn) ∧
    (computeNodeGroups segs).Pairwise
        (fun g1 g2 => ∀ a ∈ g1, ∀ b ∈ g2, ccOf o a = ccOf o b → vcOf o a ≤ vcOf o b) ∧
    (∀ s ∈ segs, ∃ g ∈ computeNodeGroups segs, s.on ∈ g ∧ s.cn ∈ g) := by
  unfold computeNodeGroups
  have hmemZ := zipIdxFrom_snd 0 segs
  obtain ⟨hperm, hconst, hinc⟩ := partition_spec (fun is : Nat × Seg => is.2.cc) tolGroup tolGroup_nonneg
    tolGroup_lt_one (zipIdxFrom 0 segs) (fun a ha b hb => hO.apart _ (hmemZ a ha) _ (hmemZ b hb))
  generalize partition (fun is : Nat × Seg => is.2.cc) tolGroup (zipIdxFrom 0 segs) = parts at hperm hconst hinc
  have hpm : ∀ part ∈ parts, ∀ is ∈ part, is.2 ∈ segs := by
    intro part hp is his
    exact hmemZ is (hperm.mem_iff.1 (List.mem_flatten.2 ⟨part, hp, his⟩))
  have hcc1 : ∀ part ∈ parts, ∀ is ∈ part, ∀ a ∈ [is.2.on, is.2.cn], ccOf o a = is.2.cc := by
    intro part hp is his a ha
    have hs := (hO.shape _ (hpm part hp is his)).2.2
    simp only [List.mem_cons, List.mem_nil_iff, or_false] at ha
    rcases ha with rfl | rfl
    · exact hs.1
    · exact hs.2
  have hline : ∀ part ∈ parts, LineOK o part := by
    intro part hp
    obtain ⟨_, X, hX⟩ := hconst part hp
    refine ⟨?_, ?_, ?_⟩
    · have h1 : (part.map (·.1)).Sublist (parts.flatten.map (·.1)) := (List.sublist_flatten_of_mem hp).map _
      refine List.Nodup.sublist h1 ?_
      have : (parts.flatten.map (·.1)).Perm ((zipIdxFrom 0 segs).map (·.1)) := hperm.map _
      rw [this.nodup_iff, zipIdxFrom_map_fst]; exact List.nodup_range'
    · intro is his
      have := hO.shape _ (hpm part hp is his)
      exact ⟨this.1, this.2.1⟩
    · intro is his js hjs a ha b hb
      have hid := hO.ident _ (hpm part hp is his) _ (hpm part hp js hjs) a ha b hb
      have hcc : ccOf o a = ccOf o b := by
        rw [hcc1 part hp is his a ha, hcc1 part hp js hjs b hb, hX is his, hX js hjs]
      refine ⟨⟨fun h => ?_, fun h => ?_⟩, hid.2⟩
      · rw [hid.1 (pt_of_vc_cc h hcc)]
      · rw [hid.2 h]
  have hnodes : ∀ part ∈ parts, ∀ g ∈ groupsOfPart part, ∀ n ∈ g,
      ∃ is ∈ part, ccOf o n = is.2.cc ∧ (n = is.2.on ∨ n = is.2.cn) := by
    intro part hp g hg n hn
    obtain ⟨is, his, h⟩ := (groupsOfPart_spec (hline part hp)).2.2.2 g hg n hn
    exact ⟨is, his, hcc1 part hp is his n (by rcases h with rfl | rfl <;> simp), h⟩
  refine ⟨?_, ?_, ?_⟩
  · intro g hg
    obtain ⟨part, hp, hgp⟩ := List.mem_flatMap.1 hg
    obtain ⟨_, X, hX⟩ := hconst part hp
    refine ⟨(groupsOfPart_spec (hline part hp)).1 g hgp, X, ?_⟩
    intro n hn
    obtain ⟨is, his, h1, h2⟩ := hnodes part hp g hgp n hn
    exact ⟨by rw [h1, hX is his], is.2, hpm part hp is his, h2⟩
  · rw [List.pairwise_flatMap]
    refine ⟨fun part hp => ?_, ?_⟩
    · exact ((groupsOfPart_spec (hline part hp)).2.1).imp (fun h a ha b hb _ => h a ha b hb)
    · refine hinc.imp_of_mem ?_
      intro p1 p2 hp1 hp2 hlt g1 hg1 g2 hg2 a ha b hb hcc
      exfalso
      obtain ⟨is, his, h1, _⟩ := hnodes p1 hp1 g1 hg1 a ha
      obtain ⟨js, hjs, h2, _⟩ := hnodes p2 hp2 g2 hg2 b hb
      have := hlt is his js hjs
      rw [← h1, ← h2, hcc] at this
      exact Rat.lt_irrefl this
  · intro s hs
    obtain ⟨i, hi⟩ := zipIdxFrom_mem 0 segs s hs
    obtain ⟨part, hp, hip⟩ := List.mem_flatten.1 (hperm.mem_iff.2 hi)
    obtain ⟨g, hg, h1, h2⟩ := (groupsOfPart_spec (hline part hp)).2.2.1 (i, s) hip
    exact ⟨g, List.mem_flatMap.2 ⟨part, hp, hg⟩, h1, h2⟩

theorem consecutive_mem : ∀ {g : List Node} {p : Node × Node}, p ∈ consecutive g → p.1 ∈ g ∧ p.2 ∈ g
  | [], _, h => by simp [consecutive] at h
  | [_], _, h => by simp [consecutive] at h
  | a :: b :: r, p, h => by
    simp only [consecutive, List.mem_cons] at h
    rcases h with rfl | h
    · simp
    · have := consecutive_mem (g := b :: r) h
      exact ⟨List.mem_cons_of_mem _ this.1, List.mem_cons_of_mem _ this.2⟩

theorem consecutive_lt {f : Node → Rat} : ∀ {g : List Node}, g.Pairwise (fun a b => f a < f b) →
    ∀ p ∈ consecutive g, f p.1 < f p.2
  | [], _, p, h => by simp [consecutive] at h
  | [_], _, p, h => by simp [consecutive] at h
  | a :: b :: r, hs, p, h => by
    simp only [consecutive, List.mem_cons] at h
    rw [List.pairwise_cons] at hs
    rcases h with rfl | h
    · exact hs.1 b (by simp)
    · exact consecutive_lt hs.2 p h

theorem consecutive_pairwise {f : Node → Rat} : ∀ {g : List Node}, g.Pairwise (fun a b => f a < f b) →
    (consecutive g).Pairwise (fun e1 e2 => f e1.2 ≤ f e2.1)
  | [], _ => by simp [consecutive]
  | [_], _ => by simp [consecutive]
  | a :: b :: r, hs => by
    simp only [consecutive]
    rw [List.pairwise_cons] at hs
    rw [List.pairwise_cons]
    refine ⟨?_, consecutive_pairwise hs.2⟩
    intro p hp
    have hm := (consecutive_mem hp).1
    simp only
    rcases List.mem_cons.1 hm with h | h
    · rw [h]; exact Rat.le_refl
    · have := (List.pairwise_cons.1 hs.2).1 _ h; exact Rat.le_of_lt this

def PathIn (E : List (Node × Node)) (l : List Node) : Prop := ∀ p ∈ consecutive l, p ∈ E

theorem consecutive_chain_head {f : Node → Rat} : ∀ {rest : List Node} {x b : Node},
    (x :: rest).Pairwise (fun a b => f a < f b) → b ∈ rest →
    ∃ mids, PathIn (consecutive (x :: rest)) (x :: mids ++ [b]) ∧ ∀ m ∈ mids, m ∈ rest ∧ f x < f m ∧ f m < f b
  | [], _, _, _, h => by simp at h
  | y :: rest, x, b, hs, hb => by
    rw [List.pairwise_cons] at hs
    by_cases hby : b = y
    · subst hby
      exact ⟨[], by intro p hp; simp [consecutive] at hp; simp [consecutive, hp], by simp⟩
    · have hb' : b ∈ rest := by
        rcases List.mem_cons.1 hb with h | h
        · exact absurd h hby
        · exact h
      obtain ⟨mids, hp, hm⟩ := consecutive_chain_head (f := f) hs.2 hb'
      refine ⟨y :: mids, ?_, ?_⟩
      · intro p hp'
        simp only [List.cons_append, consecutive, List.mem_cons] at hp'
        rcases hp' with rfl | hp'
        · simp [consecutive]
        · have := hp p (by simpa using hp')
          simp only [consecutive, List.mem_cons]; exact Or.inr this
      · intro m hm'
        have hyb : f y < f b := (List.pairwise_cons.1 hs.2).1 b hb'
        rcases List.mem_cons.1 hm' with rfl | h
        · exact ⟨by simp, hs.1 _ (by simp), hyb⟩
        · obtain ⟨h1, h2, h3⟩ := hm m h
          exact ⟨List.mem_cons_of_mem _ h1, by have := hs.1 y (by simp); grind, h3⟩

theorem consecutive_sub (x : Node) (rest : List Node) : ∀ p ∈ consecutive rest, p ∈ consecutive (x :: rest) := by
  intro p hp
  cases rest with
  | nil => simp [consecutive] at hp
  | cons y r => simp only [consecutive, List.mem_cons]; exact Or.inr hp

theorem consecutive_chain {f : Node → Rat} : ∀ {g : List Node} {a b : Node},
    g.Pairwise (fun a b => f a < f b) → a ∈ g → b ∈ g → f a < f b →
    ∃ mids, PathIn (consecutive g) (a :: mids ++ [b]) ∧ ∀ m ∈ mids, m ∈ g ∧ f a < f m ∧ f m < f b
  | [], _, _, _, h, _, _ => by simp at h
  | x :: rest, a, b, hs, ha, hb, hab => by
    have hs' := List.pairwise_cons.1 hs
    by_cases hax : a = x
    · subst hax
      have hb' : b ∈ rest := by
        rcases List.mem_cons.1 hb with h | h
        · rw [h] at hab; exact absurd hab Rat.lt_irrefl
        · exact h
      obtain ⟨mids, hp, hm⟩ := consecutive_chain_head (f := f) hs hb'
      exact ⟨mids, hp, fun m h => ⟨List.mem_cons_of_mem _ (hm m h).1, (hm m h).2⟩⟩
    · have ha' : a ∈ rest := by
        rcases List.mem_cons.1 ha with h | h
        · exact absurd h hax
        · exact h
      have hb' : b ∈ rest := by
        rcases List.mem_cons.1 hb with h | h
        · have := hs'.1 a ha'; rw [h] at hab; grind
        · exact h
      obtain ⟨mids, hp, hm⟩ := consecutive_chain (f := f) hs'.2 ha' hb' hab
      exact ⟨mids, fun p h => consecutive_sub x rest p (hp p h), fun m h => ⟨List.mem_cons_of_mem _ (hm m h).1, (hm m h).2⟩⟩

/-- the segments built from the routes: `Good` without the no-overlap clause, plus: a node is identified by its
position and by its id -/
structure GoodA (segsA : List Seg) : Prop where
  shape : ∀ s ∈ segsA, SegH s ∨ SegV s
  sepX : ∀ s ∈ segsA, ∀ t ∈ segsA, ∀ a ∈ [s.on.p.x, s.cn.p.x], ∀ b ∈ [t.on.p.x, t.cn.p.x], Apart a b
  sepY : ∀ s ∈ segsA, ∀ t ∈ segsA, ∀ a ∈ [s.on.p.y, s.cn.p.y], ∀ b ∈ [t.on.p.y, t.cn.p.y], Apart a b
  ident : ∀ s ∈ segsA, ∀ t ∈ segsA, ∀ a ∈ [s.on, s.cn], ∀ b ∈ [t.on, t.cn], (a.p = b.p → a = b) ∧ (a.id = b.id → a = b)

theorem GoodA.oriOK {segsA : List Seg} (hA : GoodA segsA) (o : Ori) :
    OriOK o (segsA.filter (fun s => s.ori = o)) := by
  have hmem : ∀ s ∈ segsA.filter (fun s => s.ori = o), s ∈ segsA ∧ s.ori = o ∧ SegO s := fun s hs =>
    ⟨(List.mem_filter.1 hs).1, by simpa using (List.mem_filter.1 hs).2,
      segO_of_shape (hA.shape s (List.mem_filter.1 hs).1)⟩
  refine ⟨?_, ?_, ?_⟩
  · intro s hs
    obtain ⟨_, rfl, a1, a2, a3, a4, a5⟩ := hmem s hs
    exact ⟨rfl, by rw [a3, a4]; exact a5, a1, a2⟩
  · intro s hs t ht
    obtain ⟨hms, hos, a1, _⟩ := hmem s hs
    obtain ⟨hmt, hot, b1, _⟩ := hmem t ht
    rw [← a1, ← b1, hos, hot]
    cases o
    · exact hA.sepY s hms t hmt _ (by simp [ccOf_H]) _ (by simp [ccOf_H])
    · exact hA.sepX s hms t hmt _ (by simp [ccOf_V]) _ (by simp [ccOf_V])
  · intro s hs t ht
    exact hA.ident s (hmem s hs).1 t (hmem t ht).1

def edgesOf (o : Ori) (segsA : List Seg) : List (Node × Node) :=
  (computeNodeGroups (segsA.filter (fun s => s.ori = o))).flatMap consecutive

theorem overlapFreeEdges_eq (segsA : List Seg) :
    overlapFreeEdges segsA = edgesOf .H segsA ++ edgesOf .V segsA := by
  simp [overlapFreeEdges, edgesOf, List.flatMap_append]

theorem edgesOf_facts {segsA : List Seg} (hA : GoodA segsA) (o : Ori) :
    (∀ e ∈ edgesOf o segsA, mkSeg e.1 e.2 = ⟨o, ccOf o e.1, vcOf o e.1, vcOf o e.2, e.1, e.2⟩ ∧
        vcOf o e.1 < vcOf o e.2 ∧ ccOf o e.1 = ccOf o e.2 ∧
        (∃ s ∈ segsA, e.1 = s.on ∨ e.1 = s.cn) ∧ (∃ s ∈ segsA, e.2 = s.on ∨ e.2 = s.cn)) ∧
    (edgesOf o segsA).Pairwise (fun e1 e2 => ccOf o e1.1 = ccOf o e2.1 → vcOf o e1.2 ≤ vcOf o e2.1) := by
  obtain ⟨q1, q2, _⟩ := nodeGroups_spec (hA.oriOK o)
  have hsub : ∀ s ∈ segsA.filter (fun s => s.ori = o), s ∈ segsA := fun s h => (List.mem_filter.1 h).1
  have hedge : ∀ g ∈ computeNodeGroups (segsA.filter (fun s => s.ori = o)), ∀ e ∈ consecutive g,
      vcOf o e.1 < vcOf o e.2 ∧ ccOf o e.1 = ccOf o e.2 ∧
      (∃ s ∈ segsA, e.1 = s.on ∨ e.1 = s.cn) ∧ (∃ s ∈ segsA, e.2 = s.on ∨ e.2 = s.cn) := by
    intro g hg e he
    obtain ⟨hs, c, hc⟩ := q1 g hg
    obtain ⟨m1, m2⟩ := consecutive_mem he
    obtain ⟨c1, s1, hs1, h1⟩ := hc _ m1
    obtain ⟨c2, s2, hs2, h2⟩ := hc _ m2
    exact ⟨consecutive_lt hs e he, by rw [c1, c2], ⟨s1, hsub _ hs1, h1⟩, ⟨s2, hsub _ hs2, h2⟩⟩
  constructor
  · intro e he
    obtain ⟨g, hg, heg⟩ := List.mem_flatMap.1 he
    obtain ⟨h1, h2, h3, h4⟩ := hedge g hg e heg
    exact ⟨mkSeg_eq o h2 h1, h1, h2, h3, h4⟩
  · unfold edgesOf
    rw [List.pairwise_flatMap]
    refine ⟨fun g hg => ?_, ?_⟩
    · have hcp : (consecutive g).Pairwise (fun e1 e2 => vcOf o e1.2 ≤ vcOf o e2.1) :=
        consecutive_pairwise (f := vcOf o) (q1 g hg).1
      exact hcp.imp (by intro a b h _; exact h)
    · refine q2.imp_of_mem ?_
      intro g1 g2 hg1 hg2 h e1 he1 e2 he2 hcc
      have m1 := (consecutive_mem he1)
      have m2 := (consecutive_mem he2)
      have c1 := (hedge g1 hg1 e1 he1).2.1
      exact h _ m1.2 _ m2.1 (by rw [← c1, hcc])

theorem overlapFree_good {segsA : List Seg} (hA : GoodA segsA) :
    Good ((overlapFreeEdges segsA).map (fun e => mkSeg e.1 e.2)) := by
  rw [overlapFreeEdges_eq]
  obtain ⟨fH, pH⟩ := edgesOf_facts hA .H
  obtain ⟨fV, pV⟩ := edgesOf_facts hA .V
  have hmem : ∀ t ∈ (edgesOf .H segsA ++ edgesOf .V segsA).map (fun e => mkSeg e.1 e.2),
      ∃ (o : Ori) (e : Node × Node), e ∈ edgesOf o segsA ∧ t = ⟨o, ccOf o e.1, vcOf o e.1, vcOf o e.2, e.1, e.2⟩ ∧
        vcOf o e.1 < vcOf o e.2 ∧ ccOf o e.1 = ccOf o e.2 ∧
        (∃ s ∈ segsA, e.1 = s.on ∨ e.1 = s.cn) ∧ (∃ s ∈ segsA, e.2 = s.on ∨ e.2 = s.cn) := by
    intro t ht
    obtain ⟨e, he, rfl⟩ := List.mem_map.1 ht
    rcases List.mem_append.1 he with h | h
    · obtain ⟨a, b⟩ := fH e h; exact ⟨.H, e, h, a, b⟩
    · obtain ⟨a, b⟩ := fV e h; exact ⟨.V, e, h, a, b⟩
  -- a coordinate `f` of the end nodes: they are end nodes of route segments, where `f` is separated
  have hsep : ∀ (f : Node → Rat), (∀ s ∈ segsA, ∀ t ∈ segsA, ∀ a ∈ [f s.on, f s.cn], ∀ b ∈ [f t.on, f t.cn], Apart a b) →
      ∀ t ∈ (edgesOf .H segsA ++ edgesOf .V segsA).map (fun e => mkSeg e.1 e.2),
      ∀ u ∈ (edgesOf .H segsA ++ edgesOf .V segsA).map (fun e => mkSeg e.1 e.2),
      ∀ a ∈ [f t.on, f t.cn], ∀ b ∈ [f u.on, f u.cn], Apart a b := by
    intro f hf t ht u hu a ha b hb
    have hend : ∀ t ∈ (edgesOf .H segsA ++ edgesOf .V segsA).map (fun e => mkSeg e.1 e.2),
        ∀ a ∈ [f t.on, f t.cn], ∃ s ∈ segsA, a ∈ [f s.on, f s.cn] := by
      intro t ht a ha
      obtain ⟨o, e, _, rfl, _, _, n1, n2⟩ := hmem t ht
      simp only [List.mem_cons, List.mem_nil_iff, or_false] at ha
      rcases ha with rfl | rfl
      · obtain ⟨s, hs, h | h⟩ := n1 <;> exact ⟨s, hs, by simp [h]⟩
      · obtain ⟨s, hs, h | h⟩ := n2 <;> exact ⟨s, hs, by simp [h]⟩
    obtain ⟨s, hs, ha'⟩ := hend t ht a ha
    obtain ⟨s', hs', hb'⟩ := hend u hu b hb
    exact hf s hs s' hs' a ha' b hb'
  refine ⟨?_, hsep (fun n => n.p.x) hA.sepX, hsep (fun n => n.p.y) hA.sepY, ?_⟩
  · intro t ht
    obtain ⟨o, e, _, rfl, h1, h2, _, _⟩ := hmem t ht
    cases o
    · left; simp only [vcOf_H, ccOf_H] at h1 h2 ⊢
      exact ⟨rfl, rfl, h2.symm, rfl, rfl, h1⟩
    · right; simp only [vcOf_V, ccOf_V] at h1 h2 ⊢
      exact ⟨rfl, rfl, h2.symm, rfl, rfl, h1⟩
  · rw [List.pairwise_map, List.pairwise_append]
    refine ⟨?_, ?_, ?_⟩
    · refine pH.imp_of_mem ?_
      intro e1 e2 h1 h2 h _ hcc
      rw [(fH e1 h1).1, (fH e2 h2).1] at hcc ⊢
      simp only at hcc ⊢
      exact Or.inl (h hcc)
    · refine pV.imp_of_mem ?_
      intro e1 e2 h1 h2 h _ hcc
      rw [(fV e1 h1).1, (fV e2 h2).1] at hcc ⊢
      simp only at hcc ⊢
      exact Or.inl (h hcc)
    · intro e1 h1 e2 h2 ho
      rw [(fH e1 h1).1, (fV e2 h2).1] at ho
      simp at ho

theorem overlapFree_ends {segsA : List Seg} (hA : GoodA segsA) :
    ∀ e ∈ overlapFreeEdges segsA, (mkSeg e.1 e.2).on = e.1 ∧ (mkSeg e.1 e.2).cn = e.2 := by
  intro e he
  rw [overlapFreeEdges_eq] at he
  rcases List.mem_append.1 he with h | h
  · rw [((edgesOf_facts hA .H).1 e h).1]; exact ⟨rfl, rfl⟩
  · rw [((edgesOf_facts hA .V).1 e h).1]; exact ⟨rfl, rfl⟩

theorem overlapFree_chain {segsA : List Seg} (hA : GoodA segsA) :
    ∀ s ∈ segsA, ∃ mids, PathIn (overlapFreeEdges segsA) (s.on :: mids ++ [s.cn]) ∧
      ∀ m ∈ mids, (∃ t ∈ segsA, m = t.on ∨ m = t.cn) ∧ ccOf s.ori m = s.cc ∧
        vcOf s.ori s.on < vcOf s.ori m ∧ vcOf s.ori m < vcOf s.ori s.cn := by
  intro s hs
  have hsf : s ∈ segsA.filter (fun t => t.ori = s.ori) := List.mem_filter.2 ⟨hs, by simp⟩
  have hO := hA.oriOK s.ori
  obtain ⟨q1, _, q3⟩ := nodeGroups_spec hO
  obtain ⟨g, hg, hon, hcn⟩ := q3 s hsf
  obtain ⟨hsorted, c, hc⟩ := q1 g hg
  have hsh := hO.shape s hsf
  obtain ⟨mids, hp, hm⟩ := consecutive_chain (f := vcOf s.ori) hsorted hon hcn hsh.2.1
  refine ⟨mids, ?_, ?_⟩
  · intro p hpp
    have h1 := hp p hpp
    rw [overlapFreeEdges_eq]
    have h2 : p ∈ edgesOf s.ori segsA := List.mem_flatMap.2 ⟨g, hg, h1⟩
    cases ho : s.ori
    · rw [ho] at h2; exact List.mem_append_left _ h2
    · rw [ho] at h2; exact List.mem_append_right _ h2
  · intro m hmm
    obtain ⟨hmg, h1, h2⟩ := hm m hmm
    obtain ⟨c1, t, ht, h3⟩ := hc m hmg
    obtain ⟨c2, _⟩ := hc _ hon
    exact ⟨⟨t, (List.mem_filter.1 ht).1, h3⟩, by rw [c1, ← c2, hsh.2.2.1], h1, h2⟩

end AdaptaVerif.Lemmas.Planarise
