/-
Helper lemmas for Props/C10: the constraints the abstract `genCons` of Model/Nudge.lean contains (read off the generic generator,
Lemmas/NudgeGen.lean), clamping, tolerances, the geometry behind the route checkers.
-/
import AdaptaVerif.Lemmas.NudgeGen
import AdaptaVerif.Spec.Nudge
import AdaptaVerif.Lemmas.PinsAttach
import Mathlib.Tactic.FieldSimp
import Mathlib.Tactic.Linarith
import Mathlib.Tactic.Ring
import Mathlib.Algebra.Order.Field.Rat
namespace AdaptaVerif.Lemmas.Nudge
open AdaptaVerif.Model.Nudge AdaptaVerif.Spec.Nudge AdaptaVerif.Model.NudgeRegion AdaptaVerif.Lemmas.NudgeRegion

theorem sep_mem_genCons (p : Params) (segs : List Seg) (j i : Nat) (a b : Seg)
    (hj : segs[j]? = some a) (hi : segs[i]? = some b) (hji : j < i)
    (hov : overlaps b a = true) (hfix : b.fixed = false ∨ a.fixed = false) :
    Cons.sep j i (gapFor p a b).1 (gapFor p a b).2 ∈ genCons p segs := by
  rw [genCons_eq]
  exact sep_mem_genG (absP p) segs j i a b hj hi hji hov hfix

theorem lower_mem_genCons (p : Params) (segs : List Seg) (i : Nat) (s : Seg) (l : Rat)
    (hi : segs[i]? = some s) (hf : s.fixed = false) (hm : s.minLim = some l) :
    Cons.lower i l ∈ genCons p segs := by
  rw [genCons_eq]
  exact lower_mem_genG (absP p) segs i s l hi hf hm

theorem upper_mem_genCons (p : Params) (segs : List Seg) (i : Nat) (s : Seg) (u : Rat)
    (hi : segs[i]? = some s) (hf : s.fixed = false) (hm : s.maxLim = some u) :
    Cons.upper i u ∈ genCons p segs := by
  rw [genCons_eq]
  exact upper_mem_genG (absP p) segs i s u hi hf hm

theorem absR_le {r t : Rat} (h : absR r ≤ t) : -t ≤ r ∧ r ≤ t := by
  unfold absR at h
  split_ifs at h with hneg
  · constructor <;> linarith
  · constructor <;> linarith

theorem clamp_close (s : Seg) (v t : Rat) (ht : 0 ≤ t)
    (hlu : ∀ l u, s.minLim = some l → s.maxLim = some u → l ≤ u)
    (hl : ∀ l, s.minLim = some l → l - t ≤ v) (hu : ∀ u, s.maxLim = some u → v ≤ u + t) :
    -t ≤ clamp s v - v ∧ clamp s v - v ≤ t ∧
    (∀ l, s.minLim = some l → l ≤ clamp s v) ∧ (∀ u, s.maxLim = some u → clamp s v ≤ u) := by
  unfold clamp
  cases hmin : s.minLim with
  | none =>
    cases hmax : s.maxLim with
    | none =>
      dsimp only
      exact ⟨by linarith, by linarith, fun _ h => (by cases h), fun _ h => (by cases h)⟩
    | some u =>
      dsimp only
      have lo : v - t ≤ min v u := le_min (by linarith) (by linarith [hu u hmax])
      have hi : min v u ≤ v + t := le_trans (min_le_left _ _) (by linarith)
      exact ⟨by linarith, by linarith, fun _ h => (by cases h), fun _ h => (by cases h; exact min_le_right _ _)⟩
  | some l =>
    cases hmax : s.maxLim with
    | none =>
      dsimp only
      have lo : v - t ≤ max v l := le_trans (by linarith) (le_max_left _ _)
      have hi : max v l ≤ v + t := max_le (by linarith) (by linarith [hl l hmin])
      exact ⟨by linarith, by linarith, fun _ h => (by cases h; exact le_max_right _ _), fun _ h => (by cases h)⟩
    | some u =>
      dsimp only
      have lo : v - t ≤ min (max v l) u := le_min (le_trans (by linarith) (le_max_left _ _)) (by linarith [hu u hmax])
      have hi : min (max v l) u ≤ v + t := le_trans (min_le_left _ _) (max_le (by linarith) (by linarith [hl l hmin]))
      exact ⟨by linarith, by linarith, fun _ h => (by cases h; exact le_min (le_max_right _ _) (hlu l u hmin hmax)),
        fun _ h => (by cases h; exact min_le_right _ _)⟩

theorem gapFor_full (p : Params) (a b : Seg) (h : FullGap p a b) : gapFor p a b = (p.sepDist, false) := by
  obtain ⟨hne, hce⟩ := h
  unfold gapFor
  simp only [hne, if_false]
  split_ifs with h1
  · exfalso; apply hce
    simp only [Bool.and_eq_true, Bool.not_eq_true'] at h1
    exact h1
  · rfl

theorem between_param (a b v : Rat) (h1 : min a b ≤ v) (h2 : v ≤ max a b) :
    ∃ t : Rat, 0 ≤ t ∧ t ≤ 1 ∧ v = a + t * (b - a) := by
  by_cases hab : a = b
  · subst hab
    rw [min_self] at h1; rw [max_self] at h2
    exact ⟨0, le_refl 0, by norm_num, by linarith⟩
  · obtain ⟨t0, t1⟩ := AdaptaVerif.Lemmas.PinsAttach.param_of_between a b v hab h1 h2
    refine ⟨(v - a) / (b - a), t0, t1, ?_⟩
    have hne : b - a ≠ 0 := sub_ne_zero.mpr (Ne.symm hab)
    field_simp
    ring

theorem common_part (a b c d v : Rat) (h1 : max (min a b) (min c d) ≤ v) (h2 : v ≤ min (max a b) (max c d)) :
    (min a b ≤ v ∧ v ≤ max a b) ∧ (min c d ≤ v ∧ v ≤ max c d) :=
  ⟨⟨le_trans (le_max_left _ _) h1, le_trans h2 (min_le_left _ _)⟩,
    ⟨le_trans (le_max_right _ _) h1, le_trans h2 (min_le_right _ _)⟩⟩

open AdaptaVerif.Model.Pins AdaptaVerif.Spec.Pins in
theorem onSeg_horizontal (a b : P2) (v : Rat) (hy : a.y = b.y) (h1 : min a.x b.x ≤ v) (h2 : v ≤ max a.x b.x) :
    OnSeg a b ⟨v, a.y⟩ := by
  obtain ⟨u, u0, u1, hu⟩ := between_param a.x b.x v h1 h2
  exact ⟨u, u0, u1, hu, by simp only [← hy]; ring⟩

open AdaptaVerif.Model.Pins AdaptaVerif.Spec.Pins in
theorem onSeg_vertical (a b : P2) (v : Rat) (hx : a.x = b.x) (h1 : min a.y b.y ≤ v) (h2 : v ≤ max a.y b.y) :
    OnSeg a b ⟨a.x, v⟩ := by
  obtain ⟨u, u0, u1, hu⟩ := between_param a.y b.y v h1 h2
  exact ⟨u, u0, u1, by simp only [← hx]; ring, hu⟩

end AdaptaVerif.Lemmas.Nudge
