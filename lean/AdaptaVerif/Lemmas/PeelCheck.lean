/-
C19 — soundness of the executable checkers of `Check/GraphParts.lean` (graph half) with respect
to the propositions of `Spec/UGraph.lean` and `Spec/GraphParts.lean`, and completeness of `simpleB`,
`connectedB` and, on simple graphs, `isTree`. Core Lean only.
-/
import AdaptaVerif.Check.GraphParts
import AdaptaVerif.Lemmas.PeelComps
import AdaptaVerif.Lemmas.PeelRank

namespace AdaptaVerif.Lemmas.PeelCheck
open AdaptaVerif.Spec.UGraph AdaptaVerif.Model.Peel AdaptaVerif.Spec.GraphParts
open AdaptaVerif.Check.GraphParts
open AdaptaVerif.Lemmas.PeelComps (exactlyOne_cons_head exactlyOne_cons_tail exactlyOne_congr)

theorem nodupB_iff (l : List Nat) : nodupB l = true ↔ l.Nodup := by
  induction l with
  | nil => simp [nodupB]
  | cons x xs ih => simp [nodupB, ih]

theorem connectedB_sound {ns : List Nat} {es : List (Nat × Nat)}
    (h : connectedB ns es = true) : Connected ns es := by
  cases ns with
  | nil => intro u hu; cases hu
  | cons u0 rest =>
    simp only [connectedB] at h
    split at h
    · rename_i vis hb
      have hc := PeelComps.bfs_component hb
      have hall : ∀ v, v ∈ u0 :: rest → Reach es u0 v := by
        intro v hv
        have hv' := List.all_eq_true.1 h v hv
        exact (hc v).1 (by simpa using hv')
      intro u hu v hv
      exact (hall u hu).symm.trans (hall v hv)
    · cases h

theorem forestWitnessB_sound {w : List (Nat × Nat × Nat)} {es : List (Nat × Nat)}
    (h : forestWitnessB w es = true) : Acyclic es := by
  apply PeelRank.acyclic_of_depth es (parOf w) (depOf w)
  intro a b hab
  have := List.all_eq_true.1 h (a, b) hab
  simpa using this

theorem isTree_sound {ns : List Nat} {es : List (Nat × Nat)}
    (h : isTree ns es = true) : IsTree ns es := by
  cases ns with
  | nil => simp [isTree] at h
  | cons r rest =>
    simp only [isTree, Bool.and_eq_true] at h
    exact ⟨by simp, connectedB_sound h.1, forestWitnessB_sound h.2⟩

theorem sameEdge_iff (e f : Nat × Nat) : sameEdge e f = true ↔ SameEdge e f := by
  obtain ⟨a, b⟩ := e
  obtain ⟨c, d⟩ := f
  simp [sameEdge, SameEdge]

theorem SameEdge.symm {e f : Nat × Nat} (h : SameEdge e f) : SameEdge f e := by
  rcases h with rfl | rfl
  · exact Or.inl rfl
  · exact Or.inr rfl

theorem sameEdge_self (e : Nat × Nat) : sameEdge e e = true :=
  (sameEdge_iff e e).2 (Or.inl rfl)

theorem sameEdge_rev (u v : Nat) : sameEdge (u, v) (v, u) = true :=
  (sameEdge_iff _ _).2 (Or.inr rfl)

theorem hasEdge_iff (p : List (Nat × Nat)) (e : Nat × Nat) : hasEdge p e = true ↔ HasEdge p e := by
  simp only [hasEdge, List.any_eq_true, HasEdge, sameEdge_iff]

theorem edgesDistinctB_nodup : ∀ (es : List (Nat × Nat)), edgesDistinctB es = true → es.Nodup
  | [], _ => List.nodup_nil
  | e :: es, h => by
    simp only [edgesDistinctB, Bool.and_eq_true, Bool.not_eq_true', List.any_eq_false] at h
    refine List.nodup_cons.2 ⟨fun hm => ?_, edgesDistinctB_nodup es h.2⟩
    exact h.1 e hm (sameEdge_self e)

theorem edgesDistinctB_norev : ∀ (es : List (Nat × Nat)), edgesDistinctB es = true →
    ∀ u v, (u, v) ∈ es → (v, u) ∈ es → u = v
  | [], _, _, _, h1, _ => nomatch h1
  | e :: es, h, u, v, h1, h2 => by
    simp only [edgesDistinctB, Bool.and_eq_true, Bool.not_eq_true', List.any_eq_false] at h
    rcases List.mem_cons.1 h1 with e1 | m1
    · rcases List.mem_cons.1 h2 with e2 | m2
      · have := e1.trans e2.symm
        simp only [Prod.mk.injEq] at this
        exact this.1
      · exact absurd (e1 ▸ sameEdge_rev u v) (h.1 _ m2)
    · rcases List.mem_cons.1 h2 with e2 | m2
      · exact absurd (e2 ▸ sameEdge_rev v u) (h.1 _ m1)
      · exact edgesDistinctB_norev es h.2 u v m1 m2

theorem simpleB_sound {ns : List Nat} {es : List (Nat × Nat)}
    (h : simpleB ns es = true) : Simple ns es := by
  simp only [simpleB, Bool.and_eq_true] at h
  obtain ⟨⟨hn, ha⟩, hd⟩ := h
  have hends : ∀ e, e ∈ es → e.1 ∈ ns ∧ e.2 ∈ ns ∧ e.1 ≠ e.2 := by
    intro e he
    have := List.all_eq_true.1 ha e he
    simpa [and_assoc] using this
  refine ⟨(nodupB_iff ns).1 hn, hends, edgesDistinctB_nodup es hd, ?_⟩
  intro u v h1 h2
  exact (hends (u, v) h1).2.2 (edgesDistinctB_norev es hd u v h1 h2)

theorem edgesDistinctB_complete : ∀ (es : List (Nat × Nat)), es.Nodup →
    (∀ u v, (u, v) ∈ es → (v, u) ∉ es) → edgesDistinctB es = true
  | [], _, _ => rfl
  | e :: es, hnd, hrev => by
    simp only [edgesDistinctB, Bool.and_eq_true, Bool.not_eq_true', List.any_eq_false]
    have hnd' := List.nodup_cons.1 hnd
    refine ⟨fun f hf hs => ?_, edgesDistinctB_complete es hnd'.2 (fun u v h1 h2 =>
      hrev u v (List.mem_cons_of_mem _ h1) (List.mem_cons_of_mem _ h2))⟩
    rcases (sameEdge_iff e f).1 hs with h1 | h1
    · exact hnd'.1 (h1 ▸ hf)
    · refine hrev f.1 f.2 (List.mem_cons_of_mem _ hf) ?_
      rw [← h1]; exact List.mem_cons_self

theorem simpleB_complete {ns : List Nat} {es : List (Nat × Nat)}
    (h : Simple ns es) : simpleB ns es = true := by
  obtain ⟨hn, he, hd, hr⟩ := h
  simp only [simpleB, Bool.and_eq_true]
  refine ⟨⟨(nodupB_iff ns).2 hn, ?_⟩, edgesDistinctB_complete es hd hr⟩
  refine List.all_eq_true.2 (fun e hm => ?_)
  have := he e hm
  simpa [and_assoc] using this

theorem exactlyOne_of_filter_length {α : Type} (l : List α) (p : α → Bool)
    (h : (l.filter p).length = 1) : ExactlyOne l (fun a => p a = true) := by
  induction l with
  | nil => simp at h
  | cons a l ih =>
    by_cases hp : p a = true
    · rw [List.filter_cons_of_pos hp] at h
      have h0 : l.filter p = [] := by
        apply List.eq_nil_of_length_eq_zero
        simpa using h
      refine exactlyOne_cons_head hp (fun b hb hpb => ?_)
      have : b ∈ l.filter p := List.mem_filter.2 ⟨hb, hpb⟩
      rw [h0] at this
      cases this
    · rw [List.filter_cons_of_neg hp] at h
      exact exactlyOne_cons_tail hp (ih h)

theorem filter_length_of_exactlyOne {α : Type} (l : List α) (p : α → Bool)
    (e : ExactlyOne l (fun a => p a = true)) : (l.filter p).length = 1 := by
  obtain ⟨l1, a, l2, rfl, ha, h1, h2⟩ := e
  have e1 : l1.filter p = [] := List.filter_eq_nil_iff.2 h1
  have e2 : l2.filter p = [] := List.filter_eq_nil_iff.2 h2
  rw [List.filter_append, List.filter_cons_of_pos ha, e1, e2]
  rfl

theorem exactlyOne_of_sum {α : Type} (l : List α) (g : α → Nat) (h : (l.map g).sum = 1) :
    ExactlyOne l (fun a => g a ≠ 0) := by
  induction l with
  | nil => simp at h
  | cons a l ih =>
    simp only [List.map_cons, List.sum_cons] at h
    by_cases ha : g a = 0
    · rw [ha, Nat.zero_add] at h
      exact exactlyOne_cons_tail (fun hh => hh ha) (ih h)
    · have hs : (l.map g).sum = 0 := by omega
      refine exactlyOne_cons_head ha (fun b hb hgb => hgb ?_)
      exact List.sum_eq_zero_iff_forall_eq_nat.1 hs (g b) (List.mem_map.2 ⟨b, hb, rfl⟩)

theorem filter_sameEdge_ne_zero (p : List (Nat × Nat)) (e : Nat × Nat) :
    (p.filter (sameEdge e)).length ≠ 0 ↔ HasEdge p e := by
  rw [Ne, List.length_eq_zero_iff, List.filter_eq_nil_iff]
  constructor
  · intro h
    apply Classical.byContradiction
    intro hn
    exact h (fun f hf hs => hn ⟨f, hf, (sameEdge_iff e f).1 hs⟩)
  · rintro ⟨f, hf, hs⟩ h
    exact h f hf ((sameEdge_iff e f).2 hs)

theorem exactlyOne_of_edgeCount {α : Type} (l : List α) (f : α → List (Nat × Nat)) (e : Nat × Nat)
    (h : edgeCount (l.map f) e = 1) : ExactlyOne l (fun a => HasEdge (f a) e) := by
  unfold edgeCount at h
  rw [List.map_map] at h
  exact exactlyOne_congr (fun a _ => filter_sameEdge_ne_zero (f a) e) (exactlyOne_of_sum l _ h)

theorem exactlyOne_of_partsWith {α : Type} (l : List α) (f : α → List Nat) (v : Nat)
    (h : partsWith (l.map f) v = 1) : ExactlyOne l (fun a => v ∈ f a) := by
  unfold partsWith at h
  rw [List.filter_map, List.length_map] at h
  refine exactlyOne_congr (fun a _ => ?_) (exactlyOne_of_filter_length l _ h)
  simp

theorem partsWith_zero {α : Type} (l : List α) (f : α → List Nat) (v : Nat)
    (h : partsWith (l.map f) v = 0) : ∀ a, a ∈ l → v ∉ f a := by
  unfold partsWith at h
  rw [List.filter_map, List.length_map, List.length_eq_zero_iff, List.filter_eq_nil_iff] at h
  intro a ha hv
  exact h a ha (by simpa using hv)

theorem edgesWithin_iff (ns : List Nat) (es : List (Nat × Nat)) :
    edgesWithin ns es = true ↔ ∀ f, f ∈ es → f.1 ∈ ns ∧ f.2 ∈ ns := by
  simp [edgesWithin]

theorem componentsOk_sound {ns : List Nat} {es : List (Nat × Nat)} {cs : List Comp}
    (h : componentsOk ns es cs = true) : CompsSpec ns es cs := by
  simp only [componentsOk, Bool.and_eq_true] at h
  obtain ⟨⟨⟨⟨⟨h1, h2⟩, h3⟩, h4⟩, h5⟩, h6⟩ := h
  have h1' := List.all_eq_true.1 h1
  have h2' := List.all_eq_true.1 h2
  have h3' := List.all_eq_true.1 h3
  have h4' := List.all_eq_true.1 h4
  have h5' := List.all_eq_true.1 h5
  have h6' := List.all_eq_true.1 h6
  constructor
  case node_once =>
    intro v hv
    exact exactlyOne_of_partsWith cs (·.nodes) v (by simpa using h1' v hv)
  case nodes_sub =>
    intro c hc
    have := h2' c hc
    simp only [Bool.and_eq_true, Bool.not_eq_true', List.all_eq_true] at this
    refine ⟨fun hn => ?_, fun v hv => by simpa using this.2 v hv⟩
    rw [hn] at this
    simp at this
  case edge_once =>
    intro e he
    exact exactlyOne_of_edgeCount cs (·.edges) e (by simpa using h3' e he)
  case edges_sub =>
    intro c hc f hf
    have := h4' c hc
    simp only [Bool.and_eq_true, List.all_eq_true] at this
    exact ⟨(hasEdge_iff es f).1 (this.1 f hf), (edgesWithin_iff _ _).1 this.2 f hf⟩
  case connected =>
    intro c hc
    exact connectedB_sound (h5' c hc)
  case no_cross =>
    intro c hc a ha b hab
    have key : ∀ e, e ∈ es → (e.1 ∈ c.nodes ↔ e.2 ∈ c.nodes) := by
      intro e he
      have := List.all_eq_true.1 (h6' e he) c hc
      rw [beq_iff_eq] at this
      rw [← List.contains_iff_mem, ← List.contains_iff_mem, this]
    rcases hab with hab | hab
    · exact (key _ hab).1 ha
    · exact (key _ hab).2 ha

theorem peelOk_sound {ns : List Nat} {es : List (Nat × Nat)} {trees : List TreeOut}
    {coreN : List Nat} {coreE : List (Nat × Nat)}
    (h : peelOk ns es trees coreN coreE = true) : PeelSpec ns es trees coreN coreE := by
  simp only [peelOk, Bool.and_eq_true] at h
  obtain ⟨⟨⟨⟨⟨⟨⟨⟨⟨⟨h1, _h2⟩, h3⟩, h4⟩, h5⟩, h6⟩, h7⟩, h8⟩, h9⟩, h10⟩, h11⟩ := h
  have h1' := List.all_eq_true.1 h1
  have h3' := List.all_eq_true.1 h3
  have h4' := List.all_eq_true.1 h4
  have h5' := List.all_eq_true.1 h5
  have h6' := List.all_eq_true.1 h6
  have h7' := List.all_eq_true.1 h7
  have h9' := List.all_eq_true.1 h9
  have h10' := List.all_eq_true.1 h10
  have h11' := List.all_eq_true.1 h11
  constructor
  case node_cover =>
    intro v hv
    have := h1' v hv
    simp only [Bool.and_eq_true, Bool.or_eq_true, decide_eq_true_eq, beq_iff_eq] at this
    rcases this.2 with hc | hc
    · exact Or.inl (by simpa using hc)
    · exact Or.inr (exactlyOne_of_partsWith trees (·.nodes) v hc)
  case node_atmost =>
    intro v hv
    have := h1' v hv
    simp only [Bool.and_eq_true, Bool.or_eq_true, decide_eq_true_eq, beq_iff_eq] at this
    have hle := this.1
    by_cases h0 : partsWith (trees.map (·.nodes)) v = 0
    · exact Or.inl (partsWith_zero trees (·.nodes) v h0)
    · exact Or.inr (exactlyOne_of_partsWith trees (·.nodes) v (by omega))
  case core_sub =>
    intro v hv
    simpa using h3' v hv
  case tree_sub =>
    intro t ht v hv
    have := h4' t ht
    simp only [Bool.and_eq_true, List.all_eq_true] at this
    simpa using this.2 v hv
  case root_mem =>
    intro t ht
    have := h5' t ht
    simp only [Bool.and_eq_true] at this
    simpa using this.1
  case shared =>
    intro hne t ht v hv
    have := h5' t ht
    simp only [Bool.and_eq_true, Bool.or_eq_true, List.all_eq_true] at this
    rcases this.2 with he | hall
    · exact absurd (by simpa using he) hne
    · rw [← List.contains_iff_mem, beq_iff_eq.1 (hall v hv)]
      exact beq_iff_eq
  case edge_once =>
    intro e he
    exact exactlyOne_of_edgeCount _ id e (by simpa using h6' e he)
  case core_edges_sub =>
    intro f hf
    have := List.all_eq_true.1 (h7' coreE (by simp)) f hf
    exact ⟨(hasEdge_iff es f).1 this, (edgesWithin_iff _ _).1 h8 f hf⟩
  case tree_edges_sub =>
    intro t ht f hf
    have := List.all_eq_true.1 (h7' t.edges (List.mem_cons_of_mem _ (List.mem_map.2 ⟨t, ht, rfl⟩))) f hf
    exact ⟨(hasEdge_iff es f).1 this, (edgesWithin_iff _ _).1 (h9' t ht) f hf⟩
  case trees_ok =>
    intro t ht
    exact isTree_sound (h10' t ht)
  case core_deg =>
    intro v hv
    have hd : degree coreE v ≠ 1 := by simpa using h11' v hv
    exact hd

theorem contains_map_fst (vis : List (Nat × Nat × Nat)) (v : Nat) :
    (vis.map (·.1)).contains v = vis.any (fun t => t.1 == v) := by
  induction vis with
  | nil => rfl
  | cons t vis ih =>
    simp only [List.map_cons, List.contains_cons, List.any_cons, ih]
    rw [BEq.comm]

theorem bfsP_proj {es : List (Nat × Nat)} :
    ∀ (f : Nat) (q vis : List (Nat × Nat × Nat)) (out : List Nat),
      bfs es f (q.map (·.1)) (vis.map (·.1)) = some out →
      (bfsP es f q vis).map (·.1) = out := by
  intro f q vis
  induction f, q, vis using bfsP.induct es with
  | case1 q vis =>
    intro out h
    cases q with
    | nil => simpa only [List.map_nil, bfs, Option.some.injEq, bfsP] using h
    | cons t q => simp only [List.map_cons, bfs, reduceCtorEq] at h
  | case2 t vis ht =>
    intro out h
    simp only [List.map_nil, bfs, Option.some.injEq] at h
    simpa only [bfsP] using h
  | case3 f v p d q vis hc ih =>
    intro out h
    simp only [List.map_cons, bfs, contains_map_fst, if_pos hc] at h
    simp only [bfsP, if_pos hc]
    exact ih out h
  | case4 f v p d q vis hc ih =>
    intro out h
    simp only [List.map_cons, bfs, contains_map_fst, if_neg hc] at h
    simp only [bfsP, if_neg hc]
    apply ih
    simpa only [List.map_append, List.map_map, List.map_cons, Function.comp_def,
      List.map_id'] using h

section
variable {es : List (Nat × Nat)} {r : Nat}

/-- a BFS record is justified: the root record, or its parent is recorded one level up and
    adjacent -/
def Just (es : List (Nat × Nat)) (r : Nat) (vis : List (Nat × Nat × Nat))
    (t : Nat × Nat × Nat) : Prop :=
  t = (r, r, 0) ∨ ∃ pp d', (t.2.1, pp, d') ∈ vis ∧ t.2.2 = d' + 1 ∧ Adj es t.2.1 t.1

theorem Just.mono {vis vis' : List (Nat × Nat × Nat)}
    {t : Nat × Nat × Nat} (hsub : ∀ s, s ∈ vis → s ∈ vis') (h : Just es r vis t) :
    Just es r vis' t := by
  rcases h with h | ⟨pp, d', hm, hd, ha⟩
  · exact Or.inl h
  · exact Or.inr ⟨pp, d', hsub _ hm, hd, ha⟩

/-- well-formed visited list: distinct keys, every record justified by older records -/
def WF (es : List (Nat × Nat)) (r : Nat) : List (Nat × Nat × Nat) → Prop
  | [] => True
  | t :: vis => vis.any (fun s => s.1 == t.1) = false ∧ Just es r vis t ∧ WF es r vis

theorem bfsP_wf :
    ∀ (f : Nat) (q vis : List (Nat × Nat × Nat)), WF es r vis →
      (∀ t, t ∈ q → Just es r vis t) → WF es r (bfsP es f q vis) := by
  intro f q vis
  induction f, q, vis using bfsP.induct es with
  | case1 q vis => intro hw _; simpa only [bfsP] using hw
  | case2 t vis ht => intro hw _; simpa only [bfsP] using hw
  | case3 f v p d q vis hc ih =>
    intro hw hq
    simp only [bfsP, if_pos hc]
    exact ih hw (fun t ht => hq t (List.mem_cons_of_mem _ ht))
  | case4 f v p d q vis hc ih =>
    intro hw hq
    simp only [bfsP, if_neg hc]
    refine ih ⟨Bool.eq_false_iff.2 hc, hq _ List.mem_cons_self, hw⟩ ?_
    intro t ht
    rcases List.mem_append.1 ht with ht | ht
    · exact (hq t (List.mem_cons_of_mem _ ht)).mono (fun s hs => List.mem_cons_of_mem _ hs)
    · obtain ⟨x, hx, rfl⟩ := List.mem_map.1 ht
      exact Or.inr ⟨p, d, List.mem_cons_self, rfl, PeelComps.mem_nbrs.1 hx⟩

theorem wf_just :
    ∀ (w : List (Nat × Nat × Nat)), WF es r w → ∀ t, t ∈ w → Just es r w t
  | [], _, _, ht => nomatch ht
  | s :: vis, hw, t, ht => by
    rcases List.mem_cons.1 ht with rfl | ht
    · exact hw.2.1.mono (fun s hs => List.mem_cons_of_mem _ hs)
    · exact (wf_just vis hw.2.2 t ht).mono (fun s hs => List.mem_cons_of_mem _ hs)

theorem wf_find :
    ∀ (w : List (Nat × Nat × Nat)), WF es r w → ∀ t, t ∈ w →
      w.find? (fun s => s.1 == t.1) = some t
  | [], _, _, ht => nomatch ht
  | s :: vis, hw, t, ht => by
    rcases List.mem_cons.1 ht with rfl | ht
    · simp
    · have hne : (s.1 == t.1) = false := by
        have := List.any_eq_false.1 hw.1 t ht
        rw [BEq.comm]
        simpa using this
      rw [List.find?_cons, hne]
      exact wf_find vis hw.2.2 t ht

theorem wf_parOf {w : List (Nat × Nat × Nat)}
    (hw : WF es r w) {t : Nat × Nat × Nat} (ht : t ∈ w) : parOf w t.1 = t.2.1 := by
  simp only [parOf, wf_find w hw t ht]

theorem wf_depOf {w : List (Nat × Nat × Nat)}
    (hw : WF es r w) {t : Nat × Nat × Nat} (ht : t ∈ w) : depOf w t.1 = t.2.2 := by
  simp only [depOf, wf_find w hw t ht]

theorem wf_unique {w : List (Nat × Nat × Nat)}
    (hw : WF es r w) {s t : Nat × Nat × Nat} (hs : s ∈ w) (ht : t ∈ w) (h : s.1 = t.1) :
    s = t := by
  have h1 := wf_find w hw s hs
  have h2 := wf_find w hw t ht
  rw [h] at h1
  exact Option.some.inj (h1.symm.trans h2)

theorem wf_reach {es es' : List (Nat × Nat)} {r : Nat} :
    ∀ (w : List (Nat × Nat × Nat)), WF es r w →
      (∀ t, t ∈ w → t = (r, r, 0) ∨ Adj es' t.2.1 t.1) → ∀ t, t ∈ w → Reach es' r t.1
  | [], _, _, _, ht => nomatch ht
  | s :: vis, hw, hadj, t, ht => by
    have ih := wf_reach vis hw.2.2 (fun t ht => hadj t (List.mem_cons_of_mem _ ht))
    rcases List.mem_cons.1 ht with rfl | ht
    · rcases hadj t List.mem_cons_self with h | h
      · rw [h]; exact Reach.refl _
      · rcases hw.2.1 with h' | ⟨pp, d', hm, _, _⟩
        · rw [h']; exact Reach.refl _
        · exact (ih _ hm).tail h
    · exact ih t ht

end

theorem not_reach_without_edge {es : List (Nat × Nat)} (hac : Acyclic es) {a b : Nat}
    (hab : (a, b) ∈ es) (hne : a ≠ b) :
    ¬ Reach (es.filter (fun e => !sameEdge e (a, b))) a b := by
  intro hr
  -- a simple path from `a` to `b` that avoids the edge has at least three vertices, and the edge
  -- closes it to a simple cycle
  obtain ⟨P, hnd, hhead, hlast, hadj⟩ := PeelRank.reach_simple_path hr
  have e1 := PeelRank.head?_getD hhead
  have e2 := PeelRank.getLast?_getD hlast
  have hsub : ∀ e, e ∈ es.filter (fun e => !sameEdge e (a, b)) → e ∈ es :=
    fun e he => (List.mem_filter.1 he).1
  have hlen0 : P.length ≠ 0 := by
    intro h0
    rw [List.length_eq_zero_iff.1 h0] at hhead
    cases hhead
  have hlen1 : P.length ≠ 1 := by
    intro h1
    rw [h1] at e2
    exact hne (e1.symm.trans e2)
  have hlen2 : P.length ≠ 2 := by
    intro h2
    have hA := hadj 0 (by omega)
    rw [h2] at e2
    rw [e1] at hA
    rw [show (0 + 1 = 2 - 1) from rfl, e2] at hA
    rcases hA with hA | hA
    · have := (List.mem_filter.1 hA).2
      rw [sameEdge_self] at this
      cases this
    · have := (List.mem_filter.1 hA).2
      rw [sameEdge_rev] at this
      cases this
  refine hac P ⟨by omega, hnd, fun i hi => ?_⟩
  by_cases hi' : i + 1 < P.length
  · rw [Nat.mod_eq_of_lt hi']
    exact (hadj i hi').mono hsub
  · have hi2 : i = P.length - 1 := by omega
    have hm : (i + 1) % P.length = 0 := by
      have : i + 1 = P.length := by omega
      rw [this, Nat.mod_self]
    rw [hm, e1, hi2, e2]
    exact Or.inr hab

theorem not_sameEdge {p v a b : Nat} (h1 : ¬ (p = a ∧ v = b)) (h2 : ¬ (p = b ∧ v = a)) :
    (!sameEdge (p, v) (a, b)) = true := by
  rw [Bool.not_eq_true', Bool.eq_false_iff]
  intro hs
  rcases (sameEdge_iff _ _).1 hs with h | h
  · exact h1 (Prod.mk.inj h)
  · exact h2 (Prod.mk.inj h)

theorem adj_filter_of_ne {es : List (Nat × Nat)} {a b p v : Nat} (h : Adj es p v)
    (h1 : ¬ (p = a ∧ v = b)) (h2 : ¬ (p = b ∧ v = a)) :
    Adj (es.filter (fun e => !sameEdge e (a, b))) p v := by
  rcases h with h | h
  · exact Or.inl (List.mem_filter.2 ⟨h, not_sameEdge h1 h2⟩)
  · exact Or.inr (List.mem_filter.2
      ⟨h, not_sameEdge (fun e => h2 ⟨e.2, e.1⟩) (fun e => h1 ⟨e.2, e.1⟩)⟩)

theorem bfs_from_root {es : List (Nat × Nat)} (r : Nat) :
    ∃ out, bfs es (bfsFuel es) [r] [] = some out ∧ ∀ x, x ∈ out ↔ Reach es r x := by
  obtain ⟨out, ho⟩ := PeelComps.bfs_total (es := es) (bfsFuel es) [r] [] (by
    have := PeelComps.pot_nil es
    simp only [List.length_cons, List.length_nil, bfsFuel]
    omega)
  refine ⟨out, ho, ?_⟩
  have hf : bfsFuel es = (2 * es.length + 1) + 1 := rfl
  rw [hf] at ho
  simp only [bfs, List.contains_nil, Bool.false_eq_true, if_false, List.nil_append] at ho
  exact PeelComps.bfs_component ho

theorem acyclicB_complete {ns : List Nat} {es : List (Nat × Nat)} {r : Nat} (hr : r ∈ ns)
    (hs : Simple ns es) (hc : Connected ns es) (hac : Acyclic es) : acyclicB r es = true := by
  obtain ⟨out, ho, hout⟩ := bfs_from_root (es := es) r
  have hproj := bfsP_proj (es := es) (bfsFuel es) [(r, r, 0)] [] out ho
  have hw : WF es r (bfsP es (bfsFuel es) [(r, r, 0)] []) := by
    refine bfsP_wf _ _ _ True.intro ?_
    intro t ht
    exact Or.inl (List.mem_singleton.1 ht)
  simp only [acyclicB, forestWitnessB]
  generalize bfsP es (bfsFuel es) [(r, r, 0)] [] = w at hproj hw
  have hent : ∀ x, x ∈ ns → ∃ t, t ∈ w ∧ t.1 = x := by
    intro x hx
    have : x ∈ w.map (·.1) := by rw [hproj]; exact (hout x).2 (hc r hr x hx)
    obtain ⟨t, ht, rfl⟩ := List.mem_map.1 this
    exact ⟨t, ht, rfl⟩
  refine List.all_eq_true.2 (fun e he => ?_)
  obtain ⟨a, b⟩ := e
  obtain ⟨ha, hb, hne⟩ := hs.2.1 _ he
  obtain ⟨ta, hta, rfl⟩ := hent _ ha
  obtain ⟨tb, htb, rfl⟩ := hent _ hb
  simp only [Bool.or_eq_true, Bool.and_eq_true, beq_iff_eq]
  rw [wf_parOf hw hta, wf_parOf hw htb, wf_depOf hw hta, wf_depOf hw htb]
  by_cases h1 : ta.2.1 = tb.1
  · left
    refine ⟨h1, ?_⟩
    rcases wf_just w hw ta hta with h | ⟨pp, d', hm, hd, _⟩
    · rw [h] at h1 hne
      exact absurd h1 hne
    · have := wf_unique hw hm htb h1
      rw [← this]
      exact hd
  · by_cases h2 : tb.2.1 = ta.1
    · right
      refine ⟨h2, ?_⟩
      rcases wf_just w hw tb htb with h | ⟨pp, d', hm, hd, _⟩
      · rw [h] at h2 hne
        exact absurd h2.symm hne
      · have := wf_unique hw hm hta h2
        rw [← this]
        exact hd
    · exfalso
      -- neither end is the recorded parent of the other: no parent link uses the edge, so both ends
      -- reach the root without it
      have hall : ∀ t, t ∈ w → t = (r, r, 0) ∨
          Adj (es.filter (fun e => !sameEdge e (ta.1, tb.1))) t.2.1 t.1 := by
        intro t ht
        rcases wf_just w hw t ht with h | ⟨pp, d', _, _, hadj⟩
        · exact Or.inl h
        · refine Or.inr (adj_filter_of_ne hadj ?_ ?_)
          · rintro ⟨e1, e2⟩
            have := wf_unique hw ht htb e2
            rw [this] at e1
            exact h2 e1
          · rintro ⟨e1, e2⟩
            have := wf_unique hw ht hta e2
            rw [this] at e1
            exact h1 e1
      have ra := wf_reach w hw hall ta hta
      have rb := wf_reach w hw hall tb htb
      exact not_reach_without_edge hac he hne (ra.symm.trans rb)

theorem connectedB_complete {ns : List Nat} {es : List (Nat × Nat)}
    (hc : Connected ns es) : connectedB ns es = true := by
  cases ns with
  | nil => rfl
  | cons u0 rest =>
    obtain ⟨vis, hb⟩ := PeelComps.bfs_start_total es u0
    have hcomp := PeelComps.bfs_component hb
    simp only [connectedB, hb]
    refine List.all_eq_true.2 (fun v hv => ?_)
    have := (hcomp v).2 (hc u0 List.mem_cons_self v hv)
    simpa using this

theorem isTree_complete {ns : List Nat} {es : List (Nat × Nat)}
    (hs : Simple ns es) (ht : IsTree ns es) : isTree ns es = true := by
  obtain ⟨hne, hconn, hac⟩ := ht
  cases ns with
  | nil => exact absurd rfl hne
  | cons r rest =>
    simp only [isTree, Bool.and_eq_true]
    exact ⟨connectedB_complete hconn, acyclicB_complete List.mem_cons_self hs hconn hac⟩

end AdaptaVerif.Lemmas.PeelCheck
