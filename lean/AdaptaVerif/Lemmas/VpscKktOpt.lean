/-
From the IncSolver model to the QP specification of C02 (`Spec/Qp.lean`): the problem a model
state stands for, and KKT at quiescent states.
-/
import AdaptaVerif.Lemmas.VpscKkt
import AdaptaVerif.Lemmas.Util.Array
namespace AdaptaVerif.Lemmas.VpscKktOpt
open AdaptaVerif.Model.Vpsc
open AdaptaVerif.Lemmas.VpscInv AdaptaVerif.Lemmas.VpscKkt
open AdaptaVerif.Lemmas.VpscModel (scale_mul_pos)
open AdaptaVerif.Spec.Qp (Problem KKTeps)
open AdaptaVerif.Lemmas.Qp

def toQ (c : Con) : AdaptaVerif.Spec.Qp.Con := ⟨c.l, c.r, c.gap, c.eq⟩

/-- the quadratic program a model state stands for: its variables (desired, weight, scale) and all
    constraints known to the solver -/
def problemOf (st : St) : Problem :=
  { n := st.vars.size
    d := fun i => (st.vars[i]!).desired
    w := fun i => (st.vars[i]!).weight
    s := fun i => (st.vars[i]!).scale
    cons := st.cons.toList.map toQ }

/-- `q x = dfdv_x / scale_x = 2·w_x·(pos_x − d_x)/s_x` -/
def qOf (st : St) : Nat → Rat := fun x => st.dfdv x / (st.vars[x]!).scale

/-- the blocks sit at their stationary positions (`posn = (AD − AB)/A2`) -/
def BlockStationary (st : St) : Prop := ∀ b, blockSum st.vars (qOf st) b = 0

/-- the tree multipliers of the state -/
noncomputable def lamOf (st : St) (j : Nat) : Rat := mult st.cons st.vars.size (qOf st) j

noncomputable def lamList (st : St) : List Rat := (List.range st.cons.size).map (lamOf st)

theorem lamOf_inactive {st : St} {j : Nat} (ha : ¬ (st.cons[j]!).active = true) : lamOf st j = 0 :=
  if_neg ha

theorem ite_lamOf (st : St) (j : Nat) (p : Prop) [Decidable p] :
    (if p then lamOf st j else 0) =
      if (st.cons[j]!).active = true ∧ p then mult st.cons st.vars.size (qOf st) j else 0 := by
  by_cases ha : (st.cons[j]!).active = true
  · rw [if_congr (and_iff_right ha) rfl rfl]; rfl
  · rw [lamOf_inactive ha, ite_self, if_neg fun hh => ha hh.1]

theorem mem_problemOf_cons {st : St} {c : AdaptaVerif.Spec.Qp.Con} (hc : c ∈ (problemOf st).cons) :
    ∃ j, j < st.cons.size ∧ c = toQ (st.cons[j]!) := by
  obtain ⟨c0, hc0, rfl⟩ := List.mem_map.mp hc
  obtain ⟨j, hj, rfl⟩ := Array.mem_iff_getElem.1 (Array.mem_toList_iff.mp hc0)
  exact ⟨j, hj, by rw [getElem!_pos st.cons j hj]⟩

theorem zip_eq_range (st : St) :
    (problemOf st).cons.zip (lamList st) =
      (List.range st.cons.size).map fun j => (toQ (st.cons[j]!), lamOf st j) := by
  apply List.ext_getElem
  · simp [problemOf, lamList]
  · intro k h1 h2
    have hk : k < st.cons.size := by simpa using h2
    simp only [problemOf, lamList, List.getElem_zip, List.getElem_map, Array.getElem_toList,
      List.getElem_range]
    rw [getElem!_pos st.cons k hk]

def slackQ (st : St) (j : Nat) : Rat :=
  AdaptaVerif.Spec.Qp.slack (problemOf st).s (toQ (st.cons[j]!)) st.pos

theorem slackQ_eq (st : St) (j : Nat) (hs : ∀ i : Nat, i < st.vars.size → (st.vars[i]!).scale ≠ 0)
    (hl : (st.cons[j]!).l < st.vars.size) (hr : (st.cons[j]!).r < st.vars.size) :
    slackQ st j = st.uval (st.cons[j]!).r - (st.cons[j]!).gap - st.uval (st.cons[j]!).l := by
  unfold slackQ AdaptaVerif.Spec.Qp.slack problemOf toQ
  simp only
  rw [scale_mul_pos st _ (hs _ hr), scale_mul_pos st _ (hs _ hl)]

/-- quiescence up to `eps`: every constraint (flagged ones included) holds exactly, and no active
    inequality has a multiplier below `-eps` -/
structure Quiescent (eps : Rat) (st : St) : Prop where
  holds : ∀ j : Nat, j < st.cons.size →
    if (st.cons[j]!).eq = true then slackQ st j = 0 else 0 ≤ slackQ st j
  sign : ∀ j : Nat, j < st.cons.size → (st.cons[j]!).active = true → (st.cons[j]!).eq = false →
    -eps ≤ lamOf st j

theorem kktEps_of_quiescent (eps : Rat) (st : St) (hinv : Inv st) (heps : 0 ≤ eps)
    (hs : ∀ i : Nat, i < st.vars.size → (st.vars[i]!).scale ≠ 0)
    (hstat : BlockStationary st) (hq : Quiescent eps st) :
    KKTeps eps (problemOf st) st.pos (lamList st) := by
  refine ⟨by simp only [lamList, problemOf, List.length_map, List.length_range, Array.length_toList],
    ?_, ?_, ?_⟩
  · intro c hc
    obtain ⟨j, hj, rfl⟩ := mem_problemOf_cons hc
    exact hq.holds j hj
  · -- stationarity: the tree multipliers balance `qOf`, and `s_i · qOf i = 2 w_i (pos_i − d_i)`
    intro i hi
    rw [zip_eq_range, conGrad_range (problemOf st).s (fun j => toQ (st.cons[j]!)) (lamOf st) i]
    simp only [ite_lamOf]
    exact (mul_div_cancel₀ _ (hs i hi)).symm.trans
      (congrArg ((problemOf st).s i * ·) (mult_stationary hinv (qOf st) hstat i hi).symm)
  · intro p hp
    rw [zip_eq_range] at hp
    obtain ⟨j, hj, rfl⟩ := List.mem_map.mp hp
    have hj := List.mem_range.mp hj
    by_cases ha : (st.cons[j]!).active = true
    · refine ⟨(Bool.eq_false_or_eq_true _).imp_right (hq.sign j hj ha), mul_eq_zero_of_right _ ?_⟩
      have ht := AdaptaVerif.Lemmas.VpscLoop.tightActive_of_inv hinv _
        (Util.getElem!_mem hj) ha
      have := slackQ_eq st j hs (hinv.l_lt j hj) (hinv.r_lt j hj)
      unfold slackQ at this
      rw [this]; linarith
    · rw [lamOf_inactive ha, zero_mul]
      exact ⟨Or.inr (neg_nonpos.mpr heps), rfl⟩

end AdaptaVerif.Lemmas.VpscKktOpt
