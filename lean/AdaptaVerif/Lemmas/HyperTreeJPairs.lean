/-
The junction attachments of a heap as a relation (`JPairs t j i`: the live node `i` carries junction `j`), and the
bookkeeping invariant of the improver stated through it (`JInv'`), with what each kind of change does to it: nothing
(`of_jsame`), a junction put on a node (`put`), a junction taken off and reported deleted (`drop`).  Both traversals
(`removeZeroLengthEdges`, the junction move) reason about junctions through this relation.  The namespace is that
of `Lemmas/HyperTreeMove`, whose statements speak of `JPairs`.
-/
import AdaptaVerif.Lemmas.HyperTree
namespace AdaptaVerif.Lemmas.HyperTreeMove
open AdaptaVerif.Model.HyperTree AdaptaVerif.Lemmas.HyperTree

def JPairs (t : HTree) (j i : Nat) : Prop := ∃ n ∈ t.nodes, n.id = i ∧ n.junction = some j

def JSame (t t' : HTree) : Prop := ∀ j i, JPairs t j i ↔ JPairs t' j i

theorem JSame.refl (t : HTree) : JSame t t := fun _ _ => Iff.rfl
theorem JSame.trans {a b c : HTree} (h1 : JSame a b) (h2 : JSame b c) : JSame a c :=
  fun j i => (h1 j i).trans (h2 j i)

theorem _root_.AdaptaVerif.Lemmas.HyperTree.IdentifySpec.jpairs {t t' : HTree} {e : HEdge} {x tg src : Nat} (h : WF t)
    (hs : IdentifySpec t e x tg src t') {j i : Nat} : JPairs t' j i ↔ JPairs t j i ∧ i ≠ src := by
  constructor
  · rintro ⟨n', hn', hid, hj⟩
    obtain ⟨n, hn, hns, k, _⟩ := hs.nodes n' hn'
    exact ⟨⟨n, hn, k.id.symm.trans hid, k.junction.symm.trans hj⟩, hid ▸ k.id ▸ hns⟩
  · rintro ⟨⟨n, hn, hid, hj⟩, hne⟩
    obtain ⟨n', hn', k⟩ := hs.node_kept h hn (hid ▸ hne)
    exact ⟨n', hn', k.id.trans hid, k.junction.trans hj⟩

theorem _root_.AdaptaVerif.Lemmas.HyperTree.Relabel.jsame {gN : HNode → HNode} {gE : HEdge → HEdge} {t t1 : HTree}
    (h : Relabel gN gE t t1) (hj : ∀ n, (gN n).junction = n.junction) : JSame t t1 := by
  intro j i
  constructor
  · rintro ⟨n, hn, hid, hnj⟩
    exact ⟨gN n, h.mem_nodes.mpr ⟨n, hn, rfl⟩, (h.nid n).trans hid, (hj n).trans hnj⟩
  · rintro ⟨n1, hn1, hid, hnj⟩
    obtain ⟨n, hn, rfl⟩ := h.mem_nodes.mp hn1
    exact ⟨n, hn, (h.nid n).symm.trans hid, (hj n).symm.trans hnj⟩

theorem JPairs_unique {t : HTree} (h : WF t) {j j' i : Nat} (h1 : JPairs t j i) (h2 : JPairs t j' i) :
    j = j' := by
  obtain ⟨n, hn, hni, hnj⟩ := h1
  obtain ⟨m, hm, hmi, hmj⟩ := h2
  have : n = m := h.node_eq hn hm (hni.trans hmi.symm)
  subst this
  rw [hnj] at hmj; exact Option.some.inj hmj

theorem JPairs_modNode_junction {t : HTree} {c : Nat} {v : Option Nat} {j i : Nat} :
    JPairs (t.modNode c (fun x => { x with junction := v })) j i ↔
      (i = c ∧ v = some j ∧ c ∈ t.graphV) ∨ (i ≠ c ∧ JPairs t j i) := by
  simp only [JPairs, HTree.modNode, List.mem_map, HTree.graphV]
  constructor
  · rintro ⟨n', ⟨n, hn, rfl⟩, hid, hj⟩
    by_cases hc : n.id = c
    · have hb : (n.id == c) = true := by simpa using hc
      rw [if_pos hb] at hid hj
      exact Or.inl ⟨hid.symm.trans hc, hj, n, hn, hc⟩
    · have : (n.id == c) = false := by simpa using hc
      simp only [this, Bool.false_eq_true, if_false] at hid hj
      exact Or.inr ⟨hid ▸ hc, n, hn, hid, hj⟩
  · rintro (⟨rfl, hv, n, hn, hc⟩ | ⟨hic, n, hn, hid, hj⟩)
    · have hb : (n.id == i) = true := by simpa using hc
      exact ⟨_, ⟨n, hn, rfl⟩, by rw [if_pos hb]; exact hc, by rw [if_pos hb]; exact hv⟩
    · have hb : ¬ (n.id == c) = true := by simpa [hid] using hic
      exact ⟨_, ⟨n, hn, rfl⟩, by rw [if_neg hb]; exact hid, by rw [if_neg hb]; exact hj⟩

structure JInv' (s : Imp) : Prop where
  inj : ∀ j i i', JPairs s.t j i → JPairs s.t j i' → i = i'
  live : ∀ p ∈ s.junctions, JPairs s.t p.1 p.2
  reg : ∀ j i, JPairs s.t j i → (j, i) ∈ s.junctions
  del : ∀ j ∈ s.delJ, ∀ i, ¬ JPairs s.t j i

theorem JInv'.of_jsame {s s' : Imp} (h : JInv' s) (hJ : JSame s.t s'.t) (h1 : s'.junctions = s.junctions)
    (h2 : s'.delJ = s.delJ) : JInv' s' :=
  ⟨fun j i i' a b => h.inj j i i' ((hJ j i).mpr a) ((hJ j i').mpr b),
   fun p hp => (hJ _ _).mp (h.live p (h1 ▸ hp)),
   fun j i a => h1 ▸ h.reg j i ((hJ j i).mpr a),
   fun j hj i a => h.del j (h2 ▸ hj) i ((hJ j i).mpr a)⟩

theorem JInv'.put {s s' : Imp} {cn j0 : Nat} (h : JInv' s) (hd : j0 ∉ s.delJ)
    (hiff : ∀ j i, JPairs s'.t j i ↔ (j = j0 ∧ i = cn) ∨ (j ≠ j0 ∧ JPairs s.t j i))
    (hmap : ∀ j i, (j, i) ∈ s'.junctions ↔ (j = j0 ∧ i = cn) ∨ (j ≠ j0 ∧ (j, i) ∈ s.junctions))
    (h2 : s'.delJ = s.delJ) : JInv' s' := by
  refine ⟨?_, ?_, ?_, ?_⟩
  · intro j i i' a b
    rcases (hiff j i).mp a with ⟨ha, rfl⟩ | ⟨ha, a⟩ <;> rcases (hiff j i').mp b with ⟨hb, rfl⟩ | ⟨hb, b⟩
    · rfl
    · exact absurd ha hb
    · exact absurd hb ha
    · exact h.inj j i i' a b
  · rintro ⟨j, i⟩ hp
    exact (hiff j i).mpr (((hmap j i).mp hp).imp_right (And.imp_right (h.live (j, i))))
  · intro j i a
    exact (hmap j i).mpr (((hiff j i).mp a).imp_right (And.imp_right (h.reg j i)))
  · intro j hj i a
    rw [h2] at hj
    rcases (hiff j i).mp a with ⟨rfl, -⟩ | ⟨-, a⟩
    · exact hd hj
    · exact h.del j hj i a

theorem JInv'.drop {s s' : Imp} {oj : Nat} (h : JInv' s)
    (hiff : ∀ j i, JPairs s'.t j i ↔ (JPairs s.t j i ∧ j ≠ oj))
    (hmap : ∀ p, p ∈ s'.junctions ↔ (p ∈ s.junctions ∧ p.1 ≠ oj))
    (hdel : ∀ j, j ∈ s'.delJ ↔ (j ∈ s.delJ ∨ j = oj)) : JInv' s' :=
  ⟨fun j i i' a b => h.inj j i i' ((hiff j i).mp a).1 ((hiff j i').mp b).1,
   fun p hp => (hiff _ _).mpr ⟨h.live p ((hmap p).mp hp).1, ((hmap p).mp hp).2⟩,
   fun j i a => (hmap (j, i)).mpr ⟨h.reg j i ((hiff j i).mp a).1, ((hiff j i).mp a).2⟩,
   fun j hj i a => ((hdel j).mp hj).elim (fun hj => h.del j hj i ((hiff j i).mp a).1) ((hiff j i).mp a).2⟩

end AdaptaVerif.Lemmas.HyperTreeMove
