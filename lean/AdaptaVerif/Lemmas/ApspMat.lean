/-
C17 — matrix (`Array (Array Dist)`) read/write lemmas and the order facts about
`omin` / `oadd` / `gtD` used by the Floyd–Warshall and Dijkstra proofs.
-/
import AdaptaVerif.Lemmas.ApspWalk
namespace AdaptaVerif.Lemmas.Apsp
open AdaptaVerif.Model.ShortestPaths

/-- `n × n` -/
def Mat.WF (n : Nat) (D : Mat) : Prop := D.size = n ∧ ∀ (i : Nat) (r : Array Dist), D[i]? = some r → r.size = n

theorem Mat.get_set_ne (D : Mat) (i j a b : Nat) (x : Dist) (h : a ≠ i ∨ b ≠ j) :
    (D.set i j x).get a b = D.get a b := by
  unfold Mat.get Mat.set
  rw [Array.getElem?_modify]
  by_cases hia : i = a
  · subst hia
    rw [if_pos rfl]
    cases hr : D[i]? with
    | none => rfl
    | some r =>
      simp only [Option.map_some, Option.getD_some]
      rw [Array.getElem?_setIfInBounds]
      have hjb : j ≠ b := by
        rcases h with h | h
        · exact absurd rfl h
        · exact fun e => h e.symm
      rw [if_neg hjb]
  · rw [if_neg hia]

theorem Mat.get_set_eq {n : Nat} (D : Mat) (hwf : Mat.WF n D) (i j : Nat) (x : Dist) (hi : i < n) (hj : j < n) :
    (D.set i j x).get i j = x := by
  unfold Mat.get Mat.set
  rw [Array.getElem?_modify, if_pos rfl]
  have hsz : i < D.size := by rw [hwf.1]; exact hi
  have hr : D[i]? = some D[i] := Array.getElem?_eq_getElem hsz
  rw [hr]
  simp only [Option.map_some, Option.getD_some]
  rw [Array.getElem?_setIfInBounds, if_pos rfl]
  have : j < D[i].size := by rw [hwf.2 i _ hr]; exact hj
  rw [if_pos this]
  rfl

theorem Mat.get_set_self (D : Mat) (i j : Nat) (x : Dist) :
    (D.set i j x).get i j = x ∨ (D.set i j x).get i j = D.get i j := by
  unfold Mat.get Mat.set
  rw [Array.getElem?_modify, if_pos rfl]
  cases hr : D[i]? with
  | none => right; rfl
  | some r =>
    simp only [Option.map_some, Option.getD_some]
    rw [Array.getElem?_setIfInBounds, if_pos rfl]
    by_cases hj : j < r.size
    · left; rw [if_pos hj]; rfl
    · right; rw [if_neg hj]
      have : r[j]? = none := Array.getElem?_eq_none (Nat.le_of_not_lt hj)
      rw [this]

theorem Mat.get_set_cases (D : Mat) (i j a b : Nat) (x : Dist) :
    (D.set i j x).get a b = D.get a b ∨ (a = i ∧ b = j ∧ (D.set i j x).get a b = x) := by
  by_cases hab : a = i ∧ b = j
  · obtain ⟨rfl, rfl⟩ := hab
    rcases Mat.get_set_self D a b x with e | e
    · exact Or.inr ⟨rfl, rfl, e⟩
    · exact Or.inl e
  · exact Or.inl (Mat.get_set_ne D i j a b x (not_and_or.mp hab))

theorem Mat.WF_set {n : Nat} {D : Mat} (h : Mat.WF n D) (i j : Nat) (x : Dist) : Mat.WF n (D.set i j x) := by
  unfold Mat.set
  refine ⟨by rw [Array.size_modify]; exact h.1, ?_⟩
  intro a r hr
  rw [Array.getElem?_modify] at hr
  by_cases hia : i = a
  · rw [if_pos hia] at hr
    cases hr0 : D[a]? with
    | none => rw [hr0] at hr; simp at hr
    | some r0 =>
      rw [hr0] at hr
      simp only [Option.map_some, Option.some.injEq] at hr
      rw [← hr, Array.size_setIfInBounds]
      exact h.2 a r0 hr0
  · rw [if_neg hia] at hr
    exact h.2 a r hr

theorem Mat.WF_const (n : Nat) (x : Dist) : Mat.WF n (Mat.const n x) := by
  unfold Mat.const
  refine ⟨Array.size_replicate, ?_⟩
  intro i r hr
  rw [Array.getElem?_replicate] at hr
  split at hr
  · simp only [Option.some.injEq] at hr; rw [← hr]; exact Array.size_replicate
  · cases hr

theorem Mat.get_const (n : Nat) (x : Dist) (a b : Nat) :
    (Mat.const n x).get a b = if a < n ∧ b < n then x else none := by
  unfold Mat.get Mat.const
  rw [Array.getElem?_replicate]
  by_cases ha : a < n
  · rw [if_pos ha]
    simp only [Option.getD_some]
    rw [Array.getElem?_replicate]
    by_cases hb : b < n
    · rw [if_pos hb, if_pos ⟨ha, hb⟩]; rfl
    · rw [if_neg hb, if_neg (fun h => hb h.2)]; rfl
  · rw [if_neg ha, if_neg (fun h => ha h.1)]
    simp

theorem Mat.ext {n : Nat} {A B : Mat} (hA : Mat.WF n A) (hB : Mat.WF n B)
    (h : ∀ a b, a < n → b < n → A.get a b = B.get a b) : A = B := by
  apply Array.ext
  · rw [hA.1, hB.1]
  · intro i hiA hiB
    have hin : i < n := by rw [← hA.1]; exact hiA
    have hrA : A[i]? = some A[i] := Array.getElem?_eq_getElem hiA
    have hrB : B[i]? = some B[i] := Array.getElem?_eq_getElem hiB
    have hsA := hA.2 i _ hrA
    have hsB := hB.2 i _ hrB
    apply Array.ext
    · rw [hsA, hsB]
    · intro j hjA hjB
      have hjn : j < n := by rw [← hsA]; exact hjA
      have := h i j hin hjn
      unfold Mat.get at this
      rw [hrA, hrB] at this
      simp only [Option.getD_some] at this
      rw [Array.getElem?_eq_getElem hjA, Array.getElem?_eq_getElem hjB] at this
      simpa using this

theorem Mat.get_rows (f : Nat → Vec) {n i : Nat} (hi : i < n) (j : Nat) :
    Mat.get ((List.range n).map f).toArray i j = Vec.at (f i) j := by
  unfold Mat.get Vec.at
  simp [hi]

/-- `D[a][b]` is finite and `≤ c` -/
def leC (D : Mat) (a b : Nat) (c : Rat) : Prop := ∃ d, D.get a b = some d ∧ d ≤ c

theorem leC.mono {D : Mat} {a b : Nat} {c c' : Rat} (h : leC D a b c) (hc : c ≤ c') : leC D a b c' := by
  obtain ⟨d, hd, hdc⟩ := h
  exact ⟨d, hd, le_trans hdc hc⟩

/-- `D' ≤ D` entrywise (sentinel = +∞) -/
def Mat.Le (D' D : Mat) : Prop := ∀ a b c, leC D a b c → leC D' a b c

theorem Mat.Le.refl (D : Mat) : Mat.Le D D := fun _ _ _ h => h
theorem Mat.Le.trans {A B C : Mat} (h₁ : Mat.Le A B) (h₂ : Mat.Le B C) : Mat.Le A C :=
  fun a b c h => h₁ a b c (h₂ a b c h)

theorem omin_cases (a b : Dist) : omin a b = a ∨ omin a b = b := by
  cases a with
  | none => cases b with
    | none => left; rfl
    | some y => right; rfl
  | some x => cases b with
    | none => left; rfl
    | some y =>
      unfold omin
      by_cases h : y < x
      · right; simp [h]
      · left; simp [h]

theorem omin_le_left {a b : Dist} {x c : Rat} (ha : a = some x) (hx : x ≤ c) : ∃ z, omin a b = some z ∧ z ≤ c := by
  subst ha
  cases b with
  | none => exact ⟨x, rfl, hx⟩
  | some y =>
    unfold omin
    by_cases h : y < x
    · exact ⟨y, by simp [h], le_trans (le_of_lt h) hx⟩
    · exact ⟨x, by simp [h], hx⟩

theorem omin_le_right {a b : Dist} {y c : Rat} (hb : b = some y) (hy : y ≤ c) : ∃ z, omin a b = some z ∧ z ≤ c := by
  subst hb
  cases a with
  | none => exact ⟨y, rfl, hy⟩
  | some x =>
    unfold omin
    by_cases h : y < x
    · exact ⟨y, by simp [h], hy⟩
    · exact ⟨x, by simp [h], le_trans (not_lt.mp h) hy⟩

theorem gtD_some {b c : Rat} : gtD (some b) c = true ↔ c < b := by simp [gtD]

theorem oadd_eq_some {x y : Dist} {d : Rat} (h : oadd x y = some d) : ∃ a b, x = some a ∧ y = some b ∧ d = a + b := by
  cases x with
  | none => cases h
  | some a =>
    cases y with
    | none => cases h
    | some b => injection h with h; exact ⟨a, b, rfl, rfl, h.symm⟩

end AdaptaVerif.Lemmas.Apsp
