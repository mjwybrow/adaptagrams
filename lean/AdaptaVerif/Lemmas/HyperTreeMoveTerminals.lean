/-
The junction move (`moveJunctionAlongCommonEdge`) keeps the TERMINAL SET (the leaves) of the hyperedge
tree, under the geometric side condition `MoveSafe` on the junction node.
-/
import AdaptaVerif.Lemmas.HyperTreeMove
namespace AdaptaVerif.Lemmas.HyperTreeMoveTerminals
open AdaptaVerif.Model.HyperTree AdaptaVerif.Check.Tree AdaptaVerif.Spec.Tree
open AdaptaVerif.Lemmas.HyperTreeGraph AdaptaVerif.Lemmas.HyperTree AdaptaVerif.Lemmas.Tree
open AdaptaVerif.Lemmas.HyperTreeMove

/-- no leaf neighbour of the junction node that carries no junction itself shares its position with, or
    lies strictly inside the segment to, another neighbour (fixed-route edges aside) -/
def MoveSafe (t : HTree) (self : Nat) : Prop :=
  ∀ sn ∈ t.nodes, sn.id = self →
  ∀ e1 ∈ t.edges, ∀ e2 ∈ t.edges, e1.id ∈ sn.edges → e2.id ∈ sn.edges → e1.id ≠ e2.id →
    e1.hasFixedRoute = false → e2.hasFixedRoute = false →
  ∀ l ∈ t.nodes, ∀ o ∈ t.nodes, Joins e1 self l.id → Joins e2 self o.id → l.edges.length = 1 →
    l.junction = none →
    o.point ≠ l.point ∧ AdaptaVerif.Model.Geometry.pointOnLine sn.point o.point l.point = false

open AdaptaVerif.Model.Geometry in
theorem MoveSafe_split {t : HTree} (ht : Tree t) {self cnId onId : Nat} (hsafe : MoveSafe t self)
    {sn : HNode} (hsn : sn ∈ t.nodes) (hid : sn.id = self) {ce oe : HEdge} (hce : ce ∈ t.edges)
    (hcin : ce.id ∈ sn.edges) (hcf : ce.hasFixedRoute = false) (hjc : Joins ce self cnId)
    {c : HNode} (hc : c ∈ t.nodes) (hcid : c.id = cnId) (hoe : oe ∈ t.edges)
    (hoin : oe.id ∈ sn.edges) (hne : oe.id ≠ ce.id) (hof : oe.hasFixedRoute = false)
    (hjo : Joins oe self onId) {on : HNode} (hon : on ∈ t.nodes) (honid : on.id = onId)
    (hpl : pointOnLine sn.point on.point c.point = true) :
    MoveSafe (splitResult t oe self onId c.point) self := by
  have hso : self ≠ onId := ht.ne_of_joins hoe hjo
  have hW' : WF (splitResult t oe self onId c.point) := splitResult_WF ht.1 hoe hjo hso c.point
  have hN := next_not_mem_graphV ht.1
  have hsplitN : splitNode t oe.id c.point ∈ (splitResult t oe self onId c.point).nodes :=
    mem_splitResult_nodes.mpr (Or.inr rfl)
  have nodeOld : ∀ n' ∈ (splitResult t oe self onId c.point).nodes, n'.id ≠ t.next →
      ∃ n ∈ t.nodes, n.id = n'.id ∧ n.point = n'.point ∧ n.junction = n'.junction ∧
        n.edges.length = n'.edges.length := by
    intro n' hn' hnid
    rcases mem_splitResult_nodes.mp hn' with ⟨n, hn, rfl⟩ | rfl
    · refine ⟨n, hn, ?_⟩
      split
      · next hno =>
        refine ⟨rfl, rfl, rfl, ?_⟩
        have hin : oe.id ∈ n.edges := by
          rw [ht.1.mem_edges_iff hn hoe, hno]
          rcases hjo with ⟨_, h2⟩ | ⟨h1, _⟩
          · exact Or.inr h2
          · exact Or.inl h1
        have := length_filter_ne_of_nodup (ht.1.nodupL n hn) hin
        simp only [List.length_append, List.length_cons, List.length_nil]
        omega
      · exact ⟨rfl, rfl, rfl, rfl⟩
    · exact absurd rfl hnid
  have edgeCl : ∀ x' ∈ (splitResult t oe self onId c.point).edges, x'.id ∈ sn.edges →
      (x' ∈ t.edges ∧ x'.id ≠ oe.id) ∨
      (x'.id = oe.id ∧ x'.e1 = some self ∧ x'.e2 = some t.next) := by
    intro x' hx' hin
    rcases mem_splitResult_edges.mp hx' with ⟨x, hx, rfl⟩ | rfl
    · split
      · next hxo => exact Or.inr ⟨hxo, rfl, rfl⟩
      · next hxo => exact Or.inl ⟨hx, hxo⟩
    · exfalso
      obtain ⟨x, hx, hxi, _⟩ := (ht.1.inc sn hsn _).mp hin
      have := ht.1.fresh.2 x hx
      simp only [splitEdge] at hxi
      omega
  have oldFar : ∀ x ∈ t.edges, ∀ n' ∈ (splitResult t oe self onId c.point).nodes, Joins x self n'.id →
      ∃ n ∈ t.nodes, n.id = n'.id ∧ n.point = n'.point ∧ n.junction = n'.junction ∧
        n.edges.length = n'.edges.length := by
    intro x hx n' hn' hj
    apply nodeOld n' hn'
    intro hh
    exact hN (hh ▸ (joins_mem_graphV ht.1 hx hj).2)
  have splitFar : ∀ x' : HEdge, x'.e1 = some self → x'.e2 = some t.next →
      ∀ n' ∈ (splitResult t oe self onId c.point).nodes, Joins x' self n'.id →
      n' = splitNode t oe.id c.point := by
    intro x' h1 h2 n' hn' hj
    apply hW'.node_eq hn' hsplitN
    rcases hj with ⟨_, j2⟩ | ⟨_, j2⟩
    · rw [h2] at j2; exact (Option.some.inj j2).symm
    · exfalso
      rw [h2] at j2
      have : t.next = self := Option.some.inj j2
      exact hN (this ▸ hid ▸ List.mem_map.mpr ⟨sn, hsn, rfl⟩)
  intro sn' hsn' hsn'id e1' he1' e2' he2' hi1 hi2 hne12 hf1 hf2 l' hl' o' ho' hj1 hj2 hlen hlj
  have hsn'' : sn' = sn :=
    hW'.node_eq hsn' (splitResult_node_mem hsn (hid ▸ hso)) (hsn'id.trans hid.symm)
  subst hsn''
  rcases edgeCl e1' he1' hi1 with ⟨hx1, hx1o⟩ | ⟨_, a1, a2⟩
  · obtain ⟨l, hl, hlid, hlp, hljn, hll⟩ := oldFar e1' hx1 l' hl' hj1
    rcases edgeCl e2' he2' hi2 with ⟨hx2, _⟩ | ⟨_, b1, b2⟩
    · obtain ⟨o, ho, hoid, hop, _, _⟩ := oldFar e2' hx2 o' ho' hj2
      have := hsafe sn' hsn hid e1' hx1 e2' hx2 hi1 hi2 hne12 hf1 hf2 l hl o ho (hlid ▸ hj1)
        (hoid ▸ hj2) (hll.trans hlen) (hljn.trans hlj)
      rw [hop, hlp] at this
      exact this
    · have ho'' := splitFar e2' b1 b2 o' ho' hj2
      have hop : o'.point = c.point := by rw [ho'']; rfl
      rw [hop, ← hlp]
      by_cases h1c : e1'.id = ce.id
      · exfalso
        have hx1c : e1' = ce := ht.1.edge_eq hx1 hce h1c
        have hlc : l = c := by
          apply ht.1.node_eq hl hc
          rw [hcid, hlid]
          rw [hx1c] at hj1
          exact (joins_far_unique hjc hj1 (ht.ne_of_joins hce hjc)).symm
        subst hlc
        have := hsafe sn' hsn hid ce hce oe hoe hcin hoin (Ne.symm hne) hcf hof l hl on hon
          (hcid ▸ hjc) (honid ▸ hjo) (hll.trans hlen) (hljn.trans hlj)
        rw [hpl] at this
        exact absurd this.2 (by simp)
      · exact hsafe sn' hsn hid e1' hx1 ce hce hi1 hcin h1c hf1 hcf l hl c hc (hlid ▸ hj1)
          (hcid ▸ hjc) (hll.trans hlen) (hljn.trans hlj)
  · exfalso
    have := splitFar e1' a1 a2 l' hl' hj1
    rw [this] at hlen
    simp [splitNode] at hlen

def FarDeg (t : HTree) (self i : Nat) : Prop :=
  ∃ x ∈ t.edges, x.id = i ∧ ∃ o, x.followFrom self = some o ∧ o ∈ t.graphV ∧ 2 ≤ deg t.graphE o

theorem FarDeg.transport {curr : Nat} {S : List Nat} {t t' : HTree} (hle : HeapLe curr S t t')
    (hdeg : ∀ v ∈ t.graphV, deg t'.graphE v = deg t.graphE v) {self i : Nat} (hi : i ∉ S)
    (hf : FarDeg t self i) : FarDeg t' self i := by
  obtain ⟨x, hx, hxi, o, hfol, hoV, hd⟩ := hf
  exact ⟨x, hle.keepE x hx (Or.inr (hxi ▸ hi)), hxi, o, hfol, hle.graphV o hoV, by rw [hdeg o hoV]; exact hd⟩

theorem two_le_deg_of_not_leaf {t : HTree} (ht : Tree t) {n : HNode} (hn : n ∈ t.nodes) {e : HEdge}
    (he : e ∈ t.edges) (hend : e.e1 = some n.id ∨ e.e2 = some n.id) (h1 : n.edges.length ≠ 1) :
    2 ≤ deg t.graphE n.id := by
  rw [← ht.length_edges_eq_deg hn]
  have : e.id ∈ n.edges := (ht.1.mem_edges_iff hn he).mpr hend
  have : 0 < n.edges.length := List.length_pos_of_mem this
  omega

/-- the fixed data of one iteration of `moveLoop`, as they hold in the current heap `t` -/
structure MoveCtx (t : HTree) (slf curr cnId : Nat) (sn : HNode) (ce : HEdge)
    (cnPt : AdaptaVerif.Model.Geometry.Pt) : Prop where
  tree : Tree t
  safe : MoveSafe t slf
  sn_mem : sn ∈ t.nodes
  sn_id : sn.id = slf
  ce_mem : ce ∈ t.edges
  ce_id : ce.id = curr
  ce_in : curr ∈ sn.edges
  ce_fixed : ce.hasFixedRoute = false
  ce_joins : Joins ce slf cnId
  cn : ∃ c ∈ t.nodes, c.id = cnId ∧ c.point = cnPt ∧ c.junction = none

/-- what the scan guarantees for the terminals -/
structure ScanT (slf curr cnId : Nat) (sn : HNode) (ce : HEdge) (cnPt : AdaptaVerif.Model.Geometry.Pt)
    (T : List Nat) (sc sc' : Scan) : Prop where
  ctx : MoveCtx sc'.t slf curr cnId sn ce cnPt
  leaves : LeavesAre sc'.t.graphV sc'.t.graphE T
  degOld : ∀ v ∈ sc.t.graphV, deg sc'.t.graphE v = deg sc.t.graphE v
  far : ∀ A, sc'.common = sc.common ++ A →
    (∀ i ∈ A, FarDeg sc'.t slf i) ∧ (A ≠ [] → 2 ≤ deg sc'.t.graphE cnId)

theorem ScanT.step_common {self curr cnId : Nat} {sn : HNode} {ce : HEdge}
    {cnPt : AdaptaVerif.Model.Geometry.Pt} {T : List Nat} {sc sc1 sc' : Scan} {e2 : Nat} {rest : List Nat}
    (hV : ∀ v ∈ sc.t.graphV, v ∈ sc1.t.graphV)
    (hD : ∀ v ∈ sc.t.graphV, deg sc1.t.graphE v = deg sc.t.graphE v)
    (hcm : sc1.common = sc.common ++ [e2]) (hfar : FarDeg sc1.t self e2)
    (hcn : 2 ≤ deg sc1.t.graphE cnId) (hcnV : cnId ∈ sc1.t.graphV)
    (hspec : ScanSpec curr sn rest sc1 sc') (hnr : e2 ∉ rest)
    (ih : ScanT self curr cnId sn ce cnPt T sc1 sc') : ScanT self curr cnId sn ce cnPt T sc sc' := by
  refine ⟨ih.ctx, ih.leaves, fun v hv => (ih.degOld v (hV v hv)).trans (hD v hv), ?_⟩
  intro A hA
  obtain ⟨A', B', hA', _⟩ := hspec.parts
  rw [hcm, List.append_assoc] at hA'
  have hAA : A = [e2] ++ A' := List.append_cancel_left (hA.symm.trans hA')
  have hih := ih.far A' (by rw [hcm, List.append_assoc]; exact hA')
  subst hAA
  refine ⟨?_, fun _ => by rw [ih.degOld cnId hcnV]; exact hcn⟩
  intro i hi
  rcases List.mem_append.mp hi with hi | hi
  · simp only [List.mem_singleton] at hi
    subst hi
    exact FarDeg.transport hspec.le ih.degOld hnr hfar
  · exact hih.1 i hi

open AdaptaVerif.Model.Geometry in
theorem scanOthers_T {self curr cnId : Nat} {sn : HNode} {ce : HEdge} {cnPt : Pt} {T : List Nat} :
    ∀ (l : List Nat) (sc sc' : Scan), l.Nodup → MoveCtx sc.t self curr cnId sn ce cnPt →
      LeavesAre sc.t.graphV sc.t.graphE T →
      scanOthers self sn.point cnPt curr l sc = some sc' → ScanT self curr cnId sn ce cnPt T sc sc' := by
  intro l
  induction l with
  | nil =>
    intro sc sc' _ ctx hT h
    simp only [scanOthers, Option.some.injEq] at h
    subst h
    refine ⟨ctx, hT, fun _ _ => rfl, ?_⟩
    intro A hA
    obtain rfl : A = [] := List.append_right_eq_self.mp hA.symm
    exact ⟨by simp, fun h => absurd rfl h⟩
  | cons e2 rest ih =>
    intro sc sc' hnd ctx hT h
    have hnd' := List.nodup_cons.mp hnd
    have ht := ctx.tree
    have hsn := ctx.sn_mem
    rcases scanOthers_cons h with ⟨-, h⟩ | ⟨-, h⟩ |
      ⟨oe, sn1, on, t', hc, hoem, rfl, hsn1, hsn1id, hin, hof, honm, hfol, hcase, h⟩
    · exact ih sc sc' hnd'.2 ctx hT h
    · have r := ih { sc with other := sc.other ++ [e2] } _ hnd'.2 ctx hT h
      exact ⟨r.ctx, r.leaves, r.degOld, r.far⟩
    · obtain rfl : sn1 = sn := ht.1.node_eq hsn1 hsn (hsn1id.trans ctx.sn_id.symm)
      obtain ⟨c, hcm, hcid, hcpt, hcj⟩ := ctx.cn
      have hjo : Joins oe self on.id := hsn1id ▸ joins_of_followFrom ht.1 hsn hoem hin (hsn1id ▸ hfol)
      have hne : oe.id ≠ ce.id := by rw [ctx.ce_id]; exact hc
      have hcnV : cnId ∈ sc.t.graphV := hcid ▸ List.mem_map.mpr ⟨c, hcm, rfl⟩
      -- `cn` is not a leaf: it would share its position with, or lie on the segment to, `on`
      have hdcn : (on.point = c.point ∨ pointOnLine sn1.point on.point c.point = true) →
          2 ≤ deg sc.t.graphE cnId := by
        intro hor
        rw [← hcid]
        apply two_le_deg_of_not_leaf ht hcm ctx.ce_mem (hcid ▸ joins_end_right ctx.ce_joins)
        intro h1
        have := ctx.safe sn1 hsn hsn1id ce ctx.ce_mem oe hoem (ctx.ce_id ▸ ctx.ce_in) hin
          (Ne.symm hne) ctx.ce_fixed hof c hcm on honm (hcid ▸ ctx.ce_joins) hjo h1 hcj
        rcases hor with hpp | hpl
        · exact this.1 hpp
        · rw [hpl] at this; cases this.2
      rcases hcase with ⟨hpt, hjn, rfl⟩ | ⟨hpl, a, b, hsplit⟩
      · have hpp : on.point = c.point := hpt.trans hcpt.symm
        have hdon : 2 ≤ deg sc.t.graphE on.id := by
          apply two_le_deg_of_not_leaf ht honm hoem (joins_end_right hjo)
          intro h1
          exact (ctx.safe sn1 hsn hsn1id oe hoem ce ctx.ce_mem hin (ctx.ce_id ▸ ctx.ce_in)
            hne hof ctx.ce_fixed on honm c hcm hjo (hcid ▸ ctx.ce_joins) h1 hjn).1 hpp.symm
        exact ScanT.step_common (sc1 := { sc with common := sc.common ++ [oe.id] })
          (fun _ hv => hv) (fun _ _ => rfl) rfl
          ⟨oe, hoem, rfl, on.id, hfol, List.mem_map.mpr ⟨on, honm, rfl⟩, hdon⟩ (hdcn (Or.inl hpp)) hcnV
          (scanOthers_spec hsn1id rest _ sc' hnd'.2 ht hsn h) hnd'.1 (ih _ _ hnd'.2 ctx hT h)
      · have hpl' : pointOnLine sn1.point on.point c.point = true := by rw [hcpt]; exact hpl
        obtain ⟨rfl, ht', hs⟩ := split_of_tree ht hoem hjo hsplit
        have hN := next_not_mem_graphV ht.1
        have hsn' : sn1 ∈ (splitResult sc.t oe self on.id cnPt).nodes :=
          splitResult_node_mem hsn (hsn1id ▸ ht.ne_of_joins hoem hjo)
        have hV : ∀ v ∈ sc.t.graphV, v ∈ (splitResult sc.t oe self on.id cnPt).graphV := by
          intro v hv; rw [hs.graphV]; exact List.mem_append_left _ hv
        have hD : ∀ v ∈ sc.t.graphV,
            deg (splitResult sc.t oe self on.id cnPt).graphE v = deg sc.t.graphE v := by
          intro v hv
          rw [split_deg ht hoem hjo hs v, if_neg (fun hh : sc.t.next = v => hN (hh ▸ hv))]
          rfl
        have ctx' : MoveCtx (splitResult sc.t oe self on.id cnPt) self curr cnId sn1 ce cnPt := by
          refine ⟨ht', ?_, hsn', hsn1id, splitResult_edge_mem ctx.ce_mem (Ne.symm hne), ctx.ce_id,
            ctx.ce_in, ctx.ce_fixed, ctx.ce_joins, ?_⟩
          · rw [← hcpt]
            exact MoveSafe_split ht ctx.safe hsn hsn1id ctx.ce_mem (ctx.ce_id ▸ ctx.ce_in)
              ctx.ce_fixed ctx.ce_joins hcm hcid hoem hin hne hof hjo honm rfl hpl'
          · obtain ⟨c', hc', k⟩ := splitResult_kept (ed := oe) (source := self)
              (target := on.id) (p := cnPt) hcm
            exact ⟨c', hc', k.id.trans hcid, k.point.trans hcpt, k.junction.trans hcj⟩
        have hfar : FarDeg (splitResult sc.t oe self on.id cnPt) self oe.id := by
          obtain ⟨x, hx, hxi, hfo⟩ := splitResult_follow hoem self on.id cnPt
          refine ⟨x, hx, hxi, _, hfo, by rw [hs.graphV]; simp, ?_⟩
          rw [split_deg ht hoem hjo hs, if_pos rfl]
          exact Nat.le_add_left _ _
        exact ScanT.step_common (sc1 := { sc with t := _, common := sc.common ++ [oe.id] })
          hV hD rfl hfar ((hD cnId hcnV).symm ▸ hdcn (Or.inr hpl')) (hV _ hcnV)
          (scanOthers_spec hsn1id rest _ sc' hnd'.2 ht' hsn' h) hnd'.1
          (ih _ _ hnd'.2 ctx' (split_leaves ht hoem hjo hs hT) h)

/-- degree bookkeeping of `mergeCommon slf tg es` -/
structure MergeDeg (slf tg : Nat) (es : List Nat) (t t' : HTree) : Prop where
  subV : ∀ v ∈ t'.graphV, v ∈ t.graphV
  removed : ∀ v ∈ t.graphV, v ∉ t'.graphV → 2 ≤ deg t.graphE v
  degSelf : deg t'.graphE slf + es.length = deg t.graphE slf
  degTg : deg t.graphE tg + es.length ≤ deg t'.graphE tg
  degOther : ∀ v ∈ t'.graphV, v ≠ slf → v ≠ tg → deg t'.graphE v = deg t.graphE v
  selfV : slf ∈ t'.graphV
  tgV : tg ∈ t'.graphV

theorem mergeCommon_deg {self tg : Nat} :
    ∀ (es : List Nat) (t : HTree) (sn : HNode) (e0 : HEdge) (t' : HTree), Tree t → sn ∈ t.nodes →
      sn.id = self → e0 ∈ t.edges → Joins e0 self tg → (∀ i ∈ es, i ∈ sn.edges) → es.Nodup → e0.id ∉ es →
      (∀ i ∈ es, FarDeg t self i) → mergeCommon self tg es t = some t' → MergeDeg self tg es t t' := by
  intro es
  induction es with
  | nil =>
    intro t sn e0 t' ht hsn hid he0 hj0 _ _ _ _ h
    simp only [mergeCommon, Option.some.injEq] at h
    subst h
    exact ⟨fun _ hv => hv, fun _ hv hnv => absurd hv hnv, rfl, Nat.le_refl _, fun _ _ _ _ => rfl,
      hid ▸ List.mem_map.mpr ⟨sn, hsn, rfl⟩, (joins_mem_graphV ht.1 he0 hj0).2⟩
  | cons i rest ih =>
    intro t sn e0 t' ht hsn hid he0 hj0 hin hnd hnot hfar h
    have hnd' := List.nodup_cons.mp hnd
    have hi : i ∈ sn.edges := hin i List.mem_cons_self
    obtain ⟨e, src, t1, sn1, e1, rfl, hm, it⟩ :=
      mergeCommon_cons_spec ht hsn hid he0 hj0 hi (fun hh => hnot (hh ▸ List.mem_cons_self)) rest
    obtain ⟨hin1, hnd1, hnot1⟩ := it.rest hin hnd hnot
    rw [hm] at h
    have hdeg1 := identify_deg it.spec it.tg_ne_src it.self_ne_src
    have hsrc2 : 2 ≤ deg t.graphE src := by
      obtain ⟨x, hx, hxi, o, hfo, _, hd⟩ := hfar e.id List.mem_cons_self
      obtain rfl : x = e := ht.1.edge_eq hx it.mem hxi
      rwa [Option.some.inj (it.follow.symm.trans hfo)]
    have hfar1 : ∀ i' ∈ rest, FarDeg t1 self i' := by
      intro i' hi'
      obtain ⟨x', hx', hxi', o', hfo', hoV', hd'⟩ := hfar i' (List.mem_cons_of_mem _ hi')
      obtain ⟨hj', hos', x1, hx1m, hx1id, hf1⟩ := it.far ht hsn hid hx'
        (hxi' ▸ hin i' (List.mem_cons_of_mem _ hi')) (by rw [hxi']; exact fun hh => hnd'.1 (hh ▸ hi')) hfo'
      have hot' : o' ≠ tg := by
        rintro rfl
        exact ht.no_parallel he0 hx'
          (by rw [hxi']; exact fun hh => hnot (hh ▸ List.mem_cons_of_mem _ hi')) hj0 hj'
      refine ⟨x1, hx1m, hx1id.trans hxi', o', hf1, ?_, ?_⟩
      · rw [it.spec.graphV, mem_filter_ne]; exact ⟨hoV', hos'⟩
      · rw [hdeg1 o']
        simp only [hos', hot', ht.ne_of_joins hx' hj', if_false]
        exact hd'
    have hm' := ih t1 sn1 e1 t' it.tree it.sn_mem (it.sn_kept.id.trans hid) it.e0_mem it.e0_joins hin1 hnd1 hnot1
      hfar1 h
    have hV1 : ∀ v, v ∈ t1.graphV ↔ v ∈ t.graphV ∧ v ≠ src := by
      intro v; rw [it.spec.graphV, mem_filter_ne]
    have hdself : 1 ≤ deg t.graphE self := by
      rw [← hid, ← ht.length_edges_eq_deg hsn]
      exact List.length_pos_of_mem hi
    refine ⟨fun v hv => ((hV1 v).mp (hm'.subV v hv)).1, ?_, ?_, ?_, ?_, hm'.selfV, hm'.tgV⟩
    · intro v hv hnv
      by_cases hvs : v = src
      · rw [hvs]; exact hsrc2
      · have hv1 : v ∈ t1.graphV := (hV1 v).mpr ⟨hv, hvs⟩
        have h2 := hm'.removed v hv1 hnv
        have hvt : v ≠ tg := fun hh => hnv (hh ▸ hm'.tgV)
        have hvself : self ≠ v := fun hh => hnv (hh ▸ hm'.selfV)
        rw [hdeg1 v] at h2
        simpa only [hvs, hvt, hvself, if_false, Nat.sub_zero] using h2
    · have := hm'.degSelf
      rw [hdeg1 self] at this
      simp only [it.self_ne_src, it.self_ne_tg, if_false, if_true] at this
      simp only [List.length_cons]
      omega
    · have := hm'.degTg
      rw [hdeg1 tg] at this
      simp only [it.tg_ne_src, it.self_ne_tg, if_false, if_true, Nat.sub_zero] at this
      simp only [List.length_cons]
      omega
    · intro v hv hvself hvt
      rw [hm'.degOther v hv hvself hvt, hdeg1 v]
      have hvs : v ≠ src := ((hV1 v).mp (hm'.subV v hv)).2
      simp only [hvs, hvt, Ne.symm hvself, if_false, Nat.sub_zero]

theorem leaves_congr {t t' : HTree} {T : List Nat} (hV : t'.graphV = t.graphV) (hE : t'.graphE = t.graphE)
    (h : LeavesAre t.graphV t.graphE T) : LeavesAre t'.graphV t'.graphE T := by
  rw [hV, hE]; exact h

theorem not_mem_leaves_of_deg {V : List Nat} {E : List Edge} {T : List Nat} (hT : LeavesAre V E T)
    {v : Nat} (hd : deg E v ≠ 1) : v ∉ T := fun hv => hd ((hT.2 v (hT.1 v hv)).mpr hv)

theorem MergeDeg.leaf_mem {self cnId : Nat} {A : List Nat} {t t1 : HTree} {T : List Nat}
    (md : MergeDeg self cnId A t t1) (hT : LeavesAre t.graphV t.graphE T) {x : Nat} (hx : x ∈ T) :
    x ∈ t1.graphV := by
  have hxV := hT.1 x hx
  have hd : deg t.graphE x = 1 := (hT.2 x hxV).mpr hx
  apply Classical.byContradiction
  intro hnx
  have := md.removed x hxV hnx
  omega

theorem leaves_after_merge {self cnId : Nat} {A : List Nat} {t t1 : HTree} {T : List Nat}
    (hT : LeavesAre t.graphV t.graphE T) (md : MergeDeg self cnId A t t1)
    (hcn2 : 2 ≤ deg t.graphE cnId) (hs2 : 2 ≤ deg t1.graphE self) :
    LeavesAre t1.graphV t1.graphE T := by
  have hselfT : self ∉ T := not_mem_leaves_of_deg hT (by have := md.degSelf; omega)
  have hcnT : cnId ∉ T := not_mem_leaves_of_deg hT (by omega)
  refine ⟨fun x hx => md.leaf_mem hT hx, ?_⟩
  · intro v hv
    by_cases hvs : v = self
    · subst hvs
      exact ⟨fun hh => by omega, fun hh => absurd hh hselfT⟩
    · by_cases hvc : v = cnId
      · subst hvc
        have := md.degTg
        exact ⟨fun hh => by omega, fun hh => absurd hh hcnT⟩
      · rw [md.degOther v hv hvs hvc]
        exact hT.2 v (md.subV v hv)

theorem leaves_after_merge_leaf {self cnId : Nat} {A : List Nat} {t t1 t2 tf : HTree} {T : List Nat}
    (hT : LeavesAre t.graphV t.graphE T) (md : MergeDeg self cnId A t t1)
    (hcn2 : 2 ≤ deg t.graphE cnId) (hA : 1 ≤ A.length) (hs1 : deg t1.graphE self = 1)
    (hV2 : t2.graphV = t1.graphV) (hE2 : t2.graphE = t1.graphE) {e0' : HEdge}
    (hsp : IdentifySpec t2 e0' cnId cnId self tf) (hne : cnId ≠ self) :
    LeavesAre tf.graphV tf.graphE T := by
  have hselfT : self ∉ T := not_mem_leaves_of_deg hT (by have := md.degSelf; omega)
  have hcnT : cnId ∉ T := not_mem_leaves_of_deg hT (by omega)
  have hdeg := identify_deg hsp hne hne
  refine ⟨?_, ?_⟩
  · intro x hx
    rw [hsp.graphV, mem_filter_ne, hV2]
    exact ⟨md.leaf_mem hT hx, fun hh => hselfT (hh ▸ hx)⟩
  · intro v hv
    rw [hsp.graphV, mem_filter_ne, hV2] at hv
    rw [hdeg v, hE2]
    simp only [hv.2, if_false]
    by_cases hvc : v = cnId
    · subst hvc
      simp only [if_true]
      have := md.degTg
      exact ⟨fun hh => by omega, fun hh => absurd hh hcnT⟩
    · have : ¬ cnId = v := fun hh => hvc hh.symm
      simp only [hvc, this, if_false, Nat.sub_zero]
      rw [md.degOther v hv.1 hv.2 hvc]
      exact hT.2 v (md.subV v hv.1)

theorem moveLoop_terminals (self sj : Nat) (T : List Nat) :
    ∀ (l : List Nat) (s : Imp) (r : MoveResult), Tree s.t → MoveSafe s.t self →
      LeavesAre s.t.graphV s.t.graphE T → moveLoop s self sj l = some r →
      LeavesAre r.s.t.graphV r.s.t.graphE T := by
  intro l
  induction l with
  | nil =>
    intro s r _ _ hT h
    simp only [moveLoop, Option.some.injEq] at h
    subst h
    exact hT
  | cons curr rest ih =>
    intro s r ht hsafe hT h
    rcases moveLoop_cons h with h | ⟨sn, ce, cn, sc, it, out⟩
    · exact ih s r ht hsafe hT h
    · have hjc := it.joins ht
      have hne : self ≠ cn.id := ht.ne_of_joins it.ce_mem hjc
      have hspec := it.scanSpec ht
      have hnd := ht.1.nodupL sn it.sn_mem
      have hscanT := scanOthers_T sn.edges _ sc hnd
        ⟨ht, hsafe, it.sn_mem, it.sn_id, it.ce_mem, it.ce_id, it.ce_in, it.ce_free, hjc, cn, it.cn_mem,
          rfl, rfl, it.cn_free⟩ hT it.scan
      have pt := it.parts ht
      have hdself : deg sc.t.graphE self = 1 + (sc.common.drop 1).length + sc.other.length := by
        rw [← pt.length, ← it.sn_id]
        exact (hspec.tree.length_edges_eq_deg hspec.self_mem).symm
      have hfar := hscanT.far _ pt.common
      have merged : ∀ {t1}, mergeCommon self cn.id (sc.common.drop 1) sc.t = some t1 → 1 < sc.common.length →
          MergeDeg self cn.id (sc.common.drop 1) sc.t t1 ∧ deg t1.graphE self = 1 + sc.other.length ∧
            2 ≤ deg sc.t.graphE cn.id ∧ 1 ≤ (sc.common.drop 1).length := by
        intro t1 hm hc1
        have hA1 : 1 ≤ (sc.common.drop 1).length := by rw [List.length_drop]; omega
        have md := mergeCommon_deg _ sc.t sn ce t1 hspec.tree hspec.self_mem it.sn_id
          (hspec.le.keepE ce it.ce_mem (Or.inl it.ce_id)) hjc (fun i hi => pt.sub.subset hi) (hnd.sublist pt.sub)
          (it.ce_id ▸ pt.curr_not) hfar.1 hm
        refine ⟨md, ?_, hfar.2 (fun hh => by rw [hh] at hA1; simp at hA1), hA1⟩
        have := md.degSelf
        omega
      rcases out with ⟨t1, t3, hc1, hm, hoth, hdis, rfl⟩ | ⟨t1, c, hc1, hm, hoth, rfl⟩ |
        ⟨t1, hc1, ho1, hm, rfl⟩ | h
      · obtain ⟨md, hd1, hcn2, hA1⟩ := merged hm hc1
        obtain ⟨-, e0', hsp⟩ := it.freed ht hm hoth hdis
        exact leaves_after_merge_leaf hscanT.leaves md hcn2 hA1 (by rw [hd1, hoth]; rfl)
          (movedTo_graphV _ _ _ _) rfl hsp (Ne.symm hne)
      · obtain ⟨md, hd1, hcn2, -⟩ := merged hm hc1
        have : 1 ≤ sc.other.length := List.length_pos_iff.mpr hoth
        exact leaves_congr (movedTo_graphV _ _ _ _) (setConn_relabel _ _ _).graphE
          (leaves_after_merge hscanT.leaves md hcn2 (by rw [hd1]; omega))
      · obtain ⟨md, hd1, hcn2, -⟩ := merged hm hc1
        exact leaves_congr (setJunction_relabel _ _ _).graphV (setConn_relabel _ _ _).graphE
          (leaves_after_merge hscanT.leaves md hcn2 (by rw [hd1]; omega))
      · exact ih { s with t := sc.t } r hspec.tree hscanT.ctx.safe hscanT.leaves h

theorem moveJunctionStep_terminals {s : Imp} {j : Nat} {r : MoveResult} {T : List Nat} (ht : Tree s.t)
    (hsafe : ∀ self, s.junctions.find? (fun p => p.1 == j) = some (j, self) → MoveSafe s.t self)
    (hT : LeavesAre s.t.graphV s.t.graphE T) (h : moveJunctionStep s j = some r) :
    LeavesAre r.s.t.graphV r.s.t.graphE T := by
  obtain ⟨n, sn, sj, r0, hfind, -, -, -, hl, hr⟩ := moveJunctionStep_eq h
  have := moveLoop_terminals n sj T _ s r0 ht (hsafe n hfind) hT hl
  rcases hr with ⟨-, rfl⟩ | ⟨n', -, rfl⟩ <;> exact this

end AdaptaVerif.Lemmas.HyperTreeMoveTerminals
