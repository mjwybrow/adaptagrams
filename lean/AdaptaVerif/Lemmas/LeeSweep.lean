/-
Helper lemmas for Props/C03Lee.lean (decision rule of Lee's sweep, Model/LeeSweep.lean).
-/
import AdaptaVerif.Lemmas.RouteGeom
import AdaptaVerif.Lemmas.GeometrySpec
import AdaptaVerif.Model.LeeSweep
import AdaptaVerif.Lemmas.Util.InsertionSort
namespace AdaptaVerif.Lemmas.LeeSweep
open AdaptaVerif.Model.Geometry (Pt area2)
open AdaptaVerif.Lemmas.Route (rectPoly)
open AdaptaVerif.Lemmas.GeometrySpec (vecDir_pos)
open AdaptaVerif.Model.LeeSweep

/-- the edge does not end at the point (it is not skipped by the rule) -/
def NonEnd (p : Pt) (e : EP) : Prop := ¬ (p = e.p1 ∨ p = e.p2)

/-- the status list is sorted by the distance at which the current ray meets the edges
    (`e.sort()` before every `sweepVisible` call) -/
def SortedStatus (T : List EP) : Prop := T.Pairwise (fun a b => a.adist ≤ b.adist)

theorem skipEnds_of_mem (p : Pt) : ∀ (T : List EP) (e : EP), e ∈ T → NonEnd p e → SortedStatus T →
    ∃ f rest, skipEnds p T = f :: rest ∧ NonEnd p f ∧ f ∈ T ∧ f.adist ≤ e.adist
  | [], e, h, _, _ => by cases h
  | g :: gs, e, h, hne, hs => by
    unfold skipEnds
    have hs' := List.pairwise_cons.mp hs
    by_cases hg : p = g.p1 ∨ p = g.p2
    · -- `g` ends at the point and is skipped: `e` is further down the list
      rw [if_pos (by simpa using hg)]
      have he : e ∈ gs := (List.mem_cons.mp h).resolve_left fun h1 => hne (h1 ▸ hg)
      obtain ⟨f, rest, h1, h2, h3, h4⟩ := skipEnds_of_mem p gs e he hne hs'.2
      exact ⟨f, rest, h1, h2, List.mem_cons_of_mem _ h3, h4⟩
    · -- `g` is the edge the rule looks at; it comes before `e` in the sorted list
      rw [if_neg (by simpa using hg)]
      refine ⟨g, gs, rfl, hg, List.mem_cons_self, ?_⟩
      rcases List.mem_cons.mp h with rfl | h1
      · exact le_refl _
      · exact hs'.1 e h1

theorem skipEnds_head (p : Pt) (f : EP) (rest : List EP) : ∀ (T : List EP), skipEnds p T = f :: rest →
    f ∈ T ∧ NonEnd p f
  | [], h => by cases h
  | g :: gs, h => by
    unfold skipEnds at h
    by_cases hg : p = g.p1 ∨ p = g.p2
    · rw [if_pos (by simpa using hg)] at h
      exact (skipEnds_head p f rest gs h).imp_left (List.mem_cons_of_mem _)
    · rw [if_neg (by simpa using hg)] at h
      obtain ⟨rfl, _⟩ := List.cons.inj h
      exact ⟨List.mem_cons_self, hg⟩

theorem ahead_iff (c q : Pt) (hfin : c.x < dblMax) : ahead c q = true ↔ c.y < q.y := by
  have e : area2 c ⟨dblMax, c.y⟩ q = (dblMax - c.x) * (q.y - c.y) := by simp only [area2]; ring
  rw [ahead, beq_iff_eq, vecDir_pos, e, mul_pos_iff_of_pos_left (sub_pos.2 hfin), sub_pos]

theorem not_ahead_iff (c q : Pt) (hfin : c.x < dblMax) : ahead c q = false ↔ q.y ≤ c.y := by
  rw [← Bool.not_eq_true, ahead_iff c q hfin, not_lt]

theorem shapeVerts_rect (base obj : Nat) (x0 y0 x1 y1 : Rat) :
    shapeVerts base obj (rectPoly x0 y0 x1 y1) =
      [ { idx := base + 0, obj := obj, vn := 0, conn := false, pt := ⟨x1, y0⟩, prev := some (base + 3, ⟨x0, y0⟩), next := some (base + 1, ⟨x1, y1⟩) },
        { idx := base + 1, obj := obj, vn := 1, conn := false, pt := ⟨x1, y1⟩, prev := some (base + 0, ⟨x1, y0⟩), next := some (base + 2, ⟨x0, y1⟩) },
        { idx := base + 2, obj := obj, vn := 2, conn := false, pt := ⟨x0, y1⟩, prev := some (base + 1, ⟨x1, y1⟩), next := some (base + 3, ⟨x0, y0⟩) },
        { idx := base + 3, obj := obj, vn := 3, conn := false, pt := ⟨x0, y0⟩, prev := some (base + 2, ⟨x0, y1⟩), next := some (base + 0, ⟨x1, y0⟩) } ] := by
  simp [shapeVerts, rectPoly, List.range, List.range.loop]

/-! ### the model's status list is sorted when the rule is applied -/

theorem adist_le_of_not_epLt (x y : EP) (h : ¬ epLt y x = true) : x.adist ≤ y.adist := by
  unfold epLt at h
  by_cases he : y.adist = x.adist
  · exact le_of_eq he.symm
  · rw [if_neg he] at h
    have : ¬ y.adist < x.adist := by simpa using h
    exact not_lt.mp this

theorem adist_le_of_epLt (x y : EP) (h : epLt y x = true) : y.adist ≤ x.adist := by
  unfold epLt at h
  by_cases he : y.adist = x.adist
  · exact le_of_eq he
  · rw [if_neg he] at h
    exact le_of_lt (by simpa using h)

theorem insertBy_isInsert {α : Type} (lt : α → α → Bool) : Util.IsInsert (fun x y => ¬ lt y x = true) (insertBy lt) :=
  .of_continue (q := fun y x => lt y x = true) (fun _ => rfl) (fun _ _ _ => rfl)

theorem sortBy_epLt_sorted (l : List EP) : SortedStatus (sortBy epLt l) :=
  (insertBy_isInsert epLt).foldr_sorted (D := fun _ => True)
    ⟨fun x y _ _ => adist_le_of_not_epLt x y, fun x y _ _ h => adist_le_of_epLt x y (Classical.not_not.1 h),
      fun _ _ _ _ _ _ => le_trans⟩ (fun _ _ => trivial)

/-- the decision of `sweepStep` when the rule says "not visible": `addBlocker` or nothing, whatever the cones say -/
theorem dec_ne_visible (cones invisG : Bool) :
    (if !cones then (if invisG then some false else none)
      else if false then some true else if invisG then some false else none : Dec) ≠ some true := by
  cases cones <;> cases invisG <;> decide

/-! ### the demo scene of Props/C03Lee, evaluated

Three touching rectangles B = [100,200]×[0,100] (id 1), A = [40,100]×[50,110], D = [200,260]×[−10,50]: what the
visible polyline edges after one transaction say about the edge C–P (A's corner (100,50), D's corner (200,50)) and,
for comparison, about the edge from B's corner (200,0) to P, for the two creation orders B, A, D and B, D, A — the whole
executable model (`transactionEdges`: sweeps, status list, `onBorderIDs`, `newBlockingShape`) run once per order by
the kernel. -/

theorem demoEdges_BAD :
    let T := transactionEdges true true
      [(1, rectPoly 100 0 200 100), (2, rectPoly 40 50 100 110), (3, rectPoly 200 (-10) 260 50)] []
    ((2, 0), (3, 2)) ∉ T ∧ ((3, 2), (2, 0)) ∉ T ∧ ((1, 0), (3, 2)) ∈ T := by
  decide +kernel

theorem demoEdges_BDA :
    let T := transactionEdges true true
      [(1, rectPoly 100 0 200 100), (2, rectPoly 200 (-10) 260 50), (3, rectPoly 40 50 100 110)] []
    ((2, 2), (3, 0)) ∉ T ∧ ((3, 0), (2, 2)) ∉ T ∧ ((1, 0), (2, 2)) ∈ T := by
  decide +kernel

end AdaptaVerif.Lemmas.LeeSweep
