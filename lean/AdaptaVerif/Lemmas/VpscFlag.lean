/-
Soundness of the "directed active path" flagging step of `IncSolver::satisfy`
(`if(lb->isActiveDirectedPathBetween(v->right,v->left)) v->unsatisfiable=true`), for the model,
assuming the block invariant holds in the state where the step is taken (`flag_path_sound`).  Its
second half, `flag_walk_sound` (a directed walk of tight constraints back from `v.right` to `v.left`
and a violated `v` make a positive cycle), also justifies the flag that `splitBetween` sets when it
finds no constraint to split on (`splitBetweenWith_J` in VpscLoop.lean).
-/
import AdaptaVerif.Lemmas.VpscModel
import AdaptaVerif.Lemmas.Util.Array
namespace AdaptaVerif.Lemmas.VpscFlag
open AdaptaVerif.Model.Vpsc
open AdaptaVerif.Check.Vpsc (C Edge walkEnd sumW edgesOf)
open AdaptaVerif.Spec.Vpsc
open AdaptaVerif.Lemmas.VpscModel (conEdge)

def toC (c : Con) : C := ⟨c.l, c.r, c.gap, c.eq⟩

/-- part of the block invariant: active constraints are tight in scaled coordinates -/
def TightActive (st : St) : Prop :=
  ∀ c ∈ st.cons, c.active = true → st.uval c.l + c.gap = st.uval c.r

/-- structural invariant of `Variable::out`: constraint `ci` is in `out` of its left variable only -/
def OutsLinked (st : St) : Prop :=
  ∀ (u ci : Nat), ci ∈ (st.vars[u]!).outs → (st.cons[ci]!).l = u

abbrev DirPath (cons : Array Con) (u v : Nat) : Prop :=
  ∃ p : List Con, (∀ c ∈ p, c ∈ cons ∧ c.active = true) ∧ walkEnd u (p.map conEdge) = some v

theorem walk_sum_ge (u : Nat → Rat) :
    ∀ (es : List Edge) (a b : Nat), walkEnd a es = some b →
      (∀ e ∈ es, u e.b ≤ u e.a + e.w) → u b ≤ u a + sumW es := by
  intro es
  induction es with
  | nil =>
    intro a b h _
    simp only [walkEnd, Option.some.injEq] at h
    subst h
    simp [sumW]
  | cons e es ih =>
    intro a b h hall
    simp only [walkEnd] at h
    split at h
    · rename_i hea
      have h1 := ih e.b b h (fun x hx => hall x (List.mem_cons_of_mem _ hx))
      have h2 := hall e (List.mem_cons_self)
      simp only [sumW]
      rw [hea] at h2
      linarith
    · exact absurd h (by simp)

theorem active_mem (cons : Array Con) (ci : Nat) (h : (cons[ci]!).active = true) : cons[ci]! ∈ cons :=
  Util.getElem!_mem (Decidable.by_contra fun hlt => by rw [getElem!_neg cons ci hlt] at h; exact absurd h (by decide))

theorem path_fold (st : St) (bid fuel v u : Nat)
    (ih : ∀ u' : Nat, (isActiveDirectedPathBetween st bid fuel u' v).1 = true →
        DirPath st.cons u' v) :
    ∀ (outs : List Nat) (acc : Bool × Bool), (∀ ci ∈ outs, (st.cons[ci]!).l = u) →
      (acc.1 = true → DirPath st.cons u v) →
      ((outs.foldl (fun (acc : Bool × Bool) ci =>
          if acc.1 then (acc.1, acc.2) else
          let c := st.cons[ci]!
          if canFollowRight st bid c none then
            ((isActiveDirectedPathBetween st bid fuel c.r v).1,
              acc.2 && (isActiveDirectedPathBetween st bid fuel c.r v).2)
          else (acc.1, acc.2)) acc).1 = true → DirPath st.cons u v) := by
  intro outs
  induction outs with
  | nil => intro acc _ hacc h; exact hacc h
  | cons ci outs ihl =>
    intro acc hl hacc h
    simp only [List.foldl_cons] at h
    refine ihl _ (fun x hx => hl x (List.mem_cons_of_mem _ hx)) ?_ h
    intro hnew
    by_cases hf : acc.1 = true
    · simp only [hf, if_true] at hnew
      exact hacc hf
    · simp only [hf] at hnew
      by_cases hcf : canFollowRight st bid (st.cons[ci]!) none = true
      · simp only [hcf, if_true, Bool.false_eq_true, if_false] at hnew
        obtain ⟨p, hp, hw⟩ := ih _ hnew
        have hact : (st.cons[ci]!).active = true := by
          simp only [canFollowRight, Bool.and_eq_true] at hcf
          exact hcf.1.2
        refine ⟨st.cons[ci]! :: p, ?_, ?_⟩
        · intro c hc
          rcases List.mem_cons.1 hc with rfl | hc
          · exact ⟨active_mem _ _ hact, hact⟩
          · exact hp c hc
        · simp only [List.map_cons, walkEnd, conEdge, hl ci List.mem_cons_self, if_true]
          exact hw
      · simp only [hcf, Bool.false_eq_true, if_false] at hnew

theorem path_exists (st : St) (bid : Nat) (hlink : OutsLinked st) :
    ∀ (fuel u v : Nat), (isActiveDirectedPathBetween st bid fuel u v).1 = true →
      DirPath st.cons u v := by
  intro fuel
  induction fuel with
  | zero => intro u v h; simp [isActiveDirectedPathBetween] at h
  | succ fuel ih =>
    intro u v h
    unfold isActiveDirectedPathBetween at h
    by_cases huv : (u == v) = true
    · have : u = v := by simpa using huv
      subst this
      exact ⟨[], by simp, by simp [walkEnd]⟩
    · simp only [huv, Bool.false_eq_true, if_false] at h
      rw [← Array.foldl_toList] at h
      refine path_fold st bid fuel v u (fun u' => ih u' v) (st.vars[u]!).outs.toList (false, true)
        ?_ (by simp) h
      intro ci hci
      exact hlink u ci (by simpa using hci)

theorem flag_walk_sound (st : St) (vi : Nat) (p : List Con)
    (hp : ∀ c ∈ p, c ∈ st.cons ∧ c.active = true)
    (hw : walkEnd (st.cons[vi]!).r (p.map conEdge) = some (st.cons[vi]!).l)
    (htight : TightActive st) (hmem : st.cons[vi]! ∈ st.cons)
    (hviol : st.uval (st.cons[vi]!).r - (st.cons[vi]!).gap - st.uval (st.cons[vi]!).l < 0) :
    PosCycle (st.cons.toList.map toC) := by
  have hedge : ∀ c ∈ st.cons, conEdge c ∈ edgesOf (st.cons.toList.map toC) := by
    intro c hc
    simp only [edgesOf, List.mem_flatMap, List.mem_map]
    refine ⟨toC c, ⟨c, by simpa using hc, rfl⟩, ?_⟩
    by_cases he : c.eq = true <;> simp [toC, conEdge, he]
  refine ⟨conEdge (st.cons[vi]!) :: p.map conEdge, ?_, ⟨_, _, rfl, ?_⟩, ?_⟩
  · intro e he
    rcases List.mem_cons.1 he with rfl | he
    · exact hedge _ hmem
    · obtain ⟨c, hc, rfl⟩ := List.mem_map.1 he
      exact hedge c (hp c hc).1
  · simp only [walkEnd, conEdge, if_true]
    exact hw
  · have hge := walk_sum_ge st.uval (p.map conEdge) _ _ hw (by
      intro e he
      obtain ⟨c, hc, rfl⟩ := List.mem_map.1 he
      have := htight c (hp c hc).1 (hp c hc).2
      simp only [conEdge]
      linarith)
    simp only [sumW, conEdge] at hge ⊢
    linarith

theorem flag_path_sound (st : St) (bid fuel vi : Nat)
    (hlink : OutsLinked st) (htight : TightActive st) (hmem : st.cons[vi]! ∈ st.cons)
    (hpath : (isActiveDirectedPathBetween st bid fuel (st.cons[vi]!).r (st.cons[vi]!).l).1 = true)
    (hviol : st.uval (st.cons[vi]!).r - (st.cons[vi]!).gap - st.uval (st.cons[vi]!).l < 0) :
    PosCycle (st.cons.toList.map toC) := by
  obtain ⟨p, hp, hw⟩ := path_exists st bid hlink fuel _ _ hpath
  exact flag_walk_sound st vi p hp hw htight hmem hviol

end AdaptaVerif.Lemmas.VpscFlag
