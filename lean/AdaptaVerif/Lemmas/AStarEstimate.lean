/-
Consistency of libavoid's estimator `estimatedCostSpecific` with the orthogonal `cost()` on every hop
that (a) does not double back and (b) does not end at the cost target: the value at the hop's start is at
most hop length + bend penalty of the hop + the value at its end.  (On hops that do either it is false:
Props/C05AStar `estimator_inconsistent_*`.)  Proof: `bends` is the least number of bends of an approach path
(Lemmas/Bends `admissible_exists`, `BendsTight.tight`), and such a hop put in front of an approach path
from its end is an approach path from its start (`approach_hop`).  A hop that doubles back is no step of an
approach path, and at the cost target `bendCount` does not ask `bends`.
The search's heuristic `estimatedCost`, the minimum over the cost targets, inherits what holds per cost target
(`estimatedCost_le`).

What `cost()` charges for a bend: its classification (`bendClass`: the model of
`rad = M_PI - angleBetween(p1, p2, p3)` being 0, M_PI or in between) on axis-parallel hops is the relation of the two
headings: straight 0, quarter turn 1, doubling back 2 (`bendClass_headings`).  So the model's `cost` is hop length +
segmentPenalty × (0 | 1 | 2) — the measure the property speaks of and the certificates of C05 use (Props/C05AStar
`cost_is_length_plus_bends`).
-/
import AdaptaVerif.Lemmas.Bends
import AdaptaVerif.Model.AStar
import Mathlib.Tactic.Ring
namespace AdaptaVerif.Lemmas.AStarEstimate
open AdaptaVerif.Model.Bends AdaptaVerif.Spec.OrthPath AdaptaVerif.Lemmas.Bends
open AdaptaVerif.Model.Geometry (Pt)
open AdaptaVerif.Model.AStar (Graph costTargets estimatedCost minOpt)

/-- bends charged by `cost()` for leaving a vertex entered with heading `cd` in direction `nd` -/
def turn (cd nd : Dir) : Nat := if nd = cd then 0 else 1

theorem odOfSigns_single : ∀ sx ∈ signs, ∀ sy ∈ signs, ∀ d ∈ Dir.all, odOfSigns sx sy = d.mask →
    fwdS d sx sy = 1 ∧ fwdS d.right sx sy = 0 := by decide

theorem heading_frame {a b : Pt} {d : Dir} (h : orthogonalDirection a b = d.mask) :
    0 < fwd d (b.x - a.x) (b.y - a.y) ∧ lat d (b.x - a.x) (b.y - a.y) = 0 := by
  rw [od_signs] at h
  obtain ⟨hf, hs⟩ := odOfSigns_single _ (dimDirection_mem _) _ (dimDirection_mem _) d (Dir.mem_all d) h
  rw [← dimDirection_fwd] at hf hs
  exact ⟨dimDirection_pos.1 (by rw [hf]; decide), dimDirection_eq_zero.1 hs⟩

theorem heading_disp {a b : Pt} {d : Dir} (h : orthogonalDirection a b = d.mask) :
    ∃ l, 0 < l ∧ b.x - a.x = l * d.ux ∧ b.y - a.y = l * d.uy := by
  obtain ⟨hf, hs⟩ := heading_frame h
  exact ⟨_, hf, by linear_combination (-1 : ℚ) * frame_x d (b.x - a.x) (b.y - a.y) - d.uy * hs,
    by linear_combination (-1 : ℚ) * frame_y d (b.x - a.x) (b.y - a.y) + d.ux * hs⟩

theorem heading_ne {a b : Pt} {d : Dir} (h : orthogonalDirection a b = d.mask) : ¬ (a.x = b.x ∧ a.y = b.y) := by
  rintro ⟨ex, ey⟩
  have := (heading_frame h).1
  rw [ex, ey, sub_self, sub_self, fwd_zero] at this
  exact lt_irrefl _ this

section
variable {curr next tar : Pt} {cd nd dd : Dir} {l0 l : Rat} {t : List Leg}

theorem approach_extend (h : IsApproach next nd tar dd (⟨nd, l0⟩ :: t)) (hl : 0 ≤ l)
    (hx : next.x - curr.x = l * nd.ux) (hy : next.y - curr.y = l * nd.uy) :
    IsApproach curr nd tar dd (⟨nd, l0 + l⟩ :: t) := by
  obtain ⟨-, h2, h3, h4, h5, h6, h7⟩ := h
  obtain ⟨h40, h4⟩ := List.forall_mem_cons.1 h4
  refine ⟨rfl, ?_, ?_, List.forall_mem_cons.2 ⟨Rat.add_nonneg h40 hl, h4⟩, h5, ?_, ?_⟩
  · cases t <;> exact h2
  · cases t <;> exact h3
  · simp only [dispX] at h6 ⊢; linear_combination h6 - hx
  · simp only [dispY] at h7 ⊢; linear_combination h7 - hy

theorem approach_turn (h : IsApproach curr nd tar dd (⟨nd, l0⟩ :: t)) (hp : Perp cd nd) (hl : 0 < l0) :
    IsApproach curr cd tar dd (⟨cd, 0⟩ :: ⟨nd, l0⟩ :: t) := by
  obtain ⟨-, h2, h3, h4, h5, h6, h7⟩ := h
  refine ⟨rfl, ?_, ⟨hp, h3⟩, List.forall_mem_cons.2 ⟨le_rfl, h4⟩, ?_, ?_, ?_⟩
  · rw [List.getLast?_cons_cons]; exact h2
  · cases t with
    | nil => exact fun _ ha => nomatch ha
    | cons b t => exact List.forall_mem_cons.2 ⟨hl, h5⟩
  · simp only [dispX] at h6 ⊢; linear_combination h6
  · simp only [dispY] at h7 ⊢; linear_combination h7

theorem approach_cons {ls : List Leg} (h : IsApproach curr cd tar dd ls) : ∃ l0 t, ls = ⟨cd, l0⟩ :: t := by
  cases ls with
  | nil => cases h.first
  | cons a t => exact ⟨a.len, t, by rw [← Option.some.inj h.first]⟩

/-- The first leg grows by `l`, and after a quarter turn a leg of length 0 with the old heading comes before it. -/
theorem approach_hop {ls : List Leg} (h : IsApproach next nd tar dd ls) (hnr : nd ≠ cd.rev) (hl : 0 < l)
    (hx : next.x - curr.x = l * nd.ux) (hy : next.y - curr.y = l * nd.uy) :
    ∃ ls', IsApproach curr cd tar dd ls' ∧ bendsOf ls' = turn cd nd + bendsOf ls := by
  obtain ⟨l0, t, rfl⟩ := approach_cons h
  have he := approach_extend h hl.le hx hy
  unfold turn
  by_cases e : nd = cd
  · rw [if_pos e, Nat.zero_add]
    exact ⟨⟨cd, l0 + l⟩ :: t, e ▸ he, rfl⟩
  · have hp : Perp cd nd := by
      rcases Dir.rel cd nd with e' | e' | e' | e'
      exacts [absurd e' e, absurd e' hnr, Or.inr e', Or.inl e']
    have h0 : 0 ≤ l0 := h.nonneg ⟨nd, l0⟩ List.mem_cons_self
    rw [if_neg e, Nat.add_comm]
    exact ⟨⟨cd, 0⟩ :: ⟨nd, l0 + l⟩ :: t, approach_turn he hp (add_pos_of_nonneg_of_pos h0 hl), rfl⟩

end

theorem bends_hop (curr next tar : Pt) (cd nd dd : Dir) (hnd : orthogonalDirection curr next = nd.mask)
    (hnr : nd ≠ cd.rev) (hct : curr ≠ tar) (hnt : next ≠ tar) :
    ∃ x y, bends curr cd.mask tar dd.mask = some x ∧ bends next nd.mask tar dd.mask = some y ∧
      x ≤ turn cd nd + y := by
  obtain ⟨ls, hls, hy⟩ := BendsTight.tight next tar hnt nd dd
  obtain ⟨l, hl, ex, ey⟩ := heading_disp hnd
  obtain ⟨ls', hls', hb⟩ := approach_hop (cd := cd) hls hnr hl ex ey
  obtain ⟨x, hx, hle⟩ := admissible_exists curr tar hct cd dd ls' hls'
  exact ⟨x, _, hx, hy, hb ▸ hle⟩

theorem manhattan_triangle (a b c : Pt) : manhattanDist a c ≤ manhattanDist a b + manhattanDist b c := by
  unfold manhattanDist
  have hx := absR_add_le (a.x - b.x) (b.x - c.x)
  have hy := absR_add_le (a.y - b.y) (b.y - c.y)
  have ex : a.x - b.x + (b.x - c.x) = a.x - c.x := by linarith
  have ey : a.y - b.y + (b.y - c.y) = a.y - c.y := by linarith
  rw [ex] at hx; rw [ey] at hy
  linarith

theorem estimate_consistent (last curr next tar : Pt) (cd nd : Dir) (dirs : Nat) (pen : Rat) (hpen : 0 < pen)
    (hcd : orthogonalDirection last curr = cd.mask) (hnd : orthogonalDirection curr next = nd.mask)
    (hnr : nd ≠ cd.rev) (hnt : next ≠ tar) :
    ∃ e1 e2, estimatedCostSpecific (some last) curr tar dirs pen = some e1 ∧
      estimatedCostSpecific (some curr) next tar dirs pen = some e2 ∧
      e1 ≤ manhattanDist curr next + (if nd = cd then 0 else pen) + e2 := by
  obtain ⟨r2, hb2, -, -, hatt⟩ := bendCount_char curr next tar nd hnd dirs hnt
  have hr : ∃ r1, bendCount (some last) curr tar dirs = some r1 ∧ r1 ≤ turn cd nd + r2 := by
    by_cases hct : curr = tar
    · subst hct
      exact ⟨0, bendCount_self last curr dirs, Nat.zero_le _⟩
    · obtain ⟨r1, hb1, h10, hle1, -⟩ := bendCount_char last curr tar cd hcd dirs hct
      refine ⟨r1, hb1, ?_⟩
      rcases hatt with rfl | ⟨dd, hdd, hbd⟩
      · omega
      · obtain ⟨b1, hb1', hle⟩ := hle1 dd hdd
        obtain ⟨x, y, hx, hy, hxy⟩ := bends_hop curr next tar cd nd dd hnd hnr hct hnt
        rw [hb1'] at hx; cases hx
        rw [hbd] at hy; cases hy
        omega
  obtain ⟨r1, hb1, hr⟩ := hr
  refine ⟨_, _, estimate_of_bendCount hpen hb1, estimate_of_bendCount hpen hb2, ?_⟩
  have htri := manhattan_triangle curr next tar
  have hrR : (r1 : Rat) ≤ (turn cd nd : Rat) + (r2 : Rat) := by exact_mod_cast hr
  have hmul := mul_le_mul_of_nonneg_right hrR (le_of_lt hpen)
  have hturn : (turn cd nd : Rat) * pen = (if nd = cd then 0 else pen) := by
    unfold turn; split_ifs <;> simp
  rw [add_mul, hturn] at hmul
  linarith

theorem mapM_pair {α : Type} (F1 F2 : α → Option Rat) (K : Rat) (l : List α)
    (h : ∀ a ∈ l, ∃ x y, F1 a = some x ∧ F2 a = some y ∧ x ≤ K + y) :
    ∃ xs ys, l.mapM F1 = some xs ∧ l.mapM F2 = some ys ∧ List.Forall₂ (fun x y => x ≤ K + y) xs ys ∧
      xs.length = l.length := by
  induction l with
  | nil => exact ⟨[], [], by simp, by simp, List.Forall₂.nil, rfl⟩
  | cons a rest ih =>
    obtain ⟨x, y, h1, h2, hxy⟩ := h a (List.mem_cons_self ..)
    obtain ⟨xs, ys, e1, e2, hf, hlen⟩ := ih (fun b hb => h b (List.mem_cons_of_mem _ hb))
    refine ⟨x :: xs, y :: ys, ?_, ?_, List.Forall₂.cons hxy hf, by simp [hlen]⟩
    · simp [List.mapM_cons, h1, e1]
    · simp [List.mapM_cons, h2, e2]

theorem minOpt_pair (K : Rat) (xs ys : List Rat) (h : List.Forall₂ (fun x y => x ≤ K + y) xs ys)
    (hne : xs ≠ []) : ∃ m1 m2, minOpt xs = some m1 ∧ minOpt ys = some m2 ∧ m1 ≤ K + m2 := by
  induction h with
  | nil => exact absurd rfl hne
  | @cons x y xs' ys' hxy hrest ih =>
    cases hrest with
    | nil => exact ⟨x, y, by simp [minOpt], by simp [minOpt], hxy⟩
    | @cons x2 y2 xs2 ys2 h2 hr2 =>
      obtain ⟨m1, m2, e1, e2, hm⟩ := ih (by simp)
      refine ⟨if x < m1 then x else m1, if y < m2 then y else m2, ?_, ?_, ?_⟩
      · simp only [minOpt] at e1 ⊢; rw [e1]
      · simp only [minOpt] at e2 ⊢; rw [e2]
      · split_ifs <;> linarith

theorem costTargets_ne_nil (g : Graph) : costTargets g ≠ [] := by
  unfold costTargets
  simp only
  split
  · simp
  · rename_i h; intro h2; rw [h2] at h; simp at h

theorem estimatedCost_le (g : Graph) (K : Rat) (last1 last2 : Option Pt) (curr1 curr2 : Pt)
    (h : ∀ ct ∈ costTargets g, ∃ x y,
      (estimatedCostSpecific last1 curr1 (g.pt ct.1) ct.2.1 g.segPen).map (· + ct.2.2) = some x ∧
      (estimatedCostSpecific last2 curr2 (g.pt ct.1) ct.2.1 g.segPen).map (· + ct.2.2) = some y ∧ x ≤ K + y) :
    ∃ e1 e2, estimatedCost g last1 curr1 = some e1 ∧ estimatedCost g last2 curr2 = some e2 ∧ e1 ≤ K + e2 := by
  obtain ⟨xs, ys, m1, m2, hf, hlen⟩ := mapM_pair _ _ K (costTargets g) h
  have hne : xs ≠ [] := fun hx =>
    costTargets_ne_nil g (List.length_eq_zero_iff.1 (by rw [← hlen, hx, List.length_nil]))
  obtain ⟨a, b, ha, hb, hab⟩ := minOpt_pair K xs ys hf hne
  refine ⟨a, b, ?_, ?_, hab⟩
  · unfold estimatedCost; rw [m1]; exact ha
  · unfold estimatedCost; rw [m2]; exact hb

end AdaptaVerif.Lemmas.AStarEstimate

namespace AdaptaVerif.Lemmas.AStarCost
open AdaptaVerif.Model.AStar AdaptaVerif.Model.Bends AdaptaVerif.Spec.OrthPath AdaptaVerif.Lemmas.Bends
open AdaptaVerif.Lemmas.AStarEstimate
open AdaptaVerif.Model.Geometry (Pt)

/-- In the frame of the first heading the second hop lies ahead, behind or to a side; dot and cross product of
    the two hop vectors are its frame coordinates, up to the negative factor `-(l1 * l2)`. -/
theorem bendClass_headings (p1 p2 p3 : Pt) (d1 d2 : Dir)
    (h1 : orthogonalDirection p1 p2 = d1.mask) (h2 : orthogonalDirection p2 p3 = d2.mask) :
    bendClass p1 p2 p3 = (if d2 = d1 then 0 else if d2 = d1.rev then 2 else 1) := by
  obtain ⟨l1, hl1, x1, y1⟩ := heading_disp h1
  obtain ⟨l2, hl2, x2, y2⟩ := heading_disp h2
  have hm : -(l1 * l2) < 0 := neg_neg_of_pos (mul_pos hl1 hl2)
  have ex : p1.x - p2.x = -(l1 * d1.ux) := by rw [← x1]; ring
  have ey : p1.y - p2.y = -(l1 * d1.uy) := by rw [← y1]; ring
  have hc : crossLength ⟨p1.x - p2.x, p1.y - p2.y⟩ ⟨p3.x - p2.x, p3.y - p2.y⟩ =
      -(l1 * l2) * lat d1 d2.ux d2.uy := by
    unfold crossLength lat
    rw [x2, y2, ex, ey, Dir.right_ux, Dir.right_uy]
    ring
  have hd : dot ⟨p1.x - p2.x, p1.y - p2.y⟩ ⟨p3.x - p2.x, p3.y - p2.y⟩ =
      -(l1 * l2) * fwd d1 d2.ux d2.uy := by
    unfold dot fwd
    rw [x2, y2, ex, ey]
    ring
  unfold bendClass
  rw [if_neg (not_or.2 ⟨heading_ne h1, heading_ne h2⟩)]
  simp only [hc, hd, lat_eq_fwd]
  rcases d1.rel d2 with rfl | rfl | rfl | rfl
  · rw [fwd_right_self, fwd_self, mul_zero, mul_one, if_neg (fun h => absurd h.2 (not_lt.2 hm.le)), if_pos ⟨rfl, hm⟩,
      if_pos rfl]
  · rw [fwd_right_rev, fwd_rev, mul_zero, mul_neg_one, if_pos ⟨rfl, neg_pos.2 hm⟩, if_neg d1.rev_ne, if_pos rfl]
  · have : -(l1 * l2) * 1 ≠ 0 := by rw [mul_one]; exact hm.ne
    rw [fwd_self, if_neg (fun h => this h.1), if_neg (fun h => this h.1), if_neg d1.right_ne, if_neg d1.right_ne_rev]
  · have : -(l1 * l2) * -1 ≠ 0 := by rw [mul_neg_one]; exact (neg_pos.2 hm).ne'
    rw [fwd_right_left, if_neg (fun h => this h.1), if_neg (fun h => this h.1), if_neg d1.left_ne, if_neg d1.left_ne_rev]

end AdaptaVerif.Lemmas.AStarCost
