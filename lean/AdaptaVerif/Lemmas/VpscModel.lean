/-
First lemmas about the executable IncSolver model (`Model/Vpsc.lean`), none of which needs the block
invariant: `satisfy` and `solve` return normally only through the exit scan, so a closed walk of
large total gap has a flagged constraint; `merge` is a rigid shift of one block, which keeps active
constraints tight (`OffsetInv`).
-/
import AdaptaVerif.Model.Vpsc
import AdaptaVerif.Lemmas.Vpsc
namespace AdaptaVerif.Lemmas.VpscModel
open AdaptaVerif.Model.Vpsc
open AdaptaVerif.Check.Vpsc (Edge walkEnd sumW)
open AdaptaVerif.Spec.Vpsc (ClosedWalk)

theorem scanOk_iff (vars : Array Var) (cons : Array Con) (pos : Array Rat) :
    scanOk vars cons pos = true ↔
      ∀ c ∈ cons, c.unsat = false → ZERO_UPPERBOUND ≤ slackAt vars pos c := by
  simp only [scanOk, Array.all_eq_true_iff_forall_mem, Bool.or_eq_true, decide_eq_true_eq]
  exact forall₂_congr fun c _ => by cases c.unsat <;> simp

theorem satisfy_ok (st st' : St) (pos : Array Rat) (ret : Bool)
    (h : st.satisfy = (st', .ok pos ret)) :
    pos = st'.positions ∧ scanOk st'.vars st'.cons pos = true := by
  unfold St.satisfy at h
  simp only at h
  split at h
  · simp at h
  · split at h
    · rename_i hscan
      simp only [Prod.mk.injEq, Outcome.ok.injEq] at h
      obtain ⟨h1, h2, _⟩ := h
      subst h1
      subst h2
      exact ⟨rfl, hscan⟩
    · simp at h

theorem slack_congr {st st' : St} (hv : st'.vars = st.vars) (hc : st'.cons = st.cons)
    (hb : st'.blocks = st.blocks) (v : Nat) : st'.slack v = st.slack v := by
  unfold St.slack St.uval
  rw [hv, hc, hb]

-- `by rfl`, not `rfl`: a term-mode `rfl` makes Lean compare `st.note m` with `st` as structures,
-- which unfolds the order on `Rat` in the `margin` field
theorem positions_note (st : St) (m : Rat) : (st.note m).positions = st.positions := by rfl

theorem solveLoop_none_ind {P : St → Prop} (hnote : ∀ st m, P st → P (st.note m))
    (hsat : ∀ st st' p r, P st → st.satisfy = (st', .ok p r) → P st') :
    ∀ (fuel : Nat) (st : St) (lc c : Rat) (st2 : St), P st →
      St.solveLoop fuel st lc c = (st2, none) → P st2 := by
  intro fuel
  induction fuel with
  | zero => intro st lc c st2 _ h; simp [St.solveLoop] at h
  | succ fuel ih =>
    intro st lc c st2 hP h
    unfold St.solveLoop at h
    simp only at h
    split at h
    · split at h
      · rename_i st3 p r hs
        exact ih _ _ _ _ (hsat _ _ _ _ (hnote _ _ hP) hs) h
      · simp at h
    · simp only [Prod.mk.injEq, and_true] at h
      subst h
      exact hnote _ _ hP

theorem solveLoop_not_ok : ∀ (fuel : Nat) (st : St) (lc c : Rat) (st2 : St) (p : Array Rat) (r : Bool),
    St.solveLoop fuel st lc c = (st2, some (.ok p r)) → False := by
  intro fuel
  induction fuel with
  | zero => intro st lc c st2 p r h; simp [St.solveLoop] at h
  | succ fuel ih =>
    intro st lc c st2 p r h
    unfold St.solveLoop at h
    simp only at h
    split at h
    · split at h
      · exact ih _ _ _ _ _ _ h
      · rename_i st3 o hne hsat
        simp only [Prod.mk.injEq, Option.some.injEq] at h
        obtain ⟨_, e2⟩ := h
        subst e2
        exact hne _ _ rfl
    · simp at h

theorem solve_ok_path {st st' : St} {pos : Array Rat} {ret : Bool}
    (h : st.solve = (st', .ok pos ret)) :
    ∃ st1 p1 r1 st2 p2 r2, st.satisfy = (st1, .ok p1 r1) ∧ st1.satisfy = (st2, .ok p2 r2) ∧
      St.solveLoop 200 st2 st1.cost st2.cost = (st', none) ∧ pos = st'.positions := by
  unfold St.solve at h
  split at h
  · rename_i st1 p1 r1 h1
    split at h
    · rename_i st2 p2 r2 h2
      split at h
      · rename_i st3 h3
        simp only [Prod.mk.injEq, Outcome.ok.injEq] at h
        obtain ⟨rfl, rfl, _⟩ := h
        exact ⟨_, _, _, _, _, _, h1, h2, h3, rfl⟩
      · rename_i st3 o h3
        simp only [Prod.mk.injEq] at h
        obtain ⟨_, rfl⟩ := h
        exact (solveLoop_not_ok _ _ _ _ _ _ _ h3).elim
    · rename_i st2 o hne h2
      simp only [Prod.mk.injEq] at h
      obtain ⟨_, rfl⟩ := h
      exact (hne _ _ rfl).elim
  · rename_i st1 o hne h1
    simp only [Prod.mk.injEq] at h
    obtain ⟨_, rfl⟩ := h
    exact (hne _ _ rfl).elim

theorem solve_ok (st st' : St) (pos : Array Rat) (ret : Bool)
    (h : st.solve = (st', .ok pos ret)) :
    pos = st'.positions ∧ scanOk st'.vars st'.cons pos = true := by
  obtain ⟨st1, p1, r1, st2, p2, r2, _, h2, h3, rfl⟩ := solve_ok_path h
  have scan : ∀ {st st' : St} {p : Array Rat} {r : Bool}, st.satisfy = (st', .ok p r) →
      scanOk st'.vars st'.cons st'.positions = true := by
    intro st st' p r h
    obtain ⟨e, hs⟩ := satisfy_ok _ _ _ _ h
    exact e ▸ hs
  exact ⟨rfl, solveLoop_none_ind (P := fun st => scanOk st.vars st.cons st.positions = true)
    (fun _ _ h => h) (fun _ _ _ _ _ h => scan h) _ _ _ _ _ (scan h2) h3⟩

def conEdge (c : Con) : Edge := ⟨c.l, c.r, c.gap⟩

theorem scan_flags_cycle (vars : Array Var) (cons : Array Con) (pos : Array Rat)
    (hscan : scanOk vars cons pos = true)
    (cyc : List Con) (hmem : ∀ c ∈ cyc, c ∈ cons) (hc : ClosedWalk (cyc.map conEdge))
    (hgap : (cyc.length : Rat) * (-ZERO_UPPERBOUND) < sumW (cyc.map conEdge)) :
    ∃ c ∈ cyc, c.unsat = true := by
  by_contra hno
  have hno' : ∀ c ∈ cyc, c.unsat = false := by
    intro c hc'
    cases hu : c.unsat with
    | false => rfl
    | true => exact absurd ⟨c, hc', hu⟩ hno
  rw [scanOk_iff] at hscan
  have := Lemmas.Vpsc.closed_walk_sum (fun i => (vars[i]!).scale * pos[i]!) (-ZERO_UPPERBOUND)
    (cyc.map conEdge) hc (by
      intro e he
      simp only [List.mem_map] at he
      obtain ⟨c, hc', rfl⟩ := he
      have := hscan c (hmem c hc') (hno' c hc')
      simp only [slackAt] at this
      simp only [conEdge]
      linarith)
  simp only [List.length_map] at this
  linarith

/-! ### merge as a rigid shift of one block -/

theorem shiftVars_size (vars : Array Var) (s d : Nat) (x : Rat) :
    (shiftVars vars s d x).size = vars.size := by simp [shiftVars]

theorem shiftVars_get (vars : Array Var) (s d : Nat) (x : Rat) (i : Nat) (hi : i < vars.size) :
    (shiftVars vars s d x)[i]! =
      (if (vars[i]!).block == s then { vars[i]! with offset := (vars[i]!).offset + x, block := d } else vars[i]!) := by
  have h1 : i < (shiftVars vars s d x).size := by rw [shiftVars_size]; exact hi
  rw [getElem!_pos _ i h1, getElem!_pos vars i hi]
  simp [shiftVars]

theorem shiftVars_outs (vars : Array Var) (s d : Nat) (x : Rat) (u : Nat) :
    ((shiftVars vars s d x)[u]!).outs = (vars[u]!).outs := by
  by_cases hu : u < vars.size
  · rw [shiftVars_get _ _ _ _ _ hu]
    split <;> rfl
  · have h1 : ¬ u < (shiftVars vars s d x).size := by rw [shiftVars_size]; exact hu
    rw [getElem!_neg _ u h1, getElem!_neg vars u hu]

theorem shiftVars_ins (vars : Array Var) (s d : Nat) (x : Rat) (u : Nat) :
    ((shiftVars vars s d x)[u]!).ins = (vars[u]!).ins := by
  by_cases hu : u < vars.size
  · rw [shiftVars_get _ _ _ _ _ hu]
    split <;> rfl
  · have h1 : ¬ u < (shiftVars vars s d x).size := by rw [shiftVars_size]; exact hu
    rw [getElem!_neg _ u h1, getElem!_neg vars u hu]

theorem slack_same_block (st : St) (c : Con)
    (hb : (st.vars[c.l]!).block = (st.vars[c.r]!).block) :
    st.uval c.r - c.gap - st.uval c.l = (st.vars[c.r]!).offset - c.gap - (st.vars[c.l]!).offset := by
  simp only [St.uval, hb]
  ring

theorem scale_mul_pos (st : St) (i : Nat) (hs : (st.vars[i]!).scale ≠ 0) :
    (st.vars[i]!).scale * st.pos i = st.uval i := by
  simp only [St.pos, St.uval, posOf]
  field_simp

theorem mergeAcross_vars (st : St) (ci : Nat) :
    (st.mergeAcross ci).1.vars =
      (let c := st.cons[ci]!
       let vl := st.vars[c.l]!
       let vr := st.vars[c.r]!
       let dist := vr.offset - vl.offset - c.gap
       if (st.blocks[vl.block]!).vars.size < (st.blocks[vr.block]!).vars.size
       then shiftVars st.vars vl.block vr.block dist
       else shiftVars st.vars vr.block vl.block (-dist)) := by
  unfold St.mergeAcross
  simp only [St.refreshBlock]
  split <;> rfl

/-- direction of a merge: `Block::merge` shifts the smaller of the two blocks of `c` (`src`) by `d`
    into the other (`dst`); ties: right into left -/
def MergeDir (vars : Array Var) (c : Con) (src dst : Nat) (d : Rat) : Prop :=
  (src = (vars[c.l]!).block ∧ dst = (vars[c.r]!).block ∧
    d = (vars[c.r]!).offset - (vars[c.l]!).offset - c.gap) ∨
  (src = (vars[c.r]!).block ∧ dst = (vars[c.l]!).block ∧
    d = -((vars[c.r]!).offset - (vars[c.l]!).offset - c.gap))

theorem mergeAcross_shift (st : St) (ci : Nat) :
    ∃ src dst d, MergeDir st.vars (st.cons[ci]!) src dst d ∧
      (st.mergeAcross ci).1.vars = shiftVars st.vars src dst d := by
  rw [mergeAcross_vars]
  simp only
  split
  · exact ⟨_, _, _, Or.inl ⟨rfl, rfl, rfl⟩, rfl⟩
  · exact ⟨_, _, _, Or.inr ⟨rfl, rfl, rfl⟩, rfl⟩

theorem shiftVars_rigid (vars : Array Var) (s d : Nat) (x : Rat) {i j : Nat}
    (hi : i < vars.size) (hj : j < vars.size) (hsame : (vars[i]!).block = (vars[j]!).block) :
    ((shiftVars vars s d x)[j]!).offset - ((shiftVars vars s d x)[i]!).offset =
      (vars[j]!).offset - (vars[i]!).offset ∧
    ((shiftVars vars s d x)[i]!).block = ((shiftVars vars s d x)[j]!).block := by
  rw [shiftVars_get _ _ _ _ _ hi, shiftVars_get _ _ _ _ _ hj, hsame]
  split
  · exact ⟨by simp only []; ring, rfl⟩
  · exact ⟨rfl, hsame⟩

theorem shiftVars_tight {vars : Array Var} {c : Con} {src dst : Nat} {d : Rat}
    (hdir : MergeDir vars c src dst d) (hl : c.l < vars.size) (hr : c.r < vars.size)
    (hne : (vars[c.l]!).block ≠ (vars[c.r]!).block) :
    ((shiftVars vars src dst d)[c.r]!).offset - c.gap - ((shiftVars vars src dst d)[c.l]!).offset = 0 ∧
    ((shiftVars vars src dst d)[c.l]!).block = ((shiftVars vars src dst d)[c.r]!).block := by
  rw [shiftVars_get _ _ _ _ _ hl, shiftVars_get _ _ _ _ _ hr]
  rcases hdir with ⟨rfl, rfl, rfl⟩ | ⟨rfl, rfl, rfl⟩
  · simp only [beq_self_eq_true, if_true, beq_iff_eq, if_neg (Ne.symm hne)]
    exact ⟨by ring, trivial⟩
  · simp only [beq_self_eq_true, if_true, beq_iff_eq, if_neg hne]
    exact ⟨by ring, trivial⟩

theorem mergeAcross_cons (st : St) (ci : Nat) :
    (st.mergeAcross ci).1.cons = st.cons.set! ci { st.cons[ci]! with active := true } := by
  unfold St.mergeAcross
  simp only [St.refreshBlock]

/-- the offset part of the block invariant: every active constraint has in-range ends that share a
    block, and is tight in offsets -/
def OffsetInv (st : St) : Prop :=
  ∀ c ∈ st.cons, c.active = true →
    c.l < st.vars.size ∧ c.r < st.vars.size ∧
    (st.vars[c.l]!).block = (st.vars[c.r]!).block ∧
    (st.vars[c.r]!).offset - c.gap - (st.vars[c.l]!).offset = 0

theorem mergeAcross_offsetInv (st : St) (ci : Nat) (hinv : OffsetInv st)
    (hl : (st.cons[ci]!).l < st.vars.size) (hr : (st.cons[ci]!).r < st.vars.size)
    (hne : (st.vars[(st.cons[ci]!).l]!).block ≠ (st.vars[(st.cons[ci]!).r]!).block) :
    OffsetInv (st.mergeAcross ci).1 := by
  obtain ⟨src, dst, d, hdir, hv⟩ := mergeAcross_shift st ci
  intro c hc hact
  rw [hv, shiftVars_size]
  rw [mergeAcross_cons, Array.set!_eq_setIfInBounds] at hc
  rcases Array.mem_or_eq_of_mem_setIfInBounds hc with hc | rfl
  · -- an old constraint: it was active before, and the shift is rigid
    obtain ⟨h1, h2, h3, h4⟩ := hinv c hc hact
    obtain ⟨e, b⟩ := shiftVars_rigid st.vars src dst d h1 h2 h3
    exact ⟨h1, h2, b, by linarith only [e, h4]⟩
  · obtain ⟨t, b⟩ := shiftVars_tight hdir hl hr hne
    exact ⟨hl, hr, b, t⟩

end AdaptaVerif.Lemmas.VpscModel
