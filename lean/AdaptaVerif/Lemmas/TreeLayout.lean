/-
Lemmas about the model of `Tree::symmetricLayout` (Model/TreeLayout.lean):
coordinates relative to the growth direction, the algebra of `flip` / `translate`, the per-rank invariant
`LevelOK` and its preservation by `flip`, `translate` and `overlay`, the running max / min, and what the
choice of the root position means rank by rank.
-/
import AdaptaVerif.Model.TreeLayout
import Mathlib.Tactic.Linarith
import Mathlib.Tactic.Ring
import Mathlib.Algebra.Order.Field.Rat
namespace AdaptaVerif.Lemmas.TreeLayout
open AdaptaVerif.Model.TreeLayout

/-- transverse coordinate (x for NORTH/SOUTH growth, y for EAST/WEST) -/
def tr (d : Dir) (p : Pt) : Rat := if d.isVertical then p.x else p.y
/-- coordinate along the growth axis -/
def gr (d : Dir) (p : Pt) : Rat := if d.isVertical then p.y else p.x
/-- half extent transverse to the growth direction (the `half` of the C++) -/
def ht (d : Dir) (n : PNode) : Rat := if d.isVertical then n.w / 2 else n.h / 2
/-- half extent along the growth direction -/
def hg (d : Dir) (n : PNode) : Rat := if d.isVertical then n.h / 2 else n.w / 2
/-- lower / upper end of the node's box on the transverse axis -/
def lft (d : Dir) (n : PNode) : Rat := tr d n.c - ht d n
def rgt (d : Dir) (n : PNode) : Rat := tr d n.c + ht d n

/-- the transverse intervals of two nodes are at least `gap` apart -/
def sepT (d : Dir) (gap : Rat) (m n : PNode) : Prop :=
  rgt d m + gap ≤ lft d n ∨ rgt d n + gap ≤ lft d m

theorem sepT_symm {d gap m n} (h : sepT d gap m n) : sepT d gap n m := Or.symm h

theorem tr_flipPt (d : Dir) (p : Pt) : tr d (flipPt d p) = - tr d p := by
  unfold tr flipPt; cases d.isVertical <;> simp
theorem gr_flipPt (d : Dir) (p : Pt) : gr d (flipPt d p) = gr d p := by
  unfold gr flipPt; cases d.isVertical <;> simp

theorem lft_flip (d : Dir) (n : PNode) : lft d (n.flip d) = - rgt d n := by
  unfold lft rgt; show tr d (flipPt d n.c) - ht d n = _; rw [tr_flipPt]; ring
theorem rgt_flip (d : Dir) (n : PNode) : rgt d (n.flip d) = - lft d n := by
  unfold lft rgt; show tr d (flipPt d n.c) + ht d n = _; rw [tr_flipPt]; ring

theorem tr_translate (d : Dir) (v : Pt) (n : PNode) : tr d (n.translate v).c = tr d n.c + disp d v := by
  unfold tr disp PNode.translate; cases d.isVertical <;> simp
theorem gr_translate (d : Dir) (v : Pt) (n : PNode) : gr d (n.translate v).c = gr d n.c + gr d v := by
  unfold gr PNode.translate; cases d.isVertical <;> simp
theorem lft_translate (d : Dir) (v : Pt) (n : PNode) : lft d (n.translate v) = lft d n + disp d v := by
  unfold lft; rw [tr_translate]; show _ - ht d n = _; ring
theorem rgt_translate (d : Dir) (v : Pt) (n : PNode) : rgt d (n.translate v) = rgt d n + disp d v := by
  unfold rgt; rw [tr_translate]; show _ + ht d n = _; ring

theorem flipPt_flipPt (d : Dir) (p : Pt) : flipPt d (flipPt d p) = p := by
  unfold flipPt; cases d.isVertical <;> simp

theorem PNode.flip_flip (d : Dir) (n : PNode) : (n.flip d).flip d = n := by
  cases n; simp [PNode.flip, flipPt_flipPt]

theorem Level.flip_flip (d : Dir) (l : Level) : (l.flip d).flip d = l := by
  cases l; simp [Level.flip, Function.comp_def, PNode.flip_flip]

theorem Lay.flip_flip (d : Dir) (t : Lay) : (t.flip d).flip d = t := by
  cases t; simp [Lay.flip, Function.comp_def, Level.flip_flip]

theorem disp_add (d : Dir) (u v : Pt) : disp d ⟨u.x + v.x, u.y + v.y⟩ = disp d u + disp d v := by
  unfold disp; cases d.isVertical <;> simp

theorem PNode.translate_translate (u v : Pt) (n : PNode) :
    (n.translate u).translate v = n.translate ⟨u.x + v.x, u.y + v.y⟩ := by
  cases n; simp [PNode.translate, add_assoc]

theorem Level.translate_translate (d : Dir) (u v : Pt) (l : Level) :
    (l.translate d u).translate d v = l.translate d ⟨u.x + v.x, u.y + v.y⟩ := by
  cases l; simp [Level.translate, disp_add, add_assoc, Function.comp_def, PNode.translate_translate]

theorem Lay.translate_translate (d : Dir) (u v : Pt) (t : Lay) :
    (t.translate d u).translate d v = t.translate d ⟨u.x + v.x, u.y + v.y⟩ := by
  cases t; simp [Lay.translate, disp_add, add_assoc, Function.comp_def, Level.translate_translate]

theorem disp_flipPt (d : Dir) (v : Pt) : disp d (flipPt d v) = - disp d v := by
  unfold disp flipPt; cases d.isVertical <;> simp

theorem PNode.flip_translate (d : Dir) (v : Pt) (n : PNode) :
    (n.translate v).flip d = (n.flip d).translate (flipPt d v) := by
  cases n; unfold PNode.translate PNode.flip flipPt; cases d.isVertical <;> simp <;> ring

theorem Level.flip_translate (d : Dir) (v : Pt) (l : Level) :
    (l.translate d v).flip d = (l.flip d).translate d (flipPt d v) := by
  cases l; simp [Level.translate, Level.flip, disp_flipPt, Function.comp_def, PNode.flip_translate, add_comm]

theorem Lay.flip_translate (d : Dir) (v : Pt) (t : Lay) :
    (t.translate d v).flip d = (t.flip d).translate d (flipPt d v) := by
  cases t; simp [Lay.translate, Lay.flip, disp_flipPt, Function.comp_def, Level.flip_translate, add_comm]

/-- rank data are consistent: `lo ≤ hi`, every node's transverse interval lies in `[lo, hi]`
    (`rank_bounds_enclose`), the nodes are pairwise `gap` apart, every node's size satisfies `P` -/
structure LevelOK (d : Dir) (gap : Rat) (P : Rat → Rat → Prop) (l : Level) : Prop where
  le : l.lo ≤ l.hi
  enc : ∀ n ∈ l.nodes, l.lo ≤ lft d n ∧ rgt d n ≤ l.hi
  sep : l.nodes.Pairwise (sepT d gap)
  sz : ∀ n ∈ l.nodes, P n.w n.h

/-- the nodes of level `i` have growth coordinate `g + i·s` -/
def GrowAt (d : Dir) (s : Rat) : Rat → List Level → Prop
  | _, [] => True
  | g, l :: ls => (∀ n ∈ l.nodes, gr d n.c = g) ∧ GrowAt d s (g + s) ls

/-- the invariant of a laid-out (sub)tree: every rank is consistent, and rank `i` sits at `i·s` on the growth axis -/
structure LayOK (d : Dir) (gap s : Rat) (P : Rat → Rat → Prop) (t : Lay) : Prop where
  lv : ∀ l ∈ t.levels, LevelOK d gap P l
  grow : GrowAt d s 0 t.levels

/-- every node's transverse interval lies within its rank's bounds -/
def Encloses (d : Dir) (t : Lay) : Prop :=
  ∀ l ∈ t.levels, ∀ n ∈ l.nodes, l.lo ≤ lft d n ∧ rgt d n ≤ l.hi

theorem enc_flip {d : Dir} {lo hi : Rat} {n : PNode} (h : lo ≤ lft d n ∧ rgt d n ≤ hi) :
    -hi ≤ lft d (n.flip d) ∧ rgt d (n.flip d) ≤ -lo := by
  rw [lft_flip, rgt_flip]
  constructor <;> linarith [h.1, h.2]

theorem enc_translate {d : Dir} {lo hi : Rat} {n : PNode} (v : Pt) (h : lo ≤ lft d n ∧ rgt d n ≤ hi) :
    lo + disp d v ≤ lft d (n.translate v) ∧ rgt d (n.translate v) ≤ hi + disp d v := by
  rw [lft_translate, rgt_translate]
  constructor <;> linarith [h.1, h.2]

theorem LevelOK.flip {d gap P l} (h : LevelOK d gap P l) : LevelOK d gap P (l.flip d) := by
  refine ⟨?_, ?_, ?_, ?_⟩
  · show -l.hi ≤ -l.lo; have := h.le; linarith
  · intro n hn
    obtain ⟨m, hm, rfl⟩ := List.mem_map.1 hn
    exact enc_flip (h.enc m hm)
  · show (l.nodes.map (PNode.flip d)).Pairwise _
    rw [List.pairwise_map]
    refine h.sep.imp ?_
    intro a b hab
    unfold sepT at *
    rw [lft_flip, rgt_flip, lft_flip, rgt_flip]
    rcases hab with hab | hab
    · right; linarith
    · left; linarith
  · intro n hn
    obtain ⟨m, hm, rfl⟩ := List.mem_map.1 hn
    exact h.sz m hm

theorem LevelOK.translate {d gap P l} (v : Pt) (h : LevelOK d gap P l) :
    LevelOK d gap P (l.translate d v) := by
  refine ⟨?_, ?_, ?_, ?_⟩
  · show l.lo + disp d v ≤ l.hi + disp d v; have := h.le; linarith
  · intro n hn
    obtain ⟨m, hm, rfl⟩ := List.mem_map.1 hn
    exact enc_translate v (h.enc m hm)
  · show (l.nodes.map (PNode.translate v)).Pairwise _
    rw [List.pairwise_map]
    refine h.sep.imp ?_
    intro a b hab
    unfold sepT at *
    rw [lft_translate, rgt_translate, lft_translate, rgt_translate]
    rcases hab with hab | hab
    · left; linarith
    · right; linarith
  · intro n hn
    obtain ⟨m, hm, rfl⟩ := List.mem_map.1 hn
    exact h.sz m hm

theorem GrowAt.flip {d s} : ∀ {g ls}, GrowAt d s g ls → GrowAt d s g (ls.map (Level.flip d))
  | _, [], _ => trivial
  | g, l :: ls, h => by
    refine ⟨?_, GrowAt.flip h.2⟩
    intro n hn
    obtain ⟨m, hm, rfl⟩ := List.mem_map.1 hn
    show gr d (flipPt d m.c) = g
    rw [gr_flipPt]; exact h.1 m hm

theorem GrowAt.translate {d s} (v : Pt) :
    ∀ {g ls}, GrowAt d s g ls → GrowAt d s (g + gr d v) (ls.map (Level.translate d v))
  | _, [], _ => trivial
  | g, l :: ls, h => by
    refine ⟨?_, ?_⟩
    · intro n hn
      obtain ⟨m, hm, rfl⟩ := List.mem_map.1 hn
      rw [gr_translate, h.1 m hm]
    · have := GrowAt.translate v h.2
      have e : g + s + gr d v = g + gr d v + s := by ring
      rw [e] at this; exact this

theorem LayOK.flip {d gap s P t} (h : LayOK d gap s P t) : LayOK d gap s P (t.flip d) := by
  refine ⟨?_, h.grow.flip⟩
  intro l hl
  obtain ⟨m, hm, rfl⟩ := List.mem_map.1 hl
  exact (h.lv m hm).flip

theorem LayOK.translate_lv {d gap s P t} (v : Pt) (h : LayOK d gap s P t) :
    ∀ l ∈ (t.translate d v).levels, LevelOK d gap P l := by
  intro l hl
  obtain ⟨m, hm, rfl⟩ := List.mem_map.1 hl
  exact (h.lv m hm).translate v

theorem Encloses.flip {d t} (h : Encloses d t) : Encloses d (t.flip d) := by
  intro l hl n hn
  obtain ⟨l0, hl0, rfl⟩ := List.mem_map.1 hl
  obtain ⟨m, hm, rfl⟩ := List.mem_map.1 hn
  exact enc_flip (h l0 hl0 m hm)

theorem Encloses.translate {d t} (v : Pt) (h : Encloses d t) : Encloses d (t.translate d v) := by
  intro l hl n hn
  obtain ⟨l0, hl0, rfl⟩ := List.mem_map.1 hl
  obtain ⟨m, hm, rfl⟩ := List.mem_map.1 hn
  exact enc_translate v (h l0 hl0 m hm)

theorem LayOK.encloses {d gap s P t} (h : LayOK d gap s P t) : Encloses d t :=
  fun l hl n hn => (h.lv l hl).enc n hn

theorem overlay_ok {d gap P} {f : Level → Level → Level} (C : Level → Level → Prop)
    (hf : ∀ t p, LevelOK d gap P t → LevelOK d gap P p → C t p → LevelOK d gap P (f t p)) :
    ∀ (ts ps : List Level), (∀ t ∈ ts, LevelOK d gap P t) → (∀ p ∈ ps, LevelOK d gap P p) →
      (∀ x ∈ ts.zip ps, C x.1 x.2) → ∀ l ∈ overlay f ts ps, LevelOK d gap P l
  | [], ps, _, hp, _ => by simpa [overlay] using hp
  | t :: ts, [], ht, _, _ => by simpa [overlay] using ht
  | t :: ts, p :: ps, ht, hp, hc => by
    intro l hl
    simp only [overlay, List.mem_cons] at hl
    rcases hl with rfl | hl
    · exact hf t p (ht t (List.mem_cons_self ..)) (hp p (List.mem_cons_self ..))
        (hc (t, p) (by simp))
    · exact overlay_ok C hf ts ps (fun x hx => ht x (List.mem_cons_of_mem _ hx))
        (fun x hx => hp x (List.mem_cons_of_mem _ hx))
        (fun x hx => hc x (by rw [List.zip_cons_cons]; exact List.mem_cons_of_mem _ hx)) l hl

theorem overlay_grow {d s} {f : Level → Level → Level} (hf : ∀ t p, (f t p).nodes = p.nodes ++ t.nodes) :
    ∀ (g : Rat) (ts ps : List Level), GrowAt d s g ts → GrowAt d s g ps → GrowAt d s g (overlay f ts ps)
  | _, [], ps, _, hp => by simpa [overlay] using hp
  | _, t :: ts, [], ht, _ => by simpa [overlay] using ht
  | g, t :: ts, p :: ps, ht, hp => by
    simp only [overlay]
    refine ⟨?_, overlay_grow hf (g + s) ts ps ht.2 hp.2⟩
    intro n hn
    rw [hf, List.mem_append] at hn
    rcases hn with hn | hn
    · exact hp.1 n hn
    · exact ht.1 n hn

theorem levelOK_join {d gap P} {t p : Level} {lo hi : Rat} (ht : LevelOK d gap P t) (hp : LevelOK d gap P p)
    (h1 : lo ≤ p.lo) (h2 : lo ≤ t.lo) (h3 : p.hi ≤ hi) (h4 : t.hi ≤ hi)
    (hsep : p.hi + gap ≤ t.lo ∨ t.hi + gap ≤ p.lo) : LevelOK d gap P ⟨lo, hi, p.nodes ++ t.nodes⟩ := by
  refine ⟨le_trans h1 (le_trans hp.le h3), fun n hn => ?_, ?_, fun n hn => ?_⟩
  · rcases List.mem_append.1 hn with hn | hn
    · exact ⟨le_trans h1 (hp.enc n hn).1, le_trans (hp.enc n hn).2 h3⟩
    · exact ⟨le_trans h2 (ht.enc n hn).1, le_trans (ht.enc n hn).2 h4⟩
  · refine List.pairwise_append.2 ⟨hp.sep, ht.sep, fun a ha b hb => hsep.imp (fun h => ?_) (fun h => ?_)⟩
    · exact le_trans (add_le_add_left (hp.enc a ha).2 gap) (le_trans h (ht.enc b hb).1)
    · exact le_trans (add_le_add_left (ht.enc b hb).2 gap) (le_trans h (hp.enc a ha).1)
  · rcases List.mem_append.1 hn with hn | hn
    · exact hp.sz n hn
    · exact ht.sz n hn

theorem fPos_ok {d gap P} (hgap : 0 ≤ gap) (t p : Level) (ht : LevelOK d gap P t) (hp : LevelOK d gap P p)
    (hc : p.hi + gap ≤ t.lo) : LevelOK d gap P (fPos t p) :=
  have h' : p.hi ≤ t.lo := le_trans (le_add_of_nonneg_right hgap) hc
  levelOK_join ht hp (le_refl _) (le_trans hp.le h') (le_trans h' ht.le) (le_refl _) (Or.inl hc)

theorem fNeg_ok {d gap P} (hgap : 0 ≤ gap) (t p : Level) (ht : LevelOK d gap P t) (hp : LevelOK d gap P p)
    (hc : t.hi + gap ≤ p.lo) : LevelOK d gap P (fNeg t p) :=
  have h' : t.hi ≤ p.lo := le_trans (le_add_of_nonneg_right hgap) hc
  levelOK_join ht hp (le_trans ht.le h') (le_refl _) (le_refl _) (le_trans h' hp.le) (Or.inr hc)

theorem fCentral_ok {d gap P} (t p : Level) (ht : LevelOK d gap P t) (_hp : LevelOK d gap P p)
    (hc : p.nodes = []) : LevelOK d gap P (fCentral t p) := by
  refine ⟨ht.le, ?_, ?_, ?_⟩
  · intro n hn
    have hn' : n ∈ t.nodes := by simpa [fCentral, hc] using hn
    exact ht.enc n hn'
  · show (p.nodes ++ t.nodes).Pairwise _
    rw [hc]; simpa using ht.sep
  · intro n hn
    have hn' : n ∈ t.nodes := by simpa [fCentral, hc] using hn
    exact ht.sz n hn'

theorem le_rmax_left (a b : Rat) : a ≤ rmax a b := by
  unfold rmax; split <;> [exact le_of_lt ‹_›; exact le_refl _]
theorem le_rmax_right (a b : Rat) : b ≤ rmax a b := by
  unfold rmax; split <;> [exact le_refl _; exact not_lt.1 ‹_›]
theorem rmin_le_left (a b : Rat) : rmin a b ≤ a := by
  unfold rmin; split <;> [exact le_of_lt ‹_›; exact le_refl _]
theorem rmin_le_right (a b : Rat) : rmin a b ≤ b := by
  unfold rmin; split <;> [exact le_refl _; exact not_lt.1 ‹_›]

theorem foldl_rmax_ge : ∀ (l : List Rat) (i : Rat), i ≤ l.foldl rmax i ∧ ∀ c ∈ l, c ≤ l.foldl rmax i
  | [], i => ⟨le_refl _, by simp⟩
  | a :: l, i => by
    have ih := foldl_rmax_ge l (rmax i a)
    refine ⟨le_trans (le_rmax_left i a) ih.1, ?_⟩
    intro c hc
    rcases List.mem_cons.1 hc with rfl | hc
    · exact le_trans (le_rmax_right i c) ih.1
    · exact ih.2 c hc

theorem foldl_rmin_le : ∀ (l : List Rat) (i : Rat), l.foldl rmin i ≤ i ∧ ∀ c ∈ l, l.foldl rmin i ≤ c
  | [], i => ⟨le_refl _, by simp⟩
  | a :: l, i => by
    have ih := foldl_rmin_le l (rmin i a)
    refine ⟨le_trans ih.1 (rmin_le_left i a), ?_⟩
    intro c hc
    rcases List.mem_cons.1 hc with rfl | hc
    · exact le_trans ih.1 (rmin_le_right i c)
    · exact ih.2 c hc

theorem foldl_rmax_mem : ∀ (l : List Rat) (i : Rat), l.foldl rmax i = i ∨ l.foldl rmax i ∈ l
  | [], _ => Or.inl rfl
  | a :: l, i => by
    rw [List.foldl_cons]
    rcases foldl_rmax_mem l (rmax i a) with h | h
    · rw [h]; unfold rmax; split
      · right; exact List.mem_cons_self ..
      · left; rfl
    · right; exact List.mem_cons_of_mem _ h

theorem foldl_rmin_mem : ∀ (l : List Rat) (i : Rat), l.foldl rmin i = i ∨ l.foldl rmin i ∈ l
  | [], _ => Or.inl rfl
  | a :: l, i => by
    rw [List.foldl_cons]
    rcases foldl_rmin_mem l (rmin i a) with h | h
    · rw [h]; unfold rmin; split
      · right; exact List.mem_cons_self ..
      · left; rfl
    · right; exact List.mem_cons_of_mem _ h

theorem rootPos_pos (cands : List Rat) : ∀ c ∈ cands, c ≤ rootPosOf true cands := by
  intro c hc; simpa [rootPosOf] using (foldl_rmax_ge cands dblMin).2 c hc
theorem rootPos_neg (cands : List Rat) : ∀ c ∈ cands, rootPosOf false cands ≤ c := by
  intro c hc; simpa [rootPosOf] using (foldl_rmin_le cands dblMax).2 c hc

theorem forall_zip_of_zipWith {α β γ δ : Type} {g : β → α → γ} {f : α → δ} {R : γ → Prop}
    {Q : δ → β → Prop} (h : ∀ p t, R (g p t) → Q (f t) p) :
    ∀ (ts : List α) (ps : List β), (∀ c ∈ List.zipWith g ps ts, R c) →
      ∀ x ∈ (ts.map f).zip ps, Q x.1 x.2
  | [], _, _ => by simp
  | _ :: _, [], _ => by simp
  | t :: ts, p :: ps, hc => by
    intro x hx
    simp only [List.map_cons, List.zip_cons_cons, List.mem_cons] at hx
    rw [List.zipWith_cons_cons, List.forall_mem_cons] at hc
    rcases hx with rfl | hx
    · exact h p t hc.1
    · exact forall_zip_of_zipWith h ts ps hc.2 x hx

theorem exists_zip_of_zipWith {α β γ δ : Type} {g : β → α → γ} {f : α → δ} {c : γ}
    {Q : δ → β → Prop} (h : ∀ p t, c = g p t → Q (f t) p) :
    ∀ (ts : List α) (ps : List β), c ∈ List.zipWith g ps ts → ∃ x ∈ (ts.map f).zip ps, Q x.1 x.2
  | [], ps, hc => by cases ps <;> simp at hc
  | _ :: _, [], hc => by simp at hc
  | t :: ts, p :: ps, hc => by
    rw [List.zipWith_cons_cons, List.mem_cons] at hc
    rw [List.map_cons, List.zip_cons_cons]
    rcases hc with hc | hc
    · exact ⟨(f t, p), List.mem_cons_self, h p t hc⟩
    · obtain ⟨x, hx, hq⟩ := exists_zip_of_zipWith h ts ps hc
      exact ⟨x, List.mem_cons_of_mem _ hx, hq⟩

theorem zip_sep_pos (d : Dir) (ns R : Rat) (v : Pt) (hv : disp d v = R) (ts ps : List Level)
    (hc : ∀ c ∈ candidates true ns ps ts, c ≤ R) :
    ∀ x ∈ (ts.map (Level.translate d v)).zip ps, x.2.hi + 2 * ns ≤ x.1.lo :=
  forall_zip_of_zipWith (R := (· ≤ R)) (Q := fun (t' p : Level) => p.hi + 2 * ns ≤ t'.lo)
    (fun p t h => by
      have h : (p.hi + ns) - (t.lo - ns) ≤ R := h
      show p.hi + 2 * ns ≤ t.lo + disp d v
      rw [hv]; linarith) ts ps hc

theorem zip_sep_neg (d : Dir) (ns R : Rat) (v : Pt) (hv : disp d v = R) (ts ps : List Level)
    (hc : ∀ c ∈ candidates false ns ps ts, R ≤ c) :
    ∀ x ∈ (ts.map (Level.translate d v)).zip ps, x.1.hi + 2 * ns ≤ x.2.lo :=
  forall_zip_of_zipWith (R := (R ≤ ·)) (Q := fun (t' p : Level) => t'.hi + 2 * ns ≤ p.lo)
    (fun p t h => by
      have h : R ≤ (p.lo - ns) - (t.hi + ns) := h
      show t.hi + disp d v + 2 * ns ≤ p.lo
      rw [hv]; linarith) ts ps hc

theorem zip_tight_pos (d : Dir) (ns R : Rat) (v : Pt) (hv : disp d v = R) (ts ps : List Level)
    (hc : R ∈ candidates true ns ps ts) :
    ∃ x ∈ (ts.map (Level.translate d v)).zip ps, x.2.hi + 2 * ns = x.1.lo :=
  exists_zip_of_zipWith (Q := fun (t' p : Level) => p.hi + 2 * ns = t'.lo)
    (fun p t h => by
      have h : R = (p.hi + ns) - (t.lo - ns) := h
      show p.hi + 2 * ns = t.lo + disp d v
      rw [hv, h]; ring) ts ps hc

theorem zip_tight_neg (d : Dir) (ns R : Rat) (v : Pt) (hv : disp d v = R) (ts ps : List Level)
    (hc : R ∈ candidates false ns ps ts) :
    ∃ x ∈ (ts.map (Level.translate d v)).zip ps, x.1.hi + 2 * ns = x.2.lo :=
  exists_zip_of_zipWith (Q := fun (t' p : Level) => t'.hi + 2 * ns = p.lo)
    (fun p t h => by
      have h : R = (p.lo - ns) - (t.hi + ns) := h
      show t.hi + disp d v + 2 * ns = p.lo
      rw [hv, h]; ring) ts ps hc

end AdaptaVerif.Lemmas.TreeLayout
