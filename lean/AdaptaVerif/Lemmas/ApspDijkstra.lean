/-
C17 — correctness of the Dijkstra model over an abstract min-selection (`SelSpec`), and what rests on it:
`johnsons` (Dijkstra from every source) and the layout's D matrix (`computePathLengths`: the scaled johnsons matrix of the
length-corrected graph).

Invariant `DInv` (settled = not in the queue):
  real    every finite key is the weight of an actual walk from the source
  src     the source keeps key 0
  closed  every edge out of a settled vertex is relaxed:  d v ≤ d u + w
  order   settled keys ≤ pending keys
  outeq   the output vector agrees with the keys on settled vertices
At the end the queue is empty, so `closed` is feasibility of the potential on all edges
(⇒ lower bound on every walk), and `real` gives attainment.
-/
import AdaptaVerif.Lemmas.ApspMat
namespace AdaptaVerif.Lemmas.Apsp
open AdaptaVerif.Model.ShortestPaths AdaptaVerif.Spec.Apsp

/-- `x ≤ y` with `none = +∞` -/
def dle (x y : Dist) : Prop := ∀ c, y = some c → ∃ b, x = some b ∧ b ≤ c

theorem dle_refl (x : Dist) : dle x x := fun c h => ⟨c, h, le_refl _⟩

theorem dle_trans {x y z : Dist} (h₁ : dle x y) (h₂ : dle y z) : dle x z := by
  intro c hc
  obtain ⟨b, hb, hbc⟩ := h₂ c hc
  obtain ⟨a, ha, hab⟩ := h₁ b hb
  exact ⟨a, ha, le_trans hab hbc⟩

theorem dle_none (x : Dist) : dle x none := fun c h => by cases h

theorem dle_some {a b : Rat} : dle (some a) (some b) ↔ a ≤ b := by simp [dle]

theorem leD_iff (x y : Dist) : leD x y = true ↔ dle x y := by
  cases x <;> cases y <;> simp [leD, dle]

theorem leD_total {x y : Dist} (h : leD x y = false) : leD y x = true := by
  cases x <;> cases y <;> simp_all [leD]
  exact le_of_lt h

theorem Vec.at_set (d : Vec) (v v' : Nat) (x : Dist) :
    Vec.at (d.setIfInBounds v x) v' = if v = v' ∧ v < d.size then x else Vec.at d v' := by
  unfold Vec.at
  rw [Array.getElem?_setIfInBounds]
  by_cases h : v = v'
  · subst h
    by_cases hs : v < d.size <;> simp [hs]
  · simp [h]

theorem Vec.at_replicate (n : Nat) (x : Dist) (v : Nat) :
    Vec.at (Array.replicate n x) v = if v < n then x else none := by
  unfold Vec.at
  rw [Array.getElem?_replicate]
  split <;> rfl

theorem Vec.ext_at {a b : Vec} (hs : a.size = b.size) (h : ∀ t, Vec.at a t = Vec.at b t) : a = b := by
  apply Array.ext hs
  intro i h1 h2
  have := h i
  unfold Vec.at at this
  rw [Array.getElem?_eq_getElem h1, Array.getElem?_eq_getElem h2] at this
  simpa using this

theorem adj_mem (es : List (Nat × Nat × Rat)) (u v : Nat) (w : Rat) :
    (v, w) ∈ adj es u ↔ (u, v, w) ∈ es ∨ (v, u, w) ∈ es := by
  induction es with
  | nil => simp [adj]
  | cons e rest ih =>
    obtain ⟨a, b, w'⟩ := e
    simp only [adj, List.mem_append, List.mem_cons, Prod.mk.injEq, ih]
    grind

theorem adj_hasEdge {g : Graph} {u v : Nat} {w : Rat} : (v, w) ∈ adj g.edges u ↔ HasEdge g u v w :=
  adj_mem g.edges u v w

theorem adj_valid {g : Graph} (hv : Valid g) {u : Nat} {p : Nat × Rat} (hp : p ∈ adj g.edges u) :
    HasEdge g u p.1 p.2 ∧ 0 ≤ p.2 ∧ p.1 < g.n :=
  have he : HasEdge g u p.1 p.2 := adj_hasEdge.mp hp
  ⟨he, (HasEdge.valid hv he).2.2, (HasEdge.valid hv he).2.1⟩

/-- what Dijkstra needs from the priority queue -/
structure SelSpec (sel : Selector) : Prop where
  none_iff : ∀ d q, sel d q = none ↔ q = []
  spec : ∀ d q u q', q.Nodup → sel d q = some (u, q') →
    u ∈ q ∧ (∀ x ∈ q, dle (Vec.at d u) (Vec.at d x)) ∧ (∀ x, x ∈ q' ↔ x ∈ q ∧ x ≠ u) ∧
    q'.Nodup ∧ q'.length + 1 = q.length

/-- for `Props.C17.selMin_meets_spec`: the driver's selector `selMin` meets `SelSpec` -/
theorem selMinAux_spec (d : Vec) : ∀ (xs : List Nat) (best : Nat),
    selMinAux d best xs ∈ best :: xs ∧ ∀ y ∈ best :: xs, dle (Vec.at d (selMinAux d best xs)) (Vec.at d y) := by
  intro xs
  induction xs with
  | nil => intro best; exact ⟨List.mem_cons_self, fun y hy => by rw [List.mem_singleton.mp hy]; exact dle_refl _⟩
  | cons x rest ih =>
    intro best
    unfold selMinAux
    by_cases h : leD (Vec.at d best) (Vec.at d x) = true
    · rw [if_pos h]
      obtain ⟨h1, h2⟩ := ih best
      refine ⟨List.mem_cons.mpr ((List.mem_cons.mp h1).imp id (List.mem_cons_of_mem _)), fun y hy => ?_⟩
      rcases List.mem_cons.mp hy with rfl | hy
      · exact h2 y List.mem_cons_self
      · rcases List.mem_cons.mp hy with rfl | hy
        · exact dle_trans (h2 best List.mem_cons_self) ((leD_iff _ _).mp h)
        · exact h2 y (List.mem_cons_of_mem _ hy)
    · rw [if_neg h]
      obtain ⟨h1, h2⟩ := ih x
      refine ⟨List.mem_cons_of_mem _ h1, fun y hy => ?_⟩
      rcases List.mem_cons.mp hy with rfl | hy
      · exact dle_trans (h2 x List.mem_cons_self) ((leD_iff _ _).mp (leD_total (by simpa using h)))
      · exact h2 y hy

theorem relaxEdge_none {u : Nat} {d : Vec} (h : Vec.at d u = none) (p : Nat × Rat) : relaxEdge u d p = d := by
  unfold relaxEdge; rw [h]

theorem relaxEdge_some {u : Nat} {d : Vec} {a : Rat} (h : Vec.at d u = some a) (p : Nat × Rat) :
    relaxEdge u d p = if gtD (Vec.at d p.1) (a + p.2) then d.setIfInBounds p.1 (some (a + p.2)) else d := by
  unfold relaxEdge; rw [h]

theorem relaxEdge_mono {u : Nat} {d : Vec} {v : Nat} {c : Rat} (h : ∃ b, Vec.at d v = some b ∧ b ≤ c)
    (p : Nat × Rat) : ∃ b, Vec.at (relaxEdge u d p) v = some b ∧ b ≤ c := by
  cases hu : Vec.at d u with
  | none => rw [relaxEdge_none hu]; exact h
  | some a =>
    rw [relaxEdge_some hu]
    by_cases hg : gtD (Vec.at d p.1) (a + p.2) = true
    · rw [if_pos hg, Vec.at_set]
      by_cases hc : p.1 = v ∧ p.1 < d.size
      · rw [if_pos hc]
        obtain ⟨b, hb, hbc⟩ := h
        rw [hc.1, hb, gtD_some] at hg
        exact ⟨a + p.2, rfl, le_trans (le_of_lt hg) hbc⟩
      · rw [if_neg hc]; exact h
    · rw [if_neg hg]; exact h

theorem relaxEdge_achieves {u : Nat} {a : Rat} {d : Vec} (hu : Vec.at d u = some a) {v : Nat} (hv : v < d.size) (w : Rat) :
    ∃ b, Vec.at (relaxEdge u d (v, w)) v = some b ∧ b ≤ a + w := by
  rw [relaxEdge_some hu]
  by_cases hg : gtD (Vec.at d v) (a + w) = true
  · rw [if_pos hg, Vec.at_set, if_pos ⟨rfl, hv⟩]
    exact ⟨a + w, rfl, le_refl _⟩
  · rw [if_neg hg]
    cases hd : Vec.at d v with
    | none => rw [hd] at hg; exact absurd rfl hg
    | some b =>
      rw [hd, gtD_some] at hg
      exact ⟨b, rfl, not_lt.mp hg⟩

structure DInv (g : Graph) (s : Nat) (st : DState) : Prop where
  dsize : st.d.size = g.n
  osize : st.out.size = g.n
  nodup : st.q.Nodup
  qlt : ∀ x ∈ st.q, x < g.n
  real : ∀ v x, Vec.at st.d v = some x → Walk g s v x
  src : Vec.at st.d s = some 0
  closed : ∀ u, u < g.n → u ∉ st.q → ∀ v w, HasEdge g u v w → ∀ a, Vec.at st.d u = some a →
    ∃ b, Vec.at st.d v = some b ∧ b ≤ a + w
  order : ∀ t, t < g.n → t ∉ st.q → ∀ x ∈ st.q, dle (Vec.at st.d t) (Vec.at st.d x)
  outeq : ∀ t, t < g.n → t ∉ st.q → Vec.at st.out t = Vec.at st.d t

theorem dinv_init {g : Graph} {s : Nat} (hs : s < g.n) : DInv g s (dijkstraInit g.n s) := by
  unfold dijkstraInit
  have hat : ∀ v, Vec.at ((Array.replicate g.n (none : Dist)).setIfInBounds s (some 0)) v = if v = s then some 0 else none := by
    intro v
    rw [Vec.at_set, Array.size_replicate, Vec.at_replicate]
    by_cases hv : s = v
    · subst hv; simp [hs]
    · have : ¬ v = s := fun e => hv e.symm
      simp [hv, this]
  constructor
  · simp
  · simp
  · exact List.nodup_range
  · intro x hx; exact List.mem_range.mp hx
  · intro v x hx
    simp only at hx
    rw [hat] at hx
    by_cases hv : v = s
    · rw [if_pos hv] at hx
      injection hx with hx
      rw [hv, ← hx]; exact Walk.nil hs
    · rw [if_neg hv] at hx; cases hx
  · simp only; rw [hat, if_pos rfl]
  · intro u hu hq; exact absurd (List.mem_range.mpr hu) hq
  · intro t ht hq; exact absurd (List.mem_range.mpr ht) hq
  · intro t ht hq; exact absurd (List.mem_range.mpr ht) hq

/-- the keys `d'` during and after the inner loop for the extracted vertex `u`, in the terms `dinv_step` reads.
    Every clause is kept by a single relaxation (`Keys.relax`). -/
structure Keys (g : Graph) (s : Nat) (st : DState) (u : Nat) (d' : Vec) : Prop where
  size : d'.size = st.d.size
  self : Vec.at d' u = Vec.at st.d u
  keep : ∀ t, t < g.n → t ∉ st.q → Vec.at d' t = Vec.at st.d t
  real : ∀ v x, Vec.at d' v = some x → Walk g s v x
  src : Vec.at d' s = some 0
  dec : ∀ {v c}, (∃ b, Vec.at st.d v = some b ∧ b ≤ c) → ∃ b, Vec.at d' v = some b ∧ b ≤ c
  ge : ∀ x, dle (Vec.at st.d u) (Vec.at st.d x) → dle (Vec.at st.d u) (Vec.at d' x)

theorem Keys.init {g : Graph} {s : Nat} {st : DState} (h : DInv g s st) (u : Nat) : Keys g s st u st.d :=
  ⟨rfl, rfl, fun _ _ _ => rfl, h.real, h.src, fun hb => hb, fun _ hx => hx⟩

theorem Keys.relax {g : Graph} (hv : Valid g) {s : Nat} {st : DState} (h : DInv g s st) {u : Nat} (hu : u ∈ st.q)
    {d' : Vec} (k : Keys g s st u d') {v : Nat} {w : Rat} (he : HasEdge g u v w) (hw : 0 ≤ w) :
    Keys g s st u (relaxEdge u d' (v, w)) := by
  cases hdu : Vec.at st.d u with
  | none => rw [relaxEdge_none (k.self.trans hdu)]; exact k
  | some a =>
    rw [relaxEdge_some (k.self.trans hdu)]
    split
    · rename_i hg
      -- a relaxation that fires overwrites a key larger than `a + w ≥ a`: not that of `u`, of a settled vertex, of the source
      have hlt : ∀ {t b}, Vec.at d' t = some b → b ≤ a → v ≠ t := by
        rintro t b hb hba rfl
        rw [hb, gtD_some] at hg
        exact not_lt.mpr (le_trans hba (le_add_of_nonneg_right hw)) hg
      have hne : ∀ {t b}, Vec.at d' t = some b → b ≤ a → Vec.at (d'.setIfInBounds v (some (a + w))) t = Vec.at d' t :=
        fun hb hba => by rw [Vec.at_set, if_neg (fun hc => hlt hb hba hc.1)]
      refine ⟨by rw [Array.size_setIfInBounds]; exact k.size, ?_, ?_, ?_, ?_, ?_, ?_⟩
      · rw [hne (k.self.trans hdu) (le_refl a)]; exact k.self
      · intro t ht htq
        obtain ⟨b, hb, hba⟩ := h.order t ht htq u hu a hdu
        rw [hne ((k.keep t ht htq).trans hb) hba]; exact k.keep t ht htq
      · intro v' x hx
        rw [Vec.at_set] at hx
        split at hx
        · rename_i hc
          injection hx with hx
          rw [← hc.1, ← hx]; exact Walk.snoc (h.real u a hdu) he
        · exact k.real v' x hx
      · rw [hne k.src (Walk.nonneg hv (h.real u a hdu))]; exact k.src
      · intro v' c hb
        have := relaxEdge_mono (u := u) (k.dec hb) (v, w)
        rwa [relaxEdge_some (k.self.trans hdu), if_pos hg] at this
      · intro x hx
        rw [Vec.at_set]
        split
        · rw [hdu]; exact dle_some.mpr (le_add_of_nonneg_right hw)
        · exact k.ge x hx
    · exact k

theorem keysAfter_fold {g : Graph} (hv : Valid g) {s : Nat} {st : DState} (h : DInv g s st) {u : Nat} (hu : u ∈ st.q) :
    Keys g s st u ((adj g.edges u).foldl (relaxEdge u) st.d) ∧
    ∀ v w, HasEdge g u v w → ∀ a, Vec.at st.d u = some a →
      ∃ b, Vec.at ((adj g.edges u).foldl (relaxEdge u) st.d) v = some b ∧ b ≤ a + w := by
  have hstep : ∀ d', Keys g s st u d' → ∀ p ∈ adj g.edges u, Keys g s st u (relaxEdge u d' p) :=
    fun d' k p hp => k.relax hv h hu (adj_valid hv hp).1 (adj_valid hv hp).2.1
  refine ⟨List.foldlRecOn (motive := Keys g s st u) _ _ (Keys.init h u) hstep, fun v w he a ha => ?_⟩
  exact Util.foldl_achieves (relaxEdge u) (Keys g s st u) (fun d => ∃ b, Vec.at d v = some b ∧ b ≤ a + w)
    (adj_hasEdge.mpr he) (fun d q hq k => hstep d k q hq) (fun _ q _ hb => relaxEdge_mono hb q)
    (fun d k => relaxEdge_achieves (k.self.trans ha) (by rw [k.size, h.dsize]; exact (HasEdge.valid hv he).2.1) w)
    (Keys.init h u)

theorem dinv_step {g : Graph} (hv : Valid g) {s : Nat} {st : DState} (h : DInv g s st) {u : Nat} {q' : List Nat}
    (hu : u ∈ st.q) (hmin : ∀ x ∈ st.q, dle (Vec.at st.d u) (Vec.at st.d x))
    (hq' : ∀ x, x ∈ q' ↔ x ∈ st.q ∧ x ≠ u) (hnd : q'.Nodup) :
    DInv g s (dijkstraStep g.edges st u q') := by
  have hun : u < g.n := h.qlt u hu
  have hnotq' : ∀ t, t ∉ q' → t ∉ st.q ∨ t = u := by
    intro t ht
    by_cases htq : t ∈ st.q
    · by_cases htu : t = u
      · exact Or.inr htu
      · exact absurd ((hq' t).mpr ⟨htq, htu⟩) ht
    · exact Or.inl htq
  obtain ⟨hk, hrelaxed⟩ := keysAfter_fold hv h hu
  show DInv g s { d := (adj g.edges u).foldl (relaxEdge u) st.d, out := st.out.setIfInBounds u (Vec.at st.d u), q := q' }
  refine ⟨hk.size.trans h.dsize, Array.size_setIfInBounds.trans h.osize, hnd, fun x hx => h.qlt x ((hq' x).mp hx).1,
    hk.real, hk.src, ?_, ?_, ?_⟩
  · intro t ht htq v w he a' ha'
    rcases hnotq' t htq with htq | rfl
    · rw [hk.keep t ht htq] at ha'
      exact hk.dec (h.closed t ht htq v w he a' ha')
    · rw [hk.self] at ha'
      exact hrelaxed v w he a' ha'
  · intro t ht htq x hx
    have hxq := (hq' x).mp hx
    rcases hnotq' t htq with htq | rfl
    · rw [hk.keep t ht htq]
      exact dle_trans (h.order t ht htq u hu) (hk.ge x (hmin x hxq.1))
    · rw [hk.self]; exact hk.ge x (hmin x hxq.1)
  · intro t ht htq
    rw [Vec.at_set]
    rcases hnotq' t htq with htq | rfl
    · rw [if_neg (fun (hc : u = t ∧ u < st.out.size) => htq (hc.1 ▸ hu)), hk.keep t ht htq]; exact h.outeq t ht htq
    · rw [if_pos ⟨rfl, by rw [h.osize]; exact hun⟩, hk.self]

theorem dijkstraLoop_inv {sel : Selector} (hsel : SelSpec sel) {g : Graph} (hv : Valid g) {s : Nat} :
    ∀ (fuel : Nat) (st : DState), DInv g s st → st.q.length ≤ fuel →
      DInv g s (dijkstraLoop sel g.edges fuel st) ∧ (dijkstraLoop sel g.edges fuel st).q = [] := by
  intro fuel
  induction fuel with
  | zero =>
    intro st h hl
    exact ⟨h, List.length_eq_zero_iff.mp (Nat.le_zero.mp hl)⟩
  | succ f ih =>
    intro st h hl
    unfold dijkstraLoop
    cases hs : sel st.d st.q with
    | none => exact ⟨h, (hsel.none_iff _ _).mp hs⟩
    | some r =>
      obtain ⟨u, q'⟩ := r
      obtain ⟨h1, h2, h3, h4, h5⟩ := hsel.spec _ _ _ _ h.nodup hs
      simp only
      apply ih _ (dinv_step hv h h1 h2 h3 h4)
      show q'.length ≤ f
      omega

theorem dinv_final {g : Graph} (hv : Valid g) {s : Nat} {st : DState} (hinv : DInv g s st) (hq : st.q = [])
    {j : Nat} (hj : j < g.n) : IsDist g s j (Vec.at st.out j) := by
  have hnot : ∀ t, t ∉ st.q := by intro t; rw [hq]; exact List.not_mem_nil
  rw [hinv.outeq j hj (hnot j)]
  -- every vertex is settled: `closed` says that the keys are a feasible potential
  exact IsDist.of_bounds (hinv.real j) fun c hw => Walk.lower_bound (d := Vec.at st.d) hinv.src
    (fun hwalk he ha => hinv.closed _ (Walk.ends hv hwalk).2 (hnot _) _ _ he _ ha) hw

theorem dijkstra_exact {sel : Selector} (hsel : SelSpec sel) {g : Graph} (hv : Valid g) {s : Nat} (hs : s < g.n)
    {j : Nat} (hj : j < g.n) : IsDist g s j (Vec.at (dijkstra sel g s) j) := by
  obtain ⟨hinv, hq⟩ := dijkstraLoop_inv hsel hv g.n _ (dinv_init hs) (by simp [dijkstraInit])
  exact dinv_final hv hinv hq hj

theorem johnsons_get (sel : Selector) (g : Graph) {i : Nat} (hi : i < g.n) (j : Nat) :
    (johnsons sel g).get i j = Vec.at (dijkstra sel g i) j :=
  Mat.get_rows _ hi j

theorem layoutD_get (sel : Selector) (n : Nat) (es : List (Nat × Nat)) (lens : Option (List Rat)) (ideal : Rat) (i j : Nat) :
    (layoutD sel n es lens ideal).get i j = scaleEntry ideal i j ((johnsons sel (layoutGraph n es lens)).get i j) := by
  unfold layoutD Mat.get
  rw [Array.getElem?_mapIdx]
  cases h : (johnsons sel (layoutGraph n es lens))[i]? with
  | none => simp [scaleEntry]
  | some r =>
    simp only [Option.map_some, Option.getD_some]
    rw [Array.getElem?_mapIdx]
    cases h2 : r[j]? with
    | none => simp [scaleEntry]
    | some x => simp

theorem fixLen_pos (l : Rat) : 0 < fixLen l := by
  unfold fixLen
  split
  · norm_num
  · linarith

theorem layoutGraph_valid (n : Nat) (es : List (Nat × Nat)) (lens : Option (List Rat))
    (h : ∀ e ∈ es, e.1 < n ∧ e.2 < n) : Valid (layoutGraph n es lens) := by
  intro e he
  cases lens with
  | none =>
    simp only [layoutGraph, List.mem_map] at he
    obtain ⟨e0, he0, rfl⟩ := he
    exact ⟨(h e0 he0).1, (h e0 he0).2, by norm_num⟩
  | some ls =>
    simp only [layoutGraph] at he
    rw [List.mem_iff_getElem?] at he
    obtain ⟨k, hk⟩ := he
    rw [List.getElem?_zipWith] at hk
    cases h1 : es[k]? with
    | none => rw [h1] at hk; simp at hk
    | some e0 =>
      cases h2 : ls[k]? with
      | none => rw [h1, h2] at hk; simp at hk
      | some l =>
        rw [h1, h2] at hk
        simp at hk
        have hm : e0 ∈ es := List.mem_of_getElem? h1
        rw [← hk]
        exact ⟨(h e0 hm).1, (h e0 hm).2, le_of_lt (fixLen_pos l)⟩

end AdaptaVerif.Lemmas.Apsp
