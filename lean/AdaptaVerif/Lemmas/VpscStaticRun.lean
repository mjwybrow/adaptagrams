/-
The static VPSC solver's model along a run: `mergeLeft`, `mergeRight`, `Blocks::split`, `Solver::satisfy`,
`Solver::refine`, `Solver::solve`, from `Solver(vs, cs)`.
One relation `PresIf P s s'` between the state before and after an operation says everything the analysis
follows: only `active` is written in a constraint, and — from a state that satisfies `WF` — `WF` again, neither
fuel flag touched, sizes kept (the tree traversals never exhaust their fuel under the block invariant:
`Lemmas/VpscStaticFuel.lean`).  It is proved once per function of the call tree; the invariant along a run
(`PresIf.keep`), the totality of `satisfy()` / `solve()` ("never out of fuel", `PresIf.bad`) and the frame of the
constraint data are read off it.
The heap facts are what makes the merge steps applicable: the constraint handed back by the in-heap of block
`r` joins another block to `r` (`findMinIn_spec`), so `Block::merge` is the merge of the two blocks of that
constraint (`merge_core`).
-/
import AdaptaVerif.Lemmas.VpscStaticFuel
import AdaptaVerif.Lemmas.VpscStaticTotal
import AdaptaVerif.Lemmas.VpscStaticOrder
import AdaptaVerif.Lemmas.Util.Array
namespace AdaptaVerif.Lemmas.VpscStaticMem
open AdaptaVerif.Model.Vpsc AdaptaVerif.Model.VpscStatic
open AdaptaVerif.Lemmas.VpscInv AdaptaVerif.Lemmas.VpscMerge AdaptaVerif.Lemmas.VpscSplit
open AdaptaVerif.Lemmas.VpscStatic AdaptaVerif.Lemmas.VpscLoop AdaptaVerif.Lemmas.VpscStaticFuel

/-- callers pass `h` as `by rfl`, which is elaborated once `nb` has been read off the goal -/
theorem set!_block_vars (bs : Array Block) (b : Nat) (nb : Block) (h : nb.vars = (bs[b]!).vars) (x : Nat) :
    ((bs.set! b nb)[x]!).vars = (bs[x]!).vars := by
  rw [Util.get!_set!]
  split
  · rename_i e; rw [h, e.1]
  · rfl

theorem setPosn_vars (st : St) (b : Nat) (p : Rat) (x : Nat) :
    ((setPosn st b p).blocks[x]!).vars = (st.blocks[x]!).vars :=
  set!_block_vars _ _ _ (by rfl) _

theorem markDeleted_vars (st : St) (b x : Nat) : ((st.markDeleted b).blocks[x]!).vars = (st.blocks[x]!).vars :=
  set!_block_vars _ _ _ (by rfl) _

theorem HOK.congr {st st' : St} {hs : HS} (hv : st'.vars = st.vars) (hc : st'.cons = st.cons)
    (h : HOK st hs) : HOK st' hs := by
  unfold HOK InOK OutOK Owns HeapIn HeapOut blkOf at *
  rw [hv, hc]; exact h

theorem memOK_congr {st st' : St} (hv : st'.vars = st.vars)
    (hb : ∀ b : Nat, (st'.blocks[b]!).vars = (st.blocks[b]!).vars) (h : MemOK st) : MemOK st' := by
  unfold MemOK Owns blkOf at *
  rw [hv]
  intro b v ho hm
  rw [hb] at hm
  exact h b v ho hm

theorem owns_congr {st st' : St} (hv : st'.vars = st.vars) {b : Nat} (h : Owns st b) : Owns st' b := by
  unfold Owns blkOf at *
  rw [hv]; exact h

theorem WF.build {st st' : St} {hs hs' : HS} (ic : IC st) (mem : MemOK st) (hk : HOK st hs)
    (hsame : Same st' st) (hb : ∀ x : Nat, (st'.blocks[x]!).vars = (st.blocks[x]!).vars) (hh : SameH hs' hs) :
    WF { st := st', hs := hs' } :=
  ⟨IC.of_same hsame ic, memOK_congr hsame.1 hb mem,
   ((hk.of_same hh).congr hsame.1 hsame.2.1).1, ((hk.of_same hh).congr hsame.1 hsame.2.1).2⟩

theorem WF.transfer {s : SSt} (hw : WF s) {st' : St} {hs' : HS} (hsame : Same st' s.st)
    (hb : ∀ x : Nat, (st'.blocks[x]!).vars = (s.st.blocks[x]!).vars) (hh : SameH hs' s.hs) :
    WF { st := st', hs := hs' } :=
  WF.build hw.ic hw.mem hw.hok hsame hb hh

/-- from a state satisfying `WF` to one that does, neither fuel flag touched -/
structure Kept (s s' : SSt) : Prop where
  wf : WF s'
  sfo : s'.st.fuelOut = s.st.fuelOut
  hfo : s'.hs.fuelOut = s.hs.fuelOut
  vsz : s'.st.vars.size = s.st.vars.size
  csz : s'.st.cons.size = s.st.cons.size

theorem Kept.trans {a b c : SSt} (h1 : Kept a b) (h2 : Kept b c) : Kept a c :=
  ⟨h2.wf, h2.sfo.trans h1.sfo, h2.hfo.trans h1.hfo, h2.vsz.trans h1.vsz, h2.csz.trans h1.csz⟩

/-- `s'` arises from `s` by an operation that, under the side condition `P` (a block owns a variable, an index is in
    range), keeps the invariant and the fuel flags; it only ever writes `active` in a constraint (`cd`) -/
structure PresIf (P : Prop) (s s' : SSt) : Prop where
  cd : VpscStaticFrame.CD s.st s'.st
  keep : P → WF s → Kept s s'

abbrev Pres (s s' : SSt) : Prop := PresIf True s s'

theorem PresIf.refl (P : Prop) (s : SSt) : PresIf P s s :=
  ⟨VpscStaticFrame.CD.refl _, fun _ hw => ⟨hw, rfl, rfl, rfl, rfl⟩⟩

theorem PresIf.trans {P Q : Prop} {a b c : SSt} (h1 : PresIf P a b) (h2 : PresIf Q b c)
    (hq : P → WF a → Kept a b → Q) : PresIf P a c :=
  ⟨h1.cd.trans h2.cd, fun hp hw => (h1.keep hp hw).trans (h2.keep (hq hp hw (h1.keep hp hw)) (h1.keep hp hw).wf)⟩

theorem PresIf.then {a b c : SSt} (h1 : Pres a b) (h2 : Pres b c) : Pres a c := h1.trans h2 fun _ _ _ => trivial

theorem PresIf.of_imp {P Q : Prop} {a b : SSt} (h : PresIf Q a b) (hpq : P → WF a → Q) : PresIf P a b :=
  ⟨h.cd, fun hp hw => h.keep (hpq hp hw) hw⟩

theorem PresIf.of_same {s s' : SSt} (hsame : Same s'.st s.st)
    (hb : ∀ x : Nat, (s'.st.blocks[x]!).vars = (s.st.blocks[x]!).vars) (hq : Quiet s'.hs s.hs) : Pres s s' :=
  ⟨VpscStaticFrame.CD.of_eq hsame.2.1, fun _ hw =>
    ⟨hw.transfer hsame hb hq.1, hsame.2.2.2, hq.2, by rw [hsame.1], by rw [hsame.2.1]⟩⟩

theorem PresIf.of_hs {s : SSt} {hs' : HS} (h : WF s → HOK s.st hs')
    (hf : hs'.fuelOut = s.hs.fuelOut) : Pres s { s with hs := hs' } :=
  ⟨VpscStaticFrame.CD.refl _, fun _ hw => ⟨hw.with_hs (h hw), rfl, hf, rfl, rfl⟩⟩

theorem PresIf.of_quiet {s : SSt} {hs' : HS} (hq : Quiet hs' s.hs) : Pres s { s with hs := hs' } :=
  PresIf.of_hs (fun hw => hw.hok.of_same hq.1) hq.2

theorem PresIf.of_keeps {P : Prop} {s s' : SSt} (f : MFrame s.st s'.st)
    (k : WF s → P → WF s' ∧ s'.hs.fuelOut = s.hs.fuelOut) : PresIf P s s' :=
  ⟨f.cd, fun hp hw => ⟨(k hw hp).1, f.fo, (k hw hp).2, f.vsz, f.csz⟩⟩

theorem mergeLeft_pres (s : SSt) (r : Nat) : PresIf (Owns s.st r) s (mergeLeft s r) :=
  PresIf.of_keeps (mergeLeft_keeps s r).1 (mergeLeft_keeps s r).2

theorem mergeRight_pres (s : SSt) (l : Nat) : PresIf (Owns s.st l) s (mergeRight s l) :=
  PresIf.of_keeps (mergeRight_keeps s l).1 (mergeRight_keeps s l).2

theorem satisfyStep_pres (s : SSt) (v : Nat) : PresIf (v < s.st.vars.size) s (satisfyStep s v) := by
  unfold satisfyStep
  simp only
  split
  · exact (PresIf.of_quiet (s := s) (hs' := { s.hs with nDead := s.hs.nDead + 1 }) ⟨⟨rfl, rfl⟩, rfl⟩).of_imp
      fun _ _ => trivial
  · exact (mergeLeft_pres s _).of_imp fun hv _ => ⟨v, hv, rfl⟩

theorem foldl_satisfyStep_pres : ∀ (l : List Nat) (s : SSt),
    PresIf (∀ v ∈ l, v < s.st.vars.size) s (l.foldl satisfyStep s)
  | [], s => PresIf.refl _ s
  | v :: rest, s => by
    rw [List.foldl_cons]
    exact ((satisfyStep_pres s v).of_imp fun hl _ => hl v (by simp)).trans (foldl_satisfyStep_pres rest _)
      fun hl _ hk w hw => by rw [hk.vsz]; exact hl w (by simp [hw])

theorem cleanup_pres (s : SSt) : Pres s s.cleanup :=
  PresIf.of_same (same_cleanup s.st) (fun _ => rfl) (Quiet.refl _)

theorem SW.cleanup {s : SSt} (h : SW s) : SW s.cleanup := h.imp id fun hw => ((cleanup_pres s).keep trivial hw).wf

theorem scan_pres (s : SSt) : Pres s { s with hs := noteScan s.st s.hs } := PresIf.of_quiet (noteScan_quiet _ _)

theorem satisfyCore_pres (s : SSt) : Pres s (satisfyCore s) := by
  have h0 : Pres s { s with hs := if (totalOrder s.st).2 = true then s.hs else s.hs.out } :=
    ⟨VpscStaticFrame.CD.refl _, fun _ hw => by
      rw [if_pos (AdaptaVerif.Lemmas.VpscStaticOrder.totalOrder_ok s.st hw.ic)]
      exact ⟨hw, rfl, rfl, rfl, rfl⟩⟩
  exact (h0.trans (foldl_satisfyStep_pres (totalOrder s.st).1 _)
    fun _ hw _ v hv => AdaptaVerif.Lemmas.VpscStaticOrder.totalOrder_bound s.st hw.ic v hv).then (cleanup_pres _)

theorem satisfy_fst (s : SSt) :
    (s.satisfy).1 = { satisfyCore s with hs := noteScan (satisfyCore s).st (satisfyCore s).hs } := by
  unfold SSt.satisfy
  simp only
  split
  · rfl
  · split <;> rfl

theorem satisfy_pres (s : SSt) : Pres s (s.satisfy).1 := by
  rw [satisfy_fst]
  exact (satisfyCore_pres s).then (scan_pres _)

theorem insertBlocks_vars (st : St) (a b x : Nat) :
    ((st.insertBlocks a b).blocks[x]!).vars = (st.blocks[x]!).vars := rfl

theorem splitPre_hs (s : SSt) (b c : Nat) :
    Quiet (splitPre s b c).1.hs (s.hs.newBlocks (s.st.split b c).2.1 (s.st.split b c).2.2) := by
  have : Quiet (splitPre s b c).1.hs
      ((s.hs.newBlocks (s.st.split b c).2.1 (s.st.split b c).2.2).checkExact (splitPre s b c).1.st (s.st.split b c).2.1) :=
    ⟨⟨by simp only [splitPre], by simp only [splitPre]⟩, by simp only [splitPre]⟩
  exact this.trans (checkExact_quiet _ _ _)

theorem splitPre_snd (s : SSt) (b c : Nat) : (splitPre s b c).2 = s.st.blocks.size := by
  simp only [splitPre]
  exact (split_ids s.st b c).1

theorem splitMid_snd (s : SSt) (c : Nat) : (splitMid s c).2 = blkOf s.st (s.st.cons[c]!).r := rfl

theorem splitMid_hs (s : SSt) (c : Nat) : Quiet (splitMid s c).1.hs s.hs := by
  have : Quiet (splitMid s c).1.hs (s.hs.checkExact (splitMid s c).1.st (blkOf s.st (s.st.cons[c]!).r)) :=
    ⟨⟨by simp only [splitMid], by simp only [splitMid]⟩, by simp only [splitMid]⟩
  exact this.trans (checkExact_quiet _ _ _)

theorem splitStatic_eq (s : SSt) (b c : Nat) :
    splitStatic s b c =
      { mergeRight (splitMid (mergeLeft (splitPre s b c).1 (splitPre s b c).2) c).1
          (splitMid (mergeLeft (splitPre s b c).1 (splitPre s b c).2) c).2 with
        st := (mergeRight (splitMid (mergeLeft (splitPre s b c).1 (splitPre s b c).2) c).1
          (splitMid (mergeLeft (splitPre s b c).1 (splitPre s b c).2) c).2).st.markDeleted b } := rfl

theorem splitPre_same (s : SSt) (b c : Nat) : Same (splitPre s b c).1.st (s.st.split b c).1 := by
  rw [splitPre_st]
  exact Same.trans (same_setPosn _ _ _) (same_insertBlocks _ _ _)

theorem splitPre_cd (s : SSt) (b c : Nat) : VpscStaticFrame.CD s.st (splitPre s b c).1.st :=
  VpscStaticFrame.CD.of_set_active ((splitPre_same s b c).2.1.trans (split_fst_cons s.st b c))

theorem splitPre_kept (s : SSt) (b c : Nat) (hw : WF s)
    (hact : (s.st.cons[c]!).active = true) (hb : blkOf s.st (s.st.cons[c]!).l = b) :
    Kept s (splitPre s b c).1 ∧ Owns (splitPre s b c).1.st (splitPre s b c).2 := by
  have hb' : blk s.st.vars (s.st.cons[c]!).l = b := hb
  subst hb'
  obtain ⟨w1, w2, w3, w5, w6, w7⟩ := split_WF s.st s.hs c hw.ic hw.mem hw.hok hact
  have hcs : (s.st.split (blk s.st.vars (s.st.cons[c]!).l) c).1.cons.size = s.st.cons.size := by
    rw [split_fst_cons, Util.set!_size]
  have hsame := splitPre_same s (blk s.st.vars (s.st.cons[c]!).l) c
  have hbv : ∀ x : Nat, ((splitPre s (blk s.st.vars (s.st.cons[c]!).l) c).1.st.blocks[x]!).vars =
      ((s.st.split (blk s.st.vars (s.st.cons[c]!).l) c).1.blocks[x]!).vars := by
    intro x; rw [splitPre_st, setPosn_vars]; exact insertBlocks_vars _ _ _ _
  have hh := splitPre_hs s (blk s.st.vars (s.st.cons[c]!).l) c
  rw [(split_ids _ _ _).1, (split_ids _ _ _).2] at hh
  have hsnd := splitPre_snd s (blk s.st.vars (s.st.cons[c]!).l) c
  -- only the facts above are used from here on
  generalize (s.st.split (blk s.st.vars (s.st.cons[c]!).l) c).1 = st1 at *
  generalize splitPre s (blk s.st.vars (s.st.cons[c]!).l) c = p at *
  rw [hsnd]
  exact ⟨⟨WF.build w1 w2 w3 hsame hbv hh.1, hsame.2.2.2.trans w7, hh.2, by rw [hsame.1]; exact w6,
    by rw [hsame.2.1]; exact hcs⟩, owns_congr hsame.1 w5⟩

/-- `Blocks::split` after `b->split`: `mergeLeft(l)`, `r->updateWeightedPosition()`, `mergeRight(r)`,
    `removeBlock(b)` -/
theorem splitTail_pres (p : SSt) (l b c : Nat) :
    PresIf (Owns p.st l ∧ c < p.st.cons.size) p
      { mergeRight (splitMid (mergeLeft p l) c).1 (splitMid (mergeLeft p l) c).2 with
        st := (mergeRight (splitMid (mergeLeft p l) c).1 (splitMid (mergeLeft p l) c).2).st.markDeleted b } := by
  have h2 := mergeLeft_pres p l
  generalize mergeLeft p l = s1 at h2 ⊢
  have h3 : Pres s1 (splitMid s1 c).1 :=
    PresIf.of_same (by rw [splitMid_st]; exact same_refreshBlock _ _)
      (by intro x; rw [splitMid_st, refreshBlock_block_vars]) (splitMid_hs s1 c)
  have ho : WF s1 → c < s1.st.cons.size → Owns (splitMid s1 c).1.st (splitMid s1 c).2 := fun hw1 hc => by
    rw [splitMid_snd]
    exact owns_congr (by rw [splitMid_st]; exact (same_refreshBlock _ _).1) ⟨_, hw1.ic.r_lt c hc, rfl⟩
  generalize splitMid s1 c = q at h3 ho ⊢
  have h4 := mergeRight_pres q.1 q.2
  generalize mergeRight q.1 q.2 = s2 at h4 ⊢
  have h5 : Pres s2 { s2 with st := s2.st.markDeleted b } :=
    PresIf.of_same (same_markDeleted _ _) (fun x => markDeleted_vars _ _ x) (Quiet.refl _)
  have h345 : PresIf (c < s1.st.cons.size) s1 { s2 with st := s2.st.markDeleted b } :=
    ((h3.of_imp fun _ _ => trivial).trans h4 fun hc hw1 _ => ho hw1 hc).trans h5 fun _ _ _ => trivial
  exact (h2.of_imp fun h _ => h.1).trans h345 fun h _ hk => by rw [hk.csz]; exact h.2

theorem splitStatic_pres (s : SSt) (b c : Nat) (hact : (s.st.cons[c]!).active = true)
    (hb : WF s → blkOf s.st (s.st.cons[c]!).l = b) : Pres s (splitStatic s b c) := by
  have h1 : Pres s (splitPre s b c).1 :=
    ⟨splitPre_cd s b c, fun _ hw => (splitPre_kept s b c hw hact (hb hw)).1⟩
  rw [splitStatic_eq]
  exact h1.trans (splitTail_pres (splitPre s b c).1 (splitPre s b c).2 b c) fun _ hw hk =>
    ⟨(splitPre_kept s b c hw hact (hb hw)).2, by rw [hk.csz]; exact active_lt _ _ hact⟩

theorem refineSetUp_pres (s : SSt) : Pres s (refineSetUp s) := by
  have key : ∀ (l : List Nat) (hs : HS),
      (WF s → HOK s.st hs → HOK s.st (l.foldl (fun hs b => setUpOut s.st (setUpIn s.st hs b) b) hs)) ∧
      (l.foldl (fun hs b => setUpOut s.st (setUpIn s.st hs b) b) hs).fuelOut = hs.fuelOut := by
    intro l
    induction l with
    | nil => exact fun hs => ⟨fun _ h => h, rfl⟩
    | cons x rest ih =>
      intro hs
      rw [List.foldl_cons]
      exact ⟨fun hw h => (ih _).1 hw (setUpOut_ok s.st _ x hw.ic hw.mem (setUpIn_ok s.st hs x hw.ic hw.mem h)),
        by rw [(ih _).2, setUpOut_fo, setUpIn_fo]⟩
  exact PresIf.of_hs (s := s) (fun hw => (key _ _).1 hw hw.hok) (key _ _).2

theorem findMinLM_pres (s : SSt) (b : Nat) (hs' : HS) (hq : Quiet hs' s.hs) :
    Pres s { st := (s.st.findMinLM b).1, hs := hs' } := by
  obtain ⟨hv, hc, hb, _⟩ := findMinLM_spec s.st b
  exact ⟨VpscStaticFrame.CD.of_eq hc, fun _ hw =>
    ⟨WF.build hw.ic hw.mem hw.hok ⟨hv, hc, by rw [hb], findMinLM_fuel s.st hw.ic b⟩ (fun x => by rw [hb]) hq.1,
      findMinLM_fuel s.st hw.ic b, hq.2, by rw [hv], by rw [hc]⟩⟩

theorem refineTry_pres (s : SSt) (b : Nat) : Pres s (refineTry s b).1 := by
  obtain ⟨hv, hc, _, _, _, hact⟩ := findMinLM_spec s.st b
  unfold refineTry
  simp only
  split
  · exact findMinLM_pres s b s.hs (Quiet.refl _)
  · rename_i ci lmv gap heq
    split
    · have h1 := findMinLM_pres s b ((s.hs.note (lmv - LAGRANGIAN_TOLERANCE)).noteCmp gap)
        ((noteCmp_quiet _ _).trans ⟨⟨rfl, rfl⟩, rfl⟩)
      have h2 := splitStatic_pres (SSt.mk (s.st.findMinLM b).1
        ((s.hs.note (lmv - LAGRANGIAN_TOLERANCE)).noteCmp gap)) b ci (by rw [hc]; exact hact ci lmv gap heq)
        (fun hw' => by
          have hic : InvC s.st.vars s.st.cons (s.st.findMinLM b).1.blocks.size
              (Array.range (s.st.findMinLM b).1.cons.size) := by
            have := hw'.ic; unfold IC at this; rw [hv, hc] at this; rw [hc]; exact this
          have := findMinLM_blk s.st b hic ci lmv gap heq
          unfold blkOf; rw [hv, hc]; exact this)
      exact (h1.then h2).then (cleanup_pres _)
    · exact findMinLM_pres s b _ ⟨⟨rfl, rfl⟩, rfl⟩

theorem refineScan_pres : ∀ (l : List Nat) (s : SSt), Pres s (refineScan s l).1
  | [], s => PresIf.refl _ s
  | b :: rest, s => by
    unfold refineScan
    simp only
    split
    · exact refineTry_pres s b
    · exact (refineTry_pres s b).then (refineScan_pres rest _)

theorem refineLoop_pres : ∀ (tries : Nat) (s : SSt), Pres s (refineLoop tries s)
  | 0, s => PresIf.refl _ s
  | tries + 1, s => by
    unfold refineLoop
    simp only
    have h0 : Pres s { s with hs := { s.hs with nRounds := s.hs.nRounds + 1 } } :=
      PresIf.of_quiet (s := s) (hs' := { s.hs with nRounds := s.hs.nRounds + 1 }) ⟨⟨rfl, rfl⟩, rfl⟩
    have h1 := (h0.then (refineSetUp_pres _)).then
      (refineScan_pres (refineSetUp { s with hs := { s.hs with nRounds := s.hs.nRounds + 1 } }).st.order.toList _)
    split
    · exact h1.then (refineLoop_pres tries _)
    · exact h1

theorem solve_pres (s : SSt) : Pres s (s.solve).1 := by
  have h1 := satisfy_pres s
  unfold SSt.solve
  split
  · rename_i s1 p r heq
    have e1 : (s.satisfy).1 = s1 := by rw [heq]
    rw [e1] at h1
    have h2 := (h1.then (refineLoop_pres 100 s1)).then (scan_pres (refineCore s1))
    simp only
    split
    · exact h2
    · split <;> exact h2
  · exact h1

theorem PresIf.bad {s s' : SSt} (h : Pres s s') (hw : WF s) (hb : s.bad = false) : s'.bad = false := by
  unfold SSt.bad at hb ⊢
  rw [(h.keep trivial hw).sfo, (h.keep trivial hw).hfo]
  exact hb

theorem init_WF (vs : Array (Rat × Rat × Rat)) (cs : Array Con)
    (hv : ∀ c ∈ cs, c.l < vs.size ∧ c.r < vs.size ∧ c.unsat = false) : WF (SSt.init vs cs) := by
  have hI : IC (SSt.init vs cs).st := InvC.toRange (init_inv vs cs hv)
  have hnone : ∀ b : Nat, (Array.replicate vs.size (none : Option Heap))[b]! = none := fun b => by
    by_cases hlt : b < vs.size
    · rw [getElem!_pos _ b (by simpa using hlt)]; simp
    · rw [getElem!_neg _ b (by simpa using hlt)]; rfl
  refine ⟨hI, ?_, ?_, ?_⟩
  · -- member lists: block i = #[i], variable i in block i
    intro b v _ hmem hvlt
    show blk (St.init vs cs).vars v = b
    change v ∈ ((St.init vs cs).blocks[b]!).vars at hmem
    change v < (St.init vs cs).vars.size at hvlt
    unfold St.init at hmem hvlt ⊢
    simp only at hmem hvlt ⊢
    rw [← Array.foldl_toList] at hmem hvlt ⊢
    obtain ⟨fb, fs, fk⟩ := foldl_addConstraint_frame cs.toList
      { vars := vs.mapIdx fun i x => ({ desired := x.1, weight := x.2.1, scale := x.2.2, block := i } : Var),
        cons := #[], lm := #[],
        blocks := vs.mapIdx fun i x => ({ vars := #[i], scale := x.2.2, posn := x.1 } : Block),
        order := Array.range vs.size, inactive := #[] }
    rw [fb] at hmem
    rw [fs] at hvlt
    rw [fk]
    simp only [Array.size_mapIdx] at hvlt
    have hbv : b = v := by
      by_cases hb : b < vs.size
      · rw [Util.mapIdx_get! _ _ _ hb] at hmem
        have : v = b := by simpa using hmem
        exact this.symm
      · rw [getElem!_neg _ _ (by simpa using hb)] at hmem
        simp [default_block_vars] at hmem
    subst hbv
    unfold VpscInv.blk
    rw [Util.mapIdx_get! _ _ _ hvlt]
  · intro b h hb
    have : (SSt.init vs cs).hs.inH[b]! = none := hnone b
    rw [this] at hb; cases hb
  · intro b h hb
    have : (SSt.init vs cs).hs.outH[b]! = none := hnone b
    rw [this] at hb; cases hb

theorem init_bad (vs : Array (Rat × Rat × Rat)) (cs : Array Con) : (SSt.init vs cs).bad = false := by
  have : (St.init vs cs).fuelOut = false := by
    unfold St.init
    simp only
    rw [← Array.foldl_toList, foldl_addConstraint_fuel]
  unfold SSt.bad
  rw [show (SSt.init vs cs).st.fuelOut = false from this]
  rfl

theorem init_satisfy_total (vs : Array (Rat × Rat × Rat)) (cs : Array Con)
    (hv : ∀ c ∈ cs, c.l < vs.size ∧ c.r < vs.size ∧ c.unsat = false) :
    ((SSt.init vs cs).satisfy).1.bad = false :=
  (satisfy_pres _).bad (init_WF vs cs hv) (init_bad vs cs)

theorem init_solve_total (vs : Array (Rat × Rat × Rat)) (cs : Array Con)
    (hv : ∀ c ∈ cs, c.l < vs.size ∧ c.r < vs.size ∧ c.unsat = false) :
    ((SSt.init vs cs).solve).1.bad = false :=
  (solve_pres _).bad (init_WF vs cs hv) (init_bad vs cs)

end AdaptaVerif.Lemmas.VpscStaticMem
