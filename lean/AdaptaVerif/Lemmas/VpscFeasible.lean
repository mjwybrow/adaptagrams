/-
"No positive closed walk ⇒ potentials exist" for finite systems of difference constraints
`u_a + w ≤ u_b`, by eliminating one vertex at a time (Fourier–Motzkin on the constraint graph).
Together with `cycle_sum` this gives `Feasible ↔ ¬ PosCycle` (Props/C01).
-/
import AdaptaVerif.Lemmas.Vpsc
import AdaptaVerif.Lemmas.Util.Fold
namespace AdaptaVerif.Lemmas.VpscFeasible
open AdaptaVerif.Check.Vpsc AdaptaVerif.Spec.Vpsc

def Sat (u : Nat → Rat) (es : List Edge) : Prop := ∀ e ∈ es, EdgeHolds u e

def NoPos (es : List Edge) : Prop :=
  ∀ cyc : List Edge, (∀ e ∈ cyc, e ∈ es) → ClosedWalk cyc → sumW cyc ≤ 0

theorem walkEnd_append : ∀ (p q : List Edge) (a : Nat),
    walkEnd a (p ++ q) = (walkEnd a p).bind (fun m => walkEnd m q) := by
  intro p
  induction p with
  | nil => intro q a; simp [walkEnd]
  | cons e p ih =>
    intro q a
    simp only [List.cons_append, walkEnd]
    split
    · exact ih q e.b
    · simp

theorem sumW_append : ∀ (p q : List Edge), sumW (p ++ q) = sumW p + sumW q := by
  intro p
  induction p with
  | nil => intro q; simp [sumW]
  | cons e p ih => intro q; simp only [List.cons_append, sumW, ih]; ring

theorem walkEnd_head (a b : Nat) (e : Edge) (p : List Edge) (h : walkEnd a (e :: p) = some b) :
    e.a = a := by
  simp only [walkEnd] at h
  split at h
  · assumption
  · simp at h

/-! ### eliminating a vertex -/

def insOf (v : Nat) (es : List Edge) : List Edge := es.filter fun e => e.b == v && e.a != v
def outsOf (v : Nat) (es : List Edge) : List Edge := es.filter fun e => e.a == v && e.b != v
def restOf (v : Nat) (es : List Edge) : List Edge := es.filter fun e => e.a != v && e.b != v

def elim (v : Nat) (es : List Edge) : List Edge :=
  restOf v es ++ (insOf v es).flatMap fun i => (outsOf v es).map fun o => ⟨i.a, o.b, i.w + o.w⟩

theorem mem_insOf {v : Nat} {es : List Edge} {e : Edge} :
    e ∈ insOf v es ↔ e ∈ es ∧ e.b = v ∧ e.a ≠ v := by
  simp [insOf, List.mem_filter]

theorem mem_outsOf {v : Nat} {es : List Edge} {e : Edge} :
    e ∈ outsOf v es ↔ e ∈ es ∧ e.a = v ∧ e.b ≠ v := by
  simp [outsOf, List.mem_filter]

theorem mem_restOf {v : Nat} {es : List Edge} {e : Edge} :
    e ∈ restOf v es ↔ e ∈ es ∧ e.a ≠ v ∧ e.b ≠ v := by
  simp [restOf, List.mem_filter]

theorem mem_elim {v : Nat} {es : List Edge} {e : Edge} :
    e ∈ elim v es ↔ e ∈ restOf v es ∨
      ∃ i ∈ insOf v es, ∃ o ∈ outsOf v es, ⟨i.a, o.b, i.w + o.w⟩ = e := by
  simp only [elim, List.mem_append, List.mem_flatMap, List.mem_map]

theorem elim_realize (v : Nat) (es : List Edge) (e : Edge) (he : e ∈ elim v es) :
    ∃ p : List Edge, p ≠ [] ∧ (∀ x ∈ p, x ∈ es) ∧ walkEnd e.a p = some e.b ∧ sumW p = e.w := by
  rcases mem_elim.1 he with h | ⟨i, hi, o, ho, rfl⟩
  · refine ⟨[e], by simp, ?_, by simp [walkEnd], by simp [sumW]⟩
    intro x hx
    simp only [List.mem_singleton] at hx
    subst hx
    exact (mem_restOf.1 h).1
  · have hi' := mem_insOf.1 hi
    have ho' := mem_outsOf.1 ho
    refine ⟨[i, o], by simp, ?_, ?_, by simp [sumW]⟩
    · intro x hx
      simp only [List.mem_cons, List.not_mem_nil, or_false] at hx
      rcases hx with rfl | rfl
      · exact hi'.1
      · exact ho'.1
    · simp [walkEnd, hi'.2.1, ho'.2.1]

theorem walk_lift (v : Nat) (es : List Edge) : ∀ (ws : List Edge) (a b : Nat),
    (∀ e ∈ ws, e ∈ elim v es) → walkEnd a ws = some b →
    ∃ ps : List Edge, (∀ x ∈ ps, x ∈ es) ∧ walkEnd a ps = some b ∧ sumW ps = sumW ws ∧
      (ws ≠ [] → ps ≠ []) := by
  intro ws
  induction ws with
  | nil =>
    intro a b _ h
    exact ⟨[], by simp, h, rfl, by simp⟩
  | cons e ws ih =>
    intro a b hmem h
    have hea := walkEnd_head a b e ws h
    simp only [walkEnd, hea, if_true] at h
    obtain ⟨ps, hps, hw, hs, _⟩ := ih e.b b (fun x hx => hmem x (List.mem_cons_of_mem _ hx)) h
    obtain ⟨p, hpne, hp, hpw, hpsum⟩ := elim_realize v es e (hmem e List.mem_cons_self)
    refine ⟨p ++ ps, ?_, ?_, ?_, ?_⟩
    · intro x hx
      rcases List.mem_append.1 hx with h1 | h1
      · exact hp x h1
      · exact hps x h1
    · rw [walkEnd_append, ← hea, hpw]
      simpa using hw
    · rw [sumW_append, hpsum, hs]
      simp [sumW]
    · intro _ hnil
      exact hpne (List.append_eq_nil_iff.1 hnil).1

theorem nopos_elim (v : Nat) (es : List Edge) (h : NoPos es) : NoPos (elim v es) := by
  intro cyc hmem hc
  obtain ⟨e, rest, hcy, hw⟩ := hc
  obtain ⟨ps, hps, hpw, hsum, hne⟩ := walk_lift v es cyc e.a e.a hmem hw
  have hpne : ps ≠ [] := hne (by rw [hcy]; simp)
  cases ps with
  | nil => exact absurd rfl hpne
  | cons e2 r2 =>
    have h2 := walkEnd_head _ _ _ _ hpw
    have hcl : ClosedWalk (e2 :: r2) := ⟨e2, r2, rfl, by rw [h2]; exact hpw⟩
    have := h (e2 :: r2) hps hcl
    rw [← hsum]
    exact this

/-! ### choosing the value of the eliminated vertex -/

theorem extend (v : Nat) (es : List Edge) (hnp : NoPos es) (u' : Nat → Rat)
    (hs : Sat u' (elim v es)) : ∃ u, Sat u es := by
  have hbetween : ∀ l ∈ (insOf v es).map (fun i => u' i.a + i.w),
      ∀ h ∈ (outsOf v es).map (fun o => u' o.b - o.w), l ≤ h := by
    intro l hl h hh
    simp only [List.mem_map] at hl hh
    obtain ⟨i, hi, rfl⟩ := hl
    obtain ⟨o, ho, rfl⟩ := hh
    have := hs ⟨i.a, o.b, i.w + o.w⟩ (mem_elim.2 (Or.inr ⟨i, hi, o, ho, rfl⟩))
    simp only [EdgeHolds] at this
    linarith
  obtain ⟨x, hx1, hx2⟩ := Util.exists_between _ _ hbetween
  refine ⟨fun i => if i = v then x else u' i, ?_⟩
  intro e he
  simp only [EdgeHolds]
  by_cases ha : e.a = v <;> by_cases hb : e.b = v
  · -- self loop on v: weight ≤ 0 because there is no positive closed walk
    have hloop : sumW [e] ≤ 0 := hnp [e] (by simpa using he) ⟨e, [], rfl, by simp [walkEnd, ha, hb]⟩
    simp only [sumW] at hloop
    simp only [ha, hb, if_true]
    linarith
  · have ho : e ∈ outsOf v es := mem_outsOf.2 ⟨he, ha, hb⟩
    have := hx2 (u' e.b - e.w) (List.mem_map.2 ⟨e, ho, rfl⟩)
    simp only [ha, hb, if_true, if_false]
    linarith
  · have hi : e ∈ insOf v es := mem_insOf.2 ⟨he, hb, ha⟩
    have := hx1 (u' e.a + e.w) (List.mem_map.2 ⟨e, hi, rfl⟩)
    simp only [ha, hb, if_true, if_false]
    linarith
  · have hr : e ∈ elim v es := mem_elim.2 (Or.inl (mem_restOf.2 ⟨he, ha, hb⟩))
    have := hs e hr
    simp only [EdgeHolds] at this
    simp only [ha, hb, if_false]
    exact this

theorem exists_potential_aux : ∀ (vs : List Nat) (es : List Edge),
    (∀ e ∈ es, e.a ∈ vs ∧ e.b ∈ vs) → NoPos es → ∃ u, Sat u es := by
  intro vs
  induction vs with
  | nil =>
    intro es hv _
    refine ⟨fun _ => 0, ?_⟩
    intro e he
    exact absurd (hv e he).1 (by simp)
  | cons v vs ih =>
    intro es hv hnp
    have hv' : ∀ e ∈ elim v es, e.a ∈ vs ∧ e.b ∈ vs := by
      intro e he
      rcases mem_elim.1 he with h | ⟨i, hi, o, ho, rfl⟩
      · obtain ⟨h1, h2, h3⟩ := mem_restOf.1 h
        exact ⟨(List.mem_cons.1 (hv e h1).1).resolve_left h2, (List.mem_cons.1 (hv e h1).2).resolve_left h3⟩
      · obtain ⟨h1, _, h3⟩ := mem_insOf.1 hi
        obtain ⟨g1, _, g3⟩ := mem_outsOf.1 ho
        exact ⟨(List.mem_cons.1 (hv i h1).1).resolve_left h3, (List.mem_cons.1 (hv o g1).2).resolve_left g3⟩
    obtain ⟨u', hu'⟩ := ih (elim v es) hv' (nopos_elim v es hnp)
    exact extend v es hnp u' hu'

theorem exists_potential (es : List Edge) (h : NoPos es) : ∃ u, Sat u es :=
  exists_potential_aux (es.flatMap fun e => [e.a, e.b]) es (by
    intro e he
    constructor
    · exact List.mem_flatMap.2 ⟨e, he, by simp⟩
    · exact List.mem_flatMap.2 ⟨e, he, by simp⟩) h

end AdaptaVerif.Lemmas.VpscFeasible
