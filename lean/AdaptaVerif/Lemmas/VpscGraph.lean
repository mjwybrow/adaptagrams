/-
The graph of active constraints of the IncSolver model: adjacency, reachability, reachability
avoiding one constraint (for the "every active constraint is a bridge" = forest invariant).
Everything is index based (`cons[j]!`), because equal constraint values may occur at several indices.
Then explicit walks in the active graph; cutting one active constraint out of a connection (`reach_cut`);
in a forest (every active constraint is a bridge) a non-backtracking walk never repeats a constraint;
every connected pair is joined by a non-backtracking walk.
-/
import AdaptaVerif.Model.Vpsc
import Mathlib.Logic.Relation
import Mathlib.Tactic.Linarith
namespace AdaptaVerif.Lemmas.VpscGraph
open AdaptaVerif.Model.Vpsc
open Relation

/-- constraint `j` is an active edge joining `x` and `y` (in either direction) -/
def AE (cons : Array Con) (j x y : Nat) : Prop :=
  j < cons.size ∧ (cons[j]!).active = true ∧
    (((cons[j]!).l = x ∧ (cons[j]!).r = y) ∨ ((cons[j]!).l = y ∧ (cons[j]!).r = x))

theorem AE.symm {cons : Array Con} {j x y : Nat} (h : AE cons j x y) : AE cons j y x :=
  ⟨h.1, h.2.1, h.2.2.symm⟩

def Adj (P : Nat → Prop) (cons : Array Con) (x y : Nat) : Prop := ∃ j, P j ∧ AE cons j x y

theorem Adj.symm {P : Nat → Prop} {cons : Array Con} {x y : Nat} (h : Adj P cons x y) :
    Adj P cons y x := by
  obtain ⟨j, hp, h⟩ := h
  exact ⟨j, hp, h.symm⟩

def Reach (cons : Array Con) : Nat → Nat → Prop := ReflTransGen (Adj (fun _ => True) cons)

def ReachAvoid (cons : Array Con) (i : Nat) : Nat → Nat → Prop :=
  ReflTransGen (Adj (fun j => j ≠ i) cons)

theorem reflTransGen_symm {r : Nat → Nat → Prop} (hs : ∀ a b, r a b → r b a) {a b : Nat}
    (h : ReflTransGen r a b) : ReflTransGen r b a := by
  induction h with
  | refl => exact ReflTransGen.refl
  | tail _ hbc ih => exact ReflTransGen.head (hs _ _ hbc) ih

theorem rtg_mono {r s : Nat → Nat → Prop} (h : ∀ a b, r a b → s a b) {a b : Nat}
    (hr : ReflTransGen r a b) : ReflTransGen s a b := by
  induction hr with
  | refl => exact ReflTransGen.refl
  | tail _ hbc ih => exact ih.tail (h _ _ hbc)

theorem Reach.symm {cons : Array Con} {x y : Nat} (h : Reach cons x y) : Reach cons y x :=
  reflTransGen_symm (fun _ _ h => h.symm) h

theorem ReachAvoid.symm {cons : Array Con} {i x y : Nat} (h : ReachAvoid cons i x y) :
    ReachAvoid cons i y x :=
  reflTransGen_symm (fun _ _ h => h.symm) h

theorem ReachAvoid.toReach {cons : Array Con} {i x y : Nat} (h : ReachAvoid cons i x y) :
    Reach cons x y :=
  rtg_mono (fun _ _ ⟨j, _, hj⟩ => ⟨j, trivial, hj⟩) h

theorem reflTransGen_adj_mono {P Q : Nat → Prop} {cons cons' : Array Con}
    (h : ∀ j x y, P j → AE cons j x y → Q j ∧ AE cons' j x y) {x y : Nat}
    (hr : ReflTransGen (Adj P cons) x y) : ReflTransGen (Adj Q cons') x y :=
  rtg_mono (fun a b ⟨j, hp, hj⟩ => ⟨j, (h j a b hp hj).1, (h j a b hp hj).2⟩) hr

theorem reach_const {α : Type} (f : Nat → α) {P : Nat → Prop} {cons : Array Con}
    (h : ∀ j x y, AE cons j x y → f x = f y) {x y : Nat}
    (hr : ReflTransGen (Adj P cons) x y) : f x = f y := by
  induction hr with
  | refl => rfl
  | tail _ hbc ih =>
    obtain ⟨j, _, hj⟩ := hbc
    exact ih.trans (h j _ _ hj)

theorem reach_add_edge {R R' : Nat → Nat → Prop} {l r : Nat}
    (hstep : ∀ a b, R' a b → R a b ∨ (a = l ∧ b = r) ∨ (a = r ∧ b = l)) {x y : Nat}
    (h : ReflTransGen R' x y) :
    ReflTransGen R x y ∨ (ReflTransGen R x l ∧ ReflTransGen R r y) ∨
      (ReflTransGen R x r ∧ ReflTransGen R l y) := by
  induction h with
  | refl => exact Or.inl ReflTransGen.refl
  | tail _ hbc ih =>
    rcases hstep _ _ hbc with hold | ⟨rfl, rfl⟩ | ⟨rfl, rfl⟩
    · rcases ih with h1 | ⟨h1, h2⟩ | ⟨h1, h2⟩
      · exact Or.inl (h1.tail hold)
      · exact Or.inr (Or.inl ⟨h1, h2.tail hold⟩)
      · exact Or.inr (Or.inr ⟨h1, h2.tail hold⟩)
    · rcases ih with h1 | ⟨h1, _⟩ | ⟨h1, _⟩
      · exact Or.inr (Or.inl ⟨h1, ReflTransGen.refl⟩)
      · exact Or.inr (Or.inl ⟨h1, ReflTransGen.refl⟩)
      · exact Or.inl h1
    · rcases ih with h1 | ⟨h1, _⟩ | ⟨h1, _⟩
      · exact Or.inr (Or.inr ⟨h1, ReflTransGen.refl⟩)
      · exact Or.inl h1
      · exact Or.inr (Or.inr ⟨h1, ReflTransGen.refl⟩)

end AdaptaVerif.Lemmas.VpscGraph

namespace AdaptaVerif.Lemmas.VpscWalk
open AdaptaVerif.Model.Vpsc
open AdaptaVerif.Lemmas.VpscGraph
open Relation

/-- a step: constraint index, from, to -/
abbrev Step := Nat × Nat × Nat

inductive Walk (cons : Array Con) : Nat → Nat → List Step → Prop
  | nil (x : Nat) : Walk cons x x []
  | cons {j a b c : Nat} {rest : List Step} : AE cons j a b → Walk cons b c rest →
      Walk cons a c ((j, a, b) :: rest)

/-- non-backtracking (at the level of vertices), the vertex we came from being `u` -/
def NB : Option Nat → List Step → Prop
  | _, [] => True
  | u, (_, a, b) :: rest => u ≠ some b ∧ NB (some a) rest

theorem walk_nil_eq {cons : Array Con} {x y : Nat} (h : Walk cons x y []) : x = y := by
  generalize hw : ([] : List Step) = W at h
  cases h with
  | nil => rfl
  | cons _ _ => simp at hw

theorem Walk.append {cons : Array Con} : ∀ {P Q : List Step} {x m y : Nat},
    Walk cons x m P → Walk cons m y Q → Walk cons x y (P ++ Q) := by
  intro P
  induction P with
  | nil => intro Q x m y hp hq; cases hp; exact hq
  | cons s P ih =>
    intro Q x m y hp hq
    cases hp with
    | cons hae hrest => exact Walk.cons hae (ih hrest hq)

theorem Walk.split {cons : Array Con} : ∀ {P Q : List Step} {x y : Nat},
    Walk cons x y (P ++ Q) → ∃ m, Walk cons x m P ∧ Walk cons m y Q := by
  intro P
  induction P with
  | nil => intro Q x y h; exact ⟨x, Walk.nil x, h⟩
  | cons s P ih =>
    intro Q x y h
    cases h with
    | cons hae hrest =>
      obtain ⟨m, h1, h2⟩ := ih hrest
      exact ⟨m, Walk.cons hae h1, h2⟩

theorem Walk.reachAvoid {cons : Array Con} {e : Nat} : ∀ {W : List Step} {x y : Nat},
    Walk cons x y W → (∀ s ∈ W, s.1 ≠ e) → ReachAvoid cons e x y := by
  intro W
  induction W with
  | nil => intro x y h _; cases h; exact ReflTransGen.refl
  | cons s W ih =>
    intro x y h hne
    cases h with
    | cons hae hrest =>
      exact ReflTransGen.head ⟨_, hne _ List.mem_cons_self, hae⟩
        (ih hrest (fun s hs => hne s (List.mem_cons_of_mem _ hs)))

theorem Walk.reach {cons : Array Con} : ∀ {W : List Step} {x y : Nat},
    Walk cons x y W → Reach cons x y := by
  intro W
  induction W with
  | nil => intro x y h; cases h; exact ReflTransGen.refl
  | cons s W ih =>
    intro x y h
    cases h with
    | cons hae hrest => exact ReflTransGen.head ⟨_, trivial, hae⟩ (ih hrest)

theorem ae_ends {cons : Array Con} {j a b a' b' : Nat} (h : AE cons j a b) (h' : AE cons j a' b') :
    (a' = a ∧ b' = b) ∨ (a' = b ∧ b' = a) := by
  obtain ⟨_, _, h3⟩ := h
  obtain ⟨_, _, h3'⟩ := h'
  rcases h3 with ⟨rfl, rfl⟩ | ⟨rfl, rfl⟩ <;> rcases h3' with ⟨rfl, rfl⟩ | ⟨rfl, rfl⟩
  · exact Or.inl ⟨rfl, rfl⟩
  · exact Or.inr ⟨rfl, rfl⟩
  · exact Or.inr ⟨rfl, rfl⟩
  · exact Or.inl ⟨rfl, rfl⟩

theorem reach_cut {cons : Array Con} {P : Nat → Prop} {k l r x y : Nat} (hk : AE cons k l r)
    (h : ReflTransGen (Adj P cons) x y) :
    ReflTransGen (Adj (fun i => P i ∧ i ≠ k) cons) x y ∨
    (ReflTransGen (Adj (fun i => P i ∧ i ≠ k) cons) x l ∧
      ReflTransGen (Adj (fun i => P i ∧ i ≠ k) cons) r y) ∨
    (ReflTransGen (Adj (fun i => P i ∧ i ≠ k) cons) x r ∧
      ReflTransGen (Adj (fun i => P i ∧ i ≠ k) cons) l y) :=
  reach_add_edge (fun a b ⟨i, hi, hae⟩ => by
    by_cases hik : i = k
    · subst hik
      rcases ae_ends hk hae with ⟨rfl, rfl⟩ | ⟨rfl, rfl⟩
      · exact Or.inr (Or.inl ⟨rfl, rfl⟩)
      · exact Or.inr (Or.inr ⟨rfl, rfl⟩)
    · exact Or.inl ⟨i, ⟨hi, hik⟩, hae⟩) h

theorem avoid_fst {cons : Array Con} {P : Nat → Prop} {k a b : Nat}
    (h : ReflTransGen (Adj (fun i => P i ∧ i ≠ k) cons) a b) : ReflTransGen (Adj P cons) a b :=
  rtg_mono (fun _ _ ⟨i, hi, hh⟩ => ⟨i, hi.1, hh⟩) h

theorem avoid_snd {cons : Array Con} {P : Nat → Prop} {k a b : Nat}
    (h : ReflTransGen (Adj (fun i => P i ∧ i ≠ k) cons) a b) : ReachAvoid cons k a b :=
  rtg_mono (fun _ _ ⟨i, hi, hh⟩ => ⟨i, hi.2, hh⟩) h

/-- forest: every active constraint is a bridge -/
def Forest (cons : Array Con) : Prop :=
  ∀ j a b : Nat, AE cons j a b → ¬ ReachAvoid cons j a b

theorem nodup_split_avoid {P S : List Step} {t : Step}
    (hnd : ((P ++ t :: S).map (·.1)).Nodup) :
    (∀ s ∈ P, s.1 ≠ t.1) ∧ (∀ s ∈ S, s.1 ≠ t.1) := by
  rw [List.map_append, List.map_cons, List.nodup_append, List.nodup_cons] at hnd
  exact ⟨fun s hs heq => hnd.2.2 _ (List.mem_map.2 ⟨s, hs, rfl⟩) _ List.mem_cons_self heq,
    fun s hs heq => hnd.2.1.1 (by rw [← heq]; exact List.mem_map.2 ⟨s, hs, rfl⟩)⟩

theorem Walk.nodup {cons : Array Con} (hf : Forest cons) : ∀ {W : List Step} {x y : Nat} {u : Option Nat},
    Walk cons x y W → NB u W → (W.map (·.1)).Nodup := by
  intro W
  induction W with
  | nil => intro x y u _ _; simp
  | cons s W ih =>
    intro x y u h hnb
    cases h with
    | @cons j a b c rest hae hrest =>
      have hnd : (W.map (·.1)).Nodup := ih hrest hnb.2
      rw [List.map_cons, List.nodup_cons]
      refine ⟨?_, hnd⟩
      intro hmem
      obtain ⟨t, htW, hte⟩ := List.mem_map.1 hmem
      obtain ⟨P, S, hPS⟩ := List.append_of_mem htW
      subst hPS
      obtain ⟨m, hP, hS⟩ := Walk.split hrest
      obtain ⟨tj, ta, tb⟩ := t
      simp only at hte
      subst hte
      cases hS with
      | cons haet hS' =>
        have hreachP := Walk.reachAvoid hP (nodup_split_avoid hnd).1
        rcases ae_ends hae haet with ⟨rfl, rfl⟩ | ⟨rfl, rfl⟩
        · -- t leaves from `a`: then b ~ a avoiding the constraint
          exact hf _ _ _ hae hreachP.symm
        · -- t goes b → a
          cases P with
          | nil =>
            -- t is the first step of the rest: immediate backtracking
            exact hnb.2.1 rfl
          | cons s' P' =>
            cases hP with
            | @cons j' a' b' c' rest' hae' hP' =>
              exact hf _ _ _ hae' (Walk.reachAvoid hP' (fun s hs =>
                (nodup_split_avoid (P := []) hnd).2 s (List.mem_append_left _ hs))).symm

/-! ### shortening: connected ⇒ joined by a non-backtracking walk -/

theorem exists_walk {cons : Array Con} {x y : Nat} (h : Reach cons x y) : ∃ W, Walk cons x y W := by
  induction h using ReflTransGen.head_induction_on with
  | refl => exact ⟨[], Walk.nil _⟩
  | head hab _ ih =>
    obtain ⟨W, hW⟩ := ih
    obtain ⟨j, _, hj⟩ := hab
    exact ⟨_, Walk.cons hj hW⟩

theorem shorten {cons : Array Con} : ∀ (W : List Step) (x y : Nat) (u : Option Nat),
    Walk cons x y W → ¬ NB u W →
    (∃ j b rest, W = (j, x, b) :: rest ∧ u = some b) ∨
    (∃ W', Walk cons x y W' ∧ W'.length < W.length) := by
  intro W
  induction W with
  | nil => intro x y u _ hnb; exact absurd trivial hnb
  | cons s W ih =>
    intro x y u h hnb
    cases h with
    | @cons j a b c rest hae hrest =>
      by_cases hu : u = some b
      · exact Or.inl ⟨j, b, W, rfl, hu⟩
      · have hnb' : ¬ NB (some x) W := fun hh => hnb ⟨hu, hh⟩
        rcases ih b y (some x) hrest hnb' with ⟨j', b', rest', hW, hx⟩ | ⟨W', hW', hlen⟩
        · -- x → b → x → … : drop the first two steps
          subst hW
          have hbx : b' = x := by simpa using hx.symm
          subst hbx
          cases hrest with
          | cons _ hrest' =>
            exact Or.inr ⟨rest', hrest', by simp; omega⟩
        · exact Or.inr ⟨(j, x, b) :: W', Walk.cons hae hW', by simp; omega⟩

theorem exists_nb_walk {cons : Array Con} {x y : Nat} (h : Reach cons x y) :
    ∃ W, Walk cons x y W ∧ NB none W := by
  obtain ⟨W, hW⟩ := exists_walk h
  induction hn : W.length using Nat.strong_induction_on generalizing W with
  | _ n ih =>
    by_cases hnb : NB none W
    · exact ⟨W, hW, hnb⟩
    · rcases shorten W x y none hW hnb with ⟨_, _, _, _, hu⟩ | ⟨W', hW', hlen⟩
      · exact absurd hu (by simp)
      · exact ih W'.length (by omega) W' hW' rfl

end AdaptaVerif.Lemmas.VpscWalk
