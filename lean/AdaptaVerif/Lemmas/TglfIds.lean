import AdaptaVerif.Model.TglfIds
import AdaptaVerif.Lemmas.Util.Fold
namespace AdaptaVerif.Lemmas.TglfIds
open AdaptaVerif.Model.TglfIds

theorem ext_le_maxExt (ns : List NodeId) (n : NodeId) (h : n ∈ ns) : n.ext ≤ maxExt ns :=
  (Util.le_foldl_max NodeId.ext ns (-1)).2 n h

theorem maxExt_ge_neg_one (ns : List NodeId) : -1 ≤ maxExt ns := (Util.le_foldl_max NodeId.ext ns (-1)).1

theorem firstLacking_le (ns : List NodeId) (hs : ns.Pairwise (fun a b => a.id < b.id))
    (n : NodeId) (h : n ∈ ns) (hn : n.ext = -1) : firstLacking ns ≤ (n.id : Int) := by
  unfold firstLacking
  induction ns with
  | nil => cases h
  | cons a t ih =>
    rw [List.pairwise_cons] at hs
    by_cases ha : a.ext = -1
    · simp only [List.find?_cons, ha, beq_self_eq_true]
      rcases List.mem_cons.mp h with rfl | h
      · exact Int.le_refl _
      · have := hs.1 n h; omega
    · have hb : (a.ext == -1) = false := by simpa using ha
      simp only [List.find?_cons, hb]
      rcases List.mem_cons.mp h with rfl | h
      · exact absurd hn ha
      · exact ih hs.2 h

end AdaptaVerif.Lemmas.TglfIds
