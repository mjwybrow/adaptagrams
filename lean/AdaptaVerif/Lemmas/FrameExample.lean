/-
C20: a concrete VPSC instance used by the non-vacuity examples of Props/C20.lean
(two variables wanting to sit at 0, constraint x0 + 2 ≤ x1: the optimum is (-1, 1)).
-/
import AdaptaVerif.Lemmas.FrameVpsc
import AdaptaVerif.Lemmas.QpCheck
namespace AdaptaVerif.Lemmas.FrameExample
open AdaptaVerif.Model.Frame

def exP : VProblem := { n := 2, desired := fun _ => 0, weight := fun _ => 1, cons := [⟨0, 1, 2⟩] }
def exX : Nat → Rat := fun i => if i = 0 then -1 else 1

theorem ex_check : Check.Kkt.checkKkt (FrameVpsc.qp exP) exX [2] = true := by decide +kernel

theorem exP_wf : exP.WF := (FrameVpsc.wf_qp exP).1 (Qp.checkKkt_kkt _ _ _ ex_check).1

theorem exX_optimum : exP.IsOptimum exX :=
  (FrameVpsc.isOptimum_qp exP exX).1
    (Qp.kkt_optimal _ _ _ (Qp.checkKkt_kkt _ _ _ ex_check).1 (Qp.checkKkt_kkt _ _ _ ex_check).2)

theorem exPerm : IsPerm exP.n (fun i => 1 - i) (fun i => 1 - i) := by
  refine ⟨fun i hi => ?_, fun j hj => ?_⟩ <;> simp only [exP] at * <;> omega

end AdaptaVerif.Lemmas.FrameExample
