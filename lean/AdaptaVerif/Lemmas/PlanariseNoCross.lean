/-
Geometry of the pieces during the computeCrossings sweep.  `Layout`: every piece has an owner among the input segments and
is its tail or lies before it, said once for both orientations in the coordinates along / across a line; with the
connections and "no crossing node strictly inside a piece" it makes `Geo`, kept by every cut (`geo_cross`: two cuts of one
segment).  `computeCrossings_inv`: the one run of the whole sweep with all its invariants, the geometry in the H/V-explicit
form `Tr`, `Pc`; the reported crossings (`computeCrossings_spec`), the connections (`computeCrossings_reach`), `piece_within`
and `no_pieces_cross` are read off it.
-/
import AdaptaVerif.Lemmas.PlanariseConn
namespace AdaptaVerif.Lemmas.Planarise
open AdaptaVerif.Model.Planarise

variable {S : List Seg} {st : SwState}

/-- `p` lies strictly inside the axis-parallel piece `t` -/
def InsideP (p : Pt) (t : Seg) : Prop :=
  (t.on.p.y = t.cn.p.y ∧ p.y = t.on.p.y ∧ ((t.on.p.x < p.x ∧ p.x < t.cn.p.x) ∨ (t.cn.p.x < p.x ∧ p.x < t.on.p.x))) ∨
  (t.on.p.x = t.cn.p.x ∧ p.x = t.on.p.x ∧ ((t.on.p.y < p.y ∧ p.y < t.cn.p.y) ∨ (t.cn.p.y < p.y ∧ p.y < t.on.p.y)))

theorem insideP_along {s t : Seg} {u v : Rat} (h : Along s t u v) (c : Node) :
    InsideP c.p t ↔ ccOf s.ori c = s.cc ∧ ((u < vcOf s.ori c ∧ vcOf s.ori c < v) ∨ (v < vcOf s.ori c ∧ vcOf s.ori c < u)) := by
  obtain ⟨h1, h2, h3, h4⟩ := h
  unfold InsideP
  cases ho : s.ori <;> simp only [ho, ccOf_H, vcOf_H, ccOf_V, vcOf_V] at * <;> grind

/-- where the pieces are: every piece has an owner `j`; it is the tail of `j` (what its OPEN/SUSTAIN event points to, from the
event's end node to the far end of `S[j]`) or lies on `S[j]` before the tail. -/
structure Layout (S : List Seg) (st : SwState) : Prop where
  inj : ∀ i j ei ej, st.evs[2 * i]? = some ei → st.evs[2 * j]? = some ej → ei.seg = ej.seg → i = j
  tail : ∀ j s e, S[j]? = some s → st.evs[2 * j]? = some e →
    s.lo ≤ vcOf s.ori e.endpt ∧ vcOf s.ori e.endpt ≤ s.hi ∧ (s.ori = .V → vcOf s.ori e.endpt < s.hi) ∧
    ∃ t, st.segs[e.seg]? = some t ∧ Along s t (vcOf s.ori e.endpt) s.hi ∧ (vcOf s.ori e.endpt < s.hi → t.cn = s.cn)
  own : ∀ a t, st.segs[a]? = some t → ∃ j s e, S[j]? = some s ∧ st.evs[2 * j]? = some e ∧
    (e.seg = a ∨ ∃ u v, Along s t u v ∧ s.lo ≤ u ∧ u ≤ v ∧ v ≤ vcOf s.ori e.endpt)

theorem Layout.lt (hL : Layout S st) (hlen : st.evs.length = 2 * S.length) {m : Nat} {em : Ev}
    (h : st.evs[2 * m]? = some em) : em.seg < st.segs.length := by
  have hml : m < S.length := by have := (List.getElem?_eq_some_iff.1 h).1; omega
  have hsm := List.getElem?_eq_getElem hml
  obtain ⟨_, _, _, t, ht, _⟩ := hL.tail m _ em hsm h
  exact (List.getElem?_eq_some_iff.1 ht).1

theorem Layout.congr {st' : SwState} (hL : Layout S st) (h : GeoEq st st') : Layout S st' := by
  refine ⟨?_, ?_, ?_⟩
  · intro i j ei ej hi hj hs
    obtain ⟨ei0, a1, a2, _⟩ := h.ev hi
    obtain ⟨ej0, b1, b2, _⟩ := h.ev hj
    exact hL.inj i j ei0 ej0 a1 b1 (by rw [← a2, ← b2]; exact hs)
  · intro j s e hs he
    obtain ⟨e0, a1, a2, a3⟩ := h.ev he
    rw [h.segs, a2, a3]; exact hL.tail j s e0 hs a1
  · intro a t ht
    rw [h.segs] at ht
    obtain ⟨j, s, e, hs, he, hh⟩ := hL.own a t ht
    obtain ⟨e', c1, c2, c3⟩ := h.symm.ev he
    exact ⟨j, s, e', hs, c1, by rw [← c2, ← c3]; exact hh⟩

theorem Layout.cut {st' : SwState} (hL : Layout S st) (hI : st.evs.length = 2 * S.length) {j : Nat} {s : Seg} {e : Ev}
    {so : Seg} {cr : Node} (hs : S[j]? = some s) (hc : IsCut st st' j e so cr s.cn) (hp : CutAt s e cr) : Layout S st' := by
  obtain ⟨e', he', hseg', hend', _⟩ := hc.ev
  have he := hc.he
  obtain ⟨b1, _, _, t0, ht0, hal, _⟩ := hL.tail j s e hs he
  rw [hc.hso] at ht0; cases ht0
  obtain ⟨n1, n2, n3⟩ := mkSeg_along hp.shape hp.cc hp.hi hp.hiV
  have hold : ∀ m em, m ≠ j → st.evs[2 * m]? = some em → st'.segs[em.seg]? = st.segs[em.seg]? := fun m em hm h =>
    hc.seg_rest _ (fun q => hm (hL.inj m j em e h he q)) (Nat.ne_of_lt (hL.lt hI h))
  refine ⟨?_, ?_, ?_⟩
  · intro a b ea eb ha hb hab
    by_cases haj : a = j <;> by_cases hbj : b = j
    · rw [haj, hbj]
    · subst haj; rw [he'] at ha; cases ha; rw [hc.ev_old hbj] at hb
      have := hL.lt hI hb; omega
    · subst hbj; rw [he'] at hb; cases hb; rw [hc.ev_old haj] at ha
      have := hL.lt hI ha; omega
    · rw [hc.ev_old haj] at ha; rw [hc.ev_old hbj] at hb; exact hL.inj a b ea eb ha hb hab
  · intro m sm em hsm hem
    by_cases hmj : m = j
    · subst hmj; rw [hs] at hsm; cases hsm; rw [he'] at hem; cases hem
      rw [hend', hseg']
      exact ⟨Rat.le_trans b1 hp.lo, hp.hi, hp.hiV, _, hc.seg_new, n1, n3⟩
    · rw [hc.ev_old hmj] at hem
      rw [hold m em hmj hem]; exact hL.tail m sm em hsm hem
  · intro a t ht
    by_cases haL : a = st.segs.length
    · exact ⟨j, s, e', hs, he', Or.inl (by rw [hseg', haL])⟩
    by_cases hae : a = e.seg
    · subst hae; rw [hc.seg_cut] at ht; cases ht
      exact ⟨j, s, e', hs, he', Or.inr ⟨_, _, hal.setNewClosing hp.cc, b1, hp.lo, by rw [hend']; exact Rat.le_refl⟩⟩
    rw [hc.seg_rest a hae haL] at ht
    obtain ⟨m, sm, em, hsm, hem, h⟩ := hL.own a t ht
    by_cases hmj : m = j
    · subst hmj; rw [hs] at hsm; cases hsm; rw [he] at hem; cases hem
      rcases h with h | ⟨u, v, g1, g2, g3, g4⟩
      · exact absurd h.symm hae
      · exact ⟨m, s, e', hs, he', Or.inr ⟨u, v, g1, g2, g3, by rw [hend']; exact Rat.le_trans g4 hp.lo⟩⟩
    · exact ⟨m, sm, em, hsm, by rw [hc.ev_old hmj]; exact hem, h⟩

theorem IsCut.ni {st' : SwState} (hL : Layout S st) {j : Nat} {s : Seg} {e : Ev} {so : Seg} {cr : Node}
    (hs : S[j]? = some s) (hc : IsCut st st' j e so cr s.cn) (hp : CutAt s e cr) (c : Node)
    (hn : ∀ (a : Nat) t, st.segs[a]? = some t → ¬ InsideP c.p t) : ∀ (a : Nat) t, st'.segs[a]? = some t → ¬ InsideP c.p t := by
  obtain ⟨_, _, _, t0, ht0, hal, _⟩ := hL.tail j s e hs hc.he
  rw [hc.hso] at ht0; cases ht0
  have hno := hn _ _ hc.hso
  rw [insideP_along hal] at hno
  have h1 := hp.lo
  have h2 := hp.hi
  intro a t ht hin
  by_cases haL : a = st.segs.length
  · subst haL; rw [hc.seg_new] at ht; cases ht
    rw [insideP_along (mkSeg_along hp.shape hp.cc hp.hi hp.hiV).1] at hin; grind
  by_cases hae : a = e.seg
  · subst hae; rw [hc.seg_cut] at ht; cases ht
    rw [insideP_along (hal.setNewClosing hp.cc)] at hin; grind
  rw [hc.seg_rest a hae haL] at ht; exact hn a t ht hin

theorem Layout.ni_new (hG : Good S) (hL : Layout S st) {i k : Nat} {si sk : Seg} {ei ek : Ev} {cr : Node}
    (hsi : S[i]? = some si) (hHi : si.ori = .H) (hsk : S[k]? = some sk) (hVk : sk.ori = .V)
    (hei : st.evs[2 * i]? = some ei) (hek : st.evs[2 * k]? = some ek) (hi : ei.endpt = cr) (hk : ek.endpt = cr)
    (hx : cr.p.x = sk.cc) (hy : cr.p.y = si.cc) (x1 : si.lo < sk.cc) (x2 : sk.cc ≤ si.hi) (y1 : sk.lo < si.cc)
    (y2 : si.cc < sk.hi) : ∀ (a : Nat) t, st.segs[a]? = some t → ¬ InsideP cr.p t := by
  intro a t ht hin
  obtain ⟨m, sm, em, hsm, hem, h⟩ := hL.own a t ht
  obtain ⟨b1, b2, _, t', ht', hal', _⟩ := hL.tail m sm em hsm hem
  -- the piece runs from `u` to `v` inside `sm`, and does not contain the end node of the event of `m`
  obtain ⟨u, v, hal, g1, g2, g3, g4⟩ : ∃ u v, Along sm t u v ∧ sm.lo ≤ u ∧ u ≤ v ∧ v ≤ sm.hi ∧
      (vcOf sm.ori em.endpt ≤ u ∨ v ≤ vcOf sm.ori em.endpt) := by
    rcases h with h | ⟨u, v, g1, g2, g3, g4⟩
    · rw [h, ht] at ht'; cases ht'; exact ⟨_, _, hal', b1, b2, Rat.le_refl, Or.inl Rat.le_refl⟩
    · exact ⟨u, v, g1, g2, g3, Rat.le_trans g4 b2, Or.inr g4⟩
  rw [insideP_along hal] at hin
  obtain ⟨hcc, hin⟩ := hin
  have hin : sm.lo < vcOf sm.ori cr ∧ vcOf sm.ori cr < sm.hi := by grind
  by_cases hmi : m = i
  · subst hmi; rw [hei] at hem; cases hem; rw [hi] at g4; grind
  by_cases hmk : m = k
  · subst hmk; rw [hek] at hem; cases hem; rw [hk] at g4; grind
  cases ho : sm.ori
  · exact hG.not_inside_other hsi hsm hmi (by rw [ho, hHi]) (by rw [hHi, ccOf_H, hy]) (by rw [hHi, vcOf_H, hx]; exact x1)
      (by rw [hHi, vcOf_H, hx]; exact x2) hcc hin
  · exact hG.not_inside_other hsk hsm hmk (by rw [ho, hVk]) (by rw [hVk, ccOf_V, hx]) (by rw [hVk, vcOf_V, hy]; exact y1)
      (by rw [hVk, vcOf_V, hy]; exact Rat.le_of_lt y2) hcc hin

structure Geo (S : List Seg) (st : SwState) : Prop where
  lay : Layout S st
  reach : ∀ (i : Nat) (s : Seg), S[i]? = some s → Reach st.segs st.cross s.on s.cn
  ni : ∀ c ∈ st.cross, ∀ (a : Nat) t, st.segs[a]? = some t → ¬ InsideP c.p t

theorem Geo.congr {st' : SwState} (hg : Geo S st) (h : GeoEq st st') : Geo S st' :=
  ⟨hg.lay.congr h, by rw [h.segs, h.cross]; exact hg.reach, by rw [h.segs, h.cross]; exact hg.ni⟩

theorem geo_cross {P : Nat → Prop} (hG : Good S) (hI : Inv S P st) (hg : Geo S st) {X : Rat} {part pre : List Nat}
    {i k : Nat} {si sk : Seg} {e ov : Ev} {so sv : Seg} (hc : Cut S X part pre st i k si sk e ov so sv)
    (hlt : e.endpt.p.x < si.hi) (hXe : e.endpt.p.x ≤ sk.cc) (hYe : ov.endpt.p.y ≤ si.cc) :
    Geo S (crossAt st (2 * i) (2 * k) e ov) := by
  obtain ⟨st1, st2, c1, c2, heq⟩ := hc.two hI
  rw [heq]
  obtain ⟨oi, ok, ci, vi, ck, vk, hXhi⟩ := hc.node hG st.nextId
  have pi : CutAt si e ⟨st.nextId, ⟨sk.cc, si.cc⟩⟩ :=
    ⟨oi, ci, by rw [vi, hc.hH, vcOf_H]; exact hXe, by rw [vi]; exact hXhi, fun h => by rw [hc.hH] at h; cases h⟩
  have pk : CutAt sk ov ⟨st.nextId, ⟨sk.cc, si.cc⟩⟩ :=
    ⟨ok, ck, by rw [vk, hc.hV, vcOf_V]; exact hYe, by rw [vk]; exact Rat.le_of_lt hc.hi, fun _ => by rw [vk]; exact hc.hi⟩
  have L1 := hg.lay.cut hI.len hc.hsi c1 pi
  have L2 := L1.cut (c1.len.trans hI.len) hc.hsk c2 pk
  -- as in `inv_cross`: the state is `st2` with `cross` and `nextId` replaced, which `Layout` does not read
  refine ⟨⟨L2.inj, L2.tail, L2.own⟩, ?_, ?_⟩
  · -- the pieces cut end at the far ends of the two segments
    obtain ⟨_, _, _, ti, hti, _, hcni⟩ := hg.lay.tail i si e hc.hsi hc.he
    rw [hc.hso] at hti; cases hti
    obtain ⟨_, _, hkV, tk, htk, _, hcnk⟩ := L1.tail k sk ov hc.hsk c2.he
    rw [c2.hso] at htk; cases htk
    intro j s hs
    have r := c2.reach (hcnk (hkV hc.hV)) (c1.reach (hcni (by rw [hc.hH, vcOf_H]; exact hlt)) (hg.reach j s hs))
    exact r.mono (fun m hm => (List.mem_cons.1 hm).elim (fun h => List.mem_cons.2 (Or.inl h)) id)
  · intro c hcm
    rcases List.mem_cons.1 hcm with rfl | hcm
    · obtain ⟨ek, hek, _, hekp, _⟩ := c2.ev
      obtain ⟨ei, hei, _, heip, _⟩ := c1.ev
      rw [← c2.ev_old (H_not_V hc.hsi hc.hH hc.hsk hc.hV)] at hei
      exact L2.ni_new hG hc.hsi hc.hH hc.hsk hc.hV hei hek heip hekp rfl rfl (hc.hX ▸ hc.loX) hXhi hc.lo hc.hi
    · exact c2.ni L1 hc.hsk pk c (c1.ni hg.lay hc.hsi pi c (hg.ni c hcm))

theorem Along.pts {s t : Seg} {u v : Rat} (h : Along s t u v) :
    (s.ori = .H → t.on.p = ⟨u, s.cc⟩ ∧ t.cn.p = ⟨v, s.cc⟩) ∧ (s.ori = .V → t.on.p = ⟨s.cc, u⟩ ∧ t.cn.p = ⟨s.cc, v⟩) := by
  obtain ⟨h1, h2, h3, h4⟩ := h
  constructor <;> intro ho <;>
    simp only [ho, ccOf_H, vcOf_H, ccOf_V, vcOf_V] at h1 h2 h3 h4 <;>
    exact ⟨by rw [pt_eta t.on.p, h1, h3], by rw [pt_eta t.cn.p, h2, h4]⟩

/-- geometry of the pieces: the tail of every segment spans from its event's end node to the original far end;
every other piece is frozen, inside its original segment and not beyond the tail start; no crossing node lies
strictly inside a piece -/
structure Pc (S : List Seg) (st : SwState) : Prop where
  tailH : ∀ (i : Nat) (si : Seg) (e : Ev), S[i]? = some si → si.ori = .H → st.evs[2 * i]? = some e →
    ∃ t, st.segs[e.seg]? = some t ∧ t.on.p = ⟨e.endpt.p.x, si.cc⟩ ∧ t.cn.p = ⟨si.hi, si.cc⟩ ∧
      si.lo ≤ e.endpt.p.x ∧ e.endpt.p.x ≤ si.hi
  tailV : ∀ (k : Nat) (sk : Seg) (ov : Ev), S[k]? = some sk → sk.ori = .V → st.evs[2 * k]? = some ov →
    ∃ t, st.segs[ov.seg]? = some t ∧ t.on.p = ⟨sk.cc, ov.endpt.p.y⟩ ∧ t.cn.p = ⟨sk.cc, sk.hi⟩ ∧
      sk.lo ≤ ov.endpt.p.y ∧ ov.endpt.p.y ≤ sk.hi
  frozen : ∀ (a : Nat) (t : Seg), st.segs[a]? = some t → (∀ (j : Nat) (ej : Ev), st.evs[2 * j]? = some ej → ej.seg ≠ a) →
    ∃ (j : Nat) (sj : Seg) (ej : Ev), S[j]? = some sj ∧ st.evs[2 * j]? = some ej ∧
      ((sj.ori = .H ∧ t.on.p.y = sj.cc ∧ t.cn.p.y = sj.cc ∧ sj.lo ≤ t.on.p.x ∧ t.on.p.x ≤ ej.endpt.p.x ∧
          sj.lo ≤ t.cn.p.x ∧ t.cn.p.x ≤ ej.endpt.p.x ∧ ej.endpt.p.x ≤ sj.hi) ∨
       (sj.ori = .V ∧ t.on.p.x = sj.cc ∧ t.cn.p.x = sj.cc ∧ sj.lo ≤ t.on.p.y ∧ t.on.p.y ≤ ej.endpt.p.y ∧
          sj.lo ≤ t.cn.p.y ∧ t.cn.p.y ≤ ej.endpt.p.y ∧ ej.endpt.p.y ≤ sj.hi))
  ni : ∀ (a : Nat) (t : Seg) (c : Node), st.segs[a]? = some t → c ∈ st.cross → ¬ InsideP c.p t

theorem Geo.tr (hg : Geo S st) : Tr S st := by
  refine ⟨hg.reach, hg.lay.inj, ?_, ?_⟩
  · intro k sk ov hs hV ho
    obtain ⟨_, _, b3, t, ht, _, hcn⟩ := hg.lay.tail k sk ov hs ho
    have hv : vcOf sk.ori ov.endpt = ov.endpt.p.y := by rw [hV, vcOf_V]
    rw [hv] at b3 hcn
    exact ⟨b3 hV, t, ht, hcn (b3 hV)⟩
  · intro i si e hs hH he hlt
    obtain ⟨_, _, _, t, ht, _, hcn⟩ := hg.lay.tail i si e hs he
    have hv : vcOf si.ori e.endpt = e.endpt.p.x := by rw [hH, vcOf_H]
    exact ⟨t, ht, hcn (by rw [hv]; exact hlt)⟩

theorem Geo.pc (hg : Geo S st) : Pc S st := by
  refine ⟨?_, ?_, ?_, fun a t c ht hc => hg.ni c hc a t ht⟩
  · intro i si e hs hH he
    obtain ⟨b1, b2, _, t, ht, hal, _⟩ := hg.lay.tail i si e hs he
    have hv : vcOf si.ori e.endpt = e.endpt.p.x := by rw [hH, vcOf_H]
    rw [hv] at b1 b2 hal
    exact ⟨t, ht, (hal.pts.1 hH).1, (hal.pts.1 hH).2, b1, b2⟩
  · intro k sk ov hs hV ho
    obtain ⟨b1, b2, _, t, ht, hal, _⟩ := hg.lay.tail k sk ov hs ho
    have hv : vcOf sk.ori ov.endpt = ov.endpt.p.y := by rw [hV, vcOf_V]
    rw [hv] at b1 b2 hal
    exact ⟨t, ht, (hal.pts.2 hV).1, (hal.pts.2 hV).2, b1, b2⟩
  · intro a t ht hnt
    obtain ⟨j, s, e, hs, he, h⟩ := hg.lay.own a t ht
    obtain ⟨_, b2, _⟩ := hg.lay.tail j s e hs he
    rcases h with h | ⟨u, v, hal, g1, g2, g3⟩
    · exact absurd h (hnt j e he)
    refine ⟨j, s, e, hs, he, ?_⟩
    cases ho : s.ori
    · obtain ⟨p1, p2⟩ := hal.pts.1 ho
      simp only [ho, vcOf_H] at b2 g3
      rw [p1, p2]
      exact Or.inl ⟨rfl, rfl, rfl, g1, Rat.le_trans g2 g3, Rat.le_trans g1 g2, g3, b2⟩
    · obtain ⟨p1, p2⟩ := hal.pts.2 ho
      simp only [ho, vcOf_V] at b2 g3
      rw [p1, p2]
      exact Or.inr ⟨rfl, rfl, rfl, g1, Rat.le_trans g2 g3, Rat.le_trans g1 g2, g3, b2⟩

section
variable {P0 : Nat → Prop} {X : Rat} {part oh0 : List Nat} {st0 : SwState} {cross0 : List Pt}
  {pre post : List Nat}

/-- where the end node of the OPEN event of a vertical of the part at `X` can be: its lower end, or on an open horizontal
whose SUSTAIN event has been handled -/
def ExV (S : List Seg) (X : Rat) (oh0 pre : List Nat) (st : SwState) : Prop :=
  ∀ (k : Nat) (sk : Seg) (ov : Ev), S[k]? = some sk → sk.ori = .V → sk.cc = X → st.evs[2 * k]? = some ov →
    ov.endpt.p.y = sk.lo ∨ ∃ (i' : Nat) (si' : Seg), S[i']? = some si' ∧ si'.ori = .H ∧ 2 * i' ∈ pre ∧ 2 * i' ∈ oh0 ∧
      ov.endpt.p.y = si'.cc

theorem ExV.congr {st' : SwState} (h : ExV S X oh0 pre st) (x : Nat) (hg : GeoEq st st') : ExV S X oh0 (pre ++ [x]) st' := by
  intro k sk ov hs hV hX ho
  obtain ⟨e0, h0, _, hend⟩ := hg.ev ho
  rw [hend]
  rcases h k sk e0 hs hV hX h0 with a | ⟨i', si', a, b, c, d, f⟩
  · exact Or.inl a
  · exact Or.inr ⟨i', si', a, b, List.mem_append_left _ c, d, f⟩

/-- `Pc`, and `ExV` written out: with `J2` the H/V-explicit reading of `JGeo`.  The run (`computeCrossings_inv`) does not carry
it: it carries `JGeo` and reads `Pc` off `Geo` at the end (`Geo.pc`).  Nothing reads `J3` or `J3.simple`; `P0` occurs in no
field. -/
structure J3 (S : List Seg) (P0 : Nat → Prop) (X : Rat) (oh0 pre : List Nat) (st : SwState) : Prop where
  pc : Pc S st
  exV : ∀ (k : Nat) (sk : Seg) (ov : Ev), S[k]? = some sk → sk.ori = .V → sk.cc = X → st.evs[2 * k]? = some ov →
    ov.endpt.p.y = sk.lo ∨ ∃ (i' : Nat) (si' : Seg), S[i']? = some si' ∧ si'.ori = .H ∧ 2 * i' ∈ pre ∧ 2 * i' ∈ oh0 ∧
      ov.endpt.p.y = si'.cc

theorem J3.simple {st' : SwState} (h : J3 S P0 X oh0 pre st) (x : Nat) (h1 : st'.segs = st.segs)
    (h2 : st'.evs = st.evs) (h3 : st'.cross = st.cross) : J3 S P0 X oh0 (pre ++ [x]) st' :=
  ⟨⟨by rw [h1, h2]; exact h.pc.tailH, by rw [h1, h2]; exact h.pc.tailV, by rw [h1, h2]; exact h.pc.frozen,
      by rw [h1, h3]; exact h.pc.ni⟩, ExV.congr h.exV x (.of_eq h1 h2 h3)⟩

/-- inside a part: the geometry, and where the end nodes of the events that may still be cut can be -/
structure JGeo (S : List Seg) (P0 : Nat → Prop) (X : Rat) (oh0 pre : List Nat) (st : SwState) : Prop where
  geo : Geo S st
  exH : ExH S P0 X pre st
  exV : ExV S X oh0 pre st

theorem JGeo_step (hC : PartCtx S P0 X part st0) {e : Nat}
    (hsc : SC (akey st0.evs) pre post e st0.openH part) (he : e ∈ st0.openH ∨ e ∈ part)
    (hJ : J S P0 X part st0.openH cross0 pre st) (hg : JGeo S P0 X st0.openH pre st) :
    JGeo S P0 X st0.openH (pre ++ [e]) (processEvent st e) := by
  rcases step_kinds hC hsc he hJ with hq | ⟨i, k, si, sk, ev, ov, so, sv, rfl, hoh, hc, hpe⟩
  · exact ⟨hg.geo.congr hq, hg.exH.congr e hq, hg.exV.congr e hq⟩
  · rw [hpe]
    have hp0 := ((hC.inv0.mem_openH hc.hsi).1 hoh).2.1
    -- the two tails start left of / below the new node: the events end on a vertical already swept, on an open horizontal
    -- sorted before this one, or where they began
    have hXe : ev.endpt.p.x < sk.cc := by
      rw [hc.hX]
      rcases hg.exH i si ev hc.hsi hc.hH hc.he with a | ⟨k', sk', a, b, c, d⟩ | ⟨k', sk', a, b, c, d, f⟩
      · rw [a]; exact hc.loX
      · have := (hC.hP0 k' sk' a).1.1 c
        rw [(hC.good.segV a b).on_x] at this; rw [d]; exact this
      · exact absurd f hsc.npre
    have hYe : ov.endpt.p.y ≤ si.cc := by
      rcases hg.exV k sk ov hc.hsk hc.hV hc.hX hc.hov with a | ⟨i2, si2, a, b, c, d, f⟩
      · rw [a]; exact Rat.le_of_lt hc.lo
      · have hk2 := key_Hsus hC.inv0 a b ((hC.inv0.mem_openH a).1 d).2.1
        have := hsc.k1 _ c
        rw [hk2, key_Hsus hC.inv0 hc.hsi hc.hH hp0] at this; rw [f]; grind
    refine ⟨geo_cross hC.good hJ.inv hg.geo hc (Std.lt_of_lt_of_le hXe (hc.hX ▸ hc.Xhi)) (Rat.le_of_lt hXe) hYe, ?_, ?_⟩ <;>
      obtain ⟨st1, st2, c1, c2, heq⟩ := hc.two hJ.inv <;> rw [heq]
    · intro i2 si2 e2 hs2 hH2 he2
      rcases c2.ev_cases he2 with ⟨rfl, _⟩ | ⟨_, he2⟩
      · rw [hc.hsk] at hs2; cases hs2; rw [hc.hV] at hH2; cases hH2
      rcases c1.ev_cases he2 with ⟨rfl, b⟩ | ⟨_, he2⟩
      · exact Or.inr (Or.inr ⟨k, sk, hc.hsk, hc.hV, hc.hX, by rw [b]; exact hc.hX, by simp⟩)
      · exact hg.exH.congr (2 * i) (.of_eq rfl rfl rfl) i2 si2 e2 hs2 hH2 he2
    · intro k2 sk2 o2 hs2 hV2 hX2 ho2
      rcases c2.ev_cases ho2 with ⟨rfl, b⟩ | ⟨_, ho2⟩
      · exact Or.inr ⟨i, si, hc.hsi, hc.hH, by simp, hoh, by rw [b]⟩
      rcases c1.ev_cases ho2 with ⟨rfl, _⟩ | ⟨_, ho2⟩
      · rw [hc.hsi] at hs2; cases hs2; rw [hc.hH] at hV2; cases hV2
      · exact hg.exV.congr (2 * i) (.of_eq rfl rfl rfl) k2 sk2 o2 hs2 hV2 hX2 ho2

end

theorem init_geo (hG : Good S) (nid : Nat) : Geo S { segs := S, evs := mkEvents 0 S, nextId := nid } := by
  have hlen := mkEvents_length S 0
  refine ⟨⟨?_, ?_, ?_⟩, fun i s hs => Reach.edge ⟨s, List.mem_of_getElem? hs, Or.inl ⟨rfl, rfl⟩⟩,
    fun c hc => by simp at hc⟩
  · intro i j ei ej hi hj hseg
    simp only at hi hj
    have li : i < S.length := by have := (List.getElem?_eq_some_iff.1 hi).1; rw [hlen] at this; omega
    have lj : j < S.length := by have := (List.getElem?_eq_some_iff.1 hj).1; rw [hlen] at this; omega
    have gi := (mkEvents_get S 0 i _ (List.getElem?_eq_getElem li)).1
    have gj := (mkEvents_get S 0 j _ (List.getElem?_eq_getElem lj)).1
    rw [hi] at gi; rw [hj] at gj; cases gi; cases gj
    simpa [mkEv] using hseg
  · intro j s e hs he
    simp only at he ⊢
    have g := (mkEvents_get S 0 j s hs).1
    rw [he] at g; cases g
    obtain ⟨a1, a2, a3, a4, a5⟩ := segO_of_shape (hG.shape s (List.mem_of_getElem? hs))
    simp only [mkEv, Nat.zero_add]
    rw [a3]
    exact ⟨Rat.le_refl, Rat.le_of_lt a5, fun _ => a5, s, hs, ⟨a1, a2, a3, a4⟩, fun _ => rfl⟩
  · intro a t ht
    simp only at ht ⊢
    exact ⟨a, t, _, ht, (mkEvents_get S 0 a t ht).1, Or.inl (by simp [mkEv])⟩

theorem computeCrossings_inv (hG : Good S) (nid : Nat) :
    ∃ done, (∀ e, e ∈ done ↔ e < 2 * S.length) ∧ Inv S (fun x => x ∈ done) (computeCrossings S nid) ∧
      (∀ p, p ∈ (computeCrossings S nid).cross.map (·.p) ↔ CrossSpec S done p) ∧
      Tr S (computeCrossings S nid) ∧ Pc S (computeCrossings S nid) := by
  obtain ⟨done, hd, hI, hc, hg, _⟩ := sweep_induction hG nid
    (fun done st => (∀ p, p ∈ st.cross.map (·.p) ↔ CrossSpec S done p) ∧ Geo S st ∧ ExH S (fun x => x ∈ done) 0 [] st)
    ⟨by intro p; simp [CrossSpec], init_geo hG nid, init_exH hG nid⟩ (by
      intro done X part st hC ⟨hc, hg, hE⟩
      obtain ⟨L, _, _, hJG⟩ := part_induction hC (fun pre st' => JGeo S (fun x => x ∈ done) X st.openH pre st')
        ⟨hg.congr (.of_eq rfl rfl rfl), hE.enter rfl, fun k sk ov hs hV hX ho => by
          -- the OPEN event of a vertical of this part still has its lower end as end node
          refine Or.inl (hC.inv0.open_y_of_V hs ho hV (hC.open_fresh hs ((hC.hpart k sk hs).1.2 ?_)))
          rw [(hG.segV hs hV).on_x, hX]⟩
        (fun _ _ _ _ hsc he hJ h => JGeo_step hC hsc he hJ h)
      exact ⟨crossSpec_step hC hc, hJG.geo, hJG.exH.leave hC⟩)
  exact ⟨done, hd, hI, hc, hg.tr, hg.pc⟩

theorem computeCrossings_spec (hG : Good S) (nid : Nat) (p : Pt) :
    p ∈ (computeCrossings S nid).cross.map (·.p) ↔
    ∃ (i k : Nat) (si sk : Seg), S[i]? = some si ∧ S[k]? = some sk ∧ si.ori = .H ∧ sk.ori = .V ∧
      si.lo < sk.cc ∧ sk.cc ≤ si.hi ∧ sk.lo < si.cc ∧ si.cc < sk.hi ∧ p = ⟨sk.cc, si.cc⟩ := by
  obtain ⟨done, hd, _, hc, _⟩ := computeCrossings_inv hG nid
  rw [hc p]
  unfold CrossSpec
  constructor
  · rintro ⟨i, k, si, sk, a, b, c, d, _, rest⟩; exact ⟨i, k, si, sk, a, b, c, d, rest⟩
  · rintro ⟨i, k, si, sk, a, b, c, d, rest⟩
    refine ⟨i, k, si, sk, a, b, c, d, ?_, rest⟩
    rw [hd]; obtain ⟨hk, _⟩ := List.getElem?_eq_some_iff.1 b; omega

theorem computeCrossings_reach (hG : Good S) (nid : Nat) :
    ∀ (i : Nat) (s : Seg), S[i]? = some s →
      Reach (computeCrossings S nid).segs (computeCrossings S nid).cross s.on s.cn := by
  obtain ⟨_, _, _, _, hT, _⟩ := computeCrossings_inv hG nid
  exact hT.reach

/-- the horizontal piece `p` and the vertical piece `q` cross transversally -/
def PiecesCross (p q : Seg) : Prop :=
  p.on.p.y = p.cn.p.y ∧ q.on.p.x = q.cn.p.x ∧
  ((p.on.p.x < q.on.p.x ∧ q.on.p.x < p.cn.p.x) ∨ (p.cn.p.x < q.on.p.x ∧ q.on.p.x < p.on.p.x)) ∧
  ((q.on.p.y < p.on.p.y ∧ p.on.p.y < q.cn.p.y) ∨ (q.cn.p.y < p.on.p.y ∧ p.on.p.y < q.on.p.y))

theorem piece_within (hG : Good S) (nid : Nat) (t : Seg) (ht : t ∈ (computeCrossings S nid).segs) :
    ∃ (j : Nat) (sj : Seg), S[j]? = some sj ∧
      ((sj.ori = .H ∧ t.on.p.y = sj.cc ∧ t.cn.p.y = sj.cc ∧ sj.lo ≤ t.on.p.x ∧ t.on.p.x ≤ sj.hi ∧
          sj.lo ≤ t.cn.p.x ∧ t.cn.p.x ≤ sj.hi) ∨
       (sj.ori = .V ∧ t.on.p.x = sj.cc ∧ t.cn.p.x = sj.cc ∧ sj.lo ≤ t.on.p.y ∧ t.on.p.y ≤ sj.hi ∧
          sj.lo ≤ t.cn.p.y ∧ t.cn.p.y ≤ sj.hi)) := by
  obtain ⟨_, _, hI, _, _, hPc⟩ := computeCrossings_inv hG nid
  obtain ⟨a, ha⟩ := List.getElem?_of_mem ht
  by_cases htail : ∃ (j : Nat) (ej : Ev), (computeCrossings S nid).evs[2 * j]? = some ej ∧ ej.seg = a
  · obtain ⟨j, ej, hj, hja⟩ := htail
    obtain ⟨sj, hsj⟩ := seg_of_ev hI hj
    refine ⟨j, sj, hsj, ?_⟩
    rcases hG.shape _ (List.mem_of_getElem? hsj) with sh | sv
    · obtain ⟨t', ht', r1, r2, r3, r4⟩ := hPc.tailH j _ ej hsj sh.ori hj
      rw [hja, ha] at ht'; cases ht'
      left
      rw [r1, r2]; simp only
      exact ⟨sh.ori, trivial, trivial, r3, r4, Rat.le_of_lt sh.lt, Rat.le_refl⟩
    · obtain ⟨t', ht', r1, r2, r3, r4⟩ := hPc.tailV j _ ej hsj sv.ori hj
      rw [hja, ha] at ht'; cases ht'
      right
      rw [r1, r2]; simp only
      exact ⟨sv.ori, trivial, trivial, r3, r4, Rat.le_of_lt sv.lt, Rat.le_refl⟩
  · obtain ⟨j, sj, ej, b1, b2, b3⟩ := hPc.frozen a t ha (by intro j ej hj h; exact htail ⟨j, ej, hj, h⟩)
    refine ⟨j, sj, b1, ?_⟩
    rcases b3 with ⟨c0, c1, c2, c3, c4, c5, c6, c7⟩ | ⟨c0, c1, c2, c3, c4, c5, c6, c7⟩
    · exact Or.inl ⟨c0, c1, c2, c3, Rat.le_trans c4 c7, c5, Rat.le_trans c6 c7⟩
    · exact Or.inr ⟨c0, c1, c2, c3, Rat.le_trans c4 c7, c5, Rat.le_trans c6 c7⟩

theorem between_of_span {a b lo hi x : Rat} (ha0 : lo ≤ a) (ha1 : a ≤ hi) (hb0 : lo ≤ b) (hb1 : b ≤ hi)
    (h : (a < x ∧ x < b) ∨ (b < x ∧ x < a)) : lo < x ∧ x < hi := by
  grind

/-- if two pieces crossed, the sweep would have put a crossing node there (completeness) and cut both pieces at it -/
theorem no_pieces_cross (hG : Good S) (nid : Nat) :
    ∀ p ∈ (computeCrossings S nid).segs, ∀ q ∈ (computeCrossings S nid).segs, ¬ PiecesCross p q := by
  intro p hp q hq hx
  obtain ⟨_, _, _, _, _, hPc⟩ := computeCrossings_inv hG nid
  obtain ⟨j, sj, hsj, hpj⟩ := piece_within hG nid p hp
  obtain ⟨k, sk, hsk, hqk⟩ := piece_within hG nid q hq
  obtain ⟨x1, x2, x3, x4⟩ := hx
  rcases hpj with ⟨p0, p1, p2, p3, p4, p5, p6⟩ | ⟨p0, p1, p2, _⟩
  · rcases hqk with ⟨q0, q1, q2, _⟩ | ⟨q0, q1, q2, q3, q4, q5, q6⟩
    · rw [q1, q2] at x4; grind
    · rw [q1] at x3; rw [p1] at x4
      have hx := between_of_span p3 p4 p5 p6 x3
      have hy := between_of_span q3 q4 q5 q6 x4
      have hc := (computeCrossings_spec hG nid ⟨sk.cc, sj.cc⟩).2
        ⟨j, k, sj, sk, hsj, hsk, p0, q0, hx.1, Rat.le_of_lt hx.2, hy.1, hy.2, rfl⟩
      obtain ⟨c, hc1, hc2⟩ := List.mem_map.1 hc
      obtain ⟨a, ha⟩ := List.getElem?_of_mem hp
      refine hPc.ni a p c ha hc1 ?_
      unfold InsideP; left
      rw [hc2]; simp only
      exact ⟨x1, p1.symm, x3⟩
  · rw [p1, p2] at x3; grind

end AdaptaVerif.Lemmas.Planarise
