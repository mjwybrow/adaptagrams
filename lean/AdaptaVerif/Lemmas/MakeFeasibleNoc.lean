/-
The invariant of `makeFeasible` (`Lemmas/MakeFeasibleInv.lean`) survives the non-overlap phase
(`MF.runNoc`): the lazily generated alternatives of a shape pair are well-formed constraints over the
node variables, and every iteration runs the same `tryAlts` as the user-constraint loop.

At the end the kept EQUALITIES hold exactly (not just to −1e-10): the witness of the invariant
(`Good.weq`) is the position vector of the last kept solve, and in a returning flag-free `satisfy` after
a public-API history every equality is active, hence tight (`final_eq`), as long as the scales of the
variables are non-zero (`solve_eq_exact`).
-/
import AdaptaVerif.Lemmas.MakeFeasibleInv
import AdaptaVerif.Lemmas.Util.InsertionSort
namespace AdaptaVerif.Lemmas.MakeFeasibleNoc
open AdaptaVerif.Model.MakeFeasible AdaptaVerif.Model.Vpsc
open AdaptaVerif.Lemmas.MakeFeasibleInv

/-- the pair refers to node variables that exist in both dimensions -/
def PairWf (nx ny : Nat) (p : PairInfo) : Prop := p.v1 < nx ∧ p.v2 < nx ∧ p.v1 < ny ∧ p.v2 < ny

def NocWf (noc : Noc) (nx ny : Nat) : Prop :=
  ∀ p ∈ noc.pairs, p.v1 < nx ∧ p.v2 < nx ∧ p.v1 < ny ∧ p.v2 < ny

/-! ### the pair list: sorting and recomputation never touch `v1`, `v2` -/

theorem sortPairs_mem (x : PairInfo) (l : List PairInfo) (h : x ∈ sortPairs l) : x ∈ l :=
  ((Util.IsInsert.of_continue (q := fun b a => pairLt b a = true) (ins := insertPair) (fun _ => rfl)
    (fun _ _ _ => rfl)).foldr_perm l).mem_iff.1 h

theorem go_mem (noc : Noc) (fx fy ix iy : Array Rat) (exAt : Array Rat → Array Rat → PairInfo → Bool)
    (q : PairInfo) : ∀ (l : List PairInfo) (stop : Bool) (m : Rat),
    q ∈ (Noc.computeAndSort.go noc fx fy ix iy exAt l stop m).1 → ∃ p ∈ l, q.v1 = p.v1 ∧ q.v2 = p.v2
  | [], stop, m, h => by
    unfold Noc.computeAndSort.go at h
    simp at h
  | p :: t, stop, m, h => by
    -- kept or recomputed, the head has the `v1`, `v2` of `p`, and the tail is a recursive call
    have key : ∀ (p' : PairInfo) (stop' : Bool) (m' : Rat),
        q ∈ p' :: (Noc.computeAndSort.go noc fx fy ix iy exAt t stop' m').1 → p'.v1 = p.v1 → p'.v2 = p.v2 →
        ∃ p0 ∈ p :: t, q.v1 = p0.v1 ∧ q.v2 = p0.v2 := by
      intro p' stop' m' hq e1 e2
      rcases List.mem_cons.1 hq with rfl | hq
      · exact ⟨p, List.mem_cons_self, e1, e2⟩
      · obtain ⟨p0, hp0, e⟩ := go_mem noc fx fy ix iy exAt q t _ _ hq
        exact ⟨p0, List.mem_cons_of_mem _ hp0, e⟩
    unfold Noc.computeAndSort.go at h
    split at h
    · exact key p _ _ h rfl rfl
    · simp only at h
      exact key _ _ _ h rfl rfl

theorem computeAndSort_wf (noc : Noc) (fx fy : Array Rat) (exact : Bool) (ix iy : Array Rat)
    (nx ny : Nat) (h : NocWf noc nx ny) : NocWf (noc.computeAndSort fx fy exact ix iy) nx ny := by
  intro q hq
  unfold Noc.computeAndSort at hq
  simp only at hq
  obtain ⟨p, hp, e1, e2⟩ := go_mem _ _ _ _ _ _ q _ _ _ (sortPairs_mem q _ hq)
  rw [e1, e2]
  exact h p hp

theorem foldr_insertCost_mem (x : CostAlt) (l : List CostAlt) (h : x ∈ l.foldr insertCost []) : x ∈ l :=
  ((Util.IsInsert.of_continue (q := fun b a : CostAlt => b.cost < a.cost) (ins := insertCost) (fun _ => rfl)
    (fun _ _ _ => rfl)).foldr_perm l).mem_iff.1 h

theorem pairAlternatives_wf (half : Array (Rat × Rat)) (dx dy : Array Rat) (p : PairInfo)
    (nx ny : Nat) (hp : PairWf nx ny p) :
    ∀ a ∈ pairAlternatives half dx dy p, Alt.wf nx ny a = true := by
  intro a ha
  unfold pairAlternatives at ha
  simp only at ha
  obtain ⟨ca, hca, rfl⟩ := List.mem_map.1 ha
  have := foldr_insertCost_mem ca _ hca
  simp only [List.mem_cons, List.not_mem_nil, or_false] at this
  obtain ⟨h1, h2, h3, h4⟩ := hp
  rcases this with rfl | rfl | rfl | rfl <;> simp [Alt.wf, mkCon, h1, h2, h3, h4]

theorem getCurr_wf (noc : Noc) (mf : MF) (exact : Bool) (nx ny : Nat) (h : NocWf noc nx ny) :
    NocWf (noc.getCurr mf exact).1 nx ny ∧ ∀ a ∈ (noc.getCurr mf exact).2, Alt.wf nx ny a = true := by
  generalize hg : noc.getCurr mf exact = g
  unfold Noc.getCurr at hg
  simp only at hg
  generalize hn1 : (if noc.initialSort = true then noc
    else { (noc.computeAndSort mf.x.final mf.y.final exact (mf.x.vars.map (·.1)) (mf.y.vars.map (·.1))) with
           sorted := true, initialSort := true }) = n1 at hg
  have h1 : NocWf n1 nx ny := by
    subst hn1
    split
    · exact h
    · exact computeAndSort_wf noc _ _ _ _ _ nx ny h
  clear hn1 h
  have hnil : ∀ a ∈ ([] : List Alt), Alt.wf nx ny a = true := fun a ha => by simp at ha
  split at hg
  · subst hg
    exact ⟨h1, hnil⟩
  · rename_i front rest hpairs
    have hfront := h1 front (by rw [hpairs]; simp)
    have h2 : ∀ (n' : Noc) (f : PairInfo), n'.pairs = f :: rest → f.v1 = front.v1 → f.v2 = front.v2 →
        NocWf n' nx ny := by
      intro n' f e e1 e2 q hq
      rw [e] at hq
      rcases List.mem_cons.1 hq with hq | hq
      · rw [hq, e1, e2]; exact hfront
      · exact h1 q (by rw [hpairs]; exact List.mem_cons_of_mem _ hq)
    -- `sorted` is decided first so that `simp only` reduces the pair-pattern `let`; the recomputed key and
    -- its exactness flags play no role and are abstracted: `split` on the full term is slow
    cases hs : n1.sorted
    · -- not sorted: the front pair is recomputed
      simp only [hs, Bool.false_eq_true, if_false] at hg
      generalize (exact || (_ && _)) = ex at hg
      generalize (exact || (_ && _)) = ey at hg
      generalize overlapOf _ _ _ _ _ _ = o at hg
      split at hg
      · subst hg; exact ⟨computeAndSort_wf _ _ _ _ _ _ nx ny (h2 _ _ rfl rfl rfl), hnil⟩
      · subst hg; exact ⟨h2 _ _ rfl rfl rfl, pairAlternatives_wf _ _ _ _ nx ny hfront⟩
    · -- sorted: the front pair as it is
      simp only [hs, if_true] at hg
      split at hg
      · subst hg; exact ⟨h1, hnil⟩
      · subst hg; exact ⟨h1, pairAlternatives_wf _ _ _ _ nx ny hfront⟩

theorem mark_wf (noc : Noc) (sat : Bool) (nx ny : Nat) (h : NocWf noc nx ny) :
    NocWf (noc.mark sat) nx ny := by
  unfold Noc.mark
  split
  · exact h
  · rename_i front rest hpairs
    intro q hq
    rcases List.mem_append.1 hq with hq | hq
    · exact h q (by rw [hpairs]; exact List.mem_cons_of_mem _ hq)
    · simp only [List.mem_singleton] at hq
      rw [hq]
      exact h front (by rw [hpairs]; simp)

theorem runNoc_reach {sx sy : Nat} {L : List Nat} (cc : Nat) :
    ∀ (fuel : Nat) (mf : MF) (noc : Noc) (mf' : MF) (noc' : Noc),
    MF.runNoc cc fuel mf noc = some (mf', noc') → NocWf noc sx sy →
    MakeFeasibleLog.Reach (fun a => Alt.wf sx sy a = true) L mf mf' ∧ NocWf noc' sx sy
  | 0, mf, noc, mf', noc', h, _ => by
    unfold MF.runNoc at h
    cases h
  | fuel + 1, mf, noc, mf', noc', h, hw => by
    unfold MF.runNoc at h
    split at h
    · simp only [Option.some.injEq, Prod.mk.injEq] at h
      obtain ⟨rfl, rfl⟩ := h
      exact ⟨.refl, hw⟩
    · simp only at h
      obtain ⟨g1, g2⟩ := getCurr_wf noc mf mf.positionsExact _ _ hw
      split at h
      · exact runNoc_reach (L := L) cc fuel mf _ mf' noc' h g1
      · rename_i hne
        generalize (noc.getCurr mf mf.positionsExact).2 = alts at h g2 hne
        cases alts with
        | nil => exact absurd rfl hne
        | cons a rest =>
          have hs := MakeFeasibleLog.tryAlts_reach (L := L) cc mf.marks.size (a :: rest) mf 0 g2
          have hv := MakeFeasibleLog.tryAlts_verdict cc mf.marks.size a rest mf 0
          -- the trials were logged under the number of marks BEFORE the loop, which leaves the marks alone
          have hm := MakeFeasibleLog.tryAlts_marks cc mf.marks.size (a :: rest) mf 0
          generalize mf.tryAlts cc mf.marks.size 0 (a :: rest) = r at h hs hv hm
          have ih := runNoc_reach (L := L) cc fuel _ _ mf' noc' h (mark_wf _ r.2 _ _ g1)
          exact ⟨(hs.move (.mark r.1 cc r.1.marks.size r.2 (by rw [hm]; exact hv))).trans ih.1, ih.2⟩

theorem runNoc_good (cc : Nat) (fuel : Nat) (mf : MF) (noc : Noc) (mf' : MF) (noc' : Noc)
    (h : MF.runNoc cc fuel mf noc = some (mf', noc'))
    (hw : NocWf noc mf.x.vars.size mf.y.vars.size) :
    mf'.n = mf.n ∧ mf'.x.vars = mf.x.vars ∧ mf'.y.vars = mf.y.vars ∧
    mf'.combineFlags = mf.combineFlags ∧ mf'.escaped = mf.escaped ∧
    (mf'.fuelOut = false → mf.fuelOut = false) ∧
    (Good mf.n mf.x ∧ Good mf.n mf.y → Good mf'.n mf'.x ∧ Good mf'.n mf'.y) ∧
    NocWf noc' mf.x.vars.size mf.y.vars.size := by
  obtain ⟨hr, hw'⟩ := runNoc_reach (L := []) cc fuel mf noc mf' noc' h hw
  have hs := reach_ustep hr rfl rfl
  exact ⟨hs.n, hs.xv, hs.yv, hs.flags, hs.esc, hs.fuel, fun h => good_dims.1 (hs.good (good_dims.2 h)), hw'⟩

theorem ofSizes_wf (half : Array (Rat × Rat)) (nx ny : Nat) (hn : half.size ≤ nx ∧ half.size ≤ ny) :
    NocWf (Noc.ofSizes half) nx ny := by
  intro p hp
  unfold Noc.ofSizes at hp
  simp only [List.mem_flatMap, List.mem_map, List.mem_range] at hp
  obtain ⟨i, hi, j, hj, rfl⟩ := hp
  simp only
  omega

theorem makeFeasible_noc_good (n : Nat) (vx vy : Array (Rat × Rat × Rat)) (items : List Item)
    (half : Array (Rat × Rat)) (cc fuel : Nat) (mf' : MF) (noc' : Noc)
    (hwf : itemsWf vx.size vy.size items = true) (hn : half.size ≤ vx.size ∧ half.size ≤ vy.size)
    (hrun : MF.runNoc cc fuel (makeFeasible n vx vy items) (Noc.ofSizes half) = some (mf', noc'))
    (hclean : mf'.combineFlags = #[]) (hesc : mf'.escaped = false) (hfuel : mf'.fuelOut = false) :
    (∀ d, Good n (mf'.dim d)) ∧ mf'.x.vars = vx ∧ mf'.y.vars = vy := by
  have hs : Step (MF.init n vx vy) mf' :=
    reach_step ((MakeFeasibleLog.run_reach items (MF.init n vx vy) (itemsWf_mem hwf)
        (MakeFeasibleLog.mem_combinedCCs items)).trans
      (runNoc_reach cc fuel _ _ mf' noc' hrun (ofSizes_wf half _ _ hn)).1) rfl rfl
  have hg := hs.good (fun _ _ _ => good_init_dims n vx vy) hclean hesc hfuel
  rw [show mf'.n = n from hs.frame.n] at hg
  exact ⟨hg, hs.frame.xv, hs.frame.yv⟩

end AdaptaVerif.Lemmas.MakeFeasibleNoc

namespace AdaptaVerif.Lemmas.MakeFeasibleEq
open AdaptaVerif.Model.MakeFeasible AdaptaVerif.Model.Vpsc
open AdaptaVerif.Model.Compound (Dim)
open AdaptaVerif.Lemmas.MakeFeasibleInv AdaptaVerif.Lemmas.MakeFeasibleNoc

theorem eq_wit {n : Nat} {mf : MF} {vx vy : Array (Rat × Rat × Rat)} (hg : ∀ d, Good n (mf.dim d))
    (ex : mf.x.vars = vx) (ey : mf.y.vars = vy)
    (hsx : ∀ i : Nat, i < vx.size → (vx[i]!).2.2 ≠ 0) (hsy : ∀ i : Nat, i < vy.size → (vy[i]!).2.2 ≠ 0)
    (d : Dim) :
    ∃ g : Array Rat, (∀ i : Nat, i < n → g[i]! = mf.nodePos d i) ∧
      ∀ c ∈ (mf.dim d).valid,
        ZERO_UPPERBOUND ≤ slackOf (mf.dim d).vars g c ∧ (c.eq = true → slackOf (mf.dim d).vars g c = 0) := by
  obtain ⟨g, _, e2, e3, e4⟩ := (hg d).weq (by cases d; exacts [ex ▸ hsx, ey ▸ hsy])
  exact ⟨g, e2, fun c hc => ⟨e3 c hc, e4 c hc⟩⟩

theorem makeFeasible_noc_good_eq (n : Nat) (vx vy : Array (Rat × Rat × Rat)) (items : List Item)
    (half : Array (Rat × Rat)) (cc fuel : Nat) (mf' : MF) (noc' : Noc)
    (hwf : itemsWf vx.size vy.size items = true) (hn : half.size ≤ vx.size ∧ half.size ≤ vy.size)
    (hsx : ∀ i : Nat, i < vx.size → (vx[i]!).2.2 ≠ 0)
    (hsy : ∀ i : Nat, i < vy.size → (vy[i]!).2.2 ≠ 0)
    (hrun : MF.runNoc cc fuel (makeFeasible n vx vy items) (Noc.ofSizes half) = some (mf', noc'))
    (hclean : mf'.combineFlags = #[]) (hesc : mf'.escaped = false) (hfuel : mf'.fuelOut = false) :
    ∀ d, ∃ g : Array Rat, (∀ i : Nat, i < n → g[i]! = mf'.nodePos d i) ∧
      ∀ c ∈ (mf'.dim d).valid,
        ZERO_UPPERBOUND ≤ slackOf (mf'.dim d).vars g c ∧
        (c.eq = true → slackOf (mf'.dim d).vars g c = 0) :=
  let ⟨hg, ex, ey⟩ :=
    makeFeasible_noc_good n vx vy items half cc fuel mf' noc' hwf hn hrun hclean hesc hfuel
  eq_wit hg ex ey hsx hsy

end AdaptaVerif.Lemmas.MakeFeasibleEq
