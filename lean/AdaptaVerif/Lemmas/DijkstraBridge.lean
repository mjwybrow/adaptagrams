/-
C17 — bridge for the WHOLE function `dijkstra(s, vs, d)` of cola/libcola/shortest_paths.h as GENERATED into
`Gen/DijkstraK.lean` (initialisation loop, heap construction, `while (!Q.isEmpty())` on fuel, `extractMin`, the write
`d[u->id] = u->d`, the relax loop; pairing heap abstract): instantiated with the model's pairing heap (`modelOps`) and run
with fuel `n` on a node array whose adjacency vectors are the model's `adj` lists, it writes exactly the model's
`dijkstraHeap g s` into the caller's buffer `d`, whatever the buffer held (the real callers pass uninitialised rows: the
loop never reads `d`, writes `d[u] = u->d` when `u` leaves the heap, and every node leaves the heap); all its accesses
are in bounds and the fuel suffices. One simulation (`Sim`, on top of `HRel` of Lemmas/ApspDijkstraHeap) of the generated
`while` loop by `dijkstraHeapLoop` gives all of it (`dijkstra_spec`).
-/
import AdaptaVerif.Gen.DijkstraK
import AdaptaVerif.Lemmas.DijkstraRelaxBridge
import AdaptaVerif.Lemmas.ApspDijkstraHeap
namespace AdaptaVerif.Lemmas.DijkstraBridge
open AdaptaVerif.Gen AdaptaVerif.Gen.DijkstraK AdaptaVerif.Gen.KeysShortest
open AdaptaVerif.Model.ShortestPaths AdaptaVerif.Model.PairingHeap AdaptaVerif.Lemmas.GenLoopBridge
open AdaptaVerif.Lemmas.DijkstraRelaxBridge AdaptaVerif.Lemmas.Apsp AdaptaVerif.Spec.Apsp

/-! ### first loop: `vs[i].id = i; vs[i].d = max; vs[i].p = nullptr` -/

theorem body1_spec (i : Nat) (w : Array NodeK) (hi : i < w.size) :
    (dijkstra_body1 modelOps i w).size = w.size ∧
    (∀ k, (aget (dijkstra_body1 modelOps i w) k).neighbours = (aget w k).neighbours ∧
          (aget (dijkstra_body1 modelOps i w) k).nweights = (aget w k).nweights) ∧
    (aget (dijkstra_body1 modelOps i w) i).id = i ∧ (aget (dijkstra_body1 modelOps i w) i).d = none ∧
    (∀ k, k ≠ i → aget (dijkstra_body1 modelOps i w) k = aget w k) := by
  unfold dijkstra_body1
  simp only [aset_size]
  refine ⟨trivial, ?_, ?_, ?_, ?_⟩
  · intro k
    by_cases hk : i = k
    · subst hk; simp [aget_aset_eq, aset_size, hi]
    · simp [aget_aset_ne _ _ _ _ hk]
  · simp [aget_aset_eq, aset_size, hi]
  · simp [aget_aset_eq, aset_size, hi]
  · intro k hk
    simp [aget_aset_ne _ _ _ _ (Ne.symm hk)]

theorem init_loop_spec (vs : Array NodeK) :
    (forRange (dijkstra_body1 modelOps) (vs.size - 0) 0 vs).size = vs.size ∧
    (∀ k, (aget (forRange (dijkstra_body1 modelOps) (vs.size - 0) 0 vs) k).neighbours = (aget vs k).neighbours ∧
      (aget (forRange (dijkstra_body1 modelOps) (vs.size - 0) 0 vs) k).nweights = (aget vs k).nweights) ∧
    (∀ k, k < vs.size → (aget (forRange (dijkstra_body1 modelOps) (vs.size - 0) 0 vs) k).id = k ∧
      (aget (forRange (dijkstra_body1 modelOps) (vs.size - 0) 0 vs) k).d = none) :=
  forRange_zero_inv
    (fun i (w : Array NodeK) => w.size = vs.size ∧
      (∀ k, (aget w k).neighbours = (aget vs k).neighbours ∧ (aget w k).nweights = (aget vs k).nweights) ∧
      (∀ k, k < i → (aget w k).id = k ∧ (aget w k).d = none))
    (dijkstra_body1 modelOps) vs.size vs ⟨rfl, fun _ => ⟨rfl, rfl⟩, fun k hk => absurd hk (Nat.not_lt_zero _)⟩
    (by
      intro i w hi ⟨hsz, hadj, hdone⟩
      obtain ⟨b1, b2, b3, b4, b5⟩ := body1_spec i w (by rw [hsz]; exact hi)
      refine ⟨b1.trans hsz, fun k => ⟨(b2 k).1.trans (hadj k).1, (b2 k).2.trans (hadj k).2⟩, ?_⟩
      intro k hk
      by_cases hki : k = i
      · subst hki; exact ⟨b3, b4⟩
      · rw [b5 k hki]; exact hdone k (Nat.lt_of_le_of_ne (Nat.le_of_lt_succ hk) hki))

theorem dOf_size (vs : Array NodeK) : (dOf vs).size = vs.size := by simp [dOf]

theorem dOf_eq_replicate (w : Array NodeK) (h : ∀ k, k < w.size → (aget w k).d = none) : dOf w = Array.replicate w.size none := by
  apply Array.ext
  · rw [dOf_size, Array.size_replicate]
  · intro i h1 h2
    have hi : i < w.size := by rwa [dOf_size] at h1
    have := h i hi
    have e : aget w i = w[i] := by simp [aget, hi]
    rw [e] at this
    simp [dOf, this]

/-! ### second loop: `vs[i].qnode = Q.insert(&vs[i])` -/

theorem foldl_pair_snd {A B : Type} (f : A → Nat → B → A) (l : List Nat) (a : A) (b : B) :
    l.foldl (fun (s : A × B) i => (f s.1 i s.2, s.2)) (a, b) = (l.foldl (fun h i => f h i b) a, b) := by
  induction l generalizing a with
  | nil => rfl
  | cons x xs ih => simp only [List.foldl_cons]; exact ih _

theorem insert_loop (n : Nat) (Q : PTree Dist) (vs : Array NodeK) :
    forRange (dijkstra_body2 modelOps) (n - 0) 0 (Q, vs) =
      ((List.range n).foldl (fun h i => insert ltDist h ((dOf vs).at i) i) Q, vs) := by
  rw [forRange_zero]
  have : (fun (s : PTree Dist × Array NodeK) i => dijkstra_body2 modelOps i s) =
      (fun (s : PTree Dist × Array NodeK) i => ((fun h i vs => insert ltDist h (aget vs i).d i) s.1 i s.2, s.2)) := by
    funext s i; rfl
  rw [this]
  have := foldl_pair_snd (fun h i (vs : Array NodeK) => insert ltDist h (aget vs i).d i) (List.range n) Q vs
  simp only [dOf_at]
  exact this

/-! ### the main loop against `dijkstraHeapLoop` -/

/-- the adjacency vectors of the node array are the model's `adj` lists (what the generated `dijkstra_init` builds) -/
def AdjOf (edges : List (Nat × Nat × Rat)) (vs : Array NodeK) : Prop :=
  ∀ u, (aget vs u).neighbours = (adj edges u).map (·.1) ∧ (aget vs u).nweights = (adj edges u).map (fun p => some p.2)

/-- fresh nodes (`std::vector<Node<T>> vs(n)`) have empty adjacency vectors, at every index the totalising `aget` reads -/
theorem fresh_replicate (n u : Nat) : (aget (Array.replicate n (default : NodeK)) u).neighbours = [] ∧
    (aget (Array.replicate n (default : NodeK)) u).nweights = [] := by
  simp only [aget, Array.getD_eq_getD_getElem?, Array.getElem?_replicate]
  split <;> exact ⟨rfl, rfl⟩

/-- what the loop needs of the node array and never changes -/
structure NodesOK (g : Graph) (vs : Array NodeK) : Prop where
  adj : AdjOf g.edges vs
  size : vs.size = g.n
  id : ∀ k, k < g.n → (aget vs k).id = k

theorem NodesOK.sameAdj {g : Graph} {vs vs' : Array NodeK} (h : NodesOK g vs) (hs : SameAdj vs vs') : NodesOK g vs' :=
  ⟨fun u => ⟨(hs.2 u).1.trans (h.adj u).1, (hs.2 u).2.1.trans (h.adj u).2⟩, hs.1.trans h.size,
    fun k hk => (hs.2 k).2.2.trans (h.id k hk)⟩

/-- the relax loop run for the extracted node `u` -/
def relaxLoop (u : Nat) (Q : PTree Dist) (vs : Array NodeK) : PTree Dist × Array NodeK :=
  forRange (dijkstra_body3 u modelOps) ((aget vs u).neighbours.length - 0) 0 (Q, vs)

theorem body3_eq (u : Nat) :
    dijkstra_body3 u modelOps = AdaptaVerif.Gen.DijkstraRelaxK.dijkstra_relax_body1 u decKeyM := rfl

theorem relaxLoop_eq (u : Nat) (Q : PTree Dist) (vs : Array NodeK) :
    relaxLoop u Q vs = ((AdaptaVerif.Gen.DijkstraRelaxK.dijkstra_relax vs Q u decKeyM).2,
      (AdaptaVerif.Gen.DijkstraRelaxK.dijkstra_relax vs Q u decKeyM).1) := by
  unfold relaxLoop
  rw [body3_eq]
  rfl

theorem relaxLoop_spec {g : Graph} (hv : Valid g) {vs : Array NodeK} (hvs : NodesOK g vs) {u : Nat} (hu : u < g.n)
    (Q : PTree Dist) :
    proj (relaxLoop u Q vs) = (adj g.edges u).foldl (relaxEdgeH u) (dOf vs, Q) ∧ SameAdj vs (relaxLoop u Q vs).2 ∧
    forRangePre (dijkstra_body3_pre u modelOps) (dijkstra_body3 u modelOps) ((aget vs u).neighbours.length - 0) 0 (Q, vs)
      = true := by
  have hval : ∀ p ∈ adj g.edges u, p.1 < vs.size := fun p hp => by rw [hvs.size]; exact (adj_valid hv hp).2.2
  obtain ⟨h1, h2⟩ := relax_eq g.edges u vs Q (hvs.adj u).1 (hvs.adj u).2 hval
  have huv : u < vs.size := by rw [hvs.size]; exact hu
  have h := relax_pre_true decKeyM vs Q u huv (by rw [(hvs.adj u).1, (hvs.adj u).2, List.length_map, List.length_map])
    (by intro v hv'; rw [(hvs.adj u).1] at hv'; obtain ⟨p, hp, rfl⟩ := List.mem_map.mp hv'; exact hval p hp)
  unfold AdaptaVerif.Gen.DijkstraRelaxK.dijkstra_relax_pre at h
  simp only [huv, decide_true, Bool.true_and, Bool.and_true] at h
  rw [relaxLoop_eq]
  exact ⟨h1, h2, h⟩

/-- state `(Q, d, vs)` of the generated `while` loop -/
abbrev GState := PTree Dist × Array Dist × Array NodeK

/-- generated state vs the states of the heap-driven and the list-queue model: the caller's buffer agrees with the
    model's output on every node that has left the queue (it may hold anything elsewhere) -/
structure Sim (g : Graph) (s : Nat) (gs : GState) (hs : HState) (st : DState) : Prop where
  hrel : HRel g s hs st
  heq : gs.1 = hs.heap
  deq : dOf gs.2.2 = hs.d
  gsz : gs.2.1.size = g.n
  agree : ∀ t, t ∉ st.q → Vec.at gs.2.1 t = Vec.at hs.out t
  nodes : NodesOK g gs.2.2

theorem Sim.cond {g : Graph} {s : Nat} {gs : GState} {hs : HState} {st : DState} (h : Sim g s gs hs st) :
    dijkstra_while4_cond modelOps gs = (findMin hs.heap).isSome := by
  show (!(findMin gs.1).isNone) = _
  rw [h.heq]
  cases findMin hs.heap <;> rfl

theorem while_body_eq (Q : PTree Dist) (dOut : Array Dist) (vs : Array NodeK) {k : Dist} {u : Nat}
    (hf : findMin Q = some (k, u)) (hid : (aget vs u).id = u) :
    dijkstra_while4_body modelOps (Q, dOut, vs) =
      ((relaxLoop u (deleteMin ltDist Q) vs).1, dOut.setIfInBounds u (aget vs u).d,
       (relaxLoop u (deleteMin ltDist Q) vs).2) := by
  unfold dijkstra_while4_body
  simp only [modelOps, hf, Option.map_some, Option.getD_some, hid]
  rfl

theorem while_step {g : Graph} (hv : Valid g) {s : Nat} {gs : GState} {hs : HState} {st : DState} (h : Sim g s gs hs st)
    {k : Dist} {u : Nat} (hf : findMin hs.heap = some (k, u)) :
    dijkstra_while4_body_pre modelOps gs = true ∧ u ∈ st.q ∧
    Sim g s (dijkstra_while4_body modelOps gs) (heapStep g.edges hs u) (dijkstraStep g.edges st u (st.q.erase u)) := by
  obtain ⟨Q, dOut, vs⟩ := gs
  obtain ⟨hrel, hQ, hD, hdsz, hagree, hvs⟩ := h
  subst hQ
  obtain ⟨huq, hrel'⟩ := hrel_step hv hrel hf
  have hun : u < g.n := hrel.inv.qlt u huq
  have hidu := hvs.id u hun
  have huv : u < vs.size := by rw [hvs.size]; exact hun
  obtain ⟨hr1, hr2, hr3⟩ := relaxLoop_spec hv hvs hun (deleteMin ltDist hs.heap)
  refine ⟨?_, huq, ?_⟩
  · unfold dijkstra_while4_body_pre
    simp only [modelOps, hf, Option.map_some, Option.getD_some, hidu, huv, hdsz, hun, decide_true, Bool.true_and,
      Bool.and_true]
    exact hr3
  · rw [while_body_eq hs.heap dOut vs hf hidu]
    have hfold : (adj g.edges u).foldl (relaxEdgeH u) (hs.d, deleteMin ltDist hs.heap) =
        proj (relaxLoop u (deleteMin ltDist hs.heap) vs) := by rw [← hD]; exact hr1.symm
    refine ⟨hrel', ?_, ?_, ?_, ?_, hvs.sameAdj hr2⟩
    -- the two `show`s unfold `heapStep` to the components of the fold, which `rw [hfold]` does not find under the name
    · show _ = ((adj g.edges u).foldl (relaxEdgeH u) (hs.d, deleteMin ltDist hs.heap)).2
      rw [hfold]; rfl
    · show dOf _ = ((adj g.edges u).foldl (relaxEdgeH u) (hs.d, deleteMin ltDist hs.heap)).1
      rw [hfold]; rfl
    · show (dOut.setIfInBounds u _).size = g.n
      rw [Array.size_setIfInBounds]; exact hdsz
    · intro t ht
      show Vec.at (dOut.setIfInBounds u (aget vs u).d) t = Vec.at (hs.out.setIfInBounds u (Vec.at hs.d u)) t
      have hosz : hs.out.size = g.n := by rw [hrel.oeq]; exact hrel.inv.osize
      rw [Vec.at_set, Vec.at_set, hdsz, hosz, ← hD, dOf_at]
      by_cases htu : u = t
      · rw [if_pos ⟨htu, hun⟩, if_pos ⟨htu, hun⟩]
      · rw [if_neg (fun hc => htu hc.1), if_neg (fun hc => htu hc.1)]
        exact hagree t (fun hq => ht ((List.mem_erase_of_ne (Ne.symm htu)).mpr hq))

theorem while_sim {g : Graph} (hv : Valid g) {s : Nat} :
    ∀ (fuel : Nat) (gs : GState) (hs : HState) (st : DState), Sim g s gs hs st → st.q.length ≤ fuel →
      whileLoopPre (dijkstra_while4_cond_pre modelOps) (dijkstra_while4_cond modelOps) (dijkstra_while4_body_pre modelOps)
        (dijkstra_while4_body modelOps) fuel gs = true ∧
      ∃ st', Sim g s (whileLoop (dijkstra_while4_cond modelOps) (dijkstra_while4_body modelOps) fuel gs)
        (dijkstraHeapLoop g.edges fuel hs) st' ∧ st'.q = [] := by
  intro fuel
  induction fuel with
  | zero =>
    intro gs hs st h hl
    have hq := List.length_eq_zero_iff.mp (Nat.le_zero.mp hl)
    have hc : dijkstra_while4_cond modelOps gs = false := by rw [h.cond, h.hrel.rep.findMin_none.mpr hq]; rfl
    exact ⟨whileLoopPre_of_false _ _ rfl hc 0, st, h, hq⟩
  | succ f ih =>
    intro gs hs st h hl
    cases hf : findMin hs.heap with
    | none =>
      have hc : dijkstra_while4_cond modelOps gs = false := by rw [h.cond, hf]; rfl
      rw [whileLoop_of_false _ hc, dijkstraHeapLoop_none hf]
      exact ⟨whileLoopPre_of_false _ _ rfl hc _, st, h, h.hrel.rep.findMin_none.mp hf⟩
    | some r =>
      obtain ⟨k, u⟩ := r
      have hc : dijkstra_while4_cond modelOps gs = true := by rw [h.cond, hf]; rfl
      obtain ⟨hbp, huq, hnext⟩ := while_step hv h hf
      rw [whileLoop_succ _ hc, whileLoopPre_succ _ rfl hc hbp, dijkstraHeapLoop_some hf]
      apply ih _ _ _ hnext
      show (st.q.erase u).length ≤ f
      rw [List.length_erase_of_mem huq]
      omega

/-! ### the whole function -/

/-- the node array after `vs[i].id = i; vs[i].d = max` for all `i` and `vs[s].d = 0` -/
def startVs (s : Nat) (vs : Array NodeK) : Array NodeK :=
  aset (forRange (dijkstra_body1 modelOps) (vs.size - 0) 0 vs) s
    { (aget (forRange (dijkstra_body1 modelOps) (vs.size - 0) 0 vs) s) with d := (some (0 : Rat) : Dist) }

def startState (s : Nat) (vs : Array NodeK) (d : Array Dist) : GState :=
  ((forRange (dijkstra_body2 modelOps) (vs.size - 0) 0 (modelOps.empty, startVs s vs)).1, d,
   (forRange (dijkstra_body2 modelOps) (vs.size - 0) 0 (modelOps.empty, startVs s vs)).2)

theorem dijkstra_unfold (s : Nat) (vs : Array NodeK) (d : Array Dist) (fuel : Nat) :
    AdaptaVerif.Gen.DijkstraK.dijkstra s vs d modelOps fuel =
      ((whileLoop (dijkstra_while4_cond modelOps) (dijkstra_while4_body modelOps) fuel (startState s vs d)).2.2,
       (whileLoop (dijkstra_while4_cond modelOps) (dijkstra_while4_body modelOps) fuel (startState s vs d)).2.1) := rfl

theorem dijkstra_pre_unfold (s : Nat) (vs : Array NodeK) (d : Array Dist) (fuel : Nat) :
    AdaptaVerif.Gen.DijkstraK.dijkstra_pre s vs d modelOps fuel =
      (decide (s < vs.size) && forRangePre (dijkstra_body1_pre modelOps) (dijkstra_body1 modelOps) (vs.size - 0) 0 vs &&
        (decide (s < (forRange (dijkstra_body1 modelOps) (vs.size - 0) 0 vs).size) &&
          (forRangePre (dijkstra_body2_pre modelOps) (dijkstra_body2 modelOps) (vs.size - 0) 0 (modelOps.empty, startVs s vs) &&
            (whileLoopPre (dijkstra_while4_cond_pre modelOps) (dijkstra_while4_cond modelOps)
              (dijkstra_while4_body_pre modelOps) (dijkstra_while4_body modelOps) fuel (startState s vs d) && true)))) := rfl

theorem startVs_spec {g : Graph} {s : Nat} (hs : s < g.n) {vs : Array NodeK} (hadj : AdjOf g.edges vs) (hsz : vs.size = g.n) :
    NodesOK g (startVs s vs) ∧ dOf (startVs s vs) = (Array.replicate g.n (none : Dist)).setIfInBounds s (some 0) := by
  obtain ⟨a1, a2, a3⟩ := init_loop_spec vs
  unfold startVs
  generalize forRange (dijkstra_body1 modelOps) (vs.size - 0) 0 vs = vsA at a1 a2 a3
  have hAsz : vsA.size = g.n := a1.trans hsz
  have hsA : s < vsA.size := by rw [hAsz]; exact hs
  have hget : ∀ k, (aget (aset vsA s { (aget vsA s) with d := (some (0 : Rat) : Dist) }) k).neighbours = (aget vsA k).neighbours ∧
      (aget (aset vsA s { (aget vsA s) with d := (some (0 : Rat) : Dist) }) k).nweights = (aget vsA k).nweights ∧
      (aget (aset vsA s { (aget vsA s) with d := (some (0 : Rat) : Dist) }) k).id = (aget vsA k).id := by
    intro k
    by_cases hk : s = k
    · subst hk; rw [aget_aset_eq _ _ _ hsA]; exact ⟨rfl, rfl, rfl⟩
    · rw [aget_aset_ne _ _ _ _ hk]; exact ⟨rfl, rfl, rfl⟩
  refine ⟨⟨fun u => ⟨?_, ?_⟩, by rw [aset_size]; exact hAsz, fun k hk => ?_⟩, ?_⟩
  · rw [(hget u).1, (a2 u).1]; exact (hadj u).1
  · rw [(hget u).2.1, (a2 u).2]; exact (hadj u).2
  · rw [(hget k).2.2]; exact (a3 k (by rw [hsz]; exact hk)).1
  · rw [dOf_aset, dOf_eq_replicate vsA (fun k hk => (a3 k (by rw [← a1]; exact hk)).2), hAsz]

theorem start_sim {g : Graph} {s : Nat} (hs : s < g.n) {vs : Array NodeK} (hadj : AdjOf g.edges vs) (hsz : vs.size = g.n)
    {d : Array Dist} (hd : d.size = g.n) : Sim g s (startState s vs d) (dijkstraHeapInit g.n s) (dijkstraInit g.n s) := by
  obtain ⟨hnodes, hd0⟩ := startVs_spec hs hadj hsz
  have hst : startState s vs d = (heapInit (dOf (startVs s vs)) g.n, d, startVs s vs) := by
    unfold startState
    rw [insert_loop, hsz]
    rfl
  rw [hst]
  refine ⟨hrel_init hs, ?_, hd0, hd, ?_, hnodes⟩
  · show heapInit _ g.n = heapInit _ g.n
    rw [hd0]
  · intro t ht
    have htn : ¬ t < g.n := fun h => ht (List.mem_range.mpr h)
    show Vec.at d t = Vec.at (Array.replicate g.n (none : Dist)) t
    rw [Vec.at_replicate, if_neg htn, Vec.at, Array.getElem?_eq_none (by rw [hd]; omega)]
    rfl

theorem prologue_pre {g : Graph} {s : Nat} (hs : s < g.n) (vs : Array NodeK) (hsz : vs.size = g.n) :
    forRangePre (dijkstra_body1_pre modelOps) (dijkstra_body1 modelOps) (vs.size - 0) 0 vs = true ∧
    s < (forRange (dijkstra_body1 modelOps) (vs.size - 0) 0 vs).size ∧
    forRangePre (dijkstra_body2_pre modelOps) (dijkstra_body2 modelOps) (vs.size - 0) 0 (modelOps.empty, startVs s vs) = true := by
  have hA : (forRange (dijkstra_body1 modelOps) (vs.size - 0) 0 vs).size = vs.size := (init_loop_spec vs).1
  refine ⟨?_, by rw [hA, hsz]; exact hs, ?_⟩
  · refine forRangePre_zero_of_inv (fun _ (w : Array NodeK) => w.size = vs.size) _ _ _ _ rfl (fun i w hi hw => ?_)
    have hiw : i < w.size := by rw [hw]; exact hi
    refine ⟨?_, (body1_spec i w hiw).1.trans hw⟩
    unfold dijkstra_body1_pre
    simp only [aset_size, hiw, decide_true, Bool.and_self]
  · have h5 : (startVs s vs).size = vs.size := by unfold startVs; rw [aset_size]; exact hA
    refine forRangePre_zero_of_inv (fun _ (w : PTree Dist × Array NodeK) => w.2 = startVs s vs) _ _ _ _ rfl
      (fun i w hi hw => ⟨?_, hw⟩)
    have hiw : i < w.2.size := by rw [hw, h5]; exact hi
    unfold dijkstra_body2_pre
    simp only [hiw, decide_true, Bool.and_self]

/-- The generated `dijkstra(s, vs, d)` with the model heap and fuel `n`, on a node array with the model's adjacency and ANY
    content of the caller's buffer `d` (only its size matters). The node array still carries the adjacency lists (only `id`
    and `d` were written), so that the next call of `johnsons` finds what it needs. -/
theorem dijkstra_spec {g : Graph} (hv : Valid g) {s : Nat} (hs : s < g.n) (vs : Array NodeK) (hadj : AdjOf g.edges vs)
    (hsz : vs.size = g.n) (dOut : Array Dist) (hd : dOut.size = g.n) :
    AdaptaVerif.Gen.DijkstraK.dijkstra_pre s vs dOut modelOps g.n = true ∧
    (AdaptaVerif.Gen.DijkstraK.dijkstra s vs dOut modelOps g.n).2 = dijkstraHeap g s ∧
    AdjOf g.edges (AdaptaVerif.Gen.DijkstraK.dijkstra s vs dOut modelOps g.n).1 ∧
    (AdaptaVerif.Gen.DijkstraK.dijkstra s vs dOut modelOps g.n).1.size = g.n := by
  obtain ⟨hp, st', hsim, hq⟩ := while_sim hv g.n _ _ _ (start_sim hs hadj hsz hd)
    (by show (List.range g.n).length ≤ g.n; rw [List.length_range])
  obtain ⟨p1, p2, p3⟩ := prologue_pre hs vs hsz
  have hsn : s < vs.size := by rw [hsz]; exact hs
  rw [dijkstra_pre_unfold, dijkstra_unfold, hp, p1, p3, decide_eq_true hsn, decide_eq_true p2]
  refine ⟨rfl, ?_, hsim.nodes.adj, hsim.nodes.size⟩
  exact Vec.ext_at (hsim.gsz.trans (dijkstraHeap_size hv hs).symm)
    (fun t => hsim.agree t (by rw [hq]; exact List.not_mem_nil))

theorem dijkstra_eq {g : Graph} (hv : Valid g) {s : Nat} (hs : s < g.n) (vs : Array NodeK) (hadj : AdjOf g.edges vs)
    (hsz : vs.size = g.n) :
    (AdaptaVerif.Gen.DijkstraK.dijkstra s vs (Array.replicate g.n none) modelOps g.n).2 = dijkstraHeap g s :=
  (dijkstra_spec hv hs vs hadj hsz _ Array.size_replicate).2.1

theorem dijkstra_pre_true {g : Graph} (hv : Valid g) {s : Nat} (hs : s < g.n) (vs : Array NodeK) (hadj : AdjOf g.edges vs)
    (hsz : vs.size = g.n) :
    AdaptaVerif.Gen.DijkstraK.dijkstra_pre s vs (Array.replicate g.n none) modelOps g.n = true :=
  (dijkstra_spec hv hs vs hadj hsz _ Array.size_replicate).1

end AdaptaVerif.Lemmas.DijkstraBridge
