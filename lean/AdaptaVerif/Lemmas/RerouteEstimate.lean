/-
The "could be shorter" estimate of `markPolylineConnectorsNeedingReroutingForDeletedObstacle`
(Model.Reroute.sideX) against the true minimum detour via a point of the side.

Everything is stated for an arbitrary ordered field `K` and an arbitrary function `N : K → K → K`
("length of the vector (u, v)") with the properties `IsNorm` — triangle inequality, positive homogeneity,
invariance under reflection of either coordinate and under exchanging them.  The Euclidean norm on ℝ has them (so has every p-norm;
the 1-norm on ℚ gives non-vacuity without real numbers).

`detour N a b c d x` = N (x−a, b) + N (x−c, d) = |start − (x, offy)| + |(x, offy) − end| where, relative to
the side's line, start = (a, b), end = (c, d).
* `detour_min`: for b, d ≥ 0, b + d > 0 the point x* = (b·c + a·d)/(b + d) minimises the detour over the
  whole line (reflection principle, proved from the triangle inequality + homogeneity);
* `detour_convex`, `detour_clamp_min`: the detour is convex in x, hence clamping x* to the side's
  parameter range [mn, mx] minimises it over the side.
-/
import Mathlib.Tactic.Linarith
import Mathlib.Tactic.Ring
import Mathlib.Tactic.FieldSimp
import Mathlib.Tactic.Positivity
import Mathlib.Algebra.Order.Field.Basic
set_option linter.unusedSectionVars false
namespace AdaptaVerif.Lemmas.RerouteEstimate

variable {K : Type} [Field K] [LinearOrder K] [IsStrictOrderedRing K]

structure IsNorm (N : K → K → K) : Prop where
  tri : ∀ u1 u2 v1 v2 : K, N (u1 + v1) (u2 + v2) ≤ N u1 u2 + N v1 v2
  homog : ∀ k u1 u2 : K, 0 ≤ k → N (k * u1) (k * u2) = k * N u1 u2
  reflX : ∀ u1 u2 : K, N (-u1) u2 = N u1 u2
  reflY : ∀ u1 u2 : K, N u1 (-u2) = N u1 u2
  swap : ∀ u1 u2 : K, N u1 u2 = N u2 u1

theorem isNorm_l1 : IsNorm (fun u v : K => |u| + |v|) where
  tri u1 u2 v1 v2 := (add_le_add (abs_add_le u1 v1) (abs_add_le u2 v2)).trans_eq (add_add_add_comm _ _ _ _)
  homog k u1 u2 hk := by simp only [abs_mul, abs_of_nonneg hk, mul_add]
  reflX u1 u2 := by simp only [abs_neg]
  reflY u1 u2 := by simp only [abs_neg]
  swap u1 u2 := add_comm _ _

def detour (N : K → K → K) (a b c d x : K) : K := N (x - a) b + N (x - c) d

theorem detour_lower (N : K → K → K) (hN : IsNorm N) (a b c d x : K) :
    N (c - a) (b + d) ≤ detour N a b c d x := by
  unfold detour
  have h := hN.tri (x - a) b (c - x) d
  have e : x - a + (c - x) = c - a := by ring
  rw [e] at h
  have e2 : N (c - x) d = N (x - c) d := by
    rw [← hN.reflX]; congr 1; ring
  rw [e2] at h
  exact h

theorem detour_at_star (N : K → K → K) (hN : IsNorm N) (a b c d : K) (hb : 0 ≤ b) (hd : 0 ≤ d) (hS : 0 < b + d) :
    detour N a b c d ((b * c + a * d) / (b + d)) = N (c - a) (b + d) := by
  unfold detour
  have hS' : b + d ≠ 0 := ne_of_gt hS
  have e1 : (b * c + a * d) / (b + d) - a = (b / (b + d)) * (c - a) := by field_simp; ring
  have e2 : (b * c + a * d) / (b + d) - c = (d / (b + d)) * (-(c - a)) := by field_simp; ring
  have e3 : (b / (b + d)) * (b + d) = b := by field_simp
  have e4 : (d / (b + d)) * (b + d) = d := by field_simp
  have k1 : 0 ≤ b / (b + d) := div_nonneg hb (le_of_lt hS)
  have k2 : 0 ≤ d / (b + d) := div_nonneg hd (le_of_lt hS)
  have t1 : N ((b * c + a * d) / (b + d) - a) b = (b / (b + d)) * N (c - a) (b + d) := by
    rw [e1, ← hN.homog _ _ _ k1, e3]
  have t2 : N ((b * c + a * d) / (b + d) - c) d = (d / (b + d)) * N (c - a) (b + d) := by
    rw [e2, ← hN.reflX (c - a), ← hN.homog _ _ _ k2, e4]
  rw [t1, t2, ← add_mul]
  have : b / (b + d) + d / (b + d) = 1 := by field_simp
  rw [this, one_mul]

theorem detour_min (N : K → K → K) (hN : IsNorm N) (a b c d : K) (hb : 0 ≤ b) (hd : 0 ≤ d) (hS : 0 < b + d) (x : K) :
    detour N a b c d ((b * c + a * d) / (b + d)) ≤ detour N a b c d x := by
  rw [detour_at_star N hN a b c d hb hd hS]
  exact detour_lower N hN a b c d x

theorem leg_convex (N : K → K → K) (hN : IsNorm N) (a b x y l : K) (h0 : 0 ≤ l) (h1 : l ≤ 1) :
    N (l * x + (1 - l) * y - a) b ≤ l * N (x - a) b + (1 - l) * N (y - a) b := by
  have hl : 0 ≤ 1 - l := sub_nonneg.2 h1
  have := hN.tri (l * (x - a)) (l * b) ((1 - l) * (y - a)) ((1 - l) * b)
  rw [hN.homog _ _ _ h0, hN.homog _ _ _ hl] at this
  have e1 : l * (x - a) + (1 - l) * (y - a) = l * x + (1 - l) * y - a := by ring
  have e2 : l * b + (1 - l) * b = b := by ring
  rw [e1, e2] at this
  exact this

theorem detour_convex (N : K → K → K) (hN : IsNorm N) (a b c d x y l : K) (h0 : 0 ≤ l) (h1 : l ≤ 1) :
    detour N a b c d (l * x + (1 - l) * y) ≤ l * detour N a b c d x + (1 - l) * detour N a b c d y := by
  unfold detour
  rw [mul_add, mul_add, add_add_add_comm]
  exact add_le_add (leg_convex N hN a b x y l h0 h1) (leg_convex N hN c d x y l h0 h1)

/-- `x = max(mn, x); x = min(mx, x)` -/
def clampK (mn mx x : K) : K :=
  let x := if mn < x then x else mn
  if x < mx then x else mx

/-- `m` between `xs` and `x` is `l·xs + (1−l)·x` with `l = (x − m)/(x − xs) ∈ [0,1]` -/
theorem convex_le_of_between (g : K → K) (xs : K)
    (hconv : ∀ x y l : K, 0 ≤ l → l ≤ 1 → g (l * x + (1 - l) * y) ≤ l * g x + (1 - l) * g y)
    (hmin : ∀ x, g xs ≤ g x) (m x : K) (h : (xs ≤ m ∧ m ≤ x) ∨ (x ≤ m ∧ m ≤ xs)) : g m ≤ g x := by
  by_cases hxe : x = xs
  · have : m = x := by
      rw [hxe]
      rcases h with ⟨h1, h2⟩ | ⟨h1, h2⟩
      · exact le_antisymm (hxe ▸ h2) h1
      · exact le_antisymm h2 (hxe ▸ h1)
    rw [this]
  · obtain ⟨l, hl0, hl1, e⟩ : ∃ l : K, 0 ≤ l ∧ l ≤ 1 ∧ l * xs + (1 - l) * x = m := by
      have e : ∀ l : K, l * xs + (1 - l) * x = x - l * (x - xs) := fun l => by ring
      refine ⟨(x - m) / (x - xs), ?_, ?_, by rw [e, div_mul_cancel₀ _ (sub_ne_zero.2 hxe), sub_sub_cancel]⟩ <;>
        rcases h with ⟨h1, h2⟩ | ⟨h1, h2⟩
      · exact div_nonneg (sub_nonneg.2 h2) (sub_nonneg.2 (h1.trans h2))
      · exact div_nonneg_of_nonpos (sub_nonpos.2 h1) (sub_nonpos.2 (h1.trans h2))
      · exact div_le_one_of_le₀ (sub_le_sub_left h1 x) (sub_nonneg.2 (h1.trans h2))
      · exact div_le_one_of_ge (sub_le_sub_left h2 x) (sub_nonpos.2 (h1.trans h2))
    calc g m = g (l * xs + (1 - l) * x) := by rw [e]
      _ ≤ l * g xs + (1 - l) * g x := hconv xs x l hl0 hl1
      _ ≤ l * g x + (1 - l) * g x := add_le_add_left (mul_le_mul_of_nonneg_left (hmin x) hl0) _
      _ = g x := by rw [← add_mul, add_sub_cancel, one_mul]

theorem convex_clamp_min (g : K → K) (xs mn mx : K)
    (hconv : ∀ x y l : K, 0 ≤ l → l ≤ 1 → g (l * x + (1 - l) * y) ≤ l * g x + (1 - l) * g y)
    (hmin : ∀ x, g xs ≤ g x) (hmm : mn ≤ mx) (x : K) (hx0 : mn ≤ x) (hx1 : x ≤ mx) :
    g (clampK mn mx xs) ≤ g x := by
  unfold clampK
  by_cases h1 : mn < xs
  · simp only [h1, if_true]
    by_cases h2 : xs < mx
    · simp only [h2, if_true]; exact hmin x
    · simp only [h2, if_false]
      exact convex_le_of_between g xs hconv hmin mx x (Or.inr ⟨hx1, not_lt.mp h2⟩)
  · simp only [h1, if_false]
    have hfin : g mn ≤ g x := convex_le_of_between g xs hconv hmin mn x (Or.inl ⟨not_lt.mp h1, hx0⟩)
    by_cases h2 : mn < mx
    · simp only [h2, if_true]; exact hfin
    · simp only [h2, if_false]
      rw [← le_antisymm hmm (not_lt.mp h2)]; exact hfin

theorem detour_clamp_min (N : K → K → K) (hN : IsNorm N) (a b c d mn mx : K) (hb : 0 ≤ b) (hd : 0 ≤ d)
    (hS : 0 < b + d) (hmm : mn ≤ mx) (x : K) (hx0 : mn ≤ x) (hx1 : x ≤ mx) :
    detour N a b c d (clampK mn mx ((b * c + a * d) / (b + d))) ≤ detour N a b c d x :=
  convex_clamp_min (detour N a b c d) _ mn mx (fun x y l h0 h1 => detour_convex N hN a b c d x y l h0 h1)
    (detour_min N hN a b c d hb hd hS) hmm x hx0 hx1

end AdaptaVerif.Lemmas.RerouteEstimate
