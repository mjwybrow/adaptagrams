/-
Bridge lemmas: every kernel generated from the C++ by cpp2lean (AdaptaVerif.Gen.Geometry) equals
the hand-written model (AdaptaVerif.Model.Geometry), and the assertions reached on its path hold.
A semantic change of the C++ breaks one of these; a harmless rewrite normally still re-proves.
Last the loop kernel `inPoly`: the definition generated from geometry.cpp (a structurally recursive helper
`inPoly_loop1` on fuel = n - i, carrying `onBorder`, with early `return false`) equals the list-based model
`Model.Geometry.inPoly`, and every vector index it uses is in bounds (`inPoly_pre`).
-/
import AdaptaVerif.Gen.Geometry
import AdaptaVerif.Lemmas.GenLoopBridge
import AdaptaVerif.Lemmas.Util.Fold
import Mathlib.Tactic.Linarith
import Mathlib.Tactic.Ring
namespace AdaptaVerif.Lemmas.GeometryBridge
open AdaptaVerif.Model.Geometry
namespace Gen
export AdaptaVerif.Gen.Geometry (vecDir inBetween colinear pointOnLine segmentIntersect inValidRegion
  cornerSide segmentIntersectPoint rayIntersectPoint vecDir_pre inBetween_pre colinear_pre pointOnLine_pre
  segmentIntersect_pre inValidRegion_pre cornerSide_pre segmentIntersectPoint_pre rayIntersectPoint_pre)
end Gen
namespace M
export AdaptaVerif.Model.Geometry (vecDir inBetween colinear pointOnLine segmentIntersect inValidRegion
  cornerSide segmentIntersectPoint rayIntersectPoint)
end M

theorem absR_eq (r : Rat) : AdaptaVerif.Gen.absR r = absR r := rfl
theorem eps_eq : AdaptaVerif.Gen.dblEpsilon = eps := rfl

theorem vecDir_eq (a b c : Pt) (z : Rat) : Gen.vecDir a b c z = M.vecDir a b c z := by
  simp only [AdaptaVerif.Gen.Geometry.vecDir, AdaptaVerif.Model.Geometry.vecDir, area2, decide_eq_true_eq]
  rfl

theorem inBetween_eq (a b c : Pt) : Gen.inBetween a b c = M.inBetween a b c := by
  simp [AdaptaVerif.Gen.Geometry.inBetween, AdaptaVerif.Model.Geometry.inBetween, strictBetween,
    absR_eq, eps_eq]

theorem colinear_eq (a b c : Pt) (t : Rat) : Gen.colinear a b c t = M.colinear a b c t := by
  simp [AdaptaVerif.Gen.Geometry.colinear, AdaptaVerif.Model.Geometry.colinear, vecDir_eq]

theorem pointOnLine_eq (a b c : Pt) (t : Rat) : Gen.pointOnLine a b c t = M.pointOnLine a b c t := by
  simp [AdaptaVerif.Gen.Geometry.pointOnLine, AdaptaVerif.Model.Geometry.pointOnLine, vecDir_eq,
    inBetween_eq, strictBetween]

theorem segmentIntersect_eq (a b c d : Pt) : Gen.segmentIntersect a b c d = M.segmentIntersect a b c d := by
  simp only [AdaptaVerif.Gen.Geometry.segmentIntersect, AdaptaVerif.Model.Geometry.segmentIntersect, vecDir_eq]
  simp

theorem inValidRegion_eq (i : Bool) (a0 a1 a2 b : Pt) :
    Gen.inValidRegion i a0 a1 a2 b = M.inValidRegion i a0 a1 a2 b := by
  simp only [AdaptaVerif.Gen.Geometry.inValidRegion, AdaptaVerif.Model.Geometry.inValidRegion, vecDir_eq]
  cases i <;> simp

theorem cornerSide_eq (c1 c2 c3 p : Pt) : Gen.cornerSide c1 c2 c3 p = M.cornerSide c1 c2 c3 p := by
  simp only [AdaptaVerif.Gen.Geometry.cornerSide, AdaptaVerif.Model.Geometry.cornerSide, vecDir_eq]
  simp

theorem rayIntersectPoint_eq (a1 a2 b1 b2 : Pt) :
    Gen.rayIntersectPoint a1 a2 b1 b2 = M.rayIntersectPoint a1 a2 b1 b2 := by
  simp only [AdaptaVerif.Gen.Geometry.rayIntersectPoint, AdaptaVerif.Model.Geometry.rayIntersectPoint,
    PARALLEL, DO_INTERSECT, decide_eq_true_eq]
  have h0 : (default : Rat) = 0 := rfl
  split_ifs <;> simp [h0]

open AdaptaVerif.Gen in
theorem earlyExit_ite_ite {α : Type} (A P Q : Prop) [Decidable A] [Decidable P] [Decidable Q] (r : α) (g : α) :
    earlyExit (if A then (if P then some r else none) else (if Q then some r else none)) g
      = if (if A then P else Q) then r else g := by
  by_cases hA : A <;> by_cases hP : P <;> by_cases hQ : Q <;> simp [hA, hP, hQ, earlyExit]

theorem segmentIntersectPoint_eq (a1 a2 b1 b2 : Pt) :
    Gen.segmentIntersectPoint a1 a2 b1 b2 = M.segmentIntersectPoint a1 a2 b1 b2 := by
  have h0 : (default : Rat) = 0 := rfl
  simp only [AdaptaVerif.Gen.Geometry.segmentIntersectPoint, AdaptaVerif.Model.Geometry.segmentIntersectPoint,
    boxReject, sipCore, PARALLEL, DO_INTERSECT, DONT_INTERSECT, h0, decide_eq_true_eq]
  simp
  simp only [earlyExit_ite_ite]

/-! ### assertions reached by the kernels hold (`_pre`) -/

theorem vecDir_pre_of_nonneg (a b c : Pt) (z : Rat) (hz : 0 ≤ z) : Gen.vecDir_pre a b c z = true := by
  simp [AdaptaVerif.Gen.Geometry.vecDir_pre, hz]

theorem vecDir_pre_zero (a b c : Pt) : Gen.vecDir_pre a b c 0 = true :=
  vecDir_pre_of_nonneg a b c 0 (le_refl 0)

theorem segmentIntersect_pre_true (a b c d : Pt) : Gen.segmentIntersect_pre a b c d = true := by
  simp [AdaptaVerif.Gen.Geometry.segmentIntersect_pre, vecDir_pre_zero]

theorem inValidRegion_pre_true (i : Bool) (a0 a1 a2 b : Pt) : Gen.inValidRegion_pre i a0 a1 a2 b = true := by
  simp [AdaptaVerif.Gen.Geometry.inValidRegion_pre, vecDir_pre_zero]

theorem cornerSide_pre_true (c1 c2 c3 p : Pt) : Gen.cornerSide_pre c1 c2 c3 p = true := by
  simp [AdaptaVerif.Gen.Geometry.cornerSide_pre, vecDir_pre_zero]

theorem colinear_pre_of_nonneg (a b c : Pt) (t : Rat) (ht : 0 ≤ t) : Gen.colinear_pre a b c t = true := by
  simp [AdaptaVerif.Gen.Geometry.colinear_pre, vecDir_pre_of_nonneg _ _ _ _ ht]

theorem eps_pos : (0 : Rat) < eps := by unfold eps; norm_num

/-- with the default tolerance 0 the collinearity assertion inside `inBetween` cannot fire -/
theorem pointOnLine_pre_zero (a b c : Pt) : Gen.pointOnLine_pre a b c 0 = true := by
  have hz : ∀ p q r : Pt, M.vecDir p q r 0 = 0 → M.vecDir p q r eps = 0 := by
    intro p q r
    simp only [AdaptaVerif.Model.Geometry.vecDir]
    have := eps_pos
    split_ifs <;> intro h <;> first | rfl | (exfalso; linarith) | (exact absurd h (by decide))
  simp only [AdaptaVerif.Gen.Geometry.pointOnLine_pre, AdaptaVerif.Gen.Geometry.inBetween_pre, vecDir_eq, eps_eq,
    vecDir_pre_zero, vecDir_pre_of_nonneg _ _ _ _ (le_of_lt eps_pos)]
  have key : ¬ M.vecDir a b c 0 = 0 ∨ M.vecDir a b c eps = 0 := by
    by_cases h : M.vecDir a b c 0 = 0
    · exact Or.inr (hz a b c h)
    · exact Or.inl h
  split_ifs <;> simp <;> exact key

end AdaptaVerif.Lemmas.GeometryBridge

namespace AdaptaVerif.Lemmas.InPolyBridge
open AdaptaVerif.Model.Geometry AdaptaVerif.Lemmas.GeometryBridge AdaptaVerif.Lemmas.GenLoopBridge

theorem prevs_eq (ps : List Pt) (h : ps ≠ []) : prevs ps = ps.getLast h :: ps.dropLast := by
  unfold prevs
  rw [List.getLast?_eq_some_getLast h]

theorem prevs_length (ps : List Pt) : (prevs ps).length = ps.length := by
  by_cases h : ps = []
  · subst h; rfl
  · rw [prevs_eq ps h]; simp
    have : 0 < ps.length := List.length_pos_iff.2 h
    omega

theorem prevs_getElem (ps : List Pt) (i : Nat) (hi : i < ps.length) (hp : i < (prevs ps).length) :
    (prevs ps)[i] = ps.getD ((i + ps.length - 1) % ps.length) default := by
  have hne : ps ≠ [] := by intro h; subst h; simp at hi
  have hpe := prevs_eq ps hne
  cases i with
  | zero =>
    have hm : (0 + ps.length - 1) % ps.length = ps.length - 1 := by
      rw [Nat.zero_add]; exact Nat.mod_eq_of_lt (by omega)
    rw [hm, ← List.getElem_eq_getD (h := by omega)]
    simp only [hpe, List.getElem_cons_zero, List.getLast_eq_getElem]
  | succ j =>
    have hm : (j + 1 + ps.length - 1) % ps.length = j := by
      have : j + 1 + ps.length - 1 = j + ps.length := by omega
      rw [this, Nat.add_mod_right]; exact Nat.mod_eq_of_lt (by omega)
    rw [hm, ← List.getElem_eq_getD (h := by omega)]
    simp only [hpe, List.getElem_cons_succ, List.getElem_dropLast]

theorem edges_length (ps : List Pt) : (edges ps).length = ps.length := by
  unfold edges; simp [prevs_length]

theorem edges_getElem (ps : List Pt) (i : Nat) (hi : i < ps.length) (he : i < (edges ps).length) :
    (edges ps)[i] = (ps.getD ((i + ps.length - 1) % ps.length) default, ps.getD i default) := by
  have hp : i < (prevs ps).length := by rw [prevs_length]; exact hi
  have h1 : (edges ps)[i]? = some ((prevs ps)[i], ps[i]) := by
    unfold edges
    rw [List.getElem?_zip_eq_some]
    exact ⟨List.getElem?_eq_getElem hp, List.getElem?_eq_getElem hi⟩
  rw [List.getElem?_eq_getElem he] at h1
  injection h1 with h1
  rw [h1, prevs_getElem ps i hi hp, ← List.getElem_eq_getD (h := hi)]

abbrev loop := @AdaptaVerif.Gen.Geometry.inPoly_loop1

theorem loop_eq_scan (poly : List Pt) (q : Pt) (cb : Bool) :
    loop poly q cb poly.length poly poly.length poly.length 0 false =
      scanE (fun e => decide (vecDir e.1 e.2 q = -1)) false (fun e ob => ob || decide (vecDir e.1 e.2 q = 0))
        (edges poly) false := by
  have := fuelLoop_eq_scanE (loop poly q cb poly.length poly poly.length) (edges poly)
    (fun e => decide (vecDir e.1 e.2 q = -1)) false (fun e ob => ob || decide (vecDir e.1 e.2 q = 0))
    (fun _ _ => rfl)
    (fun f i s hi => by
      rw [edges_getElem poly i (by rwa [edges_length] at hi) hi]
      simp only [loop, AdaptaVerif.Gen.Geometry.inPoly_loop1, vecDir_eq])
    poly.length 0 false (by rw [edges_length]; omega)
  rwa [List.drop_zero] at this

theorem inPoly_eq (poly : List Pt) (q : Pt) (cb : Bool) :
    AdaptaVerif.Gen.Geometry.inPoly poly q cb = AdaptaVerif.Model.Geometry.inPoly poly q cb := by
  simp only [AdaptaVerif.Gen.Geometry.inPoly, AdaptaVerif.Model.Geometry.inPoly, Nat.sub_zero]
  change AdaptaVerif.Gen.loopExit (loop poly q cb poly.length poly poly.length poly.length 0 false) _ = _
  rw [loop_eq_scan, loopExit_scanE, show List.foldl _ false (edges poly) = (false || _) from
    Util.foldl_or (fun ob (e : Pt × Pt) => ob || decide (vecDir e.1 e.2 q = 0)) id _ (fun _ _ => rfl) _ _]
  simp only [List.any_map, Function.comp_def, Bool.beq_eq_decide_eq]
  cases (edges poly).any (fun e => decide (vecDir e.1 e.2 q = -1)) <;> cases cb <;> simp

theorem loop_pre_true (poly : List Pt) (q : Pt) (cb : Bool) :
    AdaptaVerif.Gen.Geometry.inPoly_loop1_pre poly q cb poly.length poly poly.length poly.length 0 false = true := by
  refine fuelLoopPre_true (AdaptaVerif.Gen.Geometry.inPoly_loop1_pre poly q cb poly.length poly poly.length) poly.length
    (fun _ _ => rfl) (fun f i s hi ih => ?_) poly.length 0 false (by omega)
  have hm : (i + poly.length - 1) % poly.length < poly.length := Nat.mod_lt _ (by omega)
  simp only [AdaptaVerif.Gen.Geometry.inPoly_loop1_pre, vecDir_pre_zero, hi, hm, decide_true, Bool.and_self, ih,
    ite_self]

theorem inPoly_pre_true (poly : List Pt) (q : Pt) (cb : Bool) :
    AdaptaVerif.Gen.Geometry.inPoly_pre poly q cb = true := by
  simp only [AdaptaVerif.Gen.Geometry.inPoly_pre, Nat.sub_zero, loop_pre_true poly q cb, Bool.true_and]
  exact loopExitPre_of _ _ fun _ => by simp
end AdaptaVerif.Lemmas.InPolyBridge
