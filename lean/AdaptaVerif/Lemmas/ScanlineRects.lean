/-
C09, rectangle level: start invariant from a valid event order, separation for the whole sweep,
chains / cycles, and the exact-arithmetic facts about `Rectangle::moveCentreX/Y`.
-/
import AdaptaVerif.Lemmas.Scanline
import Mathlib.Tactic.Ring
namespace AdaptaVerif.Lemmas.Scanline
open AdaptaVerif.Model.Scanline AdaptaVerif.Spec.Rects

theorem inv_init {ax : Axis} {lt} {n : Nat} {evs : List Ev} (hv : ValidOrder ax n evs)
    (hgood : ∀ i, i < n → 0 ≤ ax.sz i ∧ ax.opn i ≤ ax.cls i) :
    Inv ax lt evs [] PMap.empty PMap.empty := by
  obtain ⟨hpw, hnd, hmem⟩ := hv
  refine ⟨hpw, hnd, ?_, ?_, ?_, List.Pairwise.nil, ?_⟩
  · intro x hx; cases hx
  · intro x hx
    rcases hx with hx | hx
    · cases hx
    · have hxn : x < n := (hmem ⟨false, x⟩).1 hx
      exact ⟨(hmem ⟨true, x⟩).2 hxn, (hgood x hxn).1⟩
  · intro x hx
    have hxn : x < n := (hmem ⟨true, x⟩).1 hx
    exact ⟨Or.inr ((hmem ⟨false, x⟩).2 hxn), (hgood x hxn).2⟩
  · intro x hx; cases hx

theorem chain_lt {lt : Nat → Nat → Bool} {cs : List Con}
    (tr : ∀ a b c, lt a b = true → lt b c = true → lt a c = true)
    (hm : ∀ c ∈ cs, lt c.l c.r = true) {a b : Nat} (h : Chain cs a b) : lt a b = true := by
  induction h with
  | single hc => exact hm _ hc
  | cons hc _ ih => exact tr _ _ _ (hm _ hc) ih

theorem acyclic_of_mono {lt : Nat → Nat → Bool} {cs : List Con}
    (ir : ∀ a, lt a a = false)
    (tr : ∀ a b c, lt a b = true → lt b c = true → lt a c = true)
    (hm : ∀ c ∈ cs, lt c.l c.r = true) : Acyclic cs := by
  intro a h
  have := chain_lt tr hm h
  rw [ir] at this; cases this

theorem chain_separates {sz : Nat → Rat} {cs : List Con} {y : Nat → Rat}
    (hsz : ∀ c ∈ cs, 0 ≤ sz c.l ∧ 0 ≤ sz c.r)
    (hgap : ∀ c ∈ cs, (sz c.l + sz c.r) / 2 ≤ c.gap) (hsat : Sat y cs)
    {a b : Nat} (h : Chain cs a b) : y a + (sz a + sz b) / 2 ≤ y b := by
  induction h with
  | single hc => linarith only [hsat _ hc, hgap _ hc]
  | cons hc _ ih => linarith only [hsat _ hc, hgap _ hc, (hsz _ hc).2, ih]

theorem scanPtr_separates {ax : Axis} {rank : Nat → Nat} (inj : RankInjective rank) {n : Nat}
    {evs : List Ev} (hv : ValidOrder ax n evs)
    (hgood : ∀ i, i < n → 0 ≤ ax.sz i ∧ ax.opn i ≤ ax.cls i)
    {y : Nat → Rat} (hsat : Sat y (scanPtr ax (keyLt ax rank) evs [] PMap.empty PMap.empty))
    {u v : Nat} (hu : u < n) (hvn : v < n) (huv : u ≠ v) (hmeet : ScanMeet ax u v) :
    y u + (ax.sz u + ax.sz v) / 2 ≤ y v ∨ y v + (ax.sz u + ax.sz v) / 2 ≤ y u := by
  have st := keyLt_strictTotal ax inj
  have hinv : Inv ax (keyLt ax rank) evs [] PMap.empty PMap.empty := inv_init hv hgood
  have hg := scanPtr_gaps ax st evs [] _ _ hinv
  have sep := fun a b ha hb hm hlt => chain_separates (sz := ax.sz) (fun c hc => (hg c hc).1) (fun c hc => (hg c hc).2.ge) hsat
    (chain_of_scanMeet ax st evs [] _ _ hinv a b (Or.inr ((hv.2.2 _).2 ha)) (Or.inr ((hv.2.2 _).2 hb)) hm hlt)
  rcases st.total u v huv with h | h
  · exact Or.inl (sep u v hu hvn hmeet h)
  · rw [add_comm (ax.sz u)]
    exact Or.inr (sep v u hvn hu ⟨hmeet.2, hmeet.1⟩ h)

theorem separation_no_meet {c1 c2 l1 l2 : Rat} (h : c1 + (l1 + l2) / 2 ≤ c2 ∨ c2 + (l1 + l2) / 2 ≤ c1) :
    ¬ IntervalsMeet (c1 - l1 / 2) (c1 + l1 / 2) (c2 - l2 / 2) (c2 + l2 / 2) := by
  rintro ⟨x, h1, h2, h3, h4⟩
  rcases h with h | h
  · linarith only [h, h2, h3]
  · linarith only [h, h1, h4]

theorem scanPtr_no_overlap {ax : Axis} {rank : Nat → Nat} (inj : RankInjective rank) {n : Nat}
    {evs : List Ev} (hv : ValidOrder ax n evs)
    (hgood : ∀ i, i < n → 0 ≤ ax.sz i ∧ ax.opn i ≤ ax.cls i)
    {y : Nat → Rat} (hsat : Sat y (scanPtr ax (keyLt ax rank) evs [] PMap.empty PMap.empty))
    {u v : Nat} (hu : u < n) (hvn : v < n) (huv : u ≠ v) :
    ¬ IntervalsMeet (ax.opn u) (ax.cls u) (ax.opn v) (ax.cls v) ∨
    ¬ IntervalsMeet (y u - ax.sz u / 2) (y u + ax.sz u / 2) (y v - ax.sz v / 2) (y v + ax.sz v / 2) := by
  by_cases hmeet : ScanMeet ax u v
  · exact Or.inr (separation_no_meet (scanPtr_separates inj hv hgood hsat hu hvn huv hmeet))
  · refine Or.inl fun ⟨x, h1, h2, h3, h4⟩ => hmeet ⟨(h1.trans h4).le, (h3.trans h2).le⟩

theorem getMinY_eq (r : Rect) (b : Rat) : r.getMinY b = r.centreY b - r.height b / 2 := by
  simp only [Rect.centreY, Rect.height]; ring
theorem getMaxY_eq (r : Rect) (b : Rat) : r.getMaxY b = r.centreY b + r.height b / 2 := by
  simp only [Rect.centreY, Rect.height]; ring

theorem moveCentreX_width (r : Rect) (bx x : Rat) : (r.moveCentreX bx x).width bx = r.width bx := by
  simp only [Rect.moveCentreX, Rect.moveMinX, Rect.width, Rect.getMaxX, Rect.getMinX]; ring
theorem moveCentreX_height (r : Rect) (bx b x : Rat) : (r.moveCentreX bx x).height b = r.height b := rfl
theorem moveCentreX_centre (r : Rect) (bx x : Rat) : (r.moveCentreX bx x).centreX bx = x := by
  simp only [Rect.moveCentreX, Rect.moveMinX, Rect.centreX, Rect.width, Rect.getMaxX, Rect.getMinX]; ring
theorem moveCentreY_height (r : Rect) (b y : Rat) : (r.moveCentreY b y).height b = r.height b := by
  simp only [Rect.moveCentreY, Rect.moveMinY, Rect.height, Rect.getMaxY, Rect.getMinY]; ring
theorem moveCentreY_width (r : Rect) (bx b y : Rat) : (r.moveCentreY b y).width bx = r.width bx := rfl
theorem moveCentreY_centre (r : Rect) (b y : Rat) : (r.moveCentreY b y).centreY b = y := by
  simp only [Rect.moveCentreY, Rect.moveMinY, Rect.centreY, Rect.height, Rect.getMaxY, Rect.getMinY]; ring
theorem moveCentreY_getMinY (r : Rect) (b y : Rat) : (r.moveCentreY b y).getMinY b = y - r.height b / 2 := by
  simp only [Rect.moveCentreY, Rect.moveMinY, Rect.height, Rect.getMaxY, Rect.getMinY]; ring
theorem moveCentreY_getMaxY (r : Rect) (b y : Rat) : (r.moveCentreY b y).getMaxY b = y + r.height b / 2 := by
  simp only [Rect.moveCentreY, Rect.moveMinY, Rect.height, Rect.getMaxY, Rect.getMinY]; ring
theorem moveCentreX_getMinX (r : Rect) (bx x : Rat) : (r.moveCentreX bx x).getMinX bx = x - r.width bx / 2 := by
  simp only [Rect.moveCentreX, Rect.moveMinX, Rect.width, Rect.getMaxX, Rect.getMinX]; ring
theorem moveCentreX_getMaxX (r : Rect) (bx x : Rat) : (r.moveCentreX bx x).getMaxX bx = x + r.width bx / 2 := by
  simp only [Rect.moveCentreX, Rect.moveMinX, Rect.width, Rect.getMaxX, Rect.getMinX]; ring

theorem overlap_border_mono {u v : Rect} {bx b ex ey : Rat} (hx : 0 ≤ ex) (hy : 0 ≤ ey)
    (h : Overlap (bordered u bx b) (bordered v bx b)) :
    Overlap (bordered u (bx + ex) (b + ey)) (bordered v (bx + ex) (b + ey)) := by
  obtain ⟨x, y, h1, h2, h3, h4, h5, h6, h7, h8⟩ := h
  have lo : ∀ {m c e p : Rat}, 0 ≤ e → m - c < p → m - (c + e) < p := fun he h => by linarith
  have hi : ∀ {m c e p : Rat}, 0 ≤ e → p < m + c → p < m + (c + e) := fun he h => by linarith
  exact ⟨x, y, lo hx h1, hi hx h2, lo hx h3, hi hx h4, lo hy h5, hi hy h6, lo hy h7, hi hy h8⟩

end AdaptaVerif.Lemmas.Scanline
