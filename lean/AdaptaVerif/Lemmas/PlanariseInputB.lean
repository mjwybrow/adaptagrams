/-
Soundness of the decidable input hypothesis `Check.Planarise.sepInputB`.
-/
import AdaptaVerif.Lemmas.PlanariseEdges
import AdaptaVerif.Lemmas.PlanariseGood
namespace AdaptaVerif.Lemmas.Planarise
open AdaptaVerif.Model.Planarise AdaptaVerif.Check.Planarise

theorem ptPairsB_eq : ∀ l : List Pt, ptPairsB l = ptPairs l
  | [] => rfl
  | [_] => rfl
  | a :: b :: r => by simp [ptPairsB, ptPairs, ptPairsB_eq (b :: r)]

theorem sepInputB_sound {inp : Input} (h : sepInputB inp = true) : SepInput inp ∧ NoCentreInside inp := by
  unfold sepInputB at h
  simp only [Bool.and_eq_true, List.all_eq_true, ptPairsB_eq] at h
  obtain ⟨⟨⟨⟨⟨h1, h2⟩, h3⟩, h4⟩, h5⟩, h6⟩ := h
  refine ⟨⟨?_, ?_, ?_, ?_, ?_, ?_⟩, ?_⟩
  · intro a ha b hb hp
    have := (h1 a ha b hb).1
    simp only [Bool.or_eq_true, Bool.not_eq_true', beq_eq_false_iff_ne, beq_iff_eq] at this
    exact this.resolve_left (fun h => h hp)
  · intro a ha b hb hi
    have := (h1 a ha b hb).2
    simp only [Bool.or_eq_true, Bool.not_eq_true', beq_eq_false_iff_ne, beq_iff_eq] at this
    exact this.resolve_left (fun h => h hi)
  · intro e he
    obtain ⟨⟨⟨a, b⟩, c⟩, _⟩ := h2 e he
    exact ⟨by simpa using a, by simpa using b, by simpa using c⟩
  · intro e he pq hpq
    have := (h2 e he).2 pq hpq
    simp only [Bool.or_eq_true, Bool.and_eq_true, Bool.not_eq_true', beq_eq_false_iff_ne, beq_iff_eq] at this
    exact this
  · constructor
    · intro a ha b hb
      exact allApartB_sound h3 a.x (List.mem_map.2 ⟨a, ha, rfl⟩) b.x (List.mem_map.2 ⟨b, hb, rfl⟩)
    · intro a ha b hb
      exact allApartB_sound h4 a.y (List.mem_map.2 ⟨a, ha, rfl⟩) b.y (List.mem_map.2 ⟨b, hb, rfl⟩)
  · intro e he q hq n hn hp
    have := h5 e he q hq n hn
    simp [hp] at this
  · intro e he pq hpq n hn hin
    have := h6 e he pq hpq n hn
    rw [Bool.not_eq_true', ← Bool.not_eq_true] at this
    apply this
    simp only [Bool.or_eq_true, Bool.and_eq_true, beq_iff_eq, decide_eq_true_eq, and_assoc]
    exact hin

end AdaptaVerif.Lemmas.Planarise
