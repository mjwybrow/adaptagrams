/-
The two searches on the dumped graph `AStarWitness.lossyGraph` — with the turn-pruning rule and with the rule
switched off —, each evaluated once; the witnesses of Props/C05AStar.lean read the results.
-/
import AdaptaVerif.Lemmas.AStarWitness
import AdaptaVerif.Lemmas.AStarGraph
namespace AdaptaVerif.Lemmas.AStarWitnessRun
open AdaptaVerif.Model.AStar AdaptaVerif.Lemmas.AStarSpec AdaptaVerif.Lemmas.AStarWitness

theorem lossy_pruned_run :
    (lossyGraph.run.cost, lossyGraph.run.chain) =
      (some 50, [1, 148, 168, 158, 11, 15, 159, 160, 167, 161, 165, 162, 163, 0]) := by
  unfold Graph.run
  rw [AStarGraph.fuel_eq]
  decide +kernel

theorem lossy_pruned_chain :
    lossyGraph.run.chain = [1, 148, 168, 158, 11, 15, 159, 160, 167, 161, 165, 162, 163, 0] :=
  (Prod.mk.inj lossy_pruned_run).2

/-- 59 with the rule off against 50 with it, although switching it off only adds edges (`AStarGraph.reach_unpruned`): the search
    does not minimise its own g, Props/C05AStar `search_not_optimal_for_own_cost_on_real_graph` -/
theorem lossy_unpruned_run :
    (({ lossyGraph with prune := false }).run.cost, ({ lossyGraph with prune := false }).run.chain) =
      (some 59, [1, 148, 6, 124, 125, 136, 126, 127, 137, 128, 134, 129, 130, 143, 0]) := by
  unfold Graph.run
  rw [AStarGraph.fuel_eq]
  decide +kernel

theorem lossy_unpruned_cost : ({ lossyGraph with prune := false }).run.cost = some 59 :=
  (Prod.mk.inj lossy_unpruned_run).1

theorem lossy_unpruned_chain : ({ lossyGraph with prune := false }).run.chain =
    [1, 148, 6, 124, 125, 136, 126, 127, 137, 128, 134, 129, 130, 143, 0] :=
  (Prod.mk.inj lossy_unpruned_run).2

/-- the route of the pruned search, of cost 50 through cost target 163, in the unpruned state graph -/
theorem lossy_pruned_route_unpruned :
    ∃ path, Reach ({ lossyGraph with prune := false }).problem ({ lossyGraph with prune := false }).tar
        (some 163) 50 path ∧ ({ lossyGraph with prune := false }).tar ∉ path.tail :=
  AStarGraph.run_route_unpruned lossyGraph 50 _ 163 lossy_pruned_run (by decide) (by decide +kernel)

end AdaptaVerif.Lemmas.AStarWitnessRun
