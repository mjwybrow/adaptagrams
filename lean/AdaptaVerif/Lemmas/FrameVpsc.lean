/-
C20 — the VPSC problems of `Model/Frame.lean` are the problems of `Spec/Qp.lean` (C02) with every scale 1 and no
equality constraint (`qp`).  Feasibility, cost, optima and well-formedness agree, so uniqueness of the optimum and
its behaviour under translation of the desired positions and under renaming of the variables are C02's theorems
read through the embedding.
-/
import AdaptaVerif.Model.Frame
import AdaptaVerif.Lemmas.QpOpt
namespace AdaptaVerif.Lemmas.FrameVpsc
open AdaptaVerif.Model.Frame AdaptaVerif.Spec

def qcon (c : VCon) : Qp.Con := ⟨c.l, c.r, c.gap, false⟩

/-- `P.shift t` and `P.permute τ cons'` go to `(qp P).shift t` and `(qp P).permute τ (cons'.map qcon)`, by `rfl` -/
def qp (P : VProblem) : Qp.Problem := ⟨P.n, P.desired, P.weight, fun _ => 1, P.cons.map qcon⟩

theorem sumTo_eq (n : Nat) (f : Nat → Rat) : Qp.sumTo n f = sumTo n f := by
  induction n with
  | zero => rfl
  | succ n ih => rw [Qp.sumTo, ih, sumTo]

theorem cost_qp (P : VProblem) (x : Nat → Rat) : Qp.cost (qp P) x = P.cost x := sumTo_eq _ _

theorem feasible_qp (P : VProblem) (x : Nat → Rat) : Qp.Feasible (qp P) x ↔ P.Feasible x := by
  simp only [Qp.Feasible, qp, List.forall_mem_map, VProblem.Feasible]
  refine forall₂_congr fun c _ => ?_
  show 0 ≤ 1 * x c.r - c.gap - 1 * x c.l ↔ x c.l + c.gap ≤ x c.r
  rw [one_mul, one_mul, sub_sub, sub_nonneg, add_comm]

theorem isOptimum_qp (P : VProblem) (x : Nat → Rat) : Qp.IsOptimum (qp P) x ↔ P.IsOptimum x := by
  simp only [Qp.IsOptimum, VProblem.IsOptimum, feasible_qp, cost_qp]

theorem wf_qp (P : VProblem) : Qp.WF (qp P) ↔ P.WF :=
  and_congr Iff.rfl List.forall_mem_map

theorem optimum_unique (P : VProblem) (hw : P.WF) (x y : Nat → Rat)
    (hx : P.IsOptimum x) (hy : P.IsOptimum y) : ∀ i, i < P.n → x i = y i :=
  Qp.optimum_unique (qp P) ((wf_qp P).2 hw) x y ((isOptimum_qp P x).2 hx) ((isOptimum_qp P y).2 hy)

theorem vpsc_translation_equivariant (P : VProblem) (t : Rat) (x : Nat → Rat) :
    P.IsOptimum x ↔ (P.shift t).IsOptimum (fun i => x i + t) :=
  (isOptimum_qp P x).symm.trans
    ((Qp.optimum_shift_iff (qp P) t (fun _ _ => rfl) x).trans (isOptimum_qp (P.shift t) _))

theorem mem_map_qcon {P : VProblem} {σ : Nat → Nat} {cons' : List VCon}
    (hc : ∀ c, c ∈ cons' ↔ ∃ c0 ∈ P.cons, c = c0.rename σ) (c : Qp.Con) :
    c ∈ cons'.map qcon ↔ c ∈ (qp P).cons.map (Qp.Con.rename σ) := by
  simp only [qp, List.mem_map, hc]
  constructor
  · rintro ⟨_, ⟨c0, h0, rfl⟩, rfl⟩; exact ⟨_, ⟨c0, h0, rfl⟩, rfl⟩
  · rintro ⟨_, ⟨c0, h0, rfl⟩, rfl⟩; exact ⟨_, ⟨c0, h0, rfl⟩, rfl⟩

theorem vpsc_permutation_invariant (P : VProblem) (hw : P.WF) (σ τ : Nat → Nat) (hp : IsPerm P.n σ τ)
    (cons' : List VCon) (hc : ∀ c, c ∈ cons' ↔ ∃ c0 ∈ P.cons, c = c0.rename σ) (x : Nat → Rat) :
    P.IsOptimum x → (P.permute τ cons').IsOptimum (fun j => x (τ j)) := fun hx =>
  (isOptimum_qp (P.permute τ cons') _).1
    (Qp.optimum_push (qp P) σ τ _ ((wf_qp P).2 hw) hp (mem_map_qcon hc) x ((isOptimum_qp P x).2 hx))

end AdaptaVerif.Lemmas.FrameVpsc
