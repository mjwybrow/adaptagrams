/-
Tie for C05's estimator kernels: the definitions generated from makepath.cpp by cpp2lean
(AdaptaVerif.Gen.Makepath: value `f` + reached-assertions predicate `f_pre`) coincide with the
hand model AdaptaVerif.Model.Bends (which encodes a failed assertion as `none`).  First `bends` and the direction
codes, then `estimatedCostSpecific` (orthogonal branch): as generated it is the hand model
`Model.Bends.estimatedCostSpecific` that the admissibility theorems of Props/C05 are about.
-/
import AdaptaVerif.Gen.Makepath
import AdaptaVerif.Model.Bends
import Mathlib.Tactic.Linarith
namespace AdaptaVerif.Lemmas.BendsBridge
open AdaptaVerif.Model.Geometry (Pt)
namespace G
export AdaptaVerif.Gen.Makepath (dimDirection orthogonalDirectionsCount orthogonalDirection dirRight dirLeft
  dirReverse bends dirRight_pre dirLeft_pre dirReverse_pre bends_pre orthogonalDirection_pre)
end G
namespace M
export AdaptaVerif.Model.Bends (dimDirection orthogonalDirectionsCount orthogonalDirection dirRight dirLeft
  dirReverse bends bendsChain)
end M

theorem dimDirection_eq (d : Rat) : G.dimDirection d = M.dimDirection d := by
  simp [AdaptaVerif.Gen.Makepath.dimDirection, AdaptaVerif.Model.Bends.dimDirection]

theorem orthogonalDirectionsCount_eq (d : Nat) : G.orthogonalDirectionsCount d = M.orthogonalDirectionsCount d := by
  simp [AdaptaVerif.Gen.Makepath.orthogonalDirectionsCount, AdaptaVerif.Model.Bends.orthogonalDirectionsCount]

theorem orthogonalDirection_eq (a b : Pt) : G.orthogonalDirection a b = M.orthogonalDirection a b := by
  simp [AdaptaVerif.Gen.Makepath.orthogonalDirection, AdaptaVerif.Model.Bends.orthogonalDirection]

theorem code_cases {p : Nat → Prop} (h1 : p 1) (h2 : p 2) (h4 : p 4) (h8 : p 8)
    (ho : ∀ d, d ≠ 1 → d ≠ 2 → d ≠ 4 → d ≠ 8 → p d) (d : Nat) : p d := by
  by_cases e1 : d = 1; · exact e1 ▸ h1
  by_cases e2 : d = 2; · exact e2 ▸ h2
  by_cases e4 : d = 4; · exact e4 ▸ h4
  by_cases e8 : d = 8; · exact e8 ▸ h8
  exact ho d e1 e2 e4 e8

theorem dirRight_eq (d : Nat) : M.dirRight d = if G.dirRight_pre d then some (G.dirRight d) else none := by
  cases d using code_cases with
  | h1 | h2 | h4 | h8 => rfl
  | ho d h1 h2 h4 h8 => simp only [AdaptaVerif.Gen.Makepath.dirRight_pre, AdaptaVerif.Model.Bends.dirRight,
    h1, h2, h4, h8, decide_false, if_false, Bool.false_and, Bool.false_eq_true]

theorem dirLeft_eq (d : Nat) : M.dirLeft d = if G.dirLeft_pre d then some (G.dirLeft d) else none := by
  cases d using code_cases with
  | h1 | h2 | h4 | h8 => rfl
  | ho d h1 h2 h4 h8 => simp only [AdaptaVerif.Gen.Makepath.dirLeft_pre, AdaptaVerif.Model.Bends.dirLeft,
    h1, h2, h4, h8, decide_false, if_false, Bool.false_and, Bool.false_eq_true]

theorem dirReverse_eq (d : Nat) : M.dirReverse d = if G.dirReverse_pre d then some (G.dirReverse d) else none := by
  cases d using code_cases with
  | h1 | h2 | h4 | h8 => rfl
  | ho d h1 h2 h4 h8 => simp only [AdaptaVerif.Gen.Makepath.dirReverse_pre, AdaptaVerif.Model.Bends.dirReverse,
    h1, h2, h4, h8, decide_false, if_false, Bool.false_and, Bool.false_eq_true]

theorem dir_pre_same (d : Nat) : G.dirLeft_pre d = G.dirRight_pre d ∧ G.dirReverse_pre d = G.dirRight_pre d := by
  cases d using code_cases with
  | h1 | h2 | h4 | h8 => exact ⟨rfl, rfl⟩
  | ho d h1 h2 h4 h8 => simp only [AdaptaVerif.Gen.Makepath.dirRight_pre, AdaptaVerif.Gen.Makepath.dirLeft_pre,
    AdaptaVerif.Gen.Makepath.dirReverse_pre, h1, h2, h4, h8, decide_false, if_false, Bool.false_eq_true, and_self]

theorem chain_eq (cd dd ctd rev : Nat) (perp : Bool) :
    M.bendsChain cd dd ctd rev perp =
      (if (decide (cd = dd) && decide (ctd = cd)) then some 0 else
       if (perp && decide (ctd = (dd ||| cd))) then some 1 else
       if (perp && decide (ctd = cd)) then some 1 else
       if (perp && decide (ctd = dd)) then some 1 else
       if ((decide (cd = dd) && decide (ctd ≠ cd)) && !(decide ((ctd &&& rev) ≠ 0))) then some 2 else
       if ((decide (cd = rev) && decide (ctd ≠ dd)) && decide (ctd ≠ cd)) then some 2 else
       if ((perp && decide (ctd ≠ (dd ||| cd))) && decide (ctd ≠ cd)) then some 3 else
       if (decide (cd = rev) && (decide (ctd = dd) || decide (ctd = cd))) then some 4 else
       if (decide (cd = dd) && decide ((ctd &&& rev) ≠ 0)) then some 4 else none) := by
  simp only [AdaptaVerif.Model.Bends.bendsChain, Bool.and_eq_true, decide_eq_true_eq, Bool.or_eq_true,
    Bool.not_eq_true', decide_eq_false_iff_not, and_assoc]

theorem orthogonalDirection_pre_true (a b : Pt) : AdaptaVerif.Gen.Makepath.orthogonalDirection_pre a b = true := by
  simp only [AdaptaVerif.Gen.Makepath.orthogonalDirection_pre]
  split_ifs <;> rfl

theorem chain_step (c p : Bool) (a v : Int) :
    (if (if c then true else p) = true then some (if c then a else v).toNat else none)
      = if c then some a.toNat else (if p = true then some v.toNat else none) := by
  cases c <;> simp

theorem chain_end (v : Int) : (if (false && true) = true then some v.toNat else (none : Option Nat)) = none := by simp

theorem bends_eq (c : Pt) (cd : Nat) (d : Pt) (dd : Nat) :
    M.bends c cd d dd = if G.bends_pre c cd d dd then some (G.bends c cd d dd).toNat else none := by
  obtain ⟨eL, eV⟩ := dir_pre_same dd
  cases eR : G.dirRight_pre dd <;> rw [eR] at eL eV
  · simp [AdaptaVerif.Model.Bends.bends, dirRight_eq, dirLeft_eq, dirReverse_eq, eR, eL, eV,
      AdaptaVerif.Gen.Makepath.bends_pre]
  · by_cases h0 : cd = 0
    · simp [AdaptaVerif.Model.Bends.bends, AdaptaVerif.Gen.Makepath.bends_pre, h0]
    · simp only [AdaptaVerif.Model.Bends.bends, dirRight_eq, dirLeft_eq, dirReverse_eq, eR, eL, eV, if_true,
        AdaptaVerif.Gen.Makepath.bends_pre, AdaptaVerif.Gen.Makepath.bends, orthogonalDirection_eq, chain_eq,
        orthogonalDirection_pre_true, h0, if_false, ne_eq, not_false_eq_true, decide_true,
        Bool.true_and, Bool.or_true, Bool.and_true, chain_step]
      rfl

end AdaptaVerif.Lemmas.BendsBridge

namespace AdaptaVerif.Lemmas.EstimateBridge
open AdaptaVerif.Model.Geometry (Pt)
open AdaptaVerif.Model.EstimateKeys (ConnK)
open AdaptaVerif.Lemmas.BendsBridge
namespace G
export AdaptaVerif.Lemmas.BendsBridge.G (dimDirection orthogonalDirectionsCount orthogonalDirection bends bends_pre orthogonalDirection_pre)
export AdaptaVerif.Gen.Makepath (manhattanDist manhattanDist_pre estimatedCostSpecific estimatedCostSpecific_pre orthogonalDirectionsCount_pre)
end G
namespace M
export AdaptaVerif.Lemmas.BendsBridge.M (orthogonalDirectionsCount orthogonalDirection bends)
export AdaptaVerif.Model.Bends (manhattanDist minStep bendCount estimatedCostSpecific)
end M

theorem manhattanDist_eq (a b : Pt) : G.manhattanDist a b = M.manhattanDist a b := rfl

theorem ite_nonneg {c : Prop} [Decidable c] {a b : Int} (ha : 0 ≤ a) (hb : 0 ≤ b) :
    0 ≤ if c then a else b := by
  split <;> assumption

/-- every leaf of the nine-way if-chain of the generated `bends` is a literal `0 … 4` -/
theorem bends_nonneg (c : Pt) (cd : Nat) (d : Pt) (dd : Nat) : 0 ≤ G.bends c cd d dd := by
  unfold AdaptaVerif.Gen.Makepath.bends
  dsimp only
  iterate 9 apply ite_nonneg (by decide)
  decide

theorem cast_toNat (x : Int) (h : 0 ≤ x) : ((x.toNat : Nat) : Rat) = ((x : Int) : Rat) := by
  have : ((x.toNat : Nat) : Int) = x := Int.toNat_of_nonneg h
  conv_rhs => rw [← this]
  rfl

/-- `minStep` with the bit test, the assertion outcome and the value of `bends` abstracted -/
def stepO (acc : Option Nat) (c p : Bool) (b : Int) : Option Nat :=
  match acc with
  | none => none
  | some a => if c then (if p then some (min a b.toNat) else none) else some a

theorem minStep_is_stepO (acc : Option Nat) (dirs D : Nat) (curr : Pt) (cd : Nat) (tar : Pt) :
    M.minStep acc dirs D curr cd tar =
      stepO acc (decide (dirs &&& D ≠ 0)) (G.bends_pre curr cd tar D) (G.bends curr cd tar D) := by
  cases acc with
  | none => rfl
  | some a =>
    simp only [AdaptaVerif.Model.Bends.minStep, bends_eq, stepO]
    by_cases hc : dirs &&& D ≠ 0
    · by_cases hp : G.bends_pre curr cd tar D = true
      · simp [hc, hp]
      · simp [hc, hp]
    · simp [hc]

/-- accumulator of the chain: `none` once a reached assertion failed -/
def res (ok : Bool) (a : Int) : Option Nat := if ok then some a.toNat else none

theorem toNat_min (a b : Int) : (min a b).toNat = min a.toNat b.toNat := by
  rcases Int.le_total a b with h | h
  · rw [Int.min_eq_left h, Nat.min_eq_left (Int.toNat_le_toNat h)]
  · rw [Int.min_eq_right h, Nat.min_eq_right (Int.toNat_le_toNat h)]

theorem step_res (ok : Bool) (a : Int) (c p : Bool) (b : Int) :
    stepO (res ok a) c p b = res (ok && (!c || p)) (if c then min a b else a) := by
  cases ok; · rfl
  cases c; · rfl
  cases p; · rfl
  exact congrArg some (toNat_min a b).symm

/-- one `if (costTarDirs & D) bendCount = std::min(bendCount, bends(curr, currDir, tar, D))` step -/
theorem minStep_eq (acc : Int) (h0 : 0 ≤ acc) (dirs D : Nat) (curr : Pt) (cd : Nat) (tar : Pt) :
    M.minStep (some acc.toNat) dirs D curr cd tar =
      if (decide (dirs &&& D ≠ 0) && !G.bends_pre curr cd tar D) then none
      else some (if decide (dirs &&& D ≠ 0) then min acc (G.bends curr cd tar D) else acc).toNat := by
  rw [minStep_is_stepO, show (some acc.toNat : Option Nat) = res true acc from rfl, step_res]
  cases decide (dirs &&& D ≠ 0) <;> cases G.bends_pre curr cd tar D <;> rfl

theorem minStep_none (dirs D : Nat) (curr : Pt) (cd : Nat) (tar : Pt) :
    M.minStep none dirs D curr cd tar = none := rfl

theorem step_nonneg (acc : Int) (h0 : 0 ≤ acc) (c : Bool) (b : Int) (hb : 0 ≤ b) :
    0 ≤ (if c then min acc b else acc) := by
  cases c <;> simp <;> omega

theorem final_abs (ok : Bool) (a : Int) (ha : 0 ≤ a) (dist pen : Rat) :
    (match res ok a with
      | none => none
      | some bc => some (dist + (bc : Rat) * pen)) = if ok then some (dist + ((a : Int) : Rat) * pen) else none := by
  cases ok
  · simp [res]
  · simp only [res, if_true, cast_toNat a ha]

theorem pre_abs (c1 p1 c2 p2 c4 p4 c8 p8 : Bool) :
    ((if c1 = true then p1 && true else true) && ((if c2 = true then p2 && true else true) &&
      ((if c4 = true then p4 && true else true) && ((if c8 = true then p8 && true else true) && true)))) =
    ((((true && (!c1 || p1)) && (!c2 || p2)) && (!c4 || p4)) && (!c8 || p8)) := by
  revert c1 p1 c2 p2 c4 p4 c8 p8; decide

theorem pre_abs2 (c1 p1 c2 p2 c4 p4 c8 p8 : Bool) :
    ((if c1 = true then p1 else true) && ((if c2 = true then p2 else true) &&
      ((if c4 = true then p4 else true) && (if c8 = true then p8 else true)))) =
      ((!c1 || p1) && (!c2 || p2) && (!c4 || p4) && (!c8 || p8)) := by
  revert c1 p1 c2 p2 c4 p4 c8 p8; decide

theorem estimatedCostSpecific_eq (k : ConnK) (hk : k.connType ≠ 1) (last : Option Pt) (curr tar : Pt) (dirs : Nat)
    (euclid : Pt → Pt → Rat) :
    AdaptaVerif.Model.Bends.estimatedCostSpecific last curr tar dirs k.segmentPenalty =
      if AdaptaVerif.Gen.Makepath.estimatedCostSpecific_pre k last curr tar dirs euclid
      then some (AdaptaVerif.Gen.Makepath.estimatedCostSpecific k last curr tar dirs euclid) else none := by
  have hk' : decide (((k.connType : Nat) : Int) = (((1 : Nat) : Nat) : Int)) = false := by
    simp only [decide_eq_false_iff_not]; omega
  have hm : ∀ a b, AdaptaVerif.Gen.Makepath.manhattanDist_pre a b = true := fun _ _ => rfl
  have hc : ∀ d, AdaptaVerif.Gen.Makepath.orthogonalDirectionsCount_pre d = true := by
    intro d; simp only [AdaptaVerif.Gen.Makepath.orthogonalDirectionsCount_pre]; repeat' split
    all_goals rfl
  simp only [AdaptaVerif.Model.Bends.estimatedCostSpecific, AdaptaVerif.Gen.Makepath.estimatedCostSpecific,
    AdaptaVerif.Gen.Makepath.estimatedCostSpecific_pre, hk', Bool.false_eq_true, if_false]
  by_cases hp : k.segmentPenalty > 0
  · simp only [hp, not_true_eq_false, if_false, decide_true, Bool.true_and, hm]
    cases last with
    | none =>
      simp only [AdaptaVerif.Model.Bends.bendCount, Option.isNone_none, if_true, manhattanDist_eq]
      by_cases h1 : tar.x - curr.x = 0 <;> by_cases h2 : tar.y - curr.y = 0 <;> simp [h1, h2]
    | some l =>
      -- the four `minStep`s become steps of the accumulator `res` (`step_res`); the values of `bends`, its
      -- assertion outcomes and the bit tests are then opaque, and `final_abs` reads the result off `res`
      simp only [AdaptaVerif.Model.Bends.bendCount, Option.isNone_some, Bool.false_eq_true, if_false, Option.getD_some,
        Option.isSome_some, Bool.true_and, minStep_is_stepO, show (some 10 : Option Nat) = res true 10 from rfl,
        step_res, orthogonalDirection_pre_true, hc, Bool.or_true,
        manhattanDist_eq, orthogonalDirection_eq, orthogonalDirectionsCount_eq,
        AdaptaVerif.Model.Bends.CostDirectionN, AdaptaVerif.Model.Bends.CostDirectionE,
        AdaptaVerif.Model.Bends.CostDirectionS, AdaptaVerif.Model.Bends.CostDirectionW]
      generalize AdaptaVerif.Model.Bends.orthogonalDirection l curr = cd
      have n1 := bends_nonneg curr cd tar 1; have n2 := bends_nonneg curr cd tar 2
      have n4 := bends_nonneg curr cd tar 4; have n8 := bends_nonneg curr cd tar 8
      generalize AdaptaVerif.Gen.Makepath.bends curr cd tar 1 = b1 at n1 ⊢
      generalize AdaptaVerif.Gen.Makepath.bends curr cd tar 2 = b2 at n2 ⊢
      generalize AdaptaVerif.Gen.Makepath.bends curr cd tar 4 = b4 at n4 ⊢
      generalize AdaptaVerif.Gen.Makepath.bends curr cd tar 8 = b8 at n8 ⊢
      generalize AdaptaVerif.Gen.Makepath.bends_pre curr cd tar 1 = p1
      generalize AdaptaVerif.Gen.Makepath.bends_pre curr cd tar 2 = p2
      generalize AdaptaVerif.Gen.Makepath.bends_pre curr cd tar 4 = p4
      generalize AdaptaVerif.Gen.Makepath.bends_pre curr cd tar 8 = p8
      generalize decide (dirs &&& 1 ≠ 0) = c1
      generalize decide (dirs &&& 2 ≠ 0) = c2
      generalize decide (dirs &&& 4 ≠ 0) = c4
      generalize decide (dirs &&& 8 ≠ 0) = c8
      simp only [Bool.and_eq_true, decide_eq_true_eq]
      by_cases hd : AdaptaVerif.Model.Bends.manhattanDist curr tar > 0
      · by_cases hcd : cd > 0 ∧ AdaptaVerif.Model.Bends.orthogonalDirectionsCount cd = 1
        · simp only [hd, hcd, if_true, decide_true, and_self, Bool.and_true, and_true]
          have a1 := step_nonneg 10 (by omega) c1 b1 n1
          have a2 := step_nonneg _ a1 c2 b2 n2
          have a3 := step_nonneg _ a2 c4 b4 n4
          have a4 := step_nonneg _ a3 c8 b8 n8
          rw [pre_abs2 c1 p1 c2 p2 c4 p4 c8 p8]
          exact final_abs _ _ a4 _ _
        · simp [hd, hcd]
      · simp [hd]
  · simp [hp]

end AdaptaVerif.Lemmas.EstimateBridge
