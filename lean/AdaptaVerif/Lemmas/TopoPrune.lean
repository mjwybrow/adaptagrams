/-
Helper lemmas for Props/C13Prune (model: Model/TopoPrune — `PruneDegenerate::operator()` and
`validTurn` of libtopology's TopologyConstraints constructor): sign lemmas over Rat, the
index-filter `keepBy` behind `prune`, the five-slot form `markOf` of `markAt`, reversal of the path, and
the maps of the picture (`PruneSymm`: transposition, mirroring) under which the rule is invariant.
-/
import AdaptaVerif.Model.TopoPrune
import Mathlib.Tactic.Linarith
import Mathlib.Tactic.Ring
import Mathlib.Algebra.Order.Field.Rat
namespace AdaptaVerif.Lemmas.TopoPrune
open AdaptaVerif.Model.TopoPrune

theorem pos_of_mul_sq_pos {a b : Rat} (h : 0 < a * (b * b)) : 0 < a := by
  by_contra hn
  have := mul_nonpos_of_nonpos_of_nonneg (not_lt.mp hn) (mul_self_nonneg b)
  linarith

theorem nonneg_of_mul_sq_nonneg {a b : Rat} (hb : b ≠ 0) (h : 0 ≤ a * (b * b)) : 0 ≤ a := by
  by_contra hn
  have := mul_neg_of_neg_of_pos (not_le.mp hn) (mul_self_pos.mpr hb)
  linarith

theorem mul_pos_of_same_sign {c s t : Rat} (hs : 0 < c * s) (ht : 0 < c * t) : 0 < s * t := by
  apply pos_of_mul_sq_pos (b := c)
  have e : s * t * (c * c) = (c * s) * (c * t) := by ring
  rw [e]; exact mul_pos hs ht

/-- `m` lies in neither of the two opposite open quadrants of `a` and `b` ⇒ `m × a` and `m × b` have
    opposite weak signs -/
theorem cross_opposite_quadrants (mx my ax ay bx bY : Rat)
    (h1 : ax * bx < 0) (h2 : ay * bY < 0)
    (h3 : ¬ (0 < mx * ax ∧ 0 < my * ay)) (h4 : ¬ (0 < mx * bx ∧ 0 < my * bY)) :
    (mx * ay - ax * my) * (mx * bY - bx * my) ≤ 0 := by
  have hax : ax ≠ 0 := by rintro rfl; simp at h1
  have hay : ay ≠ 0 := by rintro rfl; simp at h2
  have haxy : ax * ay ≠ 0 := mul_ne_zero hax hay
  -- `m` in neither quadrant: the products `mx*ax`, `my*ay` do not have the same strict sign
  have hUV : (mx * ax) * (my * ay) ≤ 0 := by
    by_contra hn
    rcases pos_and_pos_or_neg_and_neg_of_mul_pos (not_le.mp hn) with ⟨hU, hV⟩ | ⟨hU, hV⟩
    · exact h3 ⟨hU, hV⟩
    · apply h4
      constructor
      · apply pos_of_mul_sq_pos (b := ax)
        have := mul_pos_of_neg_of_neg hU h1
        have e : mx * bx * (ax * ax) = mx * ax * (ax * bx) := by ring
        rw [e]; exact this
      · apply pos_of_mul_sq_pos (b := ay)
        have := mul_pos_of_neg_of_neg hV h2
        have e : my * bY * (ay * ay) = my * ay * (ay * bY) := by ring
        rw [e]; exact this
  have hT : (ay * bx + ax * bY) * (ax * ay) < 0 := by
    have e : (ay * bx + ax * bY) * (ax * ay) = ay * ay * (ax * bx) + ax * ax * (ay * bY) := by ring
    rw [e]
    have t1 := mul_neg_of_pos_of_neg (mul_self_pos.mpr hay) h1
    have t2 := mul_neg_of_pos_of_neg (mul_self_pos.mpr hax) h2
    linarith
  have hW : 0 ≤ mx * my * (ay * bx + ax * bY) := by
    apply nonneg_of_mul_sq_nonneg haxy
    have e : mx * my * (ay * bx + ax * bY) * (ax * ay * (ax * ay))
        = (mx * ax * (my * ay)) * ((ay * bx + ax * bY) * (ax * ay)) := by ring
    rw [e]; exact mul_nonneg_of_nonpos_of_nonpos hUV hT.le
  have e : (mx * ay - ax * my) * (mx * bY - bx * my)
      = mx * mx * (ay * bY) - mx * my * (ay * bx + ax * bY) + my * my * (ax * bx) := by ring
  rw [e]
  have t1 := mul_nonpos_of_nonneg_of_nonpos (mul_self_nonneg mx) h2.le
  have t2 := mul_nonpos_of_nonneg_of_nonpos (mul_self_nonneg my) h1.le
  linarith

theorem cross_in_leg (nx ny x y cx cy : Rat) :
    cross nx ny x y cx cy = -((nx - x) * (cy - y) - (cx - x) * (ny - y)) := by
  unfold cross; ring

theorem cross_swap02 (x0 y0 x1 y1 x2 y2 : Rat) :
    cross x2 y2 x1 y1 x0 y0 = - cross x0 y0 x1 y1 x2 y2 := by unfold cross; ring

theorem cross_swap01 (x0 y0 x1 y1 x2 y2 : Rat) :
    cross x1 y1 x0 y0 x2 y2 = - cross x0 y0 x1 y1 x2 y2 := by unfold cross; ring

theorem samePos_comm (a b : BPt) : samePos a b = samePos b a := by
  unfold samePos
  rw [show decide (a.x = b.x) = decide (b.x = a.x) from decide_eq_decide.mpr eq_comm,
    show decide (a.y = b.y) = decide (b.y = a.y) from decide_eq_decide.mpr eq_comm]

theorem samePos_iff (a b : BPt) : samePos a b = true ↔ a.x = b.x ∧ a.y = b.y := by
  simp [samePos]

/-- keep the elements whose index (counted from `k`) satisfies `f` -/
def keepBy {α : Type} (f : Nat → Bool) (l : List α) (k : Nat) : List α :=
  ((l.zipIdx k).filter fun pi => f pi.2).map (·.1)

theorem prune_eq_keepBy (dim : Nat) (path : List BPt) :
    prune dim path = keepBy (fun i => !markAt dim path i) path 0 := rfl

theorem keepBy_nil {α : Type} (f : Nat → Bool) (k : Nat) : keepBy f ([] : List α) k = [] := rfl

theorem keepBy_cons {α : Type} (f : Nat → Bool) (a : α) (l : List α) (k : Nat) :
    keepBy f (a :: l) k = (if f k then [a] else []) ++ keepBy f l (k + 1) := by
  unfold keepBy
  rw [List.zipIdx_cons, List.filter_cons]
  by_cases h : f k <;> simp [h]

theorem keepBy_append {α : Type} (f : Nat → Bool) (xs ys : List α) (k : Nat) :
    keepBy f (xs ++ ys) k = keepBy f xs k ++ keepBy f ys (k + xs.length) := by
  unfold keepBy
  rw [List.zipIdx_append, List.filter_append, List.map_append]

theorem keepBy_reverse {α : Type} (f g : Nat → Bool) (l : List α) (k k' : Nat)
    (h : ∀ i, i < l.length → f (k + i) = g (k' + (l.length - 1 - i))) :
    keepBy f l.reverse k = (keepBy g l k').reverse := by
  induction l generalizing k' with
  | nil => rfl
  | cons a l ih =>
    rw [List.reverse_cons, keepBy_append, keepBy_cons g, List.reverse_append, keepBy_cons, keepBy_nil,
      List.length_reverse]
    have h0 : f (k + l.length) = g k' := by
      have := h l.length (by simp)
      simpa using this
    have ih' := ih (k' + 1) (by
      intro i hi
      have := h i (by simp; omega)
      rw [this]; congr 1; simp; omega)
    rw [ih', h0]
    by_cases hg : g k' <;> simp [hg]

theorem keepBy_map {α β : Type} (f : Nat → Bool) (g : α → β) (l : List α) (k : Nat) :
    keepBy f (l.map g) k = (keepBy f l k).map g := by
  induction l generalizing k with
  | nil => rfl
  | cons a l ih =>
    rw [List.map_cons, keepBy_cons, keepBy_cons, ih, List.map_append]
    by_cases hf : f k <;> simp [hf]

/-- `markAt` as a function of the five path slots `i-2 … i+2` -/
def markOf (dim : Nat) (a b c d e : Option BPt) : Bool :=
  match b, c, d with
  | some o, some p, some q => pruned dim a o p q e
  | _, _, _ => false

theorem markOf_none_next (dim : Nat) (a b c e : Option BPt) : markOf dim a b c none e = false := by
  cases b <;> cases c <;> rfl

theorem markAt_eq_markOf (dim : Nat) (path : List BPt) (i : Nat) :
    markAt dim path i = markOf dim (if i < 2 then none else path[i - 2]?)
      (if i = 0 then none else path[i - 1]?) path[i]? path[i + 1]? path[i + 2]? := rfl

theorem markAt_pair (dim : Nat) (path : List BPt) (i : Nat) (n o p q : BPt) (hi : 1 ≤ i)
    (hn : path[i - 1]? = some n) (ho : path[i]? = some o) (hp : path[i + 1]? = some p)
    (hq : path[i + 2]? = some q) :
    markAt dim path i
        = pruned dim (if i < 2 then none else path[i - 2]?) n o p (some q) ∧
    markAt dim path (i + 1) = pruned dim (some n) o p q path[i + 3]? := by
  constructor
  · unfold markAt
    have h0 : ¬ i = 0 := by omega
    simp only [h0, if_false, hn, ho, hp, hq]
  · unfold markAt
    have h1 : ¬ i + 1 < 2 := by omega
    have e1 : i + 1 - 2 = i - 1 := by omega
    simp only [Nat.add_one_ne_zero, if_false, h1, Nat.add_sub_cancel, ho, hp, e1, hn,
      show i + 1 + 1 = i + 2 from rfl, hq, show i + 1 + 2 = i + 3 from rfl]

theorem validTurn_rev (u v w : BPt) : validTurn u v w = validTurn w v u := by
  unfold validTurn
  simp only [cross_swap02 u.x u.y v.x v.y w.x w.y, cross_swap01 v.x v.y w.x w.y v.cx v.cy,
    cross_swap01 u.x u.y v.x v.y v.cx v.cy, neg_mul_neg, neg_eq_zero, Bool.and_comm]

theorem collinearRule_rev (dim : Nat) (o p q : BPt) :
    collinearRule dim o p q = collinearRule dim q p o := by
  unfold collinearRule
  rw [samePos_comm o p, samePos_comm p q,
    show decide (conjPos dim o = conjPos dim p) = decide (conjPos dim p = conjPos dim o) from
      decide_eq_decide.mpr eq_comm,
    show decide (conjPos dim p = conjPos dim q) = decide (conjPos dim q = conjPos dim p) from
      decide_eq_decide.mpr eq_comm]
  cases samePos p o <;> cases samePos q p <;> cases decide (conjPos dim p = conjPos dim o) <;>
    cases decide (conjPos dim q = conjPos dim p) <;> rfl

theorem inRule_rev (n? : Option BPt) (o p q : BPt) : inRule n? o p q = outRule q p o n? := by
  unfold inRule outRule
  rw [samePos_comm o p]
  cases n? with
  | none => rfl
  | some n => simp only [validTurn_rev n p q]

theorem pruned_rev (dim : Nat) (n? : Option BPt) (o p q : BPt) (r? : Option BPt) :
    pruned dim n? o p q r? = pruned dim r? q p o n? := by
  unfold pruned
  rw [collinearRule_rev, inRule_rev n? o p q, inRule_rev r? q p o, Bool.or_assoc,
    Bool.or_assoc, Bool.or_comm (outRule q p o n?)]

theorem markOf_rev (dim : Nat) (a b c d e : Option BPt) :
    markOf dim a b c d e = markOf dim e d c b a := by
  unfold markOf
  cases b <;> cases c <;> cases d <;> simp [pruned_rev]

/-- a map of the picture under which the pruning rule (scan dimension `dim` ↦ `dim'`) is invariant -/
structure PruneSymm (dim dim' : Nat) (g : BPt → BPt) : Prop where
  same : ∀ a b, samePos (g a) (g b) = samePos a b
  turn : ∀ u v w, validTurn (g u) (g v) (g w) = validTurn u v w
  conj : ∀ a b, decide (conjPos dim' (g a) = conjPos dim' (g b))
    = decide (conjPos dim a = conjPos dim b)

theorem PruneSymm.pruned_eq {dim dim' : Nat} {g : BPt → BPt} (h : PruneSymm dim dim' g)
    (n? : Option BPt) (o p q : BPt) (r? : Option BPt) :
    pruned dim' (n?.map g) (g o) (g p) (g q) (r?.map g) = pruned dim n? o p q r? := by
  unfold pruned collinearRule inRule outRule
  simp only [h.same, h.conj]
  cases n? <;> cases r? <;> simp only [Option.map_none, Option.map_some, h.turn]

theorem PruneSymm.markOf_eq {dim dim' : Nat} {g : BPt → BPt} (h : PruneSymm dim dim' g)
    (a b c d e : Option BPt) :
    markOf dim' (a.map g) (b.map g) (c.map g) (d.map g) (e.map g) = markOf dim a b c d e := by
  unfold markOf
  cases b <;> cases c <;> cases d <;> simp only [Option.map_none, Option.map_some, h.pruned_eq]

theorem PruneSymm.markAt_eq {dim dim' : Nat} {g : BPt → BPt} (h : PruneSymm dim dim' g)
    (path : List BPt) (i : Nat) : markAt dim' (path.map g) i = markAt dim path i := by
  rw [markAt_eq_markOf, markAt_eq_markOf, ← h.markOf_eq]
  simp only [List.getElem?_map]
  congr 1
  · split <;> rfl
  · split <;> rfl

theorem PruneSymm.prune_eq {dim dim' : Nat} {g : BPt → BPt} (h : PruneSymm dim dim' g)
    (path : List BPt) : prune dim' (path.map g) = (prune dim path).map g := by
  rw [prune_eq_keepBy, prune_eq_keepBy, keepBy_map]
  simp only [h.markAt_eq]

def transpose (p : BPt) : BPt := ⟨p.y, p.x, p.cy, p.cx⟩
/-- mirror in the y axis -/
def mirror (p : BPt) : BPt := ⟨-p.x, p.y, -p.cx, p.cy⟩

theorem cross_transpose (x0 y0 x1 y1 x2 y2 : Rat) :
    cross y0 x0 y1 x1 y2 x2 = - cross x0 y0 x1 y1 x2 y2 := by unfold cross; ring

theorem cross_mirror (x0 y0 x1 y1 x2 y2 : Rat) :
    cross (-x0) y0 (-x1) y1 (-x2) y2 = - cross x0 y0 x1 y1 x2 y2 := by unfold cross; ring

theorem validTurn_tr (u v w : BPt) :
    validTurn (transpose u) (transpose v) (transpose w) = validTurn u v w := by
  unfold validTurn transpose
  simp only [cross_transpose u.x u.y v.x v.y w.x w.y, cross_transpose u.x u.y v.x v.y v.cx v.cy,
    cross_transpose v.x v.y w.x w.y v.cx v.cy, neg_mul_neg, neg_eq_zero]

theorem validTurn_mir (u v w : BPt) :
    validTurn (mirror u) (mirror v) (mirror w) = validTurn u v w := by
  unfold validTurn mirror
  simp only [cross_mirror u.x u.y v.x v.y w.x w.y, cross_mirror u.x u.y v.x v.y v.cx v.cy,
    cross_mirror v.x v.y w.x w.y v.cx v.cy, neg_mul_neg, neg_eq_zero]

theorem pruneSymm_transpose (dim : Nat) (hd : dim < 2) : PruneSymm dim (1 - dim) transpose where
  same a b := by unfold samePos transpose; exact Bool.and_comm _ _
  turn := validTurn_tr
  conj a b := by
    have : dim = 0 ∨ dim = 1 := by omega
    rcases this with rfl | rfl <;> simp [conjPos, transpose]

theorem pruneSymm_mirror (dim : Nat) : PruneSymm dim dim mirror where
  same a b := by
    unfold samePos mirror
    rw [show decide (-a.x = -b.x) = decide (a.x = b.x) from decide_eq_decide.mpr neg_inj]
  turn := validTurn_mir
  conj a b := by
    unfold conjPos mirror
    by_cases h : dim = 0
    · simp [h]
    · simp [h]

end AdaptaVerif.Lemmas.TopoPrune
