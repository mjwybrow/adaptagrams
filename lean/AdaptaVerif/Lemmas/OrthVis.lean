/-
Lemmas about `Model/OrthVis.lean`: limits of the sweeps; the candidate segments are clear of every
rectangle interior (end-point segments: of every rectangle that does not strictly contain the end point): `Good`;
for pairwise separated boxes a side always yields the one segment of the no-overlap case (`separated_normal`).
-/
import Mathlib.Tactic.Linarith
import Mathlib.Algebra.Order.Field.Rat
import Mathlib.Algebra.Order.Field.Basic
import AdaptaVerif.Model.OrthVis
import AdaptaVerif.Lemmas.Util.Fold

namespace AdaptaVerif.Lemmas.OrthVis
open AdaptaVerif.Model.OrthVis

theorem le_maxL (a : Rat) (l : List Rat) : a ≤ maxL a l := (Util.le_foldl_max id l a).1

theorem mem_le_maxL {a : Rat} {l : List Rat} {x : Rat} (h : x ∈ l) : x ≤ maxL a l := (Util.le_foldl_max id l a).2 x h

theorem maxL_le {a c : Rat} {l : List Rat} (ha : a ≤ c) (hl : ∀ x ∈ l, x ≤ c) : maxL a l ≤ c :=
  (Util.foldl_max_le_iff id l a c).2 ⟨ha, hl⟩

theorem maxL_mem (a : Rat) (l : List Rat) : maxL a l = a ∨ maxL a l ∈ l := by
  unfold maxL
  induction l generalizing a with
  | nil => exact Or.inl rfl
  | cons b r ih =>
    rcases ih (max a b) with h | h
    · rcases max_choice a b with e | e
      · exact Or.inl (h.trans e)
      · exact Or.inr (List.mem_cons.mpr (Or.inl (h.trans e)))
    · exact Or.inr (List.mem_cons_of_mem _ h)

theorem minL_le (a : Rat) (l : List Rat) : minL a l ≤ a := (Util.foldl_min_le id l a).1

theorem minL_le_mem {a : Rat} {l : List Rat} {x : Rat} (h : x ∈ l) : minL a l ≤ x := (Util.foldl_min_le id l a).2 x h

theorem le_minL {a c : Rat} {l : List Rat} (ha : c ≤ a) (hl : ∀ x ∈ l, c ≤ x) : c ≤ minL a l :=
  (Util.le_foldl_min_iff id l a c).2 ⟨ha, hl⟩

theorem minL_mem (a : Rat) (l : List Rat) : minL a l = a ∨ minL a l ∈ l := by
  unfold minL
  induction l generalizing a with
  | nil => exact Or.inl rfl
  | cons b r ih =>
    rcases ih (min a b) with h | h
    · rcases min_choice a b with e | e
      · exact Or.inl (h.trans e)
      · exact Or.inr (List.mem_cons.mpr (Or.inl (h.trans e)))
    · exact Or.inr (List.mem_cons_of_mem _ h)

theorem between_iff {a b t : Rat} : ((a < t ∧ t < b) ∨ (b < t ∧ t < a)) ↔ min a b < t ∧ t < max a b := by
  rcases le_total a b with h | h
  · rw [min_eq_left h, max_eq_right h]
    exact ⟨fun h' => h'.resolve_right fun c => absurd (lt_trans c.1 c.2) (not_lt.mpr h), Or.inl⟩
  · rw [min_eq_right h, max_eq_left h]
    exact ⟨fun h' => h'.resolve_left fun c => absurd (lt_trans c.1 c.2) (not_lt.mpr h), Or.inr⟩

theorem lerp_within {a b t : Rat} (hab : a ≤ b) (h0 : 0 ≤ t) (h1 : t ≤ 1) :
    a ≤ a + t * (b - a) ∧ a + t * (b - a) ≤ b := by
  refine ⟨le_add_of_nonneg_right (mul_nonneg h0 (sub_nonneg.mpr hab)), ?_⟩
  have := mul_le_mul_of_nonneg_right h1 (sub_nonneg.mpr hab)
  rw [one_mul] at this
  exact le_trans (add_le_add_right this a) (le_of_eq (add_sub_cancel a b))

def StrictIn (R : Rect) (x y : Rat) : Prop := R.x0 < x ∧ x < R.x1 ∧ R.y0 < y ∧ y < R.y1

theorem StrictIn_tr (R : Rect) (x y : Rat) : StrictIn R.tr x y ↔ StrictIn R y x := by
  unfold StrictIn Rect.tr; constructor <;> (intro h; exact ⟨h.2.2.1, h.2.2.2, h.1, h.2.1⟩)

/-- the form in which the sweeps give clearness and in which merging keeps it -/
def Blocked (P : Rect → Prop) (rects : List Rect) (y b f : Rat) : Prop :=
  ∀ R ∈ rects, R.y0 < y → y < R.y1 → R.x0 < R.x1 → R.x1 ≤ b ∨ f ≤ R.x0 ∨ P R

theorem Blocked.clear {P : Rect → Prop} {rects : List Rect} {y b f : Rat} (h : Blocked P rects y b f)
    {R : Rect} (hR : R ∈ rects) {t : Rat} (hbt : b ≤ t) (htf : t ≤ f) (hin : StrictIn R t y) : P R := by
  obtain ⟨h1, h2, h3, h4⟩ := hin
  rcases h R hR h3 h4 (lt_trans h1 h2) with h | h | h
  · exact absurd (lt_of_lt_of_le h2 h) (not_lt.mpr hbt)
  · exact absurd (lt_of_le_of_lt h h1) (not_lt.mpr htf)
  · exact h

/-- invariant of a line segment -/
structure Good (P : Rect → Prop) (rects : List Rect) (s : Seg) : Prop where
  wf : s.b ≤ s.f
  blocked : Blocked P rects s.p s.b s.f
  inr : ∀ q ∈ s.vs, s.b ≤ q.t ∧ q.t ≤ s.f

theorem Good.mono {P Q : Rect → Prop} (hPQ : ∀ R, P R → Q R) {rects : List Rect} {s : Seg}
    (h : Good P rects s) : Good Q rects s :=
  ⟨h.wf, fun R hR a b c => (h.blocked R hR a b c).imp_right (Or.imp_right (hPQ R)), h.inr⟩

theorem mem_eraseIdx_of_ne {α} {l : List α} {i : Nat} {v x : α} (hv : l[i]? = some v) (hx : x ∈ l) (hne : x ≠ v) :
    x ∈ l.eraseIdx i := by
  obtain ⟨j, hj⟩ := List.getElem?_of_mem hx
  refine List.mem_eraseIdx_iff_getElem?.mpr ⟨j, ?_, hj⟩
  rintro rfl
  exact hne (Option.some.inj (hj.symm.trans hv))

theorem mem_activeAt_iff {rects : List Rect} {y : Rat} {R : Rect} :
    R ∈ activeAt rects y ↔ R ∈ rects ∧ R.y0 ≤ y ∧ y ≤ R.y1 := by
  simp only [activeAt, List.mem_filter, decide_eq_true_eq]

theorem mem_activeAt {rects : List Rect} {y : Rat} {R : Rect} (hR : R ∈ rects) (h0 : R.y0 < y) (h1 : y < R.y1) :
    R ∈ activeAt rects y :=
  mem_activeAt_iff.mpr ⟨hR, le_of_lt h0, le_of_lt h1⟩

theorem mem_activeAt_offEdge {rects : List Rect} {y : Rat} {R : Rect} :
    (R ∈ activeAt rects y ∧ offEdge y R = true) ↔ R ∈ rects ∧ R.y0 < y ∧ y < R.y1 := by
  simp only [mem_activeAt_iff, offEdge, Bool.not_eq_true', Bool.or_eq_false_iff, beq_eq_false_iff_ne, ne_eq]
  constructor
  · rintro ⟨⟨h, a, b⟩, c, d⟩
    exact ⟨h, lt_of_le_of_ne a (Ne.symm c), lt_of_le_of_ne b d⟩
  · rintro ⟨h, a, b⟩
    exact ⟨⟨h, le_of_lt a, le_of_lt b⟩, ne_of_gt a, ne_of_lt b⟩

theorem limits_block {lo hi : Rat} {act : List Rect} {v : Rect} {y : Rat} {L : Limits} (hL : findLimits lo hi act v y = L)
    {R : Rect} (hR : R ∈ act) (h0 : R.y0 < y) (h1 : y < R.y1) :
    R.x1 ≤ L.minLimit ∨ L.maxLimit ≤ R.x0 ∨ (L.minLimitMax ≤ R.x0 ∧ R.x1 ≤ L.maxLimitMin) := by
  subst hL
  by_cases c1 : R.x1 ≤ v.x0
  · exact Or.inl (mem_le_maxL (List.mem_map.mpr ⟨R, List.mem_filter.mpr ⟨hR, by simp [leftOf, c1]⟩, rfl⟩))
  by_cases c2 : v.x1 ≤ R.x0
  · exact Or.inr (Or.inl (minL_le_mem
      (List.mem_map.mpr ⟨R, List.mem_filter.mpr ⟨hR, by simp [rightOf, leftOf, c1, c2]⟩, rfl⟩)))
  have hm : R ∈ act.filter (ovl v y) :=
    List.mem_filter.mpr ⟨hR, by simp [ovl, leftOf, samePos, c1, c2, ne_of_gt h0, ne_of_lt h1]⟩
  exact Or.inr (Or.inr ⟨minL_le_mem (List.mem_map.mpr ⟨R, hm, rfl⟩), mem_le_maxL (List.mem_map.mpr ⟨R, hm, rfl⟩)⟩)

theorem limits_bounds {lo hi : Rat} {act : List Rect} {v : Rect} {y : Rat} {L : Limits} (hL : findLimits lo hi act v y = L)
    (hlo : lo ≤ v.x0) (hhi : v.x1 ≤ hi) :
    L.minLimit ≤ v.x0 ∧ v.x1 ≤ L.maxLimit ∧ L.minLimitMax ≤ v.x1 ∧ v.x0 ≤ L.maxLimitMin := by
  subst hL
  refine ⟨maxL_le hlo ?_, le_minL hhi ?_, minL_le _ _, le_maxL _ _⟩
  · intro x hx
    simp only [List.mem_map, List.mem_filter, leftOf, decide_eq_true_eq] at hx
    obtain ⟨c, ⟨_, hc⟩, rfl⟩ := hx
    exact hc
  · intro x hx
    simp only [List.mem_map, List.mem_filter, rightOf, leftOf, Bool.and_eq_true, decide_eq_true_eq] at hx
    obtain ⟨c, ⟨_, _, hc⟩, rfl⟩ := hx
    exact hc

theorem mem_sideSegsH {lo hi : Rat} {rects : List Rect} {i : Nat} {v : Rect} {y : Rat} {s : Seg} {L : Limits}
    (hL : findLimits lo hi (activeAt (rects.eraseIdx i) y) v y = L) (h : s ∈ sideSegsH lo hi rects i v y) :
    (L.maxLimitMin ≤ L.minLimitMax ∧ s = ⟨L.minLimit, L.maxLimit, y, [⟨v.x0, .node⟩, ⟨v.x1, .node⟩]⟩) ∨
    (L.minLimit < L.minLimitMax ∧ v.x0 ≤ L.minLimitMax ∧ s = ⟨L.minLimit, L.minLimitMax, y, [⟨v.x0, .node⟩]⟩) ∨
    (L.maxLimitMin < L.maxLimit ∧ L.maxLimitMin ≤ v.x1 ∧ s = ⟨L.maxLimitMin, L.maxLimit, y, [⟨v.x1, .node⟩]⟩) := by
  subst hL
  unfold sideSegsH at h
  simp only at h
  split at h
  · rename_i hn
    exact Or.inl ⟨hn, List.mem_singleton.mp h⟩
  · rcases List.mem_append.mp h with h | h
    · split at h
      · rename_i hc
        exact Or.inr (Or.inl ⟨hc.1, hc.2, List.mem_singleton.mp h⟩)
      · cases h
    · split at h
      · rename_i hc
        exact Or.inr (Or.inr ⟨hc.1, hc.2, List.mem_singleton.mp h⟩)
      · cases h

theorem sideSegsH_normal {lo hi : Rat} {rects : List Rect} {i : Nat} {v : Rect} {y : Rat}
    (hn : (findLimits lo hi (activeAt (rects.eraseIdx i) y) v y).minLimitMax ≥
          (findLimits lo hi (activeAt (rects.eraseIdx i) y) v y).maxLimitMin) :
    sideSegsH lo hi rects i v y =
      [⟨(findLimits lo hi (activeAt (rects.eraseIdx i) y) v y).minLimit,
        (findLimits lo hi (activeAt (rects.eraseIdx i) y) v y).maxLimit, y, [⟨v.x0, .node⟩, ⟨v.x1, .node⟩]⟩] :=
  if_pos hn

def Sep (a b : Rect) : Prop := a.x1 < b.x0 ∨ b.x1 < a.x0 ∨ a.y1 < b.y0 ∨ b.y1 < a.y0

/-- for pairwise separated boxes (`v` with `x0 ≤ x1`, `y0 ≤ y1`) no other box of the scan line overlaps a side in x:
    `findFirstPointAboveAndBelow` is always in its "no overlapping shapes" case -/
theorem separated_normal (lo hi : Rat) (rects : List Rect) (i : Nat) (v : Rect) (hv : rects[i]? = some v)
    (hsep : ∀ (j k : Nat) (a b : Rect), j ≠ k → rects[j]? = some a → rects[k]? = some b → Sep a b)
    (hw : v.x0 ≤ v.x1) (hh : v.y0 ≤ v.y1) (y : Rat) (hy : y = v.y0 ∨ y = v.y1) :
    (findLimits lo hi (activeAt (rects.eraseIdx i) y) v y).minLimitMax ≥
      (findLimits lo hi (activeAt (rects.eraseIdx i) y) v y).maxLimitMin := by
  have hnone : (activeAt (rects.eraseIdx i) y).filter (ovl v y) = [] := by
    rw [List.filter_eq_nil_iff]
    intro c hc
    obtain ⟨hce, hcy0, hcy1⟩ := mem_activeAt_iff.mp hc
    obtain ⟨j, hj, hget⟩ := List.mem_eraseIdx_iff_getElem?.mp hce
    intro hov
    simp only [ovl, leftOf, Bool.and_eq_true, Bool.not_eq_true', decide_eq_false_iff_not, ge_iff_le] at hov
    obtain ⟨⟨hx1, hx2⟩, _⟩ := hov
    have hyv : v.y0 ≤ y ∧ y ≤ v.y1 := by
      rcases hy with rfl | rfl
      · exact ⟨le_refl _, hh⟩
      · exact ⟨hh, le_refl _⟩
    rcases hsep j i c v hj hget hv with h | h | h | h
    · exact hx1 (le_of_lt h)
    · exact hx2 (le_of_lt h)
    · exact absurd (lt_of_le_of_lt (le_trans hyv.1 hcy1) h) (lt_irrefl _)
    · exact absurd (lt_of_lt_of_le h (le_trans hcy0 hyv.2)) (lt_irrefl _)
  unfold findLimits
  simp only [hnone, List.map_nil, maxL, minL, List.foldl_nil]
  exact hw

theorem sideSegsH_good (P : Rect → Prop) (lo hi : Rat) (rects : List Rect) (i : Nat) (v : Rect)
    (hv : rects[i]? = some v) (y : Rat) (hy : y = v.y0 ∨ y = v.y1)
    (hlo : lo ≤ v.x0) (hhi : v.x1 ≤ hi) :
    ∀ s ∈ sideSegsH lo hi rects i v y, Good P rects s := by
  intro s hs
  obtain ⟨L, hL⟩ : ∃ L, findLimits lo hi (activeAt (rects.eraseIdx i) y) v y = L := ⟨_, rfl⟩
  obtain ⟨hb1, hb2, hb3, hb4⟩ := limits_bounds hL hlo hhi
  -- a strictly crossing rectangle is another rectangle of the scan line
  have hblk : ∀ R ∈ rects, R.y0 < y → y < R.y1 →
      R.x1 ≤ L.minLimit ∨ L.maxLimit ≤ R.x0 ∨ (L.minLimitMax ≤ R.x0 ∧ R.x1 ≤ L.maxLimitMin) := by
    intro R hR h0 h1
    refine limits_block hL (mem_activeAt (mem_eraseIdx_of_ne hv hR ?_) h0 h1) h0 h1
    rintro rfl
    rcases hy with rfl | rfl
    · exact lt_irrefl _ h0
    · exact lt_irrefl _ h1
  rcases mem_sideSegsH hL hs with ⟨hc, rfl⟩ | ⟨hc, hc', rfl⟩ | ⟨hc, hc', rfl⟩
  · have hvv : v.x0 ≤ v.x1 := le_trans hb4 (le_trans hc hb3)
    refine ⟨le_trans hb1 (le_trans hvv hb2), fun R hR h0 h1 hw => ?_, ?_⟩
    · rcases hblk R hR h0 h1 with h | h | ⟨h, h'⟩
      · exact Or.inl h
      · exact Or.inr (Or.inl h)
      · exact absurd (lt_of_le_of_lt (le_trans h' (le_trans hc h)) hw) (lt_irrefl _)
    · intro q hq
      simp only [List.mem_cons, List.not_mem_nil, or_false] at hq
      rcases hq with rfl | rfl
      · exact ⟨hb1, le_trans hvv hb2⟩
      · exact ⟨le_trans hb1 hvv, hb2⟩
  · refine ⟨le_of_lt hc, fun R hR h0 h1 hw => ?_, ?_⟩
    · rcases hblk R hR h0 h1 with h | h | ⟨h, h'⟩
      · exact Or.inl h
      · exact Or.inr (Or.inl (le_trans hb3 (le_trans hb2 h)))
      · exact Or.inr (Or.inl h)
    · intro q hq
      obtain rfl := List.mem_singleton.mp hq
      exact ⟨hb1, hc'⟩
  · refine ⟨le_of_lt hc, fun R hR h0 h1 hw => ?_, ?_⟩
    · rcases hblk R hR h0 h1 with h | h | ⟨h, h'⟩
      · exact Or.inl (le_trans h (le_trans hb1 hb4))
      · exact Or.inr (Or.inl h)
      · exact Or.inl h'
    · intro q hq
      obtain rfl := List.mem_singleton.mp hq
      exact ⟨hc', hb2⟩

theorem first_block (lo hi : Rat) {rects : List Rect} (px : Rat) {py : Rat} {R : Rect} (hR : R ∈ rects)
    (h0 : R.y0 < py) (h1 : py < R.y1) :
    (R.x1 ≤ px → R.x1 ≤ firstAbove lo (activeAt rects py) px py) ∧
    (R.x0 ≥ px → firstBelow hi (activeAt rects py) px py ≤ R.x0) := by
  obtain ⟨ha, ho⟩ := mem_activeAt_offEdge.mpr ⟨hR, h0, h1⟩
  exact ⟨fun h => mem_le_maxL (List.mem_map.mpr ⟨R, List.mem_filter.mpr ⟨ha, by simp [ho, h]⟩, rfl⟩),
    fun h => minL_le_mem (List.mem_map.mpr ⟨R, List.mem_filter.mpr ⟨ha, by simp [ho, h]⟩, rfl⟩)⟩

theorem firstBelow_attained (hi : Rat) (rects : List Rect) (px py : Rat) :
    firstBelow hi (activeAt rects py) px py = hi ∨
      ∃ R ∈ rects, R.y0 < py ∧ py < R.y1 ∧ R.x0 ≥ px ∧ firstBelow hi (activeAt rects py) px py = R.x0 := by
  refine (minL_mem hi _).imp_right fun h => ?_
  obtain ⟨R, hR, hv⟩ := List.mem_map.mp h
  obtain ⟨hact, hcond⟩ := List.mem_filter.mp hR
  simp only [Bool.and_eq_true, decide_eq_true_eq] at hcond
  obtain ⟨hm, h0, h1⟩ := mem_activeAt_offEdge.mp ⟨hact, hcond.1⟩
  exact ⟨R, hm, h0, h1, hcond.2, hv.symm⟩

theorem firstAbove_attained (lo : Rat) (rects : List Rect) (px py : Rat) :
    firstAbove lo (activeAt rects py) px py = lo ∨
      ∃ R ∈ rects, R.y0 < py ∧ py < R.y1 ∧ R.x1 ≤ px ∧ firstAbove lo (activeAt rects py) px py = R.x1 := by
  refine (maxL_mem lo _).imp_right fun h => ?_
  obtain ⟨R, hR, hv⟩ := List.mem_map.mp h
  obtain ⟨hact, hcond⟩ := List.mem_filter.mp hR
  simp only [Bool.and_eq_true, decide_eq_true_eq] at hcond
  obtain ⟨hm, h0, h1⟩ := mem_activeAt_offEdge.mp ⟨hact, hcond.1⟩
  exact ⟨R, hm, h0, h1, hcond.2, hv.symm⟩

theorem le_firstBelow {hi : Rat} {rects : List Rect} {px py X : Rat} (hX : X ≤ hi)
    (h : ∀ R ∈ rects, R.y0 < py → py < R.y1 → px ≤ R.x0 → X ≤ R.x0) :
    X ≤ firstBelow hi (activeAt rects py) px py := by
  rcases firstBelow_attained hi rects px py with e | ⟨R, hR, h0, h1, hge, e⟩
  · rw [e]; exact hX
  · rw [e]; exact h R hR h0 h1 hge

theorem firstAbove_le {lo : Rat} {rects : List Rect} {px py X : Rat} (hX : lo ≤ X)
    (h : ∀ R ∈ rects, R.y0 < py → py < R.y1 → R.x1 ≤ px → R.x1 ≤ X) :
    firstAbove lo (activeAt rects py) px py ≤ X := by
  rcases firstAbove_attained lo rects px py with e | ⟨R, hR, h0, h1, hle, e⟩
  · rw [e]; exact hX
  · rw [e]; exact h R hR h0 h1 hle

theorem blocked_of_first (lo hi : Rat) {rects : List Rect} {px py b f : Rat}
    (hb : b = px ∨ b = firstAbove lo (activeAt rects py) px py)
    (hf : f = px ∨ f = firstBelow hi (activeAt rects py) px py) :
    Blocked (fun R => StrictIn R px py) rects py b f := by
  intro R hR h0 h1 _
  obtain ⟨fa, fb⟩ := first_block lo hi px hR h0 h1
  by_cases c1 : R.x1 ≤ px
  · left
    rcases hb with rfl | rfl
    · exact c1
    · exact fa c1
  by_cases c2 : px ≤ R.x0
  · right; left
    rcases hf with rfl | rfl
    · exact c2
    · exact fb c2
  · exact Or.inr (Or.inr ⟨not_le.mp c2, not_le.mp c1, h0, h1⟩)

/-- begin of an end point's candidate segment: the limit `mn` where the end point may and can go there -/
theorem segBegin_le {d : Bool} {mn x : Rat} :
    (if (d && decide (mn < x)) = true then mn else x) ≤ x ∧
    (d = true → (if (d && decide (mn < x)) = true then mn else x) ≤ mn) := by
  split
  · rename_i h
    simp only [Bool.and_eq_true, decide_eq_true_eq] at h
    exact ⟨le_of_lt h.2, fun _ => le_refl _⟩
  · rename_i h
    refine ⟨le_refl _, fun hd => ?_⟩
    simp only [hd, Bool.true_and, decide_eq_true_eq] at h
    exact not_lt.mp h

theorem le_segFinish {d : Bool} {mx x : Rat} :
    x ≤ (if (d && decide (x < mx)) = true then mx else x) ∧
    (d = true → mx ≤ (if (d && decide (x < mx)) = true then mx else x)) := by
  split
  · rename_i h
    simp only [Bool.and_eq_true, decide_eq_true_eq] at h
    exact ⟨le_of_lt h.2, fun _ => le_refl _⟩
  · rename_i h
    refine ⟨le_refl _, fun hd => ?_⟩
    simp only [hd, Bool.true_and, decide_eq_true_eq] at h
    exact not_lt.mp h

theorem connSegH_good (lo hi : Rat) (rects : List Rect) (i : Nat) (c : Conn) :
    Good (fun R => StrictIn R c.x c.y) rects (connSegH lo hi rects i c) := by
  refine ⟨le_trans segBegin_le.1 le_segFinish.1,
    blocked_of_first lo hi (ite_eq_or_eq _ _ _).symm (ite_eq_or_eq _ _ _).symm, ?_⟩
  intro q hq
  have hqt : q.t = c.x := by
    rcases List.mem_cons.mp hq with rfl | hq
    · rfl
    · split at hq
      · rw [List.mem_singleton.mp hq]
      · cases hq
  rw [hqt]
  exact ⟨segBegin_le.1, le_segFinish.1⟩

theorem connSegsV_good (lo hi : Rat) (rects : List Rect) (c : Conn) :
    ∀ s ∈ connSegsV lo hi rects c, Good (fun R => StrictIn R c.x c.y) rects s := by
  intro s hs
  unfold connSegsV at hs
  rcases List.mem_append.mp hs with hs | hs <;> split at hs
  · rename_i h
    simp only [Bool.and_eq_true, decide_eq_true_eq] at h
    obtain rfl := List.mem_singleton.mp hs
    exact ⟨le_of_lt h.2, blocked_of_first lo hi (Or.inr rfl) (Or.inl rfl), nofun⟩
  · cases hs
  · rename_i h
    simp only [Bool.and_eq_true, decide_eq_true_eq] at h
    obtain rfl := List.mem_singleton.mp hs
    exact ⟨le_of_lt h.2, blocked_of_first lo hi (Or.inl rfl) (Or.inr rfl), nofun⟩
  · cases hs

theorem mem_connSegsV_above {lo hi : Rat} {rects : List Rect} {c : Conn} (hd : c.d.left = true)
    (hroom : firstAbove lo (activeAt rects c.y) c.x c.y < c.x) :
    (⟨firstAbove lo (activeAt rects c.y) c.x c.y, c.x, c.y, []⟩ : Seg) ∈ connSegsV lo hi rects c :=
  List.mem_append_left _ (by simp [hd, hroom])

theorem mem_connSegsV_below {lo hi : Rat} {rects : List Rect} {c : Conn} (hd : c.d.right = true)
    (hroom : c.x < firstBelow hi (activeAt rects c.y) c.x c.y) :
    (⟨c.x, firstBelow hi (activeAt rects c.y) c.x c.y, c.y, []⟩ : Seg) ∈ connSegsV lo hi rects c :=
  List.mem_append_right _ (by simp [hd, hroom])

end AdaptaVerif.Lemmas.OrthVis
