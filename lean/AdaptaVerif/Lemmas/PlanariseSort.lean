/-
`std::sort` (libstdc++ insertion sort, `Model.Planarise.stdSort`) and util.h `partition`
(`Model.Planarise.partition`): permutation for every comparator, sortedness for every comparator that is the strict part of
a total preorder on the elements sorted (`Util.SortsBy`: strict weak orders by `IsSWO.sortsBy`, key comparisons by `.of_key`),
the parts of `partition` on keys that are equal or more than the tolerance apart, and `foldl_pairwise_induction`, the
induction under the three sweeps of the planariser (node groups of a line, active list of an x-part, x-parts).  At the end
`pt_eta` and the coordinates along and across a line (`vcOf`, `ccOf`), which both stages of the planariser use.
-/
import AdaptaVerif.Model.Planarise
import AdaptaVerif.Lemmas.Util.InsertionSort
namespace AdaptaVerif.Lemmas.Planarise
open AdaptaVerif.Model.Planarise

variable {α : Type}

theorem insRev_isInsert (lt : α → α → Bool) : Util.IsInsert (fun v e => ¬ lt v e = true) (insRev lt) :=
  .of_continue (q := fun e v => lt v e = true) (fun _ => rfl) (fun _ _ _ => rfl)

theorem insRev_perm (lt : α → α → Bool) (v : α) (l : List α) : (insRev lt v l).Perm (v :: l) :=
  (insRev_isInsert lt).perm v l

theorem insStep_perm (lt : α → α → Bool) (acc : List α) (v : α) : (insStep lt acc v).Perm (v :: acc) := by
  unfold insStep
  split
  · rename_i h
    have : acc = [] := by simpa using h
    subst this; simp
  · split
    · exact List.perm_append_singleton v acc
    · exact insRev_perm lt v acc

theorem insRev_mem (lt : α → α → Bool) (v : α) (l : List α) (x : α) :
    x ∈ insRev lt v l ↔ x = v ∨ x ∈ l := (insRev_isInsert lt).mem

theorem insStep_mem (lt : α → α → Bool) (acc : List α) (v x : α) :
    x ∈ insStep lt acc v ↔ x = v ∨ x ∈ acc := by
  simpa using (insStep_perm lt acc v).mem_iff (a := x)

theorem foldl_insStep_perm (lt : α → α → Bool) (l : List α) :
    ∀ acc, (l.foldl (insStep lt) acc).Perm (l ++ acc) := by
  induction l with
  | nil => intro acc; simp
  | cons v r ih =>
    intro acc
    simp only [List.foldl_cons]
    refine (ih _).trans ?_
    refine (List.Perm.append_left r (insStep_perm lt acc v)).trans ?_
    simp

theorem stdSort_perm (lt : α → α → Bool) (l : List α) : (stdSort lt l).Perm l := by
  unfold stdSort
  refine (List.reverse_perm _).trans ?_
  simpa using foldl_insStep_perm lt l []

theorem stdSort_mem (lt : α → α → Bool) (l : List α) (a : α) : a ∈ stdSort lt l ↔ a ∈ l :=
  (stdSort_perm lt l).mem_iff

variable {lt : α → α → Bool} {R : α → α → Prop} {D : α → Prop}

theorem insRev_sorted (h : Util.SortsBy (fun a b => lt a b = true) R D) (v : α) (hv : D v) (l : List α)
    (hl : ∀ x ∈ l, D x) (hs : l.Pairwise (fun a b => R b a)) : (insRev lt v l).Pairwise (fun a b => R b a) :=
  (insRev_isInsert lt).sorted h.flip hv hl hs

theorem insStep_sorted (h : Util.SortsBy (fun a b => lt a b = true) R D) (acc : List α) (v : α) (hv : D v) (hl : ∀ x ∈ acc, D x)
    (hs : acc.Pairwise (fun a b => R b a)) : (insStep lt acc v).Pairwise (fun a b => R b a) := by
  unfold insStep
  split
  · simp
  · rename_i f hf
    split
    · -- `v` is less than the first element `f` (the last of the reversed prefix), hence before everything
      rename_i hvf
      have hfl : f ∈ acc := List.mem_of_getLast? hf
      have hvf' : R v f := h.of_stop v f hv (hl f hfl) hvf
      obtain ⟨pre, hpre⟩ := List.getLast?_eq_some_iff.1 hf
      rw [List.pairwise_append]
      refine ⟨hs, by simp, ?_⟩
      intro x hx y hy
      have hy : y = v := by simpa using hy
      subst hy
      have hfx : R f x := by
        subst hpre
        rw [List.pairwise_append] at hs
        rcases List.mem_append.1 hx with hx | hx
        · exact hs.2.2 x hx f (by simp)
        · have : x = f := by simpa using hx
          subst this; exact h.refl (hl _ hfl)
      exact h.trans y f x hv (hl f hfl) (hl x hx) hvf' hfx
    · exact insRev_sorted h v hv acc hl hs

theorem foldl_insStep_sorted (h : Util.SortsBy (fun a b => lt a b = true) R D) (l : List α) :
    ∀ acc, (∀ x ∈ l, D x) → (∀ x ∈ acc, D x) → acc.Pairwise (fun a b => R b a) →
      (l.foldl (insStep lt) acc).Pairwise (fun a b => R b a) := by
  induction l with
  | nil => intro acc _ _ hacc; simpa using hacc
  | cons v r ih =>
    intro acc hl hacc hs
    refine ih _ (fun x hx => hl x (by simp [hx])) ?_ (insStep_sorted h acc v (hl v (by simp)) hacc hs)
    intro x hx
    rcases (insStep_mem lt acc v x).1 hx with rfl | hx
    · exact hl _ (by simp)
    · exact hacc x hx

theorem stdSort_pairwise (l : List α) (h : Util.SortsBy (fun a b => lt a b = true) R (· ∈ l)) : (stdSort lt l).Pairwise R := by
  unfold stdSort
  rw [List.pairwise_reverse]
  exact foldl_insStep_sorted h l [] (fun x hx => hx) (by simp) List.Pairwise.nil

theorem stdSort_sorted_key (lt : α → α → Bool) (key : α → Rat) (l : List α)
    (h : ∀ a ∈ l, ∀ b ∈ l, (lt a b = true ↔ key a < key b)) :
    (stdSort lt l).Pairwise (fun a b => key a ≤ key b) :=
  stdSort_pairwise l (.of_key key (fun a b ha hb => h a ha b hb))

/-- For a sorted list without repetitions `R a b := a ≠ b ∧ K a ≤ K b` (`hnd.and hs`). -/
theorem foldl_pairwise_induction {α σ : Type} (f : σ → α → σ) (R : α → α → Prop) (L : List α) (hs : L.Pairwise R)
    (Q : List α → σ → Prop) (s0 : σ) (h0 : Q [] s0)
    (hstep : ∀ (pre post : List α) (e : α) (s : σ), pre ++ e :: post = L → (∀ a ∈ pre, R a e) → (∀ b ∈ post, R e b) →
      (∀ a ∈ pre, ∀ b ∈ post, R a b) → Q pre s → Q (pre ++ [e]) (f s e)) :
    Q L (L.foldl f s0) := by
  have key : ∀ (post pre : List α) (s : σ), pre ++ post = L → Q pre s → Q L (post.foldl f s) := by
    intro post
    induction post with
    | nil => intro pre s h hQ; simp at h; subst h; exact hQ
    | cons e post ih =>
      intro pre s h hQ
      have hso := hs; rw [← h, List.pairwise_append] at hso
      exact ih (pre ++ [e]) _ (by simp [h]) (hstep pre post e s h (fun a ha => hso.2.2 a ha e (by simp))
        (List.pairwise_cons.1 hso.2.1).1 (fun a ha b hb => hso.2.2 a ha b (by simp [hb])) hQ)
  exact key L [] s0 (by simp) h0

/-- two coordinates are equal or more than 1 (≥ every tolerance of the planariser) apart -/
def Apart (a b : Rat) : Prop := a = b ∨ a + 1 < b ∨ b + 1 < a

theorem Apart.symm {a b : Rat} (h : Apart a b) : Apart b a := by
  rcases h with h | h | h
  · exact Or.inl h.symm
  · exact Or.inr (Or.inr h)
  · exact Or.inr (Or.inl h)

theorem Apart.eq_of_near {a b : Rat} (h : Apart a b) (hn : absR (a - b) < 1) : a = b := by
  unfold absR at hn; unfold Apart at h
  split at hn <;> grind

theorem absR_self (a : Rat) : absR (a - a) = 0 := by
  have : a - a = 0 := by grind
  rw [this]; decide

theorem avg_same (n : Nat) (a : Rat) : ((n : Rat) * a + a) / ((n : Rat) + 1) = a := by
  have h1 : (n : Rat) * a + a = a * ((n : Rat) + 1) := by grind
  have h0 : (0 : Rat) ≤ (n : Rat) := by exact_mod_cast Nat.zero_le n
  have h2 : ((n : Rat) + 1) ≠ 0 := by grind
  rw [h1, Rat.mul_div_cancel h2]

/-- the tolerance test of `partition` on separated keys in ascending order: same key, or a gap -/
theorem part_test {tol avg k : Rat} (ht0 : 0 ≤ tol) (ht1 : tol < 1) (hle : avg ≤ k) (h : Apart avg k) :
    (absR (k - avg) ≤ tol → k = avg) ∧ (¬ absR (k - avg) ≤ tol → avg < k) := by
  refine ⟨fun hin => h.symm.eq_of_near (Std.lt_of_le_of_lt hin ht1), fun hin => ?_⟩
  rcases h with h | h | h
  · rw [← h, absR_self] at hin; exact absurd ht0 hin
  · grind
  · grind

theorem partGo_spec (key : α → Rat) (tol : Rat) (ht0 : 0 ≤ tol) (ht1 : tol < 1) :
    ∀ (rest cur : List α) (avg : Rat) (n : Nat),
      (∀ a ∈ cur, key a = avg) →
      rest.Pairwise (fun a b => key a ≤ key b) → (∀ b ∈ rest, avg ≤ key b) →
      (∀ b ∈ rest, Apart avg (key b)) → (∀ a ∈ rest, ∀ b ∈ rest, Apart (key a) (key b)) →
      ∃ first others, partGo key tol rest cur avg n = first :: others ∧
        (∀ a ∈ first, key a = avg) ∧ (cur ≠ [] → first ≠ []) ∧
        (∀ p ∈ others, ∀ a ∈ p, avg < key a) ∧
        (first :: others).flatten = cur.reverse ++ rest ∧
        (∀ p ∈ others, p ≠ [] ∧ ∃ X, ∀ a ∈ p, key a = X) ∧
        others.Pairwise (fun p q => ∀ a ∈ p, ∀ b ∈ q, key a < key b) := by
  intro rest
  induction rest with
  | nil =>
    intro cur avg n hcur _ _ _ _
    refine ⟨cur.reverse, [], by simp [partGo], ?_, ?_, by simp, by simp, by simp, by simp⟩
    · intro a ha; exact hcur a (by simpa using ha)
    · intro h; simpa using h
  | cons it rest ih =>
    intro cur avg n hcur hs hle hap1 hap2
    rw [List.pairwise_cons] at hs
    have hk : avg ≤ key it := hle it (by simp)
    have hapk : Apart avg (key it) := hap1 it (by simp)
    simp only [partGo]
    split
    · rename_i hin
      have hkeq : key it = avg := (part_test ht0 ht1 hk hapk).1 hin
      rw [hkeq, avg_same]
      obtain ⟨first, others, h1, h2, h3, h4, h5, h6, h7⟩ := ih (it :: cur) avg (n + 1)
        (by intro a ha; rcases List.mem_cons.1 ha with rfl | ha; exact hkeq; exact hcur a ha)
        hs.2 (fun b hb => hle b (by simp [hb])) (fun b hb => hap1 b (by simp [hb]))
        (fun a ha b hb => hap2 a (by simp [ha]) b (by simp [hb]))
      refine ⟨first, others, h1, h2, fun _ => h3 (by simp), h4, ?_, h6, h7⟩
      rw [h5]; simp
    · rename_i hin
      have hgt : avg < key it := (part_test ht0 ht1 hk hapk).2 hin
      obtain ⟨first, others, h1, h2, h3, h4, h5, h6, h7⟩ := ih [it] (key it) 1
        (by intro a ha; have : a = it := by simpa using ha
            rw [this])
        hs.2 (fun b hb => hs.1 b hb) (fun b hb => hap2 it (by simp) b (by simp [hb]))
        (fun a ha b hb => hap2 a (by simp [ha]) b (by simp [hb]))
      refine ⟨cur.reverse, first :: others, by rw [h1], ?_, ?_, ?_, ?_, ?_, ?_⟩
      · intro a ha; exact hcur a (by simpa using ha)
      · intro h; simpa using h
      · intro p hp a ha
        rcases List.mem_cons.1 hp with rfl | hp
        · rw [h2 a ha]; exact hgt
        · exact Std.lt_trans hgt (h4 p hp a ha)
      · simp only [List.flatten_cons] at h5 ⊢
        rw [h5]; simp
      · intro p hp
        rcases List.mem_cons.1 hp with rfl | hp
        · exact ⟨h3 (by simp), key it, h2⟩
        · exact h6 p hp
      · rw [List.pairwise_cons]
        refine ⟨?_, h7⟩
        intro q hq a ha b hb
        rw [h2 a ha]; exact h4 q hq b hb

theorem partition_spec (key : α → Rat) (tol : Rat) (ht0 : 0 ≤ tol) (ht1 : tol < 1) (items : List α)
    (hap : ∀ a ∈ items, ∀ b ∈ items, Apart (key a) (key b)) :
    (partition key tol items).flatten.Perm items ∧
    (∀ p ∈ partition key tol items, p ≠ [] ∧ ∃ X, ∀ a ∈ p, key a = X) ∧
    (partition key tol items).Pairwise (fun p q => ∀ a ∈ p, ∀ b ∈ q, key a < key b) := by
  unfold partition
  have hperm := stdSort_perm (fun a b => decide (key a < key b)) items
  have hsort := stdSort_sorted_key (fun a b => decide (key a < key b)) key items (by intros; simp)
  generalize stdSort (fun a b => decide (key a < key b)) items = sorted at hperm hsort
  match sorted, hperm, hsort with
  | [], hperm, _ =>
    have : items = [] := by simpa using hperm.symm
    subst this; simp
  | f :: rest, hperm, hsort =>
    rw [List.pairwise_cons] at hsort
    have hmem : ∀ x, x ∈ f :: rest → x ∈ items := fun x hx => hperm.mem_iff.1 hx
    obtain ⟨first, others, h1, h2, h3, h4, h5, h6, h7⟩ := partGo_spec key tol ht0 ht1 rest [f] (key f) 1
      (by intro a ha; have : a = f := by simpa using ha
          rw [this])
      hsort.2 hsort.1 (fun b hb => hap f (hmem f (by simp)) b (hmem b (by simp [hb])))
      (fun a ha b hb => hap a (hmem a (by simp [ha])) b (hmem b (by simp [hb])))
    simp only []
    rw [h1]
    refine ⟨?_, ?_, ?_⟩
    · rw [h5]; simpa using hperm
    · intro p hp
      rcases List.mem_cons.1 hp with rfl | hp
      · exact ⟨h3 (by simp), key f, h2⟩
      · exact h6 p hp
    · rw [List.pairwise_cons]
      refine ⟨?_, h7⟩
      intro q hq a ha b hb
      rw [h2 a ha]; exact h4 q hq b hb

theorem partition_split (key : α → Rat) (tol : Rat) (ht0 : 0 ≤ tol) (ht1 : tol < 1) (items : List α)
    (hap : ∀ a ∈ items, ∀ b ∈ items, Apart (key a) (key b)) (pre : List (List α)) (part : List α) (post : List (List α))
    (h : pre ++ part :: post = partition key tol items) :
    ∃ X, ∀ e ∈ items, (e ∈ pre.flatten ↔ key e < X) ∧ (e ∈ part ↔ key e = X) := by
  obtain ⟨hperm, hconst, hinc⟩ := partition_spec key tol ht0 ht1 items hap
  rw [← h] at hperm hconst hinc
  obtain ⟨hne, X, hX⟩ := hconst part (by simp)
  obtain ⟨b0, hb0⟩ := List.exists_mem_of_ne_nil part hne
  rw [List.pairwise_append] at hinc
  refine ⟨X, fun e he => ?_⟩
  have hin : e ∈ pre.flatten ∨ e ∈ part ∨ e ∈ post.flatten := by simpa using hperm.mem_iff.2 he
  have hd : e ∈ pre.flatten → key e < X := fun hd => by
    obtain ⟨q, hq, heq⟩ := List.mem_flatten.1 hd
    exact hX b0 hb0 ▸ hinc.2.2 q hq part (by simp) e heq b0 hb0
  have hr : e ∈ post.flatten → X < key e := fun hd => by
    obtain ⟨q, hq, heq⟩ := List.mem_flatten.1 hd
    exact hX b0 hb0 ▸ (List.pairwise_cons.1 hinc.2.1).1 q hq b0 hb0 e heq
  have hp : e ∈ part → key e = X := hX e
  constructor
  · refine ⟨hd, fun hlt => ?_⟩
    rcases hin with h1 | h1 | h1
    · exact h1
    · rw [hp h1] at hlt; exact absurd hlt Rat.lt_irrefl
    · exact absurd (Std.lt_trans hlt (hr h1)) Rat.lt_irrefl
  · refine ⟨hp, fun heq => ?_⟩
    rcases hin with h1 | h1 | h1
    · have := hd h1; rw [heq] at this; exact absurd this Rat.lt_irrefl
    · exact h1
    · have := hr h1; rw [heq] at this; exact absurd this Rat.lt_irrefl

theorem pt_eta (p : Pt) : p = ⟨p.x, p.y⟩ := by cases p; rfl

/-- position of a node along a line of orientation `o` -/
def vcOf (o : Ori) (n : Node) : Rat := if o = .H then n.p.x else n.p.y

/-- the coordinate across the line -/
def ccOf (o : Ori) (n : Node) : Rat := if o = .H then n.p.y else n.p.x

theorem vcOf_H (n : Node) : vcOf .H n = n.p.x := rfl
theorem vcOf_V (n : Node) : vcOf .V n = n.p.y := rfl
theorem ccOf_H (n : Node) : ccOf .H n = n.p.y := rfl
theorem ccOf_V (n : Node) : ccOf .V n = n.p.x := rfl

end AdaptaVerif.Lemmas.Planarise
