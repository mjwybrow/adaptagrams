/-
C06: from one queued call (`enqueue_spec`) and the flush theorem (`view_processActions`) to whole
histories: `step_spec`, `run_spec`, the immediate-mode (transactions off) lemma `immediate_run`, and that a
user's re-target of a connector end stays promised along a history (`retarget_kept_run`).
-/
import AdaptaVerif.Lemmas.ActionQueueStep
namespace AdaptaVerif.Lemmas.ActionQueue
open AdaptaVerif.Model.ActionQueue AdaptaVerif.Spec.Scene

theorem pending_of_empty (st : State) (hq : st.queue = []) : pending st = view st.scene :=
  (view_runPasses_perm st (hq ▸ List.Pairwise.nil) (l := []) (hq ▸ List.Perm.refl _)).symm

theorem inv_init : Inv init := by
  refine ⟨by simp [init], by simp [init], by simp [init], ?_, by simp [init], by simp [init, ConnUniq]⟩
  intro id o h
  simp [init, findObst] at h

theorem pending_init : pending init = AScene.empty := by
  rw [pending_of_empty init rfl]
  apply AScene.ext' <;> intro i <;> simp [view, init, findObst, findConn, AScene.empty]

theorem processTransaction_queue (st : State) : (processTransaction st).queue = [] := by
  unfold processTransaction
  by_cases hq : st.queue.isEmpty = true
  · simp only [hq, if_true]; exact List.isEmpty_iff.1 hq
  · simp only [hq, Bool.false_eq_true, if_false]; rfl

theorem processTransaction_spec (st : State) (h : Inv st) :
    Inv (processTransaction st) ∧ view (processTransaction st).scene = pending st ∧
      pending (processTransaction st) = pending st := by
  have hv : Inv (processTransaction st) ∧ view (processTransaction st).scene = pending st := by
    unfold processTransaction
    split
    · next hq => exact ⟨h, (pending_of_empty st (List.isEmpty_iff.1 hq)).symm⟩
    · exact ⟨inv_processActions st h, view_processActions st h⟩
  exact ⟨hv.1, hv.2, (pending_of_empty _ (processTransaction_queue st)).trans hv.2⟩

theorem step_eq (st : State) (op : Op) (hne : op ≠ .processTransaction) :
    step st op = if (!(enqueue st op).1.useTxn && (enqueue st op).2) = true
      then processTransaction (enqueue st op).1 else (enqueue st op).1 := by
  cases op <;> first | rfl | exact absurd rfl hne

theorem step_spec (st : State) (op : Op) (h : Inv st) (hl : legal st op = true) :
    Inv (step st op) ∧ pending (step st op) = applyOp (pending st) op := by
  by_cases hp : op = .processTransaction
  · subst hp
    have := processTransaction_spec st h
    exact ⟨this.1, this.2.2⟩
  · rw [step_eq st op hp]
    obtain ⟨hi, he⟩ := enqueue_spec st op h hl
    split
    · have := processTransaction_spec _ hi
      exact ⟨this.1, this.2.2.trans he⟩
    · exact ⟨hi, he⟩

theorem legalRun_induct {β} (R : State → β → Prop) (g : β → Op → β) (ops : List Op)
    (hstep : ∀ st b op, op ∈ ops → R st b → legal st op = true → R (step st op) (g b op)) :
    ∀ st b, R st b → legalRun st ops = true → R (run st ops) (ops.foldl g b) := by
  induction ops with
  | nil => intro st b h _; exact h
  | cons op ops ih =>
    intro st b h hl
    simp only [legalRun, Bool.and_eq_true] at hl
    exact ih (fun st b o ho => hstep st b o (List.mem_cons_of_mem _ ho)) _ _
      (hstep st b op (List.mem_cons_self ..) h hl.1) hl.2

theorem run_spec (st : State) (ops : List Op) (h : Inv st) (hl : legalRun st ops = true) :
    Inv (run st ops) ∧ pending (run st ops) = applyOps (pending st) ops :=
  legalRun_induct (fun st A => Inv st ∧ pending st = A) applyOp ops
    (fun st _ op _ hR hl => ⟨(step_spec st op hR.1 hl).1, hR.2 ▸ (step_spec st op hR.1 hl).2⟩) st _ ⟨h, rfl⟩ hl

/-! ### transactions off: every call is processed at once -/

theorem enqueue_tail_or_empty (st : State) (op : Op) (hq : st.queue = []) :
    (enqueue st op).2 = true ∨ (enqueue st op).1.queue = [] := by
  cases op <;> simp [enqueue, enqMoveAbs, hq, hasAct, findAct]

theorem enqMoveAbs_useTxn (st : State) (j : Bool) (id : Nat) (g : Poly) (fm : Bool) :
    (enqMoveAbs st j id g fm).1.useTxn = st.useTxn := by
  unfold enqMoveAbs
  split
  · rfl
  · split <;> rfl

theorem enqueue_useTxn (st : State) (op : Op) (hne : ∀ b, op ≠ .setTransactionUse b) :
    (enqueue st op).1.useTxn = st.useTxn := by
  cases op with
  | setTransactionUse b => exact absurd rfl (hne b)
  | moveAbs j id g fm => exact enqMoveAbs_useTxn st j id g fm
  | moveRel j id dx dy => exact enqMoveAbs_useTxn st j id _ false
  | _ => rfl

theorem step_queue_immediate (st : State) (op : Op) (hq : st.queue = []) (hoff : st.useTxn = false) :
    (step st op).queue = [] := by
  by_cases hp : op = .processTransaction
  · subst hp; exact processTransaction_queue st
  · rw [step_eq st op hp]
    by_cases hs : ∃ b, op = .setTransactionUse b
    · obtain ⟨b, rfl⟩ := hs
      simp [enqueue, hq]
    · have hu := enqueue_useTxn st op (fun b e => hs ⟨b, e⟩)
      rw [hu, hoff]
      rcases enqueue_tail_or_empty st op hq with h2 | h2
      · simp only [h2, Bool.not_false, Bool.and_self, if_true]; exact processTransaction_queue _
      · split
        · exact processTransaction_queue _
        · exact h2

theorem processTransaction_useTxn (st : State) : (processTransaction st).useTxn = st.useTxn := by
  unfold processTransaction
  split <;> rfl

theorem step_useTxn (st : State) (op : Op) (hne : ∀ b, op ≠ .setTransactionUse b) :
    (step st op).useTxn = st.useTxn := by
  by_cases hp : op = .processTransaction
  · subst hp; exact processTransaction_useTxn st
  · rw [step_eq st op hp]
    split
    · rw [processTransaction_useTxn]; exact enqueue_useTxn st op hne
    · exact enqueue_useTxn st op hne

theorem immediate_step (st : State) (op : Op) (h : Inv st) (hq : st.queue = []) (hoff : st.useTxn = false)
    (hl : legal st op = true) :
    (step st op).queue = [] ∧ view (step st op).scene = applyOp (view st.scene) op := by
  have hq' := step_queue_immediate st op hq hoff
  refine ⟨hq', ?_⟩
  rw [← pending_of_empty _ hq', (step_spec st op h hl).2, pending_of_empty st hq]

theorem immediate_run (ops : List Op) (st : State) (h : Inv st) (hq : st.queue = []) (hoff : st.useTxn = false)
    (hl : legalRun st ops = true) (hno : ∀ op ∈ ops, op ≠ .setTransactionUse true) :
    (run st ops).queue = [] ∧ view (run st ops).scene = applyOps (view st.scene) ops := by
  have key := legalRun_induct
    (fun st A => Inv st ∧ st.queue = [] ∧ st.useTxn = false ∧ view st.scene = A) applyOp ops
    (fun st A op ho hR hl => by
      obtain ⟨hi, hq, hoff, hv⟩ := hR
      obtain ⟨h1, h2⟩ := immediate_step st op hi hq hoff hl
      refine ⟨(step_spec st op hi hl).1, h1, ?_, hv ▸ h2⟩
      by_cases hs : ∃ b, op = .setTransactionUse b
      · obtain ⟨b, rfl⟩ := hs
        cases b
        · rfl
        · exact absurd rfl (hno _ ho)
      · rw [step_useTxn st op fun b e => hs ⟨b, e⟩, hoff]) st _ ⟨h, hq, hoff, rfl⟩ hl
  exact ⟨key.2.1, key.2.2.2⟩

/-! ### a user re-target survives everything else the history does -/

theorem legalRun_append (st : State) (l1 l2 : List Op) :
    legalRun st (l1 ++ l2) = (legalRun st l1 && legalRun (run st l1) l2) := by
  induction l1 generalizing st with
  | nil => simp [legalRun, run]
  | cons op l1 ih =>
    simp only [List.cons_append, legalRun, ih, run, List.foldl_cons, Bool.and_assoc]

theorem run_append (st : State) (l1 l2 : List Op) : run st (l1 ++ l2) = run (run st l1) l2 := by
  unfold run; rw [List.foldl_append]

theorem endOf_setEnds (ends : Option CEnd × Option CEnd) (e : End) (p : CEnd) : endOf (setEnds ends e p) e = some p := by
  cases e <;> rfl

def promisedEnd (st : State) (c : Nat) (e : End) : Option (Option CEnd) :=
  ((pending st).conn c).map fun x => endOf x e

theorem retarget_set (st : State) (c : Nat) (e : End) (p : CEnd) (h : Inv st)
    (hl : legal st (.setEndpoint c e p) = true) :
    promisedEnd (step st (.setEndpoint c e p)) c e = some (some p) := by
  have hc := legalCall_of_legal hl
  simp only [legalCall, Bool.and_eq_true] at hc
  obtain ⟨k, hk⟩ := Option.isSome_iff_exists.1 hc.1
  unfold promisedEnd
  rw [(step_spec st _ h hl).2]
  simp [applyOp, upd, pending_conn, hk, absC, endOf_setEnds]

theorem applyOp_end (A : AScene) (op : Op) (c : Nat) (e : End) (hne : ∀ q, op ≠ .setEndpoint c e q)
    (hnc : op ≠ .newConn c) : ((applyOp A op).conn c).map (endOf · e) = (A.conn c).map (endOf · e) := by
  cases op with
  | newConn id =>
    have : c ≠ id := fun h => hnc (h ▸ rfl)
    simp [applyOp, upd, this]
  | setEndpoint c' e' q =>
    by_cases hi : c = c'
    · subst hi
      have hee : e' ≠ e := fun he => hne q (by rw [he])
      simp only [applyOp, upd, if_true, Option.map_map]
      congr 1
      funext ends
      cases e <;> cases e' <;> first | rfl | exact absurd rfl hee
    · simp [applyOp, upd, hi]
  | _ => rfl

theorem retarget_kept_step (st : State) (op : Op) (c : Nat) (e : End) (p : CEnd) (h : Inv st)
    (hl : legal st op = true) (hne : ∀ q, op ≠ .setEndpoint c e q)
    (hP : promisedEnd st c e = some (some p)) : promisedEnd (step st op) c e = some (some p) := by
  unfold promisedEnd at hP ⊢
  rw [(step_spec st op h hl).2, applyOp_end _ _ _ _ hne, hP]
  -- a legal `newConn c` needs `c` unused, but connector `c` exists
  rintro rfl
  have hc := legalCall_of_legal hl
  simp only [legalCall, Bool.and_eq_true, Bool.not_eq_true'] at hc
  simp [pending, (fresh_of_not_idUsed hc.2).2] at hP

theorem retarget_kept_run (ops : List Op) (st : State) (c : Nat) (e : End) (p : CEnd) (h : Inv st)
    (hl : legalRun st ops = true) (hne : ∀ op ∈ ops, ∀ q, op ≠ .setEndpoint c e q)
    (hP : promisedEnd st c e = some (some p)) : promisedEnd (run st ops) c e = some (some p) :=
  (legalRun_induct (fun st (_ : Unit) => Inv st ∧ promisedEnd st c e = some (some p)) (fun u _ => u) ops
    (fun st _ op ho hR hl =>
      ⟨(step_spec st op hR.1 hl).1, retarget_kept_step st op c e p hR.1 hl (hne op ho) hR.2⟩) st () ⟨h, hP⟩ hl).2

end AdaptaVerif.Lemmas.ActionQueue
