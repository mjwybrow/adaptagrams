/-
Lemmas about the model of `Tree::symmetricLayout`: the growth directions are images of each other.
A `Frame` is a change of coordinates (point map `φ`, size map `σ`) between growth directions `d` and `d'` that
commutes with everything the layout does; the layout for `d'` of the re-sized tree is the `φ`-image of the
layout for `d`.  Instances: SOUTH→NORTH (mirror y), EAST→WEST (mirror x), SOUTH→EAST (transpose, w↔h).
-/
import AdaptaVerif.Lemmas.TreeLayout
namespace AdaptaVerif.Lemmas.TreeLayout
open AdaptaVerif.Model.TreeLayout

structure Frame where
  d : Dir
  d' : Dir
  φ : Pt → Pt
  σ : Rat × Rat → Rat × Rat
  flip_comm : ∀ p, flipPt d' (φ p) = φ (flipPt d p)
  add_comm : ∀ p v : Pt, φ ⟨p.x + v.x, p.y + v.y⟩ = ⟨(φ p).x + (φ v).x, (φ p).y + (φ v).y⟩
  zero : φ ⟨0, 0⟩ = ⟨0, 0⟩
  disp_comm : ∀ v, disp d' (φ v) = disp d v
  base : ∀ rs, baseTrans d' rs = φ (baseTrans d rs)
  side : ∀ rs R, (if d'.isVertical then (⟨R, (baseTrans d' rs).y⟩ : Pt) else ⟨(baseTrans d' rs).x, R⟩) =
    φ (if d.isVertical then ⟨R, (baseTrans d rs).y⟩ else ⟨(baseTrans d rs).x, R⟩)
  half : ∀ w h, (if d'.isVertical then (σ (w, h)).1 / 2 else (σ (w, h)).2 / 2) =
    (if d.isVertical then w / 2 else h / 2)

namespace Frame
variable (F : Frame)

def mapNode (n : PNode) : PNode := ⟨n.id, F.φ n.c, (F.σ (n.w, n.h)).1, (F.σ (n.w, n.h)).2⟩
def mapLevel (l : Level) : Level := ⟨l.lo, l.hi, l.nodes.map F.mapNode⟩
def mapLay (t : Lay) : Lay := ⟨t.levels.map F.mapLevel, t.lb, t.ub⟩
def mapSt (st : St) : St := { st with root := F.mapLevel st.root, rest := st.rest.map F.mapLevel }
def mapForest : Forest → Forest
  | .nil => .nil
  | .cons id w h kids rest => .cons id (F.σ (w, h)).1 (F.σ (w, h)).2 (mapForest kids) (mapForest rest)

abbrev cfg (ns rs : Rat) : Cfg := ⟨F.d, ns, rs⟩
abbrev cfg' (ns rs : Rat) : Cfg := ⟨F.d', ns, rs⟩

theorem flip_level (l : Level) : (F.mapLevel l).flip F.d' = F.mapLevel (l.flip F.d) := by
  simp only [Level.flip, mapLevel, List.map_map, Level.mk.injEq, true_and]
  congr 1; funext n
  simp [mapNode, PNode.flip, F.flip_comm]

theorem flip_lay (t : Lay) : (F.mapLay t).flip F.d' = F.mapLay (t.flip F.d) := by
  simp only [Lay.flip, mapLay, List.map_map, Lay.mk.injEq, and_true]
  congr 1; funext l; exact F.flip_level l

theorem translate_level (v : Pt) (l : Level) :
    (F.mapLevel l).translate F.d' (F.φ v) = F.mapLevel (l.translate F.d v) := by
  simp only [Level.translate, mapLevel, F.disp_comm, List.map_map, Level.mk.injEq, true_and]
  congr 1; funext n
  simp [mapNode, PNode.translate, F.add_comm]

theorem translate_lay (v : Pt) (t : Lay) :
    (F.mapLay t).translate F.d' (F.φ v) = F.mapLay (t.translate F.d v) := by
  simp only [Lay.translate, mapLay, F.disp_comm, List.map_map, Lay.mk.injEq, and_true]
  congr 1; funext l; exact F.translate_level v l

theorem overlay_map {f : Level → Level → Level} (hf : ∀ t p, f (F.mapLevel t) (F.mapLevel p) = F.mapLevel (f t p)) :
    ∀ ts ps : List Level, overlay f (ts.map F.mapLevel) (ps.map F.mapLevel) = (overlay f ts ps).map F.mapLevel
  | [], ps => by simp [overlay]
  | t :: ts, [] => by simp [overlay]
  | t :: ts, p :: ps => by simp [overlay, hf, overlay_map hf ts ps]

theorem fCentral_map (t p : Level) : fCentral (F.mapLevel t) (F.mapLevel p) = F.mapLevel (fCentral t p) := by
  simp [fCentral, mapLevel]
theorem fPos_map (t p : Level) : fPos (F.mapLevel t) (F.mapLevel p) = F.mapLevel (fPos t p) := by
  simp [fPos, mapLevel]
theorem fNeg_map (t p : Level) : fNeg (F.mapLevel t) (F.mapLevel p) = F.mapLevel (fNeg t p) := by
  simp [fNeg, mapLevel]

theorem candidates_map (pos : Bool) (ns : Rat) : ∀ ps ts : List Level,
    candidates pos ns (ps.map F.mapLevel) (ts.map F.mapLevel) = candidates pos ns ps ts
  | [], _ => by simp [candidates]
  | _ :: _, [] => by simp [candidates]
  | p :: ps, t :: ts => by
    have ih := candidates_map pos ns ps ts
    unfold candidates at ih ⊢
    simp only [List.map_cons, List.zipWith_cons_cons, ih]
    rfl

theorem foldl_mapLevel (g : Rat → Level → Rat) (hg : ∀ a l, g a (F.mapLevel l) = g a l) :
    ∀ (ls : List Level) (a : Rat), (ls.map F.mapLevel).foldl g a = ls.foldl g a
  | [], _ => rfl
  | l :: ls, a => by simp [hg, foldl_mapLevel g hg ls]

theorem placeCentral_map (ns rs : Rat) (st : St) (t : Lay) :
    placeCentral (F.cfg' ns rs) (F.mapSt st) (F.mapLay t) = F.mapSt (placeCentral (F.cfg ns rs) st t) := by
  unfold placeCentral
  simp only [F.base, F.translate_lay]
  simp only [mapSt, mapLay, F.overlay_map F.fCentral_map]
  rw [F.foldl_mapLevel _ (fun _ _ => rfl), F.foldl_mapLevel _ (fun _ _ => rfl)]

theorem sideMoved_map (ns rs : Rat) (st : St) (t : Lay) :
    sideMoved (F.cfg' ns rs) (F.mapSt st) (F.mapLay t) = F.mapLay (sideMoved (F.cfg ns rs) st t) := by
  unfold sideMoved
  rw [show (F.mapSt st).positiveNext = st.positiveNext from rfl,
    show (F.mapSt st).rest = st.rest.map F.mapLevel from rfl]
  rcases Bool.eq_false_or_eq_true st.positiveNext with hp | hp
  · simp only [hp, if_true]
    rw [show (F.mapLay t).levels = t.levels.map F.mapLevel from rfl,
      F.candidates_map, F.side, F.translate_lay]
  · simp only [hp, Bool.false_eq_true, if_false, F.flip_lay]
    rw [show (F.mapLay (t.flip F.d)).levels = (t.flip F.d).levels.map F.mapLevel from rfl,
      F.candidates_map, F.side, F.translate_lay]

theorem foldl_cons_mapLevel (g : Rat → Level → Rat) (hg : ∀ a l, g a (F.mapLevel l) = g a l) (r : Level)
    (ls : List Level) (a : Rat) :
    (F.mapLevel r :: ls.map F.mapLevel).foldl g a = (r :: ls).foldl g a := by
  rw [← List.map_cons]; exact F.foldl_mapLevel g hg _ _

theorem placeSide_map (ns rs : Rat) (st : St) (t : Lay) :
    placeSide (F.cfg' ns rs) (F.mapSt st) (F.mapLay t) = F.mapSt (placeSide (F.cfg ns rs) st t) := by
  simp only [placeSide, F.sideMoved_map]
  rw [show (F.mapSt st).positiveNext = st.positiveNext from rfl,
    show (F.mapSt st).rest = st.rest.map F.mapLevel from rfl,
    show (F.mapSt st).root = F.mapLevel st.root from rfl,
    show (F.mapLay (sideMoved (F.cfg ns rs) st t)).levels = (sideMoved (F.cfg ns rs) st t).levels.map F.mapLevel from rfl]
  rcases Bool.eq_false_or_eq_true st.positiveNext with hp | hp
  · simp only [hp, if_true, F.overlay_map F.fPos_map]
    rw [F.foldl_cons_mapLevel (fun e l => rmax e l.hi) (fun _ _ => rfl)]
    rfl
  · simp only [hp, Bool.false_eq_true, if_false, F.overlay_map F.fNeg_map]
    rw [F.foldl_cons_mapLevel (fun e l => rmin e l.lo) (fun _ _ => rfl)]
    rfl

theorem place_map (ns rs : Rat) (st : St) (t : Lay) :
    place (F.cfg' ns rs) (F.mapSt st) (F.mapLay t) = F.mapSt (place (F.cfg ns rs) st t) := by
  unfold place
  rw [show (F.mapSt st).mustCentral = st.mustCentral from rfl]
  split
  · exact F.placeCentral_map ns rs st t
  · exact F.placeSide_map ns rs st t

theorem foldl_place_map (ns rs : Rat) : ∀ (ts : List Lay) (st : St),
    (ts.map F.mapLay).foldl (place (F.cfg' ns rs)) (F.mapSt st) = F.mapSt (ts.foldl (place (F.cfg ns rs)) st)
  | [], _ => rfl
  | t :: ts, st => by
    simp only [List.map_cons, List.foldl_cons, F.place_map]
    exact foldl_place_map ns rs ts _

theorem maxDepth_map (ts : List Lay) : maxDepth (ts.map F.mapLay) = maxDepth ts := by
  unfold maxDepth
  have : ∀ (ts : List Lay) (m : Nat), (ts.map F.mapLay).foldl (fun m l => max m l.levels.length) m
      = ts.foldl (fun m l => max m l.levels.length) m := by
    intro ts
    induction ts with
    | nil => intro m; rfl
    | cons t ts ih => intro m; simp [mapLay, ih]
  exact this ts 0

theorem initSt_map (ns rs : Rat) (id : Nat) (w h : Rat) (k : Nat) (c : Bool) :
    initSt (F.cfg' ns rs) id (F.σ (w, h)).1 (F.σ (w, h)).2 k c = F.mapSt (initSt (F.cfg ns rs) id w h k c) := by
  unfold initSt
  simp only [mapSt, mapLevel, mapNode, List.map_cons, List.map_nil, F.zero, List.map_replicate]
  rw [F.half w h]

theorem placeAll_map (ns rs : Rat) (id : Nat) (w h : Rat) (ordered : List Lay) (c : Bool) :
    placeAll (F.cfg' ns rs) id (F.σ (w, h)).1 (F.σ (w, h)).2 (ordered.map F.mapLay) c =
      F.mapLay (placeAll (F.cfg ns rs) id w h ordered c) := by
  unfold placeAll
  rw [F.maxDepth_map, F.initSt_map, F.foldl_place_map]
  rfl

theorem pick_map (perm : List Nat) (ls : List Lay) : pick perm (ls.map F.mapLay) = (pick perm ls).map F.mapLay := by
  simp only [pick, List.getElem?_map, List.map_filterMap]

theorem keys_map : ∀ f : Forest, keys (F.mapForest f) = keys f
  | .nil => rfl
  | .cons _ _ _ kids rest => by simp [mapForest, keys, keys_map kids, keys_map rest]

theorem layoutAll_map (ord : Order) (ns rs : Rat) : ∀ f : Forest,
    layoutAll ord (F.cfg' ns rs) (F.mapForest f) = (layoutAll ord (F.cfg ns rs) f).map F.mapLay
  | .nil => rfl
  | .cons id w h kids rest => by
    simp only [mapForest, layoutAll, List.map_cons, layoutNode, F.keys_map, layoutAll_map ord ns rs kids,
      layoutAll_map ord ns rs rest, F.pick_map, F.placeAll_map]

theorem layoutWith_map (ord : Order) (ns rs : Rat) (convex : Bool) (id : Nat) (w h : Rat) (kids : Forest) :
    layoutWith ord (F.cfg' ns rs) convex id (F.σ (w, h)).1 (F.σ (w, h)).2 (F.mapForest kids) =
      F.mapLay (layoutWith ord (F.cfg ns rs) convex id w h kids) := by
  simp only [layoutWith, layoutNode, F.keys_map, F.layoutAll_map, F.pick_map, F.placeAll_map]

end Frame

/-- SOUTH → NORTH: mirror in the x-axis, sizes unchanged -/
def southNorth : Frame where
  d := .south
  d' := .north
  φ := fun p => ⟨p.x, -p.y⟩
  σ := id
  flip_comm := by intro p; simp [flipPt, Dir.isVertical]
  add_comm := by intro p v; dsimp only; rw [neg_add]
  zero := by simp
  disp_comm := by intro v; simp [disp, Dir.isVertical]
  base := by intro rs; simp [baseTrans]
  side := by intro rs R; simp [baseTrans, Dir.isVertical]
  half := by intro w h; simp [Dir.isVertical]

/-- EAST → WEST: mirror in the y-axis, sizes unchanged -/
def eastWest : Frame where
  d := .east
  d' := .west
  φ := fun p => ⟨-p.x, p.y⟩
  σ := id
  flip_comm := by intro p; simp [flipPt, Dir.isVertical]
  add_comm := by intro p v; dsimp only; rw [neg_add]
  zero := by simp
  disp_comm := by intro v; simp [disp, Dir.isVertical]
  base := by intro rs; simp [baseTrans]
  side := by intro rs R; simp [baseTrans, Dir.isVertical]
  half := by intro w h; simp [Dir.isVertical]

/-- SOUTH → EAST: transpose, width and height exchanged -/
def southEast : Frame where
  d := .south
  d' := .east
  φ := fun p => ⟨p.y, p.x⟩
  σ := fun s => (s.2, s.1)
  flip_comm := by intro p; simp [flipPt, Dir.isVertical]
  add_comm := by intro p v; simp
  zero := by simp
  disp_comm := by intro v; simp [disp, Dir.isVertical]
  base := by intro rs; simp [baseTrans]
  side := by intro rs R; simp [baseTrans, Dir.isVertical]
  half := by intro w h; simp [Dir.isVertical]

theorem southNorth_mapForest : ∀ f : Forest, southNorth.mapForest f = f
  | .nil => rfl
  | .cons _ _ _ kids rest => by
    simp only [Frame.mapForest, southNorth_mapForest kids, southNorth_mapForest rest]; rfl

theorem eastWest_mapForest : ∀ f : Forest, eastWest.mapForest f = f
  | .nil => rfl
  | .cons _ _ _ kids rest => by
    simp only [Frame.mapForest, eastWest_mapForest kids, eastWest_mapForest rest]; rfl

end AdaptaVerif.Lemmas.TreeLayout
