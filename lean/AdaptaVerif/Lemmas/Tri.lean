/-
Helper lemmas for C13 about `TriConstraint::slack` / `maxSafeAlpha` and the move phase `moveStep` of
`solve()` (Model/Tri.lean).
-/
import AdaptaVerif.Model.Tri
import AdaptaVerif.Spec.Tri
import Mathlib.Tactic.Linarith
import Mathlib.Tactic.Ring
import Mathlib.Tactic.FieldSimp
import Mathlib.Algebra.Order.Field.Basic
namespace AdaptaVerif.Lemmas.Tri
open AdaptaVerif.Model.Tri AdaptaVerif.Spec.Tri

/-- sign carried by `leftOf` -/
def sgn (l : Bool) : Rat := if l then 1 else -1

theorem slack_eq (p g : Rat) (l : Bool) (u v w : Rat) :
    slack p g l u v w = sgn l * ((1 - p) * u + p * v - w + g) := by
  unfold slack sgn
  cases l <;> simp <;> ring

theorem slack_true_eq_neg (p g u v w : Rat) :
    slack p g true u v w = - slack p g false u v w := by
  simp only [slack_eq, sgn]; simp

theorem slack_line (p g : Rat) (l : Bool) (u1 u2 v1 v2 w1 w2 α : Rat) :
    slack p g l (u1 + α * (u2 - u1)) (v1 + α * (v2 - v1)) (w1 + α * (w2 - w1))
      = slack p g l u1 v1 w1 + α * (slack p g l u2 v2 w2 - slack p g l u1 v1 w1) := by
  simp only [slack_eq]; ring

theorem msaNum_eq (p g u1 v1 w1 : Rat) : msaNum p g u1 v1 w1 = slack p g false u1 v1 w1 := by
  simp only [slack_eq, sgn, msaNum]; simp; ring

theorem msaDen_eq (p g u1 u2 v1 v2 w1 w2 : Rat) :
    msaDen p u1 u2 v1 v2 w1 w2 = slack p g false u1 v1 w1 - slack p g false u2 v2 w2 := by
  simp only [slack_eq, sgn, msaDen]; simp; ring

theorem num_div_den (p g : Rat) (l : Bool) (u1 u2 v1 v2 w1 w2 : Rat) :
    msaNum p g u1 v1 w1 / msaDen p u1 u2 v1 v2 w1 w2
      = slack p g l u1 v1 w1 / (slack p g l u1 v1 w1 - slack p g l u2 v2 w2) := by
  rw [msaNum_eq, msaDen_eq p g]
  cases l
  · rfl
  · rw [slack_true_eq_neg, slack_true_eq_neg, ← neg_sub', neg_div_neg_eq]

theorem den_eq_zero_iff (p g : Rat) (l : Bool) (u1 u2 v1 v2 w1 w2 : Rat) :
    msaDen p u1 u2 v1 v2 w1 w2 = 0 ↔ slack p g l u1 v1 w1 = slack p g l u2 v2 w2 := by
  rw [msaDen_eq p g]
  cases l
  · constructor <;> intro h <;> linarith
  · rw [slack_true_eq_neg, slack_true_eq_neg]; constructor <;> intro h <;> linarith

theorem msa_of_violated (p g : Rat) (l : Bool) (u1 u2 v1 v2 w1 w2 : Rat)
    (h1 : 0 ≤ slack p g l u1 v1 w1) (h2 : slack p g l u2 v2 w2 < 0) :
    maxSafeAlpha p g l u1 u2 v1 v2 w1 w2
      = slack p g l u1 v1 w1 / (slack p g l u1 v1 w1 - slack p g l u2 v2 w2) := by
  have hd : 0 < slack p g l u1 v1 w1 - slack p g l u2 v2 w2 := by linarith
  unfold maxSafeAlpha
  simp only []
  rw [if_neg (by simpa using h2)]
  have hne : ¬ msaDen p u1 u2 v1 v2 w1 w2 = 0 := by
    rw [den_eq_zero_iff p g l]; intro h; linarith
  rw [if_neg hne, num_div_den p g l, if_neg (not_lt.mpr (div_nonneg h1 (le_of_lt hd)))]

theorem msa_of_final_feasible (p g : Rat) (l : Bool) (u1 u2 v1 v2 w1 w2 : Rat)
    (h2 : 0 ≤ slack p g l u2 v2 w2) : maxSafeAlpha p g l u1 u2 v1 v2 w1 w2 = 1 := by
  unfold maxSafeAlpha
  simp only []
  rw [if_pos (by simpa using h2)]

theorem single_safe (p g : Rat) (l : Bool) (u1 u2 v1 v2 w1 w2 α : Rat)
    (h1 : 0 ≤ slack p g l u1 v1 w1) (h0 : 0 ≤ α) (hle1 : α ≤ 1)
    (hα : slack p g l u2 v2 w2 < 0 → α ≤ maxSafeAlpha p g l u1 u2 v1 v2 w1 w2) :
    0 ≤ slack p g l (u1 + α * (u2 - u1)) (v1 + α * (v2 - v1)) (w1 + α * (w2 - w1)) := by
  rw [slack_line]
  by_cases h2 : slack p g l u2 v2 w2 < 0
  · have hd : 0 < slack p g l u1 v1 w1 - slack p g l u2 v2 w2 := by linarith
    have hα' := hα h2
    rw [msa_of_violated p g l _ _ _ _ _ _ h1 h2, le_div_iff₀ hd] at hα'
    linarith
  · have h2' : 0 ≤ slack p g l u2 v2 w2 := not_lt.mp h2
    have : 0 ≤ (1 - α) * slack p g l u1 v1 w1 + α * slack p g l u2 v2 w2 :=
      add_nonneg (mul_nonneg (by linarith) h1) (mul_nonneg h0 h2')
    linarith

theorem minAlphaFrom_least (m : Rat) (cs : List TriConstraint) (ini fin : Pos) :
    minAlphaFrom m cs ini fin ≤ m ∧ (∀ c ∈ cs, minAlphaFrom m cs ini fin ≤ c.msa ini fin) ∧
      (minAlphaFrom m cs ini fin = m ∨ ∃ c ∈ cs, minAlphaFrom m cs ini fin = c.msa ini fin) := by
  induction cs generalizing m with
  | nil => exact ⟨le_refl _, nofun, Or.inl rfl⟩
  | cons d rest ih =>
    obtain ⟨h1, h2, h3⟩ := ih (if d.msa ini fin < m then d.msa ini fin else m)
    simp only [minAlphaFrom, List.mem_cons, forall_eq_or_imp, or_and_right, exists_or, exists_eq_left]
    by_cases hd : d.msa ini fin < m
    · rw [if_pos hd] at h1 h2 h3 ⊢
      exact ⟨le_trans h1 (le_of_lt hd), ⟨h1, h2⟩, Or.inr h3⟩
    · rw [if_neg hd] at h1 h2 h3 ⊢
      exact ⟨h1, ⟨le_trans h1 (not_lt.mp hd), h2⟩, h3.imp_right Or.inr⟩

theorem slackAt_posOnLine (c : TriConstraint) (ini fin : Pos) (α : Rat) :
    c.slackAt (posOnLine ini fin α) = c.slackAt ini + α * (c.slackAt fin - c.slackAt ini) :=
  slack_line c.p c.g c.leftOf (ini c.u) (fin c.u) (ini c.v) (fin c.v) (ini c.w) (fin c.w) α

theorem safeStep_of_le_msa (cs : List TriConstraint) (ini fin : Pos) (α : Rat)
    (hini : Feasible cs ini) (h0 : 0 ≤ α) (h1 : α ≤ 1)
    (hα : ∀ c ∈ cs, c.slackAt fin < 0 → α ≤ c.msa ini fin) : SafeStep cs ini fin α :=
  fun c hc => single_safe c.p c.g c.leftOf (ini c.u) (fin c.u) (ini c.v) (fin c.v) (ini c.w) (fin c.w) α
    (hini c hc) h0 h1 (hα c hc)

theorem moveStep_eq (cs : List TriConstraint) (ini fin : Pos) :
    moveStep cs ini fin =
      if minAlpha cs ini fin > 0 then posOnLine ini fin (minAlpha cs ini fin) else ini := rfl

theorem moveStep_feasible (cs : List TriConstraint) (ini fin : Pos) (hini : Feasible cs ini) :
    Feasible cs (moveStep cs ini fin) := by
  rw [moveStep_eq]
  split
  · rename_i hpos
    exact safeStep_of_le_msa cs ini fin _ hini (le_of_lt hpos) (minAlphaFrom_least 1 cs ini fin).1
      (fun c hc _ => (minAlphaFrom_least 1 cs ini fin).2.1 c hc)
  · exact hini

/-- when the move is cut short (`minAlpha < 1`) every constraint attaining the minimum (the `minT` of
    `solve()` is the first of them) is violated at the final positions, so `minAlpha` is the root
    `s₁/(s₁-s₂)` of its slack along the move: its slack at the positions reached is 0 (also when
    `minAlpha = 0` and nothing moves: then `s₁ = 0`) -/
theorem tight_of_msa_eq_minAlpha (cs : List TriConstraint) (ini fin : Pos) (hini : Feasible cs ini)
    (hlt : minAlpha cs ini fin < 1) {c : TriConstraint} (hc : c ∈ cs)
    (h : c.msa ini fin = minAlpha cs ini fin) : c.slackAt (moveStep cs ini fin) = 0 := by
  have hviol : c.slackAt fin < 0 := by
    by_contra hn
    rw [← h, TriConstraint.msa, msa_of_final_feasible _ _ _ _ _ _ _ _ _ (not_lt.mp hn)] at hlt
    exact lt_irrefl _ hlt
  have h1 : 0 ≤ c.slackAt ini := hini c hc
  have hd : 0 < c.slackAt ini - c.slackAt fin := by linarith
  have hval : minAlpha cs ini fin = c.slackAt ini / (c.slackAt ini - c.slackAt fin) :=
    h.symm.trans (msa_of_violated c.p c.g c.leftOf _ _ _ _ _ _ h1 hviol)
  rw [moveStep_eq]
  split
  · rw [slackAt_posOnLine, hval]; field_simp; ring
  · rename_i hnp
    rw [hval, not_lt, div_le_iff₀ hd, zero_mul] at hnp
    exact le_antisymm hnp h1

theorem moveStep_stops_tight (cs : List TriConstraint) (ini fin : Pos) (hini : Feasible cs ini)
    (hlt : minAlpha cs ini fin < 1) :
    ∃ c ∈ cs, c.msa ini fin = minAlpha cs ini fin ∧ c.slackAt (moveStep cs ini fin) = 0 := by
  rcases (minAlphaFrom_least 1 cs ini fin).2.2 with h | ⟨c, hc, h⟩
  · exact absurd (lt_of_eq_of_lt h.symm hlt) (lt_irrefl _)
  · exact ⟨c, hc, h.symm, tight_of_msa_eq_minAlpha cs ini fin hini hlt hc h.symm⟩

end AdaptaVerif.Lemmas.Tri
