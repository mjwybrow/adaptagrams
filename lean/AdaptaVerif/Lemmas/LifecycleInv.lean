/-
C15 (A) — the invariant carried between the operations of a legal history, and its preservation by `step`.

`Inv σ g s` collects everything the universally quantified theorems of Props/C15 project out of a run.  `σ`
says that the history is strictly legal: the ledger (`core`), the queue's references (`nd`) and the checkpoint
ledger (`cp`) hold after every documented-legal history; the well-formedness of the queue (`qw`), the
cluster references (`rc`) and the absence of faults need the restrictions K2, K4, K6 of `Legal`.  One proof
per primitive and one per operation serve both levels (`inv_step`; `doc_run` is `σ := False`, `strict_run`
is `σ := True`).  `g` are the ghost pins of `Core`.
-/
import AdaptaVerif.Lemmas.LifecycleClusterRefs
import AdaptaVerif.Lemmas.LifecycleCheckpoints
namespace AdaptaVerif.Lemmas.Lifecycle
open AdaptaVerif.Model.Lifecycle AdaptaVerif.Spec.Lifecycle

structure Inv (σ : Prop) (g : List Id) (s : St) : Prop where
  core : Core g s
  nd : NoDanglingAction s
  cp : CpOk s
  qw : σ → QW s.actions
  rc : σ → RC s
  nofault : σ → s.faults = []
  noref : σ → s.refFaults = []

theorem inv_init (σ : Prop) : Inv σ [] init :=
  ⟨core_init, nd_of_nil rfl, cpOk_init, fun _ => qw_nil, fun _ _ h => (nomatch h), fun _ => rfl, fun _ => rfl⟩

theorem inv_processTransaction {σ : Prop} {g : List Id} {s : St} (h : Inv σ g s) :
    Inv σ g s.processTransaction :=
  ⟨core_processTransaction h.core, nd_of_nil (actions_processTransaction s),
    cpOk_congr h.cp (cpv_processTransaction s), fun _ => actions_processTransaction s ▸ qw_nil,
    fun hs => rc_processTransaction (h.rc hs),
    fun hs => (faults_processTransaction h.nd (h.qw hs)).trans (h.nofault hs),
    fun hs => (refFaults_processTransaction (h.rc hs)).trans (h.noref hs)⟩

theorem inv_maybeProcess {σ : Prop} {g : List Id} {X : St} (h : Inv σ g X) : Inv σ g X.maybeProcess := by
  unfold St.maybeProcess
  split
  · exact h
  · exact inv_processTransaction h

theorem inv_transfer {σ : Prop} {g g' : List Id} {s t : St} (h : Inv σ g s) (hcore : Core g' t) (hcp : CpOk t)
    (hsub : t.actions.Sublist s.actions) (hK : ∀ k ∈ okeys s, k ∈ okeys t) (hC : ∀ c ∈ cids s, c ∈ cids t)
    (hv : (t.clusters, t.faults, t.refFaults) = (s.clusters, s.faults, s.refFaults)) : Inv σ g' t := by
  simp only [Prod.mk.injEq] at hv
  exact ⟨hcore, nd_transfer h.nd hsub.subset hK hC, hcp, fun hs => qw_sub (h.qw hs) hsub,
    fun hs => rc_transfer (h.rc hs) hv.1 (oids_sub_of_okeys hK) (fun _ => removed_sub hsub.subset),
    fun hs => hv.2.1.trans (h.nofault hs), fun hs => hv.2.2.trans (h.noref hs)⟩

theorem inv_enqueue {σ : Prop} {g : List Id} {s : St} (h : Inv σ g s) (t : AType) (o : Id)
    (hS : isShapeAct t → s.hasShape o = true) (hJ : isJunctionAct t → s.hasJunction o = true)
    (hC : t = .connChange → s.hasConn o = true)
    (huse : σ → isObstT t = true → isRemove t = false → removed s.actions o = false)
    (hrem : σ → isRemove t = true →
      (removed s.actions o = false ∧ ∀ a ∈ s.actions, ¬ Uses a o) ∧ s.referenced o = false) :
    Inv σ g (s.enqueue t o) :=
  ⟨core_enqueue h.core t o, nd_enqueue h.nd t o hS hJ hC, cpOk_congr h.cp (cpv_enqueue s t o),
    fun hs => qw_enqueue (h.qw hs) t o (huse hs) (fun x => (hrem hs x).1),
    fun hs => rc_enqueue (h.rc hs) t o (fun x => (hrem hs x).2),
    fun hs => (faults_enqueue s t o).trans (h.nofault hs),
    fun hs => (show (s.enqueue t o).refFaults = s.refFaults by unfold St.enqueue; split <;> rfl).trans (h.noref hs)⟩

/-- `ConnRef::~ConnRef`: its queue entries go with it (`removeObjectFromQueuedActions`) -/
theorem inv_freeConn {σ : Prop} {g : List Id} {s : St} (h : Inv σ g s) {c : Id} (hc : c ∈ cids s) :
    Inv σ g (s.freeConn c) :=
  ⟨core_freeConn h.core hc, nd_freeConn h.nd c, cpOk_freeConn h.cp c, fun hs => qw_sub (h.qw hs) List.filter_sublist,
    fun hs => rc_transfer (h.rc hs) rfl (fun _ x => x) (fun _ => removed_sub (fun _ ha => (List.mem_filter.1 ha).1)),
    h.nofault, h.noref⟩

theorem inv_enqueue_other {σ : Prop} {g : List Id} {s : St} (h : Inv σ g s) (t : AType) (o : Id)
    (ht : isObstT t = false) (hC : t = .connChange → s.hasConn o = true) : Inv σ g (s.enqueue t o) :=
  inv_enqueue h t o (fun x => by rcases x with rfl | rfl | rfl <;> cases ht)
    (fun x => by rcases x with rfl | rfl | rfl <;> cases ht) hC
    (fun _ x => absurd x (by simp [ht])) (fun _ x => absurd (isObstT_of_remove x) (by simp [ht]))

theorem inv_modify {σ : Prop} {g : List Id} {s : St} (h : Inv σ g s) {c : Id} (d : Bool) {e : EndSpec}
    (hc : s.hasConn c = true) (hspec : specOk s e = true) : Inv σ g (s.modify c d e) :=
  ⟨core_modify h.core c d e, nd_modify h.nd d hc (fun an han => hasObst_iff.2 (specOk_iff.1 hspec an han).1),
    cpOk_congr h.cp rfl,
    fun hs => qw_modify (h.qw hs) c d hspec,
    fun hs => rc_transfer (h.rc hs) rfl (fun _ x => x)
      (fun o ho => (removed_modifyConn s.actions c d e false o).trans ho),
    h.nofault, h.noref⟩

theorem inv_newJunction {σ : Prop} {s : St} (h : Inv σ [] s) {id pin : Id} (hx : id ∉ s.created)
    (hp : pin ∉ s.created) (hne : id ≠ pin) :
    Inv σ [] (((((s.addObst id true false).addPin pin id centreCls).enqueue .pinChange pin).maybeProcess).enqueue
      .junctionAdd id).maybeProcess := by
  have hA : Inv σ [] ((s.addObst id true false).addPin pin id centreCls) :=
    inv_transfer h (core_addJunction h.core false hx hp hne) (cpOk_congr h.cp rfl) (List.Sublist.refl _)
      (fun k hk => okeys_addObst s id true false ▸ List.mem_append_left _ hk) (fun _ x => x) rfl
  have h1 := inv_enqueue_other hA .pinChange pin rfl nofun
  have hj1 : (((s.addObst id true false).addPin pin id centreCls).enqueue .pinChange pin).hasJunction id = true := by
    simp [St.hasJunction, obst_enqueue, St.addObst, St.addPin, List.any_append]
  -- the queue (processed right here when transactions are off) holds no removal of the new junction
  have hno : removed (((s.addObst id true false).addPin pin id centreCls).enqueue .pinChange pin).actions id
      = false := removed_enqueue (removed_fresh h.core h.nd hx) (fun x => absurd x (by decide))
  generalize (((s.addObst id true false).addPin pin id centreCls).enqueue .pinChange pin) = X1 at h1 hj1 hno
  exact inv_maybeProcess (inv_enqueue (inv_maybeProcess h1) _ _ (fun x => absurd x (by decide))
    (fun _ => hasJunction_maybeProcess hj1 hno) nofun
    (fun _ _ _ => removed_sub (maybeProcess_actions_sub X1).subset hno) (fun _ x => absurd x (by decide)))

theorem inv_newConn {σ : Prop} {s : St} (h : Inv σ [] s) {id : Id} {src dst : EndSpec} (hx : id ∉ s.created)
    (hsrc : specOk s src = true) (hdst : specOk s dst = true) :
    Inv σ [] ((((s.addConn id false).modify id false src).maybeProcess).modify id true dst).maybeProcess := by
  have hA : Inv σ [] (s.addConn id false) :=
    inv_transfer h (core_addConn h.core _ hx) (cpOk_addConn h.cp id false) (List.Sublist.refl _) (fun _ x => x)
      (fun c hc => cids_addConn s id false ▸ List.mem_append_left _ hc) rfl
  have hcA := hasConn_addConn_self s id false
  have h1 := inv_maybeProcess (inv_modify hA false hcA (e := src) hsrc)
  -- `dst` is still acceptable when the second modifyConnector runs: the first one queues no removal, and with
  -- transactions off it has processed a queue that held no removal of `dst`'s obstacle
  have hdst1 : specOk ((s.addConn id false).modify id false src).maybeProcess dst = true :=
    specOk_maybeProcess (specOk_iff.2 (fun an han => (specOk_iff.1 hdst an han).imp (fun x => x)
      (fun ho => (removed_modifyConn s.actions id false src false an.obj).trans ho)))
  refine inv_maybeProcess (inv_modify h1 true ?_ hdst1)
  rw [hasConn_iff, cids_maybeProcess]; exact hasConn_iff.1 hcA

/-- `deleteShape` / `deleteJunction`: a documented-legal call keeps the ledgers and the queue's references even
    when it trips the assertion on a queued addition (K2); a strictly legal one does not get there, and queues a
    removal that conflicts with nothing (K4, K6) -/
theorem inv_deleteObstacleOp {σ : Prop} {s : St} (h : Inv σ [] s) (o : Id) (j : Bool)
    (hhas : (if j then s.hasJunction o else s.hasShape o) = true) (hpend : s.pendingRemove o = false)
    (hst : σ → s.hasAction (if j then .junctionAdd else .shapeAdd) o = false ∧
      s.actions.any (mentions · o) = false ∧ s.referenced o = false) :
    Inv σ [] (deleteObstacleOp s o j) := by
  cases hadd : s.hasAction (if j then .junctionAdd else .shapeAdd) o
  · rw [deleteObstacleOp_ok hhas hadd]
    have hD : Inv σ [] (s.dropAction (if j then .junctionMove else .shapeMove) o) :=
      inv_transfer h (core_dropAction h.core _ _) (cpOk_congr h.cp rfl) List.filter_sublist (fun _ x => x)
        (fun _ x => x) rfl
    obtain ⟨k1, k2⟩ := kindAct_ok (tS := .shapeRemove) (tJ := .junctionRemove) hhas (by decide) (by decide)
    have hno := removed_of_pendingRemove hpend
    refine inv_maybeProcess (inv_enqueue hD _ _ k1 k2 (by cases j <;> exact nofun)
      (fun _ _ x => absurd x (by cases j <;> decide))
      (fun hs _ => ⟨⟨removed_sub (fun _ ha => (List.mem_filter.1 ha).1) hno, fun a ha hu => ?_⟩, (hst hs).2.2⟩))
    simp only [St.dropAction, List.mem_filter] at ha
    rcases hu with ⟨hobstT, _, e⟩ | ⟨u, hu, an, han, e⟩
    · -- the only obstacle action that can be queued for `o` is its move, which has just been dropped
      have := only_move_queued h.core h.nd ha.1 e hobstT j hhas hpend hadd
      rw [this, e] at ha
      simp at ha
    · have hment := (hst hs).2.1
      simp only [List.any_eq_false, mentions, List.any_eq_true, not_exists, not_and] at hment
      exact hment a ha.1 u hu (by rw [han]; simpa using e)
  · rw [deleteObstacleOp_pending hhas hadd]
    have hσ : ¬ σ := fun hs => by rw [(hst hs).1] at hadd; cases hadd
    exact ⟨core_addFault h.core _, nd_transfer h.nd (fun _ x => x) (fun _ x => x) (fun _ x => x), cpOk_congr h.cp rfl,
      fun hs => (hσ hs).elim, fun hs => (hσ hs).elim, fun hs => (hσ hs).elim, fun hs => (hσ hs).elim⟩

theorem inv_moveObstacleOp {σ : Prop} {s : St} (h : Inv σ [] s) (o : Id) (j : Bool)
    (hhas : (if j then s.hasJunction o else s.hasShape o) = true) (hpend : s.pendingRemove o = false) :
    Inv σ [] (moveObstacleOp s o j) := by
  rw [moveObstacleOp_ok hhas]
  by_cases hadd : s.hasAction (if j then .junctionAdd else .shapeAdd) o = true
  · rw [if_pos hadd]; exact h
  · rw [if_neg hadd]
    obtain ⟨k1, k2⟩ := kindAct_ok (tS := .shapeMove) (tJ := .junctionMove) hhas (by decide) (by decide)
    have hno := removed_of_pendingRemove hpend
    exact inv_maybeProcess (inv_enqueue h _ _ k1 k2 (by cases j <;> exact nofun)
      (fun _ _ _ => hno) (fun _ x => absurd x (by cases j <;> decide)))

theorem inv_deleteRouter {σ : Prop} {s : St} (h : Inv σ [] s) : Inv σ [] (destroy s) := by
  refine ⟨core_closeRouter (core_freeClusters (core_freeObsts (core_freeConns h.core _ List.filter_sublist) _
      List.filter_sublist) _ List.filter_sublist), nd_of_nil rfl,
    cpOk_congr (cpOk_freeClusters (cpOk_freeObsts (cpOk_freeConns h.cp _) _) _) (cpv_closeRouter _),
    fun _ => qw_nil, fun _ k hk => ?_, fun hs => ?_, fun hs => ?_⟩
  · rw [clusters_deleteRouter h.core] at hk; cases hk
  · show (List.foldl (fun (s : St) (k : Cluster) => s.freeCluster k.id) _ _).faults = []
    rw [Util.foldl_view St.faults (fun (s : St) (k : Cluster) => s.freeCluster k.id) (fun _ _ => rfl),
      Util.foldl_view St.faults (fun (s : St) (o : Obst) => s.freeObstacle o.id) (fun _ _ => rfl),
      Util.foldl_view St.faults (fun (s : St) (c : Conn) => s.freeConn c.id) (fun _ _ => rfl)]
    exact h.nofault hs
  · show (List.foldl (fun (s : St) (k : Cluster) => s.freeCluster k.id) _ _).refFaults = []
    rw [Util.foldl_view St.refFaults (fun (s : St) (k : Cluster) => s.freeCluster k.id) (fun _ _ => rfl),
      Util.foldl_view St.refFaults (fun (s : St) (o : Obst) => s.freeObstacle o.id) (fun _ _ => rfl),
      Util.foldl_view St.refFaults (fun (s : St) (c : Conn) => s.freeConn c.id) (fun _ _ => rfl)]
    exact h.noref hs

theorem inv_step {σ : Prop} {s : St} (h : Inv σ [] s) {op : Op} (hl : LegalDoc s op = true)
    (hs : σ → Legal s op = true) : Inv σ [] (step s op) := by
  have hal := alive_of_legalDoc hl
  have sameQueue : ∀ {g' : List Id} {t : St}, Core g' t → CpOk t → t.actions = s.actions →
      (∀ k ∈ okeys s, k ∈ okeys t) → (∀ c ∈ cids s, c ∈ cids t) →
      (t.clusters, t.faults, t.refFaults) = (s.clusters, s.faults, s.refFaults) → Inv σ g' t :=
    fun hc hcp ha => inv_transfer h hc hcp (ha ▸ List.Sublist.refl _)
  unfold LegalDoc at hl
  rw [hal, Bool.true_and] at hl
  unfold step
  rw [if_neg (by simp [hal])]
  -- a documented-legal call passes the `notAllocated` guard of its clause: the `if_neg` of the cases below
  cases op with
  | newShape id =>
    have hx := fresh_of_contains hl
    have hA : Inv σ [] (s.addObst id false false) :=
      sameQueue (core_addObst h.core _ _ hx) (cpOk_congr h.cp rfl) rfl
        (fun k hk => okeys_addObst s id false false ▸ List.mem_append_left _ hk) (fun _ x => x) rfl
    exact inv_maybeProcess (inv_enqueue hA _ _ (fun _ => hasShape_addObst_self s id false)
      (fun x => absurd x (by decide)) nofun (fun _ _ _ => removed_fresh h.core h.nd hx)
      (fun _ x => absurd x (by decide)))
  | newJunction id pin =>
    simp only [Bool.and_eq_true] at hl
    exact inv_newJunction h (fresh_of_contains hl.1.1) (fresh_of_contains hl.1.2) (by simpa using hl.2)
  | newConn id src dst ctor3 =>
    simp only [Bool.and_eq_true] at hl
    exact inv_newConn h (fresh_of_contains hl.1.1) hl.1.2 hl.2
  | newPin pin shape cls =>
    simp only [Bool.and_eq_true] at hl
    dsimp only; rw [if_neg (by simp [hl.1.2])]
    exact inv_maybeProcess (inv_enqueue_other (sameQueue (core_addPin h.core _ (fresh_of_contains hl.1.1)
      (hasShape_obst hl.1.2)) (cpOk_congr h.cp rfl) rfl (fun _ x => x) (fun _ x => x) rfl) .pinChange pin
      rfl nofun)
  | deleteShape id =>
    simp only [Bool.and_eq_true, Bool.not_eq_true'] at hl
    refine inv_deleteObstacleOp h id false hl.1 hl.2 (fun x => ?_)
    have := hs x
    simp only [Legal, Bool.and_eq_true, Bool.not_eq_true'] at this
    exact ⟨this.2.1.1, this.2.1.2, this.2.2⟩
  | deleteJunction id =>
    simp only [Bool.and_eq_true, Bool.not_eq_true'] at hl
    refine inv_deleteObstacleOp h id true hl.1 hl.2 (fun x => ?_)
    have := hs x
    simp only [Legal, Bool.and_eq_true, Bool.not_eq_true'] at this
    exact ⟨this.2.1.1, this.2.1.2, this.2.2⟩
  | deleteConn id =>
    dsimp only; rw [if_neg (by simp [hl])]
    exact inv_freeConn h (hasConn_iff.1 hl)
  | deletePin pin =>
    dsimp only; rw [if_neg (by simp [hasPin_of_legal hl])]
    -- the pin is a ghost from `removeConnectionPin` until its memory goes
    have hU : Inv σ [pin] (s.unlinkPin pin) :=
      sameQueue (core_unlinkPin h.core (hasPin_iff.1 (hasPin_of_legal hl))) (cpOk_congr h.cp rfl) rfl (fun _ x => x)
        (fun _ x => x) rfl
    have h2 := inv_maybeProcess (inv_enqueue_other hU .pinChange pin rfl nofun)
    exact inv_transfer h2 (core_releasePin h2.core) (cpOk_congr h2.cp (cpv_releasePin _ pin)) (List.Sublist.refl _)
      (fun _ x => x) (fun _ hc => (cids_releasePin _ pin).symm ▸ hc) rfl
  | moveShape id =>
    simp only [Bool.and_eq_true, Bool.not_eq_true'] at hl
    exact inv_moveObstacleOp h id false hl.1 hl.2
  | moveJunction id =>
    simp only [Bool.and_eq_true, Bool.not_eq_true'] at hl
    exact inv_moveObstacleOp h id true hl.1 hl.2
  | setEndpoint c isDst e =>
    simp only [Bool.and_eq_true] at hl
    dsimp only; rw [if_neg (by simp [hl.1])]
    exact inv_maybeProcess (inv_modify h isDst hl.1 hl.2)
  | setRoutingCheckpoints c vs =>
    simp only [Bool.and_eq_true, List.all_eq_true, decide_eq_true_eq] at hl
    dsimp only; rw [if_neg (by simp [hl.1.1])]
    exact sameQueue (core_setCheckpoints h.core c vs)
      (cpOk_setCheckpoints h.core h.cp hl.1.1 (fun v hv => by simpa using hl.1.2 v hv) hl.2) rfl (fun _ x => x)
      (fun _ hc => (cids_setCheckpoints s c vs).symm ▸ hc) rfl
  | processTransaction => exact inv_processTransaction h
  | setTransactionUse b =>
    -- switching transactions off with work queued is fine: the next mutator processes the whole queue
    exact sameQueue (core_congr h.core rfl rfl rfl rfl rfl) (cpOk_congr h.cp rfl) rfl (fun _ x => x) (fun _ x => x) rfl
  | deleteRouter => exact inv_deleteRouter h
  | rDelConn id =>
    simp only [Bool.and_eq_true] at hl
    dsimp only; rw [if_neg (by simp [hl.1])]
    exact inv_freeConn h (hasConn_iff.1 hl.1)
  | rDelJunction id =>
    simp only [Bool.and_eq_true, Bool.not_eq_true', List.isEmpty_iff] at hl
    dsimp only; rw [if_neg (by simp [hl.1.1])]
    have ha : ((s.freeObstacle id).removeFromQueue id).actions = [] := by
      simp [St.removeFromQueue, St.freeObstacle, hl.1.2]
    show Inv σ [] ((s.freeObstacle id).removeFromQueue id)
    refine ⟨core_removeFromQueue (core_freeObstacle h.core (hasJunction_obst hl.1.1)) _, nd_of_nil ha,
      cpOk_congr h.cp (cpv_freeObstacle s id), fun _ => ha ▸ qw_nil, fun x => ?_, h.nofault, h.noref⟩
    exact rc_transfer (rc_freeObstacle (h.rc x) id hl.2) rfl (fun _ x => x)
      (fun _ => removed_sub (fun _ ha => (List.mem_filter.1 ha).1))
  | rNewJunction id pin =>
    simp only [Bool.and_eq_true] at hl
    exact sameQueue (core_addJunction h.core true (fresh_of_contains hl.1.1.1) (fresh_of_contains hl.1.1.2)
      (by simpa using hl.1.2)) (cpOk_congr h.cp rfl) rfl
      (fun k hk => okeys_addObst s id true true ▸ List.mem_append_left _ hk) (fun _ x => x) rfl
  | rNewConn id =>
    simp only [Bool.and_eq_true] at hl
    exact sameQueue (core_addConn h.core true (fresh_of_contains hl.1)) (cpOk_addConn h.cp id true) rfl (fun _ x => x)
      (fun c hc => cids_addConn s id true ▸ List.mem_append_left _ hc) rfl
  | newCluster id refs =>
    simp only [Bool.and_eq_true] at hl
    exact ⟨core_addCluster h.core (fresh_of_contains hl.1) refs, nd_transfer h.nd (fun _ x => x) (fun _ x => x) (fun _ x => x),
      cpOk_congr h.cp rfl, h.qw, fun x => rc_addCluster (h.rc x) id hl.2, h.nofault, h.noref⟩
  | deleteCluster id =>
    dsimp only; rw [if_neg (by simp [hl])]
    exact ⟨core_freeCluster h.core (hasCluster_kids hl), nd_transfer h.nd (fun _ x => x) (fun _ x => x) (fun _ x => x),
      cpOk_congr h.cp rfl, h.qw, fun x => rc_freeCluster (h.rc x) id, h.nofault, h.noref⟩
  | setClusterPoly id refs =>
    simp only [Bool.and_eq_true] at hl
    dsimp only; rw [if_neg (by simp [hl.1])]
    exact ⟨core_setClusterRefs h.core id refs, nd_transfer h.nd (fun _ x => x) (fun _ x => x) (fun _ x => x),
      cpOk_congr h.cp rfl, h.qw, fun x => rc_setClusterRefs (h.rc x) id hl.2, h.nofault, h.noref⟩
  | touchConn c =>
    dsimp only; rw [if_neg (by simp [hl])]
    exact inv_maybeProcess (inv_enqueue_other h .connChange c rfl (fun _ => hl))
  | touchPin pin =>
    dsimp only; rw [if_neg (by simp [hasPin_of_legal hl])]
    exact inv_maybeProcess (inv_enqueue_other h .pinChange pin rfl nofun)
  | apiRouter => exact h
  | apiConn c => dsimp only; rw [if_neg (by simp [hl])]; exact h
  | apiObst o => simp only [Bool.and_eq_true] at hl; dsimp only; rw [if_neg (by simp [hl.1])]; exact h

theorem level_doc (s : St) (op : Op) (h : LegalDoc s op = true) :
    LegalDoc s op = true ∧ (False → Legal s op = true) := ⟨h, nofun⟩

theorem level_strict (s : St) (op : Op) (h : Legal s op = true) :
    LegalDoc s op = true ∧ (True → Legal s op = true) := ⟨legal_legalDoc h, fun _ => h⟩

theorem inv_run {σ : Prop} {L : St → Op → Bool}
    (hL : ∀ s op, L s op = true → LegalDoc s op = true ∧ (σ → Legal s op = true)) (ops : List Op)
    (hl : legalFrom L init ops = true) : Inv σ [] (run ops) :=
  legalFrom_induction (P := Inv σ []) (fun s op hl h => inv_step h (hL s op hl).1 (hL s op hl).2) (inv_init σ) ops hl

theorem doc_run (ops : List Op) (hl : LegalDocHist ops = true) : Inv False [] (run ops) :=
  inv_run level_doc ops hl

theorem strict_run (ops : List Op) (hl : LegalHist ops = true) : Inv True [] (run ops) :=
  inv_run level_strict ops hl

/-- `alive` only falls in `deleteRouter`: what `~Router` establishes holds of every dead router -/
theorem dead_run {σ : Prop} {L : St → Op → Bool}
    (hL : ∀ s op, L s op = true → LegalDoc s op = true ∧ (σ → Legal s op = true)) {Q : St → Prop}
    (hQ : ∀ s, Inv σ [] s → L s .deleteRouter = true → Q (step s .deleteRouter)) (ops : List Op)
    (hl : legalFrom L init ops = true) (hdead : (run ops).alive = false) : Q (run ops) := by
  refine (legalFrom_induction (L := L) (P := fun s => Inv σ [] s ∧ (s.alive = false → Q s))
    (fun s op hl h => ⟨inv_step h.1 (hL s op hl).1 (hL s op hl).2, fun hdead => ?_⟩)
    ⟨inv_init σ, fun hh => by cases hh⟩ ops hl).2 hdead
  by_cases hop : op = .deleteRouter
  · subst hop; exact hQ s h.1 hl
  · rw [alive_step s op hop, alive_of_legalDoc (hL s op hl).1] at hdead; cases hdead

theorem released_run (ops : List Op) (hl : LegalHist ops = true) :
    (run ops).alive = false → (run ops).allocated = [] :=
  dead_run level_strict (Q := fun s => s.allocated = []) (fun _ h hl => (allocated_deleteRouter h.core hl).2) ops hl

theorem clusters_nil_of_dead (ops : List Op) (hl : LegalDocHist ops = true) :
    (run ops).alive = false → (run ops).clusters = [] :=
  dead_run level_doc (Q := fun s => s.clusters = [])
    (fun _ h hl => by rw [step_deleteRouter (alive_of_legalDoc hl)]; exact clusters_deleteRouter h.core) ops hl

end AdaptaVerif.Lemmas.Lifecycle
