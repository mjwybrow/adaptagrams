/-
What the StraightConstraints generated by the `TopologyConstraints` constructor (closed form
`consClosed` of Model/TopoCons) are, which ones are missing (as coded), what their TriConstraints
mean geometrically (`slack_is_gap`), and why positions at which they are feasible keep a node that has
constraints on both of its scan lines off the segment.  Last, the two composed (`straight_complete` with
`node_off_segment_of_feasible` at the positions `Lemmas.Tri.moveStep_feasible` reaches): a node that is visible from a
segment on both of its scan lines is protected by one `solve()` move (`solve_step_visible_pair_safe`).
-/
import AdaptaVerif.Model.TopoCons
import AdaptaVerif.Lemmas.Tri
import AdaptaVerif.Lemmas.TopoConsScan
import Mathlib.Tactic.Ring
import Mathlib.Algebra.Order.Field.Rat
namespace AdaptaVerif.Lemmas.TopoConsGen
open AdaptaVerif.Model.TopoCons

/-- the StraightConstraint `createStraight` builds when none of its four exits is taken -/
def mkSC (d : Nat) (sg : Seg) (n : Node) (pos : Rat) : SC :=
  { node := n
    ri := cornerFor d n pos (decide (n.r.centre d < sg.inter d pos))
    pos := pos
    nodeLeft := decide (n.r.centre d < sg.inter d pos)
    p := sg.param d pos
    g := straightG d sg n (sg.param d pos) (decide (n.r.centre d < sg.inter d pos)) }

theorem createStraight_eq_some_iff {d : Nat} {sg : Seg} {n : Node} {pos : Rat} {c : SC} :
    createStraight d sg n pos = some c ↔
      sg.connected n = false ∧ sg.parallel d = false ∧
      ¬ (n.id = sg.s.node.id ∧
          cornerFor d n pos (decide (n.r.centre d < sg.inter d pos)) = sg.s.ri) ∧
      ¬ (n.id = sg.e.node.id ∧
          cornerFor d n pos (decide (n.r.centre d < sg.inter d pos)) = sg.e.ri) ∧
      c = mkSC d sg n pos := by
  unfold createStraight mkSC
  constructor
  · intro h
    split at h
    · cases h
    · split at h
      · cases h
      · simp only [] at h
        split at h
        · cases h
        · split at h
          · cases h
          · rename_i h1 h2 h3 h4
            refine ⟨by simpa using h1, by simpa using h2, h3, h4, ?_⟩
            exact (Option.some.inj h).symm
  · rintro ⟨h1, h2, h3, h4, rfl⟩
    rw [if_neg (by simp [h1]), if_neg (by simp [h2])]
    simp only []
    rw [if_neg h3, if_neg h4]

theorem mkSC_nodeLeft {d : Nat} {sg : Seg} {n : Node} {pos : Rat} :
    (mkSC d sg n pos).nodeLeft = true ↔ n.r.centre d < sg.inter d pos :=
  decide_eq_true_iff

theorem createStraight_some {d : Nat} {sg : Seg} {n : Node} {pos : Rat} {c : SC}
    (h : createStraight d sg n pos = some c) :
    sg.connected n = false ∧ sg.parallel d = false ∧
      c.node = n ∧ c.pos = pos ∧ c.nodeLeft = decide (n.r.centre d < sg.inter d pos) ∧
      c.ri = cornerFor d n pos c.nodeLeft ∧ c.p = sg.param d pos ∧
      c.g = straightG d sg n (sg.param d pos) c.nodeLeft ∧
      ¬ (n.id = sg.s.node.id ∧ c.ri = sg.s.ri) ∧ ¬ (n.id = sg.e.node.id ∧ c.ri = sg.e.ri) := by
  obtain ⟨h1, h2, h3, h4, rfl⟩ := createStraight_eq_some_iff.mp h
  exact ⟨h1, h2, rfl, rfl, rfl, rfl, rfl, rfl, h3, h4⟩

theorem cornerFor_lt_four (d : Nat) (n : Node) (pos : Rat) (b : Bool) : cornerFor d n pos b < 4 := by
  unfold cornerFor
  split <;> split <;> split <;> decide

theorem mem_nodeEventCons {d : Nat} {n : Node} {pos : Rat} {L R : Option Node} {os : List Seg}
    {x : Seg × SC} :
    x ∈ nodeEventCons d n pos L R os ↔
      x.1 ∈ os ∧ x.1.connected n = false ∧
      (blocks d pos (x.1.inter d pos) true L || blocks d pos (x.1.inter d pos) false R) = false ∧
      createStraight d x.1 n pos = some x.2 := by
  unfold nodeEventCons
  rw [List.mem_filterMap]
  constructor
  · rintro ⟨sg, hsg, h⟩
    split at h
    · cases h
    · split at h
      · cases h
      · rename_i h1 h2
        rw [Option.map_eq_some_iff] at h
        obtain ⟨c, hc, rfl⟩ := h
        exact ⟨hsg, by simpa using h1, by simpa using h2, hc⟩
  · rintro ⟨h1, h2, h3, h4⟩
    refine ⟨x.1, h1, ?_⟩
    rw [if_neg (by simp [h2]), if_neg (by simp [h3]), h4]
    rfl

theorem mem_consClosed {d : Nat} {bO bC : Node → Node → Bool} {nodes : List Node} {segs : List Seg}
    {x : Seg × SC} :
    x ∈ consClosed d bO bC nodes segs ↔
      ∃ n ∈ nodes, x ∈ consAtOpen d bO nodes segs n ∨ x ∈ consAtClose d bC nodes segs n := by
  unfold consClosed
  simp only [List.mem_flatMap, List.mem_append]

theorem mem_consAtOpen {d : Nat} {bO : Node → Node → Bool} {nodes : List Node} {segs : List Seg}
    {n : Node} {x : Seg × SC} :
    x ∈ consAtOpen d bO nodes segs n ↔
      x.1 ∈ segs ∧ (x.1.lo d ≤ n.r.lo (conj d) ∧ n.r.lo (conj d) < x.1.hi d) ∧
      x.1.connected n = false ∧
      (blocks d (n.r.lo (conj d)) (x.1.inter d (n.r.lo (conj d))) true
          (leftNb d n (openNodesAtOpen d bO n nodes)) ||
        blocks d (n.r.lo (conj d)) (x.1.inter d (n.r.lo (conj d))) false
          (rightNb d n (openNodesAtOpen d bO n nodes))) = false ∧
      createStraight d x.1 n (n.r.lo (conj d)) = some x.2 := by
  unfold consAtOpen
  simp only []
  rw [mem_nodeEventCons]
  unfold openSegsAtOpen
  rw [List.mem_filter]
  simp only [Bool.and_eq_true, decide_eq_true_eq, and_assoc]

theorem mem_consAtClose {d : Nat} {bC : Node → Node → Bool} {nodes : List Node} {segs : List Seg}
    {n : Node} {x : Seg × SC} :
    x ∈ consAtClose d bC nodes segs n ↔
      x.1 ∈ segs ∧ (x.1.lo d < n.r.hi (conj d) ∧ n.r.hi (conj d) ≤ x.1.hi d) ∧
      x.1.connected n = false ∧
      (blocks d (n.r.hi (conj d)) (x.1.inter d (n.r.hi (conj d))) true
          (leftNb d n (openNodesAtClose d bC n nodes)) ||
        blocks d (n.r.hi (conj d)) (x.1.inter d (n.r.hi (conj d))) false
          (rightNb d n (openNodesAtClose d bC n nodes))) = false ∧
      createStraight d x.1 n (n.r.hi (conj d)) = some x.2 := by
  unfold consAtClose
  simp only []
  rw [mem_nodeEventCons]
  unfold openSegsAtClose
  rw [List.mem_filter]
  simp only [Bool.and_eq_true, decide_eq_true_eq, and_assoc]

theorem node_of_mem_consAtOpen {d : Nat} {bO : Node → Node → Bool} {nodes : List Node}
    {segs : List Seg} {n : Node} {x : Seg × SC} (hx : x ∈ consAtOpen d bO nodes segs n) :
    x.2 = mkSC d x.1 n (n.r.lo (conj d)) :=
  (createStraight_eq_some_iff.mp (mem_consAtOpen.mp hx).2.2.2.2).2.2.2.2

theorem node_of_mem_consAtClose {d : Nat} {bC : Node → Node → Bool} {nodes : List Node}
    {segs : List Seg} {n : Node} {x : Seg × SC} (hx : x ∈ consAtClose d bC nodes segs n) :
    x.2 = mkSC d x.1 n (n.r.hi (conj d)) :=
  (createStraight_eq_some_iff.mp (mem_consAtClose.mp hx).2.2.2.2).2.2.2.2

theorem generated_sound (d : Nat) (bO bC : Node → Node → Bool) (nodes : List Node) (segs : List Seg)
    (x : Seg × SC) (hx : x ∈ consClosed d bO bC nodes segs) :
    x.1 ∈ segs ∧ x.2.node ∈ nodes ∧ x.1.parallel d = false ∧ x.1.connected x.2.node = false ∧
    (x.2.pos = x.2.node.r.lo (conj d) ∨ x.2.pos = x.2.node.r.hi (conj d)) ∧
    x.1.lo d ≤ x.2.pos ∧ x.2.pos ≤ x.1.hi d ∧
    (x.2.nodeLeft = true ↔ x.2.node.r.centre d < x.1.inter d x.2.pos) ∧
    x.2.ri = cornerFor d x.2.node x.2.pos x.2.nodeLeft ∧ x.2.ri < 4 ∧
    x.2.p = x.1.param d x.2.pos ∧
    x.2.g = straightG d x.1 x.2.node x.2.p x.2.nodeLeft ∧
    createStraight d x.1 x.2.node x.2.pos = some x.2 := by
  obtain ⟨sg, c⟩ := x
  obtain ⟨n, hn, hx | hx⟩ := mem_consClosed.mp hx
  · obtain ⟨hsg, ⟨hlo, hhi⟩, hnc, _, hc⟩ := mem_consAtOpen.mp hx
    obtain rfl : c = mkSC d sg n (n.r.lo (conj d)) := node_of_mem_consAtOpen hx
    exact ⟨hsg, hn, (createStraight_some hc).2.1, hnc, Or.inl rfl, hlo, le_of_lt hhi, mkSC_nodeLeft,
      rfl, cornerFor_lt_four _ _ _ _, rfl, rfl, hc⟩
  · obtain ⟨hsg, ⟨hlo, hhi⟩, hnc, _, hc⟩ := mem_consAtClose.mp hx
    obtain rfl : c = mkSC d sg n (n.r.hi (conj d)) := node_of_mem_consAtClose hx
    exact ⟨hsg, hn, (createStraight_some hc).2.1, hnc, Or.inr rfl, le_of_lt hlo, hhi, mkSC_nodeLeft,
      rfl, cornerFor_lt_four _ _ _ _, rfl, rfl, hc⟩

theorem blocks_eq_true_iff {d : Nat} {pos x : Rat} {left : Bool} {nb : Option Node} :
    blocks d pos x left nb = true ↔
      ∃ m, nb = some m ∧ (if left then x < m.r.centre d else m.r.centre d < x) ∧
        m.r.lo (conj d) < pos ∧ pos < m.r.hi (conj d) := by
  unfold blocks
  cases nb with
  | none => simp
  | some m =>
    cases left <;>
      simp only [Bool.and_eq_true, decide_eq_true_eq, Option.some.injEq, exists_eq_left',
        if_true, if_false, Bool.false_eq_true, gt_iff_lt, and_assoc]

/-- "visible": no node whose extent strictly contains the scan line has its centre strictly between
    the segment's point `x` on the scan line and the centre of `n`.  (`straight_complete` and
    `TopoConsStep.solve_step_visible_pair_safe` carry it and `NotOwnBend` unfolded: their hypotheses are those of
    the theorems of the same names in Props/C13Cons.lean.) -/
def Visible (d : Nat) (nodes : List Node) (n : Node) (pos x : Rat) : Prop :=
  ∀ m ∈ nodes, m.id ≠ n.id → m.r.lo (conj d) < pos → pos < m.r.hi (conj d) →
    ¬ ((x < m.r.centre d ∧ m.r.centre d < n.r.centre d) ∨
       (n.r.centre d < m.r.centre d ∧ m.r.centre d < x))

theorem not_blocked {d : Nat} {n : Node} {pos x : Rat} {nodes others : List Node}
    (hsub : ∀ m ∈ others, m ∈ nodes ∧ m.id ≠ n.id) (hvis : Visible d nodes n pos x) :
    (blocks d pos x true (leftNb d n others) || blocks d pos x false (rightNb d n others)) = false := by
  rw [Bool.or_eq_false_iff]
  constructor
  · rw [Bool.eq_false_iff]
    intro hb
    obtain ⟨m, hm, hx, hlo, hhi⟩ := blocks_eq_true_iff.mp hb
    obtain ⟨hmem, hc⟩ := TopoConsScan.leftNb_some hm
    simp only [if_true] at hx
    exact hvis m (hsub m hmem).1 (hsub m hmem).2 hlo hhi (Or.inl ⟨hx, hc⟩)
  · rw [Bool.eq_false_iff]
    intro hb
    obtain ⟨m, hm, hx, hlo, hhi⟩ := blocks_eq_true_iff.mp hb
    obtain ⟨hmem, hc⟩ := TopoConsScan.rightNb_some hm
    simp only [Bool.false_eq_true, if_false] at hx
    exact hvis m (hsub m hmem).1 (hsub m hmem).2 hlo hhi (Or.inr ⟨hc, hx⟩)

/-- the segment's corner exits of `createStraight` are not taken: the corner of `n` facing the
    segment on the scan line `pos` is not already the segment's start or end bend -/
def NotOwnBend (d : Nat) (sg : Seg) (n : Node) (pos : Rat) : Prop :=
  ¬ (n.id = sg.s.node.id ∧
      cornerFor d n pos (decide (n.r.centre d < sg.inter d pos)) = sg.s.ri) ∧
  ¬ (n.id = sg.e.node.id ∧
      cornerFor d n pos (decide (n.r.centre d < sg.inter d pos)) = sg.e.ri)

theorem mkSC_mem_consAtOpen {d : Nat} {bO : Node → Node → Bool} {nodes : List Node} {segs : List Seg}
    {n : Node} {sg : Seg} (hsg : sg ∈ segs)
    (hspan : sg.lo d ≤ n.r.lo (conj d) ∧ n.r.lo (conj d) < sg.hi d) (hnc : sg.connected n = false)
    (hvis : Visible d nodes n (n.r.lo (conj d)) (sg.inter d (n.r.lo (conj d))))
    (hcorner : NotOwnBend d sg n (n.r.lo (conj d))) :
    (sg, mkSC d sg n (n.r.lo (conj d))) ∈ consAtOpen d bO nodes segs n := by
  rw [mem_consAtOpen]
  refine ⟨hsg, hspan, hnc, ?_, ?_⟩
  · exact not_blocked (nodes := nodes)
      (fun m hm => ⟨(TopoConsScan.mem_openNodesAtOpen.mp hm).1, (TopoConsScan.mem_openNodesAtOpen.mp hm).2.1⟩) hvis
  · rw [createStraight_eq_some_iff]
    exact ⟨hnc, TopoConsScan.parallel_false_of_lo_lt_hi (lt_of_le_of_lt hspan.1 hspan.2), hcorner.1, hcorner.2, rfl⟩

theorem mkSC_mem_consAtClose {d : Nat} {bC : Node → Node → Bool} {nodes : List Node} {segs : List Seg}
    {n : Node} {sg : Seg} (hsg : sg ∈ segs)
    (hspan : sg.lo d < n.r.hi (conj d) ∧ n.r.hi (conj d) ≤ sg.hi d) (hnc : sg.connected n = false)
    (hvis : Visible d nodes n (n.r.hi (conj d)) (sg.inter d (n.r.hi (conj d))))
    (hcorner : NotOwnBend d sg n (n.r.hi (conj d))) :
    (sg, mkSC d sg n (n.r.hi (conj d))) ∈ consAtClose d bC nodes segs n := by
  rw [mem_consAtClose]
  refine ⟨hsg, hspan, hnc, ?_, ?_⟩
  · exact not_blocked (nodes := nodes)
      (fun m hm => ⟨(TopoConsScan.mem_openNodesAtClose.mp hm).1, (TopoConsScan.mem_openNodesAtClose.mp hm).2.1⟩) hvis
  · rw [createStraight_eq_some_iff]
    exact ⟨hnc, TopoConsScan.parallel_false_of_lo_lt_hi (lt_of_lt_of_le hspan.1 hspan.2), hcorner.1, hcorner.2, rfl⟩

theorem straight_complete (d : Nat) (bO bC : Node → Node → Bool) (nodes : List Node)
    (segs : List Seg) (n : Node) (sg : Seg) (hn : n ∈ nodes) (hsg : sg ∈ segs)
    (hnc : sg.connected n = false) (pos : Rat)
    (hpos : (pos = n.r.lo (conj d) ∧ sg.lo d ≤ pos ∧ pos < sg.hi d) ∨
            (pos = n.r.hi (conj d) ∧ sg.lo d < pos ∧ pos ≤ sg.hi d))
    (hvis : ∀ m ∈ nodes, m.id ≠ n.id → m.r.lo (conj d) < pos → pos < m.r.hi (conj d) →
      ¬ ((sg.inter d pos < m.r.centre d ∧ m.r.centre d < n.r.centre d) ∨
         (n.r.centre d < m.r.centre d ∧ m.r.centre d < sg.inter d pos)))
    (hcorner :
      ¬ (n.id = sg.s.node.id ∧
          cornerFor d n pos (decide (n.r.centre d < sg.inter d pos)) = sg.s.ri) ∧
      ¬ (n.id = sg.e.node.id ∧
          cornerFor d n pos (decide (n.r.centre d < sg.inter d pos)) = sg.e.ri)) :
    ∃ c, (sg, c) ∈ consClosed d bO bC nodes segs ∧ c.node = n ∧ c.pos = pos ∧
      (c.nodeLeft = true ↔ n.r.centre d < sg.inter d pos) := by
  rcases hpos with ⟨rfl, hspan⟩ | ⟨rfl, hspan⟩
  · exact ⟨_, mem_consClosed.mpr ⟨n, hn, Or.inl (mkSC_mem_consAtOpen hsg hspan hnc hvis hcorner)⟩,
      rfl, rfl, mkSC_nodeLeft⟩
  · exact ⟨_, mem_consClosed.mpr ⟨n, hn, Or.inr (mkSC_mem_consAtClose hsg hspan hnc hvis hcorner)⟩,
      rfl, rfl, mkSC_nodeLeft⟩

theorem not_mem_nodeEventCons_of_blocks {d : Nat} {n : Node} {pos : Rat} {L R : Option Node}
    {os : List Seg} {sg : Seg}
    (hb : blocks d pos (sg.inter d pos) true L = true ∨ blocks d pos (sg.inter d pos) false R = true) :
    ∀ c, (sg, c) ∉ nodeEventCons d n pos L R os := by
  intro c hc
  have h := (mem_nodeEventCons.mp hc).2.2.1
  rw [Bool.or_eq_false_iff] at h
  rcases hb with hb | hb
  · rw [hb] at h; exact absurd h.1 (by decide)
  · rw [hb] at h; exact absurd h.2 (by decide)

theorem endnode_blind_spot (d : Nat) (bO : Node → Node → Bool) (nodes : List Node) (segs : List Seg)
    (n m : Node) (sg : Seg)
    (hL : leftNb d n (openNodesAtOpen d bO n nodes) = some m)
    (hx : sg.inter d (n.r.lo (conj d)) < m.r.centre d)
    (hm : m.r.lo (conj d) < n.r.lo (conj d) ∧ n.r.lo (conj d) < m.r.hi (conj d)) :
    ∀ c, (sg, c) ∉ consAtOpen d bO nodes segs n :=
  not_mem_nodeEventCons_of_blocks
    (Or.inl (blocks_eq_true_iff.mpr ⟨m, hL, by simpa using hx, hm.1, hm.2⟩))

theorem consClosed_nil_of_all_parallel (d : Nat) (bO bC : Node → Node → Bool) (nodes : List Node)
    (segs : List Seg) (hp : ∀ sg ∈ segs, sg.parallel d = true) :
    consClosed d bO bC nodes segs = [] := by
  rw [List.eq_nil_iff_forall_not_mem]
  intro x hx
  have h := generated_sound d bO bC nodes segs x hx
  have := hp x.1 h.1
  rw [h.2.2.1] at this
  cases this

theorem pos_eq_centre_add_offset (a : EPt) (d : Nat) : a.pos d = a.node.r.centre d + a.offset d := by
  obtain ⟨nd, ri⟩ := a
  unfold EPt.pos EPt.offset Rect.centre Rect.len Rect.hi Rect.lo
  by_cases hd : d = 0
  · subst hd
    rcases ri with _ | _ | _ | _ | k <;> simp <;> ring
  · rcases ri with _ | _ | _ | _ | k <;> simp [hd] <;> ring

theorem len_moveCentre (r : Rect) (d : Nat) (x : Rat) : (r.moveCentre d x).len d = r.len d := by
  unfold Rect.moveCentre Rect.len Rect.hi Rect.lo
  by_cases hd : d = 0
  · subst hd; simp
  · simp [hd]

theorem lo_moveCentre (r : Rect) (d : Nat) (x : Rat) : (r.moveCentre d x).lo d = x - r.len d / 2 := by
  unfold Rect.moveCentre Rect.len Rect.hi Rect.lo
  by_cases hd : d = 0
  · subst hd; simp
  · simp [hd]

theorem hi_moveCentre (r : Rect) (d : Nat) (x : Rat) : (r.moveCentre d x).hi d = x + r.len d / 2 := by
  unfold Rect.moveCentre Rect.len Rect.hi Rect.lo
  by_cases hd : d = 0
  · subst hd; simp; ring
  · simp [hd]; ring

theorem centre_moveCentre (r : Rect) (d : Nat) (x : Rat) : (r.moveCentre d x).centre d = x := by
  unfold Rect.centre
  rw [lo_moveCentre, len_moveCentre]; ring

theorem pos_conj_movedTo (a : EPt) (d : Nat) (x : Pos) : (a.movedTo d x).pos (conj d) = a.pos (conj d) := by
  obtain ⟨nd, ri⟩ := a
  unfold EPt.movedTo Node.movedTo Rect.moveCentre EPt.pos Rect.centre Rect.len Rect.hi Rect.lo conj
  by_cases hd : d = 0
  · subst hd; simp
  · simp [hd]

theorem offset_movedTo (a : EPt) (d : Nat) (x : Pos) : (a.movedTo d x).offset d = a.offset d := by
  unfold EPt.offset
  simp only [EPt.movedTo, Node.movedTo, len_moveCentre]

theorem pos_movedTo (a : EPt) (d : Nat) (x : Pos) :
    (a.movedTo d x).pos d = x a.node.id + a.offset d := by
  rw [pos_eq_centre_add_offset, offset_movedTo]
  simp only [EPt.movedTo, Node.movedTo, centre_moveCentre]

theorem param_movedTo (sg : Seg) (d : Nat) (x : Pos) (pos : Rat) :
    (sg.movedTo d x).param d pos = sg.param d pos := by
  unfold Seg.param
  simp only [Seg.movedTo, pos_conj_movedTo]

theorem inter_movedTo (sg : Seg) (d : Nat) (x : Pos) (pos : Rat) :
    (sg.movedTo d x).inter d pos =
      (x sg.s.node.id + sg.s.offset d) +
        sg.param d pos * ((x sg.e.node.id + sg.e.offset d) - (x sg.s.node.id + sg.s.offset d)) := by
  unfold Seg.inter
  rw [param_movedTo]
  simp only [Seg.movedTo, pos_movedTo]

def triOf (sg : Seg) (c : SC) : AdaptaVerif.Model.Tri.TriConstraint :=
  { u := sg.s.node.id, v := sg.e.node.id, w := c.node.id, p := c.p, g := c.g, leftOf := c.nodeLeft }

theorem slack_is_gap (d : Nat) (sg : Seg) (n : Node) (pos : Rat) (c : SC)
    (h : createStraight d sg n pos = some c) (x : Pos) :
    (triOf sg c).slackAt x = gap d (sg.movedTo d x) (n.movedTo d x) pos c.nodeLeft := by
  have hc : c = mkSC d sg n pos := (createStraight_eq_some_iff.mp h).2.2.2.2
  subst hc
  unfold AdaptaVerif.Model.Tri.TriConstraint.slackAt triOf gap
  rw [AdaptaVerif.Lemmas.Tri.slack_eq, inter_movedTo]
  simp only [mkSC, Node.movedTo, hi_moveCentre, lo_moveCentre, straightG, AdaptaVerif.Lemmas.Tri.sgn]
  by_cases hb : n.r.centre d < sg.inter d pos
  · simp only [hb, decide_true, if_true]; ring
  · simp only [hb, decide_false, Bool.false_eq_true, if_false]; ring

/-- no two nodes open at the same position, nor close at the same position: `CompareEvents` orders
    all node events, `std::sort` has no choice -/
def NoTies (d : Nat) (nodes : List Node) : Prop :=
  ∀ m ∈ nodes, ∀ n ∈ nodes, m.id ≠ n.id →
    m.r.lo (conj d) ≠ n.r.lo (conj d) ∧ m.r.hi (conj d) ≠ n.r.hi (conj d)

theorem consClosed_congr {d : Nat} {nodes : List Node} (h : NoTies d nodes)
    (bO bC bO' bC' : Node → Node → Bool) (segs : List Seg) :
    consClosed d bO bC nodes segs = consClosed d bO' bC' nodes segs := by
  unfold consClosed
  refine List.flatMap_congr fun n hn => ?_
  have hO : openNodesAtOpen d bO n nodes = openNodesAtOpen d bO' n nodes :=
    List.filter_congr fun m hm => by
      by_cases hid : m.id = n.id
      · simp [hid]
      · simp [(h m hm n hn hid).1]
  have hC : openNodesAtClose d bC n nodes = openNodesAtClose d bC' n nodes :=
    List.filter_congr fun m hm => by
      by_cases hid : m.id = n.id
      · simp [hid]
      · simp [(h m hm n hn hid).2]
  simp only [consAtOpen, consAtClose, hO, hC]

theorem triOf_mem_system (d : Nat) (bO bC : Node → Node → Bool) (nodes : List Node) (segs : List Seg)
    (extra : List AdaptaVerif.Model.Tri.TriConstraint) :
    ∀ x ∈ consClosed d bO bC nodes segs,
      triOf x.1 x.2 ∈ (consClosed d bO bC nodes segs).map (fun x => triOf x.1 x.2) ++ extra :=
  fun x hx => List.mem_append_left _ (List.mem_map.mpr ⟨x, hx, rfl⟩)

theorem gap_nonneg_of_feasible {d : Nat} {bO bC : Node → Node → Bool} {nodes : List Node}
    {segs : List Seg} {cs : List AdaptaVerif.Model.Tri.TriConstraint}
    (hsub : ∀ x ∈ consClosed d bO bC nodes segs, triOf x.1 x.2 ∈ cs) {p : Pos}
    (hp : AdaptaVerif.Spec.Tri.Feasible cs p) {x : Seg × SC}
    (hx : x ∈ consClosed d bO bC nodes segs) :
    0 ≤ gap d (x.1.movedTo d p) (x.2.node.movedTo d p) x.2.pos x.2.nodeLeft := by
  obtain ⟨_, _, _, _, _, _, _, _, _, _, _, _, hcr⟩ := generated_sound d bO bC nodes segs x hx
  rw [← slack_is_gap d x.1 x.2.node x.2.pos x.2 hcr]
  exact hp _ (hsub x hx)

theorem gap_affine (d : Nat) (sg : Seg) (n : Node) (b : Bool) (lo hi q : Rat) :
    (hi - lo) * gap d sg n q b = (hi - q) * gap d sg n lo b + (q - lo) * gap d sg n hi b := by
  unfold gap Seg.inter Seg.param
  cases b
  · simp only [Bool.false_eq_true, if_false]; ring
  · simp only [if_true]; ring

theorem gap_nonneg_between (d : Nat) (sg : Seg) (n : Node) (b : Bool) (lo hi q : Rat)
    (h1 : 0 ≤ gap d sg n lo b) (h2 : 0 ≤ gap d sg n hi b) (hlo : lo ≤ q) (hhi : q ≤ hi) :
    0 ≤ gap d sg n q b := by
  rcases eq_or_lt_of_le (le_trans hlo hhi) with heq | hlt
  · obtain rfl : q = lo := le_antisymm (heq ▸ hhi) hlo
    exact h1
  · have hr : 0 ≤ (hi - lo) * gap d sg n q b := by
      rw [gap_affine d sg n b lo hi q]
      exact add_nonneg (mul_nonneg (sub_nonneg.mpr hhi) h1) (mul_nonneg (sub_nonneg.mpr hlo) h2)
    exact (mul_nonneg_iff_of_pos_left (sub_pos.mpr hlt)).mp hr

theorem lo_conj_movedTo (n : Node) (d : Nat) (x : Pos) :
    (n.movedTo d x).r.lo (conj d) = n.r.lo (conj d) := by
  unfold Node.movedTo Rect.moveCentre Rect.lo conj
  by_cases hd : d = 0
  · subst hd; simp
  · simp [hd]

theorem hi_conj_movedTo (n : Node) (d : Nat) (x : Pos) :
    (n.movedTo d x).r.hi (conj d) = n.r.hi (conj d) := by
  unfold Node.movedTo Rect.moveCentre Rect.hi conj
  by_cases hd : d = 0
  · subst hd; simp
  · simp [hd]

theorem node_stays_off_segment (d : Nat) (sg : Seg) (n : Node) (b : Bool) (x : Pos)
    (hlo : 0 ≤ gap d (sg.movedTo d x) (n.movedTo d x) (n.r.lo (conj d)) b)
    (hhi : 0 ≤ gap d (sg.movedTo d x) (n.movedTo d x) (n.r.hi (conj d)) b) :
    ∀ q, (n.movedTo d x).r.lo (conj d) ≤ q → q ≤ (n.movedTo d x).r.hi (conj d) →
      0 ≤ gap d (sg.movedTo d x) (n.movedTo d x) q b := by
  intro q h1 h2
  rw [lo_conj_movedTo] at h1
  rw [hi_conj_movedTo] at h2
  exact gap_nonneg_between d _ _ b _ _ q hlo hhi h1 h2

theorem node_off_segment_of_feasible {d : Nat} {bO bC : Node → Node → Bool} {nodes : List Node}
    {segs : List Seg} {cs : List AdaptaVerif.Model.Tri.TriConstraint}
    (hsub : ∀ x ∈ consClosed d bO bC nodes segs, triOf x.1 x.2 ∈ cs) {p : Pos}
    (hp : AdaptaVerif.Spec.Tri.Feasible cs p) {n : Node} {sg : Seg} {c1 c2 : SC} {b : Bool}
    (h1 : (sg, c1) ∈ consClosed d bO bC nodes segs) (h2 : (sg, c2) ∈ consClosed d bO bC nodes segs)
    (hn1 : c1.node = n) (hn2 : c2.node = n)
    (hp1 : c1.pos = n.r.lo (conj d)) (hp2 : c2.pos = n.r.hi (conj d))
    (hb1 : c1.nodeLeft = b) (hb2 : c2.nodeLeft = b) :
    ∀ q, (n.movedTo d p).r.lo (conj d) ≤ q → q ≤ (n.movedTo d p).r.hi (conj d) →
      0 ≤ gap d (sg.movedTo d p) (n.movedTo d p) q b := by
  have g1 := gap_nonneg_of_feasible hsub hp h1
  have g2 := gap_nonneg_of_feasible hsub hp h2
  simp only [hn1, hp1, hb1] at g1
  simp only [hn2, hp2, hb2] at g2
  exact node_stays_off_segment d sg n b p g1 g2

/-! ### closed witness: a segment parallel to the scan line, a node 2 above it -/

def pA : Node := ⟨0, ⟨0, 10, 0, 10⟩⟩
def pB : Node := ⟨1, ⟨40, 50, 0, 10⟩⟩
def pC : Node := ⟨2, ⟨20, 30, 12, 22⟩⟩
def pSg : Seg := ⟨0, 0, ⟨pA, 0⟩, ⟨pB, 3⟩⟩

theorem pSg_parallel : pSg.parallel 0 = true := by decide +kernel

/-! ### closed witness of the blind spot (harness scene witness-endnode-visibility) and its control -/

def w0 : Node := ⟨0, ⟨0, 20, 0, 20⟩⟩
def w1 : Node := ⟨1, ⟨22, 35, 5, 18⟩⟩
def w2 : Node := ⟨2, ⟨-40, -20, 40, 60⟩⟩
def w1' : Node := ⟨1, ⟨22, 40, 21, 34⟩⟩
def wSg : Seg := ⟨0, 0, ⟨w0, 4⟩, ⟨w2, 4⟩⟩
def idLt : Node → Node → Bool := fun a b => decide (a.id < b.id)

/-- no constraint at all in the witness scene, evaluated for the stable tie order: node 1's close event is
    hidden by node 0 (the segment's own start node), at its open event the segment is not yet open, and the
    segment is attached to the centres of nodes 0 and 2 -/
theorem endnode_blind_spot_witness_eval : consClosed 0 idLt idLt [w0, w1, w2] [wSg] = [] := by
  decide +kernel

theorem w_consClosed (bO bC : Node → Node → Bool) : consClosed 0 bO bC [w0, w1, w2] [wSg] = [] :=
  (consClosed_congr (by unfold NoTies; decide +kernel) bO bC idLt idLt _).trans
    endnode_blind_spot_witness_eval

theorem wctl_mem (bO bC : Node → Node → Bool) :
    (wSg, mkSC 0 wSg w1' (w1'.r.lo (conj 0))) ∈ consClosed 0 bO bC [w0, w1', w2] [wSg] ∧
    (wSg, mkSC 0 wSg w1' (w1'.r.hi (conj 0))) ∈ consClosed 0 bO bC [w0, w1', w2] [wSg] := by
  rw [consClosed_congr (by unfold NoTies; decide +kernel) bO bC idLt idLt]
  decide +kernel

example : (consClosed 0 idLt idLt [w0, w1', w2] [wSg]).map (fun x => (x.2.node.id, x.2.pos, x.2.ri)) =
    [(1, 21, 2), (1, 34, 3)] := by decide +kernel

/-! ### non-vacuity: the control scene, node 2 dragged to x = 100 -/

def ctlIni : AdaptaVerif.Model.Tri.Pos := fun i => if i = 0 then 10 else if i = 1 then 31 else -30
def ctlFin : AdaptaVerif.Model.Tri.Pos := fun i => if i = 0 then 10 else if i = 1 then 31 else 100

-- the hypotheses of Props/C13Cons.solve_step_node_stays_off_segment (`node_off_segment_of_feasible` at the
-- positions `moveStep` reaches) hold in the control scene (feasible at the
-- initial centres, constraints at both scan lines of node 1, both with nodeLeft = false), and the
-- move is really cut short by them (minTAlpha = 6/13 < 1)
example :
    AdaptaVerif.Spec.Tri.Feasible
      ((consClosed 0 idLt idLt [w0, w1', w2] [wSg]).map (fun x => triOf x.1 x.2) ++ []) ctlIni ∧
    (∃ c1 c2, (wSg, c1) ∈ consClosed 0 idLt idLt [w0, w1', w2] [wSg] ∧
      (wSg, c2) ∈ consClosed 0 idLt idLt [w0, w1', w2] [wSg] ∧ c1.node = w1' ∧ c2.node = w1' ∧
      c1.pos = w1'.r.lo (conj 0) ∧ c2.pos = w1'.r.hi (conj 0) ∧
      c1.nodeLeft = false ∧ c2.nodeLeft = false) ∧
    AdaptaVerif.Model.Tri.minAlpha
      ((consClosed 0 idLt idLt [w0, w1', w2] [wSg]).map (fun x => triOf x.1 x.2) ++ [])
      ctlIni ctlFin = 6 / 13 := by
  refine ⟨?_, ?_, by decide +kernel⟩
  · unfold AdaptaVerif.Spec.Tri.Feasible
    decide +kernel
  · exact ⟨mkSC 0 wSg w1' 21, mkSC 0 wSg w1' 34, by decide +kernel, by decide +kernel, rfl, rfl,
      by decide +kernel, by decide +kernel, by decide +kernel, by decide +kernel⟩

-- non-vacuity of `endnode_blind_spot` (NodeOpen / left neighbour): the witness scene mirrored in y
example :
    let m0 : Node := ⟨0, ⟨0, 20, 0, 20⟩⟩
    let m1 : Node := ⟨1, ⟨22, 35, 2, 15⟩⟩
    let m2 : Node := ⟨2, ⟨-40, -20, -60, -40⟩⟩
    let sg : Seg := ⟨0, 0, ⟨m0, 4⟩, ⟨m2, 4⟩⟩
    leftNb 0 m1 (openNodesAtOpen 0 idLt m1 [m0, m1, m2]) = some m0 ∧
    sg.inter 0 (m1.r.lo (conj 0)) < m0.r.centre 0 ∧
    (m0.r.lo (conj 0) < m1.r.lo (conj 0) ∧ m1.r.lo (conj 0) < m0.r.hi (conj 0)) ∧
    (sg.lo 0 ≤ m1.r.lo (conj 0) ∧ m1.r.lo (conj 0) < sg.hi 0) ∧ sg.connected m1 = false ∧
    consClosed 0 idLt idLt [m0, m1, m2] [sg] = [] := by
  decide +kernel

end AdaptaVerif.Lemmas.TopoConsGen

namespace AdaptaVerif.Lemmas.TopoConsStep
open AdaptaVerif.Model.TopoCons AdaptaVerif.Lemmas.TopoConsGen

theorem bool_eq_of_iff {c b : Bool} {P : Prop} [Decidable P] (h : c = true ↔ P) (hb : b = decide P) : c = b := by
  rw [hb, Bool.eq_iff_iff, decide_eq_true_iff]
  exact h

theorem solve_step_visible_pair_safe (d : Nat) (bO bC : Node → Node → Bool)
    (nodes : List Node) (segs : List Seg) (extra : List AdaptaVerif.Model.Tri.TriConstraint)
    (ini fin : AdaptaVerif.Model.Tri.Pos)
    (hini : AdaptaVerif.Spec.Tri.Feasible
      ((consClosed d bO bC nodes segs).map (fun x => triOf x.1 x.2) ++ extra) ini)
    (n : Node) (sg : Seg) (hn : n ∈ nodes) (hsg : sg ∈ segs) (hnc : sg.connected n = false)
    (hspanLo : sg.lo d ≤ n.r.lo (conj d) ∧ n.r.lo (conj d) < sg.hi d)
    (hspanHi : sg.lo d < n.r.hi (conj d) ∧ n.r.hi (conj d) ≤ sg.hi d)
    (hvisLo : ∀ m ∈ nodes, m.id ≠ n.id → m.r.lo (conj d) < n.r.lo (conj d) → n.r.lo (conj d) < m.r.hi (conj d) →
      ¬ ((sg.inter d (n.r.lo (conj d)) < m.r.centre d ∧ m.r.centre d < n.r.centre d) ∨
         (n.r.centre d < m.r.centre d ∧ m.r.centre d < sg.inter d (n.r.lo (conj d)))))
    (hvisHi : ∀ m ∈ nodes, m.id ≠ n.id → m.r.lo (conj d) < n.r.hi (conj d) → n.r.hi (conj d) < m.r.hi (conj d) →
      ¬ ((sg.inter d (n.r.hi (conj d)) < m.r.centre d ∧ m.r.centre d < n.r.centre d) ∨
         (n.r.centre d < m.r.centre d ∧ m.r.centre d < sg.inter d (n.r.hi (conj d)))))
    (hcornerLo :
      ¬ (n.id = sg.s.node.id ∧
          cornerFor d n (n.r.lo (conj d)) (decide (n.r.centre d < sg.inter d (n.r.lo (conj d)))) = sg.s.ri) ∧
      ¬ (n.id = sg.e.node.id ∧
          cornerFor d n (n.r.lo (conj d)) (decide (n.r.centre d < sg.inter d (n.r.lo (conj d)))) = sg.e.ri))
    (hcornerHi :
      ¬ (n.id = sg.s.node.id ∧
          cornerFor d n (n.r.hi (conj d)) (decide (n.r.centre d < sg.inter d (n.r.hi (conj d)))) = sg.s.ri) ∧
      ¬ (n.id = sg.e.node.id ∧
          cornerFor d n (n.r.hi (conj d)) (decide (n.r.centre d < sg.inter d (n.r.hi (conj d)))) = sg.e.ri))
    (b : Bool) (hbLo : b = decide (n.r.centre d < sg.inter d (n.r.lo (conj d))))
    (hbHi : b = decide (n.r.centre d < sg.inter d (n.r.hi (conj d)))) :
    let x' := AdaptaVerif.Model.Tri.moveStep
      ((consClosed d bO bC nodes segs).map (fun x => triOf x.1 x.2) ++ extra) ini fin
    ∀ q, (n.movedTo d x').r.lo (conj d) ≤ q → q ≤ (n.movedTo d x').r.hi (conj d) →
      0 ≤ gap d (sg.movedTo d x') (n.movedTo d x') q b := by
  obtain ⟨c1, h1, hn1, hp1, hl1⟩ := straight_complete d bO bC nodes segs n sg hn hsg hnc (n.r.lo (conj d))
    (Or.inl ⟨rfl, hspanLo⟩) hvisLo hcornerLo
  obtain ⟨c2, h2, hn2, hp2, hl2⟩ := straight_complete d bO bC nodes segs n sg hn hsg hnc (n.r.hi (conj d))
    (Or.inr ⟨rfl, hspanHi⟩) hvisHi hcornerHi
  exact node_off_segment_of_feasible (triOf_mem_system d bO bC nodes segs extra)
    (AdaptaVerif.Lemmas.Tri.moveStep_feasible _ ini fin hini) h1 h2 hn1 hn2 hp1 hp2
    (bool_eq_of_iff hl1 hbLo) (bool_eq_of_iff hl2 hbHi)

-- non-vacuity: every hypothesis of `solve_step_visible_pair_safe` holds in the control scene of the harness
-- (nodes [0,20]², [22,40]x[21,34], [-40,-20]x[40,60], edge centre(0) → centre(2), XDIM, node 1 on the right: b = false)
example :
    AdaptaVerif.Spec.Tri.Feasible
      ((consClosed 0 idLt idLt [w0, w1', w2] [wSg]).map (fun x => triOf x.1 x.2) ++ []) ctlIni ∧
    w1' ∈ [w0, w1', w2] ∧ wSg ∈ [wSg] ∧ wSg.connected w1' = false ∧
    (wSg.lo 0 ≤ w1'.r.lo (conj 0) ∧ w1'.r.lo (conj 0) < wSg.hi 0) ∧
    (wSg.lo 0 < w1'.r.hi (conj 0) ∧ w1'.r.hi (conj 0) ≤ wSg.hi 0) ∧
    (∀ m ∈ [w0, w1', w2], m.id ≠ w1'.id → m.r.lo (conj 0) < w1'.r.lo (conj 0) → w1'.r.lo (conj 0) < m.r.hi (conj 0) →
      ¬ ((wSg.inter 0 (w1'.r.lo (conj 0)) < m.r.centre 0 ∧ m.r.centre 0 < w1'.r.centre 0) ∨
         (w1'.r.centre 0 < m.r.centre 0 ∧ m.r.centre 0 < wSg.inter 0 (w1'.r.lo (conj 0))))) ∧
    (∀ m ∈ [w0, w1', w2], m.id ≠ w1'.id → m.r.lo (conj 0) < w1'.r.hi (conj 0) → w1'.r.hi (conj 0) < m.r.hi (conj 0) →
      ¬ ((wSg.inter 0 (w1'.r.hi (conj 0)) < m.r.centre 0 ∧ m.r.centre 0 < w1'.r.centre 0) ∨
         (w1'.r.centre 0 < m.r.centre 0 ∧ m.r.centre 0 < wSg.inter 0 (w1'.r.hi (conj 0))))) ∧
    false = decide (w1'.r.centre 0 < wSg.inter 0 (w1'.r.lo (conj 0))) ∧
    false = decide (w1'.r.centre 0 < wSg.inter 0 (w1'.r.hi (conj 0))) := by
  refine ⟨?_, by simp, by simp, by decide +kernel, by decide +kernel, by decide +kernel, ?_, ?_,
    by decide +kernel, by decide +kernel⟩
  · unfold AdaptaVerif.Spec.Tri.Feasible
    decide +kernel
  · intro m hm
    simp only [List.mem_cons, List.not_mem_nil, or_false] at hm
    rcases hm with rfl | rfl | rfl <;> decide +kernel
  · intro m hm
    simp only [List.mem_cons, List.not_mem_nil, or_false] at hm
    rcases hm with rfl | rfl | rfl <;> decide +kernel

end AdaptaVerif.Lemmas.TopoConsStep
