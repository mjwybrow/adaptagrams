/-
The characterisation of `Model/NudgeSegs.segAt` (the body of the loop of `buildOrthogonalNudgingSegments`) that the
property theorems (Props/C10Segs.lean) and the symmetry lemmas (Lemmas/NudgeSegsRev.lean) work with.

`segAt` is cut in two.  `winAt c i` does all the reading: the window `Win` holds what the loop body reads of the connector at
index `i` (two points, the checkpoints on the segment, for a middle segment also the two neighbouring points and the checkpoints
on the two adjoining segments).  `segOf` does the geometry on the window and knows no index arithmetic: three kinds of segment
(`fixedW`, `endW`, `midW`) over the geometry of a candidate (`gLo`, `gHi`, `gPos`, `gIl`, `gIh`).  `segAt_eq`:
`segAt … c i = (winAt c i).bind (segOf …)`.
(`mid_between`, about `mergeSeg`, stands here because it needs the ordered-field lemmas of Mathlib, which Lemmas/NudgeSegs.lean
does not import.)
-/
import AdaptaVerif.Lemmas.NudgeSegs
import AdaptaVerif.Lemmas.FinalSegLimits
namespace AdaptaVerif.Lemmas.NudgeSegsSpec
open AdaptaVerif.Model AdaptaVerif.Model.NudgeSegs AdaptaVerif.Model.NudgeRegion AdaptaVerif.Model.FinalSegLimits AdaptaVerif.Lemmas.NudgeSegs

/-- what a middle segment reads beyond its own two points: `ps[i-2]`, `ps[i+1]`, the checkpoints on the preceding and on
    the following segment (the corners at this segment excluded) -/
structure Adj where
  pv : Pt
  nx : Pt
  prev : List Pt
  next : List Pt

/-- what the loop body reads of the connector at index `i`: `a = ps[i-1]`, `b = ps[i]`, `on` = the checkpoints on the segment
    (ends included); `adj = none` for a first / last segment -/
structure Win where
  id : Nat
  fixedRoute : Bool
  n : Nat
  i : Nat
  a : Pt
  b : Pt
  on : List Pt
  adj : Option Adj

def winOf (c : Conn) (i : Nat) (a b : Pt) (adj : Option Adj) : Win :=
  ⟨c.id, c.fixedRoute, c.ps.length, i, a, b, cpsOnSegment c.cache (i - 1) 0, adj⟩

def adjAt (c : Conn) (i : Nat) (pv nx : Pt) : Adj := ⟨pv, nx, cpsOnSegment c.cache (i - 2) 2, cpsOnSegment c.cache i 1⟩

def winAt (c : Conn) (i : Nat) : Option Win :=
  if i = 0 then none else
  match c.ps[i - 1]?, c.ps[i]? with
  | some a, some b =>
    if i = 1 ∨ i + 1 = c.ps.length then some (winOf c i a b none)
    else
      match c.ps[i - 2]?, c.ps[i + 1]? with
      | some pv, some nx => some (winOf c i a b (some (adjAt c i pv nx)))
      | _, _ => none
  | _, _ => none

/-- the window of the connector travelled the other way round (Lemmas/NudgeSegsRev.lean) -/
def Adj.rev (j : Adj) : Adj := ⟨j.nx, j.pv, j.next.reverse, j.prev.reverse⟩

def Win.rev (w : Win) : Win :=
  { w with i := w.n - w.i, a := w.b, b := w.a, on := w.on.reverse, adj := w.adj.map Adj.rev }

/-- `ps[i-1][altDim] > ps[i][altDim]`: the segment is stored with its indexes swapped -/
def swapF (dim : Nat) (a b : Pt) : Bool := decide (a.c (alt dim) > b.c (alt dim))
def gIl (dim i : Nat) (a b : Pt) : Nat := if swapF dim a b then i else i - 1
def gIh (dim i : Nat) (a b : Pt) : Nat := if swapF dim a b then i - 1 else i
def gLo (dim : Nat) (a b : Pt) : Rat := if swapF dim a b then b.c (alt dim) else a.c (alt dim)
def gHi (dim : Nat) (a b : Pt) : Rat := if swapF dim a b then a.c (alt dim) else b.c (alt dim)
def gPos (dim : Nat) (a b : Pt) : Rat := if swapF dim a b then b.c dim else a.c dim

def fixedW (dim : Nat) (w : Win) : MSeg :=
  fixedSeg w.id (gIl dim w.i w.a w.b) (gIh dim w.i w.a w.b) (gLo dim w.a w.b) (gHi dim w.a w.b) (gPos dim w.a w.b)

/-- a shiftable segment with (minLim, maxLim, sBend, zBend) = `q` -/
def freeW (dim : Nat) (w : Win) (q : Rat × Rat × Bool × Bool) : MSeg :=
  freeSeg w.id (gIl dim w.i w.a w.b) (gIh dim w.i w.a w.b) (gLo dim w.a w.b) (gHi dim w.a w.b) (gPos dim w.a w.b)
    q.2.2.1 q.2.2.2 q.1 q.2.1

/-- first / last segment, option on, with room -/
def endFreeW (lims : List Rect) (dim : Nat) (w : Win) : MSeg :=
  let l := finalLimits (decide (dim = 0)) w.a w.b lims
  let s := freeW dim w (l.lo, l.hi, false, false)
  { s with seg := { s.seg with finalSeg := true, endsInShape := l.first || l.last,
                                single := decide (w.n = 2) && l.first && l.last } }

/-- first / last segment, option on -/
def endW (lims : List Rect) (dim : Nat) (w : Win) : MSeg :=
  if (finalLimits (decide (dim = 0)) w.a w.b lims).isFixed || w.fixedRoute then fixedW dim w else endFreeW lims dim w

/-- limits from the checkpoints on the two adjoining segments -/
def adjLim (dim : Nat) (p : Rat) (j : Adj) : Rat × Rat :=
  cpLimits dim p j.prev (cpLimits dim p j.next (-NudgeRegion.channelMax, NudgeRegion.channelMax))

/-- (minLim, maxLim, sBend, zBend) of a middle segment at `p` whose neighbours lie at `x` (before) and `y` (after), given the
    limits `lim` from the adjoining checkpoints; `e`: no checkpoint on the segment itself -/
def bendLims (e : Bool) (lim : Rat × Rat) (x p y : Rat) : Rat × Rat × Bool × Bool :=
  if e then
    if x < p ∧ y > p then (max lim.1 x, min lim.2 y, false, true)
    else if x > p ∧ y < p then (max lim.1 y, min lim.2 x, true, false)
    else (lim.1, lim.2, false, false)
  else (lim.1, lim.2, false, false)

def midW (dim : Nat) (w : Win) (j : Adj) : MSeg :=
  let s := freeW dim w (bendLims w.on.isEmpty (adjLim dim (w.b.c dim) j) (j.pv.c dim) (w.b.c dim) (j.nx.c dim))
  { s with seg := { s.seg with cps := w.on.map (fun p => (p.c dim, p.c (alt dim))) } }

def segOf (nf : Bool) (lims : List Rect) (dim : Nat) (w : Win) : Option MSeg :=
  if w.a.c dim ≠ w.b.c dim then none
  else if w.a.c (alt dim) = w.b.c (alt dim) then none
  else if !w.on.isEmpty && !nf then some (fixedW dim w)
  else
    match w.adj with
    | none => some (if nf then endW lims dim w else fixedW dim w)
    | some j => some (midW dim w j)

/-- `segAt` for a segment between two existing points, in the order of its tests, with the pieces folded -/
def body (nf : Bool) (lims : List Rect) (dim : Nat) (c : Conn) (i : Nat) (a b : Pt) : Option MSeg :=
  if a.c dim ≠ b.c dim then none
  else if a.c (alt dim) = b.c (alt dim) then none
  else if !(cpsOnSegment c.cache (i - 1) 0).isEmpty && !nf then some (fixedW dim (winOf c i a b none))
  else if i = 1 ∨ i + 1 = c.ps.length then
    if nf then
      if (finalLimits (decide (dim = 0)) a b lims).isFixed || c.fixedRoute then some (fixedW dim (winOf c i a b none))
      else some (endFreeW lims dim (winOf c i a b none))
    else some (fixedW dim (winOf c i a b none))
  else
    match c.ps[i - 2]?, c.ps[i + 1]? with
    | some pv, some nx => some (midW dim (winOf c i a b none) (adjAt c i pv nx))
    | _, _ => none

theorem segAt_eq0 (nf : Bool) (lims : List Rect) (dim : Nat) (c : Conn) (i : Nat) :
    segAt nf lims dim c i =
      if i = 0 then none else
      match c.ps[i - 1]?, c.ps[i]? with
      | some a, some b => body nf lims dim c i a b
      | _, _ => none := rfl

theorem segAt_eq (nf : Bool) (lims : List Rect) (dim : Nat) (c : Conn) (i : Nat) :
    segAt nf lims dim c i = (winAt c i).bind (segOf nf lims dim) := by
  rw [segAt_eq0]
  unfold winAt
  by_cases hi : i = 0
  · rw [if_pos hi, if_pos hi]; rfl
  rw [if_neg hi, if_neg hi]
  cases ha : c.ps[i - 1]? with
  | none => rfl
  | some a =>
    cases hb : c.ps[i]? with
    | none => rfl
    | some b =>
      dsimp only
      unfold body
      by_cases hE : i = 1 ∨ i + 1 = c.ps.length
      · rw [if_pos hE, if_pos hE]
        show _ = segOf nf lims dim (winOf c i a b none)
        unfold segOf endW
        by_cases h1 : a.c dim ≠ b.c dim
        · rw [if_pos h1]; exact (if_pos h1).symm
        rw [if_neg h1]; refine Eq.trans ?_ (if_neg h1).symm
        by_cases h2 : a.c (alt dim) = b.c (alt dim)
        · rw [if_pos h2]; exact (if_pos h2).symm
        rw [if_neg h2]; refine Eq.trans ?_ (if_neg h2).symm
        by_cases h3 : (!(cpsOnSegment c.cache (i - 1) 0).isEmpty && !nf) = true
        · rw [if_pos h3]; exact (if_pos h3).symm
        rw [if_neg h3]; refine Eq.trans ?_ (if_neg h3).symm
        cases nf
        · rfl
        · exact (apply_ite some ..).symm
      · rw [if_neg hE, if_neg hE]
        -- a middle segment has a point before and a point after its two
        have hlt := (List.getElem?_eq_some_iff.1 hb).1
        have hpv : c.ps[i - 2]? = some (c.ps[i - 2]'(by omega)) := List.getElem?_eq_getElem _
        have hnx : c.ps[i + 1]? = some (c.ps[i + 1]'(by omega)) := List.getElem?_eq_getElem _
        rw [hpv, hnx]
        rfl

theorem winAt_idx {c : Conn} {i : Nat} {w : Win} (h : winAt c i = some w) : w.i = i ∧ w.n = c.ps.length := by
  unfold winAt at h
  (repeat' split at h) <;> cases h <;> exact ⟨rfl, rfl⟩

-- `Model/FinalSegLimits.lean` has its own coordinate read and its own `channelMax`
theorem co_eq (p : Pt) (dim : Nat) : P.co p (decide (dim = 0)) = p.c dim := by
  unfold P.co Pt.c; by_cases h : dim = 0 <;> simp [h]

theorem channelMax_eq : NudgeRegion.channelMax = FinalSegLimits.channelMax := rfl

theorem g_extent (dim : Nat) (a b : Pt) (hne : a.c (alt dim) ≠ b.c (alt dim)) :
    gLo dim a b = min (a.c (alt dim)) (b.c (alt dim)) ∧ gHi dim a b = max (a.c (alt dim)) (b.c (alt dim)) ∧
      gLo dim a b < gHi dim a b := by
  unfold gLo gHi swapF
  by_cases h : a.c (alt dim) > b.c (alt dim)
  · simp only [h, decide_true, if_true]; grind
  · simp only [h, decide_false, Bool.false_eq_true, if_false]; grind

theorem g_pos (dim : Nat) (a b : Pt) (heq : a.c dim = b.c dim) : gPos dim a b = a.c dim := by
  unfold gPos; split <;> simp [heq]

theorem g_idx (dim i : Nat) (a b : Pt) :
    (gIl dim i a b = i - 1 ∧ gIh dim i a b = i) ∨ (gIl dim i a b = i ∧ gIh dim i a b = i - 1) := by
  unfold gIl gIh; cases swapF dim a b <;> simp

theorem adjLim_eq (dim : Nat) (p : Rat) (j : Adj) :
    adjLim dim p j = cpLimits dim p (j.next ++ j.prev) (-NudgeRegion.channelMax, NudgeRegion.channelMax) := cpLimits_append ..

/-- a z-bend has its neighbours before and after it, an s-bend the other way round -/
theorem bendLims_flags (e : Bool) (lim : Rat × Rat) (x p y : Rat) :
    ((bendLims e lim x p y).2.2.2 = true ↔ e = true ∧ x < p ∧ p < y) ∧
    ((bendLims e lim x p y).2.2.1 = true ↔ e = true ∧ y < p ∧ p < x) := by
  unfold bendLims
  split_ifs <;> simp_all <;> grind

theorem bendLims_lo_le_iff (e : Bool) (lim : Rat × Rat) (x p y B : Rat) :
    (bendLims e lim x p y).1 ≤ B ↔ lim.1 ≤ B ∧ ((bendLims e lim x p y).2.2.2 = true → x ≤ B) ∧
      ((bendLims e lim x p y).2.2.1 = true → y ≤ B) := by
  unfold bendLims
  split
  · split
    · simp
    · split <;> simp
  · simp

theorem bendLims_le_hi_iff (e : Bool) (lim : Rat × Rat) (x p y B : Rat) :
    B ≤ (bendLims e lim x p y).2.1 ↔ B ≤ lim.2 ∧ ((bendLims e lim x p y).2.2.2 = true → B ≤ y) ∧
      ((bendLims e lim x p y).2.2.1 = true → B ≤ x) := by
  unfold bendLims
  split
  · split
    · simp
    · split <;> simp
  · simp

theorem midW_minLim_le_iff (dim : Nat) (w : Win) (j : Adj) (B : Rat) :
    (midW dim w j).seg.minLim ≤ B ↔
      (-NudgeRegion.channelMax ≤ B ∧ ∀ cp ∈ j.next ++ j.prev, cp.c dim < w.b.c dim → cp.c dim ≤ B) ∧
      ((midW dim w j).seg.zBend = true → j.pv.c dim ≤ B) ∧ ((midW dim w j).seg.sBend = true → j.nx.c dim ≤ B) :=
  (bendLims_lo_le_iff ..).trans (and_congr_left fun _ => by rw [adjLim_eq]; exact cpLimits_lo_le_iff ..)

theorem midW_le_maxLim_iff (dim : Nat) (w : Win) (j : Adj) (B : Rat) :
    B ≤ (midW dim w j).seg.maxLim ↔
      (B ≤ NudgeRegion.channelMax ∧ ∀ cp ∈ j.next ++ j.prev, w.b.c dim < cp.c dim → B ≤ cp.c dim) ∧
      ((midW dim w j).seg.zBend = true → B ≤ j.nx.c dim) ∧ ((midW dim w j).seg.sBend = true → B ≤ j.pv.c dim) :=
  (bendLims_le_hi_iff ..).trans (and_congr_left fun _ => by rw [adjLim_eq]; exact cpLimits_le_hi_iff ..)

theorem midW_flags (dim : Nat) (w : Win) (j : Adj) :
    ((midW dim w j).seg.zBend = true ↔ w.on.isEmpty = true ∧ j.pv.c dim < w.b.c dim ∧ w.b.c dim < j.nx.c dim) ∧
    ((midW dim w j).seg.sBend = true ↔ w.on.isEmpty = true ∧ j.nx.c dim < w.b.c dim ∧ w.b.c dim < j.pv.c dim) :=
  bendLims_flags ..

/-- what every shift segment takes from its two route points `a = ps[i-1]`, `b = ps[i]` -/
def Geom (dim i id : Nat) (a b : Pt) (s : MSeg) : Prop :=
  s.seg.pos = a.c dim ∧ s.seg.conn = id ∧
    s.seg.lo = min (a.c (alt dim)) (b.c (alt dim)) ∧ s.seg.hi = max (a.c (alt dim)) (b.c (alt dim)) ∧
    s.seg.lo < s.seg.hi ∧ ((s.idxLow = i - 1 ∧ s.idxHigh = i) ∨ (s.idxLow = i ∧ s.idxHigh = i - 1))

theorem segOf_some {nf : Bool} {lims : List Rect} {dim : Nat} {w : Win} {s : MSeg} (h : segOf nf lims dim w = some s) :
    w.a.c dim = w.b.c dim ∧ Geom dim w.i w.id w.a w.b s ∧
      (s = fixedW dim w ∨ (w.adj = none ∧ nf = true ∧ s = endFreeW lims dim w) ∨
        ∃ j, w.adj = some j ∧ (w.on = [] ∨ nf = true) ∧ s = midW dim w j) := by
  unfold segOf at h
  by_cases h1 : w.a.c dim ≠ w.b.c dim
  · rw [if_pos h1] at h; cases h
  rw [if_neg h1] at h
  by_cases h2 : w.a.c (alt dim) = w.b.c (alt dim)
  · rw [if_pos h2] at h; cases h
  rw [if_neg h2] at h
  have heq : w.a.c dim = w.b.c dim := not_not.1 h1
  have he := g_extent dim w.a w.b h2
  -- all three constructors take the geometry from `gPos`, `gLo`, `gHi`, `gIl`, `gIh`
  have geom : ∀ t : MSeg, t.seg.pos = gPos dim w.a w.b → t.seg.conn = w.id → t.seg.lo = gLo dim w.a w.b →
      t.seg.hi = gHi dim w.a w.b → t.idxLow = gIl dim w.i w.a w.b → t.idxHigh = gIh dim w.i w.a w.b →
      Geom dim w.i w.id w.a w.b t := by
    intro t e1 e2 e3 e4 e5 e6
    unfold Geom
    rw [e1, e2, e3, e4, e5, e6]
    exact ⟨g_pos dim w.a w.b heq, rfl, he.1, he.2.1, he.2.2, g_idx dim w.i w.a w.b⟩
  refine ⟨heq, ?_⟩
  by_cases h3 : (!w.on.isEmpty && !nf) = true
  · rw [if_pos h3] at h; cases h
    exact ⟨geom _ rfl rfl rfl rfl rfl rfl, Or.inl rfl⟩
  rw [if_neg h3] at h
  have h3' : w.on = [] ∨ nf = true := by
    cases nf
    · exact Or.inl (by simpa using h3)
    · exact Or.inr rfl
  cases hj : w.adj with
  | none =>
    rw [hj] at h
    cases nf with
    | false => cases h; exact ⟨geom _ rfl rfl rfl rfl rfl rfl, Or.inl rfl⟩
    | true =>
      rw [if_pos rfl] at h
      cases h
      unfold endW
      split
      · exact ⟨geom _ rfl rfl rfl rfl rfl rfl, Or.inl rfl⟩
      · exact ⟨geom _ rfl rfl rfl rfl rfl rfl, Or.inr (Or.inl ⟨rfl, rfl, rfl⟩)⟩
  | some j =>
    rw [hj] at h
    cases h
    exact ⟨geom _ rfl rfl rfl rfl rfl rfl, Or.inr (Or.inr ⟨j, rfl, h3', rfl⟩)⟩

/-- `midW` is given the neighbours as an argument of their own and does not read `w.adj`: hence `none` there. -/
theorem segAt_inv (nf : Bool) (lims : List Rect) (dim : Nat) (c : Conn) (i : Nat) (s : MSeg)
    (h : segAt nf lims dim c i = some s) :
    ∃ a b, 1 ≤ i ∧ c.ps[i - 1]? = some a ∧ c.ps[i]? = some b ∧ a.c dim = b.c dim ∧ Geom dim i c.id a b s ∧
      (s = fixedW dim (winOf c i a b none) ∨
       ((i = 1 ∨ i + 1 = c.ps.length) ∧ nf = true ∧ s = endFreeW lims dim (winOf c i a b none)) ∨
       (¬ (i = 1 ∨ i + 1 = c.ps.length) ∧ ∃ pv nx, c.ps[i - 2]? = some pv ∧ c.ps[i + 1]? = some nx ∧
          (cpsOnSegment c.cache (i - 1) 0 = [] ∨ nf = true) ∧ s = midW dim (winOf c i a b none) (adjAt c i pv nx))) := by
  rw [segAt_eq] at h
  obtain ⟨w, hw, h⟩ := Option.bind_eq_some_iff.1 h
  obtain ⟨heq, hg, hk⟩ := segOf_some h
  unfold winAt at hw
  split at hw
  · cases hw
  split at hw
  swap
  · cases hw
  rename_i hi a b ha hb
  refine ⟨a, b, by omega, ha, hb, ?_⟩
  split at hw
  · rename_i hE
    cases hw
    refine ⟨heq, hg, hk.imp_right (Or.imp (fun h => ⟨hE, h.2⟩) ?_)⟩
    rintro ⟨j, hj, _⟩
    cases hj
  · rename_i hE
    split at hw
    swap
    · cases hw
    rename_i pv nx hpv hnx
    cases hw
    refine ⟨heq, hg, hk.imp_right (Or.imp ?_ ?_)⟩
    · rintro ⟨hj, _⟩
      cases hj
    · rintro ⟨j, hj, h0, rfl⟩
      cases hj
      exact ⟨hE, pv, nx, hpv, hnx, h0, rfl⟩

/-- the mid point that `mergeSeg` computes from two positions lies between them -/
theorem mid_between (x y : Rat) :
    min x y ≤ (if y < x then x - (x - y) / 2 else if y > x then x + (y - x) / 2 else x) ∧
    (if y < x then x - (x - y) / 2 else if y > x then x + (y - x) / 2 else x) ≤ max x y := by
  split_ifs with h1 h2
  · exact ⟨min_le_of_right_le (by linarith), le_max_of_le_left (by linarith)⟩
  · exact ⟨min_le_of_left_le (by linarith), le_max_of_le_right (by linarith)⟩
  · exact ⟨min_le_left _ _, le_max_left _ _⟩

end AdaptaVerif.Lemmas.NudgeSegsSpec
