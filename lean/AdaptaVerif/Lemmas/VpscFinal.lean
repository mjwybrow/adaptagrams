/-
satisfy / solve of the IncSolver model: the invariant is preserved, and on a normal return the
state is "final": invariant + no equality left on the inactive list.
Histories of the IncSolver model (`Hist`): the block invariant holds along every history, and in a
state in which a solver call has returned normally every unflagged equality holds exactly.  These are
the lemmas behind `block_inv`, `eq_post` and `flag_sound` of Props/C01.lean.
-/
import AdaptaVerif.Lemmas.VpscLoop
import AdaptaVerif.Lemmas.Util.Array
namespace AdaptaVerif.Lemmas.VpscSolve
open AdaptaVerif.Model.Vpsc
open AdaptaVerif.Lemmas.VpscModel AdaptaVerif.Lemmas.VpscInv AdaptaVerif.Lemmas.VpscLoop
open AdaptaVerif.Lemmas.VpscChain

/-- no equality is waiting on the inactive list -/
def E (st : St) : Prop := ∀ j ∈ st.inactive, (st.cons[j]!).eq = false

theorem zub_neg : ZERO_UPPERBOUND < 0 := by unfold ZERO_UPPERBOUND; norm_num

theorem hole_of_inv {st : St} {r : St × Option Nat} (spec : MVSpec st r) (h : Inv st) (v : Nat)
    (hv : r.2 = some v) :
    InvC r.1.vars r.1.cons r.1.blocks.size (r.1.inactive.push v) := by
  obtain ⟨hvin, hkeep, _⟩ := spec.some_case v hv
  rw [spec.vars, spec.cons, spec.blocks]
  refine h.change_inactive (fun j hj => ?_) (fun j hj => ?_)
  · by_cases hjv : j = v
    · exact Or.inl (Array.mem_push.2 (Or.inr hjv))
    · exact Or.inl (Array.mem_push.2 (Or.inl (hkeep j hj hjv)))
  · rcases Array.mem_push.1 hj with c | rfl
    · exact h.inact_lt j (spec.sub j c)
    · exact h.inact_lt j hvin

theorem exit_spec {st : St} {r : St × Option Nat} (spec : MVSpec st r) (hJ : J st)
    (h : r.1.inactive = st.inactive ∧ ∀ j ∈ st.inactive, (st.cons[j]!).eq = false) :
    J r.1 ∧ (r.1.fuelOut = false → E r.1) := by
  obtain ⟨hi, hall⟩ := h
  refine ⟨J.of_core spec.vars spec.cons (by rw [spec.blocks]) hi
    (fun hh => by rw [← spec.fuel]; exact hh) hJ, fun _ j hj => ?_⟩
  rw [spec.cons]
  exact hall j (by rw [← hi]; exact hj)

theorem satisfyLoop_spec : ∀ (fuel : Nat) (st : St), J st →
    J (St.satisfyLoop fuel st) ∧ ((St.satisfyLoop fuel st).fuelOut = false → E (St.satisfyLoop fuel st)) := by
  intro fuel
  induction fuel with
  | zero =>
    intro st _
    unfold St.satisfyLoop
    exact ⟨Or.inl rfl, fun hh => by simp at hh⟩
  | succ fuel ih =>
    intro st hJ
    unfold St.satisfyLoop
    simp only
    have spec := mostViolated_spec st
    generalize st.mostViolated = r at spec ⊢
    obtain ⟨r1, r2⟩ := r
    cases r2 with
    | none =>
      exact exit_spec spec hJ (spec.none_case rfl)
    | some v =>
      simp only
      split
      · rename_i hgo
        apply ih
        by_cases hfo : st.fuelOut = true
        · left
          exact Chain.fuel (chain_process r1 v) (by rw [spec.fuel]; exact hfo)
        · have hInv : Inv st := J.inv hJ (by simpa using hfo)
          have hH := hole_of_inv spec hInv v rfl
          apply process_J r1 v hH
          intro hineq
          have heq := hineq v (InvC.hole_lt hH)
          simp only [St.goCond, heq, Bool.false_or] at hgo
          split at hgo
          · rename_i s hs
            simp only [Bool.and_eq_true, decide_eq_true_eq] at hgo
            exact ⟨s, hs, lt_trans hgo.1 zub_neg⟩
          · simp at hgo
      · rename_i hgo
        exact exit_spec spec hJ ((spec.some_case v rfl).2.2 (by simpa using hgo))

/-- a state in which a solver call has returned normally -/
structure Final (st : St) : Prop where
  fuel : st.fuelOut = false
  inv : Inv st
  noeq : E st

theorem satisfy_fst (st : St) :
    st.satisfy.1 = (St.satisfyLoop st.splitBlocks.loopFuel st.splitBlocks).cleanup := by
  unfold St.satisfy
  simp only
  split
  · rfl
  · split <;> rfl

theorem satisfy_J (st : St) (h : J st) : J st.satisfy.1 := by
  rw [satisfy_fst]
  exact J.cleanup (satisfyLoop_spec _ _ (splitBlocks_J st h)).1

theorem satisfy_final (st st' : St) (pos : Array Rat) (ret : Bool) (h : J st)
    (hs : st.satisfy = (st', .ok pos ret)) : Final st' := by
  have hfo : st'.fuelOut = false := by
    unfold St.satisfy at hs
    simp only at hs
    split at hs
    · simp at hs
    · rename_i hfo
      split at hs
      · simp only [Prod.mk.injEq, Outcome.ok.injEq] at hs
        rw [← hs.1]
        simpa using hfo
      · simp at hs
  have e : st' = st.satisfy.1 := by rw [hs]
  rw [e, satisfy_fst] at hfo ⊢
  obtain ⟨h2, h2e⟩ := satisfyLoop_spec _ _ (splitBlocks_J st h)
  generalize St.satisfyLoop st.splitBlocks.loopFuel st.splitBlocks = L at hfo h2 h2e ⊢
  exact ⟨hfo, J.inv (J.cleanup h2) hfo, h2e hfo⟩

theorem final_note {st : St} (m : Rat) (h : Final st) : Final (st.note m) :=
  ⟨h.fuel, h.inv, h.noeq⟩

theorem solveLoop_J : ∀ (fuel : Nat) (st : St) (lc c : Rat), J st → J (St.solveLoop fuel st lc c).1 := by
  intro fuel
  induction fuel with
  | zero => intro st lc c _; unfold St.solveLoop; exact Or.inl rfl
  | succ fuel ih =>
    intro st lc c h
    unfold St.solveLoop
    simp only
    have hn : J (st.note (rabs (lc - c) - COST_EPS)) := J.note _ h
    split
    · have hs := satisfy_J _ hn
      split
      · rename_i st3 p r hsat
        rw [hsat] at hs
        exact ih _ _ _ hs
      · rename_i st3 o _ hsat
        rw [hsat] at hs
        exact hs
    · exact hn

theorem solveLoop_final (fuel : Nat) (st : St) (lc c : Rat) (st2 : St) (hF : Final st)
    (h : St.solveLoop fuel st lc c = (st2, none)) : Final st2 :=
  solveLoop_none_ind (fun _ m h => final_note m h)
    (fun _ _ _ _ h hs => satisfy_final _ _ _ _ (Or.inr h.inv) hs) fuel st lc c st2 hF h

theorem solve_J (st : St) (h : J st) : J st.solve.1 := by
  unfold St.solve
  have h1 := satisfy_J st h
  split
  · rename_i st1 p1 r1 hs1
    rw [hs1] at h1
    have h2 := satisfy_J st1 h1
    split
    · rename_i st2 p2 r2 hs2
      rw [hs2] at h2
      have h3 := solveLoop_J 200 st2 st1.cost st2.cost h2
      split
      · rename_i st3 hl
        rw [hl] at h3; exact h3
      · rename_i st3 o hl
        rw [hl] at h3; exact h3
    · rename_i st2 o _ hs2
      rw [hs2] at h2; exact h2
  · rename_i st1 o _ hs1
    rw [hs1] at h1; exact h1

theorem solve_final (st st' : St) (pos : Array Rat) (ret : Bool) (h : J st)
    (hs : st.solve = (st', .ok pos ret)) : Final st' := by
  obtain ⟨st1, p1, r1, st2, p2, r2, h1, h2, h3, _⟩ := solve_ok_path hs
  have hF1 := satisfy_final _ _ _ _ h h1
  exact solveLoop_final _ _ _ _ _ (satisfy_final _ _ _ _ (Or.inr hF1.inv) h2) h3

end AdaptaVerif.Lemmas.VpscSolve

namespace AdaptaVerif.Lemmas.VpscFinal
open AdaptaVerif.Model.Vpsc
open AdaptaVerif.Lemmas.VpscModel
open AdaptaVerif.Lemmas.VpscInv AdaptaVerif.Lemmas.VpscLoop AdaptaVerif.Lemmas.VpscSolve

/-- the states reachable through the public API (`IncSolver(vs, cs)`, `addConstraint`, changing a
    desired position, `satisfy()`, `solve()`) from well-formed input: every constraint refers to
    existing variables and is not pre-flagged -/
inductive Hist : St → Prop
  | init (vs : Array (Rat × Rat × Rat)) (cs : Array Con)
      (hv : ∀ c ∈ cs, c.l < vs.size ∧ c.r < vs.size ∧ c.unsat = false) : Hist (St.init vs cs)
  | add (st : St) (c : Con) : Hist st → c.l < st.vars.size → c.r < st.vars.size → c.unsat = false →
      Hist (st.addConstraint c)
  | move (st : St) (i : Nat) (d : Rat) : Hist st → Hist (st.setDesired i d)
  | satisfy (st : St) : Hist st → Hist st.satisfy.1
  | solve (st : St) : Hist st → Hist st.solve.1

theorem hist_J {st : St} (h : Hist st) : J st := by
  induction h with
  | init vs cs hv => exact Or.inr (init_inv vs cs hv)
  | add st c _ hl hr hu ih =>
    rcases ih with ih | ih
    · exact Or.inl ih
    · exact Or.inr (addConstraint_inv st c hl hr hu ih)
  | move st i d _ ih =>
    rcases ih with ih | ih
    · exact Or.inl ih
    · exact Or.inr (setDesired_inv st i d ih)
  | satisfy st _ ih => exact satisfy_J st ih
  | solve st _ ih => exact solve_J st ih

theorem final_on_return {st st' : St} {pos : Array Rat} {ret : Bool} (h : Hist st)
    (hs : st.satisfy = (st', .ok pos ret) ∨ st.solve = (st', .ok pos ret)) :
    Final st' ∧ pos = st'.positions := by
  rcases hs with hs | hs
  · exact ⟨satisfy_final st st' pos ret (hist_J h) hs, (satisfy_ok st st' pos ret hs).1⟩
  · exact ⟨solve_final st st' pos ret (hist_J h) hs, (solve_ok st st' pos ret hs).1⟩

theorem positions_get (st : St) (i : Nat) (hi : i < st.vars.size) : st.positions[i]! = st.pos i := by
  unfold St.positions
  have h1 : i < ((Array.range st.vars.size).map st.pos).size := by simpa using hi
  rw [getElem!_pos _ i h1]
  simp

theorem final_eq {st : St} (hF : Final st) (j : Nat) (hj : j < st.cons.size)
    (heq : (st.cons[j]!).eq = true) (hun : (st.cons[j]!).unsat = false) :
    (st.cons[j]!).active = true ∧
    st.uval (st.cons[j]!).l + (st.cons[j]!).gap = st.uval (st.cons[j]!).r := by
  have hact : (st.cons[j]!).active = true := by
    rcases hF.inv.cover j hj with c | c | c
    · exact c
    · rw [hun] at c; exact absurd c (by simp)
    · have := hF.noeq j c
      rw [heq] at this; exact absurd this (by simp)
  exact ⟨hact, tightActive_of_inv hF.inv _ (Util.getElem!_mem hj) hact⟩

theorem final_eq_positions {st : St} (hF : Final st) (hsc : ∀ i : Nat, i < st.vars.size → (st.vars[i]!).scale ≠ 0)
    (j : Nat) (hj : j < st.cons.size)
    (heq : (st.cons[j]!).eq = true) (hun : (st.cons[j]!).unsat = false) :
    slackAt st.vars st.positions (st.cons[j]!) = 0 := by
  obtain ⟨_, ht⟩ := final_eq hF j hj heq hun
  unfold slackAt
  rw [positions_get st _ (hF.inv.l_lt j hj), positions_get st _ (hF.inv.r_lt j hj),
    scale_mul_pos st _ (hsc _ (hF.inv.l_lt j hj)), scale_mul_pos st _ (hsc _ (hF.inv.r_lt j hj))]
  linarith

end AdaptaVerif.Lemmas.VpscFinal
