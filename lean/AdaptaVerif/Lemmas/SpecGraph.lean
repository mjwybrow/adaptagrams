/-
Every edge of the explicit spec visibility graph built by `Check.Potential.specGraph` joins two of the
given points whose segment is spec-unblocked, and carries a certified enclosure of their distance.
-/
import AdaptaVerif.Lemmas.Route
import AdaptaVerif.Lemmas.Sqrt
import AdaptaVerif.Check.Potential
namespace AdaptaVerif.Lemmas.SpecGraph
open AdaptaVerif.Model.Geometry (Pt)
open AdaptaVerif.Check.Route AdaptaVerif.Check.Potential AdaptaVerif.Spec.Route AdaptaVerif.Num
open AdaptaVerif.Lemmas.Route

/-- what an edge of the spec graph guarantees about the segment p–q it stands for -/
def EdgeOk (shapes : List Poly) (excl : List Nat) (k : Nat) (e : WEdge) (p q : Pt) : Prop :=
  Unblocked shapes excl p q ∧ e.wlo = sqrtLo (sqDist p q) k ∧ e.whi = sqrtHi (sqDist p q) k

theorem sqDist_nonneg (p q : Pt) : 0 ≤ sqDist p q :=
  add_nonneg (mul_self_nonneg _) (mul_self_nonneg _)

theorem edgesFrom_index (shapes : List Poly) (excl : List Nat) (k i : Nat) (p : Pt)
    (qs : List Pt) (j : Nat) (e : WEdge) (h : e ∈ edgesFrom shapes excl k i p qs j) :
    e.u = i ∧ e.u ≠ e.v ∧ ∃ m q, qs[m]? = some q ∧ e.v = j + m ∧ EdgeOk shapes excl k e p q := by
  fun_induction edgesFrom shapes excl k i p qs j with
  | case1 => cases h
  | case2 q qs j rest hc ih =>
    rcases List.mem_cons.mp h with rfl | h'
    · simp only [Bool.and_eq_true, Bool.not_eq_true', bne_iff_ne, ne_eq] at hc
      refine ⟨rfl, hc.1, 0, q, rfl, rfl, ?_, rfl, rfl⟩
      exact (unblockedTol_zero _ _ _ _).mp ((legUnblocked_iff 0 excl shapes (p, q)).mp hc.2)
    · obtain ⟨hu, hne, m, q', hq', hv, hok⟩ := ih h'
      exact ⟨hu, hne, m + 1, q', hq', by rw [hv, Nat.add_assoc, Nat.add_comm 1 m], hok⟩
  | case3 q qs j rest hc ih =>
    obtain ⟨hu, hne, m, q', hq', hv, hok⟩ := ih h
    exact ⟨hu, hne, m + 1, q', hq', by rw [hv, Nat.add_assoc, Nat.add_comm 1 m], hok⟩

theorem specGraphFrom_index (shapes : List Poly) (excl : List Nat) (k : Nat) (all : List Pt) :
    ∀ (ps : List Pt) (i : Nat) (e : WEdge), e ∈ specGraphFrom shapes excl k all ps i →
      e.u ≠ e.v ∧ ∃ m p q, ps[m]? = some p ∧ e.u = i + m ∧ all[e.v]? = some q ∧ EdgeOk shapes excl k e p q := by
  intro ps
  induction ps with
  | nil => intro i e h; simp [specGraphFrom] at h
  | cons p ps ih =>
    intro i e h
    unfold specGraphFrom at h
    rcases List.mem_append.mp h with h | h
    · obtain ⟨hu, hne, m, q, hq, hv, hok⟩ := edgesFrom_index shapes excl k i p all 0 e h
      exact ⟨hne, 0, p, q, rfl, hu, by rw [hv, Nat.zero_add]; exact hq, hok⟩
    · obtain ⟨hne, m, p', q, hp', hu, hq, hok⟩ := ih (i + 1) e h
      exact ⟨hne, m + 1, p', q, hp', by rw [hu, Nat.add_assoc, Nat.add_comm 1 m], hq, hok⟩

theorem specGraphFrom_sound (shapes : List Poly) (excl : List Nat) (k : Nat) (all : List Pt) :
    ∀ (ps : List Pt) (i : Nat) (e : WEdge), e ∈ specGraphFrom shapes excl k all ps i →
      ∃ p ∈ ps, ∃ q ∈ all, EdgeOk shapes excl k e p q := by
  intro ps i e h
  obtain ⟨_, m, p, q, hp, _, hq, hok⟩ := specGraphFrom_index shapes excl k all ps i e h
  exact ⟨p, List.mem_of_getElem? hp, q, List.mem_of_getElem? hq, hok⟩

end AdaptaVerif.Lemmas.SpecGraph
