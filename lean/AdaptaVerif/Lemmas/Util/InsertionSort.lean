/-
The model's insertion sorts (`Model.AStar.insertByKey`, `Model.Scanline.insertEv`, `Model.TreeLayout.insertBy`,
`Model.Planarise.insRev`, …) are different constants of one shape: `ins a l` walks down `l` and puts `a` in front
of the first element `b` at which a test `stop a b` succeeds.  What follows from the shape alone is proved here
once, over the two defining equations; each model function supplies them by `rfl`.
-/
namespace AdaptaVerif.Lemmas.Util

/-- `ins a l` puts `a` in front of the first `b` in `l` with `stop a b`, at the end if there is none.
For a function written the other way round (`if q b a then b :: ins a t else a :: b :: t`) take `stop a b := ¬ q b a`. -/
structure IsInsert {α : Type} (stop : α → α → Prop) [DecidableRel stop] (ins : α → List α → List α) : Prop where
  nil : ∀ a, ins a [] = [a]
  cons : ∀ a b t, ins a (b :: t) = if stop a b then a :: b :: t else b :: ins a t

theorem IsInsert.of_continue {α : Type} {q : α → α → Prop} [DecidableRel q] {ins : α → List α → List α}
    (nil : ∀ a, ins a [] = [a])
    (cons : ∀ a b t, ins a (b :: t) = if q b a then b :: ins a t else a :: b :: t) :
    IsInsert (fun a b => ¬ q b a) ins :=
  ⟨nil, fun a b t => by rw [cons, ite_not]⟩

/-- What insertion sort needs of its test, on the elements `D` being sorted: `stop` decides the total preorder `R`.
For a strict weak order `lt` (test `lt a b`) `R a b` is `lt b a = false`; for a test that compares keys it is
`key a ≤ key b`. -/
structure SortsBy {α : Type} (stop : α → α → Prop) (R : α → α → Prop) (D : α → Prop) : Prop where
  of_stop : ∀ a b, D a → D b → stop a b → R a b
  of_not_stop : ∀ a b, D a → D b → ¬ stop a b → R b a
  trans : ∀ a b c, D a → D b → D c → R a b → R b c → R a c

theorem SortsBy.refl {α : Type} {stop R : α → α → Prop} [DecidableRel stop] {D : α → Prop} (h : SortsBy stop R D)
    {a : α} (ha : D a) : R a a :=
  if hs : stop a a then h.of_stop a a ha ha hs else h.of_not_stop a a ha ha hs

theorem SortsBy.flip {α : Type} {q R : α → α → Prop} [DecidableRel q] {D : α → Prop} (h : SortsBy q R D) :
    SortsBy (fun a b => ¬ q a b) (fun a b => R b a) D :=
  ⟨fun a b ha hb => h.of_not_stop a b ha hb, fun a b ha hb hn => h.of_stop a b ha hb (Decidable.not_not.1 hn),
   fun a b c ha hb hc hab hbc => h.trans c b a hc hb ha hbc hab⟩

theorem SortsBy.of_key {α κ : Type} [LE κ] [LT κ] [Std.IsLinearOrder κ] [Std.LawfulOrderLT κ] (key : α → κ)
    {stop : α → α → Prop} {D : α → Prop} (h : ∀ a b, D a → D b → (stop a b ↔ key a < key b)) :
    SortsBy stop (fun a b => key a ≤ key b) D :=
  ⟨fun a b ha hb hs => Std.le_of_lt ((h a b ha hb).1 hs),
   fun a b ha hb hs => Std.not_lt.1 (fun hlt => hs ((h a b ha hb).2 hlt)), fun _ _ _ _ _ _ => Std.le_trans⟩

namespace IsInsert
variable {α : Type} {stop : α → α → Prop} [DecidableRel stop] {ins : α → List α → List α}

theorem perm (h : IsInsert stop ins) (a : α) (l : List α) : (ins a l).Perm (a :: l) := by
  induction l with
  | nil => rw [h.nil]
  | cons b t ih =>
    rw [h.cons]
    split
    · exact .refl _
    · exact (ih.cons b).trans (.swap a b t)

theorem mem (h : IsInsert stop ins) {a x : α} {l : List α} : x ∈ ins a l ↔ x = a ∨ x ∈ l :=
  (h.perm a l).mem_iff.trans List.mem_cons

theorem pairwise (h : IsInsert stop ins) {R : α → α → Prop} {a : α} {l : List α} (hl : l.Pairwise R)
    (hstop : ∀ b ∈ l, stop a b → R a b) (hgo : ∀ b ∈ l, ¬ stop a b → R b a)
    (htr : ∀ b ∈ l, ∀ c ∈ l, R a b → R b c → R a c) : (ins a l).Pairwise R := by
  induction l with
  | nil => rw [h.nil]; exact List.pairwise_singleton R a
  | cons b t ih =>
    obtain ⟨hb, ht⟩ := List.pairwise_cons.1 hl
    have mem_t {c} (hc : c ∈ t) : c ∈ b :: t := List.mem_cons_of_mem _ hc
    rw [h.cons]
    split
    · rename_i hs
      have hab := hstop b List.mem_cons_self hs
      refine List.pairwise_cons.2 ⟨fun c hc => ?_, hl⟩
      rcases List.mem_cons.1 hc with rfl | hc
      · exact hab
      · exact htr b List.mem_cons_self c (mem_t hc) hab (hb c hc)
    · rename_i hs
      refine List.pairwise_cons.2 ⟨fun c hc => ?_, ih ht (fun c hc => hstop c (mem_t hc))
        (fun c hc => hgo c (mem_t hc)) (fun c hc d hd => htr c (mem_t hc) d (mem_t hd))⟩
      rcases h.mem.1 hc with rfl | hc
      · exact hgo b List.mem_cons_self hs
      · exact hb c hc

theorem sorted (h : IsInsert stop ins) {R : α → α → Prop} {D : α → Prop} (hR : SortsBy stop R D) {a : α}
    {l : List α} (ha : D a) (hD : ∀ b ∈ l, D b) (hl : l.Pairwise R) : (ins a l).Pairwise R :=
  h.pairwise hl (fun b hb => hR.of_stop a b ha (hD b hb)) (fun b hb => hR.of_not_stop a b ha (hD b hb))
    (fun b hb c hc => hR.trans a b c ha (hD b hb) (hD c hc))

theorem foldr_perm (h : IsInsert stop ins) (l : List α) : (l.foldr ins []).Perm l := by
  induction l with
  | nil => exact .refl _
  | cons a l ih => exact (h.perm a _).trans (ih.cons a)

theorem foldl_perm_append (h : IsInsert stop ins) (l acc : List α) :
    (l.foldl (fun acc a => ins a acc) acc).Perm (l ++ acc) := by
  induction l generalizing acc with
  | nil => exact .refl _
  | cons a l ih => exact (ih _).trans (((h.perm a acc).append_left l).trans List.perm_middle)

theorem foldl_perm (h : IsInsert stop ins) (l : List α) : (l.foldl (fun acc a => ins a acc) []).Perm l :=
  (h.foldl_perm_append l []).trans (.of_eq (List.append_nil l))

theorem foldr_sorted (h : IsInsert stop ins) {R : α → α → Prop} {D : α → Prop} (hR : SortsBy stop R D)
    {l : List α} (hD : ∀ a ∈ l, D a) : (l.foldr ins []).Pairwise R := by
  induction l with
  | nil => exact .nil
  | cons a l ih =>
    have hl : ∀ b ∈ l, D b := fun b hb => hD b (List.mem_cons_of_mem _ hb)
    exact h.sorted hR (hD a List.mem_cons_self) (fun b hb => hl b ((h.foldr_perm l).mem_iff.1 hb)) (ih hl)

end IsInsert
end AdaptaVerif.Lemmas.Util
