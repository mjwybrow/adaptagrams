/-
Array facts that are about no model and that core does not state for the defaulting read `xs[j]!`: what it returns
after `set!` and `push` (an `if` on the index, with no bound assumed) and after `mapIdx`, and `xs[i]! ∈ xs` for `i` in range.
-/
namespace AdaptaVerif.Lemmas.Util

theorem set!_size {α} (xs : Array α) (i : Nat) (v : α) : (xs.set! i v).size = xs.size := by simp

theorem get!_set! {α} [Inhabited α] (xs : Array α) (i j : Nat) (v : α) :
    (xs.set! i v)[j]! = if i = j ∧ j < xs.size then v else xs[j]! := by
  simp only [Array.set!_eq_setIfInBounds]
  by_cases hj : j < xs.size
  · have hj' : j < (xs.setIfInBounds i v).size := by simpa using hj
    rw [getElem!_pos _ j hj', getElem!_pos xs j hj, Array.getElem_setIfInBounds]
    · by_cases hij : i = j <;> simp [hij, hj]
    · exact hj
  · have hj' : ¬ j < (xs.setIfInBounds i v).size := by simpa using hj
    rw [getElem!_neg _ j hj', getElem!_neg xs j hj]
    simp [hj]

theorem get!_push_lt {α} [Inhabited α] (xs : Array α) (x : α) (j : Nat) (hj : j < xs.size) :
    (xs.push x)[j]! = xs[j]! := by
  have hj' : j < (xs.push x).size := by simp; omega
  rw [getElem!_pos _ j hj', getElem!_pos xs j hj, Array.getElem_push_lt]

theorem get!_push_eq {α} [Inhabited α] (xs : Array α) (x : α) : (xs.push x)[xs.size]! = x := by
  have h : xs.size < (xs.push x).size := by simp
  rw [getElem!_pos (xs.push x) xs.size h]
  simp

theorem get!_push {α} [Inhabited α] (xs : Array α) (x : α) (j : Nat) :
    (xs.push x)[j]! = if j < xs.size then xs[j]! else if j = xs.size then x else default := by
  by_cases hj : j < xs.size
  · rw [if_pos hj, get!_push_lt _ _ _ hj]
  · rw [if_neg hj]
    by_cases he : j = xs.size
    · rw [if_pos he, he, get!_push_eq]
    · rw [if_neg he, getElem!_neg]
      simp; omega

theorem mapIdx_get! {α β} [Inhabited β] (xs : Array α) (f : Nat → α → β) (u : Nat) (hu : u < xs.size) :
    (xs.mapIdx f)[u]! = f u xs[u] := by
  have hu' : u < (xs.mapIdx f).size := by simpa using hu
  rw [getElem!_pos _ u hu']
  simp

theorem getElem!_mem {α} [Inhabited α] {xs : Array α} {i : Nat} (h : i < xs.size) : xs[i]! ∈ xs := by
  rw [getElem!_pos xs i h]; exact Array.getElem_mem h

end AdaptaVerif.Lemmas.Util
