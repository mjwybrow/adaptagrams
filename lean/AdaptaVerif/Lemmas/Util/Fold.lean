/-
Facts about `List.foldl` that several models need: a view of the state that no step changes; what a step establishes
at one element and later steps keep; folds whose observable is an "and"/"or" over the elements; a flag that no step
sets again; the running maximum or minimum, and through them a value between two lists.
For an invariant kept by every step use core's `List.foldlRecOn`.
-/
namespace AdaptaVerif.Lemmas.Util

theorem foldl_view {σ α β : Type} (v : σ → β) (f : σ → α → σ) (hf : ∀ s a, v (f s a) = v s)
    (l : List α) (s : σ) : v (l.foldl f s) = v s :=
  List.foldlRecOn (motive := fun t => v t = v s) l f rfl fun t ht a _ => (hf t a).trans ht

theorem foldl_achieves {α β : Type} (f : β → α → β) (Inv Post : β → Prop) {x : α} {l : List α} (hx : x ∈ l)
    (hinv : ∀ b, ∀ y ∈ l, Inv b → Inv (f b y)) (hpost : ∀ b, ∀ y ∈ l, Post b → Post (f b y))
    (hstep : ∀ b, Inv b → Post (f b x)) {b : β} (hb : Inv b) : Post (l.foldl f b) := by
  induction l generalizing b with
  | nil => cases hx
  | cons a l ih =>
    have hinv' : ∀ b, ∀ y ∈ l, Inv b → Inv (f b y) := fun b y hy => hinv b y (List.mem_cons_of_mem _ hy)
    have hpost' : ∀ b, ∀ y ∈ l, Post b → Post (f b y) := fun b y hy => hpost b y (List.mem_cons_of_mem _ hy)
    rcases List.mem_cons.1 hx with rfl | hx
    · exact List.foldlRecOn l f (hstep b hb) fun b hb y hy => hpost' b y hy hb
    · exact ih hx hinv' hpost' (hinv b a List.mem_cons_self hb)

/-- A trap: with `f` left as `_` under an expected type, unifying `Q (l.foldl ?f s)` fails, and slowly (on `Rat` only after
unfolding `≤`): give `f`, or elaborate without the expected type, `(foldl_and _ Q R h l s :)`. -/
theorem foldl_and {σ α : Type} (f : σ → α → σ) (Q : σ → Prop) (R : α → Prop) (hstep : ∀ s a, Q (f s a) ↔ Q s ∧ R a)
    (l : List α) (s : σ) : Q (l.foldl f s) ↔ Q s ∧ ∀ a ∈ l, R a := by
  induction l generalizing s with
  | nil => simp
  | cons a l ih => simp [ih, hstep, and_assoc]

theorem foldl_exists {σ α : Type} (f : σ → α → σ) (I Q : σ → Prop) (R : α → Prop) (hI : ∀ s a, I s → I (f s a))
    (hstep : ∀ s a, I s → (Q (f s a) ↔ Q s ∨ R a)) (l : List α) (s : σ) (hs : I s) :
    Q (l.foldl f s) ↔ Q s ∨ ∃ a ∈ l, R a := by
  induction l generalizing s with
  | nil => simp
  | cons a l ih => simp [ih _ (hI s a hs), hstep s a hs, or_assoc]

theorem foldl_or {σ α : Type} (f : σ → α → σ) (flag : σ → Bool) (t : α → Bool)
    (hstep : ∀ s a, flag (f s a) = (flag s || t a)) (l : List α) (s : σ) :
    flag (l.foldl f s) = (flag s || l.any t) := by
  induction l generalizing s with
  | nil => simp
  | cons a l ih => simp [ih, hstep, Bool.or_assoc]

theorem foldl_ok {σ β : Type} (ok : σ → Bool) (f : σ → β → σ) (mono : ∀ x d, ok (f x d) = true → ok x = true)
    (l : List β) (x : σ) : ok (l.foldl f x) = true → ok x = true :=
  List.foldlRecOn (motive := fun t => ok t = true → ok x = true) l f id fun t ht d _ h => ht (mono t d h)

section maxmin
variable {α κ : Type} [LE κ]

theorem foldl_max_le_iff [Max κ] [Std.LawfulOrderMax κ] (g : α → κ) (l : List α) (m p : κ) :
    l.foldl (fun m a => max m (g a)) m ≤ p ↔ m ≤ p ∧ ∀ a ∈ l, g a ≤ p :=
  foldl_and _ (· ≤ p) (g · ≤ p) (fun _ _ => Std.max_le_iff) l m

theorem le_foldl_max [Std.IsPreorder κ] [Max κ] [Std.LawfulOrderMax κ] (g : α → κ) (l : List α) (m : κ) :
    m ≤ l.foldl (fun m a => max m (g a)) m ∧ ∀ a ∈ l, g a ≤ l.foldl (fun m a => max m (g a)) m :=
  (foldl_max_le_iff g l m _).1 (Std.le_refl _)

theorem le_foldl_min_iff [Min κ] [Std.LawfulOrderMin κ] (g : α → κ) (l : List α) (m p : κ) :
    p ≤ l.foldl (fun m a => min m (g a)) m ↔ p ≤ m ∧ ∀ a ∈ l, p ≤ g a :=
  foldl_and _ (p ≤ ·) (p ≤ g ·) (fun _ _ => Std.le_min_iff) l m

theorem foldl_min_le [Std.IsPreorder κ] [Min κ] [Std.LawfulOrderMin κ] (g : α → κ) (l : List α) (m : κ) :
    l.foldl (fun m a => min m (g a)) m ≤ m ∧ ∀ a ∈ l, l.foldl (fun m a => min m (g a)) m ≤ g a :=
  (le_foldl_min_iff g l m _).1 (Std.le_refl _)

theorem exists_between [Std.IsPreorder κ] [Max κ] [Std.LawfulOrderMax κ] [Min κ] [Std.LawfulOrderMin κ] [Inhabited κ] :
    ∀ (L R : List κ), (∀ l ∈ L, ∀ r ∈ R, l ≤ r) → ∃ b, (∀ l ∈ L, l ≤ b) ∧ ∀ r ∈ R, b ≤ r
  | [], [], _ => ⟨default, nofun, nofun⟩
  | [], r :: R, _ => ⟨R.foldl (fun m a => min m (id a)) r, nofun, List.forall_mem_cons.2 (foldl_min_le id R r)⟩
  | l :: L, _, h => ⟨L.foldl (fun m a => max m (id a)) l, List.forall_mem_cons.2 (le_foldl_max id L l), fun r hr =>
      (foldl_max_le_iff id L l r).2 ⟨h l List.mem_cons_self r hr, fun a ha => h a (List.mem_cons_of_mem l ha) r hr⟩⟩

end maxmin
end AdaptaVerif.Lemmas.Util
