/-
Partial-correctness theorems for the executable model of `Graph::getConnComps`
(`AdaptaVerif.Model.Peel.getConnComps`) against the list-graph theory of `Spec.UGraph`,
fuel sufficiency (the model never returns `none`), the lemmas about `ExactlyOne` that the C19 modules
share, and the property-text specification `Spec.GraphParts.CompsSpec`. Core Lean only.
-/
import AdaptaVerif.Spec.GraphParts

namespace AdaptaVerif.Lemmas.PeelComps
open AdaptaVerif.Spec.UGraph AdaptaVerif.Model.Peel

theorem mem_nbrs {es : List (Nat × Nat)} {v w : Nat} : w ∈ nbrs es v ↔ Adj es v w := by
  unfold nbrs Adj
  simp only [List.mem_map, List.mem_filter, incident, otherEnd, Bool.or_eq_true, beq_iff_eq]
  constructor
  · rintro ⟨⟨a, b⟩, ⟨hmem, hinc⟩, hw⟩
    dsimp only at hinc hw
    split at hw
    · rename_i h; subst h hw; exact Or.inl hmem
    · rename_i h; subst hw
      exact Or.inr ((hinc.resolve_left h) ▸ hmem)
  · rintro (h | h)
    · exact ⟨(v, w), ⟨h, Or.inl rfl⟩, if_pos rfl⟩
    · refine ⟨(w, v), ⟨h, Or.inr rfl⟩, ?_⟩
      dsimp only
      split
      · rename_i e; exact e.symm
      · rfl

theorem reach_imp {es es' : List (Nat × Nat)} (h : ∀ a b, Adj es a b → Adj es' a b) {u v : Nat}
    (hr : Reach es u v) : Reach es' u v := by
  induction hr with
  | refl _ => exact Reach.refl _
  | step a _ ih => exact Reach.step (h _ _ a) ih

theorem bfs_inv {es : List (Nat × Nat)} (I : List Nat → List Nat → Prop)
    (hskip : ∀ v q vis, v ∈ vis → I (v :: q) vis → I q vis)
    (hvisit : ∀ v q vis, v ∉ vis → I (v :: q) vis → I (q ++ nbrs es v) (v :: vis)) :
    ∀ (f : Nat) (q vis out : List Nat), bfs es f q vis = some out → I q vis → I [] out := by
  intro f q vis
  induction f, q, vis using bfs.induct es with
  | case1 _ vis =>
    intro out h hI
    rw [bfs, Option.some.injEq] at h
    exact h ▸ hI
  | case2 => intro out h; rw [bfs] at h; cases h
  | case3 f v q vis hv ih =>
    intro out h hI
    rw [bfs, if_pos hv] at h
    exact ih out h (hskip v q vis (List.contains_iff_mem.1 hv) hI)
  | case4 f v q vis hv ih =>
    intro out h hI
    rw [bfs, if_neg hv] at h
    exact ih out h (hvisit v q vis (fun hm => hv (List.contains_iff_mem.2 hm)) hI)

theorem skip_mem {v x : Nat} {q vis : List Nat} (hv : v ∈ vis) (h : x ∈ vis ∨ x ∈ v :: q) :
    x ∈ vis ∨ x ∈ q :=
  h.elim Or.inl (fun h => (List.mem_cons.1 h).elim (fun e => Or.inl (e ▸ hv)) Or.inr)

theorem visit_mem {es : List (Nat × Nat)} {v x : Nat} {q vis : List Nat} (h : x ∈ vis ∨ x ∈ v :: q) :
    x ∈ v :: vis ∨ x ∈ q ++ nbrs es v :=
  h.elim (fun h => Or.inl (List.mem_cons_of_mem _ h)) (fun h => (List.mem_cons.1 h).elim
    (fun e => Or.inl (e ▸ List.mem_cons_self)) (fun h => Or.inr (List.mem_append_left _ h)))

theorem bfs_seen_sub {es : List (Nat × Nat)} {f : Nat} {q vis out : List Nat}
    (h : bfs es f q vis = some out) : ∀ x, x ∈ vis ∨ x ∈ q → x ∈ out := by
  intro x hx
  exact (bfs_inv (es := es) (fun q' vis' => ∀ x, x ∈ vis ∨ x ∈ q → x ∈ vis' ∨ x ∈ q')
    (fun v q' vis' hv hI x hx => skip_mem hv (hI x hx))
    (fun v q' vis' _ hI x hx => visit_mem (hI x hx))
    f q vis out h (fun x hx => hx) x hx).elim id (fun h => nomatch h)

theorem bfs_queue_sub {es : List (Nat × Nat)} {f : Nat} {q vis out : List Nat}
    (h : bfs es f q vis = some out) : ∀ x, x ∈ q → x ∈ out :=
  fun x hx => bfs_seen_sub h x (Or.inr hx)

theorem bfs_class {es : List (Nat × Nat)} {s f : Nat} {q vis out : List Nat}
    (h : bfs es f q vis = some out) (hr : ∀ x, x ∈ vis ∨ x ∈ q → Reach es s x)
    (hcl : ∀ a, a ∈ vis → ∀ b, Adj es a b → b ∈ vis ∨ b ∈ q) :
    (∀ x, x ∈ out → Reach es s x) ∧ ∀ a, a ∈ out → ∀ b, Adj es a b → b ∈ out := by
  have := bfs_inv (es := es) (fun q vis => (∀ x, x ∈ vis ∨ x ∈ q → Reach es s x) ∧
      ∀ a, a ∈ vis → ∀ b, Adj es a b → b ∈ vis ∨ b ∈ q)
    (fun v q vis hv hI => ⟨fun x hx => hI.1 x (hx.imp id (List.mem_cons_of_mem _)),
      fun a ha b hab => skip_mem hv (hI.2 a ha b hab)⟩)
    (fun v q vis _ hI => by
      have hsv := hI.1 v (Or.inr List.mem_cons_self)
      refine ⟨fun x hx => ?_, fun a ha b hab => ?_⟩
      · rcases hx with hx | hx
        · exact (List.mem_cons.1 hx).elim (fun e => e ▸ hsv) (fun h => hI.1 x (Or.inl h))
        · exact (List.mem_append.1 hx).elim (fun h => hI.1 x (Or.inr (List.mem_cons_of_mem _ h)))
            (fun h => hsv.tail (mem_nbrs.1 h))
      · cases List.mem_cons.1 ha with
        | inl h => exact Or.inr (List.mem_append_right _ (mem_nbrs.2 (h ▸ hab)))
        | inr h => exact visit_mem (hI.2 a h b hab))
    f q vis out h ⟨hr, hcl⟩
  exact ⟨fun x hx => this.1 x (Or.inl hx),
    fun a ha b hab => (this.2 a ha b hab).elim id (fun h => nomatch h)⟩

theorem bfs_nodup {es : List (Nat × Nat)} {f : Nat} {q vis out : List Nat}
    (h : bfs es f q vis = some out) (hnd : vis.Nodup) : out.Nodup :=
  bfs_inv (es := es) (fun _ vis => vis.Nodup)
    (fun _ _ _ _ hI => hI)
    (fun _ _ _ hv hI => List.nodup_cons.2 ⟨hv, hI⟩)
    f q vis out h hnd

theorem bfs_component {es : List (Nat × Nat)} {f u0 : Nat} {vis : List Nat}
    (h : bfs es f (nbrs es u0) [u0] = some vis) : ∀ x, x ∈ vis ↔ Reach es u0 x := by
  obtain ⟨hs, hcl⟩ := bfs_class (s := u0) h
    (fun y hy => hy.elim (fun hy => List.mem_singleton.1 hy ▸ Reach.refl _)
      (fun hy => Reach.single (mem_nbrs.1 hy)))
    (fun a ha b hab => Or.inr (mem_nbrs.2 (List.mem_singleton.1 ha ▸ hab)))
  exact fun x => ⟨hs x, fun hr => Reach.closed (P := fun y => y ∈ vis) (fun a b ha hab => hcl a ha b hab) hr
    (bfs_seen_sub h u0 (Or.inl (List.mem_singleton.2 rfl)))⟩

/-- `rem` is a union of reachability classes -/
def Closed (es : List (Nat × Nat)) (rem : List Nat) : Prop :=
  ∀ a, a ∈ rem → ∀ b, Reach es a b → b ∈ rem

theorem closed_of_endpoints {ns : List Nat} {es : List (Nat × Nat)}
    (hE : ∀ e, e ∈ es → e.1 ∈ ns ∧ e.2 ∈ ns) : Closed es ns := by
  intro a ha b hr
  refine Reach.closed (P := fun y => y ∈ ns) (fun a b _ hab => ?_) hr ha
  cases hab with
  | inl h => exact (hE _ h).2
  | inr h => exact (hE _ h).1

/-- what the outer loop returns on a `Closed` list `rem`: the parts cover `rem`, each is the reachability class of
    one of its nodes together with the edges `compEdges` gives it, and they are duplicate-free and pairwise disjoint -/
structure LoopSpec (es : List (Nat × Nat)) (rem : List Nat) (cs : List Comp) : Prop where
  cover : ∀ v, v ∈ rem ↔ ∃ c, c ∈ cs ∧ v ∈ c.nodes
  cls : ∀ c, c ∈ cs → ∃ u0, u0 ∈ c.nodes ∧ (∀ x, x ∈ c.nodes ↔ Reach es u0 x) ∧
    c.edges = compEdges es c.nodes
  nodup : ∀ c, c ∈ cs → c.nodes.Nodup
  disj : cs.Pairwise (fun c d => ∀ v, v ∈ c.nodes → v ∉ d.nodes)

theorem loopSpec_nil {es : List (Nat × Nat)} : LoopSpec es [] [] where
  cover := fun _ => ⟨fun hv => (nomatch hv), fun ⟨_, hc, _⟩ => (nomatch hc)⟩
  cls := fun _ hc => (nomatch hc)
  nodup := fun _ hc => (nomatch hc)
  disj := List.Pairwise.nil

theorem compsLoop_spec {es : List (Nat × Nat)} :
    ∀ (f : Nat) (rem : List Nat) (cs : List Comp),
      compsLoop es f rem = some cs → Closed es rem → LoopSpec es rem cs := by
  intro f rem
  induction f, rem using compsLoop.induct es with
  | case1 =>
    intro cs h _
    rw [compsLoop, Option.some.injEq] at h
    exact h ▸ loopSpec_nil
  | case2 => intro cs h; rw [compsLoop] at h; cases h
  | case3 f u0 rem hb => intro cs h; simp only [compsLoop, hb, reduceCtorEq] at h
  | case4 f u0 rem vis hb hl => intro cs h; simp only [compsLoop, hb, hl, reduceCtorEq] at h
  | case5 f u0 rem vis hb cs' hl ih =>
    intro cs h hcl
    simp only [compsLoop, hb, hl, Option.some.injEq] at h
    subst h
    have hvis := bfs_component hb
    have hu0 : u0 ∈ vis := (hvis u0).2 (Reach.refl _)
    have hmemf : ∀ x, x ∈ rem.filter (fun x => !vis.contains x) ↔ x ∈ rem ∧ x ∉ vis := by
      intro x
      simp only [List.mem_filter, Bool.not_eq_true', List.contains_eq_mem,
        decide_eq_false_iff_not]
    have hcl' : Closed es (rem.filter (fun x => !vis.contains x)) := by
      intro a ha b hr
      have ha' := (hmemf a).1 ha
      have hbv : b ∉ vis := fun hbv =>
        ha'.2 ((hvis a).2 (((hvis b).1 hbv).trans hr.symm))
      have hbr := hcl a (List.mem_cons_of_mem _ ha'.1) b hr
      cases List.mem_cons.1 hbr with
      | inl h => exact absurd (h ▸ hu0) hbv
      | inr h => exact (hmemf b).2 ⟨h, hbv⟩
    have sp := ih cs' hl hcl'
    refine ⟨fun v => ⟨fun hv => ?_, fun ⟨c, hc, hvc⟩ => ?_⟩, fun c hc => ?_,
      fun c hc => ?_, List.pairwise_cons.2 ⟨fun d hd v hv hvd => ?_, sp.disj⟩⟩
    · by_cases hvv : v ∈ vis
      · exact ⟨_, List.mem_cons_self, hvv⟩
      · cases List.mem_cons.1 hv with
        | inl h => exact absurd (h ▸ hu0) hvv
        | inr h =>
          obtain ⟨c, hc, hvc⟩ := (sp.cover v).1 ((hmemf v).2 ⟨h, hvv⟩)
          exact ⟨c, List.mem_cons_of_mem _ hc, hvc⟩
    · cases List.mem_cons.1 hc with
      | inl h =>
        subst h
        exact hcl u0 List.mem_cons_self v ((hvis v).1 hvc)
      | inr h =>
        exact List.mem_cons_of_mem _
          ((hmemf v).1 ((sp.cover v).2 ⟨c, h, hvc⟩)).1
    · cases List.mem_cons.1 hc with
      | inl h =>
        subst h
        exact ⟨u0, hu0, hvis, rfl⟩
      | inr h => exact sp.cls c h
    · cases List.mem_cons.1 hc with
      | inl h =>
        subst h
        exact bfs_nodup hb (List.nodup_cons.2 ⟨fun hx => (nomatch hx), List.nodup_nil⟩)
      | inr h => exact sp.nodup c h
    · exact ((hmemf v).1 ((sp.cover v).2 ⟨d, hd, hvd⟩)).2 hv

section
variable {ns : List Nat} {es : List (Nat × Nat)} {cs : List Comp}

theorem comps_spec (h : getConnComps ns es = some cs)
    (hE : ∀ e, e ∈ es → e.1 ∈ ns ∧ e.2 ∈ ns) : LoopSpec es ns cs :=
  compsLoop_spec _ _ _ h (closed_of_endpoints hE)

theorem comps_cover (sp : LoopSpec es ns cs) :
    ∀ v, v ∈ ns → ∃ c, c ∈ cs ∧ v ∈ c.nodes :=
  fun v hv => (sp.cover v).1 hv

theorem comps_subset (sp : LoopSpec es ns cs) :
    ∀ c, c ∈ cs → ∀ v, v ∈ c.nodes → v ∈ ns :=
  fun c hc v hv => (sp.cover v).2 ⟨c, hc, hv⟩

theorem comps_nodup (h : getConnComps ns es = some cs)
    (hE : ∀ e, e ∈ es → e.1 ∈ ns ∧ e.2 ∈ ns) :
    ∀ c, c ∈ cs → c.nodes.Nodup :=
  (comps_spec h hE).nodup

theorem comps_nonempty (sp : LoopSpec es ns cs) :
    ∀ c, c ∈ cs → c.nodes ≠ [] := by
  intro c hc hnil
  obtain ⟨u0, hu0, _⟩ := sp.cls c hc
  rw [hnil] at hu0
  cases hu0

theorem comps_class (sp : LoopSpec es ns cs) :
    ∀ c, c ∈ cs → ∀ u, u ∈ c.nodes → ∀ x, x ∈ c.nodes ↔ Reach es u x := by
  intro c hc u hu x
  obtain ⟨u0, _, hcls, _⟩ := sp.cls c hc
  have huu : Reach es u0 u := (hcls u).1 hu
  exact ⟨fun hx => huu.symm.trans ((hcls x).1 hx), fun hr => (hcls x).2 (huu.trans hr)⟩

theorem comps_closed (sp : LoopSpec es ns cs) :
    ∀ c, c ∈ cs → ∀ a, a ∈ c.nodes → ∀ b, Adj es a b → b ∈ c.nodes :=
  fun c hc a ha b hab => (comps_class sp c hc a ha b).2 (Reach.single hab)

theorem comps_edges_eq (sp : LoopSpec es ns cs) :
    ∀ c, c ∈ cs → c.edges = compEdges es c.nodes := by
  intro c hc
  obtain ⟨_, _, _, he⟩ := sp.cls c hc
  exact he

theorem mem_compEdges {vis : List Nat} {e : Nat × Nat} :
    e ∈ compEdges es vis ↔ e ∈ es ∧ (e.1 ∈ vis ∨ e.2 ∈ vis) := by
  simp only [compEdges, List.mem_filter, Bool.or_eq_true, List.contains_eq_mem,
    decide_eq_true_eq]

theorem comps_edges_iff (sp : LoopSpec es ns cs) :
    ∀ c, c ∈ cs → ∀ e, e ∈ c.edges ↔ (e ∈ es ∧ e.1 ∈ c.nodes) := by
  intro c hc e
  rw [comps_edges_eq sp c hc, mem_compEdges]
  constructor
  · rintro ⟨hes, h1 | h2⟩
    · exact ⟨hes, h1⟩
    · exact ⟨hes, comps_closed sp c hc e.2 h2 e.1 (Or.inr hes)⟩
  · rintro ⟨hes, h1⟩
    exact ⟨hes, Or.inl h1⟩

theorem comps_edges_iff' (sp : LoopSpec es ns cs) :
    ∀ c, c ∈ cs → ∀ e, e ∈ c.edges ↔ (e ∈ es ∧ e.2 ∈ c.nodes) := by
  intro c hc e
  rw [comps_edges_iff sp c hc e]
  constructor
  · rintro ⟨hes, h1⟩
    exact ⟨hes, comps_closed sp c hc e.1 h1 e.2 (Or.inl hes)⟩
  · rintro ⟨hes, h2⟩
    exact ⟨hes, comps_closed sp c hc e.2 h2 e.1 (Or.inr hes)⟩

theorem comps_edge_cover (sp : LoopSpec es ns cs) (hE : ∀ e, e ∈ es → e.1 ∈ ns ∧ e.2 ∈ ns) :
    ∀ e, e ∈ es → ∃ c, c ∈ cs ∧ e ∈ c.edges := by
  intro e he
  obtain ⟨c, hc, h1⟩ := comps_cover sp e.1 (hE e he).1
  exact ⟨c, hc, (comps_edges_iff sp c hc e).2 ⟨he, h1⟩⟩

theorem comps_edges_sublist (h : getConnComps ns es = some cs)
    (hE : ∀ e, e ∈ es → e.1 ∈ ns ∧ e.2 ∈ ns) :
    ∀ c, c ∈ cs → c.edges.Sublist es := by
  intro c hc
  rw [comps_edges_eq (comps_spec h hE) c hc]
  exact List.filter_sublist

theorem comps_reach_own (sp : LoopSpec es ns cs) {c : Comp} (hc : c ∈ cs) {u x : Nat}
    (hr : Reach es u x) : u ∈ c.nodes → Reach c.edges u x := by
  induction hr with
  | refl _ => exact fun _ => Reach.refl _
  | @step u v w hab _ ih =>
    intro hu
    have hv : v ∈ c.nodes := comps_closed sp c hc u hu v hab
    refine Reach.step ?_ (ih hv)
    cases hab with
    | inl hm => exact Or.inl ((comps_edges_iff sp c hc (u, v)).2 ⟨hm, hu⟩)
    | inr hm => exact Or.inr ((comps_edges_iff sp c hc (v, u)).2 ⟨hm, hv⟩)

theorem comps_connected (sp : LoopSpec es ns cs) :
    ∀ c, c ∈ cs → Connected c.nodes c.edges :=
  fun c hc u hu v hv => comps_reach_own sp hc ((comps_class sp c hc u hu v).1 hv) hu

theorem comps_of_connected (sp : LoopSpec es ns cs) (hc : Connected ns es) (hne : ns ≠ []) :
    ∃ c, cs = [c] ∧ ∀ v, v ∈ ns → v ∈ c.nodes := by
  have hall : ∀ c, c ∈ cs → ∀ v, v ∈ ns → v ∈ c.nodes := by
    intro c hcm v hv
    obtain ⟨u, hu⟩ := List.exists_mem_of_ne_nil _ (comps_nonempty sp c hcm)
    exact (comps_class sp c hcm u hu v).2 (hc u (comps_subset sp c hcm u hu) v hv)
  obtain ⟨x, hx⟩ := List.exists_mem_of_ne_nil _ hne
  match cs, sp, hall with
  | [], sp, _ =>
    obtain ⟨c, hc', _⟩ := comps_cover sp x hx
    cases hc'
  | [c], _, hall => exact ⟨c, rfl, hall c List.mem_cons_self⟩
  | c1 :: c2 :: _, sp, hall =>
    exact absurd (hall c2 (List.mem_cons_of_mem _ List.mem_cons_self) x hx)
      ((List.pairwise_cons.1 sp.disj).1 c2 List.mem_cons_self x (hall c1 List.mem_cons_self x hx))

end

def unvis (g : Nat × Nat → Nat) (l : List (Nat × Nat)) (vis : List Nat) : Nat :=
  (l.filter (fun e => !vis.contains (g e))).length

theorem unvis_cons (g : Nat × Nat → Nat) (l : List (Nat × Nat)) {v : Nat} {vis : List Nat}
    (hv : v ∉ vis) :
    unvis g l (v :: vis) + (l.filter (fun e => g e == v)).length = unvis g l vis := by
  unfold unvis
  induction l with
  | nil => rfl
  | cons e l ih =>
    simp only [List.filter_cons, List.contains_eq_mem, List.mem_cons, Bool.not_eq_true',
      decide_eq_false_iff_not, beq_iff_eq] at ih ⊢
    by_cases h1 : g e = v
    · have h2 : g e ∉ vis := h1 ▸ hv
      simp only [h1, true_or, not_true_eq_false, if_false, if_true, hv, not_false_eq_true,
        List.length_cons] at ih ⊢
      omega
    · by_cases h2 : g e ∈ vis
      · simp only [h1, h2, or_true, not_true_eq_false, if_false] at ih ⊢
        exact ih
      · simp only [h1, h2, or_self, not_false_eq_true, if_true, if_false,
          List.length_cons] at ih ⊢
        omega

theorem length_nbrs_le (l : List (Nat × Nat)) (v : Nat) :
    (nbrs l v).length ≤
      (l.filter (fun e => e.1 == v)).length + (l.filter (fun e => e.2 == v)).length := by
  unfold nbrs
  rw [List.length_map]
  induction l with
  | nil => exact Nat.le_refl _
  | cons e l ih =>
    simp only [List.filter_cons, incident, Bool.or_eq_true, beq_iff_eq]
    by_cases h1 : e.1 = v <;> by_cases h2 : e.2 = v <;>
      simp only [h1, h2, or_self, or_true, true_or, if_true, if_false, List.length_cons] <;>
      omega

/-- potential of a BFS state without the queue: edge ends at unvisited nodes -/
def pot (es : List (Nat × Nat)) (vis : List Nat) : Nat :=
  unvis (fun e => e.1) es vis + unvis (fun e => e.2) es vis

theorem pot_visit (es : List (Nat × Nat)) {v : Nat} {vis : List Nat} (hv : v ∉ vis) :
    pot es (v :: vis) + (nbrs es v).length ≤ pot es vis := by
  have h1 := unvis_cons (fun e => e.1) es hv
  have h2 := unvis_cons (fun e => e.2) es hv
  have h3 := length_nbrs_le es v
  unfold pot
  omega

theorem pot_nil (es : List (Nat × Nat)) : pot es [] = 2 * es.length := by
  have h : ∀ g : Nat × Nat → Nat,
      (es.filter (fun e => !([] : List Nat).contains (g e))).length = es.length := by
    intro g
    exact congrArg List.length
      (List.filter_eq_self (p := fun e => !([] : List Nat).contains (g e)) (l := es)
        |>.2 (fun _ _ => rfl))
  simp only [pot, unvis, h]
  omega

theorem bfs_total {es : List (Nat × Nat)} :
    ∀ (f : Nat) (q vis : List Nat), q.length + pot es vis ≤ f →
      ∃ out, bfs es f q vis = some out := by
  intro f q vis
  induction f, q, vis using bfs.induct es with
  | case1 _ vis => exact fun _ => ⟨vis, by rw [bfs]⟩
  | case2 => intro hle; simp only [List.length_cons] at hle; omega
  | case3 f v q vis hv ih =>
    intro hle
    simp only [List.length_cons] at hle
    rw [bfs, if_pos hv]
    exact ih (by omega)
  | case4 f v q vis hv ih =>
    intro hle
    simp only [List.length_cons] at hle
    rw [bfs, if_neg hv]
    refine ih ?_
    have := pot_visit es (v := v) (vis := vis) (fun hm => hv (List.contains_iff_mem.2 hm))
    rw [List.length_append]
    omega

theorem bfs_start_total (es : List (Nat × Nat)) (u0 : Nat) :
    ∃ vis, bfs es (bfsFuel es) (nbrs es u0) [u0] = some vis := by
  refine bfs_total _ _ _ ?_
  have h1 := pot_visit es (v := u0) (vis := []) (fun h => nomatch h)
  have h2 := pot_nil es
  unfold bfsFuel
  omega

theorem compsLoop_total {es : List (Nat × Nat)} :
    ∀ (f : Nat) (rem : List Nat), rem.length ≤ f → ∃ cs, compsLoop es f rem = some cs := by
  intro f
  induction f with
  | zero =>
    intro rem hle
    rw [List.eq_nil_of_length_eq_zero (Nat.le_zero.1 hle)]
    exact ⟨[], by rw [compsLoop]⟩
  | succ f ih =>
    intro rem hle
    cases rem with
    | nil => exact ⟨[], by rw [compsLoop]⟩
    | cons u0 rem =>
      obtain ⟨vis, hb⟩ := bfs_start_total es u0
      obtain ⟨cs', hl⟩ := ih (rem.filter (fun x => !vis.contains x))
        (Nat.le_trans (List.length_filter_le _ _) (Nat.le_of_succ_le_succ hle))
      exact ⟨⟨vis, compEdges es vis⟩ :: cs', by simp only [compsLoop, hb, hl]⟩

theorem getConnComps_total (ns : List Nat) (es : List (Nat × Nat)) :
    ∃ cs, getConnComps ns es = some cs :=
  compsLoop_total _ _ (Nat.le_refl _)

section
open AdaptaVerif.Spec.GraphParts (HasEdge ExactlyOne CompsSpec)

theorem exactlyOne_of_pairwise {α : Type} {l : List α} {P : α → Prop}
    (hpw : l.Pairwise (fun a b => ¬ (P a ∧ P b))) {a : α} (ha : a ∈ l) (hp : P a) :
    ExactlyOne l P := by
  obtain ⟨l1, l2, hl⟩ := List.append_of_mem ha
  rw [hl] at hpw
  obtain ⟨_, h2, h3⟩ := List.pairwise_append.1 hpw
  refine ⟨l1, a, l2, hl, hp, fun b hb hPb => ?_, fun b hb hPb => ?_⟩
  · exact h3 b hb a List.mem_cons_self ⟨hPb, hp⟩
  · exact (List.pairwise_cons.1 h2).1 b hb ⟨hp, hPb⟩

theorem exactlyOne_cons_head {α : Type} {l : List α} {P : α → Prop} {a : α} (hp : P a)
    (hn : ∀ b, b ∈ l → ¬ P b) : ExactlyOne (a :: l) P :=
  ⟨[], a, l, rfl, hp, (fun _ hb => nomatch hb), hn⟩

theorem exactlyOne_cons_tail {α : Type} {l : List α} {P : α → Prop} {a : α} (hp : ¬ P a)
    (h : ExactlyOne l P) : ExactlyOne (a :: l) P := by
  obtain ⟨l1, x, l2, rfl, hx, h1, h2⟩ := h
  refine ⟨a :: l1, x, l2, rfl, hx, ?_, h2⟩
  intro b hb
  cases List.mem_cons.1 hb with
  | inl h => exact h ▸ hp
  | inr h => exact h1 b h

theorem exactlyOne_map {α β : Type} {l : List α} {g : α → β} {P : β → Prop}
    (h : ExactlyOne l (fun x => P (g x))) : ExactlyOne (l.map g) P := by
  obtain ⟨l1, a, l2, rfl, hp, h1, h2⟩ := h
  refine ⟨l1.map g, g a, l2.map g, by rw [List.map_append, List.map_cons], hp, ?_, ?_⟩
  · intro b hb
    obtain ⟨x, hx, rfl⟩ := List.mem_map.1 hb
    exact h1 x hx
  · intro b hb
    obtain ⟨x, hx, rfl⟩ := List.mem_map.1 hb
    exact h2 x hx

theorem exactlyOne_congr {α : Type} {l : List α} {P Q : α → Prop}
    (h : ∀ a, a ∈ l → (P a ↔ Q a)) (e : ExactlyOne l P) : ExactlyOne l Q := by
  obtain ⟨l1, a, l2, rfl, ha, h1, h2⟩ := e
  have hm : ∀ b, b ∈ l1 ∨ b ∈ a :: l2 → b ∈ l1 ++ a :: l2 := fun b => List.mem_append.2
  refine ⟨l1, a, l2, rfl, (h a (hm a (Or.inr List.mem_cons_self))).1 ha, ?_, ?_⟩
  · intro b hb hq
    exact h1 b hb ((h b (hm b (Or.inl hb))).2 hq)
  · intro b hb hq
    exact h2 b hb ((h b (hm b (Or.inr (List.mem_cons_of_mem _ hb)))).2 hq)

theorem exactlyOne_exists {α : Type} {l : List α} {P : α → Prop} (h : ExactlyOne l P) :
    ∃ a, a ∈ l ∧ P a := by
  obtain ⟨l1, a, l2, rfl, hp, _, _⟩ := h
  exact ⟨a, List.mem_append_right _ List.mem_cons_self, hp⟩

variable {ns : List Nat} {es : List (Nat × Nat)} {cs : List Comp}

theorem comps_hasEdge_src (sp : LoopSpec es ns cs) {c : Comp} (hc : c ∈ cs) {e : Nat × Nat}
    (he : HasEdge c.edges e) : e.1 ∈ c.nodes := by
  obtain ⟨f, hf, hs⟩ := he
  cases hs with
  | inl heq => exact heq ▸ ((comps_edges_iff sp c hc f).1 hf).2
  | inr heq =>
    rw [heq]
    exact ((comps_edges_iff' sp c hc f).1 hf).2

theorem comps_node_once (sp : LoopSpec es ns cs) :
    ∀ v, v ∈ ns → ExactlyOne cs (fun c => v ∈ c.nodes) := by
  intro v hv
  obtain ⟨c, hc, hvc⟩ := comps_cover sp v hv
  refine exactlyOne_of_pairwise ?_ hc hvc
  exact List.Pairwise.imp (fun {a b} hab hboth => hab v hboth.1 hboth.2) sp.disj

theorem comps_edge_once (sp : LoopSpec es ns cs) (hE : ∀ e, e ∈ es → e.1 ∈ ns ∧ e.2 ∈ ns) :
    ∀ e, e ∈ es → ExactlyOne cs (fun c => HasEdge c.edges e) := by
  intro e he
  obtain ⟨c, hc, hec⟩ := comps_edge_cover sp hE e he
  refine exactlyOne_of_pairwise ?_ hc ⟨e, hec, Or.inl rfl⟩
  refine List.Pairwise.imp_of_mem (fun {a b} ha hb hab hboth => ?_) sp.disj
  exact hab e.1 (comps_hasEdge_src sp ha hboth.1) (comps_hasEdge_src sp hb hboth.2)

theorem getConnComps_compsSpec (h : getConnComps ns es = some cs)
    (hE : ∀ e, e ∈ es → e.1 ∈ ns ∧ e.2 ∈ ns) : CompsSpec ns es cs :=
  have sp := comps_spec h hE
  { node_once := comps_node_once sp
    nodes_sub := fun c hc => ⟨comps_nonempty sp c hc, comps_subset sp c hc⟩
    edge_once := comps_edge_once sp hE
    edges_sub := fun c hc f hf =>
      ⟨⟨f, ((comps_edges_iff sp c hc f).1 hf).1, Or.inl rfl⟩,
        ((comps_edges_iff sp c hc f).1 hf).2, ((comps_edges_iff' sp c hc f).1 hf).2⟩
    connected := comps_connected sp
    no_cross := comps_closed sp }

end

end AdaptaVerif.Lemmas.PeelComps
