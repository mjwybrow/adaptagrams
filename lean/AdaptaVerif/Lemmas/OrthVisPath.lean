/-
Lemmas about `Model/OrthVis.lean`: the graph as a whole.  Every candidate segment of a sweep lies on a line of the
model (`rawH_on_hline`, `rawV_on_vline`); hence every live connector end point lies on a horizontal line, and where its
flags allow on a vertical line, that extend as far as no box blocks; a connector end point vertex on a line of the
model is the vertex of a live end point lying on that line; the edges of the graph are the edges of its lines, each
running towards a larger coordinate and clear on its closed segment (`graph_edge_closed`); paths along a row (`HPath`),
along a column (`VPath`), routes walking edges in either direction (`UPath`).
-/
import AdaptaVerif.Lemmas.OrthVisLines
import AdaptaVerif.Lemmas.OrthVisEdges

namespace AdaptaVerif.Lemmas.OrthVis
open AdaptaVerif.Model.OrthVis

theorem rawH_on_hline (s : Scene) {r : Seg} (hr : r ∈ rawH s.lo s.hi s.rects s.fixDirs) :
    ∃ p ∈ s.lines.hs, p.1.p = r.p ∧ p.1.b ≤ r.b ∧ r.f ≤ p.1.f ∧ ∀ q ∈ r.vs, q ∈ p.2 := by
  obtain ⟨m, hm, hp, hb, hf, hvs⟩ := mergeAll_covers _ _ hr
  exact ⟨(m, hVerts s.lo s.hi (vSegs s) m), mem_lines_hs.mpr ⟨hm, rfl⟩, hp, hb, hf,
    fun q hq => mem_hVerts_of_mem _ _ _ _ (hvs q hq)⟩

theorem rawV_on_vline (s : Scene) {r : Seg}
    (hr : r ∈ rawV s.lo s.hi (s.rects.map Rect.tr) (s.fixDirs.map Conn.tr)) :
    ∃ p ∈ s.lines.vs, p.1.p = r.p ∧ p.1.b ≤ r.b ∧ r.f ≤ p.1.f := by
  obtain ⟨m, hm, hp, hb, hf, _⟩ := mergeAll_covers _ _ hr
  exact ⟨(m, vVerts s.lo s.hi s.lines.hs m), mem_lines_vs.mpr ⟨hm, rfl⟩, hp, hb, hf⟩

theorem side_mem_rawH {lo hi : Rat} {rects : List Rect} {conns : List Conn} {i : Nat} {v : Rect}
    (hv : rects[i]? = some v) {y : Rat} (hy : y = v.y0 ∨ y = v.y1) {r : Seg}
    (hr : r ∈ sideSegsH lo hi rects i v y) : r ∈ rawH lo hi rects conns :=
  List.mem_append_left _ (List.mem_flatMap.mpr ⟨(v, i), List.mem_zipIdx_iff_getElem?.mpr hv,
    hy.elim (fun e => List.mem_append_left _ (e ▸ hr)) fun e => List.mem_append_right _ (e ▸ hr)⟩)

theorem conn_mem_rawH {lo hi : Rat} {rects : List Rect} {conns : List Conn} {i : Nat} {c : Conn}
    (hc : conns[i]? = some c) (hl : c.d.none = false) : connSegH lo hi rects i c ∈ rawH lo hi rects conns :=
  List.mem_append_right _ (List.mem_map.mpr
    ⟨(c, i), List.mem_filter.mpr ⟨List.mem_zipIdx_iff_getElem?.mpr hc, by simp [hl]⟩, rfl⟩)

theorem endpoint_on_hline (s : Scene) (i : Nat) (c : Conn) (hc : s.fixDirs[i]? = some c) (hl : c.d.none = false) :
    ∃ p ∈ s.lines.hs, p.1.p = c.y ∧ (⟨c.x, .conn i⟩ : LV) ∈ p.2 ∧ p.1.b ≤ c.x ∧ c.x ≤ p.1.f ∧
      (c.d.left = true → p.1.b ≤ firstAbove s.lo (activeAt s.rects c.y) c.x c.y) ∧
      (c.d.right = true → firstBelow s.hi (activeAt s.rects c.y) c.x c.y ≤ p.1.f) := by
  obtain ⟨p, hp, yp, hb, hf, hvs⟩ := rawH_on_hline s (conn_mem_rawH hc hl)
  exact ⟨p, hp, yp, hvs _ List.mem_cons_self, le_trans hb segBegin_le.1, le_trans le_segFinish.1 hf,
    fun hleft => le_trans hb (segBegin_le.2 hleft), fun hright => le_trans (le_segFinish.2 hright) hf⟩

theorem connSegV_on_vline (s : Scene) {i : Nat} {c : Conn} (hc : s.fixDirs[i]? = some c) (hl : c.d.none = false) {r : Seg}
    (hr : r ∈ connSegsV s.lo s.hi (s.rects.map Rect.tr) c.tr) (hrp : r.p = c.x) (hrb : r.b ≤ c.y) (hrf : c.y ≤ r.f) :
    ∃ p ∈ s.lines.vs, p.1.p = c.x ∧ (⟨c.y, .conn i⟩ : LV) ∈ p.2 ∧ p.1.b ≤ r.b ∧ r.f ≤ p.1.f := by
  have hraw : r ∈ rawV s.lo s.hi (s.rects.map Rect.tr) (s.fixDirs.map Conn.tr) :=
    List.mem_append_right _ (List.mem_flatMap.mpr ⟨c.tr, List.mem_filter.mpr
      ⟨List.mem_map_of_mem (List.mem_of_getElem? hc), by simp [Conn.tr, Dirs.tr_none, hl]⟩, hr⟩)
  obtain ⟨p, hp, xp, hb, hf⟩ := rawV_on_vline s hraw
  obtain ⟨ph, hph, hy, hvx, hb', hf', _, _⟩ := endpoint_on_hline s i c hc hl
  have hpx : p.1.p = c.x := xp.trans hrp
  refine ⟨p, hp, hpx, vline_receives hp hph (mem_vFrom.mpr ⟨?_, hy.symm, hpx ▸ hvx⟩), hb, hf⟩
  rw [crosses_iff, hy, hpx]
  exact ⟨le_trans hb hrb, le_trans hrf hf, hb', hf'⟩

theorem row_contains (s : Scene) (i : Nat) (A : Conn) (hA : s.fixDirs[i]? = some A) (hl : A.d.none = false) (X : Rat)
    (hX : s.lo ≤ X ∧ X ≤ s.hi) (hf : (A.x < X → A.d.right = true) ∧ (X < A.x → A.d.left = true))
    (hwf : ∀ R ∈ s.rects, R.x0 < R.x1)
    (hrow : ∀ R ∈ s.rects, R.y0 < A.y → A.y < R.y1 → (R.x1 ≤ A.x ∧ R.x1 ≤ X) ∨ (A.x ≤ R.x0 ∧ X ≤ R.x0)) :
    ∃ p ∈ s.lines.hs, p.1.p = A.y ∧ (⟨A.x, .conn i⟩ : LV) ∈ p.2 ∧ p.1.b ≤ X ∧ X ≤ p.1.f := by
  obtain ⟨p, hp, yA, vA, bA, fA, lA, rA⟩ := endpoint_on_hline s i A hA hl
  -- a box with an interior cannot lie on the far side of `A` and on the near side of `X`
  have nar : ∀ {R : Rect}, R ∈ s.rects → ∀ {a b : Rat}, R.x1 ≤ a → b ≤ R.x0 → a ≤ b → False := fun hR _ _ h1 h2 h3 =>
    lt_irrefl _ (lt_of_lt_of_le (hwf _ hR) (le_trans h1 (le_trans h3 h2)))
  refine ⟨p, hp, yA, vA, ?_⟩
  rcases lt_trichotomy A.x X with h | h | h
  · exact ⟨le_trans bA (le_of_lt h), le_trans (le_firstBelow hX.2 fun R hR h0 h1 hge =>
      (hrow R hR h0 h1).elim (fun hc => (nar hR hc.1 hge (le_refl _)).elim) And.right) (rA (hf.1 h))⟩
  · exact h ▸ ⟨bA, fA⟩
  · exact ⟨le_trans (lA (hf.2 h)) (firstAbove_le hX.1 fun R hR h0 h1 hle =>
      (hrow R hR h0 h1).elim And.right fun hc => (nar hR hle hc.1 (le_refl _)).elim), le_trans (le_of_lt h) fA⟩

/-- `Y ≠ B.y`: the horizontal sweep gives an end point a segment only in a direction in which it may be left and has room
    (`connSegsV`), the vertical sweep always (`connSegH`) -/
theorem column_contains (s : Scene) (j : Nat) (B : Conn) (hB : s.fixDirs[j]? = some B) (Y : Rat)
    (hY : s.lo ≤ Y ∧ Y ≤ s.hi) (hf : (Y < B.y → B.d.up = true) ∧ (B.y < Y → B.d.down = true)) (hne : Y ≠ B.y)
    (hwf : ∀ R ∈ s.rects, R.y0 < R.y1)
    (hcol : ∀ R ∈ s.rects, R.x0 < B.x → B.x < R.x1 → (R.y1 ≤ Y ∧ R.y1 ≤ B.y) ∨ (Y ≤ R.y0 ∧ B.y ≤ R.y0)) :
    ∃ p ∈ s.lines.vs, p.1.p = B.x ∧ (⟨B.y, .conn j⟩ : LV) ∈ p.2 ∧ p.1.b ≤ Y ∧ Y ≤ p.1.f := by
  have nar : ∀ {R : Rect}, R ∈ s.rects → ∀ {a b : Rat}, R.y1 ≤ a → b ≤ R.y0 → a ≤ b → False := fun hR _ _ h1 h2 h3 =>
    lt_irrefl _ (lt_of_lt_of_le (hwf _ hR) (le_trans h1 (le_trans h3 h2)))
  rcases lt_or_gt_of_ne hne with h | h
  · have hroom : firstAbove s.lo (activeAt (s.rects.map Rect.tr) B.x) B.y B.x ≤ Y := by
      refine firstAbove_le hY.1 fun R' hR' h0 h1 hle => ?_
      obtain ⟨R, hR, rfl⟩ := List.mem_map.mp hR'
      exact (hcol R hR h0 h1).elim And.left fun hc => (nar hR hle hc.2 (le_refl _)).elim
    obtain ⟨p, hp, xv, vB, bv, fv⟩ := connSegV_on_vline s hB (by simp [Dirs.none, hf.1 h])
      (mem_connSegsV_above (c := B.tr) (hf.1 h) (lt_of_le_of_lt hroom h)) rfl (le_of_lt (lt_of_le_of_lt hroom h)) (le_refl _)
    exact ⟨p, hp, xv, vB, le_trans bv hroom, le_trans (le_of_lt h) fv⟩
  · have hroom : Y ≤ firstBelow s.hi (activeAt (s.rects.map Rect.tr) B.x) B.y B.x := by
      refine le_firstBelow hY.2 fun R' hR' h0 h1 hge => ?_
      obtain ⟨R, hR, rfl⟩ := List.mem_map.mp hR'
      exact (hcol R hR h0 h1).elim (fun hc => (nar hR hc.2 hge (le_refl _)).elim) And.left
    obtain ⟨p, hp, xv, vB, bv, fv⟩ := connSegV_on_vline s hB (by simp [Dirs.none, hf.2 h])
      (mem_connSegsV_below (c := B.tr) (hf.2 h) (lt_of_lt_of_le h hroom)) rfl (le_refl _) (le_of_lt (lt_of_lt_of_le h hroom))
    exact ⟨p, hp, xv, vB, le_trans bv (le_of_lt h), le_trans hroom fv⟩

theorem conn_vertex_provenance (s : Scene) (p : Seg × List LV) (hp : p ∈ s.lines.hs) (t : Rat) (k : Nat)
    (hq : (⟨t, .conn k⟩ : LV) ∈ p.2) : ∃ c, s.fixDirs[k]? = some c ∧ c.x = t ∧ c.y = p.1.p := by
  obtain ⟨hm, e⟩ := mem_lines_hs.mp hp
  rw [e] at hq
  -- the crossing phase only adds dummy vertices
  have hin : (⟨t, .conn k⟩ : LV) ∈ p.1.vs := (mem_hVerts hq).resolve_right fun h => VK.noConfusion h.1
  obtain ⟨r, hr, hrp, hrq⟩ := mergeAll_vs_from_raw _ p.1 hm _ hin
  rcases List.mem_append.mp hr with hr | hr
  · -- rectangle sides carry dummy vertices only
    obtain ⟨⟨v, i⟩, _, hr⟩ := List.mem_flatMap.mp hr
    have hside : ∀ y, r ∈ sideSegsH s.lo s.hi s.rects i v y → False := by
      intro y hr
      rcases mem_sideSegsH rfl hr with ⟨_, rfl⟩ | ⟨_, _, rfl⟩ | ⟨_, _, rfl⟩ <;> simp at hrq
    exact ((List.mem_append.mp hr).elim (hside _) (hside _)).elim
  · obtain ⟨⟨c, i⟩, hci, rfl⟩ := List.mem_map.mp hr
    have hget := List.mem_zipIdx_iff_getElem?.mp (List.mem_filter.mp hci).1
    rcases List.mem_cons.mp hrq with h | h
    · injection h with h1 h2
      injection h2 with h3
      subst h3
      exact ⟨c, hget, h1.symm, hrp⟩
    · split at h <;> simp at h

theorem conn_vertex_provenance_v (s : Scene) (p : Seg × List LV) (hp : p ∈ s.lines.vs) (t : Rat) (k : Nat)
    (hq : (⟨t, .conn k⟩ : LV) ∈ p.2) : ∃ c, s.fixDirs[k]? = some c ∧ c.x = p.1.p ∧ c.y = t := by
  obtain ⟨_, e⟩ := mem_lines_vs.mp hp
  rw [e] at hq
  rcases mem_vVerts hq with ⟨ph, hph, hq⟩ | h | h
  · obtain ⟨_, e1, hq1⟩ := mem_vFrom.mp hq
    obtain ⟨c, hc, ex, ey⟩ := conn_vertex_provenance s ph hph p.1.p k hq1
    exact ⟨c, hc, ex, ey.trans e1.symm⟩
  · cases h
  · cases h

theorem hline_dummies (s : Scene) (p : Seg × List LV) (hp : p ∈ s.lines.hs) (dirs : VK → Bool × Bool) (Q : Rat → Prop)
    (hothers : ∀ (k : Nat) (c : Conn), s.fixDirs[k]? = some c → c.y = p.1.p → Q c.x → False) :
    ∀ c ∈ toBPs dirs p.2, Q c.t → c.k.isConn = false := by
  intro c hc hQ
  cases hk : c.k with
  | node => rfl
  | conn k =>
    obtain ⟨c', hc', ex, ey⟩ := conn_vertex_provenance s p hp c.t k (hk ▸ (mem_toBPs hc).1)
    exact (hothers k c' hc' ey (ex ▸ hQ)).elim

theorem vline_dummies (s : Scene) (p : Seg × List LV) (hp : p ∈ s.lines.vs) (dirs : VK → Bool × Bool) (Q : Rat → Prop)
    (hothers : ∀ (k : Nat) (c : Conn), s.fixDirs[k]? = some c → c.x = p.1.p → Q c.y → False) :
    ∀ c ∈ toBPs dirs p.2, Q c.t → c.k.isConn = false := by
  intro c hc hQ
  cases hk : c.k with
  | node => rfl
  | conn k =>
    obtain ⟨c', hc', ex, ey⟩ := conn_vertex_provenance_v s p hp c.t k (hk ▸ (mem_toBPs hc).1)
    exact (hothers k c' hc' ex (ey ▸ hQ)).elim

theorem hedge_mem_graph {s : Scene} {h : Seg} {vs : List LV} (hl : (h, vs) ∈ s.lines.hs) {a b : BP}
    (he : (a, b) ∈ lineEdges (toBPs (dirsX s.fixDirs) vs)) :
    ((⟨a.t, h.p, a.k⟩, ⟨b.t, h.p, b.k⟩) : GV × GV) ∈ s.graph :=
  List.mem_append_left _ (List.mem_flatMap.mpr ⟨(h, vs), hl, List.mem_map.mpr ⟨(a, b), he, rfl⟩⟩)

theorem vedge_mem_graph {s : Scene} {v : Seg} {vs : List LV} (hl : (v, vs) ∈ s.lines.vs) {a b : BP}
    (he : (a, b) ∈ lineEdges (toBPs (dirsY s.fixDirs) vs)) :
    ((⟨v.p, a.t, a.k⟩, ⟨v.p, b.t, b.k⟩) : GV × GV) ∈ s.graph :=
  List.mem_append_right _ (List.mem_flatMap.mpr ⟨(v, vs), hl, List.mem_map.mpr ⟨(a, b), he, rfl⟩⟩)

theorem mem_graph {s : Scene} {e : GV × GV} (he : e ∈ s.graph) :
    (∃ p ∈ s.lines.hs, ∃ ab ∈ lineEdges (toBPs (dirsX s.fixDirs) p.2),
      e = (⟨ab.1.t, p.1.p, ab.1.k⟩, ⟨ab.2.t, p.1.p, ab.2.k⟩)) ∨
    (∃ p ∈ s.lines.vs, ∃ ab ∈ lineEdges (toBPs (dirsY s.fixDirs) p.2),
      e = (⟨p.1.p, ab.1.t, ab.1.k⟩, ⟨p.1.p, ab.2.t, ab.2.k⟩)) := by
  rcases List.mem_append.mp he with he | he
  · obtain ⟨p, hp, he⟩ := List.mem_flatMap.mp he
    obtain ⟨ab, hab, rfl⟩ := List.mem_map.mp he
    exact Or.inl ⟨p, hp, ab, hab, rfl⟩
  · obtain ⟨p, hp, he⟩ := List.mem_flatMap.mp he
    obtain ⟨ab, hab, rfl⟩ := List.mem_map.mp he
    exact Or.inr ⟨p, hp, ab, hab, rfl⟩

theorem graph_edge_closed (s : Scene) : ∀ e ∈ s.graph,
    (e.1.y = e.2.y ∧ e.1.x < e.2.x ∧
      ∀ R ∈ s.rects, ∀ t, e.1.x ≤ t → t ≤ e.2.x → StrictIn R t e.1.y → HasConnIn s.conns R) ∨
    (e.1.x = e.2.x ∧ e.1.y < e.2.y ∧
      ∀ R ∈ s.rects, ∀ t, e.1.y ≤ t → t ≤ e.2.y → StrictIn R e.1.x t → HasConnIn s.conns R) := by
  intro e he
  rcases mem_graph he with ⟨p, hp, ab, hab, rfl⟩ | ⟨p, hp, ab, hab, rfl⟩
  · obtain ⟨g, hr⟩ := hLines_good s p hp
    obtain ⟨h1, h2, h3⟩ := lineEdge_within hr hab
    exact Or.inl ⟨rfl, h2, fun R hR t a b hin => g.blocked.clear hR (le_trans h1 a) (le_trans b h3) hin⟩
  · obtain ⟨g, hr⟩ := vLines_good s p hp
    obtain ⟨h1, h2, h3⟩ := lineEdge_within hr hab
    -- the box is named: the result speaks of `R.tr.tr`, which is `R`, and with the box left open Lean compares
    -- `HasConnIn s.conns R` with `HasConnIn s.conns (Rect.tr _)` by unfolding both down to the integers
    exact Or.inr ⟨rfl, h2, fun R hR t a b hin => g.blocked.clear (R := R.tr) (List.mem_map_of_mem hR)
      (le_trans h1 a) (le_trans b h3) ((StrictIn_tr R t p.1.p).mpr hin)⟩

inductive HPath (G : List (GV × GV)) (y : Rat) : GV → GV → Prop
  | refl (u : GV) : u.y = y → HPath G y u u
  | step {u w v : GV} : (u, w) ∈ G → u.y = y → HPath G y w v → HPath G y u v

theorem HPath_of_reach (s : Scene) (h : Seg) (vs : List LV) (hl : (h, vs) ∈ s.lines.hs) {a b : BP}
    (hr : Reach (lineEdges (toBPs (dirsX s.fixDirs) vs)) a b) :
    HPath s.graph h.p ⟨a.t, h.p, a.k⟩ ⟨b.t, h.p, b.k⟩ := by
  induction hr with
  | refl a => exact HPath.refl _ rfl
  | step he _ ih => exact HPath.step (hedge_mem_graph hl he) rfl ih

inductive VPath (G : List (GV × GV)) (x : Rat) : GV → GV → Prop
  | refl (u : GV) : u.x = x → VPath G x u u
  | step {u w v : GV} : (u, w) ∈ G → u.x = x → VPath G x w v → VPath G x u v

theorem VPath_of_reach (s : Scene) (v : Seg) (vs : List LV) (hl : (v, vs) ∈ s.lines.vs) {a b : BP}
    (hr : Reach (lineEdges (toBPs (dirsY s.fixDirs) vs)) a b) :
    VPath s.graph v.p ⟨v.p, a.t, a.k⟩ ⟨v.p, b.t, b.k⟩ := by
  induction hr with
  | refl a => exact VPath.refl _ rfl
  | step he _ ih => exact VPath.step (vedge_mem_graph hl he) rfl ih

/-- a route in the graph: edges may be walked in either direction -/
inductive UPath (G : List (GV × GV)) : GV → GV → Prop
  | refl (u : GV) : UPath G u u
  | step {u w v : GV} : ((u, w) ∈ G ∨ (w, u) ∈ G) → UPath G w v → UPath G u v

theorem UPath.trans {G : List (GV × GV)} {u v w : GV} (h1 : UPath G u v) (h2 : UPath G v w) : UPath G u w := by
  induction h1 with
  | refl _ => exact h2
  | step he _ ih => exact UPath.step he (ih h2)

theorem UPath.symm {G : List (GV × GV)} {u v : GV} (h : UPath G u v) : UPath G v u := by
  induction h with
  | refl _ => exact UPath.refl _
  | step he _ ih => exact ih.trans (UPath.step he.symm (UPath.refl _))

theorem UPath.of_HPath {G : List (GV × GV)} {y : Rat} {u v : GV} (h : HPath G y u v) : UPath G u v := by
  induction h with
  | refl u _ => exact UPath.refl u
  | step he _ _ ih => exact UPath.step (Or.inl he) ih

theorem UPath.of_VPath {G : List (GV × GV)} {x : Rat} {u v : GV} (h : VPath G x u v) : UPath G u v := by
  induction h with
  | refl u _ => exact UPath.refl u
  | step he _ _ ih => exact UPath.step (Or.inl he) ih

/- A closed scene.  Box [2,4]×[5,7] with the end points (0,3) and (6,9), all directions allowed (`demoScene3` of `Props/C05OrthVis.lean`):
its row y = 3 and its column x = 6, computed once for the instances given there. -/

theorem demo_row_mem :
    ((⟨-1, 10, 3, [⟨0, .conn 0⟩, ⟨0, .node⟩]⟩,
      [⟨0, .conn 0⟩, ⟨0, .node⟩, ⟨2, .node⟩, ⟨4, .node⟩, ⟨6, .node⟩]) : Seg × List LV) ∈
      (⟨[⟨2, 5, 4, 7⟩], [⟨0, 3, ⟨true, true, true, true⟩⟩, ⟨6, 9, ⟨true, true, true, true⟩⟩]⟩ : Scene).lines.hs :=
  List.mem_of_getElem? (i := 2) (by decide +kernel)

theorem demo_col_mem :
    ((⟨-1, 10, 6, []⟩, [⟨5, .node⟩, ⟨7, .node⟩, ⟨3, .node⟩, ⟨9, .conn 1⟩, ⟨9, .node⟩]) : Seg × List LV) ∈
      (⟨[⟨2, 5, 4, 7⟩], [⟨0, 3, ⟨true, true, true, true⟩⟩, ⟨6, 9, ⟨true, true, true, true⟩⟩]⟩ : Scene).lines.vs :=
  List.mem_of_getElem? (i := 3) (by decide +kernel)

end AdaptaVerif.Lemmas.OrthVis
