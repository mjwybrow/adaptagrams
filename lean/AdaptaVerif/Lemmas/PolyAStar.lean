/-
The polyline A* problem (Model/PolyAStar.lean): its successors, and consistency of the heuristic from the
per-graph check.
-/
import AdaptaVerif.Model.PolyAStar
import AdaptaVerif.Lemmas.AStarOpt
import Mathlib.Tactic.Linarith
namespace AdaptaVerif.Lemmas.PolyAStar
open AdaptaVerif.Model.AStar AdaptaVerif.Model.PolyAStar

theorem succOf_some (g : PolyGraph) (pv : Option Nat) (v : Nat) (wd : Nat × Rat) (s : Succ)
    (h : succOf g pv v wd = some s) :
    s.w = wd.1 ∧ s.h = hOf g wd.1 ∧ pv ≠ some wd.1 ∧ (g.corner wd.1 = true ∨ wd.1 = g.tar) ∧
    (match pv with
      | none => s.c = wd.2
      | some p => g.S.ok p v wd.1 = true ∧ s.c = wd.2 + g.S.pen * (g.S.bend p v wd.1 : Nat)) := by
  unfold succOf at h
  extract_lets w at h
  by_cases h1 : pv = some w
  · rw [if_pos h1] at h; cases h
  rw [if_neg h1] at h
  by_cases h2 : (!g.corner w && decide (w ≠ g.tar)) = true
  · rw [if_pos h2] at h; cases h
  rw [if_neg h2] at h
  have hc : g.corner w = true ∨ w = g.tar := by
    by_cases hk : g.corner w = true
    · exact Or.inl hk
    · exact Or.inr (by_contra fun hne => h2 (by simp [hk, hne]))
  by_cases h3 : wd.2 = 0
  · rw [if_pos h3] at h; cases h
  rw [if_neg h3] at h
  cases pv with
  | none => cases h; exact ⟨rfl, rfl, h1, hc, rfl⟩
  | some p =>
    by_cases h4 : (!g.S.ok p v w) = true
    · simp only [h4, if_true] at h; cases h
    · simp only [h4] at h
      cases h
      exact ⟨rfl, rfl, h1, hc, by simpa using h4, rfl⟩

theorem mem_succs (g : PolyGraph) (pv : Option Nat) (v : Nat) (s : Succ)
    (h : some s ∈ (problem g).succs pv v) :
    ∃ wd ∈ g.adj.getD v [], succOf g pv v wd = some s := by
  simp only [problem, List.mem_map] at h
  obtain ⟨wd, hwd, he⟩ := h
  exact ⟨wd, hwd, he⟩

theorem consistent_spec (g : PolyGraph) (hc : consistent g = true) (v : Nat) (wd : Nat × Rat)
    (hwd : wd ∈ g.adj.getD v []) : hOf g v ≤ wd.2 + hOf g wd.1 := by
  by_cases hv : v < g.adj.size
  · unfold consistent at hc
    have := List.all_eq_true.mp hc v (List.mem_range.mpr hv)
    have := List.all_eq_true.mp this wd hwd
    simpa using this
  · have : g.adj.getD v [] = [] := by
      simp [Array.getD, hv]
    rw [this] at hwd
    cases hwd

end AdaptaVerif.Lemmas.PolyAStar
