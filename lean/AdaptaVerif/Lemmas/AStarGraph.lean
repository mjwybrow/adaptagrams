/-
The orthogonal router's problem (`Model/AStar.lean` part 2) satisfies the hypotheses of
`AStarOpt.search_optimal` on every graph on which the decidable check `Graph.consistent` (part 3)
succeeds: the check is sound.  Also: switching the turn pruning off only adds edges to the state graph, and
`Graph.fuel` in the form in which a run on a dumped graph is evaluated.
-/
import AdaptaVerif.Lemmas.AStarOpt
import AdaptaVerif.Lemmas.Util.InsertionSort
import AdaptaVerif.Lemmas.Util.List
namespace AdaptaVerif.Lemmas.AStarGraph
open AdaptaVerif.Model.AStar AdaptaVerif.Lemmas.AStarSpec AdaptaVerif.Lemmas.AStarOpt

theorem insertByKey_isInsert (key : Edge → Nat) : Util.IsInsert (fun e a => key e < key a) (insertByKey key) :=
  ⟨fun _ => rfl, fun _ _ _ => rfl⟩

theorem mem_sortEdges (key : Edge → Nat) (x : Edge) (l : List Edge) : x ∈ sortEdges key l ↔ x ∈ l :=
  ((insertByKey_isInsert key).foldl_perm l).mem_iff

theorem succs_edge {g : Graph} {pv : Option Nat} {v : Nat} {s : Succ} (h : some s ∈ g.succs pv v) :
    ∃ e ∈ g.adj.getD v [], edgeSucc g pv v e = some s := by
  unfold Graph.succs at h
  rw [List.mem_map] at h
  obtain ⟨e, he, hs⟩ := h
  exact ⟨e, (mem_sortEdges _ _ _).1 he, hs⟩

open AdaptaVerif.Lemmas.Util in
theorem edgeSucc_spec {g : Graph} {pv : Option Nat} {v : Nat} {e : Edge} {s : Succ}
    (h : edgeSucc g pv v e = some s) : s.w = e.to ∧ s.h = g.Hfun e.to (some v) := by
  unfold edgeSucc at h
  extract_lets w atCostTarget hh at h
  have hn : ∀ s ∈ (none : Option Succ), s.w = e.to ∧ s.h = g.Hfun e.to (some v) := forall_mem_none
  refine forall_mem_ite hn (forall_mem_ite hn (forall_mem_ite hn (forall_mem_ite hn ?_))) s h
  intro s hs
  by_cases hz : atCostTarget = true ∧ w = g.tar
  · rw [if_pos hz] at hs; cases hs; exact ⟨rfl, (if_pos hz.2).symm⟩
  · rw [if_neg hz] at hs; cases hs; exact ⟨rfl, rfl⟩

def Legit (g : Graph) (pv : Option Nat) (v : Nat) : Prop := (pv, v) ∈ g.states

theorem legit_start (g : Graph) : Legit g none g.src := by
  unfold Legit Graph.states; simp

theorem legit_step (g : Graph) (pv : Option Nat) (v : Nat) (s : Succ)
    (hs : some s ∈ g.succs pv v) : Legit g (some v) s.w := by
  obtain ⟨e, he, hes⟩ := succs_edge hs
  have hw := (edgeSucc_spec hes).1
  have hv : v < g.adj.size := by
    rcases Nat.lt_or_ge v g.adj.size with hlt | hge
    · exact hlt
    · have : g.adj.getD v [] = [] := by
        simp [Array.getD, Nat.not_lt.2 hge]
      rw [this] at he; simp at he
  unfold Legit Graph.states
  refine List.mem_cons_of_mem _ ?_
  rw [List.mem_flatMap]
  refine ⟨v, List.mem_range.2 hv, ?_⟩
  rw [List.mem_map]
  exact ⟨e, he, by rw [hw]⟩

theorem bonus_nonneg (g : Graph) (h : (costTargets g).all (fun ct => decide (0 ≤ ct.2.2)) = true) (v : Nat) :
    0 ≤ g.bonus v := by
  unfold Graph.bonus
  split
  · rename_i ct hf
    have hm := List.mem_of_find?_eq_some hf
    have := (List.all_eq_true.1 h) ct hm
    simpa using this
  · exact Rat.le_refl

theorem graph_search_optimal (g : Graph) (hc : g.consistent = true) (heps : g.eps = 0)
    (fuel : Nat) (b : Node) (done : List Node)
    (h : search g.problem fuel (init g.problem) = .found b done) :
    ∀ u c path, Reach g.problem g.tar (some u) c path → g.tar ∉ path.tail →
      b.g + bonusOf g.bonus b.pv ≤ c + g.bonus u := by
  unfold Graph.consistent at hc
  simp only [Bool.and_eq_true, decide_eq_true_eq] at hc
  obtain ⟨⟨hst, hbn⟩, hall⟩ := hc
  have hat : ∀ pv v, Legit g pv v → ∀ s, some s ∈ g.succs pv v →
      (if s.w ≠ g.tar then decide (g.Hfun v pv ≤ s.c + g.Hfun s.w (some v))
       else decide (g.Hfun v pv ≤ s.c + g.bonus v) &&
            (decide (g.bonus v = 0) || decide (g.Hfun v pv = s.c + g.bonus v))) = true := by
    intro pv v hl s hs
    have h1 := (List.all_eq_true.1 hall) (pv, v) hl
    unfold Graph.consistentAt at h1
    exact (List.all_eq_true.1 h1) (some s) hs
  refine search_optimal g.problem g.Hfun g.bonus (Legit g) heps hst (legit_start g)
    (fun pv v s _ hs => legit_step g pv v s hs) ?_ ?_ ?_ (bonus_nonneg g hbn) ?_ ?_ fuel b done h
  · show (estimatedCost g none (g.pt g.src)).getD 0 = g.Hfun g.src none
    have : g.src ≠ g.tar := hst
    simp [Graph.Hfun, this]
  · intro pv v s _ hs
    obtain ⟨e, _, hes⟩ := succs_edge hs
    obtain ⟨hw, hh⟩ := edgeSucc_spec hes
    rw [hh, hw]
  · intro pv; show g.Hfun g.tar pv = 0; simp [Graph.Hfun]
  · intro pv v s hl hs hw
    have := hat pv v hl s hs
    have hw' : s.w ≠ g.tar := hw
    rw [if_pos hw'] at this
    simpa using this
  · intro pv v s hl hs hw
    have := hat pv v hl s hs
    have hw' : ¬ s.w ≠ g.tar := fun hn => hn hw
    rw [if_neg hw'] at this
    simp only [Bool.and_eq_true, Bool.or_eq_true, decide_eq_true_eq] at this
    exact this

theorem edgeSucc_unpruned {g : Graph} {pv : Option Nat} {v : Nat} {e : Edge} {s : Succ}
    (h : edgeSucc g pv v e = some s) : edgeSucc { g with prune := false } pv v e = some s := by
  unfold edgeSucc at h ⊢
  simp only [Bool.false_eq_true, false_and, if_false] at h ⊢
  by_cases h1 : pv = some e.to
  · rw [if_pos h1] at h; cases h
  rw [if_neg h1] at h ⊢
  by_cases h2 : g.connPt.getD e.to false = true ∧ e.to ≠ g.tar
  · rw [if_pos h2] at h; cases h
  rw [if_neg h2] at h ⊢
  by_cases h3 : g.prune = true ∧ ¬e.dummy = true ∧ prunedAsCoded g pv v e.to = true
  · rw [if_pos h3] at h; cases h
  rw [if_neg h3] at h
  exact h

theorem reach_unpruned {g : Graph} {v : Nat} {pv : Option Nat} {c : Rat} {path : List Nat}
    (h : Reach g.problem v pv c path) : Reach ({ g with prune := false }).problem v pv c path := by
  induction h with
  | start => exact Reach.start
  | step s _ hs ih =>
    obtain ⟨e, he, hes⟩ := List.mem_map.1 hs
    exact Reach.step s ih (List.mem_map.2 ⟨e, he, edgeSucc_unpruned hes⟩)

theorem run_route_unpruned (g : Graph) (c : Rat) (chain : List Nat) (u : Nat)
    (h : (g.run.cost, g.run.chain) = (some c, chain)) (hu : chain.reverse.tail.head? = some u)
    (ht : g.tar ∉ chain.reverse.tail) :
    ∃ path, Reach ({ g with prune := false }).problem g.tar (some u) c path ∧ g.tar ∉ path.tail := by
  cases hr : g.run with
  | found b done =>
    rw [hr] at h
    obtain ⟨hg, hch⟩ := Prod.mk.inj h
    obtain ⟨hbt, _, hreach⟩ := AStarSound.search_sound g.problem g.fuel b done hr
    have hp : pathOf done done.length b = chain.reverse := by
      rw [← hch]; exact (List.reverse_reverse _).symm
    rw [hp] at hreach
    have hpv := reach_pv hreach
    rw [hu] at hpv
    have := reach_unpruned hreach
    rw [← hpv, Option.some.inj hg, show b.v = g.tar from hbt] at this
    exact ⟨chain.reverse, this, ht⟩
  | noPath => rw [hr] at h; cases (Prod.mk.inj h).1
  | outOfFuel => rw [hr] at h; cases (Prod.mk.inj h).1

theorem foldl_len_sum {α : Type} : ∀ (xs : List (List α)) (a : Nat),
    xs.foldl (fun n l => n + l.length) a = a + (xs.map List.length).sum := by
  intro xs
  induction xs with
  | nil => intro a; simp
  | cons x xs ih =>
    intro a
    simp only [List.foldl_cons, ih, List.map_cons, List.sum_cons]
    omega

/-- The form in which a run on a dumped graph is evaluated: the kernel takes quadratic time for `Array.foldl` on an
    array literal, linear time for this sum. -/
theorem fuel_eq (g : Graph) : g.fuel = (g.adj.toList.map List.length).sum + 2 := by
  unfold Graph.fuel
  rw [← Array.foldl_toList, foldl_len_sum, Nat.zero_add]

end AdaptaVerif.Lemmas.AStarGraph
