/-
C17 — bridge for `johnsons(n, D, es, eweights)` of cola/libcola/shortest_paths.h as GENERATED into `Gen/JohnsonsK.lean`
(it CALLS the generated `dijkstra_init` and `dijkstra`; the node vector is reused for every source): with the model's
pairing heap and fuel `n`, the generated `johnsons` fills the matrix with the model's `johnsonsHeap g` (what
`johnsonsHeap_correct` is about) whatever it held before. `init_adj` (what `dijkstra_init` makes of fresh nodes) also
serves the top-level `dijkstra(s, n, d, es, eweights)` (Props/C17Tie).
-/
import AdaptaVerif.Gen.JohnsonsK
import AdaptaVerif.Lemmas.DijkstraBridge
namespace AdaptaVerif.Lemmas.JohnsonsBridge
open AdaptaVerif.Gen AdaptaVerif.Gen.JohnsonsK AdaptaVerif.Gen.KeysShortest
open AdaptaVerif.Model.ShortestPaths AdaptaVerif.Lemmas.GenLoopBridge
open AdaptaVerif.Lemmas.DijkstraBridge AdaptaVerif.Lemmas.Apsp AdaptaVerif.Spec.Apsp
open AdaptaVerif.Lemmas.ShortestPathsBridge

theorem init_adj_of_fresh (g : Graph) (hv : Valid g) (vs0 : Array NodeK) (hsz : vs0.size = g.n)
    (hfresh : ∀ u, (aget vs0 u).neighbours = [] ∧ (aget vs0 u).nweights = []) :
    AdjOf g.edges (AdaptaVerif.Gen.ShortestPathsK.dijkstra_init vs0 (esOf g.edges) (wsOf g.edges)) ∧
    (AdaptaVerif.Gen.ShortestPathsK.dijkstra_init vs0 (esOf g.edges) (wsOf g.edges)).size = g.n := by
  have h := dijkstra_init_fresh g.edges vs0 (fun e he => by rw [hsz]; exact ⟨(hv e he).1, (hv e he).2.1⟩) hfresh
  exact ⟨fun u => ⟨(h u).1, (h u).2.1⟩, (h 0).2.2.trans hsz⟩

theorem init_adj (g : Graph) (hv : Valid g) :
    AdjOf g.edges (AdaptaVerif.Gen.ShortestPathsK.dijkstra_init (Array.replicate g.n (default : NodeK)) (esOf g.edges) (wsOf g.edges)) ∧
    (AdaptaVerif.Gen.ShortestPathsK.dijkstra_init (Array.replicate g.n (default : NodeK)) (esOf g.edges) (wsOf g.edges)).size = g.n :=
  init_adj_of_fresh g hv _ Array.size_replicate (fresh_replicate g.n)

theorem johnsons_body1_spec (g : Graph) (hv : Valid g) (k : Nat) (hk : k < g.n) (st : Array (Array Dist) × Array NodeK)
    (hD : Mat.WF g.n st.1) (hadj : AdjOf g.edges st.2) (hsz : st.2.size = g.n) :
    let r := johnsons_body1 modelOps g.n k st
    Mat.WF g.n r.1 ∧ AdjOf g.edges r.2 ∧ r.2.size = g.n ∧ aget r.1 k = dijkstraHeap g k ∧
    (∀ j, j ≠ k → aget r.1 j = aget st.1 j) := by
  obtain ⟨D, vs⟩ := st
  have hkD : k < D.size := by rw [hD.1]; exact hk
  have hrow : (aget D k).size = g.n := by
    have : aget D k = D[k] := by simp [aget, hkD]
    rw [this]; exact hD.2 k _ (Array.getElem?_eq_getElem hkD)
  obtain ⟨_, e1, e2, e3⟩ := dijkstra_spec hv hk vs hadj hsz (aget D k) hrow
  unfold johnsons_body1
  simp only []
  refine ⟨?_, e2, e3, ?_, ?_⟩
  · refine ⟨by simp [aset, hD.1], ?_⟩
    intro i r hr
    simp only [aset, Array.getElem?_setIfInBounds] at hr
    by_cases hik : k = i
    · subst hik
      simp only [if_true, hkD] at hr
      injection hr with hr
      rw [← hr, e1]
      exact dijkstraHeap_size hv hk
    · simp only [hik, if_false] at hr
      exact hD.2 i r hr
  · rw [aget_aset_eq _ _ _ hkD]; exact e1
  · intro j hj
    exact aget_aset_ne _ _ _ _ (Ne.symm hj)

theorem johnsons_eq (g : Graph) (hv : Valid g) (D : Array (Array Dist)) (hD : Mat.WF g.n D) :
    AdaptaVerif.Gen.JohnsonsK.johnsons g.n D (esOf g.edges) (wsOf g.edges) modelOps g.n = johnsonsHeap g := by
  unfold AdaptaVerif.Gen.JohnsonsK.johnsons
  simp only []
  obtain ⟨h1, h2⟩ := init_adj g hv
  generalize AdaptaVerif.Gen.ShortestPathsK.dijkstra_init (Array.replicate g.n (default : NodeK)) (esOf g.edges) (wsOf g.edges) = vs1 at h1 h2
  have := forRange_zero_inv
    (fun k (st : Array (Array Dist) × Array NodeK) => Mat.WF g.n st.1 ∧ AdjOf g.edges st.2 ∧ st.2.size = g.n ∧
      ∀ j, j < k → aget st.1 j = dijkstraHeap g j)
    (johnsons_body1 modelOps g.n) g.n (D, vs1) ⟨hD, h1, h2, fun j hj => absurd hj (Nat.not_lt_zero _)⟩
    (by
      intro k st hk ⟨i1, i2, i3, i4⟩
      obtain ⟨b1, b2, b3, b4, b5⟩ := johnsons_body1_spec g hv k hk st i1 i2 i3
      refine ⟨b1, b2, b3, ?_⟩
      intro j hj
      by_cases hjk : j = k
      · subst hjk; exact b4
      · rw [b5 j hjk]; exact i4 j (Nat.lt_of_le_of_ne (Nat.le_of_lt_succ hj) hjk))
  obtain ⟨w1, _, _, w4⟩ := this
  generalize (forRange (johnsons_body1 modelOps g.n) (g.n - 0) 0 (D, vs1)).1 = R at w1 w4 ⊢
  unfold johnsonsHeap
  apply Array.ext
  · simp [w1.1]
  · intro i hi1 hi2
    have e : aget R i = R[i] := by simp [aget, hi1]
    rw [← e, w4 i (by rw [← w1.1]; exact hi1)]
    simp

end AdaptaVerif.Lemmas.JohnsonsBridge
