/-
The BendConstraints of `topology::TopologyConstraints` (Model/TopoCons `createBend`, `bendCons`):
which interior EdgePoints get one (all but those whose two incident segments are both parallel to
the scan line), and what the TriConstraint of a BendConstraint measures: the signed distance in the
scan axis between the far end of the shorter incident segment and the line through the longer one,
on the far end's scan line - zero exactly when the bend is straight.
-/
import AdaptaVerif.Model.TopoCons
import AdaptaVerif.Model.Tri
import AdaptaVerif.Lemmas.TopoConsGen
import Mathlib.Tactic.Linarith
import Mathlib.Tactic.Ring
import Mathlib.Tactic.FieldSimp
import Mathlib.Algebra.Order.Field.Rat
namespace AdaptaVerif.Lemmas.TopoConsBend
open AdaptaVerif.Model.TopoCons
open AdaptaVerif.Lemmas.TopoConsGen (pos_conj_movedTo pos_movedTo)

theorem absQ_eq_zero {x : Rat} : absQ x = 0 ↔ x = 0 := by
  unfold absQ
  split
  · constructor
    · intro h; linarith
    · intro h; linarith
  · exact Iff.rfl

theorem absQ_nonneg (x : Rat) : 0 ≤ absQ x := by
  unfold absQ
  split
  · linarith
  · linarith

/-- `leftOf` of a BendConstraint: the corner `v.ri` is on the high side of its node in axis `d` -/
def bendLeft (d : Nat) (v : EPt) : Bool :=
  if d = 0 then (v.ri == 0 || v.ri == 1) else (v.ri == 3 || v.ri == 0)

/-- the BendConstraint of the branch `inLen > outLen` (reference segment = inSegment `u v`) -/
def fwdBC (d idx : Nat) (u v w : EPt) : BC :=
  { idx := idx, leftOf := bendLeft d v, rev := false
    u := u.node.id, v := v.node.id, w := w.node.id
    p := (w.pos (conj d) - u.pos (conj d)) / (v.pos (conj d) - u.pos (conj d))
    g := u.offset d +
          (w.pos (conj d) - u.pos (conj d)) / (v.pos (conj d) - u.pos (conj d)) *
            (v.offset d - u.offset d) - w.offset d }

/-- the BendConstraint of the "Reverse bend constraint" branch (reference segment = outSegment,
    walked from `w` to `v`) -/
def revBC (d idx : Nat) (u v w : EPt) : BC :=
  { idx := idx, leftOf := bendLeft d v, rev := true
    u := w.node.id, v := v.node.id, w := u.node.id
    p := (u.pos (conj d) - w.pos (conj d)) / (v.pos (conj d) - w.pos (conj d))
    g := w.offset d +
          (u.pos (conj d) - w.pos (conj d)) / (v.pos (conj d) - w.pos (conj d)) *
            (v.offset d - w.offset d) - u.offset d }

theorem bothZero_iff (d : Nat) (u v w : EPt) :
    (absQ (v.pos (conj d) - u.pos (conj d)) = 0 ∧ absQ (w.pos (conj d) - v.pos (conj d)) = 0) ↔
      (v.pos (conj d) = u.pos (conj d) ∧ w.pos (conj d) = v.pos (conj d)) := by
  rw [absQ_eq_zero, absQ_eq_zero, sub_eq_zero, sub_eq_zero]

theorem createBend_none_iff (d idx : Nat) (u v w : EPt) :
    createBend d idx u v w = none ↔
      (v.pos (conj d) = u.pos (conj d) ∧ w.pos (conj d) = v.pos (conj d)) := by
  rw [← bothZero_iff]
  unfold createBend
  simp only []
  split
  · rename_i h
    exact iff_of_true rfl h
  · rename_i h
    split
    · exact iff_of_false (by intro h'; cases h') h
    · exact iff_of_false (by intro h'; cases h') h

theorem createBend_eq_some_iff {d idx : Nat} {u v w : EPt} {b : BC} :
    createBend d idx u v w = some b ↔
      (absQ (w.pos (conj d) - v.pos (conj d)) < absQ (v.pos (conj d) - u.pos (conj d)) ∧
        b = fwdBC d idx u v w) ∨
      (¬ (v.pos (conj d) = u.pos (conj d) ∧ w.pos (conj d) = v.pos (conj d)) ∧
        absQ (v.pos (conj d) - u.pos (conj d)) ≤ absQ (w.pos (conj d) - v.pos (conj d)) ∧
        b = revBC d idx u v w) := by
  rw [← bothZero_iff]
  unfold createBend
  simp only []
  split
  · rename_i h0
    constructor
    · intro h; cases h
    · rintro (⟨hlt, _⟩ | ⟨hn, _⟩)
      · rw [h0.1, h0.2] at hlt; exact absurd hlt (lt_irrefl _)
      · exact absurd h0 hn
  · rename_i h0
    split
    · rename_i hlt
      constructor
      · intro h; exact Or.inl ⟨hlt, (Option.some.inj h).symm⟩
      · rintro (⟨_, rfl⟩ | ⟨_, hle, _⟩)
        · rfl
        · exact absurd hlt (not_lt.mpr hle)
    · rename_i hlt
      constructor
      · intro h; exact Or.inr ⟨h0, not_lt.mp hlt, (Option.some.inj h).symm⟩
      · rintro (⟨hlt', _⟩ | ⟨_, _, rfl⟩)
        · exact absurd hlt' hlt
        · rfl

theorem createBend_idx {d idx : Nat} {u v w : EPt} {b : BC} (h : createBend d idx u v w = some b) :
    b.idx = idx := by
  rcases createBend_eq_some_iff.mp h with ⟨_, rfl⟩ | ⟨_, _, rfl⟩ <;> rfl

theorem mem_bendConsAux {d : Nat} {b : BC} : ∀ (pts : List EPt) (s : Nat),
    b ∈ bendConsAux d s pts ↔
      ∃ i u v w, pts[i]? = some u ∧ pts[i + 1]? = some v ∧ pts[i + 2]? = some w ∧
        createBend d (s + i + 1) u v w = some b
  | [], s => by simp [bendConsAux]
  | [_], s => by simp [bendConsAux]
  | [_, _], s => by simp [bendConsAux]
  | u :: v :: w :: rest, s => by
    rw [bendConsAux, List.mem_append, Option.mem_toList, mem_bendConsAux (v :: w :: rest) (s + 1)]
    constructor
    · rintro (h | ⟨i, a, b', c, h1, h2, h3, h4⟩)
      · exact ⟨0, u, v, w, rfl, rfl, rfl, h⟩
      · exact ⟨i + 1, a, b', c, h1, h2, h3, by rw [← h4]; congr 1; omega⟩
    · rintro ⟨i, a, b', c, h1, h2, h3, h4⟩
      cases i with
      | zero =>
        obtain rfl : u = a := Option.some.inj h1
        obtain rfl : v = b' := Option.some.inj h2
        obtain rfl : w = c := Option.some.inj h3
        exact Or.inl h4
      | succ j =>
        exact Or.inr ⟨j, a, b', c, h1, h2, h3, by rw [← h4]; congr 1; omega⟩

theorem mem_bendCons {d : Nat} {pts : List EPt} {b : BC} :
    b ∈ bendCons d pts ↔
      ∃ i u v w, pts[i]? = some u ∧ pts[i + 1]? = some v ∧ pts[i + 2]? = some w ∧
        createBend d (i + 1) u v w = some b := by
  unfold bendCons
  simp only [mem_bendConsAux, Nat.zero_add]

theorem bend_complete (d : Nat) (pts : List EPt) (i : Nat) (u v w : EPt) (b : BC)
    (hu : pts[i]? = some u) (hv : pts[i + 1]? = some v) (hw : pts[i + 2]? = some w)
    (hb : createBend d (i + 1) u v w = some b) : b ∈ bendCons d pts :=
  mem_bendCons.mpr ⟨i, u, v, w, hu, hv, hw, hb⟩

theorem bend_exists (d : Nat) (pts : List EPt) (i : Nat) (u v w : EPt)
    (hu : pts[i]? = some u) (hv : pts[i + 1]? = some v) (hw : pts[i + 2]? = some w)
    (hnp : ¬ (v.pos (conj d) = u.pos (conj d) ∧ w.pos (conj d) = v.pos (conj d))) :
    ∃ b ∈ bendCons d pts, b.idx = i + 1 ∧ createBend d (i + 1) u v w = some b := by
  cases hc : createBend d (i + 1) u v w with
  | none => exact absurd ((createBend_none_iff d (i + 1) u v w).mp hc) hnp
  | some b => exact ⟨b, bend_complete d pts i u v w b hu hv hw hc, createBend_idx hc, rfl⟩

-- non-vacuity: a path centre(n0) -> TR corner of n1 -> centre(n2) with a bend at index 1
example :
    let n0 : Node := ⟨0, ⟨0, 10, 0, 10⟩⟩
    let n1 : Node := ⟨1, ⟨20, 30, 20, 30⟩⟩
    let n2 : Node := ⟨2, ⟨50, 60, 0, 10⟩⟩
    let pts : List EPt := [⟨n0, 4⟩, ⟨n1, 0⟩, ⟨n2, 4⟩]
    pts[0]? = some ⟨n0, 4⟩ ∧ pts[1]? = some ⟨n1, 0⟩ ∧ pts[2]? = some ⟨n2, 4⟩ ∧
    createBend 0 1 ⟨n0, 4⟩ ⟨n1, 0⟩ ⟨n2, 4⟩ =
      some { idx := 1, leftOf := true, rev := true, u := 2, v := 1, w := 0, p := 0, g := 0 } ∧
    bendCons 0 pts =
      [{ idx := 1, leftOf := true, rev := true, u := 2, v := 1, w := 0, p := 0, g := 0 }] := by
  decide +kernel

/-- signed distance in axis `d` between the point `C` and the point `q = A + p (B - A)` of the line
    through `A` and `B`; positive when `C` is on the low side of `q` for `leftOf`, on the high side
    otherwise -/
def offLine (d : Nat) (p : Rat) (leftOf : Bool) (A B C : EPt) : Rat :=
  let q := A.pos d + p * (B.pos d - A.pos d)
  if leftOf then q - C.pos d else C.pos d - q

/-- `b` has the TriConstraint members `u v w p g` of the BendConstraint at `V` with reference segment
    `A V` and third point `C`.  The branch `inLen > outLen` of `createBend` makes it for
    `(A, C) = (u, w)`, the "Reverse bend constraint" branch for `(w, u)`: the reverse branch is the
    forward one on the reversed triple. -/
structure IsBendOf (d : Nat) (b : BC) (A V C : EPt) : Prop where
  hu : b.u = A.node.id
  hv : b.v = V.node.id
  hw : b.w = C.node.id
  ne : V.pos (conj d) ≠ A.pos (conj d)
  hp : b.p = (C.pos (conj d) - A.pos (conj d)) / (V.pos (conj d) - A.pos (conj d))
  hg : b.g = A.offset d + b.p * (V.offset d - A.offset d) - C.offset d

theorem createBend_isBendOf {d idx : Nat} {u v w : EPt} {b : BC}
    (h : createBend d idx u v w = some b) :
    (b.rev = false ∧ IsBendOf d b u v w) ∨ (b.rev = true ∧ IsBendOf d b w v u) := by
  have h0 : absQ (0 : Rat) = 0 := absQ_eq_zero.mpr rfl
  rcases createBend_eq_some_iff.mp h with ⟨hlt, rfl⟩ | ⟨hn, hle, rfl⟩
  · refine Or.inl ⟨rfl, rfl, rfl, rfl, ?_, rfl, rfl⟩
    intro heq
    rw [heq, sub_self, h0] at hlt
    exact absurd hlt (not_lt.mpr (absQ_nonneg _))
  · refine Or.inr ⟨rfl, rfl, rfl, rfl, ?_, rfl, rfl⟩
    intro heq
    rw [heq, sub_self, h0] at hle
    have hwu := sub_eq_zero.mp (absQ_eq_zero.mp (le_antisymm hle (absQ_nonneg _)))
    exact hn ⟨heq.trans hwu, heq.symm⟩

theorem slack_offLine_aux (p : Rat) (l : Bool) (xa xb xc oa ob oc : Rat) :
    AdaptaVerif.Model.Tri.slack p (oa + p * (ob - oa) - oc) l xa xb xc =
      if l = true then (xa + oa) + p * ((xb + ob) - (xa + oa)) - (xc + oc)
      else (xc + oc) - ((xa + oa) + p * ((xb + ob) - (xa + oa))) := by
  unfold AdaptaVerif.Model.Tri.slack
  cases l
  · simp only [Bool.false_eq_true, if_false]; ring
  · simp only [if_true]; ring

section
variable {d : Nat} {b : BC} {A V C : EPt}

theorem IsBendOf.slack (hb : IsBendOf d b A V C) (x : Pos) :
    AdaptaVerif.Model.Tri.slack b.p b.g b.leftOf (x b.u) (x b.v) (x b.w) =
      offLine d b.p b.leftOf (A.movedTo d x) (V.movedTo d x) (C.movedTo d x) := by
  unfold offLine
  rw [hb.hu, hb.hv, hb.hw, hb.hg]
  simp only [pos_movedTo]
  exact slack_offLine_aux _ _ _ _ _ _ _ _

theorem IsBendOf.q_on_scanline (hb : IsBendOf d b A V C) (x : Pos) :
    (A.movedTo d x).pos (conj d) +
        b.p * ((V.movedTo d x).pos (conj d) - (A.movedTo d x).pos (conj d)) =
      (C.movedTo d x).pos (conj d) := by
  simp only [pos_conj_movedTo]
  rw [hb.hp]
  have : V.pos (conj d) - A.pos (conj d) ≠ 0 := sub_ne_zero.mpr hb.ne
  field_simp
  ring

theorem offLine_arith (l : Bool) {Ad Vd Cd D E : Rat} (hD : D ≠ 0) :
    (if l = true then Ad + E / D * (Vd - Ad) - Cd else Cd - (Ad + E / D * (Vd - Ad))) = 0 ↔
      (Vd - Ad) * E - (Cd - Ad) * D = 0 := by
  have h : E / D * (Vd - Ad) * D = E * (Vd - Ad) := by rw [mul_right_comm, div_mul_cancel₀ _ hD]
  have key : (Ad + E / D * (Vd - Ad) - Cd) * D = (Vd - Ad) * E - (Cd - Ad) * D := by
    rw [sub_mul, add_mul, h]; ring
  rw [← key, mul_eq_zero, or_iff_left hD]
  cases l
  · simp only [Bool.false_eq_true, ↓reduceIte, sub_eq_zero]
    exact eq_comm
  · simp only [↓reduceIte]

theorem IsBendOf.slack_zero_iff (hb : IsBendOf d b A V C) (x : Pos) :
    AdaptaVerif.Model.Tri.slack b.p b.g b.leftOf (x b.u) (x b.v) (x b.w) = 0 ↔
      ((V.movedTo d x).pos d - (A.movedTo d x).pos d) *
          ((C.movedTo d x).pos (conj d) - (A.movedTo d x).pos (conj d)) -
        ((C.movedTo d x).pos d - (A.movedTo d x).pos d) *
          ((V.movedTo d x).pos (conj d) - (A.movedTo d x).pos (conj d)) = 0 := by
  rw [hb.slack x]
  unfold offLine
  simp only [pos_conj_movedTo]
  rw [hb.hp]
  exact offLine_arith b.leftOf (sub_ne_zero.mpr hb.ne)

end

theorem bend_slack_is_offset_fwd (d idx : Nat) (u v w : EPt) (b : BC)
    (h : createBend d idx u v w = some b) (hr : b.rev = false) (x : Pos) :
    AdaptaVerif.Model.Tri.slack b.p b.g b.leftOf (x u.node.id) (x v.node.id) (x w.node.id) =
      (let q := (u.movedTo d x).pos d + b.p * ((v.movedTo d x).pos d - (u.movedTo d x).pos d)
       if b.leftOf then q - (w.movedTo d x).pos d else (w.movedTo d x).pos d - q) := by
  rcases createBend_isBendOf h with ⟨_, hb⟩ | ⟨hr', _⟩
  · rw [← hb.hu, ← hb.hv, ← hb.hw]; exact hb.slack x
  · rw [hr] at hr'; cases hr'

theorem bend_slack_is_offset_rev (d idx : Nat) (u v w : EPt) (b : BC)
    (h : createBend d idx u v w = some b) (hr : b.rev = true) (x : Pos) :
    AdaptaVerif.Model.Tri.slack b.p b.g b.leftOf (x w.node.id) (x v.node.id) (x u.node.id) =
      (let q := (w.movedTo d x).pos d + b.p * ((v.movedTo d x).pos d - (w.movedTo d x).pos d)
       if b.leftOf then q - (u.movedTo d x).pos d else (u.movedTo d x).pos d - q) := by
  rcases createBend_isBendOf h with ⟨hr', _⟩ | ⟨_, hb⟩
  · rw [hr] at hr'; cases hr'
  · rw [← hb.hu, ← hb.hv, ← hb.hw]; exact hb.slack x

theorem bend_q_on_scanline (d idx : Nat) (u v w : EPt) (b : BC)
    (h : createBend d idx u v w = some b) (x : Pos) :
    if b.rev = false then
      (u.movedTo d x).pos (conj d) +
          b.p * ((v.movedTo d x).pos (conj d) - (u.movedTo d x).pos (conj d)) =
        (w.movedTo d x).pos (conj d)
    else
      (w.movedTo d x).pos (conj d) +
          b.p * ((v.movedTo d x).pos (conj d) - (w.movedTo d x).pos (conj d)) =
        (u.movedTo d x).pos (conj d) := by
  rcases createBend_isBendOf h with ⟨hr, hb⟩ | ⟨hr, hb⟩
  · rw [if_pos hr]; exact hb.q_on_scanline x
  · rw [if_neg (by rw [hr]; decide)]; exact hb.q_on_scanline x

theorem bend_slack_zero_iff_collinear_rev (d idx : Nat) (u v w : EPt) (b : BC)
    (h : createBend d idx u v w = some b) (hr : b.rev = true) (x : Pos) :
    AdaptaVerif.Model.Tri.slack b.p b.g b.leftOf (x b.u) (x b.v) (x b.w) = 0 ↔
      ((v.movedTo d x).pos d - (w.movedTo d x).pos d) *
          ((u.movedTo d x).pos (conj d) - (w.movedTo d x).pos (conj d)) -
        ((u.movedTo d x).pos d - (w.movedTo d x).pos d) *
          ((v.movedTo d x).pos (conj d) - (w.movedTo d x).pos (conj d)) = 0 := by
  rcases createBend_isBendOf h with ⟨hr', _⟩ | ⟨_, hb⟩
  · rw [hr] at hr'; cases hr'
  · exact hb.slack_zero_iff x

-- non-vacuity: a bend with rev = false (in-segment longer in the scan direction), slack at the
-- construction positions = distance of W from the line U V
example :
    let n0 : Node := ⟨0, ⟨0, 10, 0, 10⟩⟩
    let n1 : Node := ⟨1, ⟨20, 30, 40, 50⟩⟩
    let n2 : Node := ⟨2, ⟨50, 60, 20, 30⟩⟩
    let x : Pos := fun i => if i = 0 then 5 else if i = 1 then 25 else 55
    (createBend 0 1 ⟨n0, 4⟩ ⟨n1, 0⟩ ⟨n2, 4⟩).map (fun b => (b.rev, b.leftOf, b.p,
        AdaptaVerif.Model.Tri.slack b.p b.g b.leftOf (x b.u) (x b.v) (x b.w))) =
      some (false, true, 4 / 9, 5 + 4 / 9 * 25 - 55) := by
  decide +kernel

end AdaptaVerif.Lemmas.TopoConsBend
