/-
Scan-line lemmas for C09 (model: AdaptaVerif.Model.Scanline).
* `scanPtr_mono`, `scanNL_mono` : every emitted constraint goes from a smaller to a larger
  scan-line key — for ANY event list and ANY start state satisfying the pointer invariant.
* `Inv`, `chain_on_scanline`, `chain_of_scanMeet` : on a valid event order, any two nodes whose sweep
  extents meet are joined by a chain of emitted constraints, from the smaller key to the larger (backward
  argument through firstAbove / firstBelow).
* `scanPtr_eq_scanAdj` : the pointer bookkeeping equals recomputing neighbours from the set.
-/
import AdaptaVerif.Lemmas.ScanlineOrder
import AdaptaVerif.Spec.Rects
import Mathlib.Tactic.Linarith
import Mathlib.Algebra.Order.Field.Rat
namespace AdaptaVerif.Lemmas.Scanline
open AdaptaVerif.Model.Scanline AdaptaVerif.Spec.Rects

theorem keyLt_eq_cmpBy (ax : Axis) (rank : Nat → Nat) :
    keyLt ax rank = SWO.cmpBy ax.ctr (SWO.cmpBy rank fun _ _ => false) := by
  funext u v
  simp only [keyLt, SWO.cmpBy]
  grind

theorem keyLt_swo (ax : Axis) (rank : Nat → Nat) : SWO.IsSWO (keyLt ax rank) :=
  keyLt_eq_cmpBy ax rank ▸ SWO.swo_cmpBy _ (SWO.swo_cmpBy _ SWO.swo_false)

theorem keyLt_strictTotal (ax : Axis) {rank : Nat → Nat} (inj : RankInjective rank) :
    StrictTotal (keyLt ax rank) :=
  StrictTotal.of_swo (keyLt_swo ax rank) fun a b h => by
    rw [keyLt_eq_cmpBy, SWO.incomp_cmpBy, SWO.incomp_cmpBy] at h
    exact inj a b h.2.1

theorem keyLt_congr (ax : Axis) {rank rank' : Nat → Nat}
    (h : ∀ i j, rank i < rank j ↔ rank' i < rank' j) : keyLt ax rank = keyLt ax rank' := by
  funext u v
  simp only [keyLt, h u v]

theorem prevIn_lt {lt} {S : List Nat} {v u : Nat} (h : prevIn lt S v = some u) : lt u v = true :=
  (mem_before.1 (List.mem_of_mem_head? (Option.mem_def.2 h))).2

theorem nextIn_lt {lt} {S : List Nat} {v u : Nat} (h : nextIn lt S v = some u) : lt v u = true :=
  (mem_after.1 (List.mem_of_mem_head? (Option.mem_def.2 h))).2

def PtrMono (lt : Nat → Nat → Bool) (ab be : PMap) : Prop :=
  (∀ x a, ab x = some a → lt a x = true) ∧ (∀ x b, be x = some b → lt x b = true)

theorem ptrMono_empty (lt : Nat → Nat → Bool) : PtrMono lt PMap.empty PMap.empty := by
  constructor <;> intro x a h <;> cases h

theorem set_some {m : PMap} {k : Nat} {x : Option Nat} {i a : Nat} (h : m.set k x i = some a) :
    (i = k ∧ x = some a) ∨ m i = some a := by
  unfold PMap.set at h
  split at h
  · exact Or.inl ⟨‹_›, h⟩
  · exact Or.inr h

theorem setOpt_some {m : PMap} {o x : Option Nat} {i a : Nat}
    (h : (match o with | some u => m.set u x | none => m) i = some a) :
    (o = some i ∧ x = some a) ∨ m i = some a := by
  cases o with
  | none => exact Or.inr h
  | some u => exact (set_some h).imp (fun ⟨e, hx⟩ => ⟨by rw [e], hx⟩) id

theorem scanPtr_mono (ax : Axis) {lt : Nat → Nat → Bool}
    (tr : ∀ a b c, lt a b = true → lt b c = true → lt a c = true) :
    ∀ (evs : List Ev) (S : List Nat) (ab be : PMap), PtrMono lt ab be →
      ∀ c ∈ scanPtr ax lt evs S ab be, lt c.l c.r = true := by
  intro evs
  induction evs with
  | nil => intro S ab be _ c hc; simp [scanPtr] at hc
  | cons e es ih =>
    intro S ab be hm c hc
    obtain ⟨cl, v⟩ := e
    cases cl with
    | false =>
      simp only [scanPtr] at hc
      refine ih _ _ _ ⟨fun x a hxa => ?_, fun x b hxb => ?_⟩ c hc
      · rcases setOpt_some hxa with ⟨hn, h⟩ | h
        · cases h; exact nextIn_lt hn
        · rcases set_some h with ⟨rfl, h⟩ | h
          · exact prevIn_lt h
          · exact hm.1 x a h
      · rcases set_some hxb with ⟨rfl, h⟩ | h
        · exact nextIn_lt h
        · rcases setOpt_some h with ⟨hp, h⟩ | h
          · cases h; exact prevIn_lt hp
          · exact hm.2 x b h
    | true =>
      simp only [scanPtr, List.mem_append] at hc
      rcases hc with (hc | hc) | hc
      · cases hl : ab v with
        | none => simp [hl] at hc
        | some l => simp [hl] at hc; subst hc; exact hm.1 v l hl
      · cases hr : be v with
        | none => simp [hr] at hc
        | some r => simp [hr] at hc; subst hc; exact hm.2 v r hr
      · refine ih _ _ _ ⟨fun x a hxa => ?_, fun x b hxb => ?_⟩ c hc
        · rcases setOpt_some hxa with ⟨hr, h⟩ | h
          · exact tr _ _ _ (hm.1 v a h) (hm.2 v x hr)
          · exact hm.1 x a h
        · rcases setOpt_some hxb with ⟨hl, h⟩ | h
          · exact tr _ _ _ (hm.1 v x hl) (hm.2 v b h)
          · exact hm.2 x b h

theorem nbrScan_subset (ax : Axis) (v : Nat) : ∀ (l : List Nat) (u : Nat), u ∈ nbrScan ax v l → u ∈ l := by
  intro l
  induction l with
  | nil => intro u h; simp [nbrScan] at h
  | cons a t ih =>
    intro u h
    unfold nbrScan at h
    split at h
    · simp at h; subst h; exact List.mem_cons_self
    · split at h
      · rcases List.mem_cons.1 h with rfl | h
        · exact List.mem_cons_self
        · exact List.mem_cons_of_mem _ (ih u h)
      · exact List.mem_cons_of_mem _ (ih u h)

theorem leftNbrs_lt {ax : Axis} {lt} {S : List Nat} {v u : Nat} (h : u ∈ leftNbrs ax lt S v) : lt u v = true :=
  (mem_before.1 (nbrScan_subset ax v _ u h)).2

theorem rightNbrs_lt {ax : Axis} {lt} {S : List Nat} {v u : Nat} (h : u ∈ rightNbrs ax lt S v) : lt v u = true :=
  (mem_after.1 (nbrScan_subset ax v _ u h)).2

def NbrMono (lt : Nat → Nat → Bool) (ln rn : SMap) : Prop :=
  (∀ x u, u ∈ ln x → lt u x = true) ∧ (∀ x u, u ∈ rn x → lt x u = true)

theorem nbrMono_empty (lt : Nat → Nat → Bool) : NbrMono lt SMap.empty SMap.empty := by
  constructor <;> intro x a h <;> cases h

theorem mem_addAll {m : SMap} {us : List Nat} {v i u : Nat} (h : u ∈ m.addAll us v i) :
    (u = v ∧ i ∈ us) ∨ u ∈ m i := by
  unfold SMap.addAll at h
  split at h
  · rename_i hi
    exact (List.mem_cons.1 h).imp (fun e => ⟨e, List.contains_iff_mem.1 hi⟩) id
  · exact Or.inr h

theorem mem_set {m : SMap} {k : Nat} {L : List Nat} {i u : Nat} (h : u ∈ m.set k L i) :
    (i = k ∧ u ∈ L) ∨ u ∈ m i := by
  unfold SMap.set at h
  split at h
  · exact Or.inl ⟨‹_›, h⟩
  · exact Or.inr h

theorem mem_eraseAll {m : SMap} {us : List Nat} {v i u : Nat} (h : u ∈ m.eraseAll us v i) : u ∈ m i := by
  unfold SMap.eraseAll at h
  split at h
  · exact (List.mem_filter.1 h).1
  · exact h

theorem scanNL_mono (ax : Axis) {lt : Nat → Nat → Bool} :
    ∀ (evs : List Ev) (S : List Nat) (ln rn : SMap), NbrMono lt ln rn →
      ∀ c ∈ scanNL ax lt evs S ln rn, lt c.l c.r = true := by
  intro evs
  induction evs with
  | nil => intro S ln rn _ c hc; simp [scanNL] at hc
  | cons e es ih =>
    intro S ln rn hm c hc
    obtain ⟨cl, v⟩ := e
    cases cl with
    | false =>
      simp only [scanNL] at hc
      refine ih _ _ _ ⟨fun x u hu => ?_, fun x u hu => ?_⟩ c hc
      · rcases mem_addAll hu with ⟨rfl, hx⟩ | hu
        · exact rightNbrs_lt hx
        · rcases mem_set hu with ⟨rfl, hu⟩ | hu
          · exact leftNbrs_lt hu
          · exact hm.1 x u hu
      · rcases mem_addAll hu with ⟨rfl, hx⟩ | hu
        · exact leftNbrs_lt hx
        · rcases mem_set hu with ⟨rfl, hu⟩ | hu
          · exact rightNbrs_lt hu
          · exact hm.2 x u hu
    | true =>
      simp only [scanNL, List.mem_append, List.mem_map] at hc
      rcases hc with (⟨u, hu, rfl⟩ | ⟨u, hu, rfl⟩) | hc
      · exact hm.1 v u hu
      · exact hm.2 v u hu
      · exact ih _ _ _ ⟨fun x u hu => hm.1 x u (mem_eraseAll hu), fun x u hu => hm.2 x u (mem_eraseAll hu)⟩ c hc

theorem evLe_close_open {ax : Axis} {w u : Nat} (h : evLe ax ⟨true, w⟩ ⟨false, u⟩ = true) :
    ax.cls w < ax.opn u := by
  simpa [evLe, Ev.pos] using h

/-- State invariant of the sweep: `evs` = events still to be processed. -/
structure Inv (ax : Axis) (lt : Nat → Nat → Bool) (evs : List Ev) (S : List Nat) (ab be : PMap) : Prop where
  pw : evs.Pairwise (fun a b => evLe ax a b = true)
  nd : evs.Nodup
  fresh : ∀ x ∈ S, (⟨false, x⟩ : Ev) ∉ evs
  closes : ∀ x, (x ∈ S ∨ (⟨false, x⟩ : Ev) ∈ evs) → (⟨true, x⟩ : Ev) ∈ evs ∧ 0 ≤ ax.sz x
  opened : ∀ x, (⟨true, x⟩ : Ev) ∈ evs → (x ∈ S ∨ (⟨false, x⟩ : Ev) ∈ evs) ∧ ax.opn x ≤ ax.cls x
  sorted : Sorted lt S
  linked : Linked lt S ab be

theorem pending_open {lt} {w x : Nat} {es : List Ev} {S : List Nat} :
    (x ∈ insertSorted lt w S ∨ (⟨false, x⟩ : Ev) ∈ es) ↔
      (x ∈ S ∨ (⟨false, x⟩ : Ev) ∈ (⟨false, w⟩ : Ev) :: es) := by
  simp only [mem_insertSorted, List.mem_cons, Ev.mk.injEq, true_and]
  rw [or_assoc, or_left_comm]

theorem pending_close {w x : Nat} {es : List Ev} {S : List Nat} (hno : (⟨false, w⟩ : Ev) ∉ es) :
    (x ∈ eraseNode w S ∨ (⟨false, x⟩ : Ev) ∈ es) ↔
      x ≠ w ∧ (x ∈ S ∨ (⟨false, x⟩ : Ev) ∈ (⟨true, w⟩ : Ev) :: es) := by
  simp only [mem_eraseNode, List.mem_cons, Ev.mk.injEq, Bool.false_eq_true, false_and, false_or]
  constructor
  · rintro (⟨h1, h2⟩ | h)
    · exact ⟨h2, Or.inl h1⟩
    · exact ⟨by rintro rfl; exact hno h, Or.inr h⟩
  · rintro ⟨h, h1 | h1⟩
    · exact Or.inl ⟨h1, h⟩
    · exact Or.inr h1

section steps
variable {ax : Axis} {lt : Nat → Nat → Bool} {w : Nat} {es : List Ev} {S : List Nat} {ab be : PMap}

theorem Inv.open_step (st : StrictTotal lt) (h : Inv ax lt (⟨false, w⟩ :: es) S ab be) :
    let S' := insertSorted lt w S
    let p := prevIn lt S' w
    let n := nextIn lt S' w
    Inv ax lt es S'
      (match n with | some u => (ab.set w p).set u (some w) | none => ab.set w p)
      ((match p with | some u => be.set u (some w) | none => be).set w n) := by
  have hw : w ∉ S := fun hw => h.fresh w hw List.mem_cons_self
  have hnd := List.nodup_cons.1 h.nd
  refine ⟨(List.pairwise_cons.1 h.pw).2, hnd.2, ?_, ?_, ?_, sorted_insertSorted st h.sorted hw,
    linked_open st h.sorted hw h.linked⟩
  · intro x hx
    rcases mem_insertSorted.1 hx with rfl | hx
    · exact hnd.1
    · exact fun h' => h.fresh x hx (List.mem_cons_of_mem _ h')
  · intro x hx
    obtain ⟨h1, h2⟩ := h.closes x (pending_open.1 hx)
    exact ⟨(List.mem_cons.1 h1).resolve_left (fun e => by cases e), h2⟩
  · intro x hx
    obtain ⟨h1, h2⟩ := h.opened x (List.mem_cons_of_mem _ hx)
    exact ⟨pending_open.2 h1, h2⟩

theorem Inv.no_reopen (h : Inv ax lt (⟨true, w⟩ :: es) S ab be) {x : Nat} (hx : ax.opn x ≤ ax.cls w) :
    (⟨false, x⟩ : Ev) ∉ es := by
  intro hm
  have := evLe_close_open ((List.pairwise_cons.1 h.pw).1 _ hm)
  linarith

theorem Inv.on_line (h : Inv ax lt (⟨true, w⟩ :: es) S ab be) {x : Nat} (hx : ax.opn x ≤ ax.cls w)
    (hm : x ∈ S ∨ (⟨false, x⟩ : Ev) ∈ (⟨true, w⟩ : Ev) :: es) : x ∈ S :=
  hm.elim id fun hm => (List.mem_cons.1 hm).elim (fun e => by cases e) fun hm => absurd hm (h.no_reopen hx)

theorem Inv.close_mem (h : Inv ax lt (⟨true, w⟩ :: es) S ab be) : w ∈ S ∧ (⟨false, w⟩ : Ev) ∉ es :=
  have hw := h.opened w List.mem_cons_self
  ⟨h.on_line hw.2 hw.1, h.no_reopen hw.2⟩

theorem Inv.close_step (st : StrictTotal lt) (h : Inv ax lt (⟨true, w⟩ :: es) S ab be) :
    Inv ax lt es (eraseNode w S)
      (match be w with | some r => ab.set r (ab w) | none => ab)
      (match ab w with | some l => be.set l (be w) | none => be) := by
  obtain ⟨hwS, hno⟩ := h.close_mem
  have hnd := List.nodup_cons.1 h.nd
  refine ⟨(List.pairwise_cons.1 h.pw).2, hnd.2, ?_, ?_, ?_, sorted_eraseNode h.sorted,
    linked_close st hwS h.linked⟩
  · intro x hx h'
    exact h.fresh x (mem_eraseNode.1 hx).1 (List.mem_cons_of_mem _ h')
  · intro x hx
    obtain ⟨hxw, hx'⟩ := (pending_close hno).1 hx
    obtain ⟨h1, h2⟩ := h.closes x hx'
    exact ⟨(List.mem_cons.1 h1).resolve_left (fun e => hxw (by cases e; rfl)), h2⟩
  · intro x hx
    obtain ⟨h1, h2⟩ := h.opened x (List.mem_cons_of_mem _ hx)
    exact ⟨(pending_close hno).2 ⟨fun e => hnd.1 (e ▸ hx), h1⟩, h2⟩

end steps

theorem _root_.AdaptaVerif.Spec.Rects.Chain.append_right {cs0 cs : List Con} {a b : Nat} (h : Chain cs a b) :
    Chain (cs0 ++ cs) a b := by
  induction h with
  | single hm => exact Chain.single (List.mem_append_right _ hm)
  | cons hm _ ih => exact Chain.cons (List.mem_append_right _ hm) ih

theorem _root_.AdaptaVerif.Spec.Rects.Chain.trans {cs : List Con} {a b c : Nat} (h1 : Chain cs a b) (h2 : Chain cs b c) : Chain cs a c := by
  induction h1 with
  | single hm => exact Chain.cons hm h2
  | cons hm _ ih => exact Chain.cons hm (ih h2)

theorem chain_on_scanline (ax : Axis) {lt} (st : StrictTotal lt) :
    ∀ (evs : List Ev) (S : List Nat) (ab be : PMap), Inv ax lt evs S ab be →
      ∀ u v, u ∈ S → v ∈ S → lt u v = true → Chain (scanPtr ax lt evs S ab be) u v := by
  intro evs
  induction evs with
  | nil =>
    intro S ab be h u v hu _ _
    have := (h.closes u (Or.inl hu)).1
    cases this
  | cons e es ih =>
    intro S ab be h u v hu hv huv
    obtain ⟨cl, w⟩ := e
    cases cl with
    | false =>
      simp only [scanPtr]
      exact ih _ _ _ (h.open_step st) u v (mem_insertSorted.2 (Or.inr hu)) (mem_insertSorted.2 (Or.inr hv)) huv
    | true =>
      simp only [scanPtr]
      have hwS := h.close_mem.1
      have IH : ∀ a b, a ∈ S → a ≠ w → b ∈ S → b ≠ w → lt a b = true → Chain (scanPtr ax lt es _ _ _) a b :=
        fun a b ha haw hb hbw => ih _ _ _ (h.close_step st) a b (mem_eraseNode.2 ⟨ha, haw⟩) (mem_eraseNode.2 ⟨hb, hbw⟩)
      obtain ⟨hlw, hrw⟩ := h.linked w hwS
      have ne_of_lt : ∀ a b, lt a b = true → a ≠ b := by
        rintro a b hab rfl; rw [st.irrefl] at hab; cases hab
      by_cases hvw : v = w
      · subst hvw
        -- the closing node is the upper one: go through its firstAbove
        cases hl : ab v with
        | none => have := hlw.2 hl u hu; rw [huv] at this; cases this
        | some a =>
          obtain ⟨haS, hav, hmax⟩ := hlw.1 a hl
          simp only [hl] at IH
          have hc : ∀ {c2 rest}, Chain ([(⟨a, v, gapOf ax a v⟩ : Con)] ++ c2 ++ rest) a v :=
            Chain.single (c := ⟨a, v, _⟩) (List.mem_append_left _ (List.mem_append_left _ List.mem_cons_self))
          rcases hmax u hu huv with rfl | hua
          · exact hc
          · exact Chain.trans (IH u a hu (ne_of_lt _ _ huv) haS (ne_of_lt _ _ hav) hua).append_right hc
      · by_cases huw : u = w
        · subst huw
          -- the closing node is the lower one: go through its firstBelow
          cases hr : be u with
          | none => have := hrw.2 hr v hv; dsimp only at this; rw [huv] at this; cases this
          | some b =>
            obtain ⟨hbS, hub, hmin⟩ := hrw.1 b hr
            dsimp only at hub hmin
            simp only [hr] at IH
            have hm : ∀ {c1 rest}, (⟨u, b, gapOf ax b u⟩ : Con) ∈ c1 ++ [⟨u, b, gapOf ax b u⟩] ++ rest :=
              List.mem_append_left _ (List.mem_append_right _ List.mem_cons_self)
            rcases hmin v hv huv with rfl | hbv
            · exact Chain.single hm
            · exact Chain.cons hm (IH b v hbS (ne_of_lt _ _ hub).symm hv hvw hbv).append_right
        · exact (IH u v hu huw hv hvw huv).append_right

theorem chain_of_scanMeet (ax : Axis) {lt} (st : StrictTotal lt) :
    ∀ (evs : List Ev) (S : List Nat) (ab be : PMap), Inv ax lt evs S ab be →
      ∀ u v, (u ∈ S ∨ (⟨false, u⟩ : Ev) ∈ evs) → (v ∈ S ∨ (⟨false, v⟩ : Ev) ∈ evs) →
        ScanMeet ax u v → lt u v = true → Chain (scanPtr ax lt evs S ab be) u v := by
  intro evs
  induction evs with
  | nil =>
    intro S ab be h u v hu _ _ _
    have := (h.closes u hu).1
    cases this
  | cons e es ih =>
    intro S ab be h u v hu hv hmeet huv
    obtain ⟨cl, w⟩ := e
    cases cl with
    | false =>
      simp only [scanPtr]
      exact ih _ _ _ (h.open_step st) u v (pending_open.2 hu) (pending_open.2 hv) hmeet huv
    | true =>
      have hww := (h.opened w List.mem_cons_self).2
      by_cases hvw : v = w
      · subst hvw
        exact chain_on_scanline ax st _ _ _ _ h u v (h.on_line hmeet.1 hu) (h.on_line hww hv) huv
      · by_cases huw : u = w
        · subst huw
          exact chain_on_scanline ax st _ _ _ _ h u v (h.on_line hww hu) (h.on_line hmeet.2 hv) huv
        · simp only [scanPtr]
          exact (ih _ _ _ (h.close_step st) u v ((pending_close (h.no_reopen hww)).2 ⟨huw, hu⟩)
            ((pending_close (h.no_reopen hww)).2 ⟨hvw, hv⟩) hmeet huv).append_right

theorem scanPtr_gaps (ax : Axis) {lt} (st : StrictTotal lt) :
    ∀ (evs : List Ev) (S : List Nat) (ab be : PMap), Inv ax lt evs S ab be →
      ∀ c ∈ scanPtr ax lt evs S ab be, (0 ≤ ax.sz c.l ∧ 0 ≤ ax.sz c.r) ∧ c.gap = (ax.sz c.l + ax.sz c.r) / 2 := by
  intro evs
  induction evs with
  | nil => intro S ab be _ c hc; cases hc
  | cons e es ih =>
    intro S ab be h c hc
    obtain ⟨cl, w⟩ := e
    cases cl with
    | false => exact ih _ _ _ (h.open_step st) c hc
    | true =>
      simp only [scanPtr, List.mem_append] at hc
      have hwS := h.close_mem.1
      obtain ⟨hlw, hrw⟩ := h.linked w hwS
      have sz := fun x hx => (h.closes x (Or.inl hx)).2
      rcases hc with (hc | hc) | hc
      · cases hl : ab w with
        | none => simp [hl] at hc
        | some a =>
          simp only [hl, List.mem_singleton] at hc
          subst hc
          exact ⟨⟨sz a (hlw.1 a hl).1, sz w hwS⟩, by rw [gapOf, add_comm]⟩
      · cases hr : be w with
        | none => simp [hr] at hc
        | some b =>
          simp only [hr, List.mem_singleton] at hc
          subst hc
          exact ⟨⟨sz w hwS, sz b (hrw.1 b hr).1⟩, rfl⟩
      · exact ih _ _ _ (h.close_step st) c hc

theorem scanPtr_eq_scanAdj (ax : Axis) {lt} (st : StrictTotal lt) :
    ∀ (evs : List Ev) (S : List Nat) (ab be : PMap), Inv ax lt evs S ab be →
      scanPtr ax lt evs S ab be = scanAdj ax lt evs S := by
  intro evs
  induction evs with
  | nil => intro S ab be _; simp [scanPtr, scanAdj]
  | cons e es ih =>
    intro S ab be h
    obtain ⟨cl, w⟩ := e
    cases cl with
    | false => simp only [scanPtr, scanAdj]; exact ih _ _ _ (h.open_step st)
    | true =>
      simp only [scanPtr, scanAdj]
      obtain ⟨hlw, hrw⟩ := h.linked w h.close_mem.1
      have e := ih _ _ _ (h.close_step st)
      have e1 : ab w = prevIn lt S w := isPrev_unique st hlw (prevIn_spec h.sorted w)
      have e2 : be w = nextIn lt S w := isPrev_unique st.flip hrw (nextIn_spec h.sorted w)
      rw [e1, e2] at e ⊢
      exact congrArg _ e

end AdaptaVerif.Lemmas.Scanline
