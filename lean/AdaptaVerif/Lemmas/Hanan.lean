/-
Soundness of the potential argument (all weighted digraphs) and of the Hanan-grid certificate
checker `Check.Hanan.checkCert`.
-/
import AdaptaVerif.Check.Hanan
import Mathlib.Tactic.Linarith
import Mathlib.Algebra.Order.Field.Rat
namespace AdaptaVerif.Lemmas.Hanan
open AdaptaVerif.Check.Hanan

/-- walks of a weighted digraph given by an edge relation `E u v w` (edge u → v of weight w) -/
inductive Walk {V : Type} (E : V → V → Rat → Prop) : V → V → Rat → Prop
  | nil (u : V) : Walk E u u 0
  | cons {u v t : V} {w c : Rat} : E u v w → Walk E v t c → Walk E u t (w + c)

theorem potential_walk {V : Type} (E : V → V → Rat → Prop) (π : V → Rat)
    (hfeas : ∀ u v w, E u v w → π u ≤ w + π v) :
    ∀ {u t : V} {c : Rat}, Walk E u t c → π u ≤ c + π t := by
  intro u t c h
  induction h with
  | nil u => linarith
  | cons he _ ih => have := hfeas _ _ _ he; linarith

theorem potential_lower_bound {V : Type} (E : V → V → Rat → Prop) (π : V → Rat) (goal : V → Prop)
    (hfeas : ∀ u v w, E u v w → π u ≤ w + π v) (hgoal : ∀ t, goal t → π t ≤ 0)
    {u t : V} {c : Rat} (hw : Walk E u t c) (ht : goal t) : π u ≤ c := by
  have := potential_walk E π hfeas hw
  have := hgoal t ht
  linarith

theorem Walk.end_mem {V : Type} {E : V → V → Rat → Prop} {R : V → Prop} (hE : ∀ u v w, E u v w → R v)
    {u t : V} {c : Rat} (hu : R u) (h : Walk E u t c) : R t := by
  induction h with
  | nil u => exact hu
  | cons he _ ih => exact ih (hE _ _ _ he)

/-- edge relation of the state graph -/
def HEdge (sc : Scene) (g : Grid) (u v : State) (w : Rat) : Prop :=
  inRange g u ∧ (v, w) ∈ succ sc g u

/-- `c` is the cost of some route: an allowed first move out of the source followed by a walk of
    the state graph that ends in a goal state -/
def IsRouteCost (sc : Scene) (g : Grid) (c : Rat) : Prop :=
  ∃ v w t c', (v, w) ∈ firstMoves sc g ∧ Walk (HEdge sc g) v t c' ∧ isGoal sc g t = true ∧
    c = w + c'

theorem mem_allStates {g : Grid} {u : State} (h : inRange g u) : u ∈ allStates g := by
  obtain ⟨h1, h2, h3⟩ := h
  unfold allStates
  simp only [List.mem_flatMap, List.mem_map, List.mem_range]
  exact ⟨u.i, h1, u.j, h2, u.h, h3, rfl⟩

theorem move_inRange {g : Grid} {u v : State} {d : Nat} (hd : d < 4) (h : move g u d = some v) :
    inRange g v := by
  unfold move at h
  simp only at h
  split at h
  · rename_i hc
    simp only [Option.some.injEq] at h
    subst h
    unfold inRange
    simp only
    omega
  · simp at h

theorem edge_inRange {sc : Scene} {g : Grid} {u v : State} {w : Rat} {d : Nat} (hd : d < 4)
    (h : edge sc g u d = some (v, w)) : inRange g v := by
  unfold edge at h
  split at h
  · simp at h
  · rename_i v' hm
    simp only at h
    split at h
    · simp at h
    · simp only [Option.some.injEq, Prod.mk.injEq] at h
      rw [← h.1]
      exact move_inRange hd hm

theorem succ_inRange {sc : Scene} {g : Grid} {u v : State} {w : Rat} (h : (v, w) ∈ succ sc g u) :
    inRange g v := by
  unfold succ at h
  simp only [List.mem_filterMap] at h
  obtain ⟨d, hd, he⟩ := h
  have : d < 4 := by
    simp only [List.mem_cons, List.mem_nil_iff, or_false] at hd
    omega
  exact edge_inRange this he

theorem firstMoves_inRange {sc : Scene} {g : Grid} {v : State} {w : Rat}
    (h : (v, w) ∈ firstMoves sc g) : inRange g v := by
  unfold firstMoves at h
  simp only [List.mem_filterMap] at h
  obtain ⟨d, hd, he⟩ := h
  have : d < 4 := by
    simp only [List.mem_cons, List.mem_nil_iff, or_false] at hd
    omega
  split at he
  · exact edge_inRange this he
  · simp at he

theorem feasible_spec {sc : Scene} {g : Grid} {c : Cert} (h : feasible sc g c = true) :
    ∀ u v w, HEdge sc g u v w → potAt g c u ≤ w + potAt g c v := by
  intro u v w ⟨hr, hm⟩
  unfold feasible at h
  rw [List.all_eq_true] at h
  have h1 := h u (mem_allStates hr)
  rw [List.all_eq_true] at h1
  have h2 := h1 (v, w) hm
  simpa using h2

theorem goalsOk_spec {sc : Scene} {g : Grid} {c : Cert} (h : goalsOk sc g c = true) :
    ∀ t, inRange g t → isGoal sc g t = true → potAt g c t ≤ 0 := by
  intro t hr hg
  unfold goalsOk at h
  rw [List.all_eq_true] at h
  have h1 := h t (mem_allStates hr)
  simpa [hg] using h1

theorem minList_le {l : List Rat} {m : Rat} (h : minList l = some m) : ∀ x ∈ l, m ≤ x := by
  fun_induction minList l generalizing m with
  | case1 => cases h
  | case2 x t ht =>
    obtain rfl := Option.some.inj h
    cases t with
    | nil => intro y hy; rw [List.mem_singleton.1 hy]
    | cons b t' => unfold minList at ht; split at ht <;> cases ht
  | case3 x t m' hm ih =>
    obtain rfl := Option.some.inj h
    intro y hy
    rcases List.mem_cons.1 hy with rfl | hy
    · split_ifs with hc
      · exact le_rfl
      · exact (not_le.1 hc).le
    · refine le_trans ?_ (ih hm y hy)
      split_ifs with hc
      · exact hc
      · exact le_rfl

theorem walkCost_sound {sc : Scene} {g : Grid} (l : List State) (u : State) (c : Rat)
    (h : walkCost sc g u l = some c) : Walk (HEdge sc g) u (lastState u l) c := by
  fun_induction walkCost sc g u l generalizing c with
  | case1 u => obtain rfl := Option.some.inj h; exact Walk.nil u
  | case2 u v rest hr e hf c' hc' ih =>
    obtain rfl := Option.some.inj h
    have hev : e.1 = v := by simpa using List.find?_some hf
    exact Walk.cons ⟨hr, hev ▸ List.mem_of_find?_eq_some hf⟩ (ih c' hc')
  | case3 | case4 | case5 => cases h

theorem witnessCost_sound {sc : Scene} {g : Grid} {c : Cert} {wc : Rat}
    (h : witnessCost sc g c = some wc) : IsRouteCost sc g wc := by
  unfold witnessCost at h
  split at h
  · simp at h
  · rename_i v rest _
    split at h
    · simp at h
    · rename_i e hf
      split at h
      · simp at h
      · rename_i w hw
        split at h
        · rename_i hg
          simp only [Option.some.injEq] at h
          have hmem := List.mem_of_find?_eq_some hf
          have hev : e.1 = v := by simpa using List.find?_some hf
          refine ⟨v, e.2, lastState v rest, w, ?_, walkCost_sound rest v w hw, hg, h.symm⟩
          rw [← hev]; exact hmem
        · simp at h

theorem checkCert_sound {sc : Scene} {c : Cert} {opt : Rat} (h : checkCert sc c = some opt) :
    (∀ r, IsRouteCost sc (mkGrid sc) r → opt ≤ r) ∧ IsRouteCost sc (mkGrid sc) opt := by
  unfold checkCert at h
  simp only at h
  split at h
  · rename_i hfg
    rw [Bool.and_eq_true] at hfg
    obtain ⟨hf, hg⟩ := hfg
    split at h
    · rename_i lb wc hlb hwc
      split at h
      · rename_i heq
        simp only [Option.some.injEq] at h
        subst h
        constructor
        · rintro r ⟨v, w, t, c', hfm, hwalk, hgoal, rfl⟩
          have hpot := potential_lower_bound (HEdge sc (mkGrid sc)) (potAt (mkGrid sc) c)
            (fun t => inRange (mkGrid sc) t ∧ isGoal sc (mkGrid sc) t = true)
            (feasible_spec hf) (fun t ht => goalsOk_spec hg t ht.1 ht.2) hwalk
            ⟨hwalk.end_mem (R := inRange (mkGrid sc)) (fun _ _ _ he => succ_inRange he.2)
              (firstMoves_inRange hfm), hgoal⟩
          have hmin := minList_le hlb (w + potAt (mkGrid sc) c v)
            (List.mem_map.mpr ⟨(v, w), hfm, rfl⟩)
          linarith
        · rw [heq]; exact witnessCost_sound hwc
      · simp at h
    · simp at h
  · simp at h

end AdaptaVerif.Lemmas.Hanan
