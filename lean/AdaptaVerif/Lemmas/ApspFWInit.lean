/-
C17 — the two initialisations of Floyd–Warshall:
  * as coded now, after the fix in /repo (`fwEdges`: `if (u != v && w < D[u][v]) …`, i.e. minimum
    over parallel edges, self-loops skipped) — meets the hypotheses of `fwLoop_correct` on every valid multigraph;
  * as originally coded (`fwEdgesOrig`: plain assignment `D[u][v] = D[v][u] = w`) — on graphs without
    self-loops and parallel edges it is the same function (`floydWarshallOrig_eq`).
-/
import AdaptaVerif.Lemmas.ApspFW
namespace AdaptaVerif.Lemmas.Apsp
open AdaptaVerif.Model.ShortestPaths AdaptaVerif.Spec.Apsp

theorem fwDiag_partial (n : Nat) : ∀ m, m ≤ n →
    Mat.WF n ((List.range m).foldl (fun D i => D.set i i (some 0)) (Mat.const n none)) ∧
    ∀ a b, ((List.range m).foldl (fun D i => D.set i i (some 0)) (Mat.const n none)).get a b =
      if a = b ∧ a < m then some 0 else none := by
  intro m
  induction m with
  | zero =>
    intro _
    refine ⟨Mat.WF_const n none, fun a b => ?_⟩
    rw [List.range_zero, List.foldl_nil, Mat.get_const, if_neg (fun h : a = b ∧ a < 0 => Nat.not_lt_zero _ h.2)]
    split <;> rfl
  | succ m ih =>
    intro hm
    obtain ⟨hwf, hget⟩ := ih (Nat.le_of_succ_le hm)
    rw [List.range_succ, List.foldl_append, List.foldl_cons, List.foldl_nil]
    refine ⟨Mat.WF_set hwf _ _ _, fun a b => ?_⟩
    by_cases hab : a = m ∧ b = m
    · rw [hab.1, hab.2, Mat.get_set_eq _ hwf m m _ hm hm, if_pos ⟨rfl, Nat.lt_succ_self m⟩]
    · rw [Mat.get_set_ne _ m m a b _ (not_and_or.mp hab), hget]
      by_cases h : a = b ∧ a < m
      · rw [if_pos h, if_pos ⟨h.1, Nat.lt_succ_of_lt h.2⟩]
      · rw [if_neg h, if_neg]
        rintro ⟨rfl, ha⟩
        rcases Nat.lt_succ_iff_lt_or_eq.mp ha with ha | rfl
        · exact h ⟨rfl, ha⟩
        · exact hab ⟨rfl, rfl⟩

theorem fwDiag_WF (n : Nat) : Mat.WF n (fwDiag n) := (fwDiag_partial n n (Nat.le_refl n)).1

theorem fwDiag_get (n a b : Nat) : (fwDiag n).get a b = if a = b ∧ a < n then some 0 else none :=
  (fwDiag_partial n n (Nat.le_refl n)).2 a b

theorem fwDiag_real (g : Graph) : Real g (fwDiag g.n) := by
  intro a b d hd
  rw [fwDiag_get] at hd
  split at hd
  · rename_i h
    obtain ⟨rfl, ha⟩ := h
    cases hd
    exact Walk.nil ha
  · cases hd

/-- the chained assignment `D[u][v] = D[v][u] = w` -/
def setSym (D : Mat) (u v : Nat) (w : Rat) : Mat := (D.set v u (some w)).set u v (some w)

theorem setSym_WF {n : Nat} {D : Mat} (h : Mat.WF n D) (u v : Nat) (w : Rat) : Mat.WF n (setSym D u v w) :=
  Mat.WF_set (Mat.WF_set h _ _ _) _ _ _

theorem setSym_get_cases (D : Mat) (u v : Nat) (w : Rat) (a b : Nat) :
    (setSym D u v w).get a b = D.get a b ∨
    (((a = u ∧ b = v) ∨ (a = v ∧ b = u)) ∧ (setSym D u v w).get a b = some w) := by
  rcases Mat.get_set_cases (D.set v u (some w)) u v a b (some w) with e | ⟨ha, hb, e⟩
  · rcases Mat.get_set_cases D v u a b (some w) with e' | ⟨ha, hb, e'⟩
    · exact Or.inl (e.trans e')
    · exact Or.inr ⟨Or.inr ⟨ha, hb⟩, e.trans e'⟩
  · exact Or.inr ⟨Or.inl ⟨ha, hb⟩, e⟩

theorem setSym_get_other (D : Mat) (u v : Nat) (w : Rat) {a b : Nat} (h : ¬((a = u ∧ b = v) ∨ (a = v ∧ b = u))) :
    (setSym D u v w).get a b = D.get a b := by
  rcases setSym_get_cases D u v w a b with e | ⟨hab, _⟩
  · exact e
  · exact absurd hab h

theorem setSym_get_ends {n : Nat} {D : Mat} (hwf : Mat.WF n D) {u v : Nat} (hu : u < n) (hv : v < n) (w : Rat) :
    (setSym D u v w).get u v = some w ∧ (setSym D u v w).get v u = some w := by
  have h1 : (setSym D u v w).get u v = some w := Mat.get_set_eq _ (Mat.WF_set hwf _ _ _) u v _ hu hv
  refine ⟨h1, ?_⟩
  by_cases huv : u = v
  · subst huv; exact h1
  · exact (Mat.get_set_ne _ u v v u _ (Or.inl (Ne.symm huv))).trans (Mat.get_set_eq _ hwf v u _ hv hu)

theorem setSym_real {g : Graph} (hv : Valid g) {D : Mat} (h : Real g D) {u v : Nat} {w : Rat} (he : HasEdge g u v w) :
    Real g (setSym D u v w) := by
  intro a b d hd
  rcases setSym_get_cases D u v w a b with e | ⟨hab, e⟩
  · exact h a b d (e.symm.trans hd)
  · injection e.symm.trans hd with hd
    subst hd
    rcases hab with ⟨rfl, rfl⟩ | ⟨rfl, rfl⟩
    · exact Walk.edge hv he
    · exact Walk.edge hv (HasEdge.symm he)

def Sym (D : Mat) : Prop := ∀ a b, D.get a b = D.get b a

theorem fwEdges_cons (e : Nat × Nat × Rat) (rest : List (Nat × Nat × Rat)) (D : Mat) :
    fwEdges (e :: rest) D = fwEdges rest
      (if e.1 ≠ e.2.1 ∧ gtD (D.get e.1 e.2.1) e.2.2 = true then setSym D e.1 e.2.1 e.2.2 else D) := rfl

/-- everything the edge pass has to keep -/
structure FixInv (g : Graph) (D : Mat) : Prop where
  wf : Mat.WF g.n D
  real : Real g D
  sym : Sym D

theorem fixStep_inv {g : Graph} (hv : Valid g) {D : Mat} (h : FixInv g D) {u v : Nat} {w : Rat}
    (he : HasEdge g u v w) (hg : gtD (D.get u v) w = true) :
    FixInv g (setSym D u v w) ∧ Mat.Le (setSym D u v w) D ∧ leC (setSym D u v w) u v w ∧ leC (setSym D u v w) v u w := by
  have hb := HasEdge.valid hv he
  obtain ⟨huv, hvu⟩ := setSym_get_ends h.wf hb.1 hb.2.1 w
  refine ⟨⟨setSym_WF h.wf _ _ _, setSym_real hv h.real he, ?_⟩, ?_, ⟨w, huv, le_refl _⟩, ⟨w, hvu, le_refl _⟩⟩
  · intro a b
    rcases setSym_get_cases D u v w a b with e | ⟨hab, e⟩
    · rcases setSym_get_cases D u v w b a with e' | ⟨hba, _⟩
      · rw [e, e']; exact h.sym a b
      · rcases hba with ⟨rfl, rfl⟩ | ⟨rfl, rfl⟩
        · rw [hvu, huv]
        · rw [huv, hvu]
    · rcases hab with ⟨rfl, rfl⟩ | ⟨rfl, rfl⟩
      · rw [huv, hvu]
      · rw [hvu, huv]
  · rintro a b c ⟨d, hd, hdc⟩
    rcases setSym_get_cases D u v w a b with e | ⟨hab, e⟩
    · exact ⟨d, e.trans hd, hdc⟩
    · -- the overwritten value was larger than `w`
      have hduv : D.get u v = some d := by
        rcases hab with ⟨rfl, rfl⟩ | ⟨rfl, rfl⟩
        · exact hd
        · rw [h.sym]; exact hd
      rw [hduv, gtD_some] at hg
      exact ⟨w, e, le_trans (le_of_lt hg) hdc⟩

theorem fwEdges_inv {g : Graph} (hv : Valid g) : ∀ (es : List (Nat × Nat × Rat)), (∀ e ∈ es, e ∈ g.edges) →
    ∀ (D : Mat), FixInv g D →
      FixInv g (fwEdges es D) ∧ Mat.Le (fwEdges es D) D ∧
      (∀ e ∈ es, e.1 ≠ e.2.1 → leC (fwEdges es D) e.1 e.2.1 e.2.2 ∧ leC (fwEdges es D) e.2.1 e.1 e.2.2) := by
  intro es
  induction es with
  | nil => intro _ D h; exact ⟨h, Mat.Le.refl _, fun e he => by cases he⟩
  | cons f rest ih =>
    intro hsub D h
    rw [fwEdges_cons]
    have hsub' : ∀ e ∈ rest, e ∈ g.edges := fun e' he' => hsub e' (List.mem_cons_of_mem _ he')
    by_cases hc : f.1 ≠ f.2.1 ∧ gtD (D.get f.1 f.2.1) f.2.2 = true
    · rw [if_pos hc]
      have hef : HasEdge g f.1 f.2.1 f.2.2 := Or.inl (hsub f (List.mem_cons_self))
      obtain ⟨s1, s2, s3, s4⟩ := fixStep_inv hv h hef hc.2
      obtain ⟨i1, i2, i3⟩ := ih hsub' _ s1
      refine ⟨i1, Mat.Le.trans i2 s2, ?_⟩
      intro e he hne
      rcases List.mem_cons.mp he with rfl | he'
      · exact ⟨i2 _ _ _ s3, i2 _ _ _ s4⟩
      · exact i3 e he' hne
    · rw [if_neg hc]
      obtain ⟨i1, i2, i3⟩ := ih hsub' D h
      refine ⟨i1, i2, ?_⟩
      intro e he hne
      rcases List.mem_cons.mp he with rfl | he'
      · -- not overwritten: the stored value is already `≤ w`
        have hng : ¬ gtD (D.get e.1 e.2.1) e.2.2 = true := fun hg => hc ⟨hne, hg⟩
        cases hd : D.get e.1 e.2.1 with
        | none => rw [hd] at hng; exact absurd rfl hng
        | some b =>
          rw [hd, gtD_some] at hng
          have hle : b ≤ e.2.2 := not_lt.mp hng
          exact ⟨i2 _ _ _ ⟨b, hd, hle⟩, i2 _ _ _ ⟨b, by rw [h.sym]; exact hd, hle⟩⟩
      · exact i3 e he' hne

theorem fwInit_ok {g : Graph} (hv : Valid g) :
    FwStart g (fwInit g) := by
  have hsym : Sym (fwDiag g.n) := by
    intro a b
    rw [fwDiag_get, fwDiag_get]
    by_cases hab : a = b
    · subst hab; rfl
    · rw [if_neg (fun h => hab h.1), if_neg (fun h => hab h.1.symm)]
  have h0 : FixInv g (fwDiag g.n) := ⟨fwDiag_WF g.n, fwDiag_real g, hsym⟩
  obtain ⟨i1, i2, i3⟩ := fwEdges_inv hv g.edges (fun _ h => h) _ h0
  have hdiag : ∀ i, i < g.n → leC (fwInit g) i i 0 := fun i hi => i2 _ _ _ ⟨0, by rw [fwDiag_get, if_pos ⟨rfl, hi⟩], le_refl _⟩
  refine ⟨i1.wf, i1.real, hdiag, ?_⟩
  intro i j w he
  have hb := HasEdge.valid hv he
  by_cases hij : i = j
  · rw [← hij]
    exact (hdiag i hb.1).mono hb.2.2
  · rcases he with he | he
    · exact (i3 _ he hij).1
    · exact (i3 _ he (Ne.symm hij)).2

theorem fwEdgesOrig_cons (e : Nat × Nat × Rat) (rest : List (Nat × Nat × Rat)) (D : Mat) :
    fwEdgesOrig (e :: rest) D = fwEdgesOrig rest (setSym D e.1 e.2.1 e.2.2) := rfl

/-- the guard of the current code always fires (no validity or well-formedness is needed:
    an out-of-range write is a no-op and an out-of-range read the sentinel) -/
theorem fwEdgesOrig_eq_fwEdges : ∀ (es : List (Nat × Nat × Rat)) (D : Mat), (∀ e ∈ es, e.1 ≠ e.2.1) →
    es.Pairwise (fun e f => ¬ SameEnds e f) → (∀ e ∈ es, D.get e.1 e.2.1 = none) → fwEdgesOrig es D = fwEdges es D := by
  intro es
  induction es with
  | nil => intro _ _ _ _; rfl
  | cons e rest ih =>
    intro D hne hpw hD
    rw [List.pairwise_cons] at hpw
    rw [fwEdgesOrig_cons, fwEdges_cons, hD e List.mem_cons_self, if_pos ⟨hne e List.mem_cons_self, rfl⟩]
    refine ih _ (fun f hf => hne f (List.mem_cons_of_mem _ hf)) hpw.2 (fun f hf => ?_)
    rw [setSym_get_other D _ _ _ (fun hc => hpw.1 f hf (hc.imp (fun h => ⟨h.1.symm, h.2.symm⟩) (fun h => ⟨h.2.symm, h.1.symm⟩)))]
    exact hD f (List.mem_cons_of_mem _ hf)

theorem floydWarshallOrig_eq {g : Graph} (hs : Simple g) : floydWarshallOrig g = floydWarshall g := by
  unfold floydWarshallOrig floydWarshall fwInit
  rw [fwEdgesOrig_eq_fwEdges g.edges _ hs.1 hs.2 (fun e he => by rw [fwDiag_get, if_neg (fun h => hs.1 e he h.1)])]

end AdaptaVerif.Lemmas.Apsp
