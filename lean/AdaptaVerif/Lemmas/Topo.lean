/-
Helper lemmas for the C13 state checkers (Check/Topo.lean).
-/
import AdaptaVerif.Check.Topo
import Mathlib.Tactic.Linarith
import Mathlib.Order.Lattice
import Mathlib.Algebra.Order.Field.Basic
namespace AdaptaVerif.Lemmas.Topo
open AdaptaVerif.Check.Topo

theorem eps_pos : (0 : Rat) < eps := by unfold eps; norm_num

/-- the two open intervals, each shrunk by eps/2 at both ends, share a point -/
def Overlap1 (a0 a1 b0 b1 : Rat) : Prop :=
  ∃ x : Rat, a0 + eps / 2 < x ∧ x < a1 - eps / 2 ∧ b0 + eps / 2 < x ∧ x < b1 - eps / 2

/-! The three shapes of linear arithmetic in `overlap1_iff`, stated once: `linarith` runs three times
instead of once per component. -/

theorem lt_sub_of_between {e a b x : Rat} (h1 : a + e / 2 < x) (h2 : x < b - e / 2) : e < b - a := by
  linarith

theorem half_add_lt {e a x : Rat} (h : a < x) : a + e / 2 < x + e / 2 := by linarith

theorem add_half_lt {e b x : Rat} (h : x < b - e) : x + e / 2 < b - e / 2 := by linarith

theorem overlap1_iff (a0 a1 b0 b1 : Rat) : overlap1 a0 a1 b0 b1 = true ↔ Overlap1 a0 a1 b0 b1 := by
  unfold overlap1 Overlap1
  simp only [Bool.and_eq_true, decide_eq_true_eq]
  constructor
  · rintro ⟨⟨⟨h1, h2⟩, h3⟩, h4⟩
    -- a point `x` of both intervals shortened by `eps` at the upper end; `x + eps/2` is the witness
    obtain ⟨x, hx1, hx2⟩ := exists_between
      (max_lt
        (lt_min (lt_sub_iff_add_lt.mpr (lt_sub_iff_add_lt'.mp h3))
          (lt_sub_iff_add_lt.mpr (lt_sub_iff_add_lt'.mp h2)))
        (lt_min (lt_sub_iff_add_lt.mpr (lt_sub_iff_add_lt'.mp h1))
          (lt_sub_iff_add_lt.mpr (lt_sub_iff_add_lt'.mp h4))))
    obtain ⟨ha, hb⟩ := max_lt_iff.mp hx1
    obtain ⟨hc, hd⟩ := lt_min_iff.mp hx2
    exact ⟨x + eps / 2, half_add_lt ha, add_half_lt hc, half_add_lt hb, add_half_lt hd⟩
  · rintro ⟨x, h1, h2, h3, h4⟩
    exact ⟨⟨⟨lt_sub_of_between h3 h2, lt_sub_of_between h1 h4⟩, lt_sub_of_between h1 h2⟩,
      lt_sub_of_between h3 h4⟩

theorem crossesLine_eq_low_xor (ac bc c : Rat) :
    crossesLine ac bc c = (decide (ac ≤ c) != decide (bc ≤ c)) := by
  unfold crossesLine
  by_cases h1 : ac ≤ c <;> by_cases h2 : bc ≤ c <;>
    simp [h1, h2, not_le.mp, not_lt.mpr]

theorem crossesLine_split (ac vc bc c : Rat)
    (hmono : (ac ≤ vc ∧ vc ≤ bc) ∨ (bc ≤ vc ∧ vc ≤ ac)) :
    (crossesLine ac bc c = true ↔ (crossesLine ac vc c = true ∨ crossesLine vc bc c = true)) ∧
      ¬ (crossesLine ac vc c = true ∧ crossesLine vc bc c = true) := by
  simp only [crossesLine_eq_low_xor]
  have h : (decide (bc ≤ c) = true → decide (vc ≤ c) = true) ∧
        (decide (vc ≤ c) = true → decide (ac ≤ c) = true) ∨
      (decide (ac ≤ c) = true → decide (vc ≤ c) = true) ∧
        (decide (vc ≤ c) = true → decide (bc ≤ c) = true) := by
    simp only [decide_eq_true_eq]
    rcases hmono with ⟨h1, h2⟩ | ⟨h1, h2⟩
    · exact Or.inl ⟨le_trans h2, le_trans h1⟩
    · exact Or.inr ⟨le_trans h2, le_trans h1⟩
  revert h
  cases decide (ac ≤ c) <;> cases decide (vc ≤ c) <;> cases decide (bc ≤ c) <;> simp

end AdaptaVerif.Lemmas.Topo
