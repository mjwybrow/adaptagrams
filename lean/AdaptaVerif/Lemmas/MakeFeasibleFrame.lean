/-
Frames of the incremental VPSC solver model (`St.satisfy`): the solver never writes the data of a
constraint (ends, gap, equality flag), only `active` / `unsat` (and `unsat` is only ever set); it
never changes the number of variables / constraints nor the scale of a variable.  Shown for the four primitive
steps of `VpscChain.Prim`; `satisfy` is a chain of them.
-/
import AdaptaVerif.Lemmas.VpscStaticFrame
import AdaptaVerif.Lemmas.VpscLoop
import AdaptaVerif.Lemmas.Util.Array
namespace AdaptaVerif.Lemmas.MakeFeasibleFrame
open AdaptaVerif.Model.Vpsc
open AdaptaVerif.Lemmas.VpscModel AdaptaVerif.Lemmas.VpscHistory AdaptaVerif.Lemmas.VpscInv
open AdaptaVerif.Lemmas.VpscMerge AdaptaVerif.Lemmas.VpscLoop
open AdaptaVerif.Lemmas.VpscStaticFrame

def SameScale (a b : Array Var) : Prop :=
  a.size = b.size ∧ ∀ i : Nat, (a[i]!).scale = (b[i]!).scale

theorem SameScale.refl (a : Array Var) : SameScale a a := ⟨rfl, fun _ => rfl⟩
theorem SameScale.trans {a b c : Array Var} (h1 : SameScale a b) (h2 : SameScale b c) :
    SameScale a c := ⟨h1.1.trans h2.1, fun i => (h1.2 i).trans (h2.2 i)⟩

/-- `b` is `a` with only flags changed, `unsat` only set -/
def ConsMono (a b : Array Con) : Prop :=
  b.size = a.size ∧ ∀ ci : Nat, SameData (b[ci]!) (a[ci]!) ∧ ((a[ci]!).unsat = true → (b[ci]!).unsat = true)

theorem sameData_trans {a b c : Con} (h1 : SameData a b) (h2 : SameData b c) : SameData a c :=
  ⟨h1.1.trans h2.1, h1.2.1.trans h2.2.1, h1.2.2.1.trans h2.2.2.1, h1.2.2.2.trans h2.2.2.2⟩

theorem ConsMono.refl (a : Array Con) : ConsMono a a := ⟨rfl, fun _ => ⟨⟨rfl, rfl, rfl, rfl⟩, fun h => h⟩⟩
theorem ConsMono.trans {a b c : Array Con} (h1 : ConsMono a b) (h2 : ConsMono b c) : ConsMono a c :=
  ⟨h2.1.trans h1.1, fun ci =>
    ⟨sameData_trans (h2.2 ci).1 (h1.2 ci).1, fun h => (h2.2 ci).2 ((h1.2 ci).2 h)⟩⟩

theorem consMono_set (cons : Array Con) (ci : Nat) (c' : Con) (hd : SameData c' (cons[ci]!))
    (hu : (cons[ci]!).unsat = true → c'.unsat = true) : ConsMono cons (cons.set! ci c') := by
  refine ⟨Util.set!_size _ _ _, fun j => ?_⟩
  rw [cons_set_get]
  split
  · rename_i h
    rw [← h.1]
    exact ⟨hd, hu⟩
  · exact ⟨⟨rfl, rfl, rfl, rfl⟩, fun h => h⟩

theorem sameScale_of_onlyBlock {nb : Nat} {a b : Array Var} (h : OnlyBlock nb a b) : SameScale b a :=
  ⟨h.1, fun i => (h.fields i).2.1⟩

theorem shiftVars_scale (vars : Array Var) (s d : Nat) (x : Rat) :
    SameScale (shiftVars vars s d x) vars := by
  refine ⟨shiftVars_size _ _ _ _, fun i => ?_⟩
  by_cases hi : i < vars.size
  · rw [shiftVars_get _ _ _ _ _ hi]
    split <;> rfl
  · have h1 : ¬ i < (shiftVars vars s d x).size := by rw [shiftVars_size]; exact hi
    rw [getElem!_neg _ i h1, getElem!_neg vars i hi]

def FR (a b : St) : Prop := ConsMono a.cons b.cons ∧ SameScale b.vars a.vars

theorem FR.refl (a : St) : FR a a := ⟨ConsMono.refl _, SameScale.refl _⟩
theorem FR.trans {a b c : St} (h1 : FR a b) (h2 : FR b c) : FR a c :=
  ⟨h1.1.trans h2.1, h2.2.trans h1.2⟩
theorem FR.of_eq {a b : St} (hc : b.cons = a.cons) (hv : b.vars = a.vars) : FR a b := by
  unfold FR; rw [hc, hv]; exact ⟨ConsMono.refl _, SameScale.refl _⟩

theorem FR.cd {a b : St} (h : FR a b) : CD a b := ⟨h.1.1, fun ci => (h.1.2 ci).1⟩
theorem FR.um {a b : St} (h : FR a b) (ci : Nat) (hu : (a.cons[ci]!).unsat = true) :
    (b.cons[ci]!).unsat = true := (h.1.2 ci).2 hu

theorem fr_refreshBlock (st : St) (bid : Nat) : FR st (st.refreshBlock bid) :=
  FR.of_eq (refreshBlock_core st bid).2.1 (refreshBlock_core st bid).1

theorem fr_split (st : St) (old ci : Nat) : FR st (st.split old ci).1 := by
  obtain ⟨P1, P2, hP1, hP2, hv, hc, _⟩ := AdaptaVerif.Lemmas.VpscSplit.split_eq st old ci
  unfold FR
  rw [hc, hv]
  exact ⟨consMono_set _ _ _ ⟨rfl, rfl, rfl, rfl⟩ (fun h => h),
    (sameScale_of_onlyBlock (hP2 ▸ (populateSplit_onlyBlock _ _ _ _ _ _ _ _).1)).trans
      (sameScale_of_onlyBlock (hP1 ▸ (populateSplit_onlyBlock _ _ _ _ _ _ _ _).1))⟩

theorem fr_mergeAcross (st : St) (ci : Nat) : FR st (st.mergeAcross ci).1 := by
  unfold FR
  rw [mergeAcross_cons, mergeAcross_vars]
  refine ⟨consMono_set _ _ _ ⟨rfl, rfl, rfl, rfl⟩ (fun h => h), ?_⟩
  simp only
  split <;> exact shiftVars_scale _ _ _ _

theorem fr_flag (st : St) (v : Nat) : FR st (st.flag v) :=
  ⟨consMono_set _ _ _ ⟨rfl, rfl, rfl, rfl⟩ (fun _ => rfl), SameScale.refl _⟩

theorem fr_of_chain {a b : St} (h : VpscChain.Chain a b) : FR a b :=
  VpscChain.Chain.induct FR.refl FR.trans (fun p => by
    cases p with
    | same hv hc _ => exact FR.of_eq hc hv
    | merge ci => exact fr_mergeAcross _ ci
    | split old ci => exact fr_split _ old ci
    | flag v => exact fr_flag _ v) h

theorem fr_satisfy (st : St) : FR st st.satisfy.1 := fr_of_chain (VpscChain.chain_satisfy st)

theorem cd_satisfy_inc (st : St) : CD st st.satisfy.1 := (fr_satisfy st).cd

theorem sameScale_satisfy (st : St) : SameScale st.satisfy.1.vars st.vars := (fr_satisfy st).2

theorem unsat_mono_satisfy (st : St) (ci : Nat) (h : (st.cons[ci]!).unsat = true) :
    (st.satisfy.1.cons[ci]!).unsat = true := (fr_satisfy st).um ci h

theorem cd_addConstraint (st : St) (c : Con) :
    (st.addConstraint c).cons.size = st.cons.size + 1 ∧
    (∀ ci : Nat, ci < st.cons.size → (st.addConstraint c).cons[ci]! = st.cons[ci]!) ∧
    SameData ((st.addConstraint c).cons[st.cons.size]!) c ∧
    ((st.addConstraint c).cons[st.cons.size]!).unsat = c.unsat := by
  rw [addConstraint_cons]
  refine ⟨by simp, fun ci hci => Util.get!_push_lt _ _ _ hci, ?_, ?_⟩
  · rw [Util.get!_push_eq]; exact ⟨rfl, rfl, rfl, rfl⟩
  · rw [Util.get!_push_eq]

theorem sameScale_addConstraint (st : St) (c : Con) : SameScale (st.addConstraint c).vars st.vars :=
  ⟨addConstraint_size st c, fun i => (linkCon_var _ _ _ i).2.2⟩

theorem sameScale_foldl_addConstraint (cs : List Con) (st : St) :
    SameScale (cs.foldl (fun st c => st.addConstraint c) st).vars st.vars :=
  foldl_addConstraint_pres (P := fun s => SameScale s.vars st.vars) cs st
    (fun s c _ h => (sameScale_addConstraint s c).trans h) (SameScale.refl _)

theorem init_vars_scale (vs : Array (Rat × Rat × Rat)) (cs : Array Con) :
    (St.init vs cs).vars.size = vs.size ∧
    ∀ i : Nat, i < vs.size → ((St.init vs cs).vars[i]!).scale = (vs[i]!).2.2 := by
  unfold St.init
  simp only
  rw [← Array.foldl_toList]
  obtain ⟨h1, h2⟩ := sameScale_foldl_addConstraint cs.toList
    { vars := vs.mapIdx fun i (x : Rat × Rat × Rat) =>
        ({ desired := x.1, weight := x.2.1, scale := x.2.2, block := i } : Var),
      cons := #[], lm := #[],
      blocks := vs.mapIdx fun i (x : Rat × Rat × Rat) => ({ vars := #[i], scale := x.2.2, posn := x.1 } : Block),
      order := Array.range vs.size, inactive := #[] }
  refine ⟨by rw [h1]; simp, fun i hi => ?_⟩
  rw [h2 i]
  simp only
  rw [Util.mapIdx_get! _ _ _ hi, getElem!_pos vs i hi]

end AdaptaVerif.Lemmas.MakeFeasibleFrame
