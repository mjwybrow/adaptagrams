/-
Generic lemma library for the loop / container combinators of `Gen/PreludeLoops.lean`
(`forRange`, `forRangePre`, `whileLoop`, `whileLoopPre`, `forEach`, `forEachPre`, `aget`, `aset`): the generated loops are
folds, invariants lift through them, and their obligations follow from an invariant; and for the early `return` of
`Gen/Prelude.lean`: out of an indexed loop (`loopExit`: the loop is a scan of a list that stops at the first hit), and
inside an `if` (`earlyExit`: it moves to the leaves).
Bridges `Gen.f = Model.f` for loop kernels are instances of these.
-/
import AdaptaVerif.Gen.Prelude
import AdaptaVerif.Gen.PreludeLoops
namespace AdaptaVerif.Lemmas.GenLoopBridge
open AdaptaVerif.Gen

theorem forRange_eq_foldl {σ : Type} (body : Nat → σ → σ) (fuel i : Nat) (s : σ) :
    forRange body fuel i s = (List.range' i fuel).foldl (fun s i => body i s) s := by
  induction fuel generalizing i s with
  | zero => rfl
  | succ k ih => simp only [forRange, List.range'_succ, List.foldl_cons]; exact ih _ _

/-- `for (i = 0; i < n; ++i)`, as the translator prints it (`forRange body (n - 0) 0`), is the fold over `List.range n` -/
theorem forRange_zero {σ : Type} (body : Nat → σ → σ) (n : Nat) (s : σ) :
    forRange body (n - 0) 0 s = (List.range n).foldl (fun s i => body i s) s := by
  rw [forRange_eq_foldl, Nat.sub_zero, List.range_eq_range']

theorem forRange_inv {σ : Type} (Inv : Nat → σ → Prop) (body : Nat → σ → σ) (fuel i0 : Nat) (s : σ)
    (h0 : Inv i0 s)
    (hstep : ∀ i s, i0 ≤ i → i < i0 + fuel → Inv i s → Inv (i + 1) (body i s)) :
    Inv (i0 + fuel) (forRange body fuel i0 s) := by
  induction fuel generalizing i0 s with
  | zero => simpa [forRange] using h0
  | succ k ih =>
    simp only [forRange]
    have := ih (i0 + 1) (body i0 s) (hstep i0 s (Nat.le_refl _) (by omega) h0)
      (fun i s hi hlt hI => hstep i s (by omega) (by omega) hI)
    simpa [Nat.add_assoc, Nat.add_comm 1 k] using this

theorem forRangePre_of_inv {σ : Type} (Inv : Nat → σ → Prop) (pre : Nat → σ → Bool) (body : Nat → σ → σ)
    (fuel i0 : Nat) (s : σ) (h0 : Inv i0 s)
    (hstep : ∀ i s, i0 ≤ i → i < i0 + fuel → Inv i s → pre i s = true ∧ Inv (i + 1) (body i s)) :
    forRangePre pre body fuel i0 s = true := by
  induction fuel generalizing i0 s with
  | zero => rfl
  | succ k ih =>
    simp only [forRangePre, Bool.and_eq_true]
    have h := hstep i0 s (Nat.le_refl _) (by omega) h0
    exact ⟨h.1, ih (i0 + 1) (body i0 s) h.2 (fun i s hi hlt hI => hstep i s (by omega) (by omega) hI)⟩

theorem forRange_zero_inv {σ : Type} (Inv : Nat → σ → Prop) (body : Nat → σ → σ) (n : Nat) (s : σ) (h0 : Inv 0 s)
    (hstep : ∀ i s, i < n → Inv i s → Inv (i + 1) (body i s)) : Inv n (forRange body (n - 0) 0 s) := by
  have := forRange_inv Inv body n 0 s h0 (fun i s _ hi h => hstep i s (by rwa [Nat.zero_add] at hi) h)
  rwa [Nat.zero_add] at this

theorem forRangePre_zero_of_inv {σ : Type} (Inv : Nat → σ → Prop) (pre : Nat → σ → Bool) (body : Nat → σ → σ)
    (n : Nat) (s : σ) (h0 : Inv 0 s)
    (hstep : ∀ i s, i < n → Inv i s → pre i s = true ∧ Inv (i + 1) (body i s)) :
    forRangePre pre body (n - 0) 0 s = true :=
  forRangePre_of_inv Inv pre body n 0 s h0 (fun i s _ hi h => hstep i s (by rwa [Nat.zero_add] at hi) h)

theorem forRange_zero_keeps {σ : Type} (P : σ → Prop) (pre : Nat → σ → Bool) (body : Nat → σ → σ) (n : Nat) (s : σ)
    (h0 : P s) (hstep : ∀ i s, i < n → P s → pre i s = true ∧ P (body i s)) :
    forRangePre pre body (n - 0) 0 s = true ∧ P (forRange body (n - 0) 0 s) :=
  ⟨forRangePre_zero_of_inv (fun _ => P) pre body n s h0 hstep,
   forRange_zero_inv (fun _ => P) body n s h0 (fun i s hi h => (hstep i s hi h).2)⟩

theorem forRange_congr_inv {σ : Type} (Inv : Nat → σ → Prop) (body body' : Nat → σ → σ) (fuel i0 : Nat) (s : σ)
    (h0 : Inv i0 s)
    (hstep : ∀ i s, i0 ≤ i → i < i0 + fuel → Inv i s → body i s = body' i s ∧ Inv (i + 1) (body i s)) :
    forRange body fuel i0 s = forRange body' fuel i0 s := by
  induction fuel generalizing i0 s with
  | zero => rfl
  | succ k ih =>
    simp only [forRange]
    have h := hstep i0 s (Nat.le_refl _) (by omega) h0
    rw [← h.1]
    exact ih (i0 + 1) (body i0 s) h.2 (fun i s hi hlt hI => hstep i s (by omega) (by omega) hI)

theorem forRange_congr {σ : Type} (body body' : Nat → σ → σ) (fuel i0 : Nat) (s : σ)
    (h : ∀ i s, i0 ≤ i → i < i0 + fuel → body i s = body' i s) :
    forRange body fuel i0 s = forRange body' fuel i0 s :=
  forRange_congr_inv (fun _ _ => True) body body' fuel i0 s trivial (fun i s hi hlt _ => ⟨h i s hi hlt, trivial⟩)

/-- an indexed loop over a container: `for (i = k; i < k + l.size(); ++i) … l[i - k] …` -/
theorem forRange_list_inv {α σ : Type} (Inv : σ → Prop) (l : List α) (body : Nat → σ → σ) (f : σ → α → σ) (k : Nat) (s : σ)
    (h0 : Inv s) (h : ∀ i (hi : i < l.length) s, Inv s → body (k + i) s = f s l[i] ∧ Inv (f s l[i])) :
    forRange body l.length k s = l.foldl f s ∧ Inv (l.foldl f s) := by
  induction l generalizing k s with
  | nil => exact ⟨rfl, h0⟩
  | cons x xs ih =>
    simp only [List.length_cons, forRange, List.foldl_cons]
    have hx := h 0 (by simp) s h0
    simp only [Nat.add_zero, List.getElem_cons_zero] at hx
    rw [hx.1]
    apply ih (k + 1) (f s x) hx.2
    intro i hi s' hs'
    have := h (i + 1) (by simp; omega) s' hs'
    simpa [Nat.add_assoc, Nat.add_comm 1 i] using this

theorem forRange_list {α σ : Type} (l : List α) (body : Nat → σ → σ) (f : σ → α → σ) (k : Nat) (s : σ)
    (h : ∀ i (hi : i < l.length) s, body (k + i) s = f s l[i]) :
    forRange body l.length k s = l.foldl f s :=
  (forRange_list_inv (fun _ => True) l body f k s trivial (fun i hi s _ => ⟨h i hi s, trivial⟩)).1

theorem whileLoop_of_false {σ : Type} {cond : σ → Bool} (body : σ → σ) {s : σ} (h : cond s = false) (fuel : Nat) :
    whileLoop cond body fuel s = s := by
  cases fuel with
  | zero => rfl
  | succ f => rw [whileLoop, if_neg (by rw [h]; exact Bool.false_ne_true)]

theorem whileLoop_succ {σ : Type} {cond : σ → Bool} (body : σ → σ) {s : σ} (h : cond s = true) (fuel : Nat) :
    whileLoop cond body (fuel + 1) s = whileLoop cond body fuel (body s) := by
  rw [whileLoop, if_pos h]

theorem whileLoopPre_of_false {σ : Type} {condPre cond : σ → Bool} (bodyPre : σ → Bool) (body : σ → σ) {s : σ}
    (hp : condPre s = true) (h : cond s = false) (fuel : Nat) :
    whileLoopPre condPre cond bodyPre body fuel s = true := by
  cases fuel with
  | zero => rw [whileLoopPre, hp, h]; rfl
  | succ f => rw [whileLoopPre, hp, if_neg (by rw [h]; exact Bool.false_ne_true)]; rfl

theorem whileLoopPre_succ {σ : Type} {condPre cond bodyPre : σ → Bool} (body : σ → σ) {s : σ}
    (hp : condPre s = true) (h : cond s = true) (hb : bodyPre s = true) (fuel : Nat) :
    whileLoopPre condPre cond bodyPre body (fuel + 1) s = whileLoopPre condPre cond bodyPre body fuel (body s) := by
  rw [whileLoopPre, hp, if_pos h, hb]; rfl

theorem forEach_eq_foldl {α σ : Type} (body : α → σ → σ) (l : List α) (s : σ) :
    forEach body l s = l.foldl (fun s x => body x s) s := by
  induction l generalizing s with
  | nil => rfl
  | cons x xs ih => simp only [forEach, List.foldl_cons]; exact ih _

theorem forEach_append {α σ : Type} (body : α → σ → σ) (l₁ l₂ : List α) (s : σ) :
    forEach body (l₁ ++ l₂) s = forEach body l₂ (forEach body l₁ s) := by
  simp only [forEach_eq_foldl, List.foldl_append]

theorem forEach_inv {α σ : Type} (Inv : σ → Prop) (body : α → σ → σ) (l : List α) (s : σ) (h0 : Inv s)
    (hstep : ∀ x ∈ l, ∀ s, Inv s → Inv (body x s)) : Inv (forEach body l s) :=
  forEach_eq_foldl body l s ▸ List.foldlRecOn l _ h0 fun s hs x hx => hstep x hx s hs

theorem forEachPre_of_inv {α σ : Type} (Inv : σ → Prop) (pre : α → σ → Bool) (body : α → σ → σ) (l : List α) (s : σ)
    (h0 : Inv s) (hstep : ∀ x ∈ l, ∀ s, Inv s → pre x s = true ∧ Inv (body x s)) :
    forEachPre pre body l s = true := by
  induction l generalizing s with
  | nil => rfl
  | cons x xs ih =>
    simp only [forEachPre, Bool.and_eq_true]
    have h := hstep x (by simp) s h0
    exact ⟨h.1, ih (body x s) h.2 (fun y hy s hs => hstep y (by simp [hy]) s hs)⟩

theorem forEachPre_all {α σ : Type} (body : α → σ → σ) (pre : α → σ → Bool) (l : List α) (s : σ)
    (h : ∀ x ∈ l, ∀ s, pre x s = true) : forEachPre pre body l s = true :=
  forEachPre_of_inv (fun _ => True) pre body l s trivial (fun x hx s _ => ⟨h x hx s, trivial⟩)

theorem forEach_push_map {α β : Type} (g : α → β) (l : List α) (acc : List β) :
    forEach (fun x (s : List β) => s ++ [g x]) l acc = acc ++ l.map g := by
  induction l generalizing acc with
  | nil => simp [forEach]
  | cons x xs ih => simp only [forEach, List.map_cons]; rw [ih]; simp

theorem forEach_append_flatMap {α β : Type} (g : α → List β) (l : List α) (acc : List β) :
    forEach (fun x (s : List β) => s ++ g x) l acc = acc ++ l.flatMap g := by
  induction l generalizing acc with
  | nil => simp [forEach]
  | cons x xs ih => simp only [forEach, List.flatMap_cons]; rw [ih]; simp

theorem aget_eq {α : Type} [Inhabited α] (a : Array α) (i : Nat) : aget a i = (a[i]?).getD default := by
  simp [aget]

theorem aset_size {α : Type} (a : Array α) (i : Nat) (x : α) : (aset a i x).size = a.size := by
  simp [aset]

theorem aget_aset_eq {α : Type} [Inhabited α] (a : Array α) (i : Nat) (x : α) (h : i < a.size) :
    aget (aset a i x) i = x := by
  simp [aget, aset, h]

theorem aget_aset_ne {α : Type} [Inhabited α] (a : Array α) (i j : Nat) (x : α) (h : i ≠ j) :
    aget (aset a i x) j = aget a j := by
  simp [aget, aset, h]

theorem aget_aset {α : Type} [Inhabited α] (a : Array α) (i j : Nat) (x : α) (h : i < a.size) :
    aget (aset a i x) j = if i = j then x else aget a j := by
  by_cases hij : i = j
  · subst hij; rw [if_pos rfl]; exact aget_aset_eq a i x h
  · rw [if_neg hij]; exact aget_aset_ne a i j x hij

/-! ### indexed loops with an early `return`, as cpp2lean generates them

The generated helper carries the loop variables, recurses on fuel = n − i and answers `(some r, _)` when the body
returned `r`, `(none, s)` when the loop ran to completion with the variables `s` (`Gen.loopExit` continues). -/

/-- the list form: stop with `some b` at the first element satisfying `ex`, else fold `next` over the list -/
def scanE {α σ β : Type} (ex : α → Bool) (b : β) (next : α → σ → σ) : List α → σ → Option β × σ
  | [], s => (none, s)
  | e :: es, s => if ex e then (some b, s) else scanE ex b next es (next e s)

theorem scanE_exit {α σ β : Type} (ex : α → Bool) (b : β) (next : α → σ → σ) :
    ∀ (es : List α) (s : σ), es.any ex = true → (scanE ex b next es s).1 = some b
  | [], _, h => by simp at h
  | e :: es, s, h => by
    unfold scanE
    cases he : ex e
    · rw [List.any_cons, he, Bool.false_or] at h
      exact scanE_exit ex b next es _ h
    · rfl

theorem scanE_none {α σ β : Type} (ex : α → Bool) (b : β) (next : α → σ → σ) :
    ∀ (es : List α) (s : σ), es.any ex = false → scanE ex b next es s = (none, es.foldl (fun s e => next e s) s)
  | [], _, _ => rfl
  | e :: es, s, h => by
    rw [List.any_cons, Bool.or_eq_false_iff] at h
    unfold scanE
    rw [h.1, List.foldl_cons]
    exact scanE_none ex b next es _ h.2

theorem fuelLoop_eq_scanE {α σ β : Type} (L : Nat → Nat → σ → Option β × σ) (es : List α) (ex : α → Bool) (b : β)
    (next : α → σ → σ) (h0 : ∀ i s, L 0 i s = (none, s))
    (hs : ∀ f i s (hi : i < es.length),
      L (f + 1) i s = if ex es[i] then (some b, s) else L f (i + 1) (next es[i] s)) :
    ∀ (fuel i : Nat) (s : σ), i + fuel = es.length → L fuel i s = scanE ex b next (es.drop i) s
  | 0, i, s, h => by rw [List.drop_eq_nil_of_le (by omega), h0]; rfl
  | f + 1, i, s, h => by
    have hi : i < es.length := by omega
    rw [List.drop_eq_getElem_cons hi, hs f i s hi, scanE, fuelLoop_eq_scanE L es ex b next h0 hs f (i + 1) _ (by omega)]

theorem fuelLoopPre_true {σ : Type} (P : Nat → Nat → σ → Bool) (n : Nat) (h0 : ∀ i s, P 0 i s = true)
    (hs : ∀ f i s, i < n → (∀ s', P f (i + 1) s' = true) → P (f + 1) i s = true) :
    ∀ (fuel i : Nat) (s : σ), i + fuel = n → P fuel i s = true
  | 0, i, s, _ => h0 i s
  | f + 1, i, s, h => hs f i s (by omega) fun s' => fuelLoopPre_true P n h0 hs f (i + 1) s' (by omega)

theorem loopExit_some {α σ : Type} (r : Option α × σ) (k : σ → α) (x : α) (h : r.1 = some x) :
    loopExit r k = x := by
  obtain ⟨o, s⟩ := r
  simp only at h
  subst h
  rfl

theorem loopExitPre_of {α σ : Type} (r : Option α × σ) (k : σ → Bool) (h : ∀ s, k s = true) :
    loopExitPre r k = true := by
  obtain ⟨o, s⟩ := r
  cases o <;> simp [loopExitPre, h]

theorem loopExit_scanE {α σ β : Type} (ex : α → Bool) (b : β) (next : α → σ → σ) (es : List α) (s : σ) (k : σ → β) :
    loopExit (scanE ex b next es s) k = if es.any ex then b else k (es.foldl (fun s e => next e s) s) := by
  cases h : es.any ex
  · rw [scanE_none _ _ _ _ _ h]; rfl
  · exact loopExit_some _ _ _ (scanE_exit _ _ _ _ _ h)

/-! ### early `return` in an `if` -/

theorem earlyExit_ite {α : Type} (c : Prop) [Decidable c] (x y : Option α) (r : α) :
    earlyExit (if c then x else y) r = if c then earlyExit x r else earlyExit y r := by split <;> rfl

theorem earlyExit_cond {α : Type} (c : Bool) (x y : Option α) (r : α) :
    earlyExit (cond c x y) r = cond c (earlyExit x r) (earlyExit y r) := by cases c <;> rfl

theorem earlyExit_some {α : Type} (v r : α) : earlyExit (some v) r = v := rfl

theorem earlyExit_none {α : Type} (r : α) : earlyExit none r = r := rfl

theorem earlyExitPre_true {α : Type} (x : Option α) : earlyExitPre x true = true := by cases x <;> rfl

end AdaptaVerif.Lemmas.GenLoopBridge
