/-
C09: the stable insertion sort `sortEvents` used by the driver is a valid event order, for every
axis (so the hypothesis `ValidOrder` of the separation theorems is satisfiable for every input).
-/
import AdaptaVerif.Spec.Rects
import AdaptaVerif.Lemmas.Util.InsertionSort
import Mathlib.Tactic.Linarith
import Mathlib.Algebra.Order.Field.Rat
namespace AdaptaVerif.Lemmas.Scanline
open AdaptaVerif.Model.Scanline AdaptaVerif.Spec.Rects

theorem evLe_iff (ax : Axis) (a b : Ev) :
    evLe ax a b = true ↔ a.pos ax < b.pos ax ∨ (a.pos ax = b.pos ax ∧ ¬ (a.close = true ∧ b.close = false)) := by
  cases ha : a.close <;> cases hb : b.close <;> simp [evLe, ha, hb]

theorem evLe_trans (ax : Axis) (a b c : Ev) (h1 : evLe ax a b = true) (h2 : evLe ax b c = true) :
    evLe ax a c = true := by
  rw [evLe_iff] at *
  rcases h1 with h1 | ⟨h1, h1'⟩ <;> rcases h2 with h2 | ⟨h2, h2'⟩
  · left; linarith
  · left; linarith
  · left; linarith
  · right
    refine ⟨h1.trans h2, fun ⟨ha, hc⟩ => ?_⟩
    cases hb : b.close with
    | true => exact h2' ⟨hb, hc⟩
    | false => exact h1' ⟨ha, hb⟩

/-- the test of `insertEv` decides on which side of `y` the new event may stand -/
theorem evLe_of_test {ax : Axis} {e y : Ev}
    (hb : (decide (e.pos ax < y.pos ax) || (e.pos ax == y.pos ax && !e.close && y.close)) = true) :
    evLe ax e y = true := by
  rw [evLe_iff]
  cases he : e.close <;> cases hy : y.close <;> simp_all

theorem evLe_of_not_test {ax : Axis} {e y : Ev}
    (hb : ¬ (decide (e.pos ax < y.pos ax) || (e.pos ax == y.pos ax && !e.close && y.close)) = true) :
    evLe ax y e = true := by
  rw [evLe_iff]
  rcases lt_trichotomy (e.pos ax) (y.pos ax) with h | h | h <;> cases he : e.close <;> cases hy : y.close <;>
    simp_all

theorem mem_allEvents {n : Nat} {e : Ev} : e ∈ allEvents n ↔ e.id < n := by
  obtain ⟨c, i⟩ := e
  simp only [allEvents, List.mem_flatMap, List.mem_range, List.mem_cons, Ev.mk.injEq, List.not_mem_nil, or_false]
  constructor
  · rintro ⟨j, hj, h | h⟩ <;> (obtain ⟨_, rfl⟩ := h; exact hj)
  · intro h
    refine ⟨i, h, ?_⟩
    cases c <;> simp

theorem nodup_allEvents (n : Nat) : (allEvents n).Nodup := by
  induction n with
  | zero => simp [allEvents]
  | succ k ih =>
    have : allEvents (k + 1) = allEvents k ++ [⟨false, k⟩, ⟨true, k⟩] := by
      simp [allEvents, List.range_succ, List.flatMap_append]
    rw [this]
    refine List.nodup_append.2 ⟨ih, by simp, ?_⟩
    intro a ha b hb
    have h1 := mem_allEvents.1 ha
    rintro rfl
    simp only [List.mem_cons, List.not_mem_nil, or_false] at hb
    rcases hb with rfl | rfl <;> simp at h1

theorem sortEvents_valid (ax : Axis) (n : Nat) : ValidOrder ax n (sortEvents ax n) := by
  have hi : Util.IsInsert (fun e x : Ev =>
      (decide (e.pos ax < x.pos ax) || (e.pos ax == x.pos ax && !e.close && x.close)) = true) (insertEv ax) :=
    ⟨fun _ => rfl, fun _ _ _ => rfl⟩
  have hp := hi.foldr_perm (allEvents n)
  -- `evLe` is transitive but neither total nor antisymmetric; `Util.SortsBy` asks for no more than the three facts below
  exact ⟨hi.foldr_sorted (D := fun _ => True)
      ⟨fun _ _ _ _ => evLe_of_test, fun _ _ _ _ => evLe_of_not_test, fun a b c _ _ _ => evLe_trans ax a b c⟩
      fun _ _ => trivial,
    hp.nodup_iff.2 (nodup_allEvents n), fun _ => hp.mem_iff.trans mem_allEvents⟩

end AdaptaVerif.Lemmas.Scanline
