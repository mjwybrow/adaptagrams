/-
Open intervals of rationals: when two of them share a point.  Used by the rectangle-overlap checkers of
C09 (`Check/Rects`) and C14 (`Check/Drawing`), one dimension at a time, and by the edge-against-rectangle test of
C05 (`hitsH_iff` in Props/C05OrthVis).
-/
import Mathlib.Tactic.Linarith
import Mathlib.Algebra.Order.Field.Rat
namespace AdaptaVerif.Lemmas.Interval

theorem openIntervals_meet_iff (a0 a1 b0 b1 : Rat) :
    (∃ p, a0 < p ∧ p < a1 ∧ b0 < p ∧ p < b1) ↔ max a0 b0 < min a1 b1 := by
  constructor
  · rintro ⟨p, h1, h2, h3, h4⟩
    exact (max_lt h1 h3).trans (lt_min h2 h4)
  · intro h
    have hp1 : max a0 b0 < (max a0 b0 + min a1 b1) / 2 := by linarith
    have hp2 : (max a0 b0 + min a1 b1) / 2 < min a1 b1 := by linarith
    exact ⟨_, (max_lt_iff.1 hp1).1, (lt_min_iff.1 hp2).1, (max_lt_iff.1 hp1).2, (lt_min_iff.1 hp2).2⟩

end AdaptaVerif.Lemmas.Interval
