/-
The two tree traversals of `Solver::refine` never exhaust their fuel in a state satisfying the block invariant:
 * `compute_dfdv` (fuel n+1): the call chain is a non-backtracking walk in the active forest, hence a path
   (`walk_verts_nodup`), hence shorter than n;
 * `populateSplitBlock` (fuel n+1): every call marks a variable that was still in the old block (`cntOld`).
-/
import AdaptaVerif.Lemmas.VpscLoop
import AdaptaVerif.Lemmas.VpscStaticFrame
import AdaptaVerif.Lemmas.Util.Array
import AdaptaVerif.Lemmas.Util.List
namespace AdaptaVerif.Lemmas.VpscStaticFuel
open AdaptaVerif.Model.Vpsc
open AdaptaVerif.Lemmas.VpscGraph AdaptaVerif.Lemmas.VpscInv AdaptaVerif.Lemmas.VpscWalk AdaptaVerif.Lemmas.VpscSplit
open AdaptaVerif.Lemmas.VpscMerge AdaptaVerif.Lemmas.VpscHistory
open AdaptaVerif.Lemmas.VpscTraverse AdaptaVerif.Lemmas.VpscStaticMem
open AdaptaVerif.Lemmas.VpscLoop (forest_of_inv)
open Relation

def verts (x : Nat) (W : List Step) : List Nat := x :: W.map (·.2.2)

theorem walk_verts_nodup {cons : Array Con} (hf : Forest cons) : ∀ {W : List Step} {x y : Nat} {u : Option Nat},
    Walk cons x y W → NB u W → (verts x W).Nodup := by
  intro W
  induction W with
  | nil => intro x y u _ _; simp [verts]
  | cons s W ih =>
    intro x y u h hnb
    have hcons := Walk.nodup hf h hnb
    cases h with
    | @cons j _ b _ rest hae hrest =>
      have ih' := ih hrest hnb.2
      simp only [verts, List.map_cons, List.nodup_cons] at ih' ⊢
      refine ⟨?_, ih'⟩
      intro hmem
      rcases List.mem_cons.1 hmem with hab | hmem
      · -- x = b : a self loop is no bridge
        subst hab
        exact hf _ _ _ hae ReflTransGen.refl
      · obtain ⟨t, htW, hta⟩ := List.mem_map.1 hmem
        obtain ⟨P, S, hPS⟩ := List.append_of_mem htW
        subst hPS
        have hsplit : Walk cons b y ((P ++ [t]) ++ S) := by simpa using hrest
        obtain ⟨m, hP, _⟩ := Walk.split hsplit
        -- the walk b → x along P ++ [t] avoids constraint j
        have hav : ∀ s ∈ P ++ [t], s.1 ≠ j := by
          intro s hs heq
          rw [List.map_cons, List.nodup_cons] at hcons
          apply hcons.1
          rw [← heq]
          apply List.mem_map.2
          refine ⟨s, ?_, rfl⟩
          rcases List.mem_append.1 hs with h1 | h1
          · exact List.mem_append_left _ h1
          · simp only [List.mem_singleton] at h1; subst h1; exact List.mem_append_right _ (by simp)
        have hm : m = x := by
          obtain ⟨m', hP', hT⟩ := Walk.split hP
          cases hT with
          | cons hae' hnil => cases hnil; exact hta
        subst hm
        exact hf _ _ _ hae (Walk.reachAvoid hP hav).symm

theorem walk_verts_lt {vars : Array Var} {cons : Array Con} {n : Nat} {ia : Array Nat} (hI : InvC vars cons n ia) :
    ∀ {W : List Step} {x y : Nat}, Walk cons x y W → x < vars.size → ∀ z ∈ verts x W, z < vars.size := by
  intro W
  induction W with
  | nil => intro x y _ hx z hz; simp [verts] at hz; subst hz; exact hx
  | cons s W ih =>
    intro x y h hx z hz
    cases h with
    | @cons j _ b _ rest hae hrest =>
      have hb : b < vars.size := by
        obtain ⟨hj, _, hends⟩ := hae
        rcases hends with ⟨_, rfl⟩ | ⟨rfl, _⟩
        · exact hI.r_lt j hj
        · exact hI.l_lt j hj
      simp only [verts, List.map_cons, List.mem_cons] at hz
      rcases hz with rfl | rfl | hz
      · exact hx
      · exact hb
      · exact ih hrest hb z (by simp [verts, hz])

theorem walk_len {vars : Array Var} {cons : Array Con} {n : Nat} {ia : Array Nat} (hI : InvC vars cons n ia)
    {W : List Step} {x y : Nat} {u : Option Nat} (hw : Walk cons x y W) (hnb : NB u W) (hx : x < vars.size) :
    W.length + 1 ≤ vars.size := by
  have hnd := walk_verts_nodup (forest_of_inv hI) hw hnb
  have hsub : verts x W ⊆ List.range vars.size := fun z hz => List.mem_range.2 (walk_verts_lt hI hw hx z hz)
  have := (List.subperm_of_subset hnd hsub).length_le
  simpa [verts] using this

/-- the parent handed to `compute_dfdv` is where the walk back to the root goes first -/
def parentOf (W : List Step) : Option Nat := (W.head?).map (·.2.2)

theorem nb_extend {W : List Step} (hnb : NB none W) (w : Nat) (hw : parentOf W ≠ some w) : NB (some w) W := by
  cases W with
  | nil => trivial
  | cons s rest =>
    obtain ⟨j, a, b⟩ := s
    refine ⟨?_, hnb.2⟩
    simp only [parentOf, List.head?_cons, Option.map_some] at hw
    exact fun e => hw (by rw [Option.some.inj e])

theorem computeDfdv_fuel (st : St) {n : Nat} {ia : Array Nat} (hI : InvC st.vars st.cons n ia) (bid v0 : Nat) :
    ∀ (fuel : Nat) (lm : Array Rat) (post : Array Nat) (v : Nat) (W : List Step),
      Walk st.cons v v0 W → NB none W → v < st.vars.size → st.vars.size + 1 ≤ fuel + W.length →
      (computeDfdv st bid fuel lm post v (parentOf W)).2.2.2 = true := by
  intro fuel
  induction fuel with
  | zero =>
    intro lm post v W hw hnb hv hle
    have := walk_len hI hw hnb hv
    omega
  | succ fuel ih =>
    intro lm post v W hw hnb hv hle
    rw [computeDfdv_succ']
    have loop : ∀ (fwd : Bool) (l : List Nat) (acc : Acc),
        (∀ ci ∈ l, ci < st.cons.size ∧ nearEnd fwd st.cons[ci]! = v) → acc.2.2.2 = true →
        (l.foldl (dStep st bid fuel v (parentOf W) fwd) acc).2.2.2 = true := fun fwd l acc hmem hacc =>
      List.foldlRecOn (motive := fun a : Acc => a.2.2.2 = true) l _ hacc fun acc hacc ci hci => by
        unfold dStep
        split
        · rename_i hcf
          obtain ⟨⟨_, hact⟩, hne⟩ := follows_iff.mp hcf
          obtain ⟨hcilt, hnear⟩ := hmem ci hci
          have hae : AE st.cons ci (farEnd fwd st.cons[ci]!) v ∧ farEnd fwd st.cons[ci]! < st.vars.size := by
            cases fwd
            · exact ⟨⟨hcilt, hact, Or.inl ⟨rfl, hnear⟩⟩, hI.l_lt ci hcilt⟩
            · exact ⟨⟨hcilt, hact, Or.inr ⟨hnear, rfl⟩⟩, hI.r_lt ci hcilt⟩
          have hrec := ih acc.1 acc.2.1 _ ((ci, farEnd fwd st.cons[ci]!, v) :: W)
            (Walk.cons hae.1 hw) ⟨by simp, nb_extend hnb _ hne⟩ hae.2
            (by simp only [List.length_cons]; omega)
          exact (Bool.and_eq_true _ _).mpr ⟨hacc, hrec⟩
        · exact hacc
    exact loop false _ _ (fun ci hc => hI.ins_sound v ci (Array.mem_toList_iff.mp hc))
      (loop true _ _ (fun ci hc => hI.outs_sound v ci (Array.mem_toList_iff.mp hc)) rfl)

theorem computeDfdv_fuel_out (st : St) (bid : Nat) (fuel : Nat) (lm : Array Rat) (post : Array Nat) (v : Nat)
    (u : Option Nat) (hv : ¬ v < st.vars.size) : (computeDfdv st bid (fuel + 1) lm post v u).2.2.2 = true := by
  rw [computeDfdv_succ', getElem!_neg st.vars v hv, default_outs, default_ins]
  rfl

theorem findMinLM_fuel (st : St) {n : Nat} {ia : Array Nat} (hI : InvC st.vars st.cons n ia) (b : Nat) :
    (st.findMinLM b).1.fuelOut = st.fuelOut := by
  have hok : (computeDfdv st b (st.vars.size + 1) st.lm #[] ((st.blocks[b]!).vars[0]!) none).2.2.2 = true := by
    by_cases hb : (st.blocks[b]!).vars[0]! < st.vars.size
    · have := computeDfdv_fuel st hI b ((st.blocks[b]!).vars[0]!) (st.vars.size + 1) st.lm #[]
        ((st.blocks[b]!).vars[0]!) [] (Walk.nil _) trivial hb (by simp)
      rwa [show parentOf ([] : List Step) = none from rfl] at this
    · exact computeDfdv_fuel_out st b st.vars.size st.lm #[] ((st.blocks[b]!).vars[0]!) none hb
  unfold St.findMinLM
  simp only
  rw [hok]
  simp

def cntOld (old : Nat) (vars : Array Var) : Nat :=
  ((List.range vars.size).filter fun x => blk vars x == old).length

theorem linkOK_onlyBlock {cons : Array Con} {nb : Nat} {a b : Array Var} (hm : OnlyBlock nb a b) (h : LinkOK cons a) :
    LinkOK cons b :=
  h.congr (fun u => (hm.fields u).2.2.2) fun u => (hm.fields u).2.2.1

theorem cntOld_onlyBlock {old nb : Nat} (hnb : nb ≠ old) {a b : Array Var} (hm : OnlyBlock nb a b) :
    cntOld old b ≤ cntOld old a := by
  unfold cntOld
  rw [hm.1]
  refine (List.monotone_filter_right _ fun x hx => ?_).length_le
  simp only [beq_iff_eq, VpscInv.blk] at hx ⊢
  rcases hm.2 x with e | e <;> rw [e] at hx
  · exact hx
  · exact absurd hx hnb

theorem cntOld_set {old nb : Nat} (hnb : nb ≠ old) (vars : Array Var) (v : Nat) (hv : v < vars.size)
    (hb : blk vars v = old) : cntOld old (vars.set! v { vars[v]! with block := nb }) < cntOld old vars := by
  unfold cntOld
  have hsz : (vars.set! v { vars[v]! with block := nb }).size = vars.size := by simp
  rw [hsz]
  have hself : blk (vars.set! v { vars[v]! with block := nb }) v = nb := blk_setBlock nb vars v hv
  apply Util.length_filter_lt _ _ _ _ v
  · simp [hb]
  · simp only [beq_eq_false_iff_ne, ne_eq]; rw [hself]; exact hnb
  · exact List.mem_range.2 hv
  · intro x _ hx
    simp only [beq_iff_eq, VpscInv.blk] at hx ⊢
    rcases (onlyBlock_set nb vars v).2 x with e | e <;> rw [e] at hx
    · exact hx
    · exact absurd hx hnb

theorem cntOld_le (old : Nat) (vars : Array Var) : cntOld old vars ≤ vars.size := by
  unfold cntOld
  calc _ ≤ (List.range vars.size).length := List.length_filter_le _ _
    _ = vars.size := List.length_range

theorem populate_fuel (cons : Array Con) (old nb : Nat) (hnb : nb ≠ old) :
    ∀ (fuel : Nat) (vars : Array Var) (mem : Array Nat) (v : Nat) (u : Option Nat),
      LinkOK cons vars → v < vars.size →
      cntOld old vars + (if blk vars v = old then 0 else 1) ≤ fuel →
      (populateSplit cons old nb fuel vars mem v u).2.2 = true := by
  intro fuel
  induction fuel with
  | zero =>
    intro vars mem v u _ hv hle
    by_cases hb : blk vars v = old
    · have := cntOld_set hnb vars v hv hb; omega
    · rw [if_neg hb] at hle; omega
  | succ fuel ih =>
    intro vars mem v u hlk hv hle
    have hm1 := onlyBlock_set nb vars v
    have hc1 : cntOld old (vars.set! v { vars[v]! with block := nb }) ≤ fuel := by
      by_cases hb : blk vars v = old
      · have := cntOld_set hnb vars v hv hb; omega
      · have := cntOld_onlyBlock hnb hm1
        rw [if_neg hb] at hle; omega
    rw [populateSplit_succ]
    refine (List.foldlRecOn (motive := fun acc : Array Var × Array Nat × Bool => acc.2.2 = true ∧
      OnlyBlock nb (vars.set! v { vars[v]! with block := nb }) acc.1) _ _ ⟨rfl, OnlyBlock.refl _ _⟩
      fun acc ⟨hok, hmono⟩ d hd => ?_).1
    unfold pStep
    split
    · rename_i hcond
      have hbfar : blk acc.1 (farEnd d.2 (cons[d.1]!)) = old :=
        eq_of_beq (Bool.and_eq_true_iff.1 (Bool.and_eq_true_iff.1 hcond).1).1
      have r1 := ih acc.1 acc.2.1 (farEnd d.2 (cons[d.1]!)) (some v)
        (linkOK_onlyBlock hmono (linkOK_onlyBlock hm1 hlk))
        (by rw [hmono.1, hm1.1]; exact far_lt hlk ((mem_darts hlk).1 hd).1 d.2)
        (by rw [if_pos hbfar]; exact Nat.le_trans (cntOld_onlyBlock hnb hmono) hc1)
      exact ⟨by rw [hok, Bool.true_and]; exact r1,
        hmono.trans (populateSplit_onlyBlock cons old nb fuel acc.1 acc.2.1 _ _).1⟩
    · exact ⟨hok, hmono⟩

theorem linkOK_deact {vars : Array Var} {cons : Array Con} {n : Nat} {ia : Array Nat} (h : InvC vars cons n ia)
    (ci : Nat) : LinkOK (cons.set! ci { cons[ci]! with active := false }) vars :=
  (h.link.congr (fun _ => ⟨rfl, rfl⟩) (Util.set!_size _ _ _) (cons_deact_lr cons ci)).toLinkOK

theorem split_oks (st : St) {n : Nat} {ia : Array Nat} (hI : InvC st.vars st.cons n ia) (old ci : Nat)
    (hci : ci < st.cons.size) (hold : old < st.blocks.size) {P1 P2 : Array Var × Array Nat × Bool}
    (hP1 : populateSplit (st.cons.set! ci { st.cons[ci]! with active := false }) old st.blocks.size
      (st.vars.size + 1) st.vars #[] (st.cons[ci]!).l (some (st.cons[ci]!).r) = P1)
    (hP2 : populateSplit (st.cons.set! ci { st.cons[ci]! with active := false }) old (st.blocks.size + 1)
      (st.vars.size + 1) P1.1 #[] (st.cons[ci]!).r (some (st.cons[ci]!).l) = P2) :
    P1.2.2 = true ∧ P2.2.2 = true := by
  have hlk := linkOK_deact hI ci
  have s1 : OnlyBlock st.blocks.size st.vars P1.1 := hP1 ▸ (populateSplit_onlyBlock _ _ _ _ _ _ _ _).1
  exact ⟨hP1 ▸ populate_fuel _ old st.blocks.size (by omega) _ _ _ _ _ hlk (hI.l_lt ci hci)
      (by have := cntOld_le old st.vars; split <;> omega),
    hP2 ▸ populate_fuel _ old (st.blocks.size + 1) (by omega) _ _ _ _ _
      (linkOK_onlyBlock s1 hlk) (by rw [s1.1]; exact hI.r_lt ci hci)
      (by have := cntOld_le old P1.1; rw [s1.1] at this; split <;> omega)⟩

theorem split_fuel (st : St) {n : Nat} {ia : Array Nat} (hI : InvC st.vars st.cons n ia) (old ci : Nat)
    (hci : ci < st.cons.size) (hold : old < st.blocks.size) :
    (st.split old ci).1.fuelOut = st.fuelOut := by
  obtain ⟨P1, P2, hP1, hP2, _, _, _, hf, _⟩ := split_eq st old ci
  obtain ⟨p1, p2⟩ := split_oks st hI old ci hci hold hP1 hP2
  rw [hf, p1, p2]
  simp

end AdaptaVerif.Lemmas.VpscStaticFuel
