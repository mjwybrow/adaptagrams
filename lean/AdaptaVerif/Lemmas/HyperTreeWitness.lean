/-
C12: small concrete hyperedge trees used as non-vacuity examples and as closed witnesses for the side
conditions of the theorems in Props/C12Ops.  (Data only; that they pass `wfb` and `isTree` is evaluated in
Lemmas/HyperTreeWfb, the theorems about them are in Props/C12Ops.)
-/
import AdaptaVerif.Model.HyperTree
namespace AdaptaVerif.Lemmas.HyperTreeWitness
open AdaptaVerif.Model.HyperTree

def mkImp (t : HTree) (junctions : List (Nat × Nat)) (roots : List Nat) (major : Bool) : Imp :=
  { t := t, junctions := junctions, roots := roots, canMajor := major, nextJ := 100, nextC := 100 }

/-- junction 1 (node 0) at the origin with three connectors: a ZERO-LENGTH one to the terminal node 1
    (the junction sits on the pin), and two proper ones to the terminals 2 and 3 -/
def exStar : HTree :=
  { nodes := [ { id := 0, edges := [4, 5, 6], junction := some 1, point := ⟨0, 0⟩ },
               { id := 1, edges := [4], junction := none, point := ⟨0, 0⟩ },
               { id := 2, edges := [5], junction := none, point := ⟨10, 0⟩ },
               { id := 3, edges := [6], junction := none, point := ⟨0, 10⟩ } ],
    edges := [ { id := 4, e1 := some 0, e2 := some 1, conn := some 1, hasFixedRoute := false },
               { id := 5, e1 := some 0, e2 := some 2, conn := some 2, hasFixedRoute := false },
               { id := 6, e1 := some 0, e2 := some 3, conn := some 3, hasFixedRoute := false } ],
    next := 7 }

/-- junction 1 (node 0) — bend 1 — terminal 2 where the LAST segment 1–2 has zero length and the
    terminal is the connector's source; two more terminals 3, 4 -/
def exZeroTail : HTree :=
  { nodes := [ { id := 0, edges := [5, 7, 8], junction := some 1, point := ⟨0, 0⟩ },
               { id := 1, edges := [5, 6], junction := none, point := ⟨10, 0⟩ },
               { id := 2, edges := [6], junction := none, point := ⟨10, 0⟩, isConnectorSource := true },
               { id := 3, edges := [7], junction := none, point := ⟨0, 10⟩ },
               { id := 4, edges := [8], junction := none, point := ⟨0, -10⟩ } ],
    edges := [ { id := 5, e1 := some 0, e2 := some 1, conn := some 1, hasFixedRoute := false },
               { id := 6, e1 := some 1, e2 := some 2, conn := some 1, hasFixedRoute := false },
               { id := 7, e1 := some 0, e2 := some 3, conn := some 2, hasFixedRoute := false },
               { id := 8, e1 := some 0, e2 := some 4, conn := some 3, hasFixedRoute := false } ],
    next := 9 }

/-- junction 1 (node 0) at the origin; connector 1 runs straight to the terminal node 1 at (10,0);
    connector 2 runs over the same point (bend node 2 at (10,0)) on to the terminal 3 at (10,10);
    connector 3 goes to the terminal 4 -/
def exOverTerminal : HTree :=
  { nodes := [ { id := 0, edges := [5, 6, 8], junction := some 1, point := ⟨0, 0⟩ },
               { id := 1, edges := [5], junction := none, point := ⟨10, 0⟩ },
               { id := 2, edges := [6, 7], junction := none, point := ⟨10, 0⟩ },
               { id := 3, edges := [7], junction := none, point := ⟨10, 10⟩ },
               { id := 4, edges := [8], junction := none, point := ⟨0, -10⟩ } ],
    edges := [ { id := 5, e1 := some 0, e2 := some 1, conn := some 1, hasFixedRoute := false },
               { id := 6, e1 := some 0, e2 := some 2, conn := some 2, hasFixedRoute := false },
               { id := 7, e1 := some 2, e2 := some 3, conn := some 2, hasFixedRoute := false },
               { id := 8, e1 := some 0, e2 := some 4, conn := some 3, hasFixedRoute := false } ],
    next := 9 }

/-- two junctions joined by a zero-length connector; each with two terminals -/
def exTwoJunctions : HTree :=
  { nodes := [ { id := 0, edges := [6, 7, 8], junction := some 1, point := ⟨0, 0⟩ },
               { id := 1, edges := [6, 9, 10], junction := some 2, point := ⟨0, 0⟩ },
               { id := 2, edges := [7], junction := none, point := ⟨-10, 0⟩ },
               { id := 3, edges := [8], junction := none, point := ⟨0, -10⟩ },
               { id := 4, edges := [9], junction := none, point := ⟨10, 0⟩ },
               { id := 5, edges := [10], junction := none, point := ⟨0, 10⟩ } ],
    edges := [ { id := 6, e1 := some 0, e2 := some 1, conn := some 1, hasFixedRoute := false },
               { id := 7, e1 := some 0, e2 := some 2, conn := some 2, hasFixedRoute := false },
               { id := 8, e1 := some 0, e2 := some 3, conn := some 3, hasFixedRoute := false },
               { id := 9, e1 := some 1, e2 := some 4, conn := some 4, hasFixedRoute := false },
               { id := 10, e1 := some 1, e2 := some 5, conn := some 5, hasFixedRoute := false } ],
    next := 11 }

/-- junction 1 (node 0) with two connectors leaving along the same line (to bend 1 at (10,0) and, longer,
    to bend 2 at (20,0)), and two more connectors: the junction can move to (10,0) -/
def exCommon : HTree :=
  { nodes := [ { id := 0, edges := [7, 8, 9], junction := some 1, point := ⟨0, 0⟩ },
               { id := 1, edges := [7, 10], junction := none, point := ⟨10, 0⟩ },
               { id := 2, edges := [8, 11], junction := none, point := ⟨20, 0⟩ },
               { id := 3, edges := [9], junction := none, point := ⟨0, -10⟩ },
               { id := 4, edges := [10], junction := none, point := ⟨10, 10⟩ },
               { id := 5, edges := [11], junction := none, point := ⟨20, 10⟩ } ],
    edges := [ { id := 7, e1 := some 0, e2 := some 1, conn := some 1, hasFixedRoute := false },
               { id := 8, e1 := some 0, e2 := some 2, conn := some 2, hasFixedRoute := false },
               { id := 9, e1 := some 0, e2 := some 3, conn := some 3, hasFixedRoute := false },
               { id := 10, e1 := some 1, e2 := some 4, conn := some 1, hasFixedRoute := false },
               { id := 11, e1 := some 2, e2 := some 5, conn := some 2, hasFixedRoute := false } ],
    next := 12 }

end AdaptaVerif.Lemmas.HyperTreeWitness
