/-
The solver loops of the IncSolver model preserve the block invariant:
splitBlocks, mostViolated, the body of the satisfy loop (`process`).  (`satisfy` and `solve`: VpscFinal.lean.)
-/
import AdaptaVerif.Lemmas.VpscChain
import AdaptaVerif.Lemmas.VpscTraverse
import AdaptaVerif.Lemmas.VpscFeasible
import AdaptaVerif.Lemmas.Util.Array
namespace AdaptaVerif.Lemmas.VpscLoop
open AdaptaVerif.Model.Vpsc
open AdaptaVerif.Lemmas.VpscGraph AdaptaVerif.Lemmas.VpscModel
open AdaptaVerif.Lemmas.VpscInv AdaptaVerif.Lemmas.VpscMerge AdaptaVerif.Lemmas.VpscSplit
open AdaptaVerif.Lemmas.VpscTraverse AdaptaVerif.Lemmas.VpscWalk AdaptaVerif.Lemmas.VpscChain
open AdaptaVerif.Lemmas.VpscFlag (toC)
open AdaptaVerif.Spec.Vpsc (PosCycle)
open Relation

theorem InvC.congr_inactive {vars cons n} {ia ia' : Array Nat} (hm : ∀ j, j ∈ ia ↔ j ∈ ia')
    (h : InvC vars cons n ia) : InvC vars cons n ia' :=
  h.change_inactive (fun j hj => Or.inl ((hm j).1 hj)) (fun j hj => h.inact_lt j ((hm j).2 hj))

theorem InvC.drop_push {vars cons n} {ia : Array Nat} {x : Nat} (h : InvC vars cons n (ia.push x))
    (hx : (cons[x]!).active = true ∨ (cons[x]!).unsat = true) : InvC vars cons n ia :=
  h.change_inactive
    (fun j hj => by
      rcases Array.mem_push.1 hj with c | rfl
      · exact Or.inl c
      · exact Or.inr hx)
    (fun j hj => h.inact_lt j (Array.mem_push.2 (Or.inl hj)))

theorem InvC.add_push {vars cons n} {ia : Array Nat} {x : Nat} (h : InvC vars cons n ia)
    (hx : x < cons.size) : InvC vars cons n (ia.push x) :=
  h.change_inactive (fun j hj => Or.inl (Array.mem_push.2 (Or.inl hj)))
    (fun j hj => by
      rcases Array.mem_push.1 hj with c | rfl
      · exact h.inact_lt j c
      · exact hx)

theorem active_lt (cons : Array Con) (j : Nat) (h : (cons[j]!).active = true) : j < cons.size := by
  by_contra hlt
  rw [getElem!_neg cons j hlt] at h
  exact absurd h (by decide)

/-- the constraint in hand (taken off the `inactive` list, accounted for as `ia.push x`) exists -/
theorem InvC.hole_lt {vars cons n} {ia : Array Nat} {x : Nat} (h : InvC vars cons n (ia.push x)) :
    x < cons.size := h.inact_lt x (Array.mem_push.2 (Or.inr rfl))

theorem InvC.set_unsat {vars cons n} {ia : Array Nat} {x : Nat} (h : InvC vars cons n (ia.push x))
    (hj : (∀ j : Nat, j < cons.size → (cons[j]!).eq = false) → PosCycle (cons.toList.map toC)) :
    InvC vars (cons.set! x { cons[x]! with unsat := true }) n ia := by
  have U := flagUpd_set cons x { cons[x]! with unsat := true } (InvC.hole_lt h) ⟨rfl, rfl, rfl, rfl⟩
  generalize cons.set! x { cons[x]! with unsat := true } = cons1 at U ⊢
  have hact : ∀ j : Nat, (cons1[j]!).active = (cons[j]!).active := by
    intro j
    by_cases hjx : j = x
    · rw [hjx, U.self]
    · rw [U.ne j hjx]
  have hrtg : ∀ (P : Nat → Prop) (a b : Nat),
      ReflTransGen (Adj P cons1) a b ↔ ReflTransGen (Adj P cons) a b := fun P a b =>
    ⟨reflTransGen_adj_mono (fun j a b hp hh => ⟨hp, (U.ae_congr (hact j) a b).1 hh⟩),
     reflTransGen_adj_mono (fun j a b hp hh => ⟨hp, (U.ae_congr (hact j) a b).2 hh⟩)⟩
  refine
    { U.link h.link (fun _ => ⟨rfl, rfl⟩) with
      tight := ?tight, bridge := ?bridge, conn := ?conn, fresh := h.fresh,
      cover := ?cover, inact_lt := ?inact_lt, flags := ?flags }
  case tight =>
    intro j hj ha
    rw [U.size] at hj
    rw [hact j] at ha
    rw [(U.data j).1, (U.data j).2.1, (U.data j).2.2.1]
    exact h.tight j hj ha
  case bridge =>
    intro j hj ha
    rw [U.size] at hj
    rw [hact j] at ha
    rw [(U.data j).1, (U.data j).2.1, ReachAvoid, hrtg]
    exact h.bridge j hj ha
  case conn =>
    intro a b ha hb hab
    rw [Reach, hrtg]
    exact h.conn a b ha hb hab
  case cover =>
    intro j hj
    rw [U.size] at hj
    rcases h.cover j hj with c | c | c
    · exact Or.inl (by rw [hact j]; exact c)
    · refine Or.inr (Or.inl ?_)
      by_cases hjx : j = x
      · rw [hjx, U.self]
      · rw [U.ne j hjx]; exact c
    · rcases Array.mem_push.1 c with c | rfl
      · exact Or.inr (Or.inr c)
      · exact Or.inr (Or.inl (by rw [U.self]))
  case inact_lt =>
    intro j hj; rw [U.size]; exact h.inact_lt j (Array.mem_push.2 (Or.inl hj))
  case flags =>
    intro hineq j _ _
    rw [U.toC_eq]
    exact hj (fun k hk => by
      have := hineq k (by rw [U.size]; exact hk)
      rw [(U.data k).2.2.2] at this
      exact this)

theorem J.inv {st : St} (h : J st) (hf : st.fuelOut = false) : Inv st := by
  rcases h with h | h
  · rw [hf] at h; exact absurd h (by simp)
  · exact h

theorem J.of_core {st st' : St} (hv : st'.vars = st.vars) (hc : st'.cons = st.cons)
    (hb : st'.blocks.size = st.blocks.size) (hi : st'.inactive = st.inactive)
    (hf : st'.fuelOut = false → st.fuelOut = false) (h : J st) : J st' := by
  by_cases hfo : st'.fuelOut = true
  · exact Or.inl hfo
  · right
    unfold VpscInv.Inv
    rw [hv, hc, hb, hi]
    exact J.inv h (hf (by simpa using hfo))

/-- A fact like this is proved by `simp only` with the update unfolded, never by `rfl`: comparing two
    states as structures makes Lean compare their `margin` fields, i.e. unfold the order on `Rat`. -/
theorem J.note {st : St} (m : Rat) (h : J st) : J (st.note m) := by
  unfold J VpscInv.Inv at h ⊢
  simp only [St.note]
  exact h

theorem J.cleanup {st : St} (h : J st) : J st.cleanup := by
  unfold J VpscInv.Inv at h ⊢
  simp only [St.cleanup]
  exact h

theorem refreshBlock_core (st : St) (bid : Nat) :
    (st.refreshBlock bid).vars = st.vars ∧ (st.refreshBlock bid).cons = st.cons ∧
    (st.refreshBlock bid).blocks.size = st.blocks.size ∧ (st.refreshBlock bid).inactive = st.inactive ∧
    (st.refreshBlock bid).fuelOut = st.fuelOut := by
  simp [St.refreshBlock]

theorem moveBlocks_core (st : St) :
    st.moveBlocks.vars = st.vars ∧ st.moveBlocks.cons = st.cons ∧
    st.moveBlocks.blocks.size = st.blocks.size ∧ st.moveBlocks.inactive = st.inactive ∧
    st.moveBlocks.fuelOut = st.fuelOut := by
  unfold St.moveBlocks
  apply Array.foldl_induction
    (motive := fun _ (s : St) => s.vars = st.vars ∧ s.cons = st.cons ∧
      s.blocks.size = st.blocks.size ∧ s.inactive = st.inactive ∧ s.fuelOut = st.fuelOut)
  · exact ⟨rfl, rfl, rfl, rfl, rfl⟩
  · intro i s hs
    obtain ⟨a, b, c, d, e⟩ := refreshBlock_core s st.order[i]
    exact ⟨a.trans hs.1, b.trans hs.2.1, c.trans hs.2.2.1, d.trans hs.2.2.2.1, e.trans hs.2.2.2.2⟩

theorem findMinLM_spec (st : St) (bid : Nat) :
    (st.findMinLM bid).1.vars = st.vars ∧ (st.findMinLM bid).1.cons = st.cons ∧
    (st.findMinLM bid).1.blocks = st.blocks ∧ (st.findMinLM bid).1.inactive = st.inactive ∧
    ((st.findMinLM bid).1.fuelOut = false → st.fuelOut = false) ∧
    (∀ ci lmv gap, (st.findMinLM bid).2 = some (ci, lmv, gap) → (st.cons[ci]!).active = true) := by
  unfold St.findMinLM
  simp only
  refine ⟨trivial, trivial, trivial, trivial, ?_, ?_⟩
  · intro h
    simp only [Bool.or_eq_false_iff] at h
    exact h.1
  · intro ci lmv gap h
    have hm := argMinFirst_mem _ _ _ _ h
    simp only [Array.mem_map, Array.mem_filter] at hm
    obtain ⟨cj, ⟨hcj, _⟩, heq⟩ := hm
    simp only [Prod.mk.injEq] at heq
    obtain ⟨rfl, _⟩ := heq
    rcases computeDfdv_post_mem st bid (st.vars.size + 1) st.lm #[] _ none cj hcj with hh | hh
    · exact absurd hh (Array.not_mem_empty cj)
    · exact hh.1

theorem splitOn_spec (st : St) (ci : Nat) (ia : Array Nat)
    (h : InvC st.vars st.cons st.blocks.size ia) (hact : (st.cons[ci]!).active = true)
    {q : St × Nat × Nat} (hq : st.splitOn (blk st.vars (st.cons[ci]!).l) ci = q)
    (hfo : q.1.fuelOut = false) :
    InvC q.1.vars q.1.cons q.1.blocks.size (ia.push ci) ∧
    (∀ x, ReachAvoid st.cons ci (st.cons[ci]!).l x → blk q.1.vars x = q.2.1) ∧
    (∀ x, ReachAvoid st.cons ci (st.cons[ci]!).r x → blk q.1.vars x = q.2.2) ∧
    q.2.1 ≠ q.2.2 ∧ q.1.inactive = st.inactive.push ci ∧ st.fuelOut = false ∧
    q.1.cons = st.cons.set! ci { st.cons[ci]! with active := false } := by
  obtain ⟨e1, e2, e3, e4, e5, e6⟩ := splitOn_fields st (blk st.vars (st.cons[ci]!).l) ci
  rw [hq] at e1 e2 e3 e4 e5 e6
  obtain ⟨c1, c2, c3, c4, c5⟩ := split_spec st ci ia h (active_lt _ _ hact) hact rfl
    (by rw [← e5]; exact hfo)
  rw [e1, e2, e3, e4, e6]
  exact ⟨c1, c2, c3, c4, by rw [(split_frame _ _ _).1], c5, split_fst_cons _ _ _⟩

theorem splitOn_J (st : St) (ci : Nat) (h : J st) (hact : (st.cons[ci]!).active = true)
    {q : St × Nat × Nat} (hq : st.splitOn (blk st.vars (st.cons[ci]!).l) ci = q) (st' : St)
    (hv : st'.vars = q.1.vars) (hc : st'.cons = q.1.cons)
    (hb : st'.blocks.size = q.1.blocks.size) (hi : st'.inactive = q.1.inactive)
    (hf : st'.fuelOut = q.1.fuelOut) : J st' := by
  by_cases hfo : st'.fuelOut = true
  · exact Or.inl hfo
  · right
    have hfo' : q.1.fuelOut = false := by rw [← hf]; simpa using hfo
    have hf0 : st.fuelOut = false := by
      by_contra hne
      have := Chain.fuel (chain_splitOn st (blk st.vars (st.cons[ci]!).l) ci) (by simpa using hne)
      rw [hq, hfo'] at this
      exact absurd this (by decide)
    obtain ⟨c1, _, _, _, c5, _, _⟩ := splitOn_spec st ci st.inactive (J.inv h hf0) hact hq hfo'
    unfold VpscInv.Inv
    rw [hv, hc, hb, hi, c5]
    exact c1

theorem splitBlockStep_J (st : St) (i : Nat) (h : J st) : J (st.splitBlockStep i) := by
  unfold St.splitBlockStep
  simp only
  obtain ⟨f1, f2, f3, f4, f5, f6⟩ := findMinLM_spec st st.order[i]!
  generalize st.findMinLM st.order[i]! = r at f1 f2 f3 f4 f5 f6 ⊢
  have hJ1 : J r.1 := J.of_core f1 f2 (by rw [f3]) f4 f5 h
  split
  · exact hJ1
  · rename_i ci lmv gap hm
    have hact := f6 ci lmv gap hm
    split
    · generalize hst2 : (r.1.note (lmv - LAGRANGIAN_TOLERANCE)).note gap = st2
      have hJ2 : J st2 := by rw [← hst2]; exact J.note _ (J.note _ hJ1)
      have hact2 : (st2.cons[ci]!).active = true := by
        rw [← hst2]
        simp only [St.note]
        rw [f2]
        exact hact
      apply splitOn_J st2 ci hJ2 hact2 rfl <;> simp only [St.incSplit, St.insertBlocks, blk]
    · exact J.note _ hJ1

theorem cleanup_core (st : St) :
    st.cleanup.vars = st.vars ∧ st.cleanup.cons = st.cons ∧ st.cleanup.blocks = st.blocks ∧
    st.cleanup.inactive = st.inactive ∧ st.cleanup.fuelOut = st.fuelOut :=
  ⟨rfl, rfl, rfl, rfl, rfl⟩

theorem splitBlocks_J (st : St) (h : J st) : J st.splitBlocks := by
  unfold St.splitBlocks
  simp only
  obtain ⟨a, b, c, d, e⟩ := moveBlocks_core st
  have h1 : J st.moveBlocks := J.of_core a b c d (fun hh => by rw [← e]; exact hh) h
  exact J.cleanup (List.foldlRecOn _ St.splitBlockStep h1 fun s hs i _ => splitBlockStep_J s i hs)

theorem mem_swapRemove_sub (l : Array Nat) (k x : Nat) (h : x ∈ (l.set! k l[l.size - 1]!).pop) : x ∈ l := by
  obtain ⟨i, hi, rfl⟩ := Array.mem_iff_getElem.1 h
  have hi' : i < l.size := by simp at hi; omega
  rw [Array.getElem_pop]
  simp only [Array.set!_eq_setIfInBounds]
  rw [Array.getElem_setIfInBounds hi']
  split
  · rw [getElem!_pos l _ (by omega)]; exact Array.getElem_mem _
  · exact Array.getElem_mem _

theorem mem_swapRemove_of_ne (l : Array Nat) (k x : Nat) (hk : k < l.size) (hx : x ∈ l)
    (hne : x ≠ l[k]!) : x ∈ (l.set! k l[l.size - 1]!).pop := by
  obtain ⟨i, hi, rfl⟩ := Array.mem_iff_getElem.1 hx
  have hik : k ≠ i := by
    rintro rfl
    exact hne (getElem!_pos l k hi).symm
  rw [Array.mem_iff_getElem]
  by_cases hlast : i = l.size - 1
  · -- the last element has been moved to position k
    refine ⟨k, by simp; omega, ?_⟩
    simp only [Array.getElem_pop, Array.set!_eq_setIfInBounds]
    rw [Array.getElem_setIfInBounds hk, if_pos rfl]
    subst hlast
    exact getElem!_pos l _ hi
  · refine ⟨i, by simp; omega, ?_⟩
    simp only [Array.getElem_pop, Array.set!_eq_setIfInBounds]
    rw [Array.getElem_setIfInBounds hi, if_neg hik]

theorem slack_note (st : St) (m : Rat) (ci : Nat) : (st.note m).slack ci = st.slack ci := by rfl

/-- what `mostViolated` does as far as the invariant can tell: it writes the `inactive` list only; a
    constraint `v` it returns comes from that list and every other entry stays; whenever the loop of
    `satisfy` stops (nothing returned, or `goCond v` false) the list is as before and holds no
    equality -/
structure MVSpec (st : St) (r : St × Option Nat) : Prop where
  vars : r.1.vars = st.vars
  cons : r.1.cons = st.cons
  blocks : r.1.blocks = st.blocks
  fuel : r.1.fuelOut = st.fuelOut
  sub : ∀ j ∈ r.1.inactive, j ∈ st.inactive
  none_case : r.2 = none → r.1.inactive = st.inactive ∧ ∀ j ∈ st.inactive, (st.cons[j]!).eq = false
  some_case : ∀ v, r.2 = some v → v ∈ st.inactive ∧
    (∀ j ∈ st.inactive, j ≠ v → j ∈ r.1.inactive) ∧
    (r.1.goCond v = false → r.1.inactive = st.inactive ∧ ∀ j ∈ st.inactive, (st.cons[j]!).eq = false)

theorem MVSpec.congr {st r1 r1' : St} {o : Option Nat}
    (e : r1'.vars = r1.vars ∧ r1'.cons = r1.cons ∧ r1'.blocks = r1.blocks ∧
      r1'.inactive = r1.inactive ∧ r1'.fuelOut = r1.fuelOut)
    (h : MVSpec st (r1, o)) : MVSpec st (r1', o) := by
  obtain ⟨ev, ec, eb, ei, ef⟩ := e
  have hgo : ∀ v, r1'.goCond v = r1.goCond v := by
    intro v
    unfold St.goCond
    rw [slack_congr ev ec eb, ec]
  exact ⟨ev.trans h.vars, ec.trans h.cons, eb.trans h.blocks, ef.trans h.fuel,
    fun j hj => h.sub j (by rw [← ei]; exact hj),
    fun ho => by rw [ei]; exact h.none_case ho,
    fun v hv => by rw [ei, hgo]; exact h.some_case v hv⟩

theorem MVSpec.keep {st : St} {v : Nat} (hv : v ∈ st.inactive)
    (hall : ∀ j ∈ st.inactive, (st.cons[j]!).eq = false) : MVSpec st (st, some v) := by
  refine ⟨rfl, rfl, rfl, rfl, fun j hj => hj, fun hh => by simp at hh, ?_⟩
  intro v' hv'
  simp only [Option.some.injEq] at hv'
  subst hv'
  exact ⟨hv, fun j hj _ => hj, fun _ => ⟨rfl, hall⟩⟩

theorem mostViolated_spec (st : St) : MVSpec st st.mostViolated := by
  unfold St.mostViolated
  simp only
  split
  · -- empty list
    rename_i hsz
    have hempty : ∀ j, j ∉ st.inactive := by
      intro j hj
      obtain ⟨i, hi, _⟩ := Array.mem_iff_getElem.1 hj
      have : st.inactive.size = 0 := by simpa using hsz
      omega
    exact ⟨rfl, rfl, rfl, rfl, fun j hj => hj, fun _ => ⟨rfl, fun j hj => absurd hj (hempty j)⟩,
      fun v hv => by simp at hv⟩
  · split
    · -- an equality is in the list
      rename_i k hk
      obtain ⟨hklt, hp, _⟩ := Array.findIdx?_eq_some_iff_getElem.1 hk
      have hkk : st.inactive[k]! = st.inactive[k] := getElem!_pos _ k hklt
      refine ⟨rfl, rfl, rfl, rfl, fun j hj => mem_swapRemove_sub _ _ _ hj, fun hh => by simp at hh, ?_⟩
      intro v hv
      simp only [Option.some.injEq] at hv
      subst hv
      refine ⟨by rw [hkk]; exact Array.getElem_mem _, fun j hj hne => mem_swapRemove_of_ne _ _ _ hklt hj hne, ?_⟩
      intro hgo
      exfalso
      have heq : (st.cons[st.inactive[k]!]!).eq = true := by rw [hkk]; exact hp
      simp only [St.goCond, Bool.or_eq_false_iff] at hgo
      have := hgo.1
      rw [heq] at this
      exact absurd this (by simp)
    · rename_i hnoeq
      have hall : ∀ j ∈ st.inactive, (st.cons[j]!).eq = false :=
        fun j hj => Array.findIdx?_eq_none_iff.1 hnoeq j hj
      split
      · exact ⟨rfl, rfl, rfl, rfl, fun j hj => hj, fun _ => ⟨rfl, hall⟩, fun v hv => by simp at hv⟩
      · rename_i ci s gap hmin
        have hmem := argMinFirst_mem _ _ _ _ hmin
        simp only [Array.mem_filterMap, Option.map_eq_some_iff, Prod.mk.injEq] at hmem
        obtain ⟨cj, hcj, s', hs', rfl, rfl⟩ := hmem
        split
        · rename_i hcond
          split
          · rename_i k hk
            obtain ⟨hklt, hp, _⟩ := Array.findIdx?_eq_some_iff_getElem.1 hk
            have hkk : st.inactive[k]! = cj := by
              rw [getElem!_pos _ k hklt]; simpa using hp
            refine MVSpec.congr (r1 := { st with
              inactive := (st.inactive.set! k st.inactive[st.inactive.size - 1]!).pop })
              (by simp only [St.note, and_self]) ?_
            refine ⟨rfl, rfl, rfl, rfl, fun j hj => mem_swapRemove_sub _ _ _ hj,
              fun hh => by simp at hh, ?_⟩
            intro v hv
            simp only [Option.some.injEq] at hv
            subst hv
            refine ⟨hcj, fun j hj hne => mem_swapRemove_of_ne _ _ _ hklt hj (by rw [hkk]; exact hne), ?_⟩
            intro hgo
            exfalso
            simp only [St.goCond, Bool.or_eq_false_iff] at hgo
            have h2 := hgo.2
            have hsl : St.slack { st with
                inactive := (st.inactive.set! k st.inactive[st.inactive.size - 1]!).pop } cj = some s' := hs'
            rw [hsl] at h2
            simp only at h2
            exact absurd (hcond.symm.trans h2) (by simp)
          · exact MVSpec.congr (by simp only [St.note, and_self]) (MVSpec.keep hcj hall)
        · exact MVSpec.congr (by simp only [St.note, and_self]) (MVSpec.keep hcj hall)

theorem mergeAcross_hole (st : St) (v : Nat)
    (h : InvC st.vars st.cons st.blocks.size (st.inactive.push v))
    (hne : blk st.vars (st.cons[v]!).l ≠ blk st.vars (st.cons[v]!).r) :
    Inv (st.mergeAcross v).1 := by
  have hv := InvC.hole_lt h
  obtain ⟨src, dst, d, hdir, hvars⟩ := mergeAcross_shift st v
  unfold VpscInv.Inv
  rw [(mergeAcross_frame st v).1, (mergeAcross_frame st v).2.1, mergeAcross_cons, hvars]
  refine InvC.drop_push (merge_core _ _ _ _ h v hv hne _ _ _ hdir) (Or.inl ?_)
  rw [cons_set_get]
  simp [hv]

theorem slack_none (st : St) (v : Nat) (h : st.slack v = none) : (st.cons[v]!).unsat = true := by
  unfold St.slack at h
  simp only at h
  split at h
  · assumption
  · simp at h

theorem afterSplit_inv (st : St) (v lid rid : Nat)
    (h : InvC st.vars st.cons st.blocks.size (st.inactive.push v))
    (hne : blk st.vars (st.cons[v]!).l ≠ blk st.vars (st.cons[v]!).r) :
    Inv (st.afterSplit v lid rid) := by
  unfold St.afterSplit
  split
  · rename_i hs
    exact InvC.drop_push h (Or.inr (slack_none st v hs))
  · rename_i s hs
    simp only
    split
    · unfold VpscInv.Inv
      simp only [St.incResat, St.insertBlocks, St.pushInactive, St.note]
      exact h
    · have := mergeAcross_hole (st.note s) v h hne
      unfold VpscInv.Inv at this ⊢
      simp only [St.insertBlock]
      exact this

open AdaptaVerif.Lemmas.VpscFlag in
theorem tightActive_of_inv {st : St} {n : Nat} {ia : Array Nat}
    (h : InvC st.vars st.cons n ia) : TightActive st := by
  intro c hc hact
  obtain ⟨j, hj, rfl⟩ := Array.mem_iff_getElem.1 hc
  have e : st.cons[j] = st.cons[j]! := (getElem!_pos _ j hj).symm
  rw [e] at hact ⊢
  obtain ⟨t1, t2⟩ := h.tight j hj hact
  unfold blk at t1
  unfold offs at t2
  simp only [St.uval, t1]
  linarith only [t2]

theorem viol_of_slack (st : St) (v : Nat) (s : Rat) (hs : st.slack v = some s) (hneg : s < 0) :
    st.uval (st.cons[v]!).r - (st.cons[v]!).gap - st.uval (st.cons[v]!).l < 0 := by
  unfold St.slack at hs
  simp only at hs
  split at hs
  · simp at hs
  · simp only [Option.some.injEq] at hs
    rw [hs]; exact hneg

theorem backward_walk (cons : Array Con) : ∀ (W : List Step) (x y : Nat), Walk cons x y W →
    (∀ s ∈ W, s.2.1 = (cons[s.1]!).r ∧ s.2.2 = (cons[s.1]!).l) →
    AdaptaVerif.Lemmas.VpscFlag.DirPath cons y x := by
  intro W
  induction W with
  | nil => intro x y h _; cases h; exact ⟨[], by simp, by simp [AdaptaVerif.Check.Vpsc.walkEnd]⟩
  | cons s W ih =>
    intro x y h hb
    cases h with
    | @cons j a b c rest hae hrest =>
      obtain ⟨p, hp, hw⟩ := ih b y hrest (fun s hs => hb s (List.mem_cons_of_mem _ hs))
      have hj := hb (j, x, b) List.mem_cons_self
      simp only at hj
      refine ⟨p ++ [cons[j]!], ?_, ?_⟩
      · intro c' hc'
        rcases List.mem_append.1 hc' with h1 | h1
        · exact hp c' h1
        · simp only [List.mem_singleton] at h1
          subst h1
          exact ⟨Util.getElem!_mem hae.1, hae.2.1⟩
      · rw [List.map_append, AdaptaVerif.Lemmas.VpscFeasible.walkEnd_append, hw]
        simp [AdaptaVerif.Check.Vpsc.walkEnd, conEdge, hj.1, hj.2]

theorem walk_steps_ae {cons : Array Con} : ∀ {W : List Step} {x y : Nat}, Walk cons x y W →
    ∀ s ∈ W, AE cons s.1 s.2.1 s.2.2 := by
  intro W
  induction W with
  | nil => intro x y _ s hs; simp at hs
  | cons t W ih =>
    intro x y h s hs
    cases h with
    | cons hae hrest =>
      rcases List.mem_cons.1 hs with rfl | hs
      · exact hae
      · exact ih hrest s hs

theorem walk_start_reach {cons : Array Con} : ∀ {W : List Step} {x y : Nat}, Walk cons x y W →
    ∀ s ∈ W, Reach cons x s.2.1 := by
  intro W
  induction W with
  | nil => intro x y _ s hs; simp at hs
  | cons t W ih =>
    intro x y h s hs
    cases h with
    | cons hae hrest =>
      rcases List.mem_cons.1 hs with rfl | hs
      · exact ReflTransGen.refl
      · exact ReflTransGen.head ⟨_, trivial, hae⟩ (ih hrest s hs)

theorem forest_of_inv {vars cons n ia} (h : InvC vars cons n ia) : Forest cons := by
  intro j a b hae hre
  obtain ⟨hj, ha, hends⟩ := hae
  rcases hends with ⟨rfl, rfl⟩ | ⟨rfl, rfl⟩
  · exact h.bridge j hj ha hre
  · exact h.bridge j hj ha hre.symm

theorem isActiveDirectedPathBetween_self (st : St) (bid fuel u : Nat) :
    (isActiveDirectedPathBetween st bid (fuel + 1) u u).1 = true := by
  unfold isActiveDirectedPathBetween
  simp

/-- the tail of `splitBetween` once the split constraint `sc` has been chosen -/
theorem splitTail_J (st : St) (v sc lb : Nat)
    (hlb : lb = blk st.vars (st.cons[sc]!).l)
    (hH : InvC st.vars st.cons st.blocks.size (st.inactive.push v))
    (hact : (st.cons[sc]!).active = true)
    (hside1 : ReachAvoid st.cons sc (st.cons[sc]!).l (st.cons[v]!).l)
    (hside2 : ReachAvoid st.cons sc (st.cons[sc]!).r (st.cons[v]!).r)
    {q : St × Nat × Nat} (hq : st.splitOn lb sc = q) :
    J (q.1.incSplitBetween.afterSplit v q.2.1 q.2.2) := by
  subst hlb
  by_cases hfo : q.1.fuelOut = true
  · exact Or.inl (Chain.fuel (chain_afterSplit q.1.incSplitBetween v q.2.1 q.2.2) hfo)
  · obtain ⟨c1, c2, c3, c4, c5, _, c7⟩ :=
      splitOn_spec st sc (st.inactive.push v) hH hact hq (by simpa using hfo)
    generalize hp : q.1.incSplitBetween = p
    obtain ⟨pv, pc, pb, pi⟩ : p.vars = q.1.vars ∧ p.cons = q.1.cons ∧ p.blocks = q.1.blocks ∧
        p.inactive = q.1.inactive := by
      rw [← hp]
      simp only [St.incSplitBetween, and_self]
    have hH' : InvC p.vars p.cons p.blocks.size (p.inactive.push v) := by
      rw [pv, pc, pb, pi, c5]
      refine InvC.congr_inactive (fun j => ?_) c1
      simp only [Array.mem_push]
      exact or_right_comm
    have hdata : SameData (p.cons[v]!) (st.cons[v]!) := by
      rw [pc, c7]
      exact (flagUpd_set st.cons sc { st.cons[sc]! with active := false } (active_lt _ _ hact)
        ⟨rfl, rfl, rfl, rfl⟩).data v
    refine Or.inr (afterSplit_inv p v q.2.1 q.2.2 hH' ?_)
    rw [hdata.1, hdata.2.1, pv, c2 _ hside1, c3 _ hside2]
    exact c4

/-- what the path search of `splitBetween` delivers (when it did not run out of fuel) -/
structure SearchSpec (st : St) (v : Nat) (path : Option (Array Nat)) : Prop where
  found : ∀ cs, path = some cs → PathSpec st (st.cons[v]!).r (st.cons[v]!).l none cs
  notfound : path = none → ∀ W : List Step,
    Walk st.cons (st.cons[v]!).l (st.cons[v]!).r W → NB none W → W = []

theorem SearchSpec.congr {st st' : St} (hc : st'.cons = st.cons) {v : Nat} {path : Option (Array Nat)}
    (h : SearchSpec st v path) : SearchSpec st' v path :=
  ⟨fun cs hcs => hc ▸ (h.found cs hcs).congr hc, fun hn => hc ▸ h.notfound hn⟩

/-- the search runs on a state `st1` that agrees with `st` on `vars` and `cons`: `searchSplit` runs
    it after storing the multipliers -/
theorem splitPath_searchSpec (st st1 : St) (hv : st1.vars = st.vars) (hc : st1.cons = st.cons) {n : Nat}
    {ia : Array Nat} (h : InvC st.vars st.cons n ia) (v fuel : Nat)
    (hp2 : (splitPath st1 (blk st.vars (st.cons[v]!).l) (st.cons[v]!).r fuel (st.cons[v]!).l none).2 = true) :
    SearchSpec st v (splitPath st1 (blk st.vars (st.cons[v]!).l) (st.cons[v]!).r fuel (st.cons[v]!).l none).1 := by
  have h1 : InvC st1.vars st1.cons n ia := by rw [hv, hc]; exact h
  refine ⟨?_, ?_⟩
  · intro cs hcs
    exact (splitPath_some st1 _ _ h1.link.toLinkOK
      (fun j x hae => forest_of_inv h1 j x x hae ReflTransGen.refl) _ _ _ _ hcs).congr hc.symm
  · intro hnone W hW hnb
    have := splitPath_none st1 (blk st.vars (st.cons[v]!).l) (st.cons[v]!).r
      h1.link.toLinkOK (fun j x y hae => h1.ae_blk hae)
      fuel (st.cons[v]!).l none (by rw [hv]) (Prod.ext hnone hp2) W (by rw [hc]; exact hW) hnb
    exact this

theorem searchSplit_spec (st : St) (v : Nat) {n : Nat} {ia : Array Nat}
    (h : InvC st.vars st.cons n ia) :
    (st.searchSplit v).1.vars = st.vars ∧ (st.searchSplit v).1.cons = st.cons ∧
    (st.searchSplit v).1.blocks = st.blocks ∧ (st.searchSplit v).1.inactive = st.inactive ∧
    ((st.searchSplit v).1.fuelOut = true ∨
      (st.fuelOut = false ∧ SearchSpec st v (st.searchSplit v).2)) := by
  unfold St.searchSplit
  simp only
  generalize computeDfdv st _ _ _ _ _ _ = d
  have e : ((st.setLm d.1).okAnd d.2.2.2).vars = st.vars ∧ ((st.setLm d.1).okAnd d.2.2.2).cons = st.cons ∧
      ((st.setLm d.1).okAnd d.2.2.2).blocks = st.blocks ∧
      ((st.setLm d.1).okAnd d.2.2.2).inactive = st.inactive ∧
      (((st.setLm d.1).okAnd d.2.2.2).fuelOut = false → st.fuelOut = false) := by
    simp only [St.okAnd, St.setLm, Bool.or_eq_false_iff, true_and]
    exact fun hh => hh.1
  generalize (st.setLm d.1).okAnd d.2.2.2 = st1 at e ⊢
  obtain ⟨e1, e2, e3, e4, e5⟩ := e
  simp only [St.okAnd]
  refine ⟨e1, e2, e3, e4, ?_⟩
  by_cases hf : (st1.fuelOut || !(splitPath st1 (st.vars[(st.cons[v]!).l]!).block (st.cons[v]!).r
      (st.vars.size + 1) (st.cons[v]!).l none).2) = true
  · exact Or.inl hf
  · right
    simp only [Bool.or_eq_true, Bool.not_eq_true', not_or, Bool.not_eq_true, Bool.not_eq_false] at hf
    exact ⟨e5 hf.1, splitPath_searchSpec st st1 e1 e2 h v _ hf.2⟩

theorem splitBetweenWith_J (st : St) (v : Nat) (path : Option (Array Nat))
    (hH : InvC st.vars st.cons st.blocks.size (st.inactive.push v))
    (hsame : blk st.vars (st.cons[v]!).l = blk st.vars (st.cons[v]!).r)
    (hlr : (st.cons[v]!).l ≠ (st.cons[v]!).r)
    (hsp : SearchSpec st v path)
    (hviol : (∀ j : Nat, j < st.cons.size → (st.cons[j]!).eq = false) →
      ∃ s, st.slack v = some s ∧ s < 0) :
    J (st.splitBetweenWith v path) := by
  have hforest := forest_of_inv hH
  have hv := InvC.hole_lt hH
  unfold St.splitBetweenWith
  simp only
  split
  · -- no split point: flag
    rename_i hn
    have hempty := argMinFirst_none _ hn
    have hsz : (path.getD #[]).size = 0 := by
      have := congrArg Array.size hempty
      simpa using this
    right
    unfold VpscInv.Inv
    simp only [St.incFlagNoSplit, St.flag]
    refine InvC.set_unsat hH ?_
    · intro hineq
      obtain ⟨s, hs, hneg⟩ := hviol hineq
      cases path with
      | none =>
        exfalso
        have hreach := hH.conn _ _ (hH.l_lt v hv) (hH.r_lt v hv) hsame
        obtain ⟨W, hW, hnb⟩ := exists_nb_walk hreach
        have := hsp.notfound rfl W hW hnb
        subst this
        exact hlr (walk_nil_eq hW)
      | some cs =>
        have hcs0 : cs.size = 0 := by simpa using hsz
        obtain ⟨W, hW, _, _, _, hc2⟩ := hsp.found cs rfl
        have hback : ∀ s ∈ W, s.2.1 = (st.cons[s.1]!).r ∧ s.2.2 = (st.cons[s.1]!).l := by
          intro s hs
          obtain ⟨hj, _, hends⟩ := walk_steps_ae hW s hs
          rcases hends with ⟨h1, h2⟩ | ⟨h1, h2⟩
          · exfalso
            have hmem := hc2 s hs h1.symm h2.symm (hineq _ hj)
            obtain ⟨i, hi, _⟩ := Array.mem_iff_getElem.1 hmem
            omega
          · exact ⟨h2.symm, h1.symm⟩
        obtain ⟨p, hp, hw⟩ := backward_walk st.cons W _ _ hW hback
        exact AdaptaVerif.Lemmas.VpscFlag.flag_walk_sound st v p hp hw (tightActive_of_inv hH)
          (Util.getElem!_mem hv) (viol_of_slack st v s hs hneg)
  · -- split on `sc`
    rename_i sc x gap hmin
    have hmem := argMinFirst_mem _ _ _ _ hmin
    simp only [Array.mem_map, Prod.mk.injEq] at hmem
    obtain ⟨ci, hci, rfl, _⟩ := hmem
    cases path with
    | none => simp at hci
    | some cs =>
      simp only [Option.getD_some] at hci
      obtain ⟨W, hW, _, hnb, hc1, _⟩ := hsp.found cs rfl
      obtain ⟨hstep, _⟩ := hc1 ci hci
      obtain ⟨P, S, hPS⟩ := List.append_of_mem hstep
      have hnd := Walk.nodup hforest hW hnb
      subst hPS
      obtain ⟨m, hP, hS⟩ := Walk.split hW
      cases hS with
      | cons hae hS' =>
        obtain ⟨hPavoid, hSavoid⟩ := nodup_split_avoid hnd
        have side1 := (Walk.reachAvoid hP hPavoid).symm
        have side2 := Walk.reachAvoid hS' hSavoid
        have hlb : (st.vars[(st.cons[v]!).l]!).block = blk st.vars (st.cons[ci]!).l :=
          hH.reach_blk (Walk.reach hP)
        exact splitTail_J (st.note gap) v ci _ hlb hH hae.2.1 side1 side2 rfl

theorem process_J (st : St) (v : Nat)
    (hH : InvC st.vars st.cons st.blocks.size (st.inactive.push v))
    (hviol : (∀ j : Nat, j < st.cons.size → (st.cons[j]!).eq = false) →
      ∃ s, st.slack v = some s ∧ s < 0) :
    J (st.process v) := by
  have hv := InvC.hole_lt hH
  unfold St.process
  simp only
  split
  · rename_i hne
    right
    exact mergeAcross_hole st v hH (by simpa [blk] using hne)
  · rename_i hne
    have hsame : blk st.vars (st.cons[v]!).l = blk st.vars (st.cons[v]!).r := by
      simpa [blk] using hne
    split
    · -- a directed active path from right to left: flag
      rename_i hdp
      by_cases hfo : (st.okAnd (isActiveDirectedPathBetween st (st.vars[(st.cons[v]!).l]!).block
          (st.vars.size + 1) (st.cons[v]!).r (st.cons[v]!).l).2).fuelOut = true
      · left
        simp only [St.incFlagPath, St.flag]
        exact hfo
      · right
        unfold VpscInv.Inv
        simp only [St.incFlagPath, St.flag, St.okAnd]
        refine InvC.set_unsat hH (fun hineq => ?_)
        obtain ⟨s, hs, hneg⟩ := hviol hineq
        exact AdaptaVerif.Lemmas.VpscFlag.flag_path_sound st _ _ v
          (fun u ci hci => (hH.outs_sound u ci hci).2) (tightActive_of_inv hH)
          (Util.getElem!_mem hv) hdp (viol_of_slack st v s hs hneg)
    · rename_i hdp
      have hlr : (st.cons[v]!).l ≠ (st.cons[v]!).r := by
        intro heq
        apply hdp
        rw [heq]
        exact isActiveDirectedPathBetween_self st _ _ _
      generalize hst1 : st.okAnd (isActiveDirectedPathBetween st (st.vars[(st.cons[v]!).l]!).block
          (st.vars.size + 1) (st.cons[v]!).r (st.cons[v]!).l).2 = st1
      obtain ⟨e1, e2, e3, e4⟩ : st1.vars = st.vars ∧ st1.cons = st.cons ∧ st1.blocks = st.blocks ∧
          st1.inactive = st.inactive := by
        rw [← hst1]
        simp only [St.okAnd, and_self]
      have hH1 : InvC st1.vars st1.cons st1.blocks.size (st1.inactive.push v) := by
        rw [e1, e2, e3, e4]; exact hH
      unfold St.splitBetween
      simp only
      obtain ⟨f1, f2, f3, f4, f5⟩ := searchSplit_spec st1 v hH1
      rcases f5 with f5 | ⟨_, f5⟩
      · exact Or.inl (Chain.fuel (chain_splitBetweenWith _ v _) f5)
      · apply splitBetweenWith_J
        · rw [f1, f2, f3, f4]; exact hH1
        · rw [f1, f2, e1, e2]; exact hsame
        · rw [f2, e2]; exact hlr
        · exact f5.congr f2
        · intro hineq
          rw [slack_congr (f1.trans e1) (f2.trans e2) (f3.trans e3)]
          rw [f2, e2] at hineq
          exact hviol hineq

end AdaptaVerif.Lemmas.VpscLoop
