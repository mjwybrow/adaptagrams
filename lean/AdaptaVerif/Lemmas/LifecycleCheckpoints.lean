/-
C15 (A) — ownership of checkpoint vertices (`ConnRef::m_checkpoint_vertices`).

`cpv s` (Lemmas/LifecycleQueue) is the part of the state the checkpoint bookkeeping looks at: (connector id, owned vertices)
in list order, and the two vertex logs.  Every primitive of the model except `addConn`, `freeConn`
and `setCheckpoints` leaves `cpv` unchanged (all connector rewrites — `detachAnchor`, `unpin`,
`setEnd`, `reroute` — keep `id` and `cps`).  `CpOk s` = `Spec.CheckpointsOwned s` plus
"freed ⊆ created", the field `cp` of `Inv` (Lemmas/LifecycleInv); the connector ids are pairwise
different by `Core []`, so `setCheckpoints c` rewrites exactly one connector.
-/
import AdaptaVerif.Lemmas.LifecycleQueue
namespace AdaptaVerif.Lemmas.Lifecycle
open AdaptaVerif.Model.Lifecycle AdaptaVerif.Spec.Lifecycle

def CpOk (s : St) : Prop := VIds s.allCps s.vcreated s.vfreed

theorem cpOk_init : CpOk init := by
  constructor <;> simp [init, St.allCps]

theorem cpOk_owned {s : St} (h : CpOk s) : CheckpointsOwned s :=
  ⟨h.nodupOwned, h.nodupCreated, h.nodupFreed, h.refine⟩

theorem cpv_eq {s t : St} (h : cpv t = cpv s) :
    t.allCps = s.allCps ∧ t.vcreated = s.vcreated ∧ t.vfreed = s.vfreed := by
  simp only [cpv, Prod.mk.injEq] at h
  refine ⟨?_, h.2.1, h.2.2⟩
  have := congrArg (fun l : List (Id × List Id) => l.flatMap (·.2)) h.1
  simpa [St.allCps, List.flatMap_map] using this

theorem cpOk_congr {s t : St} (h : CpOk s) (hv : cpv t = cpv s) : CpOk t := by
  obtain ⟨h1, h2, h3⟩ := cpv_eq hv
  unfold CpOk; rw [h1, h2, h3]; exact h

@[simp] theorem cpv_addFault (s : St) (f : Fault) : cpv (s.addFault f) = cpv s := rfl
@[simp] theorem cpv_enqueue (s : St) (t : AType) (o : Id) : cpv (s.enqueue t o) = cpv s := by
  unfold St.enqueue; split <;> rfl
@[simp] theorem cpv_dropAction (s : St) (t : AType) (o : Id) : cpv (s.dropAction t o) = cpv s := rfl
@[simp] theorem cpv_removeFromQueue (s : St) (o : Id) : cpv (s.removeFromQueue o) = cpv s := rfl
@[simp] theorem cpv_addCluster (s : St) (k : Id) (r : List Id) : cpv (s.addCluster k r) = cpv s := rfl
@[simp] theorem cpv_setClusterRefs (s : St) (k : Id) (r : List Id) : cpv (s.setClusterRefs k r) = cpv s := rfl
@[simp] theorem cpv_routeClusters (s : St) : cpv s.routeClusters = cpv s := rfl
@[simp] theorem cpv_freeCluster (s : St) (k : Id) : cpv (s.freeCluster k) = cpv s := rfl
@[simp] theorem cpv_modify (s : St) (c : Id) (d : Bool) (e : EndSpec) : cpv (s.modify c d e) = cpv s := rfl
@[simp] theorem cpv_addObst (s : St) (i : Id) (j a : Bool) : cpv (s.addObst i j a) = cpv s := rfl
@[simp] theorem cpv_addPin (s : St) (p o : Id) (c : Nat) : cpv (s.addPin p o c) = cpv s := rfl
@[simp] theorem cpv_unlinkPin (s : St) (p : Id) : cpv (s.unlinkPin p) = cpv s := rfl
@[simp] theorem cpv_closeRouter (s : St) : cpv s.closeRouter = cpv s := rfl
@[simp] theorem cpv_setActions (s : St) (acts : List Action) : cpv { s with actions := acts } = cpv s := rfl
@[simp] theorem cpv_setConsolidate (s : St) (b : Bool) : cpv { s with consolidate := b } = cpv s := rfl

@[simp] theorem cpv_releasePin (s : St) (p : Id) : cpv (s.releasePin p) = cpv s :=
  cpv_mapConns (fun c => { c with src := unpinEnd c.src p, dst := unpinEnd c.dst p })
    (fun _ => ⟨rfl, rfl⟩) rfl rfl rfl

@[simp] theorem cpv_freeObstacle (s : St) (o : Id) : cpv (s.freeObstacle o) = cpv s :=
  cpv_mapConns (fun c => { c with src := detachEnd c.src o, dst := detachEnd c.dst o })
    (fun _ => ⟨rfl, rfl⟩) rfl rfl rfl

@[simp] theorem cpv_reroute (s : St) : cpv (reroute s) = cpv s :=
  cpv_mapConns (fun c => if c.active then
      { c with src := assignPinEnd s.pins c.src, dst := assignPinEnd s.pins c.dst } else c)
    (fun c => by split <;> exact ⟨rfl, rfl⟩) rfl rfl rfl

@[simp] theorem cpv_processTransaction (s : St) : cpv s.processTransaction = cpv s := by
  unfold St.processTransaction
  split
  · rfl
  · exact (cpv_reroute _).trans (congrArg (·.2.2.2.2) (frame_processActions s))

theorem cpOk_addConn {s : St} (h : CpOk s) (id : Id) (a : Bool) : CpOk (s.addConn id a) := by
  have : (s.addConn id a).allCps = s.allCps := by
    simp [St.allCps, St.addConn, List.flatMap_append]
  unfold CpOk; rw [this]; exact h

theorem allCps_split (s : St) (c : Id) :
    (s.cpsOf c ++ (s.conns.filter (fun x => x.id != c)).flatMap (·.cps)).Perm s.allCps := by
  have := (List.filter_append_perm (fun x : Conn => x.id == c) s.conns).flatMap_right (·.cps)
  simpa [St.cpsOf, St.allCps, List.flatMap_append, bne] using this

theorem cpOk_freeConn {s : St} (h : CpOk s) (c : Id) : CpOk (s.freeConn c) := by
  refine VIds.move (N := []) h (List.append_nil _).symm rfl List.nodup_nil nofun fun x => ?_
  have := List.perm_iff_count.1 (allCps_split s c) x
  simp only [List.count_append, List.count_nil] at this ⊢
  show List.count x (List.flatMap _ (List.filter _ s.conns)) + _ = _
  omega

theorem flatMap_setCps (l : List Conn) (c : Id) (vs : List Id) (hnd : (l.map (·.id)).Nodup)
    (hc : c ∈ l.map (·.id)) :
    ((l.map (fun x => if x.id == c then { x with cps := vs } else x)).flatMap (·.cps)).Perm
      (vs ++ (l.filter (fun x => x.id != c)).flatMap (·.cps)) := by
  induction l with
  | nil => cases hc
  | cons a l ih =>
    simp only [List.map_cons, List.nodup_cons] at hnd
    by_cases hac : a.id = c
    · have hnot : ∀ x ∈ l, x.id ≠ c := by
        intro x hx hxc
        exact hnd.1 (List.mem_map.2 ⟨x, hx, hxc.trans hac.symm⟩)
      have hmap : l.map (fun x => if x.id == c then { x with cps := vs } else x) = l := by
        conv => rhs; rw [← List.map_id l]
        apply List.map_congr_left
        intro x hx
        rw [if_neg (by simpa using hnot x hx)]; rfl
      have hfil : l.filter (fun x => x.id != c) = l := by
        rw [List.filter_eq_self]; intro x hx; simpa using hnot x hx
      simp only [List.map_cons, List.flatMap_cons, List.filter_cons, hmap, hfil, hac, beq_self_eq_true,
        ↓reduceIte, bne_self_eq_false, Bool.false_eq_true]
      exact List.Perm.refl _
    · have hc' : c ∈ l.map (·.id) := by
        simp only [List.map_cons, List.mem_cons] at hc
        rcases hc with hc | hc
        · exact absurd hc.symm hac
        · exact hc
      have := ih hnd.2 hc'
      have hb : (a.id == c) = false := by simpa using hac
      have hb' : (a.id != c) = true := by simpa using hac
      simp only [List.map_cons, List.flatMap_cons, List.filter_cons, hb, hb', Bool.false_eq_true,
        ↓reduceIte]
      exact (this.append_left a.cps).trans (List.perm_append_comm_assoc _ _ _)

theorem cpOk_setCheckpoints {g : List Id} {s : St} (hcore : Core g s) (h : CpOk s) {c : Id} {vs : List Id}
    (hc : s.hasConn c = true) (hfresh : ∀ v ∈ vs, v ∉ s.vcreated) (hnd : vs.Nodup) :
    CpOk (s.setCheckpoints c vs) :=
  VIds.move h rfl rfl hnd hfresh fun x => by
    have h1 := List.perm_iff_count.1 (allCps_split s c) x
    have h2 := List.perm_iff_count.1 (flatMap_setCps s.conns c vs hcore.ids.nodupC (hasConn_iff.1 hc)) x
    simp only [List.count_append] at h1 h2
    show List.count x (List.flatMap _ (List.map _ s.conns)) + _ = _
    omega

theorem cpOk_freeConns {s : St} (h : CpOk s) (l : List Conn) :
    CpOk (l.foldl (fun s c => s.freeConn c.id) s) :=
  List.foldlRecOn (motive := CpOk) l _ h fun _ hs c _ => cpOk_freeConn hs c.id

theorem cpOk_freeObsts {s : St} (h : CpOk s) (l : List Obst) :
    CpOk (l.foldl (fun s o => s.freeObstacle o.id) s) :=
  cpOk_congr h (Util.foldl_view cpv (fun (s : St) (o : Obst) => s.freeObstacle o.id) (fun s o => cpv_freeObstacle s o.id) l s)

theorem cpOk_freeClusters {s : St} (h : CpOk s) (l : List Cluster) :
    CpOk (l.foldl (fun s k => s.freeCluster k.id) s) :=
  cpOk_congr h (Util.foldl_view cpv (fun (s : St) (k : Cluster) => s.freeCluster k.id) (fun s k => cpv_freeCluster s k.id) l s)

theorem checkpointsReleased_of {s : St} (h : CpOk s) (hal : s.alive = false) (ha : s.allocated = []) :
    CheckpointsReleased s := by
  refine ⟨hal, ?_⟩
  have hconns : s.conns = [] := by
    simp only [St.allocated, List.append_eq_nil_iff, List.map_eq_nil_iff] at ha
    exact ha.1.1.2
  intro v hv
  by_cases hf : v ∈ s.vfreed
  · exact hf
  · have := (h.refine v).2 ⟨hv, hf⟩
    simp [St.allCps, hconns] at this

end AdaptaVerif.Lemmas.Lifecycle
