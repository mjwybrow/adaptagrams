/-
C20 helper lemmas: route costs and obstacle-freeness are frame-independent; a frame change is a
cost-preserving bijection between the valid routes of a scene and those of its image.
Then the reverse-direction rule of `cost()` (Model/RouteCost.lean) and the path costs built on it: the same in every
frame (8 symmetries of the square, translations), for ALL source→destination displacements — zero components
included — and all edges.  Last, about the same model file and for `Props/C20Tie`: the order of dummy pin edges written
out in coordinates (`dummyLt_aux`).  Beside it the pin-cone rule of assignPinVisibilityTo (Model/PinCone.lean): a
function of target − pin (translation invariance) that commutes with the 8 symmetries of the square.
Three namespaces, in this order: `FrameRoute`, `FrameCost` (reverse-direction rule, path costs, `dummyLt_aux`), `FramePin`.
-/
import AdaptaVerif.Lemmas.FrameGeom
import AdaptaVerif.Model.RouteCost
import AdaptaVerif.Model.PinCone
namespace AdaptaVerif.Lemmas.FrameRoute
open AdaptaVerif.Model.Geometry AdaptaVerif.Model.Frame
open AdaptaVerif.Lemmas.GeometrySpec AdaptaVerif.Lemmas.FrameGeom

/-- induction over a route along the recursion of `legs`, `manhattanLen`, `sqLens`, `isOrth`, … -/
theorem pairs_induction {P : Route → Prop} (nil : P []) (single : ∀ a, P [a])
    (cons : ∀ a b rest, P (b :: rest) → P (a :: b :: rest)) : ∀ r, P r
  | [] => nil
  | [a] => single a
  | a :: b :: rest => cons a b rest (pairs_induction nil single cons (b :: rest))

theorem actRoute_cons (F : Frame) (a : Pt) (r : Route) : F.actRoute (a :: r) = F.act a :: F.actRoute r := rfl

theorem manhattanLen_act (F : Frame) (r : Route) : manhattanLen (F.actRoute r) = manhattanLen r := by
  induction r using pairs_induction with
  | nil => rfl
  | single a => rfl
  | cons a b rest ih => rw [actRoute_cons, actRoute_cons, manhattanLen, manhattanDist_act, ← actRoute_cons, ih, manhattanLen]

theorem sqLens_act (F : Frame) (r : Route) : sqLens (F.actRoute r) = sqLens r := by
  induction r using pairs_induction with
  | nil => rfl
  | single a => rfl
  | cons a b rest ih => rw [actRoute_cons, actRoute_cons, sqLens, sqDist_act, ← actRoute_cons, ih, sqLens]

theorem bends_act (F : Frame) (r : Route) : bends (F.actRoute r) = bends r := by
  induction r using pairs_induction with
  | nil => rfl
  | single a => rfl
  | cons a b rest ih =>
    cases rest with
    | nil => rfl
    | cons c rest =>
      rw [actRoute_cons, actRoute_cons, actRoute_cons, bends, bendWeight_act, ← actRoute_cons, ← actRoute_cons, ih, bends]

theorem orthCost_act (F : Frame) (pen : Rat) (r : Route) : orthCost pen (F.actRoute r) = orthCost pen r := by
  simp only [orthCost, manhattanLen_act, bends_act]

theorem legs_act (F : Frame) (r : Route) :
    legs (F.actRoute r) = (legs r).map (fun l => (F.act l.1, F.act l.2)) := by
  induction r using pairs_induction with
  | nil => rfl
  | single a => rfl
  | cons a b rest ih => rw [actRoute_cons, actRoute_cons, legs, ← actRoute_cons, ih, legs, List.map_cons]

theorem eq_iso {s : Rat} (hs : s = 1 ∨ s = -1) (t u v : Rat) : s * u + t = s * v + t ↔ u = v := by
  rcases hs with rfl | rfl
  · rw [one_mul, one_mul, add_left_inj]
  · rw [neg_one_mul, neg_one_mul, add_left_inj, neg_inj]

theorem axisPar_act (F : Frame) (a b : Pt) :
    (decide ((F.act a).x = (F.act b).x) || decide ((F.act a).y = (F.act b).y)) =
      (decide (a.x = b.x) || decide (a.y = b.y)) := by
  obtain ⟨sx, sy, tx, ty, hx, hy, ⟨-, h⟩ | ⟨-, h⟩⟩ := act_cases F <;> simp only [h, eq_iso hx, eq_iso hy]
  exact Bool.or_comm _ _

theorem isOrth_act (F : Frame) (r : Route) : isOrth (F.actRoute r) = isOrth r := by
  induction r using pairs_induction with
  | nil => rfl
  | single a => rfl
  | cons a b rest ih =>
    rw [actRoute_cons, actRoute_cons, isOrth, axisPar_act, ← actRoute_cons, ih, isOrth]

theorem actRoute_inv_act (F : Frame) (r : Route) : F.inv.actRoute (F.actRoute r) = r := by
  unfold Frame.actRoute
  rw [List.map_map]
  exact (List.map_congr_left fun p _ => inv_act F p).trans (List.map_id r)

theorem actRoute_act_inv (F : Frame) (r : Route) : F.actRoute (F.inv.actRoute r) = r := by
  unfold Frame.actRoute
  rw [List.map_map]
  exact (List.map_congr_left fun p _ => act_inv F p).trans (List.map_id r)

theorem strictBetween_iso {s : Rat} (hs : s = 1 ∨ s = -1) (t a b c : Rat) :
    strictBetween (s * a + t) (s * b + t) (s * c + t) = strictBetween a b c := by
  apply Bool.eq_iff_iff.2
  simp only [strictBetween_iff]
  rcases hs with rfl | rfl
  · simp only [one_mul, add_lt_add_iff_right]
  · simp only [neg_one_mul, add_lt_add_iff_right, neg_lt_neg_iff]
    exact ⟨fun h => h.symm.imp And.symm And.symm, fun h => h.symm.imp And.symm And.symm⟩

theorem strictBetween_neg_add (a b c t : Rat) :
    strictBetween (-a + t) (-b + t) (-c + t) = strictBetween a b c := by
  simpa only [neg_one_mul] using strictBetween_iso (Or.inr rfl) t a b c

theorem inside_act (F : Frame) (R : Rect) (p : Pt) : (F.actRect R).inside (F.act p) = R.inside p := by
  obtain ⟨sx, sy, tx, ty, hx, hy, ⟨-, h⟩ | ⟨-, h⟩⟩ := act_cases F <;>
    simp only [Frame.actRect, Rect.inside, h, strictBetween_iso hx, strictBetween_iso hy]
  exact Bool.and_comm _ _

theorem legAvoids_act (F : Frame) (R : Rect) (p q : Pt) :
    LegAvoids (F.actRect R) (F.act p) (F.act q) ↔ LegAvoids R p q := by
  unfold LegAvoids
  constructor <;> intro h t h0 h1 <;> have := h t h0 h1
  · rwa [← lerp_act, inside_act] at this
  · rwa [← lerp_act, inside_act]

theorem head?_act (F : Frame) (r : Route) (s : Pt) : (F.actRoute r).head? = some (F.act s) ↔ r.head? = some s := by
  cases r with
  | nil => simp [Frame.actRoute]
  | cons a r => simp [Frame.actRoute, act_eq_iff]

theorem getLast?_act (F : Frame) (r : Route) (d : Pt) :
    (F.actRoute r).getLast? = some (F.act d) ↔ r.getLast? = some d := by
  unfold Frame.actRoute
  rw [List.getLast?_map]
  cases h : r.getLast? with
  | none => simp
  | some a => simp [act_eq_iff]

theorem routeValid_act (F : Frame) (sc : Scene) (s d : Pt) (r : Route) :
    RouteValid (F.actScene sc) (F.act s) (F.act d) (F.actRoute r) ↔ RouteValid sc s d r := by
  unfold RouteValid
  rw [head?_act, getLast?_act, legs_act]
  simp only [Frame.actScene, List.forall_mem_map, legAvoids_act]

theorem orthRouteValid_act (F : Frame) (sc : Scene) (s d : Pt) (r : Route) :
    OrthRouteValid (F.actScene sc) (F.act s) (F.act d) (F.actRoute r) ↔ OrthRouteValid sc s d r := by
  unfold OrthRouteValid
  rw [routeValid_act, isOrth_act]

theorem optCost_transfer {ρ ρ' κ : Type} [LE κ] {valid : ρ → Prop} {valid' : ρ' → Prop} {cost : ρ → κ} {cost' : ρ' → κ}
    {f : ρ → ρ'} {g : ρ' → ρ} (hfg : ∀ r, f (g r) = r) (hv : ∀ r, valid' (f r) ↔ valid r)
    (hc : ∀ r, cost' (f r) = cost r) (c : κ) :
    ((∃ r, valid' r ∧ cost' r = c) ∧ ∀ r, valid' r → c ≤ cost' r) ↔
      ((∃ r, valid r ∧ cost r = c) ∧ ∀ r, valid r → c ≤ cost r) := by
  have hv' : ∀ r, valid (g r) ↔ valid' r := fun r => by rw [← hv, hfg]
  have hc' : ∀ r, cost (g r) = cost' r := fun r => by rw [← hc, hfg]
  constructor
  · rintro ⟨⟨r, h1, h2⟩, hmin⟩
    exact ⟨⟨g r, (hv' r).2 h1, (hc' r).trans h2⟩, fun r hr => hc r ▸ hmin _ ((hv r).2 hr)⟩
  · rintro ⟨⟨r, h1, h2⟩, hmin⟩
    exact ⟨⟨f r, (hv r).2 h1, (hc r).trans h2⟩, fun r hr => hc' r ▸ hmin _ ((hv' r).2 hr)⟩

/-! ### for the examples of `Props/C20`: legs that avoid a rectangle, a lower bound on the length -/

theorem legAvoids_of_x (R : Rect) (p q : Pt) (hx : q.x = p.x) (h : strictBetween R.a.x R.b.x p.x = false) :
    LegAvoids R p q := by
  intro t _ _
  simp only [Rect.inside, lerp, hx, sub_self, mul_zero, add_zero, h, Bool.false_and]

theorem legAvoids_of_y (R : Rect) (p q : Pt) (hy : q.y = p.y) (h : strictBetween R.a.y R.b.y p.y = false) :
    LegAvoids R p q := by
  intro t _ _
  simp only [Rect.inside, lerp, hy, sub_self, mul_zero, add_zero, h, Bool.and_false]

theorem dx_le_manhattanLen (r : Route) : ∀ a b : Pt, r.head? = some a → r.getLast? = some b →
    b.x - a.x ≤ manhattanLen r := by
  induction r using pairs_induction with
  | nil => intro a b h; cases h
  | single p =>
    intro a b ha hb
    rw [List.head?_cons, Option.some.injEq] at ha
    rw [List.getLast?_singleton, Option.some.injEq] at hb
    rw [← ha, ← hb, sub_self]; exact le_refl _
  | cons p q rest ih =>
    intro a b ha hb
    rw [List.head?_cons, Option.some.injEq] at ha
    rw [List.getLast?_cons_cons] at hb
    have h1 := ih q b rfl hb
    have h2 : q.x - p.x ≤ manhattanDist p q := by
      unfold manhattanDist absR; split <;> split <;> linarith
    rw [manhattanLen, ← ha]; linarith

end AdaptaVerif.Lemmas.FrameRoute

namespace AdaptaVerif.Lemmas.FrameCost
open AdaptaVerif.Model.Geometry AdaptaVerif.Model.Frame AdaptaVerif.Model.RouteCost
open AdaptaVerif.Lemmas.FrameRoute AdaptaVerif.Lemmas.FrameGeom

theorem dimDir_neg (d : Rat) : dimDir (-d) = - dimDir d := by
  unfold dimDir
  simp only [Left.neg_pos_iff, Left.neg_neg_iff]
  split_ifs with h1 h2 <;> first | rfl | exact absurd h2 (lt_asymm h1)

theorem axisReverses_neg (a b : Rat) : axisReverses (-a) (-b) = axisReverses a b := by
  unfold axisReverses
  rw [dimDir_neg, dimDir_neg, Bool.eq_iff_iff]
  simp only [Bool.and_eq_true, bne_iff_ne, beq_iff_eq, ne_eq]
  constructor <;> rintro ⟨h1, h2⟩ <;> constructor <;> omega

theorem axisReverses_iso {s : Rat} (hs : s = 1 ∨ s = -1) (t a b c d : Rat) :
    axisReverses ((s * a + t) - (s * b + t)) ((s * c + t) - (s * d + t)) = axisReverses (a - b) (c - d) := by
  rcases hs with rfl | rfl
  · congr 1 <;> ring
  · rw [← axisReverses_neg (a - b)]; congr 1 <;> ring

theorem ar_neg_add (a b c d t : Rat) :
    axisReverses ((-a + t) - (-b + t)) ((-c + t) - (-d + t)) = axisReverses (a - b) (c - d) := by
  simpa only [neg_one_mul] using axisReverses_iso (Or.inr rfl) t a b c d

theorem reverses_act (F : Frame) (s d p q : Pt) :
    reverses (F.act s) (F.act d) (F.act p) (F.act q) = reverses s d p q := by
  obtain ⟨sx, sy, tx, ty, hx, hy, ⟨-, h⟩ | ⟨-, h⟩⟩ := act_cases F <;>
    simp only [reverses, h, axisReverses_iso hx, axisReverses_iso hy]
  exact Bool.or_comm _ _

theorem revEdges_act (F : Frame) (s d : Pt) (r : Route) :
    revEdges (F.act s) (F.act d) (F.actRoute r) = revEdges s d r := by
  induction r using pairs_induction with
  | nil => rfl
  | single a => rfl
  | cons a b rest ih => rw [actRoute_cons, actRoute_cons, revEdges, reverses_act, ← actRoute_cons, ih, revEdges]

theorem dropLast_act (F : Frame) (r : Route) : (F.actRoute r).dropLast = F.actRoute r.dropLast :=
  List.map_dropLast.symm

theorem penalties_act (F : Frame) (seg rev : Rat) (s d : Pt) (r : Route) :
    penalties seg rev (F.act s) (F.act d) (F.actRoute r) = penalties seg rev s d r := by
  simp only [penalties, bends_act, revEdges_act]

theorem fullPathCost_act (F : Frame) (seg rev : Rat) (s d : Pt) (r : Route) :
    fullPathCost seg rev (F.act s) (F.act d) (F.actRoute r) = fullPathCost seg rev s d r := by
  simp only [fullPathCost, manhattanLen_act, penalties_act]

theorem orthPathCost_act (F : Frame) (seg rev : Rat) (s d : Pt) (r : Route) :
    orthPathCost seg rev (F.act s) (F.act d) (F.actRoute r) = orthPathCost seg rev s d r := by
  simp only [orthPathCost, manhattanLen_act, bends_act, dropLast_act, revEdges_act]

/-- the order of `dummyLt` on explicit endpoint pairs is lexicographic in the four coordinates, then the address
    (the computation behind `Props.C20Tie.dummyLt_is_lex`) -/
theorem dummyLt_aux (p1 p2 q1 q2 : Pt) (a b : Nat) :
    (if p1 ≠ q1 then ptLt p1 q1 else if p2 ≠ q2 then ptLt p2 q2 else decide (a < b)) =
    (if p1.x ≠ q1.x then decide (p1.x < q1.x) else if p1.y ≠ q1.y then decide (p1.y < q1.y)
     else if p2.x ≠ q2.x then decide (p2.x < q2.x) else if p2.y ≠ q2.y then decide (p2.y < q2.y)
     else if a ≠ b then decide (a < b) else false) := by
  rcases p1 with ⟨a1, b1⟩; rcases p2 with ⟨c1, d1⟩; rcases q1 with ⟨e1, f1⟩; rcases q2 with ⟨g1, h1⟩
  simp only [ptLt, ne_eq, Pt.mk.injEq]
  grind

end AdaptaVerif.Lemmas.FrameCost

namespace AdaptaVerif.Lemmas.FramePin
open AdaptaVerif.Model.Geometry AdaptaVerif.Model.Frame AdaptaVerif.Model.PinCone

theorem cone0_neg (a b : Rat) : cone0 a (-b) = cone0 a b := by
  unfold cone0
  rw [neg_neg]
  cases decide (0 < a) <;> cases decide (b ≤ a) <;> cases decide (-b ≤ a) <;> rfl

/-- the zero-vector clause of the right cone is symmetric only for non-zero vectors: it is switched off by `hv` -/
theorem zero_clause (x y : Rat) (hv : ¬ (x = 0 ∧ y = 0)) : (decide (x = 0) && decide (y = 0)) = false := by
  cases hx : decide (x = 0) <;> cases hy : decide (y = 0) <;> simp_all

theorem inCone_sym (S : Sym) (d : Dirs) (x y : Rat) (hv : ¬ (x = 0 ∧ y = 0)) :
    inCone (d.act S) (S.apply ⟨x, y⟩).x (S.apply ⟨x, y⟩).y = inCone d x y := by
  have z1 := zero_clause x y hv
  have z2 := zero_clause y x (fun h => hv ⟨h.2, h.1⟩)
  -- in each of the eight cases the four disjuncts `flag && cone` are the same up to their order
  cases S <;> dsimp only [Dirs.act, Sym.apply] <;>
    simp only [inCone, coneRight, coneDown, coneLeft, coneUp, cone0_neg, neg_neg, neg_eq_zero, z1, z2,
      Bool.or_false] <;>
    ac_rfl

theorem act_sub (F : Frame) (p q : Pt) :
    (⟨(F.act q).x - (F.act p).x, (F.act q).y - (F.act p).y⟩ : Pt) = F.sym.apply ⟨q.x - p.x, q.y - p.y⟩ := by
  rcases F with ⟨S, t⟩
  cases S <;> simp only [Frame.act, Sym.apply, Pt.mk.injEq] <;> constructor <;> ring

end AdaptaVerif.Lemmas.FramePin
