/-
C12: the executable structure check `wfb` of Model/HyperTree (evaluated by the driver on every heap
state the real code produced) implies the invariant `WF` of the theorems (`wfb_sound`).
-/
import AdaptaVerif.Lemmas.HyperTree
import AdaptaVerif.Lemmas.HyperTreeWitness
namespace AdaptaVerif.Lemmas.HyperTreeWfb
open AdaptaVerif.Model.HyperTree AdaptaVerif.Lemmas.HyperTree AdaptaVerif.Lemmas.HyperTreeWitness
open AdaptaVerif.Check.Tree (isTree)

theorem nodupNat_iff (l : List Nat) : nodupNat l = true ↔ l.Nodup := by
  induction l with
  | nil => simp [nodupNat]
  | cons x xs ih => simp [nodupNat, ih]

theorem wfb_sound {t : HTree} (h : wfb t = true) : WF t := by
  simp only [wfb, Bool.and_eq_true, List.all_eq_true] at h
  obtain ⟨⟨⟨⟨⟨hN, hE⟩, hends⟩, hnodes⟩, hf1⟩, hf2⟩ := h
  refine ⟨(nodupNat_iff _).mp hN, (nodupNat_iff _).mp hE, ?_, ?_, ?_, ?_⟩
  · intro e he
    have := hends e he
    split at this
    · rename_i a b h1 h2
      simp only [Bool.and_eq_true, Option.isSome_iff_exists] at this
      obtain ⟨⟨na, hna⟩, ⟨nb, hnb⟩⟩ := this
      obtain ⟨ha1, ha2⟩ := node?_mem hna
      obtain ⟨hb1, hb2⟩ := node?_mem hnb
      exact ⟨a, b, h1, h2, List.mem_map.mpr ⟨na, ha1, ha2⟩, List.mem_map.mpr ⟨nb, hb1, hb2⟩⟩
    · simp at this
  · intro n hn
    exact (nodupNat_iff _).mp (hnodes n hn).1.1
  · intro n hn i
    obtain ⟨⟨_, hall⟩, hback⟩ := hnodes n hn
    constructor
    · intro hi
      have := hall i hi
      split at this
      · rename_i e hE'
        obtain ⟨he, hid⟩ := edge?_mem hE'
        refine ⟨e, he, hid, ?_⟩
        simpa using this
      · simp at this
    · rintro ⟨e, he, rfl, hend⟩
      have := hback e he
      simp only [Bool.or_eq_true, Bool.not_eq_true', List.contains_eq_mem,
        decide_eq_true_eq] at this
      rcases this with h' | h'
      · rcases hend with h1 | h1
        · simp [h1] at h'
        · simp [h1] at h'
      · exact h'
  · exact ⟨fun n hn => by simpa using hf1 n hn, fun e he => by simpa using hf2 e he⟩

theorem exStar_checks : wfb exStar = true ∧ isTree exStar.graphV exStar.graphE = true := by decide
theorem exZeroTail_checks : wfb exZeroTail = true ∧ isTree exZeroTail.graphV exZeroTail.graphE = true := by
  decide
theorem exOverTerminal_checks :
    wfb exOverTerminal = true ∧ isTree exOverTerminal.graphV exOverTerminal.graphE = true := by decide
theorem exTwoJunctions_checks :
    wfb exTwoJunctions = true ∧ isTree exTwoJunctions.graphV exTwoJunctions.graphE = true := by decide
theorem exCommon_checks : wfb exCommon = true ∧ isTree exCommon.graphV exCommon.graphE = true := by decide

end AdaptaVerif.Lemmas.HyperTreeWfb
