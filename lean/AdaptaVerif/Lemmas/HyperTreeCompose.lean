/-
C12: what every modelled rewrite (a `removeZeroLengthEdges` traversal, a junction move, a coordinate shift) keeps
(`Good`: tree, junction bookkeeping, fresh numbers) and conserves (`Conserved`: the junctions), in a form that
composes (`Conserved.trans`); the theorem for finite sequences is `Props.C12Ops.improve_junction_bookkeeping`.
-/
import AdaptaVerif.Lemmas.HyperTreeJunctions
import AdaptaVerif.Lemmas.HyperTreeMove

namespace AdaptaVerif.Lemmas.HyperTreeCompose
open AdaptaVerif.Model.HyperTree AdaptaVerif.Lemmas.HyperTree AdaptaVerif.Lemmas.HyperTreeRzle
open AdaptaVerif.Lemmas.HyperTreeJunctions
open AdaptaVerif.Lemmas.HyperTreeMove (JFresh NewJFresh mem_junctionsOf FullyKeeps)

theorem jinv_iff {s : Imp} (hw : WF s.t) : JInv s ↔ AdaptaVerif.Lemmas.HyperTreeMove.JInv s :=
  jinv_iff'.trans (AdaptaVerif.Lemmas.HyperTreeMove.JInv_iff hw.nodupN).symm

theorem rzleStep_counters {s s2 : Imp} (h : RzleStep s s2) : s2.nextJ = s.nextJ ∧ s2.newJ = s.newJ := by
  obtain ⟨e, sn, tg, src, s1, t2, _, _, _, hdec, _, rfl⟩ := h.step
  exact (rzleDec_counters hdec).2

/-- everything the theorems need of an improver state -/
structure Good (s : Imp) : Prop where
  tree : Tree s.t
  jinv : JInv s
  jfresh : JFresh s
  newJFresh : NewJFresh s

/-- junction conservation from `s` to `s'`: attached-or-reported-deleted afterwards = attached-or-
    reported-deleted before, plus the junctions newly reported in the new-junction list; the lists only grow -/
structure Conserved (s s' : Imp) : Prop where
  junctions : ∀ j, (Carried s'.t j ∨ j ∈ s'.delJ) ↔ (Carried s.t j ∨ j ∈ s.delJ ∨ (j ∈ s'.newJ ∧ j ∉ s.newJ))
  newJ : ∃ L, s'.newJ = s.newJ ++ L

theorem Conserved.of_same {s s' : Imp}
    (hC : ∀ j, (Carried s'.t j ∨ j ∈ s'.delJ) ↔ (Carried s.t j ∨ j ∈ s.delJ)) (hN : s'.newJ = s.newJ) :
    Conserved s s' := by
  refine ⟨fun j => ?_, ⟨[], by rw [hN]; simp⟩⟩
  rw [hC j, hN]
  constructor
  · rintro (h | h)
    · exact Or.inl h
    · exact Or.inr (Or.inl h)
  · rintro (h | h | ⟨h, h'⟩)
    · exact Or.inl h
    · exact Or.inr h
    · exact absurd h h'

theorem Conserved.refl (s : Imp) : Conserved s s := Conserved.of_same (fun _ => Iff.rfl) rfl

theorem Conserved.trans {a b c : Imp} (h1 : Conserved a b) (h2 : Conserved b c) : Conserved a c := by
  obtain ⟨L1, hL1⟩ := h1.newJ
  obtain ⟨L2, hL2⟩ := h2.newJ
  refine ⟨fun j => ?_, ⟨L1 ++ L2, by rw [hL2, hL1, List.append_assoc]⟩⟩
  rw [← or_assoc]
  exact new_or_trans hL1 hL2 ((h1.junctions j).trans or_assoc.symm) ((h2.junctions j).trans or_assoc.symm)

theorem carried_lt {s : Imp} (h : JFresh s) {j : Nat} (hc : Carried s.t j) : j < s.nextJ :=
  h.1 j (mem_junctionsOf.mpr (carried_iff.mp hc))

theorem rzleStep_good {s s2 : Imp} (hg : Good s) (h : RzleStep s s2) : Good s2 ∧ Conserved s s2 := by
  obtain ⟨hJ, hC, hN⟩ := rzleStep_jinv hg.tree hg.jinv h
  obtain ⟨hnx, _⟩ := rzleStep_counters h
  have hlt : ∀ j, (Carried s2.t j ∨ j ∈ s2.delJ) → j < s2.nextJ := by
    intro j hj
    rw [hnx]
    rcases (hC j).mp hj with h' | h'
    · exact carried_lt hg.jfresh h'
    · exact hg.jfresh.2 j h'
  refine ⟨⟨rzleStep_tree hg.tree h, hJ, ⟨?_, ?_⟩, ?_⟩, Conserved.of_same hC hN⟩
  · intro j hj
    exact hlt j (Or.inl (carried_iff.mpr (mem_junctionsOf.mp hj)))
  · intro j hj
    exact hlt j (Or.inr hj)
  · intro j hj
    rw [hnx]
    rw [hN] at hj
    exact hg.newJFresh j hj

theorem rzleNode_good {f : Nat} {s : Imp} {self : Nat} {ign : Option Nat} {s' : Imp} (hg : Good s)
    (h : rzleNode f s self ign = some s') : Good s' ∧ Conserved s s' :=
  (rzle_inv_all (fun x => Good x ∧ Conserved s x)
    (fun a b hP hstep => by
      obtain ⟨hg2, hc2⟩ := rzleStep_good hP.1 hstep
      exact ⟨hg2, hP.2.trans hc2⟩) f).1 s self ign s' ⟨hg, Conserved.refl s⟩ h

theorem moveJunctionStep_good {s : Imp} {j : Nat} {r : MoveResult} (hg : Good s)
    (h : moveJunctionStep s j = some r) : Good r.s ∧ Conserved s r.s := by
  have hk : FullyKeeps s r.s := AdaptaVerif.Lemmas.HyperTreeMove.moveJunctionStep_fullyKeeps hg.tree
    ((jinv_iff hg.tree.1).mp hg.jinv) hg.jfresh hg.newJFresh h
  refine ⟨⟨hk.tree, (jinv_iff hk.tree.1).mpr hk.jinv, hk.jfresh, hk.newJFresh⟩, ⟨?_, hk.newJ⟩⟩
  intro j
  rw [hk.delJ, carried_iff, carried_iff, hk.junctions j]
  constructor
  · rintro ((h' | h') | h')
    · exact Or.inl h'
    · exact Or.inr (Or.inr h')
    · exact Or.inr (Or.inl h')
  · rintro (h' | h' | h')
    · exact Or.inl (Or.inl h')
    · exact Or.inr h'
    · exact Or.inl (Or.inr h')

theorem shift_good {s : Imp} (hg : Good s) (n : Nat) (p : AdaptaVerif.Model.Geometry.Pt) :
    Good { s with t := s.t.modNode n (fun x => { x with point := p }) } ∧
      Conserved s { s with t := s.t.modNode n (fun x => { x with point := p }) } := by
  have hsj : SameJunctions s.t (s.t.modNode n (fun x => { x with point := p })) s.t.next := by
    refine ⟨?_, ?_, ?_⟩
    · intro n1 hn1
      obtain ⟨m, hm, rfl⟩ := (mem_modNode _ _).mp hn1
      refine ⟨m, hm, ?_, ?_⟩ <;> split <;> rfl
    · intro m hm _
      refine ⟨_, (mem_modNode _ _).mpr ⟨m, hm, rfl⟩, ?_, ?_⟩ <;> split <;> rfl
    · intro m hm hid
      have := hg.tree.1.fresh.1 m hm
      omega
  have hcar : ∀ j, Carried (s.t.modNode n (fun x => { x with point := p })) j ↔ Carried s.t j :=
    fun j => hsj.carried j
  refine ⟨⟨Relabel.tree (Relabel.modNode _ _ (fun _ => rfl) (fun _ => rfl)) hg.tree, hg.jinv.transfer hsj, ⟨?_, hg.jfresh.2⟩,
    hg.newJFresh⟩, Conserved.of_same (fun j => or_congr_left (hcar j)) rfl⟩
  intro j hj
  exact carried_lt hg.jfresh ((hcar j).mp (carried_iff.mpr (mem_junctionsOf.mp hj)))

end AdaptaVerif.Lemmas.HyperTreeCompose
