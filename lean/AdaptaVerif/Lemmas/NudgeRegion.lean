/-
Helper lemmas for the region model of C10 (Model/NudgeRegion.lean): the gap rewriting of the retry loop, the region
instance of the generator, the solve loop, `linesort`, the unifying loop, region formation.
(Which constraints `genG` creates: Lemmas/NudgeGen.lean.)
-/
import AdaptaVerif.Lemmas.NudgeGen
import AdaptaVerif.Lemmas.Nudge
import AdaptaVerif.Lemmas.Util.InsertionSort
import AdaptaVerif.Lemmas.Util.Fold
namespace AdaptaVerif.Lemmas.NudgeRegion
open AdaptaVerif.Model.Nudge AdaptaVerif.Model.NudgeRegion

/-- `c'` is `c` with possibly a new gap `d`, and only if the old gap was positive -/
def GapRel (d : Rat) (c c' : FCon) : Prop :=
  c'.left = c.left ∧ c'.right = c.right ∧ c'.eq = c.eq ∧ (c'.gap = c.gap ∨ (0 < c.gap ∧ c'.gap = d))

theorem gapRel_refl (d : Rat) (c : FCon) : GapRel d c c := ⟨rfl, rfl, rfl, Or.inl rfl⟩

theorem rewriteGaps_rel (d : Rat) : ∀ (cs : List FCon) (within : Bool) (rs : List Range),
    List.Forall₂ (GapRel d) cs (rewriteGaps d within rs cs).1 := by
  intro cs
  induction cs with
  | nil => intro within rs; cases rs <;> simp [rewriteGaps]
  | cons c cs ih =>
    intro within rs
    cases rs with
    | nil => simp only [rewriteGaps]; exact List.forall₂_same.2 fun c _ => gapRel_refl d c
    | cons r rs =>
      simp only [rewriteGaps]
      have hc : GapRel d c (if (within || c.left == r.1) && decide (0 < c.gap) then { c with gap := d } else c) := by
        by_cases h : ((within || c.left == r.1) && decide (0 < c.gap)) = true
        · simp only [h, if_true]
          refine ⟨rfl, rfl, rfl, Or.inr ⟨?_, rfl⟩⟩
          simp only [Bool.and_eq_true, decide_eq_true_eq] at h
          exact h.2
        · simp only [h]; exact gapRel_refl d c
      by_cases hr : (c.right == r.2) = true
      · simp only [hr, if_true]
        exact List.Forall₂.cons hc (ih false rs)
      · simp only [hr]
        exact List.Forall₂.cons hc (ih (within || c.left == r.1) (r :: rs))

theorem forall2_mem_left {β γ : Type} {R : β → γ → Prop} : ∀ {l : List β} {l' : List γ},
    List.Forall₂ R l l' → ∀ a ∈ l, ∃ b ∈ l', R a b := by
  intro l l' h
  induction h with
  | nil => intro a ha; cases ha
  | cons hab _ ih =>
    intro a ha
    rcases List.mem_cons.mp ha with rfl | ha
    · exact ⟨_, List.mem_cons_self, hab⟩
    · obtain ⟨b, hb, hr⟩ := ih a ha
      exact ⟨b, List.mem_cons_of_mem _ hb, hr⟩

theorem forall2_trans_rel {β : Type} {R S T : β → β → Prop} (hRS : ∀ a b c, R a b → S b c → T a c) :
    ∀ {l1 l2 l3 : List β}, List.Forall₂ R l1 l2 → List.Forall₂ S l2 l3 → List.Forall₂ T l1 l3 := by
  intro l1 l2 l3 h12
  induction h12 generalizing l3 with
  | nil => intro h; cases h; exact List.Forall₂.nil
  | cons hab _ ih =>
    intro h
    cases h with
    | cons hbc htl => exact List.Forall₂.cons (hRS _ _ _ hab hbc) (ih htl)

/-- the pair (earlier `a`, later `b`) gets the full separation distance: different connectors, and
    not a shared path with a common end point while nudgeSharedPathsWithCommonEndPoint is off -/
def FullGapR (o : ROpts) (a b : RSeg) : Prop :=
  a.conn ≠ b.conn ∧ ¬ (o.nudgeCommonEnd = false ∧ o.commonEnd b.conn a.conn = true)

theorem gapOf_full (o : ROpts) (d : Rat) (a b : RSeg) (h : FullGapR o a b) : gapOf o d a b = (d, false) := by
  obtain ⟨hne, hce⟩ := h
  have hne' : ¬ b.conn = a.conn := fun e => hne e.symm
  have h1 : shouldAlignWith o b a = false := by
    unfold shouldAlignWith
    simp [hne']
  have h2 : canAlignWith b a = false := by
    unfold canAlignWith
    simp [hne']
  unfold gapOf
  simp only [h1, h2, Bool.false_eq_true, if_false]
  split
  · rename_i h3
    exfalso; apply hce
    simp only [Bool.and_eq_true, Bool.not_eq_true'] at h3
    exact ⟨h3.1.1, h3.2⟩
  · rfl

theorem gapOf_values (o : ROpts) (d : Rat) (a b : RSeg) : (gapOf o d a b).1 = 0 ∨ (gapOf o d a b).1 = d := by
  unfold gapOf
  split
  · left; rfl
  · split
    · left; rfl
    · split
      · left; rfl
      · right; rfl

theorem regionCons_gap (o : ROpts) (d : Rat) (segs : List RSeg) :
    ∀ c ∈ (regionCons o d segs).map (flat segs), c.gap = 0 ∨ c.gap = d := by
  intro c hc
  rw [List.mem_map] at hc
  obtain ⟨sc, hsc, rfl⟩ := hc
  obtain ⟨i, s, _, ⟨_, l, _, rfl⟩ | ⟨j, a, _, _, _, _, rfl⟩ | ⟨_, u, _, rfl⟩⟩ := (mem_genG_iff (regionP o d) segs sc).1 hsc
  · left; rfl
  · exact gapOf_values o d a s
  · left; rfl

def AllHoldF (cs : List FCon) (pos : Nat → Rat) : Prop := ∀ c ∈ cs, c.holds pos

/-- relation between a constraint as first generated (`c0`) and its current form (`c`) when the
    current separation distance is `s` -/
def ConRel (s : Rat) (c0 c : FCon) : Prop :=
  c.left = c0.left ∧ c.right = c0.right ∧ c.eq = c0.eq ∧ (c0.gap ≤ 0 → c.gap = c0.gap) ∧ (0 < c0.gap → s ≤ c.gap)

/-- invariant of the retry loop -/
def StateInv (cons0 : List FCon) (st : NState) : Prop := List.Forall₂ (ConRel st.sepDist) cons0 st.cons

theorem stateInv_init (o : ROpts) (segs : List RSeg) :
    StateInv (initState o segs).cons (initState o segs) := by
  unfold StateInv
  rw [List.forall₂_same]
  intro c hc
  refine ⟨rfl, rfl, rfl, fun _ => rfl, ?_⟩
  intro hpos
  rcases regionCons_gap o o.base segs c hc with h | h
  · rw [h] at hpos; exact absurd hpos (by decide)
  · exact le_of_eq h.symm

theorem stateInv_holds {cons0 : List FCon} {st : NState} (hinv : StateInv cons0 st) {pos : Nat → Rat}
    (h : AllHoldF st.cons pos) (c0 : FCon) (hc0 : c0 ∈ cons0) (he : c0.eq = false) :
    (c0.gap ≤ 0 → pos c0.left + c0.gap ≤ pos c0.right) ∧ (0 < c0.gap → pos c0.left + st.sepDist ≤ pos c0.right) := by
  obtain ⟨c, hc, hl, hr, he', hz, hp⟩ := forall2_mem_left hinv c0 hc0
  have hh := h c hc
  unfold FCon.holds at hh
  rw [he', he, if_neg Bool.false_ne_true, hl, hr] at hh
  exact ⟨fun h0 => by rw [hz h0] at hh; exact hh, fun h0 => le_trans (by linarith [hp h0]) hh⟩

theorem nudgeStep_cases (o : ROpts) (vars : List Var) (st : NState) (fps : List Rat) (out : StepOut NState)
    (h : nudgeStep o vars st fps = some out) :
    ∃ sat rs, scanVars vars fps st.ranges = some (sat, rs) ∧
      ((sat = true ∧ out = ⟨true, false, { st with ranges := rs }⟩) ∨
       (sat = false ∧ out = ⟨false, decide (tolD < nextSep o st.sepDist),
          ⟨nextSep o st.sepDist, (rewriteGaps (nextSep o st.sepDist) false rs st.cons).1,
            (rewriteGaps (nextSep o st.sepDist) false rs st.cons).2⟩⟩)) := by
  unfold nudgeStep at h
  split at h
  · cases h
  · rename_i sat rs hscan
    refine ⟨sat, rs, hscan, ?_⟩
    cases sat
    · right
      simp only [Bool.false_eq_true, if_false] at h
      split at h
      · cases h
      · split at h
        · cases h
        · cases h; exact ⟨rfl, rfl⟩
    · left
      cases h; exact ⟨rfl, rfl⟩

theorem nudgeStep_inv (o : ROpts) (vars : List Var) (cons0 : List FCon) (st : NState) (fps : List Rat)
    (out : StepOut NState) (hstep : nudgeStep o vars st fps = some out)
    (hmono : nextSep o st.sepDist ≤ st.sepDist) (hinv : StateInv cons0 st) : StateInv cons0 out.next := by
  obtain ⟨sat, rs, _, ⟨_, rfl⟩ | ⟨_, rfl⟩⟩ := nudgeStep_cases o vars st fps out hstep
  · exact hinv
  · have hrel := rewriteGaps_rel (nextSep o st.sepDist) st.cons false rs
    refine forall2_trans_rel ?_ hinv hrel
    intro c0 c c' ⟨hl, hr, he, hz, hp⟩ ⟨hl', hr', he', hg⟩
    refine ⟨hl'.trans hl, hr'.trans hr, he'.trans he, ?_, ?_⟩
    · intro h0
      rcases hg with hg | ⟨hpos, _⟩
      · rw [hg]; exact hz h0
      · rw [hz h0] at hpos
        exact absurd (lt_of_lt_of_le hpos h0) (lt_irrefl _)
    · intro h0
      rcases hg with hg | ⟨_, hg⟩
      · rw [hg]; exact le_trans hmono (hp h0)
      · exact le_of_eq hg.symm

theorem nextSep_le_exact (o : ROpts) (hr : ∀ r, o.rnd r = r) (hb : 0 ≤ o.base) (s : Rat) : nextSep o s ≤ s := by
  unfold nextSep
  rw [hr, hr]
  have : 0 ≤ o.base / 10 := by positivity
  linarith

theorem nudgeStep_retry (o : ROpts) (vars : List Var) (st : NState) (fps : List Rat)
    (out : StepOut NState) (hstep : nudgeStep o vars st fps = some out) (hr : out.retry = true) :
    tolD < out.next.sepDist ∧ out.next.sepDist = nextSep o st.sepDist ∧ out.satisfied = false := by
  obtain ⟨sat, rs, _, ⟨_, rfl⟩ | ⟨_, rfl⟩⟩ := nudgeStep_cases o vars st fps out hstep
  · cases hr
  · exact ⟨of_decide_eq_true hr, rfl, rfl⟩

/-- states the nudging loop can be in when the solver is called: the start state, and the state
    after every round that asked for a retry (whatever the solver returned) -/
inductive Reach (o : ROpts) (vars : List Var) (st0 : NState) : NState → Prop
  | start : Reach o vars st0 st0
  | step {st : NState} {out : StepOut NState} (fps : List Rat) : Reach o vars st0 st →
      nudgeStep o vars st fps = some out → out.retry = true → Reach o vars st0 out.next

/-- `k ≤ 9`: a tenth reduction would leave nothing above the threshold of the retry test -/
theorem reach_sepAfter (o : ROpts) (hr : ∀ r, o.rnd r = r) (hb : 0 < o.base) (vars : List Var) (st0 : NState)
    (h0 : st0.sepDist = o.base) (st : NState) (hreach : Reach o vars st0 st) :
    ∃ k : Nat, st.sepDist = sepAfter o.base k ∧ k ≤ 9 := by
  have key : ∃ k : Nat, st.sepDist = sepAfter o.base k ∧ (k = 0 ∨ tolD < st.sepDist) := by
    induction hreach with
    | start => exact ⟨0, by simp [h0, sepAfter], Or.inl rfl⟩
    | step fps _ hstep hret ih =>
      obtain ⟨k, hk, _⟩ := ih
      obtain ⟨h1, h2, _⟩ := nudgeStep_retry o vars _ fps _ hstep hret
      refine ⟨k + 1, ?_, Or.inr h1⟩
      rw [h2]
      unfold nextSep
      rw [hr, hr, hk]
      unfold sepAfter
      push_cast
      ring
  obtain ⟨k, hk, hpos⟩ := key
  refine ⟨k, hk, ?_⟩
  have htol : (0 : Rat) < tolD := by unfold tolD; norm_num
  by_contra hcon
  have hk10 : (10 : Rat) ≤ (k : Rat) := by exact_mod_cast (Nat.lt_of_not_le hcon)
  rcases hpos with h0 | hgt
  · omega
  · rw [hk] at hgt
    unfold sepAfter at hgt
    have h10 : 0 < o.base / 10 := by positivity
    have : (10 : Rat) * (o.base / 10) ≤ (k : Rat) * (o.base / 10) := mul_le_mul_of_nonneg_right hk10 (le_of_lt h10)
    linarith

/-- `absQ` is `Model.Nudge.absR` under another name -/
theorem absQ_le {r t : Rat} (h : absQ r ≤ t) : -t ≤ r ∧ r ≤ t :=
  AdaptaVerif.Lemmas.Nudge.absR_le (show absR r ≤ t from h)

theorem scanVars_true_iff (vars : List Var) (fps : List Rat) (ranges : List Range) :
    (∃ rs, scanVars vars fps ranges = some (true, rs)) ↔ ∀ x ∈ (vars.zip fps).zipIdx, varUnsat x.1.1 x.1.2 = false := by
  unfold scanVars
  refine (Util.foldl_and _ (fun acc => ∃ rs, acc = some (true, rs)) (fun x => varUnsat x.1.1 x.1.2 = false)
    (fun acc x => ?_) _ _).trans (and_iff_right ⟨ranges, rfl⟩)
  rcases acc with _ | ⟨sat, rs⟩
  · simp
  · cases hu : varUnsat x.1.1 x.1.2
    · simp [hu]
    · cases hup : updRanges vars rs x.2 x.1.1.id <;> simp [hu, hup]

/-- what insertion guarantees for neighbours x (before) and y (after): x was put directly before y
    because it compared less, or y did not compare less than x when it passed it -/
def InsOk {β : Type} (cmp : β → β → Bool × Bool) (x y : β) : Prop :=
  cmp x y = (true, true) ∨ cmp y x ≠ (true, true)

theorem isChain_cons_head {β : Type} {R : β → β → Prop} {a : β} {l : List β} (h : l.IsChain R)
    (hh : ∀ b, l.head? = some b → R a b) : (a :: l).IsChain R := by
  cases l with
  | nil => exact .singleton a
  | cons b rest => exact .cons_cons (hh b rfl) h

theorem head_insertBefore {β : Type} (cmp : β → β → Bool × Bool) (s : β) (l : List β) :
    (insertBefore cmp s l).head? = some s ∨ (insertBefore cmp s l).head? = l.head? := by
  cases l with
  | nil => left; rfl
  | cons c rest =>
    unfold insertBefore
    by_cases h : cmp s c = (true, true)
    · left; simp [h]
    · right; simp [h]

theorem isChain_insertBefore {β : Type} (cmp : β → β → Bool × Bool) (s : β) :
    ∀ l : List β, l.IsChain (InsOk cmp) → (insertBefore cmp s l).IsChain (InsOk cmp) := by
  intro l
  induction l with
  | nil => intro _; exact .singleton s
  | cons c rest ih =>
    intro h
    unfold insertBefore
    by_cases hc : cmp s c = (true, true)
    · simp only [hc, if_true]
      exact .cons_cons (Or.inl hc) h
    · simp only [hc, if_false]
      apply isChain_cons_head (ih (List.isChain_of_isChain_cons h))
      intro b hb
      rcases head_insertBefore cmp s rest with hs | hsame
      · rw [hs] at hb
        cases hb
        exact Or.inr hc
      · rw [hsame] at hb
        cases rest with
        | nil => cases hb
        | cons r rest' =>
          simp only [List.head?_cons, Option.some.injEq] at hb
          subst hb
          exact List.rel_of_isChain_cons_cons h

theorem isChain_linesortLoop {β : Type} (cmp : β → β → Bool × Bool) : ∀ (fuel : Nat) (orig res : List β) (sz d : Nat),
    res.IsChain (InsOk cmp) → (linesortLoop cmp fuel orig res sz d).IsChain (InsOk cmp) := by
  intro fuel
  induction fuel with
  | zero => intro orig res sz d h; exact h
  | succ n ih =>
    intro orig res sz d h
    cases orig with
    | nil => exact h
    | cons s rest =>
      unfold linesortLoop
      split
      · exact ih _ _ _ _ (isChain_insertBefore cmp s res h)
      · exact ih _ _ _ _ h

theorem ruleCmp_asymm (nd : Rat) (x y : RSeg) (h : ruleCmp nd x y = some true) : ruleCmp nd y x = some false := by
  -- the three rules have the same form: the keys differ and the smaller one wins
  have key : ∀ {α : Type} [LinearOrder α] (a b : α), some (decide (a < b)) = some true → some (decide (b < a)) = some false :=
    fun a b e => congrArg some (decide_eq_false (not_lt.2 (le_of_lt (of_decide_eq_true (Option.some.inj e)))))
  unfold ruleCmp at h ⊢
  dsimp only at h ⊢
  simp only [Bool.or_comm (fixedOrder nd y).2, ne_comm (a := y.pos), ne_comm (a := (fixedOrder nd y).1), ne_comm (a := order y)]
  split_ifs at h ⊢
  · exact key _ _ h
  · exact key _ _ h
  · exact key _ _ h

theorem orderViolation_none_of_isChain (nd : Rat) : ∀ l : List RSeg,
    l.IsChain (fun x y => ruleCmp nd y x ≠ some true) → orderViolation nd l = none := by
  intro l
  induction l with
  | nil => intro _; rfl
  | cons a rest ih =>
    intro h
    cases rest with
    | nil => rfl
    | cons b rest' =>
      unfold orderViolation
      simp only [List.rel_of_isChain_cons_cons h, if_false]
      exact ih (List.isChain_of_isChain_cons h)

theorem insertStable_isInsert (k : Pot → Rat) : Util.IsInsert (fun a b => k a < k b) (insertStable k) :=
  ⟨fun _ => rfl, fun _ _ _ => rfl⟩

theorem mem_sortStable (k : Pot → Rat) (l : List Pot) (x : Pot) (h : x ∈ sortStable k l) : x ∈ l :=
  ((insertStable_isInsert k).foldl_perm l).mem_iff.1 h

theorem unifyStep_shape (o : ROpts) (vars : List Var) (st : UState) (fps : List Rat) (out : StepOut UState)
    (h : unifyStep o vars st fps = some out) :
    (∀ p ∈ out.next.pots, p ∈ st.pots) ∧
    (∀ c ∈ out.next.cons, c ∈ st.cons ∨ (c.eq = true ∧ c.gap = 0 ∧ c.left ≠ c.right ∧ (c.left, c.right) ∈ st.pots)) := by
  unfold unifyStep at h
  split at h
  · cases h
  · split at h
    · cases h
    · -- the roll-back / pop step
      generalize hcp : (if st.justAdded = true then
          if (!_) = true then (st.cons.dropLast, List.drop 1 st.pots) else (st.cons, List.drop 1 st.pots)
        else (st.cons, st.pots)) = cp at h
      obtain ⟨cons1, pots1⟩ := cp
      obtain ⟨hc1, hp1⟩ : (∀ c ∈ cons1, c ∈ st.cons) ∧ (∀ p ∈ pots1, p ∈ st.pots) := by
        split at hcp
        · split at hcp
          · cases hcp
            exact ⟨fun c hc => (List.dropLast_sublist _).subset hc, fun p hp => List.mem_of_mem_drop hp⟩
          · cases hcp
            exact ⟨fun c hc => hc, fun p hp => List.mem_of_mem_drop hp⟩
        · cases hcp
          exact ⟨fun c hc => hc, fun p hp => hp⟩
      simp only at h
      have hp2 : ∀ p ∈ (sortStable (potDist o fps) pots1).dropWhile (fun p => p.1 == p.2), p ∈ st.pots := by
        intro p hp
        exact hp1 p (mem_sortStable _ _ p ((List.dropWhile_sublist _).subset hp))
      split at h
      · rename_i pc rest heq
        cases h
        have hpc : pc ∈ (sortStable (potDist o fps) pots1).dropWhile (fun p => p.1 == p.2) := by rw [heq]; exact List.mem_cons_self
        have hne : pc.1 ≠ pc.2 := by
          have := List.head?_dropWhile_not (fun p : Pot => p.1 == p.2) (sortStable (potDist o fps) pots1)
          intro e
          have hh : ((sortStable (potDist o fps) pots1).dropWhile (fun p => p.1 == p.2)).head? = some pc := by rw [heq]; rfl
          rw [hh] at this
          simp [e] at this
        constructor
        · intro p hp; exact hp2 p hp
        · intro c hc
          simp only at hc
          rcases List.mem_append.mp hc with hc | hc
          · exact Or.inl (hc1 c hc)
          · rw [List.mem_singleton] at hc
            subst hc
            exact Or.inr ⟨rfl, rfl, hne, hp2 pc hpc⟩
      · cases h
        constructor
        · intro p hp; cases hp
        · intro c hc; exact Or.inl (hc1 c hc)

/-- states of the unifying loop (after any number of rounds, whatever the solver answered) -/
inductive UReach (o : ROpts) (vars : List Var) (st0 : UState) : UState → Prop
  | start : UReach o vars st0 st0
  | step {st : UState} {out : StepOut UState} (fps : List Rat) : UReach o vars st0 st →
      unifyStep o vars st fps = some out → UReach o vars st0 out.next

theorem mem_pairsOf : ∀ (l : List Nat) (a b : Nat), (a, b) ∈ pairsOf l → a ∈ l ∧ b ∈ l := by
  intro l
  induction l with
  | nil => intro a b h; cases h
  | cons x rest ih =>
    intro a b h
    unfold pairsOf at h
    rcases List.mem_append.mp h with h | h
    · rw [List.mem_map] at h
      obtain ⟨y, hy, he⟩ := h
      cases he
      exact ⟨List.mem_cons_self, List.mem_cons_of_mem _ hy⟩
    · obtain ⟨h1, h2⟩ := ih a b h
      exact ⟨List.mem_cons_of_mem _ h1, List.mem_cons_of_mem _ h2⟩

theorem unifyInit_pots (o : ROpts) (segs : List RSeg) (a b : Nat) (h : (a, b) ∈ (unifyInit o segs).pots) :
    (∃ v, (unifyVars o segs)[a]? = some v ∧ v.weight = freeWeight) ∧
    (∃ v, (unifyVars o segs)[b]? = some v ∧ v.weight = freeWeight) := by
  unfold unifyInit at h
  simp only at h
  obtain ⟨ha, hb⟩ := mem_pairsOf _ a b h
  have key : ∀ i, i ∈ (((unifyVars o segs).zipIdx.filter (fun vi => vi.1.weight == freeWeight)).map (·.2)) →
      ∃ v, (unifyVars o segs)[i]? = some v ∧ v.weight = freeWeight := by
    intro i hi
    rw [List.mem_map] at hi
    obtain ⟨vi, hvi, rfl⟩ := hi
    rw [List.mem_filter] at hvi
    obtain ⟨hm, hw⟩ := hvi
    have : (vi.1, vi.2) ∈ (unifyVars o segs).zipIdx := hm
    rw [List.mem_zipIdx_iff_getElem?] at this
    exact ⟨vi.1, this, by simpa using hw⟩
  exact ⟨key a ha, key b hb⟩

theorem scanOverlap_spec {β : Type} (ov : β → β → Bool) (region : List β) : ∀ rest : List β,
    (scanOverlap ov region rest = none ∧ ∀ x ∈ rest, ∀ t ∈ region, ov x t = false) ∨
    ∃ x l1 l2, scanOverlap ov region rest = some (x, l1 ++ l2) ∧ rest = l1 ++ x :: l2 := by
  intro rest
  induction rest with
  | nil => exact Or.inl ⟨rfl, fun x hx => by cases hx⟩
  | cons y rest ih =>
    unfold scanOverlap
    by_cases hany : (region.any fun t => ov y t) = true
    · exact Or.inr ⟨y, [], rest, by rw [if_pos hany]; rfl, rfl⟩
    · rw [if_neg hany]
      rcases ih with ⟨hs, hn⟩ | ⟨x, l1, l2, hs, rfl⟩
      · refine Or.inl ⟨by rw [hs]; rfl, fun x hx t ht => ?_⟩
        rcases List.mem_cons.mp hx with rfl | hx
        · simp only [List.any_eq_true, not_exists, not_and, Bool.not_eq_true] at hany
          exact hany t ht
        · exact hn x hx t ht
      · exact Or.inr ⟨x, y :: l1, l2, by rw [hs]; rfl, rfl⟩

theorem formLoop_closed {β : Type} (ov : β → β → Bool) : ∀ (fuel : Nat) (region rest : List β),
    rest.length ≤ fuel → ∀ x ∈ (formLoop ov fuel region rest).2, ∀ t ∈ (formLoop ov fuel region rest).1, ov x t = false := by
  intro fuel
  induction fuel with
  | zero =>
    intro region rest hlen x hx
    have : rest = [] := List.length_eq_zero_iff.mp (Nat.le_zero.mp hlen)
    subst this
    cases hx
  | succ n ih =>
    intro region rest hlen
    unfold formLoop
    rcases scanOverlap_spec ov region rest with ⟨hs, hn⟩ | ⟨y, l1, l2, hs, rfl⟩
    · rw [hs]; exact hn
    · rw [hs]
      exact ih (region ++ [y]) (l1 ++ l2) (by simp only [List.length_append, List.length_cons] at hlen ⊢; omega)

theorem formLoop_perm {β : Type} (ov : β → β → Bool) : ∀ (fuel : Nat) (region rest : List β),
    ((formLoop ov fuel region rest).1 ++ (formLoop ov fuel region rest).2).Perm (region ++ rest) ∧
    (formLoop ov fuel region rest).2.Sublist rest := by
  intro fuel
  induction fuel with
  | zero => intro region rest; exact ⟨.refl _, .refl _⟩
  | succ n ih =>
    intro region rest
    unfold formLoop
    rcases scanOverlap_spec ov region rest with ⟨hs, _⟩ | ⟨y, l1, l2, hs, rfl⟩
    · rw [hs]; exact ⟨.refl _, .refl _⟩
    · rw [hs]
      obtain ⟨h1, h2⟩ := ih (region ++ [y]) (l1 ++ l2)
      refine ⟨h1.trans ?_, h2.trans (List.Sublist.append_left (List.sublist_cons_self y l2) l1)⟩
      rw [List.append_assoc]
      exact List.Perm.append_left region (List.perm_middle (a := y) (l₁ := l1) (l₂ := l2)).symm

theorem formAll_mem {β : Type} (ov : β → β → Bool) : ∀ (fuel : Nat) (l : List β), ∀ r ∈ formAll ov fuel l, ∀ x ∈ r, x ∈ l := by
  intro fuel
  induction fuel with
  | zero => intro l r hr; cases hr
  | succ n ih =>
    intro l r hr x hx
    cases l with
    | nil => cases hr
    | cons y rest =>
      unfold formAll at hr
      obtain ⟨hp, hsub⟩ := formLoop_perm ov rest.length [y] rest
      rcases List.mem_cons.mp hr with rfl | hr
      · exact hp.subset (List.mem_append_left _ hx)
      · exact List.mem_cons_of_mem _ (hsub.subset (ih _ r hr x hx))

theorem regionTrace_reach (o : ROpts) (vars : List Var) (st0 : NState) : ∀ (answers : List (List Rat)) (st : NState),
    Reach o vars st0 st → ∀ s ∈ regionTrace o vars st answers, Reach o vars st0 s := by
  intro answers
  induction answers with
  | nil =>
    intro st hr s hs
    simp only [regionTrace, List.mem_singleton] at hs
    exact hs ▸ hr
  | cons fps rest ih =>
    intro st hr s hs
    unfold regionTrace at hs
    rcases List.mem_cons.mp hs with rfl | hs
    · exact hr
    · split at hs
      · rename_i out hstep
        split at hs
        · rename_i hret
          exact ih out.next (Reach.step fps hr hstep hret) s hs
        · cases hs
      · cases hs

end AdaptaVerif.Lemmas.NudgeRegion
