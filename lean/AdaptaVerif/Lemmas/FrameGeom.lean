/-
C20 helper lemmas: how the geometry predicates of Model.Geometry and the quantities of Model.Frame that a route cost is
made of (`sqDist`, `dotAt`, `crossAt`, `bendWeight`) transform under a frame change `p ↦ S p + t` (S one of the 8
symmetries of the square).
-/
import AdaptaVerif.Model.Frame
import AdaptaVerif.Lemmas.GeometrySpec
namespace AdaptaVerif.Lemmas.FrameGeom
open AdaptaVerif.Model.Geometry AdaptaVerif.Model.Frame
open AdaptaVerif.Lemmas.GeometrySpec

def detR (F : Frame) : Rat := (F.det : Int)

theorem det_cases (F : Frame) : F.det = 1 ∨ F.det = -1 := by
  rcases F with ⟨S, t⟩; cases S <;> first | exact Or.inl rfl | exact Or.inr rfl

theorem detR_cases (F : Frame) : detR F = 1 ∨ detR F = -1 := by
  rcases det_cases F with h | h <;> simp [detR, h]

theorem sign_sq {s : Rat} (h : s = 1 ∨ s = -1) : s * s = 1 := by
  rcases h with rfl | rfl <;> norm_num

theorem detR_sq (F : Frame) : detR F * detR F = 1 := sign_sq (detR_cases F)

theorem detR_mul_eq_zero (F : Frame) (x : Rat) : detR F * x = 0 ↔ x = 0 := by
  rcases detR_cases F with h | h
  · rw [h, one_mul]
  · rw [h, neg_one_mul, neg_eq_zero]

/-- Normal form of a frame.  The eight symmetries are the signed permutation matrices: a frame keeps the axes or exchanges
    them, and acts on each coordinate as `u ↦ ±u + t`, with the signs `(sx, sy)`

        axes kept:       id (+,+)    flipX (−,+)   flipY (+,−)    rot180 (−,−)     det =  sx·sy
        axes exchanged:  diag (+,+)  rot90 (−,+)   rot270 (+,−)   anti (−,−)       det = −sx·sy

    The invariance lemmas of `Lemmas/Frame*` start from these two cases and do not look at `Sym`: a polynomial quantity
    is settled by `ring`, a quantity built coordinatewise from a 1-D one by a commutative operation by the 1-D lemma
    (`absR_iso`, `mul_iso`, `eq_iso`, `strictBetween_iso`, `axisReverses_iso`).  Only statements about what is itself
    defined by cases on `Sym` (`Frame.inv`, `Sym.apply`, and `Dirs.act`, the last in the namespace `FramePin` of
    `FrameRoute.lean`) are proved by cases on it. -/
theorem act_cases (F : Frame) : ∃ sx sy tx ty : Rat, (sx = 1 ∨ sx = -1) ∧ (sy = 1 ∨ sy = -1) ∧
    ((detR F = sx * sy ∧ ∀ p, F.act p = ⟨sx * p.x + tx, sy * p.y + ty⟩) ∨
     (detR F = -(sx * sy) ∧ ∀ p, F.act p = ⟨sx * p.y + tx, sy * p.x + ty⟩)) := by
  -- the two signs can be read off the image of (1, 1); with them each row of the table is arithmetic on ±1
  rcases F with ⟨S, t⟩
  refine ⟨(S.apply ⟨1, 1⟩).x, (S.apply ⟨1, 1⟩).y, t.x, t.y, ?_⟩
  cases S <;> norm_num [Frame.act, Sym.apply, detR, Frame.det, Sym.det]

theorem area2_act (F : Frame) (a b c : Pt) :
    area2 (F.act a) (F.act b) (F.act c) = detR F * area2 a b c := by
  obtain ⟨sx, sy, tx, ty, -, -, ⟨hd, h⟩ | ⟨hd, h⟩⟩ := act_cases F <;> simp only [h, hd, area2] <;> ring

theorem act_x_y (F : Frame) (p : Pt) :
    (F.act p).x = (F.sym.apply p).x + F.t.x ∧ (F.act p).y = (F.sym.apply p).y + F.t.y := ⟨rfl, rfl⟩

theorem inv_act (F : Frame) (p : Pt) : F.inv.act (F.act p) = p := by
  rcases F with ⟨S, t⟩; rcases p with ⟨px, py⟩
  cases S <;> simp only [Frame.act, Frame.inv, Sym.apply, Sym.inv, Pt.mk.injEq] <;> constructor <;> ring

theorem act_inv (F : Frame) (p : Pt) : F.act (F.inv.act p) = p := by
  rcases F with ⟨S, t⟩; rcases p with ⟨px, py⟩
  cases S <;> simp only [Frame.act, Frame.inv, Sym.apply, Sym.inv, Pt.mk.injEq] <;> constructor <;> ring

theorem act_injective (F : Frame) (p q : Pt) (h : F.act p = F.act q) : p = q := by
  rw [← inv_act F p, h, inv_act]

theorem act_eq_iff (F : Frame) (p q : Pt) : F.act p = F.act q ↔ p = q :=
  ⟨act_injective F p q, fun h => by rw [h]⟩

theorem vecDir_act (F : Frame) (a b c : Pt) :
    vecDir (F.act a) (F.act b) (F.act c) = F.det * vecDir a b c := by
  have hA := area2_act F a b c
  rcases det_cases F with h | h
  · rw [h, one_mul]
    exact vecDir_congr_sign _ _ _ _ _ _ (by rw [hA, detR, h]; simp)
  · -- a reflection negates the area: the images turn as `b, a, c` do
    rw [h, neg_one_mul, ← vecDir_swap b a c]
    exact vecDir_congr_sign _ _ _ _ _ _ (by rw [hA, area2_swap b a c, detR, h]; simp)

theorem vecDir_act_eq_zero (F : Frame) (a b c : Pt) :
    vecDir (F.act a) (F.act b) (F.act c) = 0 ↔ vecDir a b c = 0 := by
  rw [vecDir_act]
  rcases det_cases F with h | h <;> rw [h] <;> omega

theorem colinear_act (F : Frame) (a b c : Pt) :
    colinear (F.act a) (F.act b) (F.act c) = colinear a b c :=
  Bool.eq_iff_iff.2 (by rw [colinear_iff, colinear_iff, area2_act, detR_mul_eq_zero])

theorem segmentIntersect_act (F : Frame) (a b c d : Pt) :
    segmentIntersect (F.act a) (F.act b) (F.act c) (F.act d) = segmentIntersect a b c d := by
  apply Bool.eq_iff_iff.2
  rw [segmentIntersect_signs, segmentIntersect_signs]
  simp only [area2_act]
  have e : ∀ u v : Rat, detR F * u * (detR F * v) = u * v := by
    intro u v
    calc detR F * u * (detR F * v) = (detR F * detR F) * (u * v) := by ring
      _ = u * v := by rw [detR_sq, one_mul]
  rw [e, e]

theorem lerp_act (F : Frame) (p q : Pt) (t : Rat) : F.act (lerp p q t) = lerp (F.act p) (F.act q) t := by
  obtain ⟨sx, sy, tx, ty, -, -, ⟨-, h⟩ | ⟨-, h⟩⟩ := act_cases F <;> simp only [h, lerp, Pt.mk.injEq] <;>
    constructor <;> ring

theorem pointOnLine_act_imp (F : Frame) (a b c : Pt) (h : pointOnLine a b c = true) :
    pointOnLine (F.act a) (F.act b) (F.act c) = true := by
  rw [pointOnLine_iff] at h ⊢
  obtain ⟨t, h0, h1, ex, ey, hne⟩ := h
  have hc : c = lerp a b t := by
    cases c
    rw [lerp, Pt.mk.injEq]
    exact ⟨ex, ey⟩
  have hFc := (congrArg F.act hc).trans (lerp_act F a b t)
  exact ⟨t, h0, h1, congrArg Pt.x hFc, congrArg Pt.y hFc, fun hh => hne (act_injective F a b hh)⟩

theorem pointOnLine_act (F : Frame) (a b c : Pt) :
    pointOnLine (F.act a) (F.act b) (F.act c) = pointOnLine a b c := by
  apply Bool.eq_iff_iff.2
  constructor
  · intro h
    have := pointOnLine_act_imp F.inv _ _ _ h
    simpa only [inv_act] using this
  · exact pointOnLine_act_imp F a b c

theorem segmentShapeIntersect_act (F : Frame) (e1 e2 s1 s2 : Pt) (seen : Bool) :
    segmentShapeIntersect (F.act e1) (F.act e2) (F.act s1) (F.act s2) seen =
      segmentShapeIntersect e1 e2 s1 s2 seen := by
  have hz : ∀ a b c : Pt, (vecDir (F.act a) (F.act b) (F.act c) != 0) = (vecDir a b c != 0) := fun a b c =>
    Bool.eq_iff_iff.2 (by rw [bne_iff_ne, bne_iff_ne, Ne, Ne, vecDir_act_eq_zero])
  have he : ∀ p q : Pt, (F.act p = F.act q) = (p = q) := fun p q => propext (act_eq_iff F p q)
  simp only [segmentShapeIntersect, segmentIntersect_act, pointOnLine_act, hz, he]

theorem cornerSide_act (F : Frame) (c1 c2 c3 p : Pt) :
    cornerSide (F.act c1) (F.act c2) (F.act c3) (F.act p) = F.det * cornerSide c1 c2 c3 p := by
  rcases det_cases F with h | h
  · simp only [cornerSide, vecDir_act, h, one_mul]
  · -- all three orientations change sign; only the first one selects the branch
    simp only [cornerSide, vecDir_act, h, neg_one_mul]
    rcases vecDir_cases c1 c2 c3 with ⟨_, e⟩ | ⟨_, e⟩ | ⟨_, e⟩ <;> rw [e] <;>
      simp only [Int.neg_nonpos_iff, Int.neg_nonneg, ge_iff_le, apply_ite Neg.neg, neg_neg, Int.reduceNeg,
        Int.reduceBEq, if_true, if_false, Bool.false_eq_true]

theorem absR_neg (r : Rat) : absR (-r) = absR r := by
  unfold absR
  split_ifs <;> first | rfl | linarith

theorem absR_iso {s : Rat} (hs : s = 1 ∨ s = -1) (t u v : Rat) : absR (s * u + t - (s * v + t)) = absR (u - v) := by
  rcases hs with rfl | rfl
  · congr 1; ring
  · rw [← absR_neg (u - v)]; congr 1; ring

theorem manhattanDist_act (F : Frame) (a b : Pt) :
    manhattanDist (F.act a) (F.act b) = manhattanDist a b := by
  obtain ⟨sx, sy, tx, ty, hx, hy, ⟨-, h⟩ | ⟨-, h⟩⟩ := act_cases F <;>
    simp only [h, manhattanDist, absR_iso hx, absR_iso hy]
  exact add_comm _ _

theorem mul_iso {s : Rat} (hs : s = 1 ∨ s = -1) (t u v w : Rat) :
    (s * u + t - (s * v + t)) * (s * w + t - (s * v + t)) = (u - v) * (w - v) := by
  linear_combination ((u - v) * (w - v)) * sign_sq hs

theorem dotAt_act (F : Frame) (a b c : Pt) : dotAt (F.act a) (F.act b) (F.act c) = dotAt a b c := by
  obtain ⟨sx, sy, tx, ty, hx, hy, ⟨-, h⟩ | ⟨-, h⟩⟩ := act_cases F <;> simp only [h, dotAt, mul_iso hx, mul_iso hy]
  exact add_comm _ _

theorem sqDist_act (F : Frame) (a b : Pt) : sqDist (F.act a) (F.act b) = sqDist a b :=
  dotAt_act F a b a

theorem crossAt_act (F : Frame) (a b c : Pt) :
    crossAt (F.act a) (F.act b) (F.act c) = detR F * crossAt a b c := by
  obtain ⟨sx, sy, tx, ty, -, -, ⟨hd, h⟩ | ⟨hd, h⟩⟩ := act_cases F <;> simp only [h, hd, crossAt] <;> ring

theorem bendWeight_act (F : Frame) (a b c : Pt) :
    bendWeight (F.act a) (F.act b) (F.act c) = bendWeight a b c := by
  simp only [bendWeight, act_eq_iff, dotAt_act, crossAt_act, ne_eq, detR_mul_eq_zero]

end AdaptaVerif.Lemmas.FrameGeom
