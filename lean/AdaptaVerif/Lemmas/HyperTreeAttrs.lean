/-
C12, fix 6964517: the repaired `removeZeroLengthEdges` keeps the terminal attributes
(`isConnectorSource`, `isPinDummyEndpoint`, `finalVertex`): every leaf of the result carries the
attributes (and the position) of a leaf of the start — for ALL trees.
-/
import AdaptaVerif.Lemmas.HyperTreeRzle
import AdaptaVerif.Lemmas.HyperTreeTerminals
namespace AdaptaVerif.Lemmas.HyperTreeAttrs
open AdaptaVerif.Model.HyperTree AdaptaVerif.Check.Tree AdaptaVerif.Spec.Tree
open AdaptaVerif.Lemmas.HyperTree AdaptaVerif.Lemmas.HyperTreeRzle AdaptaVerif.Lemmas.HyperTreeTerminals

def TermAttrs (n : HNode) : Bool × Bool × Option Nat :=
  (n.isConnectorSource, n.isPinDummyEndpoint, n.finalVertex)

theorem TermAttrs_of_kept {n n' : HNode} (k : NodeKept n n') : TermAttrs n' = TermAttrs n := by
  simp only [TermAttrs, k.isConnectorSource, k.isPinDummyEndpoint, k.finalVertex]

theorem keepTerminalAttrs_spec (t : HTree) (hN : (t.nodes.map (·.id)).Nodup) (e tg src : Nat) :
    (∀ m ∈ (keepTerminalAttrs t e tg src).nodes, m.id ≠ tg → m ∈ t.nodes) ∧
    (∀ m ∈ (keepTerminalAttrs t e tg src).nodes, m.id = tg →
      (m ∈ t.nodes ∧ ¬ ∃ so0 ∈ t.nodes, so0.id = src ∧ so0.edges.filter (fun i => i != e) = []) ∨
      (∃ so0 ∈ t.nodes, so0.id = src ∧ so0.edges.filter (fun i => i != e) = [] ∧
        TermAttrs m = TermAttrs so0)) := by
  unfold keepTerminalAttrs
  split
  · next so hso =>
    obtain ⟨hsom, hsoid⟩ := node?_mem hso
    split
    · next hemp =>
      have hnil : so.edges.filter (fun i => i != e) = [] := by simpa using hemp
      refine ⟨?_, ?_⟩
      · intro m hm hmt
        obtain ⟨n, hn, rfl⟩ := (mem_modNode _ _).mp hm
        by_cases hnt : n.id = tg
        · exfalso
          have hb : (n.id == tg) = true := by simpa using hnt
          rw [if_pos hb] at hmt
          exact hmt hnt
        · have hb : ¬ (n.id == tg) = true := by simpa using hnt
          rw [if_neg hb]; exact hn
      · intro m hm hmt
        obtain ⟨n, hn, rfl⟩ := (mem_modNode _ _).mp hm
        refine Or.inr ⟨so, hsom, hsoid, hnil, ?_⟩
        by_cases hnt : n.id = tg
        · have hb : (n.id == tg) = true := by simpa using hnt
          rw [if_pos hb]; rfl
        · exfalso
          have hb : ¬ (n.id == tg) = true := by simpa using hnt
          rw [if_neg hb] at hmt
          exact hnt hmt
    · next hemp =>
      refine ⟨fun m hm _ => hm, fun m hm _ => Or.inl ⟨hm, ?_⟩⟩
      rintro ⟨so0, hso0, hid0, hnil⟩
      have : so0 = so := Util.eq_of_nodup_map hN hso0 hsom (hid0.trans hsoid.symm)
      subst this
      apply hemp
      simp [hnil]
  · next hnone =>
    refine ⟨fun m hm _ => hm, fun m hm _ => Or.inl ⟨hm, ?_⟩⟩
    rintro ⟨so0, hso0, hid0, _⟩
    have := node?_of_mem hN hso0
    rw [hid0, hnone] at this
    cases this

/-- the invariant of the traversal: a tree, attributes are kept, and every leaf carries the attributes
    and the position of a leaf of the start heap `t0` -/
def AttrInv (t0 : HTree) (x : Imp) : Prop :=
  Tree x.t ∧ x.keepAttrs = true ∧
  ∀ n' ∈ x.t.nodes, n'.edges.length = 1 →
    ∃ n ∈ t0.nodes, n.edges.length = 1 ∧ TermAttrs n = TermAttrs n' ∧ n.point = n'.point

theorem AttrInv.step {t0 : HTree} {x x2 : Imp} (hI : AttrInv t0 x) (h : RzleStep x x2) :
    AttrInv t0 x2 := by
  obtain ⟨ht, hk, hP⟩ := hI
  have ht2 := rzleStep_tree ht h
  obtain ⟨e, sn, tg, src, s1, t2, he, hsn, hl, hdec, hc, rfl⟩ := h.step
  obtain ⟨gN, gE, hkp, hkN, -⟩ := rzleDec_relabel hdec
  have ht1 := hkp.tree ht
  have hz := zeroLen_of_zeroLength (rzleDec_cases hdec).2.1
  have hNb : ∀ n1 ∈ s1.t.nodes, ∃ n ∈ x.t.nodes, n.id = n1.id ∧ n.edges = n1.edges ∧ n.point = n1.point ∧
      TermAttrs n = TermAttrs n1 := fun n1 hn1 => by
    obtain ⟨n, hn, rfl⟩ := hkp.mem_nodes.mp hn1
    exact ⟨n, hn, (hkp.nid n).symm, (hkp.nedges n).symm, (congrArg HNode.point (hkN n)).symm,
      (congrArg TermAttrs (hkN n)).symm⟩
  have hk1' : s1.keepAttrs = true := (rzleDec_counters hdec).1.trans hk
  refine ⟨ht2, hk1', ?_⟩
  have hprep : rzlePrep s1 e.id tg src = keepTerminalAttrs s1.t e.id tg src := by
    unfold rzlePrep; rw [if_pos hk1']
  obtain ⟨gP, hp, hkP⟩ := rzlePrep_relabel s1 e.id tg src
  have hj0 := rzleDec_joins hdec ht.1 he hsn hl rfl
  obtain ⟨e1, he1, hid1, hj⟩ : ∃ e1 ∈ s1.t.edges, e1.id = e.id ∧ Joins e1 tg src :=
    ⟨gE e, hkp.mem_edges.mpr ⟨e, he, rfl⟩, hkp.eid e, hj0.congr (hkp.e1 e) (hkp.e2 e)⟩
  have htp := hp.tree ht1
  have he1' : e1 ∈ (rzlePrep s1 e.id tg src).edges := hp.mem_edges.mpr ⟨e1, he1, rfl⟩
  obtain ⟨t2', hc', _, hs⟩ := contract_tree htp he1' hj
  rw [hid1, hc] at hc'
  cases hc'
  obtain ⟨hF1, hF3⟩ := keepTerminalAttrs_spec s1.t ht1.1.nodupN e.id tg src
  rw [← hprep] at hF1 hF3
  have hts : tg ≠ src := htp.ne_of_joins he1' hj
  have hpts : ∀ a ∈ x.t.nodes, ∀ b ∈ x.t.nodes, a.id = tg → b.id = src → a.point = b.point :=
    fun a ha b hb hat hbs => hz.same_point ht.1 hj0 ha hb hat hbs
  have back : ∀ m ∈ s1.t.nodes, m.edges.length = 1 →
      ∃ n ∈ t0.nodes, n.edges.length = 1 ∧ TermAttrs n = TermAttrs m ∧ n.point = m.point := by
    intro m hm hlen
    obtain ⟨b, hb, _, hbed, hbpt, hbat⟩ := hNb m hm
    obtain ⟨n, hn, hnl, hna, hnp⟩ := hP b hb (by rw [hbed]; exact hlen)
    exact ⟨n, hn, hnl, hna.trans hbat, hnp.trans hbpt⟩
  intro n' hn' hlen
  obtain ⟨n1, hn1, hn1s, k, so, hso, hsoid, hed⟩ := hs.nodes n' hn'
  have hat' : TermAttrs n' = TermAttrs n1 := TermAttrs_of_kept k
  by_cases hnt : n1.id = tg
  · rw [if_pos hnt] at hed
    rcases hF3 n1 hn1 hnt with ⟨hn1m, hno⟩ | ⟨so0, hso0, hso0id, hnil, hattr⟩
    · -- no attributes copied: `src` keeps another edge, so `tg` was the leaf
      have hsom : so ∈ s1.t.nodes := hF1 so hso (by rw [hsoid]; exact Ne.symm hts)
      have hso_ne : so.edges.filter (fun j => j != e1.id) ≠ [] := by
        intro hh
        exact hno ⟨so, hsom, hsoid, by rw [← hid1]; exact hh⟩
      have hin1 : e1.id ∈ n1.edges :=
        (htp.1.mem_edges_iff hn1 he1').mpr (by rw [hnt]; exact joins_end_left hj)
      have l1 := length_filter_ne_of_nodup (htp.1.nodupL n1 hn1) hin1
      have hlen' := hlen
      rw [hed, List.length_append] at hlen'
      have : 0 < (so.edges.filter (fun j => j != e1.id)).length := List.length_pos_iff.mpr hso_ne
      obtain ⟨n, hn, hnl, hna, hnp⟩ := back n1 hn1m (by omega)
      exact ⟨n, hn, hnl, hna.trans hat'.symm, hnp.trans k.point.symm⟩
    · -- the attributes of the leaf `src` were copied to `tg`
      have hin : e1.id ∈ so0.edges :=
        (ht1.1.mem_edges_iff hso0 he1).mpr (by rw [hso0id]; exact joins_end_right hj)
      have l0 := length_filter_ne_of_nodup (ht1.1.nodupL so0 hso0) hin
      rw [hid1, hnil] at l0
      obtain ⟨b, hb, hbid, hbed, hbpt, hbat⟩ := hNb so0 hso0
      obtain ⟨n, hn, hnl, hna, hnp⟩ := hP b hb (by rw [hbed, ← l0]; rfl)
      refine ⟨n, hn, hnl, hna.trans (hbat.trans (hattr.symm.trans hat'.symm)), ?_⟩
      obtain ⟨m0, hm0, rfl⟩ := hp.mem_nodes.mp hn1
      have hm0id := (hp.nid m0).symm
      have hm0pt := (hkP m0).2.symm
      obtain ⟨a, ha, haid, _, hapt, _⟩ := hNb m0 hm0
      have := hpts a ha b hb (haid.trans (hm0id.trans hnt)) (hbid.trans hso0id)
      rw [hnp, k.point, ← hm0pt, ← hapt, this]
  · rw [if_neg hnt, if_neg hnt] at hed
    obtain ⟨n, hn, hnl, hna, hnp⟩ := back n1 (hF1 n1 hn1 hnt) (by rw [← hed]; exact hlen)
    exact ⟨n, hn, hnl, hna.trans hat'.symm, hnp.trans k.point.symm⟩

theorem rzle_attrInv_all (t0 : HTree) (f : Nat) :
    (∀ s self ign s', AttrInv t0 s → rzleNode f s self ign = some s' → AttrInv t0 s') ∧
    (∀ s self ign l s', AttrInv t0 s → rzleLoop f s self ign l = some s' → AttrInv t0 s') ∧
    (∀ s eid ign s', AttrInv t0 s → rzleEdge f s eid ign = some s' → AttrInv t0 s') :=
  rzle_inv_all (AttrInv t0) (fun _ _ hI hs => hI.step hs) f

end AdaptaVerif.Lemmas.HyperTreeAttrs
