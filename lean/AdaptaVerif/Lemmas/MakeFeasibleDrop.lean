/-
"A drop in an inequality-only dimension is justified": when a trial of `makeFeasible` is rejected
although `satisfy()` returned (some constraint carries the `unsatisfiable` flag), and all constraints
kept so far in that dimension as well as the tried one are inequalities, then `valid[dim] + c` contains
a positive-gap cycle, i.e. no placement satisfies it (any non-zero scales).

Route: the live solver is reachable through the public API (`SolverOk.hist`, carried by `Good`), so the
block invariant holds when `satisfy` returns (`satisfy_final`), and its clause `InvC.flags`
(Lemmas/VpscInv.lean) turns a flag of an inequality-only system into a positive cycle of the solver's
constraints — which are `valid.push c` (`Consist`).
-/
import AdaptaVerif.Lemmas.MakeFeasibleInv
import AdaptaVerif.Lemmas.Vpsc
import AdaptaVerif.Lemmas.VpscFlag
import AdaptaVerif.Lemmas.VpscFinal
namespace AdaptaVerif.Lemmas.MakeFeasibleDrop
open AdaptaVerif.Model.MakeFeasible AdaptaVerif.Model.Vpsc
open AdaptaVerif.Check.Vpsc AdaptaVerif.Spec.Vpsc
open AdaptaVerif.Lemmas.VpscMerge (SameData)
open AdaptaVerif.Lemmas.VpscFlag (toC)
open AdaptaVerif.Lemmas.VpscFinal (hist_J)
open AdaptaVerif.Lemmas.VpscSolve (satisfy_final)
open AdaptaVerif.Lemmas.MakeFeasibleInv AdaptaVerif.Lemmas.MakeFeasibleLog

theorem posCycle_infeasible (scale : Nat → Rat) (hs : ∀ i, scale i ≠ 0) (cs : List C)
    (h : PosCycle cs) : ¬ Feasible scale cs := by
  obtain ⟨cyc, hsub, hc, hpos⟩ := h
  rw [AdaptaVerif.Lemmas.Vpsc.feasible_iff_edges scale hs]
  exact AdaptaVerif.Lemmas.Vpsc.pos_cycle_infeasible_edges _ cyc hsub hc hpos

theorem toC_sameData {a b : Con} (h : SameData a b) : toC a = toC b := by
  obtain ⟨h1, h2, h3, h4⟩ := h
  unfold toC
  rw [h1, h2, h3, h4]

theorem consist_toC {vars : Array (Rat × Rat × Rat)} {V : Array Con} {st : St}
    (h : Consist vars V st) : st.cons.toList.map toC = V.toList.map toC := by
  apply List.ext_getElem
  · simp [h.size]
  · intro i h1 h2
    have hi : i < V.size := by simpa using h2
    have hi' : i < st.cons.size := by rw [h.size]; exact hi
    have := toC_sameData (h.data i hi)
    rw [getElem!_pos _ i hi', getElem!_pos V i hi] at this
    simpa using this

theorem tryCon_reject_cases (n : Nat) (ds : DimSt) (c : Con) (own : Nat × Nat)
    (hrej : (ds.tryCon n c own).accepted = false) (hret : (ds.tryCon n c own).returned = true) :
    ∃ st' pos ret, (ds.solverFor c).satisfy = (st', .ok pos ret) ∧
      ∃ j, j < st'.cons.size ∧ (st'.cons[j]!).unsat = true := by
  obtain ⟨_, h2, h3, _, _, _⟩ := tryCon_spec n ds c own
  rw [h3, hret, Bool.true_and, Bool.not_eq_false', Array.any_eq_true] at hrej
  obtain ⟨pos, ret, hok⟩ := h2.1 hret
  generalize (ds.solverFor c).satisfy = r at hrej hok ⊢
  obtain ⟨st', o⟩ := r
  obtain ⟨j, hj, hu⟩ := hrej
  exact ⟨st', pos, ret, congrArg (Prod.mk st') hok, j, hj, by rw [getElem!_pos _ j hj]; exact hu⟩

theorem tryCon_reject_posCycle (n : Nat) (ds : DimSt) (c : Con) (own : Nat × Nat) (h : Good n ds)
    (hc : c.l < ds.vars.size ∧ c.r < ds.vars.size ∧ c.unsat = false)
    (hineq : ∀ c' ∈ ds.valid, c'.eq = false) (hceq : c.eq = false)
    (hrej : (ds.tryCon n c own).accepted = false) (hret : (ds.tryCon n c own).returned = true) :
    PosCycle ((ds.valid.push c).toList.map toC) := by
  obtain ⟨st', pos, ret, hsat, j, hj, hun⟩ := tryCon_reject_cases n ds c own hrej hret
  have hcons : Consist ds.vars (ds.valid.push c) st' := consist_satisfy (solverFor_consist ds c h.pre) hsat
  have hF := satisfy_final _ st' pos ret (hist_J (solverFor_hist ds c h.pre hc)) hsat
  have hall : ∀ k : Nat, k < st'.cons.size → (st'.cons[k]!).eq = false := by
    intro k hk
    have hk' : k < (ds.valid.push c).size := by rw [← hcons.size]; exact hk
    rw [(hcons.data k hk').2.2.2, getElem!_pos _ k hk']
    exact Array.forall_mem_push (p := fun c' => c'.eq = false).2 ⟨hceq, hineq⟩ _ (Array.getElem_mem hk')
  have hp := hF.inv.flags hall j hj hun
  rw [consist_toC hcons] at hp
  exact hp

theorem tryCon_reject_infeasible (n : Nat) (ds : DimSt) (c : Con) (own : Nat × Nat) (h : Good n ds)
    (hc : c.l < ds.vars.size ∧ c.r < ds.vars.size ∧ c.unsat = false)
    (hineq : ∀ c' ∈ ds.valid, c'.eq = false) (hceq : c.eq = false)
    (hrej : (ds.tryCon n c own).accepted = false) (hret : (ds.tryCon n c own).returned = true)
    (scale : Nat → Rat) (hscale : ∀ i, scale i ≠ 0) :
    ¬ Feasible scale ((ds.valid.push c).toList.map toC) :=
  posCycle_infeasible scale hscale _ (tryCon_reject_posCycle n ds c own h hc hineq hceq hrej hret)

end AdaptaVerif.Lemmas.MakeFeasibleDrop
