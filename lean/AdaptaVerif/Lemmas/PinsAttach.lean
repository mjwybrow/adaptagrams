/-
Soundness of the C11 route checkers of Check/Attach.lean; `pointOnSegment` is also complete.
-/
import AdaptaVerif.Check.Attach
import AdaptaVerif.Spec.Pins
import Mathlib.Tactic.Linarith
import Mathlib.Tactic.Ring
import Mathlib.Tactic.FieldSimp
import Mathlib.Algebra.Order.Field.Rat
import Mathlib.Algebra.Order.Field.Basic
namespace AdaptaVerif.Lemmas.PinsAttach
open AdaptaVerif.Model.Pins AdaptaVerif.Spec.Pins AdaptaVerif.Check.Attach

theorem param_of_between (a b c : Rat) (hne : a ≠ b) (h1 : min a b ≤ c) (h2 : c ≤ max a b) :
    0 ≤ (c - a) / (b - a) ∧ (c - a) / (b - a) ≤ 1 := by
  rcases lt_or_gt_of_ne hne with h | h
  · rw [min_eq_left h.le] at h1; rw [max_eq_right h.le] at h2
    have hp : 0 < b - a := by linarith
    exact ⟨div_nonneg (by linarith) hp.le, (div_le_one hp).mpr (by linarith)⟩
  · rw [min_eq_right h.le] at h1; rw [max_eq_left h.le] at h2
    have hn : b - a < 0 := by linarith
    exact ⟨div_nonneg_of_nonpos (by linarith) hn.le, (div_le_one_of_neg hn).mpr (by linarith)⟩

theorem pointOnSegment_sound (a b c : P2) (h : pointOnSegment a b c = true) : OnSeg a b c := by
  unfold pointOnSegment at h
  simp only [Bool.and_eq_true, decide_eq_true_eq] at h
  obtain ⟨⟨⟨⟨hcr, hx1⟩, hx2⟩, hy1⟩, hy2⟩ := h
  unfold cross at hcr
  by_cases hx : a.x = b.x
  · by_cases hy : a.y = b.y
    · -- degenerate segment: c = a
      refine ⟨0, le_refl 0, by norm_num, ?_, ?_⟩
      · rw [← hx, min_self] at hx1; rw [← hx, max_self] at hx2; linarith
      · rw [← hy, min_self] at hy1; rw [← hy, max_self] at hy2; linarith
    · -- vertical segment: parameter from y
      obtain ⟨t0, t1⟩ := param_of_between a.y b.y c.y hy hy1 hy2
      refine ⟨(c.y - a.y) / (b.y - a.y), t0, t1, ?_, ?_⟩
      · rw [← hx, min_self] at hx1; rw [← hx, max_self] at hx2
        have : c.x = a.x := le_antisymm hx2 hx1
        rw [this, ← hx]; ring
      · have hne : b.y - a.y ≠ 0 := sub_ne_zero.mpr (Ne.symm hy)
        field_simp
        ring
  · obtain ⟨t0, t1⟩ := param_of_between a.x b.x c.x hx hx1 hx2
    have hne : b.x - a.x ≠ 0 := sub_ne_zero.mpr (Ne.symm hx)
    refine ⟨(c.x - a.x) / (b.x - a.x), t0, t1, ?_, ?_⟩
    · field_simp
      ring
    · field_simp
      linarith

theorem between_of_param (a b t : Rat) (t0 : 0 ≤ t) (t1 : t ≤ 1) :
    min a b ≤ a + t * (b - a) ∧ a + t * (b - a) ≤ max a b := by
  -- a convex combination of `a` and `b`: weigh the bounds `min ≤ a, b ≤ max` by `1 - t` and `t`
  have s0 : 0 ≤ 1 - t := by linarith
  have l1 := mul_le_mul_of_nonneg_left (min_le_left a b) s0
  have l2 := mul_le_mul_of_nonneg_left (min_le_right a b) t0
  have u1 := mul_le_mul_of_nonneg_left (le_max_left a b) s0
  have u2 := mul_le_mul_of_nonneg_left (le_max_right a b) t0
  constructor <;> linarith

theorem pointOnSegment_complete (a b c : P2) (h : OnSeg a b c) : pointOnSegment a b c = true := by
  obtain ⟨t, t0, t1, hx, hy⟩ := h
  obtain ⟨x1, x2⟩ := between_of_param a.x b.x t t0 t1
  obtain ⟨y1, y2⟩ := between_of_param a.y b.y t t0 t1
  unfold pointOnSegment cross
  simp only [Bool.and_eq_true, decide_eq_true_eq]
  rw [hx, hy]
  refine ⟨⟨⟨⟨by ring, x1⟩, x2⟩, y1⟩, y2⟩

theorem checkpointsInOrder_sound : ∀ (route cps : List P2),
    checkpointsInOrder route cps = true → Visits route cps := by
  intro route cps
  fun_induction checkpointsInOrder route cps with
  | case1 route => intro _; exact Visits.done route
  | case2 c cs => intro h; cases h
  | case3 a c cs => intro h; cases h
  | case4 a b rest c cs ih1 ih2 =>
    intro h
    simp only [Bool.or_eq_true, Bool.and_eq_true] at h
    rcases h with ⟨h1, h2⟩ | h
    · exact Visits.here (pointOnSegment_sound a b c h1) (ih1 h2)
    · exact Visits.later (ih2 h)

theorem onSeg_of_subseg {a b c p : P2} (hc : OnSeg a b c) (hp : OnSeg c b p) : OnSeg a b p := by
  obtain ⟨t, t0, t1, hcx, hcy⟩ := hc
  obtain ⟨u, u0, u1, hpx, hpy⟩ := hp
  refine ⟨t + u * (1 - t), ?_, ?_, ?_, ?_⟩
  · have : 0 ≤ u * (1 - t) := mul_nonneg u0 (by linarith)
    linarith
  · have : u * (1 - t) ≤ 1 * (1 - t) := mul_le_mul_of_nonneg_right u1 (by linarith)
    linarith
  · rw [hpx, hcx]; ring
  · rw [hpy, hcy]; ring

theorem visits_onRoute {route cps : List P2} (h : Visits route cps) : ∀ p ∈ cps, OnRoute route p := by
  induction h with
  | done route => intro p hp; cases hp
  | @here a b c rest cs hseg _ ih =>
    intro p hp
    rcases List.mem_cons.mp hp with rfl | hp
    · exact Or.inl hseg
    · exact (ih p hp).imp_left (onSeg_of_subseg hseg)
  | @later a route cps _ ih =>
    intro p hp
    have := ih p hp
    match route, this with
    | b :: rest, h => exact Or.inr h

end AdaptaVerif.Lemmas.PinsAttach
