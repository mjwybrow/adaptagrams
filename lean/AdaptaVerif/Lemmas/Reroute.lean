/-
Lemmas about Model/Reroute.lean.  `Step`: what every operation of `processActions` does to the connector list.
`Txn sel inv`: what a piece of `processActions` does to the whole state — the registrations selected by `sel` go, the
connectors named by `inv` or owning a selected registration have a flag up; it composes along the three loops
(`passes_txn`), which gives the fate of one registration (`flagTxn_regs`, `flagTxn_needs`, `flagTxn_reg`).
-/
import AdaptaVerif.Model.Reroute
namespace AdaptaVerif.Lemmas.Reroute
open AdaptaVerif.Model.Reroute
open AdaptaVerif.Model.ActionQueue (Action Kind End)

def Has (cid : Nat) (st : RState) : Prop := ∃ c ∈ st.conns, c.id = cid

/-- some flag of connector `cid` is up (`m_needs_reroute_flag`, or the delegate's bool) -/
def Up (cid : Nat) (st : RState) : Prop :=
  ∃ c ∈ st.conns, c.id = cid ∧ (c.needsReroute = true ∨ c.alerted = true)

/-- `m_false_path` of connector `cid` is set -/
def FalseP (cid : Nat) (st : RState) : Prop := ∃ c ∈ st.conns, c.id = cid ∧ c.falsePath = true

/-! ### what every operation of `processActions` does to the connector list -/

/-- the change of one connector: the id stays, a raised flag stays raised (possibly moved from the delegate's
    bool to `m_needs_reroute_flag`), `m_false_path` is not touched -/
structure Keeps (c c' : ConnSt) : Prop where
  id_eq : c'.id = c.id
  up : (c.needsReroute = true ∨ c.alerted = true) → (c'.needsReroute = true ∨ c'.alerted = true)
  falsePath : c'.falsePath = c.falsePath

theorem Keeps.refl (c : ConnSt) : Keeps c c := ⟨Eq.refl _, fun h => h, Eq.refl _⟩

/-- the connectors of `st'` are those of `st`, in the same order, each changed as `Keeps` allows -/
def Step (st st' : RState) : Prop := ∃ g : ConnSt → ConnSt, (∀ c, Keeps c (g c)) ∧ st'.conns = st.conns.map g

theorem Step.refl (st : RState) : Step st st := ⟨id, Keeps.refl, (List.map_id _).symm⟩

theorem Step.trans {s1 s2 s3 : RState} (h1 : Step s1 s2) (h2 : Step s2 s3) : Step s1 s3 := by
  obtain ⟨g1, k1, e1⟩ := h1
  obtain ⟨g2, k2, e2⟩ := h2
  refine ⟨g2 ∘ g1, fun c => ⟨(k2 _).id_eq.trans (k1 c).id_eq, fun h => (k2 _).up ((k1 c).up h),
    (k2 _).falsePath.trans (k1 c).falsePath⟩, ?_⟩
  rw [e2, e1, List.map_map]

theorem Step.has {st st' : RState} (h : Step st st') {cid : Nat} (hc : Has cid st) : Has cid st' := by
  obtain ⟨g, k, e⟩ := h
  obtain ⟨c, hc, rfl⟩ := hc
  exact ⟨g c, by rw [e]; exact List.mem_map_of_mem hc, (k c).id_eq⟩

theorem Step.up {st st' : RState} (h : Step st st') {cid : Nat} (hc : Up cid st) : Up cid st' := by
  obtain ⟨g, k, e⟩ := h
  obtain ⟨c, hc, rfl, hf⟩ := hc
  exact ⟨g c, by rw [e]; exact List.mem_map_of_mem hc, (k c).id_eq, (k c).up hf⟩

theorem Step.falseP {st st' : RState} (h : Step st st') {cid : Nat} (hc : FalseP cid st) : FalseP cid st' := by
  obtain ⟨g, k, e⟩ := h
  obtain ⟨c, hc, rfl, hp⟩ := hc
  exact ⟨g c, by rw [e]; exact List.mem_map_of_mem hc, (k c).id_eq, (k c).falsePath.trans hp⟩

theorem alertWhere_step (sel : Reg → Bool) (st : RState) : Step st (alertWhere sel st) := by
  refine ⟨_, fun c => ?_, Eq.refl _⟩
  split
  · exact ⟨Eq.refl _, fun _ => Or.inr (Eq.refl _), Eq.refl _⟩
  · exact Keeps.refl c

theorem markDeleted_step (lt3 : Lt3) (poly : List AdaptaVerif.Model.Geometry.Pt) (st : RState) :
    Step st (markDeleted lt3 poly st) := by
  refine ⟨_, fun c => ?_, Eq.refl _⟩
  unfold markOne
  split
  · exact Keeps.refl c
  · split
    · exact ⟨Eq.refl _, fun _ => Or.inl (Eq.refl _), Eq.refl _⟩
    · exact Keeps.refl c
    · exact ⟨Eq.refl _, id, Eq.refl _⟩

theorem invalidate_step (k : Nat) (st : RState) : Step st { st with conns := invalidate k st.conns } := by
  refine ⟨_, fun c => ?_, Eq.refl _⟩
  split
  · exact ⟨Eq.refl _, fun _ => Or.inl (Eq.refl _), Eq.refl _⟩
  · exact Keeps.refl c

theorem deliver_step (st : RState) : Step st (deliver st) := by
  refine ⟨_, fun c => ?_, Eq.refl _⟩
  split
  · exact ⟨Eq.refl _, fun _ => Or.inl (Eq.refl _), Eq.refl _⟩
  · exact Keeps.refl c

/-! ### what a piece of `processActions` does to the whole state

Every selector handed to `alertWhere` tests the registration alone, never the state.  So the registrations after any
sequence of operations are the old ones without those some selector picked, and a flag raised on the way stays raised
(`Step.up`). -/

/-- the connectors change as `Step` allows; exactly the registrations selected by `sel` are dropped; a connector that
    `inv` names (its path was made invalid), or one of whose registrations is selected, has a flag up afterwards -/
structure Txn (sel : Reg → Bool) (inv : Nat → Bool) (st st' : RState) : Prop where
  step : Step st st'
  regs : st'.regs = st.regs.filter fun r => !sel r
  up : ∀ cid, Has cid st → (inv cid = true ∨ ∃ r ∈ st.regs, r.conn = cid ∧ sel r = true) → Up cid st'

theorem Txn.ofStep {st st' : RState} (h : Step st st') (hr : st'.regs = st.regs) :
    Txn (fun _ => false) (fun _ => false) st st' :=
  ⟨h, hr.trans (List.filter_eq_self.2 fun _ _ => rfl).symm, fun _ _ h => h.elim Bool.noConfusion
    fun ⟨_, _, _, h⟩ => Bool.noConfusion h⟩

theorem Txn.congr {sel sel' : Reg → Bool} {inv inv' : Nat → Bool} {st st' : RState} (h : Txn sel inv st st')
    (hs : ∀ r, sel r = sel' r) (hi : ∀ c, inv c = inv' c) : Txn sel' inv' st st' := by
  obtain rfl : sel = sel' := funext hs
  obtain rfl : inv = inv' := funext hi
  exact h

theorem Txn.trans {s1 s2 : Reg → Bool} {i1 i2 : Nat → Bool} {a b c : RState} (h1 : Txn s1 i1 a b)
    (h2 : Txn s2 i2 b c) : Txn (fun r => s1 r || s2 r) (fun k => i1 k || i2 k) a c := by
  refine ⟨h1.step.trans h2.step, by rw [h2.regs, h1.regs, List.filter_filter]; simp [Bool.and_comm], ?_⟩
  intro cid hc h
  have first : (i1 cid = true ∨ ∃ r ∈ a.regs, r.conn = cid ∧ s1 r = true) → Up cid c :=
    fun h => h2.step.up (h1.up cid hc h)
  rcases h with hi | ⟨r, hr, hrc, hs⟩
  · rcases Bool.or_eq_true _ _ ▸ hi with hi | hi
    · exact first (Or.inl hi)
    · exact h2.up cid (h1.step.has hc) (Or.inl hi)
  · cases h1r : s1 r
    · -- not selected by the first piece: the registration is still there for the second
      refine h2.up cid (h1.step.has hc) (Or.inr ⟨r, ?_, hrc, by simpa [h1r] using hs⟩)
      rw [h1.regs]; exact List.mem_filter.mpr ⟨hr, by simp [h1r]⟩
    · exact first (Or.inr ⟨r, hr, hrc, h1r⟩)

theorem Txn.foldl {α : Type} (f : RState → α → RState) (sel : α → Reg → Bool) (inv : α → Nat → Bool)
    (hf : ∀ st a, Txn (sel a) (inv a) st (f st a)) :
    ∀ (l : List α) (st : RState), Txn (fun r => l.any (sel · r)) (fun k => l.any (inv · k)) st (l.foldl f st)
  | [], st => Txn.ofStep (Step.refl st) rfl
  | a :: l, st => (hf st a).trans (Txn.foldl f sel inv hf l _)

theorem alertWhere_txn (sel : Reg → Bool) (st : RState) : Txn sel (fun _ => false) st (alertWhere sel st) := by
  refine ⟨alertWhere_step sel st, rfl, ?_⟩
  rintro cid ⟨c, hcm, hcid⟩ (h | ⟨r, hr, hc, hs⟩)
  · cases h
  · refine ⟨_, List.mem_map_of_mem hcm, ?_, ?_⟩
    · split <;> exact hcid
    · rw [if_pos (List.contains_iff_mem.2 (List.mem_map.mpr ⟨r, List.mem_filter.mpr ⟨hr, hs⟩, by rw [hc, hcid]⟩))]
      exact Or.inr rfl

theorem alertWhere_regs_sub (sel : Reg → Bool) (st : RState) (r : Reg) (hr : r ∈ (alertWhere sel st).regs) :
    r ∈ st.regs :=
  (List.mem_filter.mp ((alertWhere_txn sel st).regs ▸ hr)).1

theorem invalidate_txn (k : Nat) (st : RState) :
    Txn (fun _ => false) (· == k) st { st with conns := invalidate k st.conns } := by
  refine ⟨invalidate_step k st, (List.filter_eq_self.2 fun _ _ => rfl).symm, ?_⟩
  rintro cid ⟨c, hc, hid⟩ (h | ⟨_, _, _, h⟩)
  · refine ⟨_, List.mem_map_of_mem hc, ?_, ?_⟩
    · split <;> exact hid
    · rw [if_pos (by simpa [hid] using h)]; exact Or.inl rfl
  · cases h

theorem endpointChanged_txn (k : Nat) (st : RState) (e : End) :
    Txn (·.touchesKey (VKey.ofEnd k e)) (· == k) st (endpointChanged k st e) :=
  ((alertWhere_txn _ st).trans (invalidate_txn k _)).congr (fun _ => Bool.or_false _) (fun _ => rfl)

/-- pass 1 selects the registration: an end of the edge is a corner of a removed / moved obstacle -/
def sel1 (a : Action) (r : Reg) : Bool :=
  (a.kind == .remove || a.kind == .move) && r.touchesObst a.id

theorem sel1_eq_false (a : Action) (r : Reg) :
    sel1 a r = false ↔ ((a.kind = .remove ∨ a.kind = .move) → r.touchesObst a.id = false) := by
  unfold sel1; cases a.kind <;> simp

/-- pass 2 selects the registration: an added / moved shape is reported to block the edge -/
def sel2 (rp : Polys) (a : Action) (r : Reg) : Bool :=
  (a.kind == .add || a.kind == .move) && edgeBlocked (rp a.id) r

theorem sel2_eq_false (rp : Polys) (a : Action) (r : Reg) :
    sel2 rp a r = false ↔ ((a.kind = .add ∨ a.kind = .move) → edgeBlocked (rp a.id) r = false) := by
  unfold sel2; cases a.kind <;> simp

/-- pass 3 selects the registration: an end of the edge is a changed connector end -/
def sel3 (a : Action) (r : Reg) : Bool :=
  a.kind == .connChange && a.conns.any fun u => r.touchesKey (VKey.ofEnd a.id u.1)

theorem sel3_eq_false (a : Action) (r : Reg) :
    sel3 a r = false ↔ (a.kind = .connChange → ∀ u ∈ a.conns, r.touchesKey (VKey.ofEnd a.id u.1) = false) := by
  unfold sel3; cases a.kind <;> simp

/-- pass 3 makes the path of connector `k` invalid: one of its end points is updated -/
def inv3 (a : Action) (k : Nat) : Bool := a.kind == .connChange && !a.conns.isEmpty && k == a.id

theorem inv3_eq_false (a : Action) (k : Nat) :
    inv3 a k = false ↔ (a.kind = .connChange → a.conns ≠ [] → a.id ≠ k) := by
  unfold inv3; cases a.kind <;> simp [Ne, eq_comm (a := k)]

theorem pass1One_txn (lt3 : Lt3) (rp : Polys) (st : RState) (a : Action) :
    Txn (sel1 a) (fun _ => false) st (pass1One lt3 rp st a) := by
  unfold pass1One sel1
  cases a.kind
  case remove | move =>
    exact ((alertWhere_txn _ st).trans (Txn.ofStep (markDeleted_step lt3 _ _) rfl)).congr (fun _ => Bool.or_false _)
      (fun _ => rfl)
  all_goals exact Txn.ofStep (Step.refl st) rfl

theorem pass2One_txn (rp : Polys) (st : RState) (a : Action) :
    Txn (sel2 rp a) (fun _ => false) st (pass2One rp st a) := by
  unfold pass2One sel2 newBlockingShape
  cases a.kind
  case add | move => exact alertWhere_txn _ st
  all_goals exact Txn.ofStep (Step.refl st) rfl

theorem pass3One_txn (st : RState) (a : Action) : Txn (sel3 a) (inv3 a) st (pass3One st a) := by
  unfold pass3One sel3 inv3
  cases a.kind
  case connChange =>
    exact (Txn.foldl (fun st (u : End × AdaptaVerif.Model.ActionQueue.CEnd) => endpointChanged a.id st u.1) _ _
      (fun st u => endpointChanged_txn a.id st u.1) a.conns st).congr (fun _ => rfl)
      (fun k => by cases a.conns <;> simp)
  all_goals exact Txn.ofStep (Step.refl st) rfl

/-- the three loops of `processActions`, before the alerts are delivered -/
theorem passes_txn (lt3 : Lt3) (rpOld rpNew : Polys) (acts : List Action) (st : RState) :
    Txn (fun r => acts.any (sel1 · r) || acts.any (sel2 rpNew · r) || acts.any (sel3 · r)) (fun k => acts.any (inv3 · k))
      st (acts.foldl pass3One (acts.foldl (pass2One rpNew) (acts.foldl (pass1One lt3 rpOld) st))) :=
  (((Txn.foldl _ _ _ (pass1One_txn lt3 rpOld) acts st).trans (Txn.foldl _ _ _ (pass2One_txn rpNew) acts _)).trans
    (Txn.foldl _ _ _ pass3One_txn acts _)).congr (fun _ => rfl) (fun _ => by simp)

theorem flagTxn_regs (lt3 : Lt3) (rpOld rpNew : Polys) (acts : List Action) (st : RState) :
    (flagTxn lt3 rpOld rpNew acts st).regs = st.regs.filter fun r =>
      !(acts.any (sel1 · r) || acts.any (sel2 rpNew · r) || acts.any (sel3 · r)) :=
  (passes_txn lt3 rpOld rpNew acts st).regs

theorem deliver_needs (cid : Nat) (st : RState) (h : Up cid st) :
    ∃ c ∈ (deliver st).conns, c.id = cid ∧ c.needsReroute = true := by
  obtain ⟨c, hc, hid, hf⟩ := h
  unfold deliver
  refine ⟨_, List.mem_map_of_mem hc, ?_, ?_⟩
  · split <;> exact hid
  · split
    · rfl
    · next ha => exact hf.resolve_right ha

theorem flagTxn_needs (cid : Nat) (lt3 : Lt3) (rpOld rpNew : Polys) (acts : List Action) (st : RState) (h : Has cid st)
    (hb : Up cid st ∨ acts.any (inv3 · cid) = true ∨ ∃ r ∈ st.regs, r.conn = cid ∧
      (acts.any (sel1 · r) || acts.any (sel2 rpNew · r) || acts.any (sel3 · r)) = true) :
    ∃ c ∈ (flagTxn lt3 rpOld rpNew acts st).conns, c.id = cid ∧ c.needsReroute = true :=
  have T := passes_txn lt3 rpOld rpNew acts st
  deliver_needs cid _ (hb.elim T.step.up (T.up cid h))

theorem flagTxn_reg (cid : Nat) (lt3 : Lt3) (rpOld rpNew : Polys) (acts : List Action) (st : RState) (r : Reg)
    (h : Has cid st) (hr : r ∈ st.regs) (hc : r.conn = cid) :
    (∃ c ∈ (flagTxn lt3 rpOld rpNew acts st).conns, c.id = cid ∧ c.needsReroute = true) ∨
      ((∀ a ∈ acts, (a.kind = .remove ∨ a.kind = .move) → r.touchesObst a.id = false) ∧
       (∀ a ∈ acts, (a.kind = .add ∨ a.kind = .move) → edgeBlocked (rpNew a.id) r = false) ∧
       (∀ a ∈ acts, a.kind = .connChange → ∀ u ∈ a.conns, a.id ≠ cid ∧ r.touchesKey (VKey.ofEnd a.id u.1) = false) ∧
       r ∈ (flagTxn lt3 rpOld rpNew acts st).regs) := by
  by_cases hi : acts.any (inv3 · cid) = true
  · exact Or.inl (flagTxn_needs cid lt3 rpOld rpNew acts st h (Or.inr (Or.inl hi)))
  by_cases hs : (acts.any (sel1 · r) || acts.any (sel2 rpNew · r) || acts.any (sel3 · r)) = true
  · exact Or.inl (flagTxn_needs cid lt3 rpOld rpNew acts st h (Or.inr (Or.inr ⟨r, hr, hc, hs⟩)))
  rw [Bool.not_eq_true] at hi hs
  have hreg : r ∈ (flagTxn lt3 rpOld rpNew acts st).regs :=
    flagTxn_regs lt3 rpOld rpNew acts st ▸ List.mem_filter.mpr ⟨hr, by rw [hs]; rfl⟩
  simp only [Bool.or_eq_false_iff, List.any_eq_false, Bool.not_eq_true, sel1_eq_false, sel2_eq_false, sel3_eq_false,
    inv3_eq_false] at hs hi
  exact Or.inr ⟨hs.1.1, hs.1.2, fun a ha hk u hu => ⟨hi a ha hk (List.ne_nil_of_mem hu), hs.2 a ha hk u hu⟩, hreg⟩

theorem flagTxn_FalseP (cid : Nat) (lt3 : Lt3) (rpOld rpNew : Polys) (acts : List Action) (st : RState)
    (h : FalseP cid st) : FalseP cid (flagTxn lt3 rpOld rpNew acts st) :=
  ((passes_txn lt3 rpOld rpNew acts st).step.trans (deliver_step _)).falseP h

/-! ### the invariant "every leg of the route is registered" -/

/-- every leg of `route` is an edge on which connector `cid` is registered -/
def Covered (regs : List Reg) (cid : Nat) (route : List AdaptaVerif.Model.Geometry.Pt) : Prop :=
  ∀ l ∈ AdaptaVerif.Check.Route.legs route, ∃ r ∈ regs, r.conn = cid ∧ r.pu = l.1 ∧ r.pv = l.2

open AdaptaVerif.Model.Geometry (Pt) in
open AdaptaVerif.Check.Route (legs) in
theorem regsOfPath_covers (cid : Nat) : ∀ (path : List (Pt × VKey)) (l : Pt × Pt), l ∈ legs (path.map (·.1)) →
    ∃ r ∈ regsOfPath cid path, r.conn = cid ∧ r.pu = l.1 ∧ r.pv = l.2
  | [], l, h => by simp [legs] at h
  | [a], l, h => by simp [legs] at h
  | a :: b :: rest, l, h => by
    simp only [List.map_cons, legs, List.zip_cons_cons, List.mem_cons] at h
    rcases h with rfl | h
    · exact ⟨{ conn := cid, u := a.2, v := b.2, pu := a.1, pv := b.1 }, by simp [regsOfPath], rfl, rfl, rfl⟩
    · have : l ∈ legs ((b :: rest).map (·.1)) := by
        simp only [List.map_cons, legs]; exact h
      obtain ⟨r, hr, h1⟩ := regsOfPath_covers cid (b :: rest) l this
      exact ⟨r, by simp only [regsOfPath, List.mem_cons]; exact Or.inr hr, h1⟩

/-! ### `txnOf` for a queueing call -/

/-- what `txnOf` and `step` do after the queueing part `r = enqueue st op` of an API call other than
    `processTransaction`: the call processes iff transactions are off, the call asks for it and something is queued -/
theorem txnOf_enqueued (r : AdaptaVerif.Model.ActionQueue.State × Bool) :
    (∀ pre, (if !r.1.useTxn && r.2 && !r.1.queue.isEmpty then some r.1 else none) = some pre →
        (if !r.1.useTxn && r.2 then AdaptaVerif.Model.ActionQueue.processTransaction r.1 else r.1) =
          AdaptaVerif.Model.ActionQueue.processActions pre ∧ pre.queue ≠ []) ∧
    ((if !r.1.useTxn && r.2 && !r.1.queue.isEmpty then some r.1 else none) = none →
        (if !r.1.useTxn && r.2 then AdaptaVerif.Model.ActionQueue.processTransaction r.1 else r.1).scene = r.1.scene) := by
  have hne : ∀ q : List Action, q.isEmpty = false → q ≠ [] := by intro q h e; rw [e] at h; simp at h
  unfold AdaptaVerif.Model.ActionQueue.processTransaction
  cases h1 : r.1.useTxn <;> cases h2 : r.2 <;> cases h3 : r.1.queue.isEmpty <;> simp [h3, hne]

end AdaptaVerif.Lemmas.Reroute
