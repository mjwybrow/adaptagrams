/-
C16 — bridges for the two geometry kernels generated into `Gen/GeometryK2.lean`:
`segmentShapeIntersect` (in/out `bool&` flag) and `inPolyGen` (local copy of the polygon translated by the
query point through element assignment, then an indexed loop with early `return true` counting ray
crossings) against the hand models of `Model/Geometry.lean`.
-/
import AdaptaVerif.Gen.GeometryK2
import AdaptaVerif.Lemmas.GeometryBridge
import AdaptaVerif.Lemmas.GenLoopBridge
namespace AdaptaVerif.Lemmas.InPolyGenBridge
open AdaptaVerif.Model.Geometry AdaptaVerif.Lemmas.GeometryBridge AdaptaVerif.Lemmas.InPolyBridge
open AdaptaVerif.Gen AdaptaVerif.Lemmas.GenLoopBridge AdaptaVerif.Gen.GeometryK2

theorem segmentShapeIntersect_eq (e1 e2 s1 s2 : Pt) (seen : Bool) :
    AdaptaVerif.Gen.GeometryK2.segmentShapeIntersect e1 e2 s1 s2 seen = AdaptaVerif.Model.Geometry.segmentShapeIntersect e1 e2 s1 s2 seen := by
  unfold AdaptaVerif.Gen.GeometryK2.segmentShapeIntersect AdaptaVerif.Model.Geometry.segmentShapeIntersect
  simp only [segmentIntersect_eq, pointOnLine_eq, vecDir_eq]
  cases segmentIntersect e1 e2 s1 s2 <;> cases seen <;> simp

theorem segmentShapeIntersect_pre_true (e1 e2 s1 s2 : Pt) (seen : Bool) :
    AdaptaVerif.Gen.GeometryK2.segmentShapeIntersect_pre e1 e2 s1 s2 seen = true := by
  unfold AdaptaVerif.Gen.GeometryK2.segmentShapeIntersect_pre
  simp [segmentIntersect_pre_true, pointOnLine_pre_zero, vecDir_pre_zero]

/-! ### inPolyGen, first loop: translate the copy so that `q` is the origin -/

def shift (q p : Pt) : Pt := ⟨p.x - q.x, p.y - q.y⟩

theorem body1_eq (q : Pt) (i : Nat) (l : List Pt) (hi : i < l.length) :
    inPolyGen_body1 q i l = l.set i (shift q (l.getD i default)) := by
  unfold inPolyGen_body1 shift
  simp [List.getD_eq_getElem?_getD, hi, List.set_set]

theorem shift_loop_aux (q : Pt) : ∀ (fuel i : Nat) (l : List Pt), i + fuel = l.length →
    forRange (inPolyGen_body1 q) fuel i l = l.take i ++ (l.drop i).map (shift q) := by
  intro fuel
  induction fuel with
  | zero =>
    intro i l h
    have : l.drop i = [] := List.drop_eq_nil_of_le (by omega)
    simp [forRange, this, List.take_of_length_le (show l.length ≤ i by omega)]
  | succ f ih =>
    intro i l h
    have hi : i < l.length := by omega
    simp only [forRange]
    rw [body1_eq q i l hi, ih (i + 1) _ (by simp; omega)]
    rw [List.drop_eq_getElem_cons hi, ← List.getElem_eq_getD (h := hi)]
    have h1 : (l.take i).set i (shift q l[i]) = l.take i := List.set_eq_of_length_le (by simp)
    have h2 : (l.map (shift q)).drop i = shift q l[i] :: (l.map (shift q)).drop (i + 1) := by
      rw [List.drop_eq_getElem_cons (by simpa using hi)]; simp
    simp [List.take_set, List.drop_set, List.take_add_one, hi, h1, h2]

theorem shift_loop (q : Pt) (poly : List Pt) :
    forRange (inPolyGen_body1 q) (poly.length - 0) 0 poly = poly.map (shift q) := by
  rw [shift_loop_aux q _ 0 poly (by simp)]
  simp

/-! ### second loop: early `return true` at a vertex equal to the origin, else count ray crossings -/

theorem boolInt_ne (a b : Bool) : decide ((if a then (1 : Int) else 0) ≠ (if b then (1 : Int) else 0)) = (a != b) := by
  cases a <;> cases b <;> decide

/-- `isOrigin`, `rCond`, `lCond` and `shift` above are the anonymous functions of `Model.Geometry.inPolyGen`, named so that
    `loop2_eq_scan` and `foldl_count` can be stated over them; each is the model's lambda by `rfl` -/
def isOrigin (p : Pt) : Bool := decide (p.x = 0) && decide (p.y = 0)
def rCond (e : Pt × Pt) : Bool := (decide (e.2.y > 0) != decide (e.1.y > 0)) && decide (crossX e.2 e.1 > 0)
def lCond (e : Pt × Pt) : Bool := (decide (e.2.y < 0) != decide (e.1.y < 0)) && decide (crossX e.2 e.1 < 0)

theorem ite_and {α : Type} (x y : Bool) (u v : α) :
    (if x = true then (if y = true then u else v) else v) = if (x && y) = true then u else v := by
  cases x <;> cases y <;> rfl

/-- the counters after one edge `(P[i1], P[i])` -/
def count (e : Pt × Pt) (c : Int × Int) : Int × Int :=
  (if lCond e then c.1 + 1 else c.1, if rCond e then c.2 + 1 else c.2)

theorem loop2_eq_scan (a P : List Pt) (q : Pt) (bnd : Nat) :
    inPolyGen_loop2 a q P P.length bnd P.length 0 0 0 = scanE (fun e => isOrigin e.2) true count (edges P) (0, 0) := by
  have := fuelLoop_eq_scanE (fun f i (c : Int × Int) => inPolyGen_loop2 a q P P.length bnd f i c.1 c.2) (edges P)
    (fun e => isOrigin e.2) true count (fun _ _ => rfl)
    (fun f i c hi => by
      obtain ⟨l, r⟩ := c
      rw [edges_getElem P i (by rwa [edges_length] at hi) hi]
      simp only [inPolyGen_loop2, isOrigin, boolInt_ne, count, lCond, rCond, crossX]
      by_cases ho : (decide ((P.getD i default).x = 0) && decide ((P.getD i default).y = 0)) = true
      · simp only [ho, if_true]
      · simp only [ho, if_false, Bool.false_eq_true]
        congr 1 <;> exact ite_and _ _ _ _)
    P.length 0 (0, 0) (by rw [edges_length]; omega)
  rwa [List.drop_zero] at this

theorem tmod2 (n : Nat) : Int.tmod (n : Int) 2 = ((n % 2 : Nat) : Int) := (Int.ofNat_tmod n 2).symm

theorem foldl_count : ∀ (es : List (Pt × Pt)) (c : Int × Int),
    es.foldl (fun c e => count e c) c = (c.1 + (es.countP lCond : Nat), c.2 + (es.countP rCond : Nat))
  | [], c => by simp
  | e :: es, c => by
    rw [List.foldl_cons, foldl_count es, List.countP_cons, List.countP_cons]
    unfold count
    cases lCond e <;> cases rCond e <;> simp <;> omega

theorem edges_snd (P : List Pt) : (edges P).map Prod.snd = P := by
  unfold edges
  rw [List.map_snd_zip]
  rw [prevs_length]

theorem inPolyGen_eq (poly : List Pt) (q : Pt) :
    AdaptaVerif.Gen.GeometryK2.inPolyGen poly q = AdaptaVerif.Model.Geometry.inPolyGen poly q := by
  unfold AdaptaVerif.Gen.GeometryK2.inPolyGen
  simp only []
  rw [shift_loop]
  have hlen : poly.length = (poly.map (shift q)).length := by simp
  rw [hlen, Nat.sub_zero, loop2_eq_scan, loopExit_scanE, foldl_count]
  have hany : (edges (poly.map (shift q))).any (fun e => isOrigin e.2) = (poly.map (shift q)).any isOrigin := by
    conv => rhs; rw [← edges_snd (poly.map (shift q))]
    rw [List.any_map]; rfl
  unfold AdaptaVerif.Model.Geometry.inPolyGen
  simp only []
  -- the model's side in the names of this file (`shift`, `isOrigin`; below `rCond`, `lCond`): after `rw [hany]` both sides
  -- test the same condition, so one `split` serves both; on the model's own lambdas it would split the left side only
  show _ = if (poly.map (shift q)).any isOrigin = true then true else _
  rw [hany]
  split
  · rfl
  · simp only [Int.zero_add]
    rw [tmod2, tmod2]
    show _ = if ((edges (poly.map (shift q))).countP rCond % 2 != (edges (poly.map (shift q))).countP lCond % 2) = true then true
      else (edges (poly.map (shift q))).countP rCond % 2 == 1
    generalize (edges (poly.map (shift q))).countP rCond % 2 = a
    generalize (edges (poly.map (shift q))).countP lCond % 2 = b
    by_cases hab : a = b
    · subst hab
      by_cases h1 : a = 1 <;> simp [h1]
    · have : (a : Int) ≠ (b : Int) := by omega
      simp [hab, this]

/-! ### all accesses in bounds, no unsigned wrap-around -/

theorem body1_pre_true (q : Pt) (i : Nat) (l : List Pt) (hi : i < l.length) : inPolyGen_body1_pre q i l = true := by
  unfold inPolyGen_body1_pre
  simp [hi]

theorem body1_length (q : Pt) (i : Nat) (l : List Pt) : (inPolyGen_body1 q i l).length = l.length := by
  unfold inPolyGen_body1
  simp

theorem loop2_pre_true (a P : List Pt) (q : Pt) (bnd : Nat) :
    inPolyGen_loop2_pre a q P P.length bnd P.length 0 0 0 = true := by
  refine fuelLoopPre_true (fun f i (c : Int × Int) => inPolyGen_loop2_pre a q P P.length bnd f i c.1 c.2) P.length
    (fun _ _ => rfl) (fun f i c hi ih => ?_) P.length 0 (0, 0) (by omega)
  have hm : (i + P.length - 1) % P.length < P.length := Nat.mod_lt _ (by omega)
  have h1 : 1 ≤ i + P.length := by omega
  simp only [inPolyGen_loop2_pre, hi, hm, h1, decide_true, Bool.or_true, Bool.and_self, ite_self, ih (_, _)]

theorem inPolyGen_pre_true (poly : List Pt) (q : Pt) : AdaptaVerif.Gen.GeometryK2.inPolyGen_pre poly q = true := by
  unfold AdaptaVerif.Gen.GeometryK2.inPolyGen_pre
  simp only []
  have p1 : forRangePre (inPolyGen_body1_pre q) (inPolyGen_body1 q) (poly.length - 0) 0 poly = true :=
    forRangePre_of_inv (fun _ (l : List Pt) => l.length = poly.length) _ _ _ _ _ rfl
      (fun i l _ hi hl => ⟨body1_pre_true q i l (by omega), by rw [body1_length]; exact hl⟩)
  rw [p1, shift_loop]
  have hlen : poly.length = (poly.map (shift q)).length := by simp
  rw [hlen, Nat.sub_zero, loop2_pre_true]
  simp only [Bool.true_and]
  apply loopExitPre_of
  intro s
  obtain ⟨a, b⟩ := s
  simp

end AdaptaVerif.Lemmas.InPolyGenBridge
