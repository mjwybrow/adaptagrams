/-
Totality of the A* model (`Model/AStar.lean`): the search never runs out of fuel when the fuel
exceeds the number of (previous vertex, vertex) keys that can occur.  Every iteration of the loop
moves one key from PENDING to DONE for good, and the keys of PENDING ++ DONE are pairwise distinct.

* `search_total`    — abstract problem, `K` any finite key universe closed under the successor relation
* `graph_run_total` — the orthogonal router's problem with `Graph.fuel`: `g.run ≠ .outOfFuel`
-/
import AdaptaVerif.Lemmas.AStarGraph
namespace AdaptaVerif.Lemmas.AStarTotal
open AdaptaVerif.Model.AStar AdaptaVerif.Lemmas.AStarSound AdaptaVerif.Lemmas.AStarGraph

/-- the key PENDING and DONE are searched by: (previous vertex, vertex) -/
def key (n : Node) : Option Nat × Nat := (n.pv, n.v)

theorem sameKey_key (a b : Node) : sameKey a b = true ↔ key a = key b := by
  rw [sameKey_iff]
  simp only [key, Prod.mk.injEq, and_comm]

theorem updPending_keys (node : Node) (l p : List Node) (h : updPending node l = some p) :
    p.map key = l.map key := by
  obtain ⟨pre, a, post, rfl, hk, rfl⟩ := updPending_some node l p h
  simp only [List.map_append, List.map_cons]
  split
  · rw [(sameKey_key node a).1 hk]
  · rfl

theorem updPending_none (node : Node) (l : List Node) (h : updPending node l = none) :
    ∀ a ∈ l, key node ≠ key a := by
  fun_induction updPending node l with
  | case1 => intro a ha; cases ha
  | case2 => cases h
  | case3 x rest hk ih =>
    intro a ha
    rcases List.mem_cons.1 ha with rfl | ha
    · exact fun hc => hk ((sameKey_key node a).2 hc)
    · exact ih (by simpa using h) a ha

/-- the invariant, of the node list `l` = PENDING ++ DONE (in any order) -/
structure T (K : List (Option Nat × Nat)) (l : List Node) : Prop where
  nd : (l.map key).Nodup
  inK : ∀ n ∈ l, key n ∈ K
  /-- only the start node has no `prevNode` -/
  pr : ∀ n ∈ l, n.pv ≠ none → n.prev.isSome = true

theorem T.perm {K : List (Option Nat × Nat)} {l l' : List Node} (h : T K l) (hp : l.Perm l') : T K l' :=
  ⟨(hp.map key).nodup_iff.1 h.nd, fun n hn => h.inK n (hp.mem_iff.2 hn),
    fun n hn => h.pr n (hp.mem_iff.2 hn)⟩

theorem T.cons {K : List (Option Nat × Nat)} {l : List Node} {n : Node} (h : T K l)
    (hk : ∀ a ∈ l, key n ≠ key a) (hK : key n ∈ K) (hp : n.pv ≠ none → n.prev.isSome = true) :
    T K (n :: l) := by
  refine ⟨?_, ?_, ?_⟩
  · rw [List.map_cons, List.nodup_cons]
    refine ⟨fun hm => ?_, h.nd⟩
    obtain ⟨a, ha, hka⟩ := List.mem_map.1 hm
    exact hk a ha hka.symm
  · intro m hm
    rcases List.mem_cons.1 hm with rfl | hm
    · exact hK
    · exact h.inK m hm
  · intro m hm
    rcases List.mem_cons.1 hm with rfl | hm
    · exact hp
    · exact h.pr m hm

theorem T_relax (K : List (Option Nat × Nat)) (b : Node) (bi : Nat) (st : St) (e : Option Succ)
    (he : ∀ s, e = some s → (some b.v, s.w) ∈ K) (hT : T K (st.pending ++ st.done)) :
    T K ((relax b bi st e).pending ++ (relax b bi st e).done) := by
  unfold relax
  cases e with
  | none => exact hT
  | some s =>
    simp only
    split
    · rename_i p hp
      have hk := updPending_keys _ _ _ hp
      refine ⟨?_, ?_, ?_⟩
      · rw [List.map_append, hk, ← List.map_append]; exact hT.nd
      · intro n hn
        have : key n ∈ (p ++ st.done).map key := List.mem_map_of_mem hn
        rw [List.map_append, hk, ← List.map_append] at this
        obtain ⟨m, hm, hkm⟩ := List.mem_map.1 this
        exact hkm ▸ hT.inK m hm
      · intro n hn hpv
        rcases List.mem_append.1 hn with hn | hn
        · rcases updPending_mem _ _ _ hp n hn with h1 | h1
          · exact hT.pr n (List.mem_append_left _ h1) hpv
          · subst h1; rfl
        · exact hT.pr n (List.mem_append_right _ hn) hpv
    · rename_i hp
      split
      · exact hT
      · rename_i hd
        rw [List.append_assoc]
        refine T.perm ?_ List.perm_middle.symm
        refine hT.cons ?_ (he s rfl) (fun _ => rfl)
        intro a ha hc
        rcases List.mem_append.1 ha with ha | ha
        · exact updPending_none _ _ hp a ha hc
        · -- a DONE node with the key of the new node has a `prevNode`: the new node would not be added
          apply hd
          rw [List.any_eq_true]
          refine ⟨a, ha, ?_⟩
          have hpv : a.pv ≠ none := by
            rw [← show (some b.v : Option Nat) = a.pv from congrArg Prod.fst hc]; simp
          rw [Bool.and_eq_true]
          exact ⟨(sameKey_key _ a).2 hc, hT.pr a (List.mem_append_right _ ha) hpv⟩

theorem T_expand (P : Problem) (K : List (Option Nat × Nat))
    (hKs : ∀ pv v s, (pv, v) ∈ K → some s ∈ P.succs pv v → (some v, s.w) ∈ K)
    {st : St} {b : Node} {rest : List Node} (hT : T K (st.pending ++ st.done))
    (hx : extractBest P.eps st.pending = some (b, rest)) :
    T K ((expand P st b rest).pending ++ (expand P st b rest).done) := by
  have hT1 : T K (rest ++ (st.done ++ [b])) := by
    rw [← List.append_assoc]
    exact hT.perm (((extractBest_perm _ _ _ _ hx).append_right _).trans
      (List.perm_append_singleton b _).symm)
  have hbK : (b.pv, b.v) ∈ K := hT1.inK b (by simp)
  exact List.foldlRecOn (motive := fun x => T K (x.pending ++ x.done)) _ (relax b st.done.length) hT1
    fun x hx e he => T_relax K b _ x e (fun y hey => hKs b.pv b.v y hbK (hey ▸ he)) hx

theorem search_total (P : Problem) (K : List (Option Nat × Nat))
    (hK0 : (none, P.src) ∈ K)
    (hKs : ∀ pv v s, (pv, v) ∈ K → some s ∈ P.succs pv v → (some v, s.w) ∈ K)
    (fuel : Nat) (hf : K.length < fuel) :
    search P fuel (init P) ≠ .outOfFuel := by
  intro h
  have hT : T K ((init P).pending ++ (init P).done) :=
    ⟨by simp [init], fun n hn => by rw [List.mem_singleton.1 hn]; exact hK0,
      fun n hn hpv => by rw [List.mem_singleton.1 hn] at hpv; exact absurd rfl hpv⟩
  have := search_inv P (fun x => T K (x.pending ++ x.done))
    (fun _ _ _ hT hx _ => T_expand P K hKs hT hx) fuel (init P) hT
  rw [h] at this
  obtain ⟨st', hT', hlen⟩ := this
  -- `fuel` DONE entries with pairwise distinct keys, all of them in `K`
  have := List.Nodup.length_le_of_subset hT'.nd (fun k hk => by
    obtain ⟨n, hn, rfl⟩ := List.mem_map.1 hk
    exact hT'.inK n hn)
  rw [List.length_map, List.length_append] at this
  simp only [init, List.length_nil] at hlen
  omega

theorem range_map_getD {α : Type} (xs : List α) (d : α) :
    (List.range xs.length).map (fun p => xs.getD p d) = xs := by
  apply List.ext_getElem
  · simp
  · intro i h1 h2
    simp [List.getD_eq_getElem?_getD, h2]

theorem states_len_list {β : Type} (f : Nat → Edge → β) (xs : List (List Edge)) :
    ((List.range xs.length).flatMap fun p => (xs.getD p []).map (f p)).length =
      (xs.map List.length).sum := by
  rw [List.length_flatMap]
  simp only [List.length_map]
  have := congrArg (fun l => (l.map List.length).sum) (range_map_getD xs [])
  simpa [List.map_map, Function.comp_def] using this

theorem states_length (g : Graph) : g.states.length < g.fuel := by
  rw [fuel_eq]
  unfold Graph.states
  generalize g.adj = adj
  have h := states_len_list (fun p e => (some p, e.to)) adj.toList
  simp only [List.length_cons, Array.length_toList, Array.getD_eq_getD_getElem?,
    ← Array.getElem?_toList, ← List.getD_eq_getElem?_getD] at h ⊢
  omega

theorem graph_run_total (g : Graph) : g.run ≠ .outOfFuel := by
  unfold Graph.run
  exact search_total g.problem g.states (legit_start g)
    (fun pv v s _ hs => legit_step g pv v s hs) g.fuel (states_length g)

end AdaptaVerif.Lemmas.AStarTotal
