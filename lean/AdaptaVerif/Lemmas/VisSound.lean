/-
Soundness of the naive visibility test (Model/Visibility.lean) away from its known weakness.

Abstract part: an edge list `es` with the *boundary characterisation* `BoundaryChar` (what convexity
gives: a point on an edge line that is on the inner side of all edges lies on that closed edge, and every
edge starts where another one ends).  If the segment ab contains a point strictly inside (all edge
functions positive), a and b are not strictly inside, and no edge endpoint lies in the open segment, then
the per-shape loop of `EdgeInf::firstBlocker` returns true: either some edge is crossed properly, or two
different edges report an endpoint touch (the second one trips `seenIntersectionAtEndpoint`).  `go_eq` is the loop in
closed form; its answer does not depend on the order of the edges (`go_perm`).

Instances (strictly convex polygons, among them axis-parallel rectangles): Lemmas/VisSoundConvex.lean.
-/
import AdaptaVerif.Lemmas.RouteGeom
import AdaptaVerif.Lemmas.GeometrySpec
import AdaptaVerif.Model.Visibility
import AdaptaVerif.Lemmas.Util.List
namespace AdaptaVerif.Lemmas.VisSound
open AdaptaVerif.Model.Geometry (Pt area2 vecDir segmentIntersect pointOnLine segmentShapeIntersect)
open AdaptaVerif.Check.Route (lerp)
open AdaptaVerif.Lemmas.Route (area2_lerp lerp_zero lerp_one lerp_symm)
open AdaptaVerif.Lemmas.GeometrySpec (segmentIntersect_signs pointOnLine_iff vecDir_zero param_opp_sign area2_swap)
open AdaptaVerif.Model.Visibility

/-- edge function: twice the signed area of (e.1, e.2, p); positive on the inner side (CCW polygon) -/
def F (e : Pt × Pt) (p : Pt) : Rat := area2 e.1 e.2 p

def OnClosedEdge (e : Pt × Pt) (P : Pt) : Prop := ∃ s : Rat, 0 ≤ s ∧ s ≤ 1 ∧ P = lerp e.1 e.2 s

structure BoundaryChar (es : List (Pt × Pt)) : Prop where
  nondeg : ∀ e ∈ es, e.1 ≠ e.2
  closedEdge : ∀ e ∈ es, ∀ P : Pt, F e P = 0 → (∀ k ∈ es, 0 ≤ F k P) → OnClosedEdge e P
  chain : ∀ e ∈ es, ∃ e' ∈ es, e'.2 = e.1

def ProperCross (a b : Pt) (e : Pt × Pt) : Prop :=
  area2 a b e.1 * area2 a b e.2 < 0 ∧ F e a * F e b < 0

theorem F_lerp (e : Pt × Pt) (a b : Pt) (t : Rat) : F e (lerp a b t) = F e a + t * (F e b - F e a) :=
  area2_lerp e.1 e.2 a b t

theorem F_start (e : Pt × Pt) : F e e.1 = 0 := by unfold F area2; ring
theorem F_end (e : Pt × Pt) : F e e.2 = 0 := by unfold F area2; ring

theorem area2_self_lerp (a b : Pt) (t : Rat) : area2 a b (lerp a b t) = 0 := by
  unfold area2 lerp; ring

theorem area_diff (a b : Pt) (e : Pt × Pt) : area2 a b e.2 - area2 a b e.1 = F e a - F e b := by
  unfold F area2; ring

/-! ### an affine function `c + t·d` (an edge function along the segment) -/

theorem affine_enter {c d tm : Rat} (h0 : 0 ≤ tm) (hc : c ≤ 0) (hm : 0 < c + tm * d) : 0 < tm ∧ 0 < d := by
  have htm : 0 < tm := lt_of_le_of_ne h0 (by rintro rfl; linarith)
  exact ⟨htm, (mul_pos_iff_of_pos_left htm).1 (by linarith)⟩

theorem affine_root {c d tm : Rat} (hc : c ≤ 0) (hd : 0 < d) (hm : 0 < c + tm * d) :
    c + -c / d * d = 0 ∧ 0 ≤ -c / d ∧ -c / d < tm := by
  refine ⟨by rw [div_mul_cancel₀ _ hd.ne', add_neg_cancel], div_nonneg (neg_nonneg.2 hc) hd.le, ?_⟩
  rw [div_lt_iff₀ hd]; linarith

theorem affine_between {c d r tm : Rat} (hc : 0 < c) (hm : 0 < c + tm * d) (hr0 : 0 ≤ r) (hrt : r < tm) :
    0 ≤ c + r * d := by
  have key : tm * (c + r * d) = (tm - r) * c + r * (c + tm * d) := by ring
  have hpos : 0 < tm * (c + r * d) := by
    rw [key]; exact add_pos_of_pos_of_nonneg (mul_pos (sub_pos.2 hrt) hc) (mul_nonneg hr0 hm.le)
  exact ((mul_pos_iff_of_pos_left (lt_of_le_of_lt hr0 hrt)).1 hpos).le

theorem entry (es : List (Pt × Pt)) (hB : BoundaryChar es) (a b : Pt) (tm : Rat) (h0 : 0 ≤ tm) (h1 : tm ≤ 1)
    (hm : ∀ e ∈ es, 0 < F e (lerp a b tm)) (ha : ∃ e ∈ es, F e a ≤ 0)
    (hnov : ∀ e ∈ es, ∀ t : Rat, 0 < t → t < 1 → lerp a b t ≠ e.1 ∧ lerp a b t ≠ e.2)
    (hnc : ∀ e ∈ es, ¬ ProperCross a b e) :
    0 < tm ∧ ∃ e ∈ es, OnClosedEdge e a := by
  have hm' : ∀ e ∈ es, 0 < F e a + tm * (F e b - F e a) := fun e he => F_lerp e a b tm ▸ hm e he
  obtain ⟨e0, he0, hc0⟩ := ha
  have htm : 0 < tm := (affine_enter h0 hc0 (hm' e0 he0)).1
  refine ⟨htm, ?_⟩
  -- among the edges that are not positive at a, the one left last: maximal root
  let r : Pt × Pt → Rat := fun e => -(F e a) / (F e b - F e a)
  obtain ⟨es', hes', hmax⟩ := Util.exists_max (fun x y => r x ≤ r y) (fun _ _ => le_total _ _) (fun _ _ _ => le_trans)
    (es.filter fun e => decide (F e a ≤ 0))
    (List.ne_nil_of_mem (List.mem_filter.mpr ⟨he0, decide_eq_true hc0⟩))
  have hes : es' ∈ es := (List.mem_filter.mp hes').1
  have hcs : F es' a ≤ 0 := of_decide_eq_true (List.mem_filter.mp hes').2
  have hds : 0 < F es' b - F es' a := (affine_enter h0 hcs (hm' es' hes)).2
  obtain ⟨hr0, hrn, hrt⟩ : F es' a + r es' * (F es' b - F es' a) = 0 ∧ 0 ≤ r es' ∧ r es' < tm :=
    affine_root hcs hds (hm' es' hes)
  -- the point at that root is on the boundary
  have hP : ∀ k ∈ es, 0 ≤ F k (lerp a b (r es')) := by
    intro k hk
    rw [F_lerp]
    by_cases hck : F k a ≤ 0
    · have hdk := (affine_enter h0 hck (hm' k hk)).2
      have hk0 : F k a + r k * (F k b - F k a) = 0 := (affine_root hck hdk (hm' k hk)).1
      have := mul_le_mul_of_nonneg_right (hmax k (List.mem_filter.mpr ⟨hk, decide_eq_true hck⟩)) hdk.le
      linarith
    · exact affine_between (not_le.mp hck) (hm' k hk) hrn hrt
  have hFP : F es' (lerp a b (r es')) = 0 := by rw [F_lerp]; exact hr0
  obtain ⟨s, hs0, hs1, hPs⟩ := hB.closedEdge es' hes _ hFP hP
  -- r = 0, otherwise a vertex in the open segment or a proper crossing
  rcases lt_or_eq_of_le hrn with hrpos | hrz
  · exfalso
    obtain ⟨hv1, hv2⟩ := hnov es' hes (r es') hrpos (lt_of_lt_of_le hrt h1)
    rcases lt_or_eq_of_le hs0 with hs0' | hs0'
    swap
    · rw [← hs0', lerp_zero] at hPs; exact hv1 hPs
    rcases lt_or_eq_of_le hs1 with hs1' | hs1'
    swap
    · rw [hs1', lerp_one] at hPs; exact hv2 hPs
    refine hnc es' hes ⟨?_, ?_⟩
    · -- the function `area2 a b ·` vanishes strictly inside the edge and is not constant on it
      have hline : area2 a b (lerp a b (r es')) = 0 := area2_self_lerp a b _
      rw [hPs, area2_lerp] at hline
      refine param_opp_sign s (area2 a b es'.2 - area2 a b es'.1) _ _ hs0' hs1' ?_ (by linarith) (by linarith)
      rw [area_diff]
      exact (by linarith : F es' a - F es' b < 0).ne
    · have hca : F es' a < 0 := by have := mul_pos hrpos hds; linarith
      have hcb : 0 < F es' b := by
        have := mul_le_mul_of_nonneg_right h1 hds.le
        linarith [hm' es' hes]
      exact mul_neg_of_neg_of_pos hca hcb
  · -- r = 0: a is the entry point
    rw [← hrz, lerp_zero] at hPs
    exact ⟨es', hes, s, hs0, hs1, hPs⟩

/-! ### the per-shape loop -/

/-- proper crossing as the code tests it -/
def hit (a b : Pt) (e : Pt × Pt) : Bool := segmentIntersect a b e.1 e.2

/-- the endpoint-touch condition of `segmentShapeIntersect` -/
def tch (a b : Pt) (e : Pt × Pt) : Bool :=
  ((e.2 = a || pointOnLine e.1 e.2 a) && vecDir e.1 e.2 b != 0) ||
  ((e.2 = b || pointOnLine e.1 e.2 b) && vecDir e.1 e.2 a != 0)

theorem ssi_eq (a b : Pt) (e : Pt × Pt) (seen : Bool) :
    segmentShapeIntersect a b e.1 e.2 seen =
      (hit a b e || (tch a b e && seen), seen || (!hit a b e && tch a b e)) := by
  unfold segmentShapeIntersect hit tch
  cases h1 : segmentIntersect a b e.1 e.2 <;> cases seen <;> simp <;> split <;> simp_all

theorem go_eq (a b : Pt) : ∀ (es : List (Pt × Pt)) (seen : Bool),
    shapeBlocksGo a b es seen = (es.any (hit a b) || decide (2 ≤ es.countP (tch a b) + seen.toNat))
  | [], seen => by cases seen <;> rfl
  | e :: rest, seen => by
    rw [shapeBlocksGo, ssi_eq, List.any_cons, List.countP_cons]
    cases hh : hit a b e
    · cases ht : tch a b e <;> cases seen <;> simp [go_eq a b rest, Nat.add_assoc]
    · rfl

theorem go_perm (a b : Pt) {es es' : List (Pt × Pt)} (h : es.Perm es') (seen : Bool) :
    shapeBlocksGo a b es seen = shapeBlocksGo a b es' seen := by
  rw [go_eq, go_eq, h.countP_eq, h.any_eq]

theorem two_le_length {α : Type} {l : List α} {x y : α} (hx : x ∈ l) (hy : y ∈ l) (h : x ≠ y) : 2 ≤ l.length := by
  match l, hx, hy with
  | [z], hx, hy => exact absurd ((List.mem_singleton.1 hx).trans (List.mem_singleton.1 hy).symm) h
  | _ :: _ :: _, _, _ => exact Nat.le_add_left 2 _

theorem go_true (a b : Pt) (es : List (Pt × Pt)) (seen : Bool)
    (h : (∃ e ∈ es, hit a b e = true) ∨
      ∃ e1 ∈ es, ∃ e2 ∈ es, e1 ≠ e2 ∧ tch a b e1 = true ∧ tch a b e2 = true) :
    shapeBlocksGo a b es seen = true := by
  rw [go_eq, Bool.or_eq_true, decide_eq_true_eq, List.any_eq_true, List.countP_eq_length_filter]
  exact h.imp_right fun ⟨_, m1, _, m2, hne, h1, h2⟩ =>
    Nat.le_add_right_of_le (two_le_length (List.mem_filter.2 ⟨m1, h1⟩) (List.mem_filter.2 ⟨m2, h2⟩) hne)

theorem hit_iff (a b : Pt) (e : Pt × Pt) : hit a b e = true ↔ ProperCross a b e := by
  unfold hit ProperCross F
  exact segmentIntersect_signs a b e.1 e.2

/-- a point of a closed edge is what the touch test recognises on some edge `k` (`k.2 = p`, or `p` in the open
    edge): on that edge itself, or, if it is the start of the edge, on the edge that ends there -/
theorem attach (es : List (Pt × Pt)) (hB : BoundaryChar es) (e : Pt × Pt) (he : e ∈ es) (p : Pt)
    (hon : OnClosedEdge e p) :
    ∃ k ∈ es, (k.2 = p ∨ pointOnLine k.1 k.2 p = true) ∧ F k p = 0 := by
  obtain ⟨s, hs0, hs1, hp⟩ := hon
  rcases lt_or_eq_of_le hs0 with hs0' | hs0'
  · rcases lt_or_eq_of_le hs1 with hs1' | hs1'
    · refine ⟨e, he, Or.inr ?_, ?_⟩
      · rw [pointOnLine_iff]
        refine ⟨s, hs0', hs1', ?_, ?_, hB.nondeg e he⟩ <;> rw [hp] <;> rfl
      · rw [hp]; exact area2_self_lerp e.1 e.2 s
    · refine ⟨e, he, Or.inl ?_, ?_⟩
      · rw [hp, hs1', lerp_one]
      · rw [hp]; exact area2_self_lerp e.1 e.2 s
  · obtain ⟨k, hk, hk2⟩ := hB.chain e he
    have hpk : k.2 = p := by rw [hp, ← hs0', lerp_zero]; exact hk2
    exact ⟨k, hk, Or.inl hpk, hpk ▸ F_end k⟩

/-- one disjunct of the touch test: `p` is attached to the edge `k` and `q` is off its line -/
theorem touch_cond (k : Pt × Pt) (p q : Pt) (hatt : k.2 = p ∨ pointOnLine k.1 k.2 p = true) (hq : 0 < F k q) :
    ((k.2 = p || pointOnLine k.1 k.2 p) && vecDir k.1 k.2 q != 0) = true := by
  rw [Bool.and_eq_true, Bool.or_eq_true, decide_eq_true_eq, bne_iff_ne, Ne, vecDir_zero]
  exact ⟨hatt, hq.ne'⟩

theorem shapeBlocksGo_of_interior (es : List (Pt × Pt)) (hB : BoundaryChar es) (a b : Pt) (tm : Rat)
    (h0 : 0 ≤ tm) (h1 : tm ≤ 1) (hm : ∀ e ∈ es, 0 < F e (lerp a b tm))
    (ha : ∃ e ∈ es, F e a ≤ 0) (hb : ∃ e ∈ es, F e b ≤ 0)
    (hnov : ∀ e ∈ es, ∀ t : Rat, 0 < t → t < 1 → lerp a b t ≠ e.1 ∧ lerp a b t ≠ e.2) :
    shapeBlocksGo a b es false = true := by
  by_cases hc : ∃ e ∈ es, hit a b e = true
  · exact go_true a b es false (Or.inl hc)
  · have hnc : ∀ e ∈ es, ¬ ProperCross a b e := by
      intro e he hp
      exact hc ⟨e, he, (hit_iff a b e).mpr hp⟩
    -- entry at a
    obtain ⟨htm, ea, hea, hona⟩ := entry es hB a b tm h0 h1 hm ha hnov hnc
    -- entry at b: the reversed segment
    have hm' : ∀ e ∈ es, 0 < F e (lerp b a (1 - tm)) := fun e he => lerp_symm a b tm ▸ hm e he
    have hnov' : ∀ e ∈ es, ∀ t : Rat, 0 < t → t < 1 → lerp b a t ≠ e.1 ∧ lerp b a t ≠ e.2 := by
      intro e he t ht0 ht1
      rw [lerp_symm]
      exact hnov e he (1 - t) (by linarith) (by linarith)
    have hnc' : ∀ e ∈ es, ¬ ProperCross b a e := fun e he hp => hnc e he
      ⟨by have := hp.1; rwa [area2_swap b a e.1, area2_swap b a e.2, neg_mul_neg] at this, by rw [mul_comm]; exact hp.2⟩
    obtain ⟨htm', eb, heb, honb⟩ := entry es hB b a (1 - tm) (by linarith) (by linarith) hm' hb hnov' hnc'
    obtain ⟨ka, hka, hatt_a, hFa⟩ := attach es hB ea hea a hona
    obtain ⟨kb, hkb, hatt_b, hFb⟩ := attach es hB eb heb b honb
    -- the other end is off the attached edge's line
    have hka_b : 0 < F ka b := by
      have := hm ka hka
      rw [F_lerp, hFa, zero_add, sub_zero] at this
      exact (mul_pos_iff_of_pos_left htm).1 this
    have hkb_a : 0 < F kb a := by
      have := hm' kb hkb
      rw [F_lerp, hFb, zero_add, sub_zero] at this
      exact (mul_pos_iff_of_pos_left htm').1 this
    have hne : ka ≠ kb := by
      rintro rfl
      rw [hFa] at hkb_a; exact lt_irrefl _ hkb_a
    have t1 : tch a b ka = true := by
      unfold tch; rw [touch_cond ka a b hatt_a hka_b]; rfl
    have t2 : tch a b kb = true := by
      unfold tch; rw [touch_cond kb b a hatt_b hkb_a, Bool.or_true]
    exact go_true a b es false (Or.inr ⟨ka, hka, kb, hkb, hne, t1, t2⟩)

end AdaptaVerif.Lemmas.VisSound
