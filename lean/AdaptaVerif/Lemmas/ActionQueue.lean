/-
C06: the scene is only ever read through the look-ups `findObst` / `findConn`, so every update of it (`mapObst`,
`eraseObst`, `mapConn`, the loop bodies `pass1One` / `pass2One` / `pass3One`) is described by what it does to the look-up
of ONE object (`f1`, `f2`, `g3`), and `runPasses` becomes three folds over that look-up (`findObst_runPasses`,
`findConn_runPasses`). Before that: the list facts used throughout, and what `setEnd` / `applyUpdates` /
`addConnEndUpdate` do to a connector's ends.
-/
import AdaptaVerif.Spec.Scene
import AdaptaVerif.Lemmas.Util.Fold
namespace AdaptaVerif.Lemmas.ActionQueue
open AdaptaVerif.Model.ActionQueue AdaptaVerif.Spec.Scene

/-! ### generic list facts -/

theorem updFirst_eq_map {α} (p : α → Bool) (f : α → α) (l : List α)
    (h : l.Pairwise fun a b => ¬(p a = true ∧ p b = true)) :
    updFirst p f l = l.map fun a => if p a then f a else a := by
  induction l with
  | nil => rfl
  | cons a l ih =>
    rw [List.pairwise_cons] at h
    simp only [updFirst, List.map_cons]
    by_cases hp : p a = true
    · simp only [hp, if_true, List.cons.injEq, true_and]
      symm
      calc l.map (fun a => if p a then f a else a) = l.map id := by
            apply List.map_congr_left
            intro b hb
            have := h.1 b hb
            simp only [hp, true_and] at this
            simp [this]
        _ = l := by simp
    · simp only [hp, Bool.false_eq_true, if_false, ih h.2]

theorem eraseFirst_eq_filter {α} (p : α → Bool) (l : List α)
    (h : l.Pairwise fun a b => ¬(p a = true ∧ p b = true)) :
    eraseFirst p l = l.filter fun a => !p a := by
  induction l with
  | nil => rfl
  | cons a l ih =>
    rw [List.pairwise_cons] at h
    simp only [eraseFirst]
    by_cases hp : p a = true
    · simp only [hp, if_true, List.filter_cons, Bool.not_true, Bool.false_eq_true, if_false]
      symm
      apply List.filter_eq_self.2
      intro b hb
      have := h.1 b hb
      simp only [hp, true_and] at this
      simp [this]
    · simp only [hp, Bool.false_eq_true, if_false, List.filter_cons, Bool.not_false, if_true, ih h.2]

theorem foldl_updFirst {σ α} (F : σ → α → σ) (P : α → Bool) (f : α → α) (X : σ → Prop)
    (hX : ∀ s a, X s → P a = false → X (F s a))
    (hf : ∀ s a, X s → P a = true → F s (f a) = F s a) (l : List α) (s : σ) (hs : X s) :
    (updFirst P f l).foldl F s = l.foldl F s := by
  induction l generalizing s with
  | nil => rfl
  | cons a l ih =>
    unfold updFirst
    cases hP : P a with
    | true => simp only [if_true, List.foldl_cons, hf s a hs hP]
    | false =>
      simp only [Bool.false_eq_true, if_false, List.foldl_cons]
      exact ih _ (hX s a hs hP)

theorem updFirst_mem {α} (P : α → Bool) (f : α → α) (l : List α) (a : α) (ha : a ∈ l) :
    a ∈ updFirst P f l ∨ (P a = true ∧ f a ∈ updFirst P f l) := by
  induction l with
  | nil => cases ha
  | cons b l ih =>
    unfold updFirst
    split
    · rcases List.mem_cons.1 ha with rfl | ha'
      · exact Or.inr ⟨‹_›, List.mem_cons_self ..⟩
      · exact Or.inl (List.mem_cons_of_mem _ ha')
    · rcases List.mem_cons.1 ha with rfl | ha'
      · exact Or.inl (List.mem_cons_self ..)
      · exact (ih ha').imp (List.mem_cons_of_mem _) (And.imp_right (List.mem_cons_of_mem _))

theorem updFirst_first {α} (P : α → Bool) (f : α → α) (l : List α) (h : l.any P = true) :
    ∃ a ∈ l, P a = true ∧ f a ∈ updFirst P f l := by
  induction l with
  | nil => cases h
  | cons b l ih =>
    unfold updFirst
    split
    · exact ⟨b, List.mem_cons_self .., ‹_›, List.mem_cons_self ..⟩
    · next hP =>
      obtain ⟨a, ha, hPa, hfa⟩ := ih (by simpa [List.any_cons, hP] using h)
      exact ⟨a, List.mem_cons_of_mem _ ha, hPa, List.mem_cons_of_mem _ hfa⟩

theorem foldl_find {α β} (F : β → α → β) (p : α → Bool) (hF : ∀ x a, p a = false → F x a = x) (l : List α)
    (hu : l.Pairwise fun a b => ¬(p a = true ∧ p b = true)) (x : β) :
    l.foldl F x = (l.find? p).elim x (F x) := by
  induction l generalizing x with
  | nil => rfl
  | cons a l ih =>
    rw [List.pairwise_cons] at hu
    rw [List.foldl_cons, List.find?_cons]
    cases hp : p a with
    | false => rw [hF x a hp]; exact ih hu.2 x
    | true =>
      have hnone : l.find? p = none :=
        List.find?_eq_none.2 fun b hb hpb => hu.1 b hb ⟨hp, hpb⟩
      rw [ih hu.2, hnone]
      rfl

theorem find?_and {α} (r p : α → Bool) (l : List α) (hu : l.Pairwise fun a b => ¬(p a = true ∧ p b = true)) :
    l.find? (fun a => r a && p a) = (l.find? p).filter r := by
  induction l with
  | nil => rfl
  | cons a l ih =>
    rw [List.pairwise_cons] at hu
    rw [List.find?_cons, List.find?_cons]
    cases hp : p a with
    | false => rw [Bool.and_false]; exact ih hu.2
    | true =>
      cases hr : r a with
      | true => simp [Option.filter, hr]
      | false =>
        simp only [Bool.false_and, Option.filter, hr]
        exact List.find?_eq_none.2 fun b hb h => hu.1 b hb ⟨hp, (Bool.and_eq_true_iff.1 h).2⟩

theorem find?_perm {α} (p : α → Bool) {l q : List α} (hp : l.Perm q)
    (hu : q.Pairwise fun a b => ¬(p a = true ∧ p b = true)) : l.find? p = q.find? p := by
  induction hp with
  | nil => rfl
  | cons a _ ih => rw [List.find?_cons, List.find?_cons, ih (List.pairwise_cons.1 hu).2]
  | swap a b l =>
    have hab := (List.pairwise_cons.1 hu).1 b (List.mem_cons_self ..)
    simp only [List.find?_cons]
    cases ha : p a <;> cases hb : p b <;> first | rfl | exact absurd ⟨ha, hb⟩ hab
  | trans _ h2 ih1 ih2 =>
    rw [ih1 ((h2.pairwise_iff fun h hab => h ⟨hab.2, hab.1⟩).2 hu), ih2 hu]

theorem find?_of_mem {α} (p : α → Bool) {l : List α} (hu : l.Pairwise fun a b => ¬(p a = true ∧ p b = true))
    {a : α} (ha : a ∈ l) (hp : p a = true) : l.find? p = some a := by
  induction l with
  | nil => cases ha
  | cons b l ih =>
    rw [List.pairwise_cons] at hu
    rw [List.find?_cons]
    rcases List.mem_cons.1 ha with rfl | ha'
    · rw [hp]
    · cases hb : p b with
      | true => exact absurd ⟨hb, hp⟩ (hu.1 a ha')
      | false => exact ih hu.2 ha'

theorem find?_append_one {α} (p : α → Bool) (l : List α) (a : α) :
    (l ++ [a]).find? p = (l.find? p).or (if p a then some a else none) := by
  rw [List.find?_append, List.find?_singleton]

/-! ### look-ups after scene updates -/

theorem find_map_upd {α} (key : α → Nat) (f : α → α) (hf : ∀ a, key (f a) = key a) (i id : Nat) (l : List α) :
    (l.map fun o => if key o == i then f o else o).find? (fun o => key o == id)
      = if id = i then (l.find? (fun o => key o == id)).map f else l.find? (fun o => key o == id) := by
  induction l with
  | nil => by_cases h : id = i <;> simp [h]
  | cons a l ih =>
    simp only [List.map_cons, List.find?_cons]
    grind

theorem find_filter_ne {α} (key : α → Nat) (i id : Nat) (l : List α) :
    (l.filter fun o => !(key o == i)).find? (fun o => key o == id)
      = if id = i then none else l.find? (fun o => key o == id) := by
  induction l with
  | nil => by_cases h : id = i <;> simp [h]
  | cons a l ih =>
    simp only [List.filter_cons, List.find?_cons]
    grind

theorem findObst_mapObst (sc : Scene) (i id : Nat) (f : Obst → Obst) (hf : ∀ o, (f o).id = o.id) :
    findObst (mapObst sc i f) id = if id = i then (findObst sc id).map f else findObst sc id :=
  find_map_upd Obst.id f hf i id sc.obsts

theorem findObst_eraseObst (sc : Scene) (i id : Nat) :
    findObst (eraseObst sc i) id = if id = i then none else findObst sc id :=
  find_filter_ne Obst.id i id sc.obsts

theorem findConn_mapConn (sc : Scene) (i id : Nat) (f : Conn → Conn) (hf : ∀ c, (f c).id = c.id) :
    findConn (mapConn sc i f) id = if id = i then (findConn sc id).map f else findConn sc id :=
  find_map_upd Conn.id f hf i id sc.conns

/-! ### connector ends: `setEnd`, `applyUpdates`, and the consolidation rule `addConnEndUpdate` -/

theorem setEnd_id (c : Conn) (e : End) (p : CEnd) : (c.setEnd e p).id = c.id := by
  cases e <;> rfl

theorem setEnd_of_getEnd (k : Conn) (e : End) (p : CEnd) (h : k.getEnd e = some p) : k.setEnd e p = k := by
  cases e <;> cases k <;> simp_all [Conn.setEnd, Conn.getEnd]

theorem setEnd_setEnd_same (k : Conn) (e : End) (p q : CEnd) : (k.setEnd e p).setEnd e q = k.setEnd e q := by
  cases e <;> rfl

theorem setEnd_comm (k : Conn) (e1 e2 : End) (p1 p2 : CEnd) (hne : e1 ≠ e2) :
    (k.setEnd e1 p1).setEnd e2 p2 = (k.setEnd e2 p2).setEnd e1 p1 := by
  cases e1 <;> cases e2 <;> first | rfl | exact absurd rfl hne

theorem setEnd_ends (k : Conn) (e : End) (p : CEnd) :
    ((k.setEnd e p).src, (k.setEnd e p).dst) = setEnds (k.src, k.dst) e p := by
  cases e <;> rfl

theorem applyUpdates_cons (k : Conn) (u : End × CEnd) (us : List (End × CEnd)) :
    k.applyUpdates (u :: us) = (k.setEnd u.1 u.2).applyUpdates us := rfl

theorem applyUpdates_append_one (us : List (End × CEnd)) (k : Conn) (e : End) (p : CEnd) :
    k.applyUpdates (us ++ [(e, p)]) = (k.applyUpdates us).setEnd e p := by
  simp [Conn.applyUpdates, List.foldl_append]

theorem applyUpdates_setEnd_comm (us : List (End × CEnd)) (k : Conn) (e : End) (p : CEnd)
    (hne : ∀ u ∈ us, u.1 ≠ e) :
    (k.setEnd e p).applyUpdates us = (k.applyUpdates us).setEnd e p := by
  induction us generalizing k with
  | nil => rfl
  | cons u us ih =>
    rw [applyUpdates_cons, applyUpdates_cons,
      setEnd_comm k e u.1 p u.2 (fun he => hne u (List.mem_cons_self ..) he.symm)]
    exact ih _ fun v hv => hne v (List.mem_cons_of_mem _ hv)

theorem applyUpdates_pinMove (us : List (End × CEnd)) (k : Conn) (e : End) (p : CEnd) (h : k.getEnd e = some p) :
    k.applyUpdates (addConnEndUpdate us e p true) = k.applyUpdates us := by
  unfold addConnEndUpdate
  by_cases ha : us.any (·.1 == e) = true
  · simp [ha]
  · simp only [ha, Bool.false_eq_true, if_false]
    have hne : ∀ u ∈ us, u.1 ≠ e := fun u hu hue => ha (List.any_eq_true.2 ⟨u, hu, by simp [hue]⟩)
    rw [applyUpdates_append_one, ← applyUpdates_setEnd_comm us k e p hne, setEnd_of_getEnd k e p h]

theorem applyUpdates_updFirst (us : List (End × CEnd)) (k : Conn) (e : End) (p : CEnd)
    (hd : us.Pairwise fun u v => u.1 ≠ v.1) (hany : ∃ u ∈ us, u.1 = e) :
    k.applyUpdates (updFirst (fun u => u.1 == e) (fun _ => (e, p)) us) = (k.applyUpdates us).setEnd e p := by
  induction us generalizing k with
  | nil => obtain ⟨u, hu, _⟩ := hany; cases hu
  | cons u us ih =>
    rw [List.pairwise_cons] at hd
    by_cases hu : u.1 = e
    · have hne : ∀ v ∈ us, v.1 ≠ e := fun v hv => hu ▸ (hd.1 v hv).symm
      simp only [updFirst, hu, beq_self_eq_true, if_true, applyUpdates_cons]
      rw [applyUpdates_setEnd_comm us _ e p hne, applyUpdates_setEnd_comm us _ e u.2 hne,
        setEnd_setEnd_same]
    · have hb : (u.1 == e) = false := beq_eq_false_iff_ne.2 hu
      simp only [updFirst, hb, Bool.false_eq_true, if_false, applyUpdates_cons]
      apply ih _ hd.2
      obtain ⟨v, hv, hve⟩ := hany
      rcases List.mem_cons.1 hv with rfl | hv'
      · exact absurd hve hu
      · exact ⟨v, hv', hve⟩

theorem applyUpdates_addConnEndUpdate (us : List (End × CEnd)) (k : Conn) (e : End) (p : CEnd)
    (hd : us.Pairwise fun u v => u.1 ≠ v.1) :
    k.applyUpdates (addConnEndUpdate us e p false) = (k.applyUpdates us).setEnd e p := by
  unfold addConnEndUpdate
  simp only [Bool.not_false, if_true]
  split
  · next hany =>
    apply applyUpdates_updFirst us k e p hd
    simpa using hany
  · exact applyUpdates_append_one us k e p

theorem updFirst_fst (us : List (End × CEnd)) (e : End) (p : CEnd) :
    (updFirst (fun u => u.1 == e) (fun _ => (e, p)) us).map Prod.fst = us.map Prod.fst := by
  induction us with
  | nil => rfl
  | cons u us ih =>
    by_cases hu : u.1 = e
    · simp [updFirst, hu]
    · simp [updFirst, beq_eq_false_iff_ne.2 hu, ih]

theorem addConnEndUpdate_distinct (us : List (End × CEnd)) (e : End) (p : CEnd) (f : Bool)
    (hd : us.Pairwise fun u v => u.1 ≠ v.1) :
    (addConnEndUpdate us e p f).Pairwise fun u v => u.1 ≠ v.1 := by
  unfold addConnEndUpdate
  split
  · cases f with
    | true => simpa using hd
    | false =>
      simp only [Bool.not_false, if_true]
      have h1 : (us.map Prod.fst).Pairwise (· ≠ ·) := List.pairwise_map.2 hd
      rw [← updFirst_fst us e p] at h1
      exact List.pairwise_map.1 h1
  · next hany =>
    rw [List.pairwise_append]
    refine ⟨hd, List.pairwise_singleton _ _, ?_⟩
    intro u hu v hv
    rw [List.mem_singleton] at hv
    subst hv
    intro he
    exact hany (List.any_eq_true.2 ⟨u, hu, by simpa using he⟩)

/-! ### per-object effect of the three loops of `processActions` -/

/-- effect of the remove/move loop body for action `a` on the look-up of obstacle `id` -/
def f1 (a : Action) (id : Nat) (x : Option Obst) : Option Obst :=
  if a.id = id then
    match a.kind with
    | .remove => none
    | .move => x.map fun o => { o with active := false }
    | _ => x
  else x

/-- effect of the add/move loop body -/
def f2 (a : Action) (id : Nat) (x : Option Obst) : Option Obst :=
  if a.id = id then
    match a.kind with
    | .add => x.map fun o => { o with active := true }
    | .move => x.map fun o => { o with active := true, geom := a.geom }
    | _ => x
  else x

/-- effect of the ConnChange loop body on connector `c` -/
def g3 (a : Action) (c : Nat) (x : Option Conn) : Option Conn :=
  if a.kind = .connChange ∧ a.id = c then x.map fun k => k.applyUpdates a.conns else x

theorem findObst_pass1One (sc : Scene) (a : Action) (id : Nat) :
    findObst (pass1One sc a) id = f1 a id (findObst sc id) := by
  unfold pass1One f1
  cases h : a.kind <;> simp only []
  · have := findObst_mapObst sc a.id id (fun o => { o with active := false }) (fun _ => rfl)
    grind
  · grind
  · have := findObst_eraseObst sc a.id id
    grind
  · grind

theorem findObst_pass2One (sc : Scene) (a : Action) (id : Nat) :
    findObst (pass2One sc a) id = f2 a id (findObst sc id) := by
  unfold pass2One f2
  cases h : a.kind <;> simp only []
  · have := findObst_mapObst sc a.id id (fun o => { o with active := true, geom := a.geom }) (fun _ => rfl)
    grind
  · have := findObst_mapObst sc a.id id (fun o => { o with active := true }) (fun _ => rfl)
    grind
  · grind
  · grind

theorem conns_pass1One (sc : Scene) (a : Action) : (pass1One sc a).conns = sc.conns := by
  unfold pass1One; cases a.kind <;> rfl

theorem conns_pass2One (sc : Scene) (a : Action) : (pass2One sc a).conns = sc.conns := by
  unfold pass2One; cases a.kind <;> rfl

theorem obsts_pass3One (sc : Scene) (a : Action) : (pass3One sc a).obsts = sc.obsts := by
  unfold pass3One
  cases a.kind <;> first | rfl | exact Util.foldl_view Scene.obsts (fun sc u => mapConn sc a.id _) (fun _ _ => rfl) a.conns sc

theorem findConn_foldl_setEnd (us : List (End × CEnd)) (i c : Nat) (sc : Scene) :
    findConn (us.foldl (fun sc u => mapConn sc i fun k => k.setEnd u.1 u.2) sc) c
      = if c = i then (findConn sc c).map fun k => k.applyUpdates us else findConn sc c := by
  induction us generalizing sc with
  | nil => by_cases h : c = i <;> simp [h, Conn.applyUpdates]
  | cons u us ih =>
    simp only [List.foldl_cons, ih, findConn_mapConn _ _ _ _ (fun k => setEnd_id k _ _)]
    by_cases h : c = i
    · simp only [h, if_true, Option.map_map]; rfl
    · simp only [h, if_false]

theorem findConn_pass3One (sc : Scene) (a : Action) (c : Nat) :
    findConn (pass3One sc a) c = g3 a c (findConn sc c) := by
  unfold pass3One g3
  cases h : a.kind <;> simp only [findConn_foldl_setEnd] <;> grind

theorem findObst_congr {sc sc' : Scene} (h : sc.obsts = sc'.obsts) (id : Nat) : findObst sc id = findObst sc' id := by
  unfold findObst; rw [h]

theorem findConn_congr {sc sc' : Scene} (h : sc.conns = sc'.conns) (id : Nat) : findConn sc id = findConn sc' id := by
  unfold findConn; rw [h]

theorem obsts_fold3 (l : List Action) (sc : Scene) : (l.foldl pass3One sc).obsts = sc.obsts :=
  Util.foldl_view Scene.obsts _ obsts_pass3One l sc

theorem conns_fold12 (l : List Action) (sc : Scene) :
    (l.foldl pass2One (l.foldl pass1One sc)).conns = sc.conns := by
  rw [Util.foldl_view Scene.conns _ conns_pass2One, Util.foldl_view Scene.conns _ conns_pass1One]

theorem findObst_runPasses (sc : Scene) (l : List Action) (id : Nat) :
    findObst (runPasses sc l) id
      = l.foldl (fun x a => f2 a id x) (l.foldl (fun x a => f1 a id x) (findObst sc id)) := by
  have h1 := List.foldl_hom (l := l) (init := sc) (findObst · id) (g₂ := fun x a => f1 a id x)
    fun s a => (findObst_pass1One s a id).symm
  have h2 := List.foldl_hom (l := l) (init := l.foldl pass1One sc) (findObst · id) (g₂ := fun x a => f2 a id x)
    fun s a => (findObst_pass2One s a id).symm
  unfold runPasses
  rw [findObst_congr (obsts_fold3 _ _) id]
  exact h2.symm.trans (congrArg (fun x => l.foldl (fun x a => f2 a id x) x) h1.symm)

theorem findConn_runPasses (sc : Scene) (l : List Action) (c : Nat) :
    findConn (runPasses sc l) c = l.foldl (fun x a => g3 a c x) (findConn sc c) := by
  have h := List.foldl_hom (l := l) (init := l.foldl pass2One (l.foldl pass1One sc)) (findConn · c)
    (g₂ := fun x a => g3 a c x) fun s a => (findConn_pass3One s a c).symm
  unfold runPasses
  rw [← findConn_congr (conns_fold12 l sc) c]
  exact h.symm

end AdaptaVerif.Lemmas.ActionQueue
