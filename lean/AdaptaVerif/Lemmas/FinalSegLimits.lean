/-
Helper lemmas for `Model/FinalSegLimits.lean` (C14, limits of the first / last segment of an orthogonal
connector).  The central facts are the two "supremum / infimum" characterisations `lo_le_iff` and
`le_hi_iff`: the lower limit after the loop is the least upper bound of the start value and the
lower extents of all shapes that contain an end of the segment, and dually for the upper limit.
-/
import Mathlib.Tactic.Linarith
import Mathlib.Algebra.Order.Field.Rat
import AdaptaVerif.Model.FinalSegLimits
import AdaptaVerif.Lemmas.Util.Fold

namespace AdaptaVerif.Lemmas.FinalSegLimits
open AdaptaVerif.Check.RouteRect AdaptaVerif.Model.FinalSegLimits
open AdaptaVerif.Lemmas.Util (foldl_and foldl_or)

theorem rmax_le_iff (a b c : Rat) : rmax a b ≤ c ↔ a ≤ c ∧ b ≤ c := by
  unfold rmax
  split
  · constructor
    · intro h; exact ⟨by linarith, h⟩
    · intro h; exact h.2
  · constructor
    · intro h; exact ⟨h, by linarith⟩
    · intro h; exact h.1

theorem le_rmin_iff (a b c : Rat) : c ≤ rmin a b ↔ c ≤ a ∧ c ≤ b := by
  unfold rmin
  split
  · constructor
    · intro h; exact ⟨h, by linarith⟩
    · intro h; exact h.1
  · constructor
    · intro h; exact ⟨by linarith, h⟩
    · intro h; exact h.2

/-- the "either end of the segment lies in the shape" test -/
def hit (a z : P) (r : Rect) : Prop := insideBounds a r = true ∨ insideBounds z r = true

theorem hit_comm (a z : P) (r : Rect) : hit a z r ↔ hit z a r := by
  unfold hit; exact Or.comm

theorem step_lo_le_iff (dimX : Bool) (a z : P) (l : Lim) (r : Rect) (B : Rat) :
    (stepShape dimX a z l r).lo ≤ B ↔ l.lo ≤ B ∧ (hit a z r → Rect.lo r dimX ≤ B) := by
  unfold stepShape hit
  cases ha : insideBounds a r <;> cases hz : insideBounds z r <;>
    simp [Lim.clamp, rmax_le_iff]

theorem step_le_hi_iff (dimX : Bool) (a z : P) (l : Lim) (r : Rect) (B : Rat) :
    B ≤ (stepShape dimX a z l r).hi ↔ B ≤ l.hi ∧ (hit a z r → B ≤ Rect.hi r dimX) := by
  unfold stepShape hit
  cases ha : insideBounds a r <;> cases hz : insideBounds z r <;>
    simp [Lim.clamp, le_rmin_iff]

theorem step_first (dimX : Bool) (a z : P) (l : Lim) (r : Rect) :
    (stepShape dimX a z l r).first = (l.first || insideBounds a r) := by
  unfold stepShape
  cases ha : insideBounds a r <;> cases hz : insideBounds z r <;> simp [Lim.clamp]

theorem step_last (dimX : Bool) (a z : P) (l : Lim) (r : Rect) :
    (stepShape dimX a z l r).last = (l.last || insideBounds z r) := by
  unfold stepShape
  cases ha : insideBounds a r <;> cases hz : insideBounds z r <;> simp [Lim.clamp]

theorem lo_le_iff (dimX : Bool) (a z : P) (shapes : List Rect) (B : Rat) :
    (shapeLimits dimX a z shapes).lo ≤ B ↔
      -channelMax ≤ B ∧ ∀ r ∈ shapes, hit a z r → Rect.lo r dimX ≤ B :=
  foldl_and (stepShape dimX a z) (fun l => l.lo ≤ B) (fun r => hit a z r → Rect.lo r dimX ≤ B)
    (fun l r => step_lo_le_iff dimX a z l r B) shapes Lim.init

theorem le_hi_iff (dimX : Bool) (a z : P) (shapes : List Rect) (B : Rat) :
    B ≤ (shapeLimits dimX a z shapes).hi ↔
      B ≤ channelMax ∧ ∀ r ∈ shapes, hit a z r → B ≤ Rect.hi r dimX :=
  foldl_and (stepShape dimX a z) (fun l => B ≤ l.hi) (fun r => hit a z r → B ≤ Rect.hi r dimX)
    (fun l r => step_le_hi_iff dimX a z l r B) shapes Lim.init

theorem first_eq (dimX : Bool) (a z : P) (shapes : List Rect) :
    (shapeLimits dimX a z shapes).first = shapes.any (insideBounds a) :=
  foldl_or _ Lim.first _ (step_first dimX a z) shapes Lim.init

theorem last_eq (dimX : Bool) (a z : P) (shapes : List Rect) :
    (shapeLimits dimX a z shapes).last = shapes.any (insideBounds z) :=
  foldl_or _ Lim.last _ (step_last dimX a z) shapes Lim.init

theorem ends_in_shape_iff (dimX : Bool) (a z : P) (shapes : List Rect) :
    ((shapeLimits dimX a z shapes).first || (shapeLimits dimX a z shapes).last) = true ↔ ∃ r ∈ shapes, hit a z r := by
  rw [first_eq, last_eq, Bool.or_eq_true, List.any_eq_true, List.any_eq_true]
  exact ⟨fun h => h.elim (fun ⟨r, hr, h⟩ => ⟨r, hr, Or.inl h⟩) (fun ⟨r, hr, h⟩ => ⟨r, hr, Or.inr h⟩),
    fun ⟨r, hr, h⟩ => h.elim (fun h => Or.inl ⟨r, hr, h⟩) (fun h => Or.inr ⟨r, hr, h⟩)⟩

theorem finalLimits_lo_le_iff (dimX : Bool) (a z : P) (shapes : List Rect) (B : Rat) :
    (finalLimits dimX a z shapes).lo ≤ B ↔ (-channelMax ≤ B ∧ ∀ r ∈ shapes, hit a z r → Rect.lo r dimX ≤ B) ∧
      ((∀ r ∈ shapes, ¬ hit a z r) → P.co a dimX - freeConnBuffer ≤ B) := by
  unfold finalLimits
  simp only
  split
  · rename_i h
    obtain ⟨r, hr, hh⟩ := (ends_in_shape_iff dimX a z shapes).1 h
    rw [lo_le_iff]
    exact ⟨fun h => ⟨h, fun hn => absurd hh (hn r hr)⟩, fun h => h.1⟩
  · rename_i h
    rw [rmax_le_iff, lo_le_iff]
    exact ⟨fun h' => ⟨h'.1, fun _ => h'.2⟩,
      fun h' => ⟨h'.1, h'.2 fun r hr hh => h ((ends_in_shape_iff dimX a z shapes).2 ⟨r, hr, hh⟩)⟩⟩

theorem finalLimits_le_hi_iff (dimX : Bool) (a z : P) (shapes : List Rect) (B : Rat) :
    B ≤ (finalLimits dimX a z shapes).hi ↔ (B ≤ channelMax ∧ ∀ r ∈ shapes, hit a z r → B ≤ Rect.hi r dimX) ∧
      ((∀ r ∈ shapes, ¬ hit a z r) → B ≤ P.co a dimX + freeConnBuffer) := by
  unfold finalLimits
  simp only
  split
  · rename_i h
    obtain ⟨r, hr, hh⟩ := (ends_in_shape_iff dimX a z shapes).1 h
    rw [le_hi_iff]
    exact ⟨fun h => ⟨h, fun hn => absurd hh (hn r hr)⟩, fun h => h.1⟩
  · rename_i h
    rw [le_rmin_iff, le_hi_iff]
    exact ⟨fun h' => ⟨h'.1, fun _ => h'.2⟩,
      fun h' => ⟨h'.1, h'.2 fun r hr hh => h ((ends_in_shape_iff dimX a z shapes).2 ⟨r, hr, hh⟩)⟩⟩

theorem finalLimits_flags (dimX : Bool) (a z : P) (shapes : List Rect) :
    (finalLimits dimX a z shapes).first = shapes.any (insideBounds a) ∧
    (finalLimits dimX a z shapes).last = shapes.any (insideBounds z) := by
  unfold finalLimits
  simp only
  split <;> exact ⟨first_eq dimX a z shapes, last_eq dimX a z shapes⟩

theorem finalLimits_comm (dimX : Bool) (a z : P) (shapes : List Rect) (hpos : P.co a dimX = P.co z dimX) :
    (finalLimits dimX z a shapes).lo = (finalLimits dimX a z shapes).lo ∧
    (finalLimits dimX z a shapes).hi = (finalLimits dimX a z shapes).hi ∧
    (finalLimits dimX z a shapes).first = (finalLimits dimX a z shapes).last ∧
    (finalLimits dimX z a shapes).last = (finalLimits dimX a z shapes).first :=
  ⟨eq_of_forall_ge_iff fun B => by rw [finalLimits_lo_le_iff, finalLimits_lo_le_iff, hpos]; simp only [hit_comm a z],
   eq_of_forall_le_iff fun B => by rw [finalLimits_le_hi_iff, finalLimits_le_hi_iff, hpos]; simp only [hit_comm a z],
   (finalLimits_flags dimX z a shapes).1.trans (finalLimits_flags dimX a z shapes).2.symm,
   (finalLimits_flags dimX z a shapes).2.trans (finalLimits_flags dimX a z shapes).1.symm⟩

theorem insideBounds_co (dimX : Bool) (p : P) (r : Rect) (h : insideBounds p r = true) :
    Rect.lo r dimX ≤ P.co p dimX ∧ P.co p dimX ≤ Rect.hi r dimX := by
  simp only [insideBounds, Bool.and_eq_true, decide_eq_true_eq] at h
  cases dimX <;> simp [Rect.lo, Rect.hi, P.co] <;> grind

/-- the limits contain the segment's position: every shape that contains an end of the segment contains it, and so does
    the interval of `freeConnBuffer` around it -/
theorem finalLimits_contain (dimX : Bool) (a z : P) (shapes : List Rect) (hpos : P.co a dimX = P.co z dimX)
    (h1 : -channelMax ≤ P.co a dimX) (h2 : P.co a dimX ≤ channelMax) :
    (finalLimits dimX a z shapes).lo ≤ P.co a dimX ∧ P.co a dimX ≤ (finalLimits dimX a z shapes).hi :=
  ⟨(finalLimits_lo_le_iff ..).2 ⟨⟨h1, fun r _ h => h.elim (fun h => (insideBounds_co dimX a r h).1)
      (fun h => hpos ▸ (insideBounds_co dimX z r h).1)⟩, fun _ => by unfold freeConnBuffer; linarith⟩,
    (finalLimits_le_hi_iff ..).2 ⟨⟨h2, fun r _ h => h.elim (fun h => (insideBounds_co dimX a r h).2)
      (fun h => hpos ▸ (insideBounds_co dimX z r h).2)⟩, fun _ => by unfold freeConnBuffer; linarith⟩⟩

theorem lo_mono (dimX : Bool) (a z a' z' : P) (l₁ l₂ : List Rect)
    (h : ∀ r ∈ l₁, hit a z r → r ∈ l₂ ∧ hit a' z' r) :
    (shapeLimits dimX a z l₁).lo ≤ (shapeLimits dimX a' z' l₂).lo := by
  have h2 := (lo_le_iff dimX a' z' l₂ (shapeLimits dimX a' z' l₂).lo).1 (le_refl _)
  rw [lo_le_iff]
  exact ⟨h2.1, fun r hr hh => h2.2 r (h r hr hh).1 (h r hr hh).2⟩

theorem hi_mono (dimX : Bool) (a z a' z' : P) (l₁ l₂ : List Rect)
    (h : ∀ r ∈ l₁, hit a z r → r ∈ l₂ ∧ hit a' z' r) :
    (shapeLimits dimX a' z' l₂).hi ≤ (shapeLimits dimX a z l₁).hi := by
  have h2 := (le_hi_iff dimX a' z' l₂ (shapeLimits dimX a' z' l₂).hi).1 (le_refl _)
  rw [le_hi_iff]
  exact ⟨h2.1, fun r hr hh => h2.2 r (h r hr hh).1 (h r hr hh).2⟩

theorem insideBounds_setCo (dimX : Bool) (p : P) (s : Rect) (x : Rat)
    (hp : insideBounds p s = true) (hlo : Rect.lo s dimX ≤ x) (hhi : x ≤ Rect.hi s dimX) :
    insideBounds (P.setCo p dimX x) s = true := by
  unfold insideBounds at hp ⊢
  cases dimX <;> simp [P.setCo, Rect.lo, Rect.hi] at hp hlo hhi ⊢ <;> simp_all

end AdaptaVerif.Lemmas.FinalSegLimits
