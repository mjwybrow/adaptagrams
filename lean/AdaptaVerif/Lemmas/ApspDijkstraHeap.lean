/-
C17 — Dijkstra exactly as coded (driven by the pairing-heap model) is correct.

Simulation: the heap-driven state `HState` is related (`HRel`) to an abstract state `DState`
whose queue `q` lists the identities still in the heap:
  * same key vector `d` and output vector `out`;
  * the heap is a priority queue of `q` under the keys `d` (`Rep`: a heap-ordered root that stores exactly
    the pairs `(d[v], v)` for `v ∈ q`, i.e. every unsettled node is in the heap with key = its tentative distance).
`extractMin` then yields a pending node of minimal key (`Rep.extract`), and every firing
relaxation hits a pending node, lowers its key, and `decreaseKey` re-establishes the relation
(`Rep.decreaseKey`).  The abstract side advances by `dijkstraStep`, whose invariant `DInv` holds
for *any* choice of a minimal pending node (`dinv_step`).
-/
import AdaptaVerif.Lemmas.ApspDijkstra
import AdaptaVerif.Lemmas.PairingHeap
namespace AdaptaVerif.Lemmas.Apsp
open AdaptaVerif.Model.ShortestPaths AdaptaVerif.Spec.Apsp AdaptaVerif.Model.PairingHeap
open AdaptaVerif.Lemmas.PairingHeap

/-- the pairs the heap must hold: `(d[v], v)` for the pending nodes -/
def keyed (d : Vec) (q : List Nat) : List (Dist × Nat) := q.map (fun v => (Vec.at d v, v))

theorem mem_keyed {d : Vec} {q : List Nat} {k : Dist} {v : Nat} (h : (k, v) ∈ keyed d q) :
    v ∈ q ∧ k = Vec.at d v := by
  obtain ⟨x, hx, he⟩ := List.mem_map.mp h
  cases he
  exact ⟨hx, rfl⟩

theorem keyed_mem {d : Vec} {q : List Nat} {v : Nat} (h : v ∈ q) : (Vec.at d v, v) ∈ keyed d q := by
  unfold keyed
  exact List.mem_map.mpr ⟨v, h, rfl⟩

theorem keyed_perm_erase {d : Vec} {q : List Nat} {v : Nat} (hv : v ∈ q) :
    (keyed d q).Perm ((Vec.at d v, v) :: keyed d (q.erase v)) :=
  (List.perm_cons_erase hv).map _

theorem le_ltDist_iff (x y : Dist) : le ltDist x y ↔ dle x y := by
  cases x <;> cases y <;> simp [le, ltDist, dle]

theorem heapInit_fold (d : Vec) : ∀ (l : List Nat) (h : PTree Dist), Good ltDist h →
    Good ltDist (l.foldl (fun h i => Model.PairingHeap.insert ltDist h (Vec.at d i) i) h) ∧
    (elems (l.foldl (fun h i => Model.PairingHeap.insert ltDist h (Vec.at d i) i) h)).Perm (keyed d l ++ elems h) := by
  intro l
  induction l with
  | nil => intro h hg; exact ⟨hg, by simp [keyed]⟩
  | cons x rest ih =>
    intro h hg
    rw [List.foldl_cons]
    obtain ⟨hp, hg1⟩ := insert_spec ltDist_laws hg (Vec.at d x) x
    obtain ⟨i1, i2⟩ := ih _ hg1
    refine ⟨i1, i2.trans ((List.Perm.append_left (keyed d rest) hp).trans ?_)⟩
    unfold keyed
    simp only [List.map_cons, List.cons_append]
    exact List.perm_middle

/-- the heap `h` is a priority queue of the pending nodes `q` under the keys `d` -/
structure Rep (d : Vec) (q : List Nat) (h : PTree Dist) : Prop where
  good : Good ltDist h
  perm : (elems h).Perm (keyed d q)

theorem Rep.init (d : Vec) (n : Nat) : Rep d (List.range n) (heapInit d n) := by
  obtain ⟨h1, h2⟩ := heapInit_fold d (List.range n) .nil good_nil
  refine ⟨h1, ?_⟩
  unfold heapInit
  simpa [elems] using h2

theorem Rep.findMin_none {d : Vec} {q : List Nat} {h : PTree Dist} (r : Rep d q h) : findMin h = none ↔ q = [] := by
  rw [PairingHeap.findMin_none, ← List.length_eq_zero_iff (l := elems h), ← List.length_eq_zero_iff (l := q),
    r.perm.length_eq, keyed, List.length_map]

theorem Rep.extract {d : Vec} {q : List Nat} {h : PTree Dist} (r : Rep d q h) {k : Dist} {u : Nat}
    (hf : findMin h = some (k, u)) :
    u ∈ q ∧ (∀ x ∈ q, dle (Vec.at d u) (Vec.at d x)) ∧ Rep d (q.erase u) (deleteMin ltDist h) := by
  obtain ⟨hmem, hmin⟩ := findMin_spec ltDist_laws r.good hf
  obtain ⟨huq, rfl⟩ := mem_keyed (r.perm.mem_iff.mp hmem)
  exact ⟨huq, fun x hx => (le_ltDist_iff _ _).mp (hmin _ (r.perm.mem_iff.mpr (keyed_mem hx))),
    good_deleteMin ltDist_laws r.good,
    List.Perm.cons_inv ((deleteMin_perm ltDist_laws r.good hf).symm.trans (r.perm.trans (keyed_perm_erase huq)))⟩

theorem keyed_update {d : Vec} {q : List Nat} (hnd : q.Nodup) {v : Nat} (hv : v ∈ q) (hvs : v < d.size)
    (nk : Dist) {rest : List (Dist × Nat)} (h : (keyed d q).Perm ((Vec.at d v, v) :: rest)) :
    (keyed (d.setIfInBounds v nk) q).Perm ((nk, v) :: rest) := by
  have hrest : rest.Perm (keyed d (q.erase v)) := List.Perm.cons_inv (h.symm.trans (keyed_perm_erase hv))
  have h2 := keyed_perm_erase (d := d.setIfInBounds v nk) hv
  have hat : Vec.at (d.setIfInBounds v nk) v = nk := by rw [Vec.at_set, if_pos ⟨rfl, hvs⟩]
  have hsame : keyed (d.setIfInBounds v nk) (q.erase v) = keyed d (q.erase v) := by
    unfold keyed
    apply List.map_congr_left
    intro x hx
    have hxv : x ≠ v := (hnd.mem_erase_iff.mp hx).1
    rw [Vec.at_set, if_neg (fun hc => hxv hc.1.symm)]
  rw [hat, hsame] at h2
  exact h2.trans (List.Perm.cons _ hrest.symm)

theorem Rep.decreaseKey {d : Vec} {q : List Nat} {h : PTree Dist} (r : Rep d q h) (hnd : q.Nodup) {v : Nat} (hv : v ∈ q)
    (hvs : v < d.size) {nk : Dist} (hle : dle nk (Vec.at d v)) :
    Rep (d.setIfInBounds v nk) q (decreaseKey ltDist h v nk) := by
  rcases decreaseKey_spec ltDist_laws r.good v nk with ⟨_, hno⟩ | ⟨ok, rest, hp, hp', ho⟩
  · exact absurd rfl (hno _ (r.perm.mem_iff.mpr (keyed_mem hv)))
  · obtain rfl : ok = Vec.at d v := (mem_keyed (r.perm.mem_iff.mp (hp.mem_iff.mpr List.mem_cons_self))).2
    exact ⟨ho ((le_ltDist_iff _ _).mpr hle), hp'.trans (keyed_update hnd hv hvs nk (r.perm.symm.trans hp)).symm⟩

theorem relaxEdgeH_none {u : Nat} {st : Vec × PTree Dist} (h : Vec.at st.1 u = none) (p : Nat × Rat) :
    relaxEdgeH u st p = st := by
  unfold relaxEdgeH; rw [h]

theorem relaxEdgeH_some {u : Nat} {st : Vec × PTree Dist} {a : Rat} (h : Vec.at st.1 u = some a) (p : Nat × Rat) :
    relaxEdgeH u st p = if gtD (Vec.at st.1 p.1) (a + p.2) then
      (st.1.setIfInBounds p.1 (some (a + p.2)), decreaseKey ltDist st.2 p.1 (some (a + p.2))) else st := by
  unfold relaxEdgeH; rw [h]

theorem relaxEdgeH_fst (u : Nat) (st : Vec × PTree Dist) (p : Nat × Rat) :
    (relaxEdgeH u st p).1 = relaxEdge u st.1 p := by
  cases hu : Vec.at st.1 u with
  | none => rw [relaxEdgeH_none hu, relaxEdge_none hu]
  | some a =>
    rw [relaxEdgeH_some hu, relaxEdge_some hu]
    split <;> rfl

theorem fold_relaxEdgeH_fst (u : Nat) : ∀ (l : List (Nat × Rat)) (st : Vec × PTree Dist),
    (l.foldl (relaxEdgeH u) st).1 = l.foldl (relaxEdge u) st.1 := by
  intro l
  induction l with
  | nil => intro st; rfl
  | cons p rest ih => intro st; rw [List.foldl_cons, List.foldl_cons, ih, relaxEdgeH_fst]

theorem dle_of_gtD {x : Dist} {c : Rat} (h : gtD x c = true) : dle (some c) x := by
  cases x with
  | none => exact dle_none _
  | some b => exact dle_some.mpr (le_of_lt (gtD_some.mp h))

/-- the heap half of one relaxation: if it fires it hits a pending node (the keys of `u` and of the settled nodes are at
    most that of `u`), whose key it lowers -/
theorem relaxEdgeH_rep {g : Graph} {s : Nat} {st : DState} (h : DInv g s st) {u : Nat} (hu : u ∈ st.q)
    {x : Vec × PTree Dist} (k : Keys g s st u x.1) (r : Rep x.1 (st.q.erase u) x.2)
    {v : Nat} {w : Rat} (hw : 0 ≤ w) (hvn : v < g.n) :
    Rep (relaxEdgeH u x (v, w)).1 (st.q.erase u) (relaxEdgeH u x (v, w)).2 := by
  cases hdu : Vec.at st.d u with
  | none => rw [relaxEdgeH_none (k.self.trans hdu)]; exact r
  | some a =>
    rw [relaxEdgeH_some (k.self.trans hdu)]
    split
    · rename_i hg
      have hvq : v ∈ st.q.erase u := by
        by_contra hvq
        have hnot : ∀ b, Vec.at x.1 v = some b → ¬ b ≤ a := fun b hb hba => by
          rw [hb, gtD_some] at hg; exact not_lt.mpr (le_trans hba (le_add_of_nonneg_right hw)) hg
        by_cases hvu : v = u
        · exact hnot a (hvu ▸ k.self.trans hdu) (le_refl a)
        · have hvs : v ∉ st.q := fun hc => hvq ((List.mem_erase_of_ne hvu).mpr hc)
          obtain ⟨b, hb, hba⟩ := h.order v hvn hvs u hu a hdu
          exact hnot b ((k.keep v hvn hvs).trans hb) hba
      exact r.decreaseKey (h.nodup.erase u) hvq (by rw [k.size, h.dsize]; exact hvn) (dle_of_gtD hg)
    · exact r

theorem fold_relaxEdgeH_rep {g : Graph} (hv : Valid g) {s : Nat} {st : DState} (h : DInv g s st) {u : Nat} (huq : u ∈ st.q)
    {hp : PTree Dist} (hrep : Rep st.d (st.q.erase u) hp) :
    Rep ((adj g.edges u).foldl (relaxEdge u) st.d) (st.q.erase u) ((adj g.edges u).foldl (relaxEdgeH u) (st.d, hp)).2 := by
  rw [← show _ = (adj g.edges u).foldl (relaxEdge u) st.d from fold_relaxEdgeH_fst u _ (st.d, hp)]
  exact (List.foldlRecOn (motive := fun x => Keys g s st u x.1 ∧ Rep x.1 (st.q.erase u) x.2) (adj g.edges u) (relaxEdgeH u)
    (b := (st.d, hp)) ⟨Keys.init h u, hrep⟩ fun x hx p hp =>
      ⟨by rw [relaxEdgeH_fst]; exact hx.1.relax hv h huq (adj_valid hv hp).1 (adj_valid hv hp).2.1,
       relaxEdgeH_rep h huq hx.1 hx.2 (adj_valid hv hp).2.1 (adj_valid hv hp).2.2⟩).2

/-- simulation relation between the heap-driven state and the abstract state -/
structure HRel (g : Graph) (s : Nat) (hs : HState) (st : DState) : Prop where
  deq : hs.d = st.d
  oeq : hs.out = st.out
  rep : Rep st.d st.q hs.heap
  inv : DInv g s st

theorem hrel_init {g : Graph} {s : Nat} (hs : s < g.n) : HRel g s (dijkstraHeapInit g.n s) (dijkstraInit g.n s) :=
  ⟨rfl, rfl, Rep.init _ g.n, dinv_init hs⟩

/-- the state after one iteration of `dijkstraHeapLoop` in which `extractMin` returned `u` -/
def heapStep (es : List (Nat × Nat × Rat)) (hs : HState) (u : Nat) : HState :=
  { d := ((adj es u).foldl (relaxEdgeH u) (hs.d, deleteMin ltDist hs.heap)).1,
    out := hs.out.setIfInBounds u (Vec.at hs.d u),
    heap := ((adj es u).foldl (relaxEdgeH u) (hs.d, deleteMin ltDist hs.heap)).2,
    order := u :: hs.order }

theorem dijkstraHeapLoop_some {es : List (Nat × Nat × Rat)} {hs : HState} {k : Dist} {u : Nat}
    (hf : findMin hs.heap = some (k, u)) (fuel : Nat) :
    dijkstraHeapLoop es (fuel + 1) hs = dijkstraHeapLoop es fuel (heapStep es hs u) := by
  rw [dijkstraHeapLoop, hf]
  rfl

theorem dijkstraHeapLoop_none {es : List (Nat × Nat × Rat)} {hs : HState} (hf : findMin hs.heap = none) (fuel : Nat) :
    dijkstraHeapLoop es fuel hs = hs := by
  cases fuel with
  | zero => rfl
  | succ f => rw [dijkstraHeapLoop, hf]

theorem hrel_step {g : Graph} (hv : Valid g) {s : Nat} {hs : HState} {st : DState} (h : HRel g s hs st)
    {k : Dist} {u : Nat} (hf : findMin hs.heap = some (k, u)) :
    u ∈ st.q ∧ HRel g s (heapStep g.edges hs u) (dijkstraStep g.edges st u (st.q.erase u)) := by
  obtain ⟨d, out, heap, order⟩ := hs
  obtain ⟨rfl, rfl, hrep, hinv⟩ := h
  obtain ⟨huq, hminq, hrep1⟩ := hrep.extract hf
  exact ⟨huq, fold_relaxEdgeH_fst u _ _, rfl, fold_relaxEdgeH_rep hv hinv huq hrep1,
    dinv_step hv hinv huq hminq (fun x => by rw [hinv.nodup.mem_erase_iff, and_comm]) (hinv.nodup.erase u)⟩

theorem dijkstraHeapLoop_rel {g : Graph} (hv : Valid g) {s : Nat} :
    ∀ (fuel : Nat) (hs : HState) (st : DState), HRel g s hs st → st.q.length ≤ fuel →
      ∃ st', HRel g s (dijkstraHeapLoop g.edges fuel hs) st' ∧ st'.q = [] := by
  intro fuel
  induction fuel with
  | zero =>
    intro hs st h hl
    exact ⟨st, h, List.length_eq_zero_iff.mp (Nat.le_zero.mp hl)⟩
  | succ f ih =>
    intro hs st h hl
    cases hf : findMin hs.heap with
    | none => rw [dijkstraHeapLoop_none hf]; exact ⟨st, h, h.rep.findMin_none.mp hf⟩
    | some r =>
      obtain ⟨k, u⟩ := r
      obtain ⟨huq, hrel⟩ := hrel_step hv h hf
      rw [dijkstraHeapLoop_some hf]
      apply ih _ _ hrel
      show (st.q.erase u).length ≤ f
      rw [List.length_erase_of_mem huq]
      omega

theorem dijkstraHeapRun_rel {g : Graph} (hv : Valid g) {s : Nat} (hs : s < g.n) :
    ∃ st', HRel g s (dijkstraHeapRun g s) st' ∧ st'.q = [] :=
  dijkstraHeapLoop_rel hv g.n _ _ (hrel_init hs) (by simp [dijkstraInit])

theorem dijkstraHeap_exact {g : Graph} (hv : Valid g) {s : Nat} (hs : s < g.n) {j : Nat} (hj : j < g.n) :
    IsDist g s j (Vec.at (dijkstraHeap g s) j) := by
  obtain ⟨st', hrel, hq⟩ := dijkstraHeapRun_rel hv hs
  unfold dijkstraHeap
  rw [hrel.oeq]
  exact dinv_final hv hrel.inv hq hj

theorem dijkstraHeap_size {g : Graph} (hv : Valid g) {s : Nat} (hs : s < g.n) : (dijkstraHeap g s).size = g.n := by
  obtain ⟨st', hrel, _⟩ := dijkstraHeapRun_rel hv hs
  unfold dijkstraHeap
  rw [hrel.oeq]
  exact hrel.inv.osize

end AdaptaVerif.Lemmas.Apsp
