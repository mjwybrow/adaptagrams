/-
C17 — soundness of the certificate check `Check.Apsp.checkApsp`:
lower bound from feasibility of the potential (induction on the walk), upper bound from the
tight-edge closure (every marked vertex carries a walk of exactly its claimed weight).
-/
import AdaptaVerif.Check.Apsp
import AdaptaVerif.Lemmas.ApspWalk
namespace AdaptaVerif.Lemmas.Apsp
open AdaptaVerif.Model.ShortestPaths AdaptaVerif.Spec.Apsp AdaptaVerif.Check.Apsp

theorem validGraph_valid {g : Graph} (h : validGraph g = true) : Valid g := by
  intro e he
  unfold validGraph at h
  rw [List.all_eq_true] at h
  have := h e he
  simp only [Bool.and_eq_true, decide_eq_true_eq] at this
  exact ⟨this.1.1, this.1.2, this.2⟩

theorem valid_validGraph {g : Graph} (h : Valid g) : validGraph g = true := by
  unfold validGraph
  rw [List.all_eq_true]
  intro e he
  have := h e he
  simp only [Bool.and_eq_true, decide_eq_true_eq]
  exact ⟨⟨this.1, this.2.1⟩, this.2.2⟩

theorem relaxOk_spec {d : Nat → Dist} {u v : Nat} {w a : Rat}
    (h : relaxOk d u v w = true) (hu : d u = some a) : ∃ b, d v = some b ∧ b ≤ a + w := by
  unfold relaxOk at h
  rw [hu] at h
  cases hv : d v with
  | none => rw [hv] at h; simp at h
  | some b => rw [hv] at h; exact ⟨b, rfl, by simpa using h⟩

theorem feasible_edge {g : Graph} {d : Nat → Dist} (hf : feasible g.edges d = true)
    {u v : Nat} {w : Rat} (he : HasEdge g u v w) : relaxOk d u v w = true := by
  unfold feasible at hf
  rw [List.all_eq_true] at hf
  rcases he with he | he
  · have := hf _ he
    simp only [Bool.and_eq_true] at this
    exact this.1
  · have := hf _ he
    simp only [Bool.and_eq_true] at this
    exact this.2

theorem feasible_lower {g : Graph} {d : Nat → Dist} {i : Nat}
    (hf : feasible g.edges d = true) (h0 : d i = some 0) {j : Nat} {c : Rat} (hw : Walk g i j c) :
    ∃ b, d j = some b ∧ b ≤ c :=
  Walk.lower_bound h0 (fun _ he ha => relaxOk_spec (feasible_edge hf he) ha) hw

def MarkInv (g : Graph) (d : Nat → Dist) (i : Nat) (r : Array Bool) : Prop :=
  ∀ v, marked r v = true → ∃ c, d v = some c ∧ Walk g i v c

theorem marked_set {r : Array Bool} {v x : Nat} (h : marked (r.setIfInBounds v true) x = true) :
    x = v ∨ marked r x = true := by
  unfold marked at h
  rw [Array.getElem?_setIfInBounds] at h
  by_cases hvx : v = x
  · exact Or.inl hvx.symm
  · rw [if_neg hvx] at h; exact Or.inr h

theorem tight_spec {d : Nat → Dist} {u v : Nat} {w : Rat} (h : tight d u v w = true) :
    ∃ a b, d u = some a ∧ d v = some b ∧ b = a + w := by
  unfold tight at h
  cases hu : d u with
  | none => rw [hu] at h; simp at h
  | some a =>
    cases hv : d v with
    | none => rw [hu, hv] at h; simp at h
    | some b => rw [hu, hv] at h; exact ⟨a, b, rfl, rfl, by simpa using h⟩

theorem tryMark_inv {g : Graph} {d : Nat → Dist} {i : Nat} {st : Array Bool × Bool} {u v : Nat} {w : Rat}
    (he : HasEdge g u v w) (h : MarkInv g d i st.1) : MarkInv g d i (tryMark d st u v w).1 := by
  unfold tryMark
  split
  · rename_i hc
    simp only [Bool.and_eq_true] at hc
    obtain ⟨⟨hu, _⟩, ht⟩ := hc
    intro x hx
    rcases marked_set hx with rfl | hx'
    · obtain ⟨a, b, ha, hb, hab⟩ := tight_spec ht
      obtain ⟨c, hc, hwalk⟩ := h u hu
      rw [ha] at hc
      cases hc
      exact ⟨b, hb, by rw [hab]; exact Walk.snoc hwalk he⟩
    · exact h x hx'
  · exact h

theorem sweep_inv {g : Graph} {d : Nat → Dist} {i : Nat} {r : Array Bool}
    (h : MarkInv g d i r) : MarkInv g d i (sweep g.edges d r).1 :=
  List.foldlRecOn (motive := fun st : Array Bool × Bool => MarkInv g d i st.1) g.edges _ h
    fun _ h _ he => tryMark_inv (HasEdge.symm (Or.inl he)) (tryMark_inv (Or.inl he) h)

theorem closure_inv {g : Graph} {d : Nat → Dist} {i : Nat} :
    ∀ (fuel : Nat) (r : Array Bool), MarkInv g d i r → MarkInv g d i (closure g.edges d fuel r) := by
  intro fuel
  induction fuel with
  | zero => intro r h; exact h
  | succ f ih =>
    intro r h
    unfold closure
    simp only
    split
    · exact ih _ (sweep_inv h)
    · exact sweep_inv h

theorem reachTight_inv {g : Graph} {d : Nat → Dist} {i : Nat} (hi : i < g.n) (h0 : d i = some 0) :
    MarkInv g d i (reachTight g d i) := by
  unfold reachTight
  apply closure_inv
  intro v hv
  rcases marked_set hv with rfl | hv'
  · exact ⟨0, h0, Walk.nil hi⟩
  · unfold marked at hv'
    rw [Array.getElem?_replicate] at hv'
    split at hv' <;> simp at hv'

theorem sourceOk_sound {g : Graph} {d : Nat → Dist} {i : Nat} (hi : i < g.n)
    (h : sourceOk g d i = true) {j : Nat} (hj : j < g.n) : IsDist g i j (d j) := by
  unfold sourceOk at h
  simp only [Bool.and_eq_true, decide_eq_true_eq] at h
  obtain ⟨⟨h0, hf⟩, hall⟩ := h
  rw [List.all_eq_true] at hall
  refine IsDist.of_bounds (fun x hd => ?_) (fun c hw => feasible_lower hf h0 hw)
  have hjr := hall j (List.mem_range.mpr hj)
  rw [hd] at hjr
  obtain ⟨c, hc, hwalk⟩ := reachTight_inv hi h0 j hjr
  injection hd.symm.trans hc with hxc
  rw [hxc]; exact hwalk

theorem symmetric_spec {n : Nat} {D : Nat → Nat → Dist} (h : symmetric n D = true)
    {i j : Nat} (hi : i < n) (hj : j < n) : D i j = D j i := by
  unfold symmetric at h
  rw [List.all_eq_true] at h
  have := h i (List.mem_range.mpr hi)
  rw [List.all_eq_true] at this
  simpa using this j (List.mem_range.mpr hj)

end AdaptaVerif.Lemmas.Apsp
