/-
The invariant of the model of `ConstrainedFDLayout::makeFeasible` (`Model/MakeFeasible.lean`):
every constraint of `valid[dim]` holds (slack ≥ ZERO_UPPERBOUND) at SOME position vector that agrees
with `finalPosition` on the node variables — preserved by every trial, and re-established by every
combined solve that leaves no `unsatisfiable` flag behind; hence by every move of `MakeFeasibleLog.Move`.
-/
import AdaptaVerif.Model.MakeFeasible
import AdaptaVerif.Lemmas.MakeFeasibleFrame
import AdaptaVerif.Lemmas.MakeFeasibleLog
import AdaptaVerif.Lemmas.VpscFinal
import AdaptaVerif.Lemmas.Util.Array
namespace AdaptaVerif.Lemmas.MakeFeasibleInv
open AdaptaVerif.Model.MakeFeasible AdaptaVerif.Model.Vpsc
open AdaptaVerif.Model.Compound (Dim)
open AdaptaVerif.Lemmas.VpscModel AdaptaVerif.Lemmas.VpscInv
open AdaptaVerif.Lemmas.VpscMerge AdaptaVerif.Lemmas.VpscStaticFrame
open AdaptaVerif.Lemmas.MakeFeasibleFrame AdaptaVerif.Lemmas.MakeFeasibleLog
open AdaptaVerif.Lemmas.VpscFinal (Hist hist_J final_eq_positions)
open AdaptaVerif.Lemmas.VpscSolve (satisfy_final)
open AdaptaVerif.Lemmas.Util (getElem!_mem)

/-- solver state `st` carries exactly the constraints `V` (data) over the variables `vars` (scales) -/
structure Consist (vars : Array (Rat × Rat × Rat)) (V : Array Con) (st : St) : Prop where
  size : st.cons.size = V.size
  data : ∀ i : Nat, i < V.size → SameData (st.cons[i]!) (V[i]!)
  vsize : st.vars.size = vars.size
  scale : ∀ i : Nat, i < vars.size → (st.vars[i]!).scale = (vars[i]!).2.2

def Clean (st : St) : Prop := ∀ i : Nat, i < st.cons.size → (st.cons[i]!).unsat = false

theorem consist_init (vars : Array (Rat × Rat × Rat)) (V : Array Con) :
    Consist vars V (St.init vars V) :=
  ⟨(init_cons vars V).1, (init_cons vars V).2, (init_vars_scale vars V).1, (init_vars_scale vars V).2⟩

theorem init_unsat (vars : Array (Rat × Rat × Rat)) (V : Array Con) (ci : Nat) (hci : ci < V.size) :
    ((St.init vars V).cons[ci]!).unsat = (V[ci]!).unsat := by
  rw [init_cons_eq, getElem!_pos _ ci (by simpa using hci), getElem!_pos V ci hci, Array.getElem_map]

theorem consist_addConstraint {vars : Array (Rat × Rat × Rat)} {V : Array Con} {st : St}
    (h : Consist vars V st) (c : Con) : Consist vars (V.push c) (st.addConstraint c) := by
  obtain ⟨a1, a2, a3, a4⟩ := cd_addConstraint st c
  obtain ⟨b1, b2⟩ := sameScale_addConstraint st c
  refine ⟨by rw [a1, h.size]; simp, ?_, b1.trans h.vsize, fun i hi => (b2 i).trans (h.scale i hi)⟩
  rw [Array.size_push, Nat.forall_lt_succ_right]
  refine ⟨fun i hi => ?_, ?_⟩
  · rw [a2 i (by rw [h.size]; exact hi), Util.get!_push_lt _ _ _ hi]
    exact h.data i hi
  · rw [Util.get!_push_eq, ← h.size]
    exact a3

theorem clean_addConstraint {st : St} (h : Clean st) (c : Con) (hc : c.unsat = false) :
    Clean (st.addConstraint c) := by
  obtain ⟨a1, a2, _, a4⟩ := cd_addConstraint st c
  unfold Clean
  rw [a1, Nat.forall_lt_succ_right]
  exact ⟨fun i hi => (congrArg Con.unsat (a2 i hi)).trans (h i hi), a4.trans hc⟩

theorem consist_satisfy {vars : Array (Rat × Rat × Rat)} {V : Array Con} {st st' : St} {o : Outcome}
    (h : Consist vars V st) (hs : st.satisfy = (st', o)) : Consist vars V st' := by
  obtain ⟨a1, a2⟩ := cd_satisfy_inc st
  obtain ⟨b1, b2⟩ := sameScale_satisfy st
  rw [hs] at a1 a2 b1 b2
  exact ⟨a1.trans h.size, fun i hi => sameData_trans (a2 i) (h.data i hi), b1.trans h.vsize,
    fun i hi => (b2 i).trans (h.scale i hi)⟩

theorem positions_size (st : St) : st.positions.size = st.vars.size := by
  unfold St.positions
  simp

theorem consist_slackAt {vars : Array (Rat × Rat × Rat)} {V : Array Con} {st : St} (hc : Consist vars V st)
    (pos : Array Rat) {i : Nat} (hi : i < V.size) (hl : V[i].l < vars.size) (hr : V[i].r < vars.size) :
    slackAt st.vars pos (st.cons[i]!) = slackOf vars pos V[i] := by
  obtain ⟨d1, d2, d3, _⟩ := hc.data i hi
  rw [getElem!_pos V i hi] at d1 d2 d3
  unfold slackAt slackOf
  rw [d1, d2, d3, hc.scale _ hl, hc.scale _ hr]

theorem solve_holds {vars : Array (Rat × Rat × Rat)} {V : Array Con} {st0 st' : St} {pos : Array Rat}
    {ret : Bool} (hs : st0.satisfy = (st', .ok pos ret)) (hc : Consist vars V st') (hcl : Clean st') :
    pos.size = vars.size ∧
    ∀ c ∈ V, c.l < vars.size → c.r < vars.size → ZERO_UPPERBOUND ≤ slackOf vars pos c := by
  obtain ⟨hp, hscan⟩ := satisfy_ok st0 st' pos ret hs
  rw [scanOk_iff] at hscan
  refine ⟨by rw [hp, positions_size, hc.vsize], fun c hcV hl hr => ?_⟩
  obtain ⟨i, hi, rfl⟩ := Array.mem_iff_getElem.1 hcV
  have hi' : i < st'.cons.size := by rw [hc.size]; exact hi
  rw [← consist_slackAt hc pos hi hl hr]
  exact hscan _ (getElem!_mem hi') (hcl i hi')

theorem solve_eq_exact {vars : Array (Rat × Rat × Rat)} {V : Array Con} {st0 st' : St} {pos : Array Rat}
    {ret : Bool} (hs : st0.satisfy = (st', .ok pos ret)) (hh : Hist st0) (hc : Consist vars V st')
    (hcl : Clean st') (hscale : ∀ i : Nat, i < vars.size → (vars[i]!).2.2 ≠ 0) :
    ∀ c ∈ V, c.l < vars.size → c.r < vars.size → c.eq = true → slackOf vars pos c = 0 := by
  intro c hcV hl hr heq
  have hF := satisfy_final st0 st' pos ret (hist_J hh) hs
  obtain ⟨i, hi, rfl⟩ := Array.mem_iff_getElem.1 hcV
  have hi' : i < st'.cons.size := by rw [hc.size]; exact hi
  have heq' : (st'.cons[i]!).eq = true := by rw [(hc.data i hi).2.2.2, getElem!_pos V i hi]; exact heq
  have hsc : ∀ k : Nat, k < st'.vars.size → (st'.vars[k]!).scale ≠ 0 := fun k hk => by
    rw [hc.scale k (hc.vsize ▸ hk)]
    exact hscale k (hc.vsize ▸ hk)
  rw [← consist_slackAt hc pos hi hl hr, (satisfy_ok st0 st' pos ret hs).1]
  exact final_eq_positions hF hsc i hi' heq' (hcl i hi')

/-- the live solver of a dimension is consistent with `valid` -/
structure SolverOk (ds : DimSt) (st : St) : Prop where
  size : st.cons.size = ds.valid.size
  data : ∀ i : Nat, i < ds.valid.size → SameData (st.cons[i]!) (ds.valid[i]!)
  clean : ∀ i : Nat, i < st.cons.size → (st.cons[i]!).unsat = false
  vsize : st.vars.size = ds.vars.size
  scale : ∀ i : Nat, i < ds.vars.size → (st.vars[i]!).scale = (ds.vars[i]!).2.2
  /-- the live solver was reached through the public API from well-formed input -/
  hist : Hist st

theorem SolverOk.consist {ds : DimSt} {st : St} (h : SolverOk ds st) : Consist ds.vars ds.valid st :=
  ⟨h.size, h.data, h.vsize, h.scale⟩

theorem SolverOk.of {ds : DimSt} {st : St} (h : Consist ds.vars ds.valid st) (hc : Clean st)
    (hh : Hist st) : SolverOk ds st := ⟨h.size, h.data, hc, h.vsize, h.scale, hh⟩

/-- `Good` without the witness: what the combined branch keeps while it pushes without solving -/
structure Pre (ds : DimSt) : Prop where
  fsize : ds.final.size = ds.vars.size
  wf : ∀ c ∈ ds.valid, c.l < ds.vars.size ∧ c.r < ds.vars.size ∧ c.unsat = false
  sol : ∀ st, ds.solver = some st → SolverOk ds st

structure Good (n : Nat) (ds : DimSt) : Prop where
  fsize : ds.final.size = ds.vars.size
  wf : ∀ c ∈ ds.valid, c.l < ds.vars.size ∧ c.r < ds.vars.size ∧ c.unsat = false
  wit : ∃ g : Array Rat, g.size = ds.vars.size ∧ (∀ i : Nat, i < n → g[i]! = ds.final[i]!) ∧
        ∀ c ∈ ds.valid, ZERO_UPPERBOUND ≤ slackOf ds.vars g c
  sol : ∀ st, ds.solver = some st → SolverOk ds st
  /-- if all scales are non-zero, ONE witness also makes every kept equality hold exactly -/
  weq : (∀ i : Nat, i < ds.vars.size → (ds.vars[i]!).2.2 ≠ 0) →
        ∃ g : Array Rat, g.size = ds.vars.size ∧ (∀ i : Nat, i < n → g[i]! = ds.final[i]!) ∧
        (∀ c ∈ ds.valid, ZERO_UPPERBOUND ≤ slackOf ds.vars g c) ∧
        ∀ c ∈ ds.valid, c.eq = true → slackOf ds.vars g c = 0

theorem Good.pre {n : Nat} {ds : DimSt} (h : Good n ds) : Pre ds := ⟨h.fsize, h.wf, h.sol⟩

theorem good_init (n : Nat) (vs : Array (Rat × Rat × Rat)) :
    Good n { vars := vs, final := vs.map (·.1) } :=
  have hv : ∀ {p : Con → Prop} (c : Con), c ∈ (#[] : Array Con) → p c :=
    fun c hc => absurd hc (Array.not_mem_empty c)
  ⟨Array.size_map .., hv, ⟨vs.map (·.1), Array.size_map .., fun _ _ => rfl, hv⟩, (fun _ h => nomatch h),
    fun _ => ⟨vs.map (·.1), Array.size_map .., fun _ _ => rfl, hv, hv⟩⟩

theorem restore_size (n : Nat) (prior cur : Array Rat) : (restore n prior cur).size = cur.size := by
  unfold restore
  simp

theorem restore_node (n : Nat) (prior cur : Array Rat) (hsz : cur.size = prior.size) (i : Nat)
    (hi : i < n) : (restore n prior cur)[i]! = prior[i]! := by
  by_cases hlt : i < cur.size
  · unfold restore
    rw [Util.mapIdx_get! _ _ _ hlt, if_pos hi]
  · rw [getElem!_neg _ i (by rw [restore_size]; exact hlt), getElem!_neg prior i (by rw [← hsz]; exact hlt)]

theorem solverFor_consist (ds : DimSt) (c : Con) (h : Pre ds) :
    Consist ds.vars (ds.valid.push c) (ds.solverFor c) := by
  unfold DimSt.solverFor
  split
  · exact consist_init _ _
  · rename_i st hst
    exact consist_addConstraint (h.sol st hst).consist c

theorem solverFor_hist (ds : DimSt) (c : Con) (h : Pre ds)
    (hc : c.l < ds.vars.size ∧ c.r < ds.vars.size ∧ c.unsat = false) : Hist (ds.solverFor c) := by
  unfold DimSt.solverFor
  split
  · exact Hist.init _ _ (Array.forall_mem_push.2 ⟨hc, h.wf⟩)
  · rename_i st hst
    have hok := h.sol st hst
    exact Hist.add st c hok.hist (by rw [hok.vsize]; exact hc.1) (by rw [hok.vsize]; exact hc.2.1) hc.2.2

theorem clean_of_any {st : St} (h : st.cons.any (·.unsat) = false) : Clean st := by
  intro i hi
  rw [Array.any_eq_false] at h
  have := h i hi
  rw [getElem!_pos _ i hi]
  simpa using this

theorem good_of_solve {n : Nat} {ds : DimSt} {st0 st' : St} {pos : Array Rat} {ret : Bool}
    (hs : st0.satisfy = (st', .ok pos ret)) (hh : Hist st0) (hc : Consist ds.vars ds.valid st0)
    (hcl : Clean st')
    (hwf : ∀ c ∈ ds.valid, c.l < ds.vars.size ∧ c.r < ds.vars.size ∧ c.unsat = false)
    (hsol : ds.solver = some st') (hfin : ds.final = pos) : Good n ds := by
  have hc' : Consist ds.vars ds.valid st' := consist_satisfy hc hs
  obtain ⟨hp, hall⟩ := solve_holds hs hc' hcl
  have hex := solve_eq_exact hs hh hc' hcl
  have hall' : ∀ c ∈ ds.valid, ZERO_UPPERBOUND ≤ slackOf ds.vars pos c :=
    fun c hm => hall c hm (hwf c hm).1 (hwf c hm).2.1
  refine ⟨hfin ▸ hp, hwf, ⟨pos, hp, fun _ _ => hfin ▸ rfl, hall'⟩, fun st hst => ?_, fun hsc =>
    ⟨pos, hp, fun _ _ => hfin ▸ rfl, hall', fun c hm he => hex hsc c hm (hwf c hm).1 (hwf c hm).2.1 he⟩⟩
  obtain rfl : st' = st := Option.some.inj (hsol.symm.trans hst)
  have hh' := Hist.satisfy _ hh
  rw [hs] at hh'
  exact SolverOk.of hc' hcl hh'

theorem tryCon_good (n : Nat) (ds : DimSt) (c : Con) (own : Nat × Nat) (h : Good n ds)
    (hc : c.l < ds.vars.size ∧ c.r < ds.vars.size ∧ c.unsat = false) :
    Good n (ds.tryCon n c own).ds := by
  have hcons := solverFor_consist ds c h.pre
  have hhist := solverFor_hist ds c h.pre hc
  have hnone : ∀ f, f.size = ds.vars.size → (∀ i : Nat, i < n → f[i]! = ds.final[i]!) →
      Good n { ds with solver := none, final := f } := fun f hf hn =>
    ⟨hf, h.wf,
      (let ⟨g, g1, g2, g3⟩ := h.wit; ⟨g, g1, fun i hi => (g2 i hi).trans (hn i hi).symm, g3⟩),
      fun st hst => (by cases hst),
      fun hsc => let ⟨g, g1, g2, g3⟩ := h.weq hsc; ⟨g, g1, fun i hi => (g2 i hi).trans (hn i hi).symm, g3⟩⟩
  unfold DimSt.tryCon
  simp only
  generalize hsat : (ds.solverFor c).satisfy = r
  obtain ⟨st', o⟩ := r
  cases o with
  | ok pos ret =>
    simp only
    have hps : pos.size = ds.final.size := by
      rw [(satisfy_ok _ _ _ _ hsat).1, positions_size, (consist_satisfy hcons hsat).vsize, h.fsize]
    split
    · exact hnone _ (by rw [restore_size, hps, h.fsize]) (restore_node n ds.final pos hps)
    · rename_i hfl
      exact good_of_solve hsat hhist hcons (clean_of_any (eq_false_of_ne_true hfl))
        (Array.forall_mem_push.2 ⟨hc, h.wf⟩) rfl rfl
  | threw => exact hnone _ h.fsize fun _ _ => rfl
  | outOfFuel => exact hnone _ h.fsize fun _ _ => rfl

theorem good_dims {n : Nat} {mf : MF} : (∀ d, Good n (mf.dim d)) ↔ Good n mf.x ∧ Good n mf.y :=
  ⟨fun h => ⟨h .x, h .y⟩, fun h d => by cases d; exacts [h.1, h.2]⟩

/-- both dimensions are `Good` as long as no combined solve left a flag behind / threw / ran out of fuel -/
def MFGood (mf : MF) : Prop :=
  mf.combineFlags = #[] → mf.escaped = false → mf.fuelOut = false → ∀ d, Good mf.n (mf.dim d)

/-- what never changes (`n`, `vars`) and what only ever grows (`combineFlags`, `escaped`, `fuelOut`) -/
structure Frame (a b : MF) : Prop where
  n : b.n = a.n
  xv : b.x.vars = a.x.vars
  yv : b.y.vars = a.y.vars
  flags : b.combineFlags = #[] → a.combineFlags = #[]
  esc : b.escaped = false → a.escaped = false
  fuel : b.fuelOut = false → a.fuelOut = false

theorem Frame.refl (a : MF) : Frame a a := ⟨rfl, rfl, rfl, id, id, id⟩
theorem Frame.trans {a b c : MF} (h1 : Frame a b) (h2 : Frame b c) : Frame a c :=
  ⟨h2.n.trans h1.n, h2.xv.trans h1.xv, h2.yv.trans h1.yv, fun h => h1.flags (h2.flags h),
   fun h => h1.esc (h2.esc h), fun h => h1.fuel (h2.fuel h)⟩

structure Step (a b : MF) : Prop where
  frame : Frame a b
  good : MFGood a → MFGood b

theorem Step.refl (a : MF) : Step a a := ⟨Frame.refl a, id⟩
theorem Step.trans {a b c : MF} (h1 : Step a b) (h2 : Step b c) : Step a c :=
  ⟨h1.frame.trans h2.frame, fun h => h2.good (h1.good h)⟩

/-- a step outside the combined branch: `combineFlags` / `escaped` untouched, `Good` kept outright -/
structure UStep (a b : MF) : Prop where
  n : b.n = a.n
  xv : b.x.vars = a.x.vars
  yv : b.y.vars = a.y.vars
  flags : b.combineFlags = a.combineFlags
  esc : b.escaped = a.escaped
  fuel : b.fuelOut = false → a.fuelOut = false
  good : (∀ d, Good a.n (a.dim d)) → ∀ d, Good b.n (b.dim d)

theorem UStep.refl (a : MF) : UStep a a := ⟨rfl, rfl, rfl, rfl, rfl, id, id⟩
theorem UStep.trans {a b c : MF} (h1 : UStep a b) (h2 : UStep b c) : UStep a c :=
  ⟨h2.n.trans h1.n, h2.xv.trans h1.xv, h2.yv.trans h1.yv, h2.flags.trans h1.flags,
   h2.esc.trans h1.esc, fun h => h1.fuel (h2.fuel h), fun h => h2.good (h1.good h)⟩

theorem UStep.step {a b : MF} (h : UStep a b) : Step a b :=
  ⟨⟨h.n, h.xv, h.yv, fun e => h.flags ▸ e, fun e => h.esc ▸ e, h.fuel⟩,
   fun hg e1 e2 e3 => h.good (hg (h.flags ▸ e1) (h.esc ▸ e2) (h.fuel e3))⟩

theorem UStep.of_same {a b : MF} (hn : b.n = a.n) (hx : b.x = a.x) (hy : b.y = a.y)
    (hf : b.combineFlags = a.combineFlags) (he : b.escaped = a.escaped)
    (hu : b.fuelOut = a.fuelOut) : UStep a b := by
  refine ⟨hn, by rw [hx], by rw [hy], hf, he, by rw [hu]; exact id, fun hg d => ?_⟩
  rw [hn, dim_congr hx hy]
  exact hg d

theorem UStep.of_dim {a b : MF} (d : Dim) (hn : b.n = a.n) (hf : b.combineFlags = a.combineFlags)
    (he : b.escaped = a.escaped) (hu : b.fuelOut = false → a.fuelOut = false)
    (ho : ∀ d', d' ≠ d → b.dim d' = a.dim d') (hv : (b.dim d).vars = (a.dim d).vars)
    (hg : Good a.n (a.dim d) → Good a.n (b.dim d)) : UStep a b := by
  have hvars : ∀ d', (b.dim d').vars = (a.dim d').vars := fun d' => by
    by_cases hd : d' = d
    · rw [hd, hv]
    · rw [ho d' hd]
  refine ⟨hn, hvars .x, hvars .y, hf, he, hu, fun h d' => ?_⟩
  rw [hn]
  by_cases hd : d' = d
  · rw [hd]; exact hg (h d)
  · rw [ho d' hd]; exact h d'

theorem wf_dim {mf : MF} {a : Alt} (h : Alt.wf mf.x.vars.size mf.y.vars.size a = true) :
    a.con.l < (mf.dim a.dim).vars.size ∧ a.con.r < (mf.dim a.dim).vars.size ∧ a.con.unsat = false := by
  obtain ⟨d, c⟩ := a
  cases d <;> simpa [Alt.wf, and_assoc, MF.dim] using h

theorem trial_ustep (mf : MF) (cc sub k : Nat) (a : Alt)
    (hwf : Alt.wf mf.x.vars.size mf.y.vars.size a = true) : UStep mf (mf.trial cc sub k a).1 := by
  refine UStep.of_dim a.dim (trial_n ..) (trial_combineFlags ..) (trial_escaped ..) (fun h => ?_)
    (fun d' hd => trial_dim_ne mf cc sub k a hd) ?_ fun hg => ?_
  · rw [trial_fuelOut, Bool.or_eq_false_iff] at h
    exact h.1
  · rw [trial_dim_same, (tryCon_spec ..).1]
  · rw [trial_dim_same]
    exact tryCon_good mf.n _ a.con (cc, sub) hg (wf_dim hwf)

theorem setDim_frame (mf : MF) (d : Dim) (ds : DimSt) (h : ds.vars = (mf.dim d).vars) :
    Frame mf (mf.setDim d ds) := by
  cases d
  · exact ⟨rfl, h, rfl, id, id, id⟩
  · exact ⟨rfl, rfl, h, id, id, id⟩

theorem pushCon_pre (ds : DimSt) (c : Con) (own : Nat × Nat) (h : Pre ds)
    (hc : c.l < ds.vars.size ∧ c.r < ds.vars.size ∧ c.unsat = false) : Pre (ds.pushCon c own) := by
  refine ⟨h.fsize, Array.forall_mem_push.2 ⟨hc, h.wf⟩, fun st' hst' => ?_⟩
  obtain ⟨st, hs, rfl⟩ := Option.map_eq_some_iff.1 hst'
  have hok := h.sol st hs
  exact SolverOk.of (consist_addConstraint hok.consist c) (clean_addConstraint hok.clean c hc.2.2)
    (Hist.add st c hok.hist (by rw [hok.vsize]; exact hc.1) (by rw [hok.vsize]; exact hc.2.1) hc.2.2)

theorem combinePush_spec (cc : Nat) (subs : List (List Alt)) (mf : MF) (i : Nat)
    (h : ∀ alts ∈ subs, ∀ a ∈ alts, Alt.wf mf.x.vars.size mf.y.vars.size a = true) :
    Frame mf (mf.combinePush cc i subs) ∧
    ((∀ d, Pre (mf.dim d)) → ∀ d, Pre ((mf.combinePush cc i subs).dim d)) := by
  -- well-formedness of the alternatives travels along: a step keeps `vars`
  refine combinePush_rel (R := fun a b =>
      (∀ alts ∈ subs, ∀ a' ∈ alts, Alt.wf a.x.vars.size a.y.vars.size a' = true) →
      Frame a b ∧ ((∀ d, Pre (a.dim d)) → ∀ d, Pre (b.dim d)))
    (fun a _ => ⟨Frame.refl a, id⟩)
    (fun h1 h2 hw =>
      have ⟨f1, p1⟩ := h1 hw
      have ⟨f2, p2⟩ := h2 (by rw [f1.xv, f1.yv]; exact hw)
      ⟨f1.trans f2, fun hp => p2 (p1 hp)⟩)
    (fun _ _ => ⟨⟨rfl, rfl, rfl, id, id, id⟩, id⟩) cc subs (fun mf i a ha hw => ?_) mf i h
  have hc := wf_dim (hw [a] ha a List.mem_cons_self)
  have hfr : Frame mf (mf.setDim a.dim ((mf.dim a.dim).pushCon a.con (cc, i))) := setDim_frame mf a.dim _ rfl
  have hpre : (∀ d, Pre (mf.dim d)) →
      ∀ d, Pre ((mf.setDim a.dim ((mf.dim a.dim).pushCon a.con (cc, i))).dim d) := fun hp d => by
    by_cases hd : d = a.dim
    · rw [hd, setDim_dim_same]
      exact pushCon_pre _ a.con (cc, i) (hp a.dim) hc
    · rw [setDim_dim_ne _ _ hd]
      exact hp d
  generalize mf.setDim a.dim ((mf.dim a.dim).pushCon a.con (cc, i)) = m1 at hfr hpre ⊢
  have hmk : Frame m1 { m1 with marks := m1.marks.push (cc, i, true) } := ⟨rfl, rfl, rfl, id, id, id⟩
  exact ⟨hfr.trans hmk, fun hp d => hpre hp d⟩

theorem clean_of_flagged_empty {α : Type} (st : St) (f : Nat → α)
    (h : (((List.range st.cons.size).filter fun i => (st.cons[i]!).unsat).map f).isEmpty = true) :
    Clean st := by
  intro i hi
  simp only [List.isEmpty_iff, List.map_eq_nil_iff, List.filter_eq_nil_iff, List.mem_range] at h
  simpa using h i hi

theorem combineSolve_spec (mf : MF) (cc : Nat) (d : Dim) :
    Frame mf (mf.combineSolve cc d) ∧
    (∀ d', d' ≠ d → (mf.combineSolve cc d).dim d' = mf.dim d') ∧
    (mf.escaped = false → Pre (mf.dim d) → (mf.combineSolve cc d).combineFlags = #[] →
      (mf.combineSolve cc d).escaped = false → (mf.combineSolve cc d).fuelOut = false →
      Good mf.n ((mf.combineSolve cc d).dim d)) := by
  generalize hb : mf.combineSolve cc d = b
  unfold MF.combineSolve at hb
  split at hb
  · rename_i he
    subst hb
    exact ⟨Frame.refl mf, fun _ _ => rfl, fun he' => by rw [he] at he'; cases he'⟩
  · simp only at hb
    generalize hsat : St.satisfy _ = r at hb
    obtain ⟨st', o⟩ := r
    generalize hfl : (((List.range st'.cons.size).filter fun i => (st'.cons[i]!).unsat).map
      fun i => (mf.dim d).owner.getD i (0, 0)) = fl at hb
    have hflags : (if fl.isEmpty = true then mf.combineFlags else mf.combineFlags.push (cc, d, fl)) = #[] →
        mf.combineFlags = #[] ∧ fl.isEmpty = true := by
      intro h
      split at h
      · rename_i he; exact ⟨h, he⟩
      · exact absurd h Array.push_ne_empty
    cases o with
    | ok pos ret =>
      subst hb
      refine ⟨Frame.trans ?_ (setDim_frame _ d _ (congrArg DimSt.vars (dim_congr (a := mf) rfl rfl d)).symm),
        fun d' hd' => (setDim_dim_ne _ _ hd').trans (dim_congr rfl rfl d'), fun _ hp h1 _ _ => ?_⟩
      · exact ⟨rfl, rfl, rfl, fun h => (hflags h).1, id, id⟩
      rw [setDim_dim_same]
      rw [setDim_combineFlags] at h1
      have hcl : Clean st' := clean_of_flagged_empty st' _ (hfl ▸ (hflags h1).2)
      -- the solver that was run: a fresh `IncSolver(vs, valid)` or the live one
      split at hsat
      · exact good_of_solve hsat (Hist.init _ _ hp.wf) (consist_init _ _) hcl hp.wf rfl rfl
      · rename_i st hs
        exact good_of_solve hsat (hp.sol st hs).hist (hp.sol st hs).consist hcl hp.wf rfl rfl
    | threw =>
      subst hb
      exact ⟨⟨rfl, rfl, rfl, fun h => (hflags h).1, (fun h => by cases h), id⟩,
        (fun _ _ => rfl), (fun _ _ _ h2 _ => by cases h2)⟩
    | outOfFuel =>
      subst hb
      exact ⟨⟨rfl, rfl, rfl, fun h => (hflags h).1, id, (fun h => by cases h)⟩,
        (fun _ _ => rfl), (fun _ _ _ _ h3 => by cases h3)⟩

theorem combined_step (mf : MF) (cc : Nat) (subs : List (List Alt))
    (h : ∀ alts ∈ subs, ∀ a ∈ alts, Alt.wf mf.x.vars.size mf.y.vars.size a = true) :
    Step mf (((mf.combinePush cc 0 subs).combineSolve cc .x).combineSolve cc .y) := by
  obtain ⟨f1, p1⟩ := combinePush_spec cc subs mf 0 h
  generalize mf.combinePush cc 0 subs = m1 at f1 p1 ⊢
  obtain ⟨f2, o2, g2⟩ := combineSolve_spec m1 cc .x
  generalize m1.combineSolve cc .x = m2 at f2 o2 g2 ⊢
  obtain ⟨f3, o3, g3⟩ := combineSolve_spec m2 cc .y
  generalize m2.combineSolve cc .y = m3 at f3 o3 g3 ⊢
  refine ⟨f1.trans (f2.trans f3), fun hg h1 h2 h3 => ?_⟩
  have a1 := f3.flags h1
  have a2 := f3.esc h2
  have a3 := f3.fuel h3
  have b2 := f2.esc a2
  have hp := p1 fun d => (hg (f1.flags (f2.flags a1)) (f1.esc b2) (f1.fuel (f2.fuel a3)) d).pre
  have gx2 : Good m1.n (m2.dim .x) := g2 b2 (hp .x) a1 a2 a3
  have gy3 : Good m2.n (m3.dim .y) := g3 a2 (by rw [o2 .y (by decide)]; exact hp .y) h1 h2 h3
  rw [f3.n, f2.n]
  rw [f2.n] at gy3
  intro d
  cases d
  · rw [o3 .x (by decide)]; exact gx2
  · exact gy3

theorem move_ustep {sx sy : Nat} {a b : MF} (h : Move (fun al => Alt.wf sx sy al = true) [] a b)
    (hx : a.x.vars.size = sx) (hy : a.y.vars.size = sy) : UStep a b := by
  cases h with
  | trial cc sub k al hw => exact trial_ustep a cc sub k al (by rw [hx, hy]; exact hw)
  | mark => exact UStep.of_same rfl rfl rfl rfl rfl rfl
  | stuck => exact UStep.of_same rfl rfl rfl rfl rfl rfl
  | combined cc subs hcc => cases hcc

theorem move_step {sx sy : Nat} {L : List Nat} {a b : MF} (h : Move (fun al => Alt.wf sx sy al = true) L a b)
    (hx : a.x.vars.size = sx) (hy : a.y.vars.size = sy) : Step a b := by
  cases h with
  | trial cc sub k al hw => exact (trial_ustep a cc sub k al (by rw [hx, hy]; exact hw)).step
  | mark => exact UStep.step (UStep.of_same rfl rfl rfl rfl rfl rfl)
  | stuck => exact UStep.step (UStep.of_same rfl rfl rfl rfl rfl rfl)
  | combined cc subs _ hw => exact combined_step a cc subs (by rw [hx, hy]; exact hw)

theorem reach_ustep {sx sy : Nat} {a b : MF} (h : Reach (fun al => Alt.wf sx sy al = true) [] a b)
    (hx : a.x.vars.size = sx) (hy : a.y.vars.size = sy) : UStep a b := by
  induction h with
  | refl => exact UStep.refl a
  | move _ hm ih => exact ih.trans (move_ustep hm (by rw [ih.xv, hx]) (by rw [ih.yv, hy]))

theorem reach_step {sx sy : Nat} {L : List Nat} {a b : MF} (h : Reach (fun al => Alt.wf sx sy al = true) L a b)
    (hx : a.x.vars.size = sx) (hy : a.y.vars.size = sy) : Step a b := by
  induction h with
  | refl => exact Step.refl a
  | move _ hm ih => exact ih.trans (move_step hm (by rw [ih.frame.xv, hx]) (by rw [ih.frame.yv, hy]))

theorem itemsWf_mem {sx sy : Nat} {items : List Item} (h : itemsWf sx sy items = true) :
    ∀ it ∈ items, ∀ alts ∈ it.subs, ∀ a ∈ alts, Alt.wf sx sy a = true := by
  unfold itemsWf at h
  simp only [List.all_eq_true] at h
  exact h

theorem good_init_dims (n : Nat) (vx vy : Array (Rat × Rat × Rat)) (d : Dim) :
    Good (MF.init n vx vy).n ((MF.init n vx vy).dim d) := by
  cases d
  · exact good_init n vx
  · exact good_init n vy

theorem makeFeasible_good (n : Nat) (vx vy : Array (Rat × Rat × Rat)) (items : List Item)
    (hwf : itemsWf vx.size vy.size items = true)
    (hclean : (makeFeasible n vx vy items).combineFlags = #[])
    (hesc : (makeFeasible n vx vy items).escaped = false)
    (hfuel : (makeFeasible n vx vy items).fuelOut = false) :
    (∀ d, Good n ((makeFeasible n vx vy items).dim d)) ∧
    (makeFeasible n vx vy items).x.vars = vx ∧ (makeFeasible n vx vy items).y.vars = vy := by
  have hs : Step (MF.init n vx vy) (makeFeasible n vx vy items) :=
    reach_step (run_reach items (MF.init n vx vy) (itemsWf_mem hwf) (mem_combinedCCs items)) rfl rfl
  have hg := hs.good (fun _ _ _ => good_init_dims n vx vy) hclean hesc hfuel
  rw [show (makeFeasible n vx vy items).n = n from hs.frame.n] at hg
  exact ⟨hg, hs.frame.xv, hs.frame.yv⟩

theorem makeFeasible_good_nocombine (n : Nat) (vx vy : Array (Rat × Rat × Rat)) (items : List Item)
    (hwf : itemsWf vx.size vy.size items = true)
    (hnc : ∀ it ∈ items, it.combine = false) :
    Good n (makeFeasible n vx vy items).x ∧ Good n (makeFeasible n vx vy items).y ∧
    (makeFeasible n vx vy items).x.vars = vx ∧ (makeFeasible n vx vy items).y.vars = vy ∧
    (makeFeasible n vx vy items).n = n ∧
    (makeFeasible n vx vy items).combineFlags = #[] ∧ (makeFeasible n vx vy items).escaped = false := by
  have hs : UStep (MF.init n vx vy) (makeFeasible n vx vy items) :=
    reach_ustep (run_reach items (MF.init n vx vy) (itemsWf_mem hwf)
      fun it hit hc => absurd hc (by rw [hnc it hit]; exact Bool.false_ne_true)) rfl rfl
  have hg := hs.good (good_init_dims n vx vy)
  have hn : (makeFeasible n vx vy items).n = n := hs.n
  rw [hn] at hg
  exact ⟨hg .x, hg .y, hs.xv, hs.yv, hn, hs.flags, hs.esc⟩

end AdaptaVerif.Lemmas.MakeFeasibleInv
