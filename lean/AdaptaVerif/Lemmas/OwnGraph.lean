/-
The two halves of the soundness of the own-search-space certificate checker (Check/OwnGraph.lean; put together in
Props/C04Own): a feasible potential bounds every admissible route from below, an accepted witness path is an admissible route.
True move lengths live in an arbitrary ordered field K (ℝ, Euclidean length); the checker sees enclosures.
-/
import AdaptaVerif.Check.OwnGraph
import AdaptaVerif.Lemmas.Potential
import Mathlib.Tactic.Linarith
import Mathlib.Data.Rat.Cast.Order
namespace AdaptaVerif.Lemmas.OwnGraph
open AdaptaVerif.Check.Potential AdaptaVerif.Check.OwnGraph AdaptaVerif.Lemmas.Potential

variable {K : Type} [Field K] [LinearOrder K] [IsStrictOrderedRing K]

/-- `Route S tw t prev v c`: the search space contains a route from the state (v, prev) to the vertex t whose
    cost  Σ (true length + penalty · bends charged)  is c.  Every move is a listed edge and admissible
    (not straight back to the previous vertex, `validateBendPoint` holds); the first move out of a state
    without previous vertex is free of conditions and of bends. -/
inductive Route (S : Space) (tw : WEdge → K) (t : Nat) : Option Nat → Nat → K → Prop
  | done (prev : Option Nat) : Route S tw t prev t 0
  | step (prev : Option Nat) (e : WEdge) (c : K) : e ∈ S.edges → admissible S prev e.u e.v = true →
      Route S tw t (some e.u) e.v c →
      Route S tw t prev e.u (tw e + (S.pen : K) * ((bendOf S prev e.u e.v : Nat) : K) + c)

theorem feasStart_spec (S : Space) (π : Nat → Nat → Rat) (s : Nat) (h : feasStart S π s = true)
    (e : WEdge) (he : e ∈ S.edges) (hu : e.u = s) : π e.v e.u ≤ π s S.n + e.wlo := by
  unfold feasStart at h
  have := List.all_eq_true.mp h e he
  simp only [Bool.or_eq_true, bne_iff_ne, ne_eq, decide_eq_true_eq] at this
  rcases this with h1 | h1
  · exact absurd hu h1
  · exact h1

theorem feasInner_spec (S : Space) (π : Nat → Nat → Rat) (h : feasInner S π = true)
    (e1 e2 : WEdge) (h1 : e1 ∈ S.edges) (h2 : e2 ∈ S.edges) (hu : e2.u = e1.v) (hv : e2.v ≠ e1.u)
    (hok : S.ok e1.u e1.v e2.v = true) :
    π e2.v e2.u ≤ π e1.v e1.u + (e2.wlo + S.pen * (S.bend e1.u e1.v e2.v : Nat)) := by
  unfold feasInner at h
  have := List.all_eq_true.mp (List.all_eq_true.mp h e1 h1) e2 h2
  simp only [Bool.or_eq_true, bne_iff_ne, ne_eq, beq_iff_eq, Bool.not_eq_true', decide_eq_true_eq] at this
  rcases this with ((h3 | h3) | h3) | h3
  · exact absurd hu h3
  · exact absurd h3 hv
  · rw [hok] at h3; exact absurd h3 (by simp)
  · exact h3

theorem tarLo_spec (S : Space) (π : Nat → Nat → Rat) (t : Nat) (lo : Rat) (h : tarLo S π t lo = true)
    (e : WEdge) (he : e ∈ S.edges) (hv : e.v = t) : lo ≤ π e.v e.u := by
  unfold tarLo at h
  have := List.all_eq_true.mp h e he
  simp only [Bool.or_eq_true, bne_iff_ne, ne_eq, decide_eq_true_eq] at this
  rcases this with h1 | h1
  · exact absurd hv h1
  · exact h1

theorem route_lower (S : Space) (π : Nat → Nat → Rat) (s t : Nat) (lo : Rat) (hst : s ≠ t)
    (hS : feasStart S π s = true) (hI : feasInner S π = true) (hT : tarLo S π t lo = true)
    (tw : WEdge → K) (hw : ∀ e ∈ S.edges, (e.wlo : K) ≤ tw e) :
    ∀ prev v c, Route S tw t prev v c → (prev = none → v = s) →
      (∀ p, prev = some p → ∃ e0 ∈ S.edges, e0.u = p ∧ e0.v = v) →
      (lo : K) ≤ ((π v (code S.n prev) : Rat) : K) + c := by
  intro prev v c h
  induction h with
  | done prev =>
    intro hn hp
    cases prev with
    | none => exact absurd (hn rfl).symm hst
    | some p =>
      obtain ⟨e0, he0, hu, hv⟩ := hp p rfl
      have := tarLo_spec S π t lo hT e0 he0 hv
      rw [hu, hv] at this
      exact (Rat.cast_le.2 this).trans (add_zero _).ge
  | step prev e c he hadm _ ih =>
    intro hn hp
    have ih' := ih (by intro h; cases h) (by
      intro p hpe
      cases hpe
      exact ⟨e, he, rfl, rfl⟩)
    simp only [code] at ih'
    have hwe := hw e he
    cases prev with
    | none =>
      have hs : e.u = s := hn rfl
      have hf := feasStart_spec S π s hS e he hs
      have hf' : ((π e.v e.u : Rat) : K) ≤ ((π s S.n : Rat) : K) + (e.wlo : K) := by
        rw [← Rat.cast_add]; exact Rat.cast_le.2 hf
      simp only [code, bendOf, Nat.cast_zero, mul_zero, add_zero]
      rw [hs] at hf' ih' ⊢
      linarith
    | some p =>
      obtain ⟨e0, he0, hu0, hv0⟩ := hp p rfl
      simp only [admissible, Bool.and_eq_true, bne_iff_ne, ne_eq] at hadm
      have hf := feasInner_spec S π hI e0 e he0 he hv0.symm (by rw [hu0]; exact hadm.1)
        (by rw [hu0, hv0]; exact hadm.2)
      rw [hu0, hv0] at hf
      have hf' : ((π e.v e.u : Rat) : K) ≤ ((π e.u p : Rat) : K) +
          ((e.wlo : K) + (S.pen : K) * ((S.bend p e.u e.v : Nat) : K)) := by
        rw [← Rat.cast_natCast (S.bend p e.u e.v), ← Rat.cast_mul, ← Rat.cast_add, ← Rat.cast_add]
        exact Rat.cast_le.2 hf
      simp only [code, bendOf]
      linarith

theorem routeHi_route (S : Space) (tw : WEdge → K) (hw : ∀ e ∈ S.edges, tw e ≤ (e.whi : K)) (t : Nat)
    (path : List Nat) (prev : Option Nat) (v : Nat) (hi : Rat) (hh : path.head? = some v)
    (hl : path.getLast? = some t) (hp : routeHi S prev path = some hi) :
    ∃ c, Route S tw t prev v c ∧ c ≤ (hi : K) := by
  fun_induction routeHi S prev path generalizing v hi with
  | case1 => cases hh
  | case2 prev x =>
    obtain rfl := Option.some.inj hh
    obtain rfl := Option.some.inj hl
    obtain rfl := Option.some.inj hp
    exact ⟨0, Route.done prev, by simp⟩
  | case3 prev x y rest e c' hrec hfe hadm ih =>
    obtain rfl := Option.some.inj hh
    obtain rfl := Option.some.inj hp
    obtain ⟨heE, rfl, rfl⟩ := findEdge_some S.edges _ _ e hfe
    obtain ⟨c, hroute, hc⟩ := ih e.v c' rfl (by simpa [List.getLast?_cons_cons] using hl) hrec
    refine ⟨_, Route.step prev e c heE hadm hroute, ?_⟩
    rw [Rat.cast_add, Rat.cast_add, Rat.cast_mul, Rat.cast_natCast]
    exact add_le_add (add_le_add_left (hw e heE) _) hc
  | case4 | case5 => cases hp

end AdaptaVerif.Lemmas.OwnGraph
