/-
Lagrange multipliers on the active forest of the IncSolver model (for property C02).

For an active constraint `j` the multiplier is the sum of `q x = 2·w_x·(pos_x − d_x)/s_x` over the
variables on the right-hand side of `j` in the active tree (`mult`).  In a state satisfying the
block invariant whose blocks sit at their stationary position (`Σ_{x ∈ block} q x = 0`, which is
what `posn = (AD − AB)/A2` means), these multipliers satisfy the stationarity equation at every
variable:  `q v = Σ_{active j, r_j = v} mult j − Σ_{active j, l_j = v} mult j`.

Everything rests on one decomposition of the active tree (`side_decomp`): what hangs on `v` when its
parent constraint is cut is `v` itself plus what lies beyond each child constraint.  Stationarity is
its root case; `Block::compute_dfdv` (Lemmas/VpscKktDfdv.lean) follows it call by call.
-/
import AdaptaVerif.Lemmas.VpscLoop
import AdaptaVerif.Lemmas.Qp
namespace AdaptaVerif.Lemmas.VpscKkt
open AdaptaVerif.Model.Vpsc
open AdaptaVerif.Lemmas.VpscGraph AdaptaVerif.Lemmas.VpscInv AdaptaVerif.Lemmas.VpscWalk
open AdaptaVerif.Lemmas.VpscLoop (forest_of_inv)
open AdaptaVerif.Lemmas.VpscTraverse (farEnd sg)
open AdaptaVerif.Spec.Qp (sumTo)
open AdaptaVerif.Lemmas.Qp
open Relation Classical

/-- sum of `q` over the variables connected to `y` without using constraint `j` -/
noncomputable def sideSum (cons : Array Con) (n : Nat) (q : Nat → Rat) (j y : Nat) : Rat :=
  sumTo n (fun x => if ReachAvoid cons j y x then q x else 0)

noncomputable def blockSum (vars : Array Var) (q : Nat → Rat) (b : Nat) : Rat :=
  sumTo vars.size (fun x => if blk vars x = b then q x else 0)

/-- the multiplier of constraint `j`: the `q`-sum of the right-hand side of `j` in the active tree
    (0 for constraints that are not active) -/
noncomputable def mult (cons : Array Con) (n : Nat) (q : Nat → Rat) (j : Nat) : Rat :=
  if (cons[j]!).active = true then sideSum cons n q j (cons[j]!).r else 0

variable {vars : Array Var} {cons : Array Con} {nb : Nat} {ia : Array Nat}

theorem sideSum_add (h : InvC vars cons nb ia) (q : Nat → Rat) (j : Nat) (hj : j < cons.size)
    (ha : (cons[j]!).active = true) :
    sideSum cons vars.size q j (cons[j]!).r + sideSum cons vars.size q j (cons[j]!).l =
      blockSum vars q (blk vars (cons[j]!).r) := by
  unfold sideSum blockSum
  rw [← sumTo_add]
  refine sumTo_congr fun x hx => ?_
  by_cases hb : blk vars x = blk vars (cons[j]!).r
  · rw [if_pos hb]
    rcases side_cases h j hj ha x hx hb with ⟨h1, h2⟩ | ⟨h1, h2⟩
    · rw [if_pos h1, if_neg h2, add_zero]
    · rw [if_pos h1, if_neg h2, zero_add]
  · have h1 : ¬ ReachAvoid cons j (cons[j]!).r x := fun hh => hb (h.reach_blk hh).symm
    have h2 : ¬ ReachAvoid cons j (cons[j]!).l x := fun hh =>
      hb ((h.reach_blk hh).symm.trans (h.tight j hj ha).1)
    rw [if_neg hb, if_neg h1, if_neg h2, add_zero]

theorem walk_nil_eq' {cons : Array Con} {x y : Nat} (h : Walk cons x y []) : x = y :=
  walk_nil_eq h

/-- `x` lies beyond the active constraint `j` as seen from `v` -/
def Beyond (cons : Array Con) (v j x : Nat) : Prop :=
  ∃ y, AE cons j v y ∧ ReachAvoid cons j y x

theorem beyond_unique (h : InvC vars cons nb ia) (v x : Nat) (hv : v < vars.size) (hx : x < vars.size)
    (hb : blk vars x = blk vars v) (hne : x ≠ v) :
    ∃ j0, j0 < cons.size ∧ Beyond cons v j0 x ∧ ∀ j, Beyond cons v j x → j = j0 := by
  have hf := forest_of_inv h
  obtain ⟨W, hW, hnb⟩ := exists_nb_walk (h.conn v x hv hx hb.symm)
  have hnd := Walk.nodup hf hW hnb
  cases hW with
  | nil => exact absurd rfl hne
  | @cons j0 a y c rest hae hrest =>
    have havoid : ∀ s ∈ rest, s.1 ≠ j0 := by
      intro s hs heq
      rw [List.map_cons, List.nodup_cons] at hnd
      exact hnd.1 (by rw [← heq]; exact List.mem_map.2 ⟨s, hs, rfl⟩)
    have hy : ReachAvoid cons j0 y x := Walk.reachAvoid hrest havoid
    refine ⟨j0, hae.1, ⟨y, hae, hy⟩, ?_⟩
    intro j ⟨y', hae', hy'⟩
    by_contra hjne
    rcases reach_cut hae hy' with h1 | ⟨h1, _⟩ | ⟨_, h2⟩
    · -- y' ~ x avoiding both, x ~ y avoiding j0, and v –j– y' : v ~ y avoiding j0
      exact hf _ _ _ hae (ReflTransGen.head ⟨j, hjne, hae'⟩ ((avoid_snd h1).trans hy.symm))
    · exact hf _ _ _ hae' (ReachAvoid.symm (avoid_fst h1))
    · exact hf _ _ _ hae ((avoid_snd h2).trans hy.symm)

noncomputable def beyondSum (cons : Array Con) (n : Nat) (q : Nat → Rat) (v j : Nat) : Rat :=
  sumTo n (fun x => if Beyond cons v j x then q x else 0)

theorem beyondSum_of_ae (h : InvC vars cons nb ia) (n : Nat) (q : Nat → Rat) {v j y : Nat}
    (hae : AE cons j v y) : beyondSum cons n q v j = sideSum cons n q j y := by
  refine sumTo_congr fun x _ => if_congr ⟨?_, fun hy => ⟨y, hae, hy⟩⟩ rfl rfl
  rintro ⟨y', hae', hy'⟩
  rcases ae_ends hae hae' with ⟨_, rfl⟩ | ⟨rfl, _⟩
  · exact hy'
  · exact absurd ReflTransGen.refl (forest_of_inv h _ _ _ hae)

theorem beyondSum_eq_zero (n : Nat) (q : Nat → Rat) {v j : Nat} (hno : ∀ y, ¬ AE cons j v y) :
    beyondSum cons n q v j = 0 :=
  sumTo_eq_zero fun _ _ => if_neg fun ⟨y, hae, _⟩ => hno y hae

/-- how a vertex `v` is attached to the rest of its tree when the tree is walked from a root: `v` is
    the root (`u = none`, `e` a dummy index beyond all constraints) or was reached from `u'` along the
    active constraint `e` -/
def Par (cons : Array Con) (e : Nat) (u : Option Nat) (v : Nat) : Prop :=
  (u = none ∧ cons.size ≤ e) ∨ (∃ u', u = some u' ∧ AE cons e u' v)

theorem reachAvoid_of_le {e a b : Nat} (he : cons.size ≤ e) (hab : ReflTransGen (Adj (fun _ => True) cons) a b) :
    ReachAvoid cons e a b :=
  rtg_mono (fun _ _ ⟨k, _, hk⟩ => ⟨k, fun hke => absurd hk.1 (by omega), hk⟩) hab

theorem sideSum_root (h : InvC vars cons nb ia) (q : Nat → Rat) {e v : Nat} (he : cons.size ≤ e)
    (hv : v < vars.size) : sideSum cons vars.size q e v = blockSum vars q (blk vars v) := by
  refine sumTo_congr fun x hx => if_congr ⟨fun hr => (h.reach_blk hr).symm, fun hb => ?_⟩ rfl rfl
  exact reachAvoid_of_le he (h.conn v x hv hx hb.symm)

theorem beyond_to_side (h : InvC vars cons nb ia) {e : Nat} {u : Option Nat} {v j y x : Nat}
    (hp : Par cons e u v) (hae : AE cons j v y) (hje : j ≠ e) (hy : ReachAvoid cons j y x) :
    ReachAvoid cons e v x := by
  have hf := forest_of_inv h
  rcases hp with ⟨_, hbig⟩ | ⟨u', _, hpe⟩
  · exact ReflTransGen.head ⟨j, hje, hae⟩ (reachAvoid_of_le hbig hy.toReach)
  · rcases reach_cut hpe hy with h1 | ⟨_, h2⟩ | ⟨h1, _⟩
    · exact ReflTransGen.head ⟨j, hje, hae⟩ (avoid_snd h1)
    · exact avoid_snd h2
    · exact absurd (ReachAvoid.symm (avoid_fst h1)) (hf _ _ _ hae)

theorem child_pick (h : InvC vars cons nb ia) {e : Nat} {u : Option Nat} {v : Nat}
    (hp : Par cons e u v) (hv : v < vars.size) (c : Rat) (x : Nat) (hx : x < vars.size) :
    sumTo cons.size (fun j => if j ≠ e ∧ Beyond cons v j x then c else 0) =
      if ReachAvoid cons e v x ∧ x ≠ v then c else 0 := by
  have hf := forest_of_inv h
  by_cases hc : ReachAvoid cons e v x ∧ x ≠ v
  · rw [if_pos hc]
    obtain ⟨j0, hj0, hb0, hu⟩ := beyond_unique h v x hv hx (h.reach_blk hc.1).symm hc.2
    have hj0e : j0 ≠ e := by
      rintro rfl
      obtain ⟨y, hae, hy⟩ := hb0
      exact hf _ _ _ hae (hc.1.trans hy.symm)
    exact sumTo_ite_unique c hj0 ⟨hj0e, hb0⟩ fun j _ hj => hu j hj.2
  · rw [if_neg hc]
    refine sumTo_eq_zero fun j _ => if_neg fun ⟨hje, y, hae, hy⟩ => hc ⟨beyond_to_side h hp hae hje hy, ?_⟩
    rintro rfl
    exact hf _ _ _ hae hy.symm

theorem side_decomp (h : InvC vars cons nb ia) (q : Nat → Rat) {e : Nat} {u : Option Nat} {v : Nat}
    (hp : Par cons e u v) (hv : v < vars.size) :
    sideSum cons vars.size q e v =
      q v + sumTo cons.size (fun j => if j ≠ e then beyondSum cons vars.size q v j else 0) := by
  have h1 : ∀ j, j < cons.size → (if j ≠ e then beyondSum cons vars.size q v j else 0) =
      sumTo vars.size (fun x => if j ≠ e ∧ Beyond cons v j x then q x else 0) := by
    intro j _
    by_cases hje : j ≠ e
    · rw [if_pos hje]
      exact sumTo_congr fun x _ => if_congr (and_iff_right hje).symm rfl rfl
    · rw [if_neg hje]
      exact (sumTo_eq_zero fun _ _ => if_neg fun hh => hje hh.1).symm
  rw [sumTo_congr h1, sumTo_comm, sumTo_congr fun x hx => child_pick h hp hv (q x) x hx]
  have h2 : ∀ x, x < vars.size → (if ReachAvoid cons e v x then q x else 0) =
      (if v = x then q x else 0) + (if ReachAvoid cons e v x ∧ x ≠ v then q x else 0) := by
    intro x _
    by_cases hxv : v = x
    · subst hxv
      simp [show ReachAvoid cons e v v from ReflTransGen.refl]
    · simp [hxv, Ne.symm hxv]
  unfold sideSum
  rw [sumTo_congr h2, sumTo_add, sumTo_ite, if_pos hv]

theorem mult_of_active {n : Nat} {q : Nat → Rat} {j : Nat} (ha : (cons[j]!).active = true) :
    mult cons n q j = sideSum cons n q j (cons[j]!).r := if_pos ha

theorem mult_eq_neg_left (h : InvC vars cons nb ia) (q : Nat → Rat) (hstat : ∀ b, blockSum vars q b = 0)
    {j : Nat} (hj : j < cons.size) (ha : (cons[j]!).active = true) :
    mult cons vars.size q j = - sideSum cons vars.size q j (cons[j]!).l := by
  rw [mult_of_active ha]
  exact eq_neg_of_add_eq_zero_left ((sideSum_add h q j hj ha).trans (hstat _))

theorem mult_far (h : InvC vars cons nb ia) (q : Nat → Rat) (hstat : ∀ b, blockSum vars q b = 0)
    {ci : Nat} (hci : ci < cons.size) (ha : (cons[ci]!).active = true) (fwd : Bool) :
    mult cons vars.size q ci = sg fwd (sideSum cons vars.size q ci (farEnd fwd cons[ci]!)) := by
  cases fwd
  · exact mult_eq_neg_left h q hstat hci ha
  · exact mult_of_active ha

theorem term_eq (h : InvC vars cons nb ia) (q : Nat → Rat)
    (hstat : ∀ b, blockSum vars q b = 0) (v j : Nat) (hj : j < cons.size) :
    (if (cons[j]!).active = true ∧ (cons[j]!).l = v then mult cons vars.size q j else 0) -
    (if (cons[j]!).active = true ∧ (cons[j]!).r = v then mult cons vars.size q j else 0) =
    beyondSum cons vars.size q v j := by
  by_cases hl : (cons[j]!).active = true ∧ (cons[j]!).l = v
  · have hae : AE cons j v (cons[j]!).r := ⟨hj, hl.1, Or.inl ⟨hl.2, rfl⟩⟩
    have hr : ¬ ((cons[j]!).active = true ∧ (cons[j]!).r = v) := fun hr =>
      forest_of_inv h _ _ _ hae (hr.2 ▸ ReflTransGen.refl)
    rw [if_pos hl, if_neg hr, beyondSum_of_ae h _ q hae, mult_of_active hl.1, sub_zero]
  · rw [if_neg hl]
    by_cases hr : (cons[j]!).active = true ∧ (cons[j]!).r = v
    · rw [if_pos hr, beyondSum_of_ae h _ q ⟨hj, hr.1, Or.inr ⟨rfl, hr.2⟩⟩,
        mult_eq_neg_left h q hstat hj hr.1, zero_sub, neg_neg]
    · rw [if_neg hr, sub_zero, beyondSum_eq_zero]
      rintro y ⟨_, ha, ⟨e, _⟩ | ⟨_, e⟩⟩
      · exact hl ⟨ha, e⟩
      · exact hr ⟨ha, e⟩

theorem mult_stationary (h : InvC vars cons nb ia) (q : Nat → Rat)
    (hstat : ∀ b, blockSum vars q b = 0) (v : Nat) (hv : v < vars.size) :
    sumTo cons.size (fun j => if (cons[j]!).active = true ∧ (cons[j]!).r = v
        then mult cons vars.size q j else 0) -
    sumTo cons.size (fun j => if (cons[j]!).active = true ∧ (cons[j]!).l = v
        then mult cons vars.size q j else 0) = q v := by
  have hd := side_decomp h q (Or.inl ⟨rfl, le_refl cons.size⟩) hv
  rw [sideSum_root h q (le_refl _) hv, hstat,
    sumTo_congr fun j hj => (if_pos (Nat.ne_of_lt hj)).trans (term_eq h q hstat v j hj).symm,
    sumTo_sub] at hd
  exact (neg_sub _ _).symm.trans (neg_eq_of_add_eq_zero_left hd.symm)

end AdaptaVerif.Lemmas.VpscKkt
