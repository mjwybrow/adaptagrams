/-
Lemmas about `Model/NudgeSegs.lean` (segment construction for nudging).  Every limit of that model is a running maximum /
minimum over a list; each such loop is characterised once by the bounds of its result (`Util.foldl_and`, the generic step, also
used by Lemmas/FinalSegLimits.lean), and containment of the position and independence
of the order of the list are read off the characterisation.
Then the scan-line part (`buildOrthogonalChannelInfo`): the side reported by `firstObstacleAbove/Below` belongs to an
obstacle of the active set; every bound the sweep applies is a side of a scan obstacle that lies on that side of the
segment and whose extent meets the segment's extent; the sweep only tightens limits, never past the segment's position.
(Core Lean only, like the model.)
-/
import AdaptaVerif.Model.NudgeSegs
import AdaptaVerif.Lemmas.Util.Fold
namespace AdaptaVerif.Lemmas.NudgeSegs
open AdaptaVerif.Model.NudgeSegs

theorem eq_of_le_iff {x y : Rat} (h : ∀ B, x ≤ B ↔ y ≤ B) : x = y :=
  Rat.le_antisymm ((h y).2 Rat.le_refl) ((h x).1 Rat.le_refl)

theorem eq_of_ge_iff {x y : Rat} (h : ∀ B, B ≤ x ↔ B ≤ y) : x = y :=
  Rat.le_antisymm ((h x).1 Rat.le_refl) ((h y).2 Rat.le_refl)

-- core has no `Std.LawfulOrderMax Rat` (Mathlib has), so `Util.foldl_max_le_iff` does not apply in this file
theorem foldl_max_le_iff (l : List Rat) (a B : Rat) : l.foldl max a ≤ B ↔ a ≤ B ∧ ∀ x ∈ l, x ≤ B :=
  Util.foldl_and max (· ≤ B) (· ≤ B) (fun a x => by grind) l a

theorem le_foldl_min_iff (l : List Rat) (a B : Rat) : B ≤ l.foldl min a ↔ B ≤ a ∧ ∀ x ∈ l, B ≤ x :=
  Util.foldl_and min (B ≤ ·) (B ≤ ·) (fun a x => by grind) l a

theorem mem_le_foldl_max (l : List Rat) (a x : Rat) (hx : x ∈ l) : x ≤ l.foldl max a :=
  ((foldl_max_le_iff l a _).1 Rat.le_refl).2 x hx

theorem foldl_min_le_mem (l : List Rat) (a x : Rat) (hx : x ∈ l) : l.foldl min a ≤ x :=
  ((le_foldl_min_iff l a _).1 Rat.le_refl).2 x hx

theorem cpLimits_lo_le_iff (dim : Nat) (p : Rat) (cps : List Pt) (acc : Rat × Rat) (B : Rat) :
    (cpLimits dim p cps acc).1 ≤ B ↔ acc.1 ≤ B ∧ ∀ cp ∈ cps, cp.c dim < p → cp.c dim ≤ B := by
  unfold cpLimits
  -- `(… :)`: elaborated without the expected type, which the unifier cannot propagate into `Q (foldl f s l)` with `f` still
  -- unknown and gives up on only after unfolding `≤` on `Rat`
  refine (Util.foldl_and _ (fun a => a.1 ≤ B) (fun cp => cp.c dim < p → cp.c dim ≤ B) (fun a cp => ?_) cps acc :)
  grind

theorem cpLimits_le_hi_iff (dim : Nat) (p : Rat) (cps : List Pt) (acc : Rat × Rat) (B : Rat) :
    B ≤ (cpLimits dim p cps acc).2 ↔ B ≤ acc.2 ∧ ∀ cp ∈ cps, p < cp.c dim → B ≤ cp.c dim := by
  unfold cpLimits
  refine (Util.foldl_and _ (fun a => B ≤ a.2) (fun cp => p < cp.c dim → B ≤ cp.c dim) (fun a cp => ?_) cps acc :)
  split
  · exact ⟨fun h => ⟨h, fun h' => absurd h' (by grind)⟩, fun h => h.1⟩
  · split <;> grind

theorem cpLimits_congr (dim : Nat) (p : Rat) (l l' : List Pt) (acc : Rat × Rat) (h : ∀ cp, cp ∈ l ↔ cp ∈ l') :
    cpLimits dim p l acc = cpLimits dim p l' acc :=
  Prod.ext (eq_of_le_iff fun B => by simp only [cpLimits_lo_le_iff, h])
    (eq_of_ge_iff fun B => by simp only [cpLimits_le_hi_iff, h])

/-- the two `for cp` loops are one loop over both lists -/
theorem cpLimits_append (dim : Nat) (p : Rat) (l1 l2 : List Pt) (acc : Rat × Rat) :
    cpLimits dim p l2 (cpLimits dim p l1 acc) = cpLimits dim p (l1 ++ l2) acc := (List.foldl_append ..).symm

end AdaptaVerif.Lemmas.NudgeSegs

namespace AdaptaVerif.Lemmas.NudgeSegsChannel
open AdaptaVerif.Model.NudgeSegs AdaptaVerif.Lemmas.NudgeSegs

theorem foldl_best_val {α : Type} (val : α → Rat) (f : Option (Rat × Rat) → α → Option (Rat × Rat))
    (hf : ∀ best x b, f best x = some b → b.2 = val x ∨ ∃ b', best = some b' ∧ b.2 = b'.2) :
    ∀ (l : List α) (best : Option (Rat × Rat)) (b : Rat × Rat), l.foldl f best = some b →
      (∃ x ∈ l, b.2 = val x) ∨ ∃ b', best = some b' ∧ b.2 = b'.2 := by
  intro l
  induction l with
  | nil => intro best b h; exact Or.inr ⟨b, h, rfl⟩
  | cons x xs ih =>
    intro best b h
    rcases ih (f best x) b h with ⟨y, hy, e⟩ | ⟨b', hb', e⟩
    · exact Or.inl ⟨y, List.mem_cons_of_mem _ hy, e⟩
    · rcases hf best x b' hb' with e' | ⟨b'', hb'', e'⟩
      · exact Or.inl ⟨x, List.mem_cons_self, e.trans e'⟩
      · exact Or.inr ⟨b'', hb'', e.trans e'⟩

/-- the step of `firstAbove` / `firstBelow` (`c` = the new obstacle is nearer) -/
theorem best_step_val (c : Prop) [Decidable c] (tie : Bool) (m v k w : Rat) (b : Rat × Rat)
    (h : (if c then some (k, w) else if m = k then some (m, if tie then max v w else min v w) else some (m, v)) = some b) :
    b.2 = w ∨ b.2 = v := by
  split at h
  · cases h; exact Or.inl rfl
  · split at h
    · cases h
      cases tie
      · simp only [Bool.false_eq_true, if_false]; grind
      · simp only [if_true]; grind
    · cases h; exact Or.inr rfl

theorem firstAbove_spec (tie : Bool) (act : List SO) (p v : Rat) (h : firstAbove tie act p = some v) :
    ∃ o ∈ act, o.mx ≤ p ∧ o.mid < p ∧ v = o.mx := by
  unfold firstAbove at h
  obtain ⟨b, hb, rfl⟩ := Option.map_eq_some_iff.1 h
  rcases foldl_best_val (·.mx) _ (fun best x b hb => by
      rcases best with _ | ⟨m, v⟩
      · cases hb; exact Or.inl rfl
      · exact (best_step_val _ tie m v x.mid x.mx b hb).imp_right fun e => ⟨_, rfl, e⟩) _ none b hb
    with ⟨o, ho, e⟩ | ⟨_, h0, _⟩
  · simp only [List.mem_filter, Bool.and_eq_true, decide_eq_true_eq] at ho
    exact ⟨o, ho.1, ho.2.2, ho.2.1, e⟩
  · cases h0

theorem firstBelow_spec (tie : Bool) (act : List SO) (p v : Rat) (h : firstBelow tie act p = some v) :
    ∃ o ∈ act, p ≤ o.mn ∧ p < o.mid ∧ v = o.mn := by
  unfold firstBelow at h
  obtain ⟨b, hb, rfl⟩ := Option.map_eq_some_iff.1 h
  rcases foldl_best_val (·.mn) _ (fun best x b hb => by
      rcases best with _ | ⟨m, v⟩
      · cases hb; exact Or.inl rfl
      · exact (best_step_val _ tie m v x.mid x.mn b hb).imp_right fun e => ⟨_, rfl, e⟩) _ none b hb
    with ⟨o, ho, e⟩ | ⟨_, h0, _⟩
  · simp only [List.mem_filter, Bool.and_eq_true, decide_eq_true_eq] at ho
    exact ⟨o, ho.1, ho.2.2, ho.2.1, e⟩
  · cases h0

theorem scanMinBounds_mem (tie : Bool) (so : List SO) (p lo hi x : Rat) (hx : x ∈ scanMinBounds tie so p lo hi) :
    ∃ o ∈ so, x = o.mx ∧ o.mx ≤ p ∧
      ((act4 lo o = true ∨ act1 hi o = true) ∨ (lo ≤ o.amin ∧ o.amin < hi) ∨ (lo < o.amax ∧ o.amax ≤ hi)) := by
  simp only [scanMinBounds, List.mem_append, Option.mem_toList, List.mem_map, List.mem_filter, Bool.and_eq_true,
    decide_eq_true_eq, reachedBelow] at hx
  rcases hx with ((h | h) | ⟨v, ⟨hv, hc, hr, _⟩, rfl⟩) | ⟨v, ⟨hv, hc, hr, _⟩, rfl⟩
  · obtain ⟨o, ho, h1, _, h3⟩ := firstAbove_spec tie _ p x h
    exact ⟨o, (List.mem_filter.1 ho).1, h3, h1, Or.inl (Or.inl (List.mem_filter.1 ho).2)⟩
  · obtain ⟨o, ho, h1, _, h3⟩ := firstAbove_spec tie _ p x h
    exact ⟨o, (List.mem_filter.1 ho).1, h3, h1, Or.inl (Or.inr (List.mem_filter.1 ho).2)⟩
  · exact ⟨v, hv, rfl, hr, Or.inr (Or.inl hc)⟩
  · exact ⟨v, hv, rfl, hr, Or.inr (Or.inr hc)⟩

theorem scanMaxBounds_mem (tie : Bool) (so : List SO) (p lo hi x : Rat) (hx : x ∈ scanMaxBounds tie so p lo hi) :
    ∃ o ∈ so, x = o.mn ∧ p ≤ o.mn ∧
      ((act4 lo o = true ∨ act1 hi o = true) ∨ (lo ≤ o.amin ∧ o.amin < hi) ∨ (lo < o.amax ∧ o.amax ≤ hi)) := by
  simp only [scanMaxBounds, List.mem_append, Option.mem_toList, List.mem_map, List.mem_filter, Bool.and_eq_true,
    decide_eq_true_eq, reachedAbove] at hx
  rcases hx with ((h | h) | ⟨v, ⟨hv, hc, hr, _⟩, rfl⟩) | ⟨v, ⟨hv, hc, hr, _⟩, rfl⟩
  · obtain ⟨o, ho, h1, _, h3⟩ := firstBelow_spec tie _ p x h
    exact ⟨o, (List.mem_filter.1 ho).1, h3, h1, Or.inl (Or.inl (List.mem_filter.1 ho).2)⟩
  · obtain ⟨o, ho, h1, _, h3⟩ := firstBelow_spec tie _ p x h
    exact ⟨o, (List.mem_filter.1 ho).1, h3, h1, Or.inl (Or.inr (List.mem_filter.1 ho).2)⟩
  · exact ⟨v, hv, rfl, hr, Or.inr (Or.inl hc)⟩
  · exact ⟨v, hv, rfl, hr, Or.inr (Or.inr hc)⟩

theorem scan_extent_meets (lo hi : Rat) (o : SO) (hlh : lo ≤ hi) (hwf : o.amin ≤ o.amax)
    (h : (act4 lo o = true ∨ act1 hi o = true) ∨ (lo ≤ o.amin ∧ o.amin < hi) ∨ (lo < o.amax ∧ o.amax ≤ hi)) :
    o.amin ≤ hi ∧ lo ≤ o.amax := by
  simp only [act4, act1, Bool.and_eq_true, decide_eq_true_eq] at h
  grind

theorem withChannel_tightens (tie : Bool) (so : List SO) (s : MSeg) :
    s.seg.minLim ≤ (withChannel tie so s).seg.minLim ∧ (withChannel tie so s).seg.maxLim ≤ s.seg.maxLim :=
  ⟨((foldl_max_le_iff _ _ _).1 Rat.le_refl).1, ((le_foldl_min_iff _ _ _).1 Rat.le_refl).1⟩

theorem withChannel_contains_pos (tie : Bool) (so : List SO) (s : MSeg)
    (h : s.seg.minLim ≤ s.seg.pos ∧ s.seg.pos ≤ s.seg.maxLim) :
    (withChannel tie so s).seg.minLim ≤ (withChannel tie so s).seg.pos ∧
      (withChannel tie so s).seg.pos ≤ (withChannel tie so s).seg.maxLim :=
  ⟨(foldl_max_le_iff _ _ _).2 ⟨h.1, fun x hx => by
      obtain ⟨o, _, rfl, h1, _⟩ := scanMinBounds_mem tie so _ _ _ x hx
      exact h1⟩,
    (le_foldl_min_iff _ _ _).2 ⟨h.2, fun x hx => by
      obtain ⟨o, _, rfl, h1, _⟩ := scanMaxBounds_mem tie so _ _ _ x hx
      exact h1⟩⟩

theorem withChannel_rest (tie : Bool) (so : List SO) (s : MSeg) :
    (withChannel tie so s).idxLow = s.idxLow ∧ (withChannel tie so s).idxHigh = s.idxHigh ∧
    { (withChannel tie so s).seg with minLim := s.seg.minLim, maxLim := s.seg.maxLim } = s.seg := by
  simp [withChannel]

end AdaptaVerif.Lemmas.NudgeSegsChannel
