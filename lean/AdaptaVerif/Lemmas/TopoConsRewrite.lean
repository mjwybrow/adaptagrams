/-
The two rewrites of `Model/TopoCons` (`bendSatisfy` = BendConstraint::satisfy, `straightSatisfy` =
StraightConstraint::satisfy): what they do to the path, to the StraightConstraint lists, and why
they keep the side of every node w.r.t. every edge.
-/
import AdaptaVerif.Model.TopoCons
import AdaptaVerif.Check.Topo
import AdaptaVerif.Lemmas.Topo
import AdaptaVerif.Lemmas.TopoConsGen
import Mathlib.Tactic.Linarith
import Mathlib.Tactic.Ring
import Mathlib.Tactic.FieldSimp
import Mathlib.Algebra.Order.Field.Rat
namespace AdaptaVerif.Lemmas.TopoConsRewrite
open AdaptaVerif.Model.TopoCons AdaptaVerif.Model.TopoTransfer
open AdaptaVerif.Check.Topo AdaptaVerif.Lemmas.Topo
open AdaptaVerif.Lemmas.TopoConsGen (createStraight_some cornerFor_lt_four)

theorem bendSatisfy_lookups {d : Nat} {st st' : EdgeSt} {i : Nat} (h : bendSatisfy d st i = some st') :
    0 < i ∧ ∃ u v w, st.pts[i - 1]? = some u ∧ st.pts[i]? = some v ∧ st.pts[i + 1]? = some w := by
  unfold bendSatisfy at h
  by_cases hi : i = 0
  · simp [hi] at h
  · rw [if_neg hi] at h
    refine ⟨Nat.pos_of_ne_zero hi, ?_⟩
    cases hu : st.pts[i - 1]? with
    | none => simp [hu] at h
    | some u =>
      cases hv : st.pts[i]? with
      | none => simp [hu, hv] at h
      | some v =>
        cases hw : st.pts[i + 1]? with
        | none => simp [hu, hv, hw] at h
        | some w => exact ⟨u, v, w, rfl, rfl, rfl⟩

theorem bendSatisfy_eq {d : Nat} {st st' : EdgeSt} {i : Nat} {u v w : EPt}
    (h : bendSatisfy d st i = some st')
    (hu : st.pts[i - 1]? = some u) (hv : st.pts[i]? = some v) (hw : st.pts[i + 1]? = some w) :
    st' = { st with
      pts := st.pts.eraseIdx i
      scs := st.scs.take (i - 1) ++
        [((st.scs.getD (i - 1) []) ++ (st.scs.getD i [])).filterMap (transfer d ⟨st.id, i - 1, u, w⟩) ++
          (createStraight d ⟨st.id, i - 1, u, w⟩ v.node (v.pos (conj d))).toList] ++
        st.scs.drop (i + 1) } := by
  unfold bendSatisfy at h
  split at h
  · cases h
  · simp only [hu, hv, hw, Option.some.injEq] at h
    exact h.symm

/-- a 2 x 2 node with bottom left corner `(x, y)` -/
def exNode (id : Nat) (x y : Rat) : Node := ⟨id, ⟨x, x + 2, y, y + 2⟩⟩

-- non-vacuity: a three point path whose middle bend is pruned
example : bendSatisfy 0 ⟨7, [⟨exNode 0 0 0, 4⟩, ⟨exNode 1 8 10, 1⟩, ⟨exNode 2 20 20, 4⟩], [[], []]⟩ 1 =
    some ⟨7, [⟨exNode 0 0 0, 4⟩, ⟨exNode 2 20 20, 4⟩], [[⟨exNode 1 8 10, 1, 10, true, 9 / 20, -1⟩]]⟩ := by
  decide +kernel

/-- the other constraints of the split segment -/
def othersOf (st : EdgeSt) (j k : Nat) : List SC :=
  ((st.scs.getD j []).zipIdx.filter fun ci => ci.2 != k).map (·.1)

/-- `transferStraightConstraintChoose`: is `c'` sent to the first half `s1`? -/
def toFirstHalf (d : Nat) (s1 s2 : Seg) (c' : SC) : Bool :=
  destIsLeft d c'.ri c'.pos (if decide (s1.lo d < s2.hi d) then s1.hi d else s2.hi d)
    == decide (s1.lo d < s2.hi d)

theorem straightSatisfy_lookups {d : Nat} {st st' : EdgeSt} {j k : Nat}
    (h : straightSatisfy d st j k = some st') :
    ∃ a b c, st.pts[j]? = some a ∧ st.pts[j + 1]? = some b ∧ (st.scs.getD j [])[k]? = some c := by
  unfold straightSatisfy at h
  cases ha : st.pts[j]? with
  | none => simp [ha] at h
  | some a =>
    cases hb : st.pts[j + 1]? with
    | none => simp [ha, hb] at h
    | some b =>
      cases hc : (st.scs.getD j [])[k]? with
      | none => simp only [ha, hb, hc, reduceCtorEq] at h
      | some c => exact ⟨a, b, c, rfl, rfl, rfl⟩

theorem straightSatisfy_eq {d : Nat} {st st' : EdgeSt} {j k : Nat} {a b : EPt} {c : SC}
    (h : straightSatisfy d st j k = some st')
    (ha : st.pts[j]? = some a) (hb : st.pts[j + 1]? = some b) (hc : (st.scs.getD j [])[k]? = some c) :
    st' = { st with
      pts := st.pts.take (j + 1) ++ [⟨c.node, c.ri⟩] ++ st.pts.drop (j + 1)
      scs := st.scs.take j ++
        [((othersOf st j k).filter (toFirstHalf d ⟨st.id, j, a, ⟨c.node, c.ri⟩⟩
              ⟨st.id, j + 1, ⟨c.node, c.ri⟩, b⟩)).filterMap
            (transfer d ⟨st.id, j, a, ⟨c.node, c.ri⟩⟩),
         ((othersOf st j k).filter fun c' => !toFirstHalf d ⟨st.id, j, a, ⟨c.node, c.ri⟩⟩
              ⟨st.id, j + 1, ⟨c.node, c.ri⟩, b⟩ c').filterMap
            (transfer d ⟨st.id, j + 1, ⟨c.node, c.ri⟩, b⟩)] ++
        st.scs.drop (j + 1) } := by
  unfold straightSatisfy at h
  simp only [ha, hb, hc, Option.some.injEq] at h
  exact h.symm

theorem straightSatisfy_pts {d : Nat} {st st' : EdgeSt} {j k : Nat}
    (h : straightSatisfy d st j k = some st') :
    j + 1 < st.pts.length ∧ ∃ c, (st.scs.getD j [])[k]? = some c ∧
      st'.pts = st.pts.take (j + 1) ++ [⟨c.node, c.ri⟩] ++ st.pts.drop (j + 1) ∧ st'.id = st.id := by
  obtain ⟨a, b, c, ha, hb, hc⟩ := straightSatisfy_lookups h
  obtain rfl := straightSatisfy_eq h ha hb hc
  exact ⟨(List.getElem?_eq_some_iff.mp hb).1, c, hc, rfl, rfl⟩

/-- node 1 touches the only segment with its bottom right corner; the stored constraint is the one
    `createStraight` makes at the node's open event, and it is tight -/
def exSt : EdgeSt := ⟨7, [⟨exNode 0 0 0, 4⟩, ⟨exNode 2 20 20, 4⟩], [[⟨exNode 1 8 10, 1, 10, true, 9 / 20, -1⟩]]⟩

-- non-vacuity: that constraint is satisfied, the segment split at the corner
example : straightSatisfy 0 exSt 0 0 =
    some ⟨7, [⟨exNode 0 0 0, 4⟩, ⟨exNode 1 8 10, 1⟩, ⟨exNode 2 20 20, 4⟩], [[], []]⟩ := by decide +kernel

example : createStraight 0 ⟨7, 0, ⟨exNode 0 0 0, 4⟩, ⟨exNode 2 20 20, 4⟩⟩ (exNode 1 8 10) 10 =
    some ⟨exNode 1 8 10, 1, 10, true, 9 / 20, -1⟩ := by decide +kernel

example : gap 0 ⟨7, 0, ⟨exNode 0 0 0, 4⟩, ⟨exNode 2 20 20, 4⟩⟩ (exNode 1 8 10) 10 true = 0 := by
  decide +kernel

theorem crossesLine_ne {ac bc c : Rat} (h : crossesLine ac bc c = true) : ac ≠ bc := by
  unfold crossesLine at h
  simp only [Bool.or_eq_true, Bool.and_eq_true, decide_eq_true_eq] at h
  intro he
  rcases h with ⟨h1, h2⟩ | ⟨h1, h2⟩ <;> linarith

/-- putting the vertex `(vs,vc)` on the leg `(as,ac) - (bs,bc)` keeps every crossing of the scan
    line `c`: it crosses exactly one of the two parts iff it crossed the leg, and at the same place -/
def SplitKeeps (as ac bs bc vs vc c : Rat) : Prop :=
  (crossesLine ac bc c = true ↔ (crossesLine ac vc c = true ∨ crossesLine vc bc c = true)) ∧
  ¬ (crossesLine ac vc c = true ∧ crossesLine vc bc c = true) ∧
  (crossesLine ac vc c = true → crossingAt as ac vs vc c = crossingAt as ac bs bc c) ∧
  (crossesLine vc bc c = true → crossingAt vs vc bs bc c = crossingAt as ac bs bc c)

theorem between_of_param {a b t : Rat} (h0 : 0 ≤ t) (h1 : t ≤ 1) :
    (a ≤ a + t * (b - a) ∧ a + t * (b - a) ≤ b) ∨ (b ≤ a + t * (b - a) ∧ a + t * (b - a) ≤ a) := by
  rcases le_total a b with hle | hle
  · left
    have e1 : 0 ≤ t * (b - a) := mul_nonneg h0 (sub_nonneg.mpr hle)
    have e2 : 0 ≤ (1 - t) * (b - a) := mul_nonneg (sub_nonneg.mpr h1) (sub_nonneg.mpr hle)
    constructor <;> linarith
  · right
    have e1 : 0 ≤ t * (a - b) := mul_nonneg h0 (sub_nonneg.mpr hle)
    have e2 : 0 ≤ (1 - t) * (a - b) := mul_nonneg (sub_nonneg.mpr h1) (sub_nonneg.mpr hle)
    constructor <;> linarith

theorem crossingAt_first {as ac bs bc t : Rat} (c : Rat) (ht : t ≠ 0) :
    crossingAt as ac (as + t * (bs - as)) (ac + t * (bc - ac)) c = crossingAt as ac bs bc c := by
  unfold crossingAt
  rw [add_sub_cancel_left, add_sub_cancel_left, div_mul_eq_mul_div, div_mul_eq_mul_div,
    mul_left_comm, mul_div_mul_left _ _ ht]

theorem crossingAt_second {as ac bs bc t : Rat} (c : Rat) (ht : 1 - t ≠ 0) (hd : bc - ac ≠ 0) :
    crossingAt (as + t * (bs - as)) (ac + t * (bc - ac)) bs bc c = crossingAt as ac bs bc c := by
  unfold crossingAt
  have e1 : bc - (ac + t * (bc - ac)) = (1 - t) * (bc - ac) := by ring
  have e2 : bs - (as + t * (bs - as)) = (1 - t) * (bs - as) := by ring
  rw [e1, e2]
  field_simp
  ring

theorem splitKeeps_of_param {as ac bs bc vs vc t : Rat} (c : Rat) (h0 : 0 ≤ t) (h1 : t ≤ 1)
    (hne : ac ≠ bc) (hvs : vs = as + t * (bs - as)) (hvc : vc = ac + t * (bc - ac)) :
    SplitKeeps as ac bs bc vs vc c := by
  subst hvs hvc
  have hs := crossesLine_split ac _ bc c (between_of_param h0 h1)
  refine ⟨hs.1, hs.2, fun hx => crossingAt_first c ?_,
    fun hx => crossingAt_second c ?_ (sub_ne_zero.mpr hne.symm)⟩
  · rintro rfl
    exact crossesLine_ne hx (by ring)
  · intro he
    obtain rfl : t = 1 := by linarith
    exact crossesLine_ne hx (by ring)

/-- the corner `cornerFor` picks is read on any node `m` (the node the corner number was picked for, or
    that node after a move) -/
theorem cornerFor_pos (d : Nat) (n m : Node) (pos : Rat) (nl : Bool) :
    (⟨m, cornerFor d n pos nl⟩ : EPt).pos d = if nl then m.r.hi d else m.r.lo d := by
  unfold cornerFor EPt.pos Rect.hi Rect.lo
  by_cases hd : d = 0 <;> by_cases hp : pos < n.r.centre 1 <;> by_cases hq : pos < n.r.centre 0 <;>
    cases nl <;> simp [hd, hp, hq]

theorem centre_between {r : Rect} {d : Nat} (h : r.lo d < r.hi d) :
    r.lo d < r.centre d ∧ r.centre d < r.hi d := by
  unfold Rect.centre Rect.len
  constructor <;> linarith

theorem cornerFor_pos_conj (d : Nat) (n : Node) (pos : Rat) (nl : Bool)
    (hpos : pos = n.r.lo (conj d) ∨ pos = n.r.hi (conj d)) (hlt : n.r.lo (conj d) < n.r.hi (conj d)) :
    (⟨n, cornerFor d n pos nl⟩ : EPt).pos (conj d) = pos := by
  obtain ⟨hc1, hc2⟩ := centre_between hlt
  have hc2' := not_lt.mpr (le_of_lt hc2)
  by_cases hd : d = 0
  · subst hd
    have e : conj 0 = 1 := rfl
    rw [e] at hpos hc1 hc2' ⊢
    rcases hpos with rfl | rfl <;> cases nl <;> simp only [cornerFor, hc1, hc2', if_true, if_false, Bool.false_eq_true] <;>
      simp [EPt.pos, Rect.lo, Rect.hi]
  · have e : conj d = 0 := by unfold conj; rw [if_neg hd]
    rw [e] at hpos hc1 hc2' ⊢
    rcases hpos with rfl | rfl <;> cases nl <;> simp only [cornerFor, hd, hc1, hc2', if_true, if_false, Bool.false_eq_true] <;>
      simp [EPt.pos, Rect.lo, Rect.hi]

theorem created_bend_at_corner {d : Nat} {sg : Seg} {c : SC}
    (hcr : createStraight d sg c.node c.pos = some c) :
    c.ri < 4 ∧
    (⟨c.node, c.ri⟩ : EPt).pos d = (if c.nodeLeft then c.node.r.hi d else c.node.r.lo d) ∧
    ((c.pos = c.node.r.lo (conj d) ∨ c.pos = c.node.r.hi (conj d)) →
      c.node.r.lo (conj d) < c.node.r.hi (conj d) → (⟨c.node, c.ri⟩ : EPt).pos (conj d) = c.pos) := by
  obtain ⟨_, _, _, _, _, hri, _⟩ := createStraight_some hcr
  rw [hri]
  exact ⟨cornerFor_lt_four _ _ _ _, cornerFor_pos _ _ _ _ _, cornerFor_pos_conj _ _ _ _⟩

theorem facing_side_of_gap_zero {d : Nat} {sg : Seg} {n : Node} {pos : Rat} {nl : Bool}
    (h : gap d sg n pos nl = 0) : (if nl then n.r.hi d else n.r.lo d) = sg.inter d pos := by
  unfold gap at h
  cases nl <;> simp only [if_true, if_false, Bool.false_eq_true] at h ⊢ <;> linarith

theorem created_bend_on_segment {d : Nat} {sg : Seg} {c : SC}
    (hcr : createStraight d sg c.node c.pos = some c)
    (htight : gap d sg c.node c.pos c.nodeLeft = 0) :
    (⟨c.node, c.ri⟩ : EPt).pos d = sg.inter d c.pos := by
  rw [(created_bend_at_corner hcr).2.1]
  exact facing_side_of_gap_zero htight

theorem param_mem {sg : Seg} {d : Nat} {pos : Rat} (hpar : sg.parallel d = false)
    (hlo : sg.lo d ≤ pos) (hhi : pos ≤ sg.hi d) :
    0 ≤ sg.param d pos ∧ sg.param d pos ≤ 1 := by
  unfold Seg.parallel at hpar
  have hne : sg.s.pos (conj d) ≠ sg.e.pos (conj d) := by simpa using hpar
  unfold Seg.lo at hlo
  unfold Seg.hi at hhi
  unfold Seg.param
  rcases lt_or_gt_of_ne hne with hlt | hgt
  · rw [if_pos (le_of_lt hlt)] at hlo
    rw [if_neg (not_lt.mpr (le_of_lt hlt))] at hhi
    have hpos : 0 < sg.e.pos (conj d) - sg.s.pos (conj d) := by linarith
    exact ⟨div_nonneg (by linarith) (le_of_lt hpos), (div_le_one hpos).mpr (by linarith)⟩
  · rw [if_neg (not_le.mpr hgt)] at hlo
    rw [if_pos hgt] at hhi
    have hneg : sg.e.pos (conj d) - sg.s.pos (conj d) < 0 := by linarith
    exact ⟨div_nonneg_of_nonpos (by linarith) (le_of_lt hneg),
      (div_le_one_of_neg hneg).mpr (by linarith)⟩

theorem splitKeeps_on_segment {d : Nat} {sg : Seg} {pos vs vc : Rat} (hpar : sg.parallel d = false)
    (hlo : sg.lo d ≤ pos) (hhi : pos ≤ sg.hi d) (hvs : vs = sg.inter d pos) (hvc : vc = pos)
    (c0 : Rat) :
    SplitKeeps (sg.s.pos d) (sg.s.pos (conj d)) (sg.e.pos d) (sg.e.pos (conj d)) vs vc c0 := by
  obtain ⟨h0, h1⟩ := param_mem hpar hlo hhi
  have hne : sg.s.pos (conj d) ≠ sg.e.pos (conj d) := by
    unfold Seg.parallel at hpar; simpa using hpar
  refine splitKeeps_of_param (t := sg.param d pos) c0 h0 h1 hne hvs ?_
  rw [hvc]
  unfold Seg.param
  rw [div_mul_cancel₀ _ (sub_ne_zero.mpr hne.symm)]; ring

theorem splice_eq_insertIdx {α : Type} (x : α) : ∀ (l : List α) (n : Nat), n ≤ l.length →
    l.take n ++ [x] ++ l.drop n = l.insertIdx n x
  | _, 0, _ => rfl
  | [], n + 1, h => absurd h (by simp)
  | a :: l, n + 1, h => by
    rw [List.take_succ_cons, List.drop_succ_cons, List.insertIdx_succ_cons, List.cons_append,
      List.cons_append, splice_eq_insertIdx x l n (Nat.le_of_succ_le_succ h)]

theorem straightSatisfy_insertIdx {d : Nat} {st st' : EdgeSt} {j k : Nat} {c : SC}
    (h : straightSatisfy d st j k = some st') (hc : (st.scs.getD j [])[k]? = some c) :
    st'.pts = st.pts.insertIdx (j + 1) ⟨c.node, c.ri⟩ := by
  obtain ⟨hlen, c', hc', hp, _⟩ := straightSatisfy_pts h
  obtain rfl : c' = c := Option.some.inj (hc'.symm.trans hc)
  rw [hp]
  exact splice_eq_insertIdx _ _ _ (by omega)

theorem ends_eraseIdx {α : Type} {l : List α} {i : Nat} (hi : 0 < i) (hlt : i + 1 < l.length) :
    (l.eraseIdx i).head? = l.head? ∧ (l.eraseIdx i).getLast? = l.getLast? := by
  constructor
  · rw [List.head?_eq_getElem?, List.head?_eq_getElem?, List.getElem?_eraseIdx, if_pos hi]
  · rw [List.getLast?_eq_getElem?, List.length_eraseIdx, if_pos (show i < l.length by omega),
      List.getElem?_eraseIdx, if_neg (by omega), List.getLast?_eq_getElem?]
    congr 1; omega

theorem ends_insertIdx {α : Type} {l : List α} {i : Nat} (x : α) (hi : 0 < i) (hlt : i < l.length) :
    (l.insertIdx i x).head? = l.head? ∧ (l.insertIdx i x).getLast? = l.getLast? := by
  constructor
  · rw [List.head?_eq_getElem?, List.head?_eq_getElem?, List.getElem?_insertIdx_of_lt hi]
  · rw [List.getLast?_eq_getElem?, List.getLast?_eq_getElem?,
      List.length_insertIdx_of_le_length (le_of_lt hlt), List.getElem?_insertIdx_of_gt (by omega)]
    congr 1

theorem splice_take {α : Type} (l mid post : List α) (n : Nat) (hn : n ≤ l.length) :
    (l.take n ++ mid ++ post).take n = l.take n := by
  rw [List.append_assoc]
  exact List.take_left' (by rw [List.length_take]; omega)

theorem splice_drop {α : Type} (l mid post : List α) (n m : Nat) (hn : n ≤ l.length)
    (hm : m = n + mid.length) : (l.take n ++ mid ++ post).drop m = post := by
  exact List.drop_left' (by rw [List.length_append, List.length_take]; omega)

theorem splice_getD {α : Type} (l post : List α) (x : α) (ms : List α) (n : Nat) (hn : n ≤ l.length)
    (dflt : α) : (l.take n ++ (x :: ms) ++ post).getD n dflt = x := by
  rw [List.getD_eq_getElem?_getD, List.append_assoc,
    List.getElem?_append_right (by rw [List.length_take]; omega)]
  have e : n - (l.take n).length = 0 := by rw [List.length_take]; omega
  rw [e]; rfl

theorem splice_getD_succ {α : Type} (l post : List α) (x y : α) (ms : List α) (n : Nat)
    (hn : n ≤ l.length) (dflt : α) : (l.take n ++ (x :: y :: ms) ++ post).getD (n + 1) dflt = y := by
  rw [List.getD_eq_getElem?_getD, List.append_assoc,
    List.getElem?_append_right (by rw [List.length_take]; omega)]
  have e : n + 1 - (l.take n).length = 1 := by rw [List.length_take]; omega
  rw [e]; rfl

theorem splice_drop_succ {α : Type} (l : List α) (x : α) (n : Nat) :
    (l.take n ++ [x] ++ l.drop (n + 2)).drop (n + 1) = l.drop (n + 2) := by
  by_cases hn : n ≤ l.length
  · exact splice_drop _ _ _ _ _ hn rfl
  · rw [List.drop_eq_nil_of_le (by simp; omega), List.drop_eq_nil_of_le (by omega)]

theorem splice_getD_mem {α : Type} (l : List (List α)) (x : List α) (n : Nat) {c : α}
    (h : c ∈ (l.take n ++ [x] ++ l.drop (n + 2)).getD n []) : c ∈ x := by
  by_cases hn : n ≤ l.length
  · rwa [splice_getD _ _ _ _ _ hn] at h
  · rw [List.getD_eq_getElem?_getD, List.getElem?_eq_none (by simp; omega)] at h
    exact absurd h List.not_mem_nil

theorem createStraight_self {d : Nat} {sg : Seg} {n : Node} {pos : Rat} {c : SC}
    (h : createStraight d sg n pos = some c) : createStraight d sg c.node c.pos = some c := by
  obtain ⟨_, _, hn, hp, _⟩ := createStraight_some h
  rw [hn, hp]; exact h

theorem transfer_created {d : Nat} {sg : Seg} {c c' : SC} (h : transfer d sg c = some c') :
    createStraight d sg c'.node c'.pos = some c' := by
  unfold transfer at h
  split at h
  · cases h
  · exact createStraight_self h

theorem created_of_mem_filterMap_transfer {d : Nat} {sg : Seg} {l : List SC} {c : SC}
    (h : c ∈ l.filterMap (transfer d sg)) : createStraight d sg c.node c.pos = some c := by
  obtain ⟨_, _, ht⟩ := List.mem_filterMap.mp h
  exact transfer_created ht

theorem mem_othersOf {st : EdgeSt} {j k : Nat} {c' : SC} :
    c' ∈ othersOf st j k ↔ ∃ k', k' ≠ k ∧ (st.scs.getD j [])[k']? = some c' := by
  unfold othersOf
  simp only [List.mem_map, List.mem_filter, List.mem_zipIdx_iff_getElem?, bne_iff_ne, ne_eq]
  constructor
  · rintro ⟨⟨x, k'⟩, ⟨hx, hk⟩, rfl⟩
    exact ⟨k', hk, hx⟩
  · rintro ⟨k', hk, hx⟩
    exact ⟨(c', k'), ⟨hx, hk⟩, rfl⟩

theorem mem_others_filterMap {st : EdgeSt} {j k : Nat} (P : SC → Bool) (f : SC → Option SC) (c'' : SC) :
    c'' ∈ ((othersOf st j k).filter P).filterMap f ↔
      ∃ k' c', k' ≠ k ∧ (st.scs.getD j [])[k']? = some c' ∧ P c' = true ∧ f c' = some c'' := by
  rw [List.mem_filterMap]
  constructor
  · rintro ⟨c', hm, ht⟩
    obtain ⟨hm1, hm2⟩ := List.mem_filter.mp hm
    obtain ⟨k', hk', hg⟩ := mem_othersOf.mp hm1
    exact ⟨k', c', hk', hg, hm2, ht⟩
  · rintro ⟨k', c', hk', hg, hm2, ht⟩
    exact ⟨c', List.mem_filter.mpr ⟨mem_othersOf.mpr ⟨k', hk', hg⟩, hm2⟩, ht⟩

theorem toFirstHalf_def (d : Nat) (s1 s2 : Seg) (c' : SC) :
    toFirstHalf d s1 s2 c' =
      (destIsLeft d c'.ri c'.pos (if decide (s1.lo d < s2.hi d) then s1.hi d else s2.hi d)
        == decide (s1.lo d < s2.hi d)) := rfl

theorem lt_length_of_getD {α : Type} {l : List (List α)} {j k : Nat} {c : α}
    (hc : (l.getD j [])[k]? = some c) : j < l.length := by
  by_contra hn
  rw [List.getD_eq_getElem?_getD, List.getElem?_eq_none (Nat.le_of_not_lt hn)] at hc
  simp at hc

end AdaptaVerif.Lemmas.TopoConsRewrite
