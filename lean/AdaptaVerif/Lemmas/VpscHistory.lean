/-
History lemmas for the IncSolver model: the offset invariant (`OffsetInv`) and the linking invariant
(`Linked`) hold in the initial state and are preserved by `addConstraint`, by changing a desired
position, and by `merge`; `split` changes no offset (`split_offsets`): its marking traversal, one loop
over the darts of a variable (`darts`, `populateSplit_succ`), writes nothing but block ids (`OnlyBlock`,
`populateSplit_onlyBlock`).  The full invariant, of which these two are parts, is `InvC` of
VpscInv.lean.  `farEnd`/`nearEnd`, which every traversal of VpscTraverse.lean is written with, stand
here because the marking traversal needs them first.
-/
import AdaptaVerif.Lemmas.VpscModel
import AdaptaVerif.Lemmas.VpscFlag
import AdaptaVerif.Lemmas.Util.Array
namespace AdaptaVerif.Lemmas.VpscTraverse
open AdaptaVerif.Model.Vpsc

/-- every traversal of the active tree looks at the `out` constraints of a variable (`fwd`), following them
    to their right end, and at its `in` constraints, following them to their left end -/
def farEnd (fwd : Bool) (c : Con) : Nat := if fwd = true then c.r else c.l
def nearEnd (fwd : Bool) (c : Con) : Nat := if fwd = true then c.l else c.r

end AdaptaVerif.Lemmas.VpscTraverse

namespace AdaptaVerif.Lemmas.VpscHistory
open AdaptaVerif.Lemmas.VpscTraverse (farEnd nearEnd)
open AdaptaVerif.Model.Vpsc
open AdaptaVerif.Lemmas.VpscModel AdaptaVerif.Lemmas.VpscFlag

theorem linkCon_cons (st : St) (ci : Nat) (c : Con) : (st.linkCon ci c).cons = st.cons := rfl

theorem addConstraint_cons (st : St) (c : Con) :
    (st.addConstraint c).cons = st.cons.push { c with active := false } := rfl

theorem linkCon_var (st : St) (ci : Nat) (c : Con) (i : Nat) :
    ((st.linkCon ci c).vars[i]!).block = (st.vars[i]!).block ∧
    ((st.linkCon ci c).vars[i]!).offset = (st.vars[i]!).offset ∧
    ((st.linkCon ci c).vars[i]!).scale = (st.vars[i]!).scale := by
  unfold St.linkCon
  simp only [Util.get!_set!]
  split <;> split <;> simp_all

theorem linkCon_size (st : St) (ci : Nat) (c : Con) :
    (st.linkCon ci c).vars.size = st.vars.size := by
  simp [St.linkCon]

theorem addConstraint_var (st : St) (c : Con) (i : Nat) :
    ((st.addConstraint c).vars[i]!).block = (st.vars[i]!).block ∧
    ((st.addConstraint c).vars[i]!).offset = (st.vars[i]!).offset :=
  ⟨(linkCon_var _ _ _ _).1, (linkCon_var _ _ _ _).2.1⟩

theorem addConstraint_size (st : St) (c : Con) : (st.addConstraint c).vars.size = st.vars.size :=
  linkCon_size _ _ _

theorem foldl_addConstraint_pres {P : St → Prop} : ∀ (cs : List Con) (st : St),
    (∀ st c, c ∈ cs → P st → P (st.addConstraint c)) → P st →
    P (cs.foldl (fun st c => st.addConstraint c) st)
  | [], _, _, h => h
  | c :: cs, st, hP, h =>
    foldl_addConstraint_pres cs _ (fun st c' hc' => hP st c' (List.mem_cons_of_mem _ hc'))
      (hP st c List.mem_cons_self h)

theorem OffsetInv.mono {st st' : St} (hc : ∀ c ∈ st'.cons, c.active = true → c ∈ st.cons)
    (hs : st'.vars.size = st.vars.size)
    (hv : ∀ u : Nat, (st'.vars[u]!).block = (st.vars[u]!).block ∧
      (st'.vars[u]!).offset = (st.vars[u]!).offset)
    (h : OffsetInv st) : OffsetInv st' := by
  intro c hc' hact
  rw [hs, (hv c.l).1, (hv c.r).1, (hv c.l).2, (hv c.r).2]
  exact h c (hc c hc' hact) hact

theorem addConstraint_offsetInv (st : St) (c : Con) (h : OffsetInv st) :
    OffsetInv (st.addConstraint c) := by
  refine OffsetInv.mono (fun c' hc' hact => ?_) (addConstraint_size st c) (addConstraint_var st c) h
  rw [addConstraint_cons] at hc'
  rcases Array.mem_push.1 hc' with hc' | rfl
  · exact hc'
  · simp at hact

theorem setDesired_var (st : St) (i : Nat) (d : Rat) (u : Nat) :
    ((st.setDesired i d).vars[u]!).block = (st.vars[u]!).block ∧
    ((st.setDesired i d).vars[u]!).offset = (st.vars[u]!).offset ∧
    ((st.setDesired i d).vars[u]!).ins = (st.vars[u]!).ins ∧
    ((st.setDesired i d).vars[u]!).outs = (st.vars[u]!).outs := by
  unfold St.setDesired
  simp only [Util.get!_set!]
  split <;> simp_all

theorem setDesired_offsetInv (st : St) (i : Nat) (d : Rat) (h : OffsetInv st) :
    OffsetInv (st.setDesired i d) :=
  OffsetInv.mono (st := st) (fun _ hc _ => hc) (by simp [St.setDesired])
    (fun u => ⟨(setDesired_var st i d u).1, (setDesired_var st i d u).2.1⟩) h

theorem init_offsetInv (vs : Array (Rat × Rat × Rat)) (cs : Array Con) :
    OffsetInv (St.init vs cs) := by
  unfold St.init
  simp only
  rw [← Array.foldl_toList]
  apply foldl_addConstraint_pres _ _ (fun st c _ => addConstraint_offsetInv st c)
  intro c hc
  simp at hc

/-! ### the linking invariant -/

/-- `Variable::out` lists: every entry is a valid constraint index whose left variable is the owner -/
def Linked (st : St) : Prop :=
  ∀ (u ci : Nat), ci ∈ (st.vars[u]!).outs → ci < st.cons.size ∧ (st.cons[ci]!).l = u

theorem Linked.outsLinked {st : St} (h : Linked st) : OutsLinked st :=
  fun u ci hci => (h u ci hci).2

theorem outs_set!_ins (vars : Array Var) (k u : Nat) (f : Array Nat) :
    ((vars.set! k { vars[k]! with ins := f })[u]!).outs = (vars[u]!).outs := by
  rw [Util.get!_set!]
  split
  · rename_i h; rw [h.1]
  · rfl

theorem ins_set!_outs (vars : Array Var) (k u : Nat) (f : Array Nat) :
    ((vars.set! k { vars[k]! with outs := f })[u]!).ins = (vars[u]!).ins := by
  rw [Util.get!_set!]
  split
  · rename_i h; rw [h.1]
  · rfl

theorem linkCon_outs_list (st : St) (ci : Nat) (c : Con) (u : Nat) :
    ((st.linkCon ci c).vars[u]!).outs =
      if u = c.l ∧ c.l < st.vars.size then (st.vars[u]!).outs.push ci else (st.vars[u]!).outs := by
  unfold St.linkCon
  simp only
  rw [outs_set!_ins, Util.get!_set!]
  by_cases h : c.l = u ∧ u < st.vars.size
  · rw [if_pos h, if_pos ⟨h.1.symm, h.1 ▸ h.2⟩, h.1]
  · rw [if_neg h, if_neg fun hh : u = c.l ∧ c.l < st.vars.size => h ⟨hh.1.symm, hh.1 ▸ hh.2⟩]

theorem linkCon_ins_list (st : St) (ci : Nat) (c : Con) (u : Nat) :
    ((st.linkCon ci c).vars[u]!).ins =
      if u = c.r ∧ c.r < st.vars.size then (st.vars[u]!).ins.push ci else (st.vars[u]!).ins := by
  unfold St.linkCon
  simp only
  rw [Util.get!_set!, Array.set!_eq_setIfInBounds, Array.size_setIfInBounds, ← Array.set!_eq_setIfInBounds]
  by_cases h : c.r = u ∧ u < st.vars.size
  · rw [if_pos h, if_pos ⟨h.1.symm, h.1 ▸ h.2⟩, ins_set!_outs, h.1]
  · rw [if_neg h, if_neg fun hh : u = c.r ∧ c.r < st.vars.size => h ⟨hh.1.symm, hh.1 ▸ hh.2⟩,
      ins_set!_outs]

theorem linkCon_outs_iff (st : St) (ci : Nat) (c : Con) (u j : Nat) :
    j ∈ ((st.linkCon ci c).vars[u]!).outs ↔
      j ∈ (st.vars[u]!).outs ∨ (j = ci ∧ u = c.l ∧ c.l < st.vars.size) := by
  rw [linkCon_outs_list]
  split
  · rename_i h
    simp only [Array.mem_push, h, and_self, and_true]
  · rename_i h
    simp only [h, and_false, or_false]

theorem linkCon_ins_iff (st : St) (ci : Nat) (c : Con) (u j : Nat) :
    j ∈ ((st.linkCon ci c).vars[u]!).ins ↔
      j ∈ (st.vars[u]!).ins ∨ (j = ci ∧ u = c.r ∧ c.r < st.vars.size) := by
  rw [linkCon_ins_list]
  split
  · rename_i h
    simp only [Array.mem_push, h, and_self, and_true]
  · rename_i h
    simp only [h, and_false, or_false]

theorem addConstraint_linked (st : St) (c : Con) (h : Linked st) : Linked (st.addConstraint c) := by
  intro u ci' hci'
  rw [addConstraint_cons]
  rcases (linkCon_outs_iff _ _ c u ci').1 hci' with hold | ⟨h1, h2, _⟩
  · obtain ⟨hb, hl⟩ := h u ci' hold
    refine ⟨by simp; omega, ?_⟩
    rw [Util.get!_push_lt _ _ _ hb]
    exact hl
  · subst h1
    refine ⟨by simp, ?_⟩
    rw [Util.get!_push_eq]
    exact h2.symm

theorem setDesired_linked (st : St) (i : Nat) (d : Rat) (h : Linked st) :
    Linked (st.setDesired i d) := by
  intro u ci hci
  rw [(setDesired_var st i d u).2.2.2] at hci
  exact h u ci hci

theorem mergeAcross_linked (st : St) (ci : Nat) (h : Linked st) : Linked (st.mergeAcross ci).1 := by
  intro u cj hcj
  have houts : (((st.mergeAcross ci).1.vars[u]!).outs) = (st.vars[u]!).outs := by
    obtain ⟨src, dst, d, _, hv⟩ := mergeAcross_shift st ci
    rw [hv]
    exact shiftVars_outs _ _ _ _ _
  rw [houts] at hcj
  obtain ⟨hb, hl⟩ := h u cj hcj
  rw [mergeAcross_cons]
  refine ⟨by simpa using hb, ?_⟩
  rw [Util.get!_set!]
  split
  · rename_i hh
    rw [← hh.1] at hl
    exact hl
  · exact hl

theorem init_linked (vs : Array (Rat × Rat × Rat)) (cs : Array Con) : Linked (St.init vs cs) := by
  unfold St.init
  simp only
  rw [← Array.foldl_toList]
  apply foldl_addConstraint_pres _ _ (fun st c _ => addConstraint_linked st c)
  intro u ci hci
  exfalso
  simp only at hci
  by_cases hu : u < vs.size
  · rw [getElem!_pos _ u (by simpa using hu)] at hci
    simp at hci
  · rw [getElem!_neg _ u (by simpa using hu)] at hci
    exact absurd hci (Array.not_mem_empty ci)

theorem offsetInv_tight {st : St} (h : OffsetInv st) : TightActive st := by
  intro c hc hact
  obtain ⟨_, _, h3, h4⟩ := h c hc hact
  have := slack_same_block st c h3
  linarith only [this, h4]

def SameOffsets (a b : Array Var) : Prop :=
  a.size = b.size ∧ ∀ i : Nat, (a[i]!).offset = (b[i]!).offset

theorem SameOffsets.refl (a : Array Var) : SameOffsets a a := ⟨rfl, fun _ => rfl⟩
theorem SameOffsets.trans {a b c : Array Var} (h1 : SameOffsets a b) (h2 : SameOffsets b c) :
    SameOffsets a c := ⟨h1.1.trans h2.1, fun i => (h1.2 i).trans (h2.2 i)⟩

/-- `b` is `a` with the `block` field of some variables overwritten by `nb`: all that a call of
    `populateSplit` into block `nb` may do to the variables, whatever the graph and the fuel -/
def OnlyBlock (nb : Nat) (a b : Array Var) : Prop :=
  b.size = a.size ∧ ∀ i : Nat, b[i]! = a[i]! ∨ b[i]! = { a[i]! with block := nb }

theorem OnlyBlock.refl (nb : Nat) (a : Array Var) : OnlyBlock nb a a := ⟨rfl, fun _ => Or.inl rfl⟩

theorem OnlyBlock.trans {nb : Nat} {a b c : Array Var} (h1 : OnlyBlock nb a b) (h2 : OnlyBlock nb b c) :
    OnlyBlock nb a c := by
  refine ⟨h2.1.trans h1.1, fun i => ?_⟩
  rcases h1.2 i with e1 | e1 <;> rcases h2.2 i with e2 | e2 <;> rw [e2, e1]
  · exact Or.inl rfl
  · exact Or.inr rfl
  · exact Or.inr rfl
  · exact Or.inr rfl

theorem onlyBlock_set (nb : Nat) (vars : Array Var) (v : Nat) :
    OnlyBlock nb vars (vars.set! v { vars[v]! with block := nb }) := by
  refine ⟨by simp, fun i => ?_⟩
  rw [Util.get!_set!]
  split
  · rename_i h; rw [h.1]; exact Or.inr rfl
  · exact Or.inl rfl

theorem OnlyBlock.fields {nb : Nat} {a b : Array Var} (h : OnlyBlock nb a b) (i : Nat) :
    (b[i]!).offset = (a[i]!).offset ∧ (b[i]!).scale = (a[i]!).scale ∧ (b[i]!).ins = (a[i]!).ins ∧
      (b[i]!).outs = (a[i]!).outs := by
  rcases h.2 i with e | e <;> rw [e] <;> exact ⟨rfl, rfl, rfl, rfl⟩

theorem OnlyBlock.keep {nb : Nat} {a b : Array Var} (h : OnlyBlock nb a b) {x : Nat}
    (hx : (a[x]!).block = nb) : (b[x]!).block = nb := by
  rcases h.2 x with e | e <;> rw [e]
  exact hx

theorem OnlyBlock.sameOffsets {nb : Nat} {a b : Array Var} (h : OnlyBlock nb a b) : SameOffsets b a :=
  ⟨h.1, fun i => (h.fields i).1⟩

/-- the constraints at a variable in the order in which `populateSplitBlock` and `split_path` try them
    (`in` before `out`), each with the direction in which it is followed: the two loops of such a
    traversal are one loop over this list -/
def darts (var : Var) : List (Nat × Bool) :=
  var.ins.toList.map (·, false) ++ var.outs.toList.map (·, true)

/-- the body of both loops of `populateSplit` for one dart of `v` -/
def pStep (cons : Array Con) (old nb fuel : Nat) (u : Option Nat) (v : Nat)
    (x : Array Var × Array Nat × Bool) (d : Nat × Bool) : Array Var × Array Nat × Bool :=
  if (x.1[farEnd d.2 cons[d.1]!]!.block == old && cons[d.1]!.active &&
      u != some (farEnd d.2 cons[d.1]!)) = true then
    ((populateSplit cons old nb fuel x.1 x.2.1 (farEnd d.2 cons[d.1]!) (some v)).1,
      (populateSplit cons old nb fuel x.1 x.2.1 (farEnd d.2 cons[d.1]!) (some v)).2.1,
      x.2.2 && (populateSplit cons old nb fuel x.1 x.2.1 (farEnd d.2 cons[d.1]!) (some v)).2.2)
  else (x.1, x.2.1, x.2.2)

theorem populateSplit_succ (cons : Array Con) (old nb fuel : Nat) (vars : Array Var) (mem : Array Nat)
    (v : Nat) (u : Option Nat) :
    populateSplit cons old nb (fuel + 1) vars mem v u =
      (darts vars[v]!).foldl (pStep cons old nb fuel u v)
        (vars.set! v { vars[v]! with block := nb }, mem.push v, true) := by
  unfold populateSplit darts
  simp only [List.foldl_append, List.foldl_map, Array.foldl_toList]
  rfl

theorem pStep_ok {cons : Array Con} {old nb fuel : Nat} {u : Option Nat} {v : Nat}
    (x : Array Var × Array Nat × Bool) (d : Nat × Bool)
    (h : (pStep cons old nb fuel u v x d).2.2 = true) : x.2.2 = true := by
  unfold pStep at h
  split at h
  · exact ((Bool.and_eq_true _ _).mp h).1
  · exact h

theorem populateSplit_onlyBlock (cons : Array Con) (old nb : Nat) :
    ∀ (fuel : Nat) (vars : Array Var) (mem : Array Nat) (v : Nat) (u : Option Nat),
      OnlyBlock nb vars (populateSplit cons old nb fuel vars mem v u).1 ∧
      ∀ x ∈ (populateSplit cons old nb fuel vars mem v u).2.1, x ∈ mem ∨
        (((populateSplit cons old nb fuel vars mem v u).1)[x]!).block = nb ∨ vars.size ≤ x := by
  intro fuel
  induction fuel with
  | zero => intro vars mem v u; exact ⟨OnlyBlock.refl _ _, fun x hx => Or.inl hx⟩
  | succ fuel ih =>
    intro vars mem v u
    rw [populateSplit_succ]
    refine List.foldlRecOn (motive := fun acc : Array Var × Array Nat × Bool =>
      OnlyBlock nb vars acc.1 ∧ ∀ x ∈ acc.2.1, x ∈ mem ∨ (acc.1[x]!).block = nb ∨ vars.size ≤ x)
      _ _ ⟨onlyBlock_set nb vars v, fun x hx => ?_⟩ fun acc ⟨ho, hm⟩ d _ => ?_
    · rcases Array.mem_push.1 hx with hx | rfl
      · exact Or.inl hx
      · by_cases hv : x < vars.size
        · exact Or.inr (Or.inl (by rw [Util.get!_set!, if_pos ⟨rfl, hv⟩]))
        · exact Or.inr (Or.inr (Nat.le_of_not_lt hv))
    · unfold pStep
      split
      · obtain ⟨ro, rm⟩ := ih acc.1 acc.2.1 (farEnd d.2 cons[d.1]!) (some v)
        refine ⟨ho.trans ro, fun x hx => ?_⟩
        rcases rm x hx with h | h | h
        · exact (hm x h).imp_right (Or.imp_left ro.keep)
        · exact Or.inr (Or.inl h)
        · exact Or.inr (Or.inr (ho.1 ▸ h))
      · exact ⟨ho, hm⟩

theorem split_offsets (st : St) (old ci : Nat) :
    SameOffsets (st.split old ci).1.vars st.vars ∧
    (st.split old ci).1.cons = st.cons.set! ci { st.cons[ci]! with active := false } := by
  unfold St.split
  simp only [St.refreshBlock]
  exact ⟨(populateSplit_onlyBlock _ _ _ _ _ _ _ _).1.sameOffsets.trans
    (populateSplit_onlyBlock _ _ _ _ _ _ _ _).1.sameOffsets, trivial⟩

end AdaptaVerif.Lemmas.VpscHistory
