/-
What the read-only traversals of the model return: `splitPath` (Block::split_path),
`computeDfdv` (Block::compute_dfdv), `argMinFirst`.  Each traversal runs one loop over the `in` and one
over the `out` constraints of a variable; both are written as one loop body with the direction as a
parameter (`spStep`, `dStep`; `farEnd`, `nearEnd`), and for `split_path` as one loop over the darts of the
variable (`VpscHistory.darts`, `splitPath_succ`; `VpscInv.mem_darts`).
-/
import AdaptaVerif.Lemmas.VpscInv
import AdaptaVerif.Lemmas.VpscGraph
namespace AdaptaVerif.Lemmas.VpscTraverse
open AdaptaVerif.Model.Vpsc
open AdaptaVerif.Lemmas.VpscGraph AdaptaVerif.Lemmas.VpscWalk AdaptaVerif.Lemmas.VpscInv
open AdaptaVerif.Lemmas.VpscHistory (darts)

/-! ### folds that search: once found stays found, `ok` only decreases -/

theorem fold_none {α β : Type} (f : Option α × Bool → β → Option α × Bool)
    (sticky : ∀ (x : Option α × Bool) (ci : β), x.1.isSome = true → f x ci = x)
    (okmono : ∀ (x : Option α × Bool) (ci : β), (f x ci).2 = true → x.2 = true) :
    ∀ (l : List β) (acc : Option α × Bool),
    l.foldl f acc = (none, true) → acc = (none, true) ∧ ∀ ci ∈ l, f (none, true) ci = (none, true) := by
  intro l
  induction l with
  | nil => intro acc h; exact ⟨h, by simp⟩
  | cons ci l ih =>
    intro acc h
    simp only [List.foldl_cons] at h
    obtain ⟨h1, h2⟩ := ih _ h
    have hacc : acc = (none, true) := by
      have h2' : acc.2 = true := okmono acc ci (by rw [h1])
      have h1' : acc.1 = none := by
        cases hs : acc.1 with
        | none => rfl
        | some c =>
          have := sticky acc ci (by rw [hs]; rfl)
          rw [this] at h1
          rw [h1] at hs
          exact absurd hs (by simp)
      exact Prod.ext h1' h2'
    subst hacc
    refine ⟨rfl, ?_⟩
    intro cj hcj
    rcases List.mem_cons.1 hcj with rfl | hcj
    · exact h1
    · exact h2 cj hcj

theorem fold_some {α β : Type} (f : Option α × Bool → β → Option α × Bool)
    (sticky : ∀ (x : Option α × Bool) (ci : β), x.1.isSome = true → f x ci = x) :
    ∀ (l : List β) (acc : Option α × Bool) (c : α),
    (l.foldl f acc).1 = some c →
    acc.1 = some c ∨ ∃ ci ∈ l, ∃ ok, (f (none, ok) ci).1 = some c := by
  intro l
  induction l with
  | nil => intro acc c h; exact Or.inl h
  | cons ci l ih =>
    intro acc c h
    simp only [List.foldl_cons] at h
    rcases ih _ c h with h1 | ⟨cj, hcj, ok, h2⟩
    · cases hs : acc.1 with
      | some c' =>
        have := sticky acc ci (by rw [hs]; rfl)
        rw [this, hs] at h1
        exact Or.inl h1
      | none =>
        refine Or.inr ⟨ci, List.mem_cons_self, acc.2, ?_⟩
        have : acc = (none, acc.2) := Prod.ext hs rfl
        rw [← this]; exact h1
    · exact Or.inr ⟨cj, List.mem_cons_of_mem _ hcj, ok, h2⟩

/-- only a constraint followed from left to right (`fwd`) can be split on -/
def addCand (fwd : Bool) (c : Con) (ci : Nat) (cands : Array Nat) : Array Nat :=
  if (!fwd || c.eq) = true then cands else cands.push ci

/-- the loop body of `split_path` for one constraint `ci` of `v` -/
def spStep (st : St) (bid r fuel v : Nat) (u : Option Nat) (fwd : Bool)
    (x : Option (Array Nat) × Bool) (ci : Nat) : Option (Array Nat) × Bool :=
  if x.1.isSome = true then x
  else
    if ((st.vars[farEnd fwd st.cons[ci]!]!).block == bid && st.cons[ci]!.active &&
        u != some (farEnd fwd st.cons[ci]!)) = true then
      if (farEnd fwd st.cons[ci]! == r) = true then (some (addCand fwd st.cons[ci]! ci #[]), x.2)
      else
        ((splitPath st bid r fuel (farEnd fwd st.cons[ci]!) (some v)).1.map (addCand fwd st.cons[ci]! ci),
          x.2 && (splitPath st bid r fuel (farEnd fwd st.cons[ci]!) (some v)).2)
    else x

theorem splitPath_succ (st : St) (bid r fuel v : Nat) (u : Option Nat) :
    splitPath st bid r (fuel + 1) v u =
      (darts st.vars[v]!).foldl (fun x d => spStep st bid r fuel v u d.2 x d.1) (none, true) := by
  simp only [darts, List.foldl_append, List.foldl_map]
  rw [splitPath]
  simp only [← Array.foldl_toList]
  congr 1
  · funext x ci
    obtain ⟨found, ok⟩ := x
    simp only [spStep, farEnd, addCand, canFollowRight, if_true, Bool.not_true, Bool.false_or]
    refine if_congr Iff.rfl rfl (if_congr Iff.rfl (if_congr Iff.rfl ?_ ?_) rfl)
    · simp
    · cases (splitPath st bid r fuel (st.cons[ci]!).r (some v)).1 <;> simp [addCand]
  · congr 1
    funext x ci
    obtain ⟨found, ok⟩ := x
    simp only [spStep, farEnd, addCand, canFollowLeft, Bool.false_eq_true, if_false, Bool.not_false,
      Bool.true_or, if_true]
    refine if_congr Iff.rfl rfl (if_congr Iff.rfl (if_congr Iff.rfl rfl ?_) rfl)
    cases (splitPath st bid r fuel (st.cons[ci]!).l (some v)).1 <;> simp [addCand]

theorem mem_addCand {fwd : Bool} {c : Con} {ci cj : Nat} {cs : Array Nat} :
    cj ∈ addCand fwd c ci cs ↔ cj ∈ cs ∨ (cj = ci ∧ fwd = true ∧ c.eq = false) := by
  unfold addCand
  cases fwd <;> cases c.eq <;> simp [Array.mem_push]

theorem spStep_sticky (st : St) (bid r fuel v : Nat) (u : Option Nat) (fwd : Bool)
    (x : Option (Array Nat) × Bool) (ci : Nat) (h : x.1.isSome = true) :
    spStep st bid r fuel v u fwd x ci = x := by
  unfold spStep; rw [if_pos h]

theorem spStep_ok (st : St) (bid r fuel v : Nat) (u : Option Nat) (fwd : Bool)
    (x : Option (Array Nat) × Bool) (ci : Nat) (h : (spStep st bid r fuel v u fwd x ci).2 = true) :
    x.2 = true := by
  unfold spStep at h
  split at h
  · exact h
  · split at h
    · split at h
      · exact h
      · simp only [Bool.and_eq_true] at h; exact h.1
    · exact h

/-- what a successful `splitPath` search certifies -/
def PathSpec (st : St) (r v : Nat) (u : Option Nat) (cands : Array Nat) : Prop :=
  ∃ W : List Step, Walk st.cons v r W ∧ W ≠ [] ∧ NB u W ∧
    (∀ ci ∈ cands, (ci, (st.cons[ci]!).l, (st.cons[ci]!).r) ∈ W ∧ (st.cons[ci]!).eq = false) ∧
    (∀ s ∈ W, s.2.1 = (st.cons[s.1]!).l → s.2.2 = (st.cons[s.1]!).r → (st.cons[s.1]!).eq = false →
      s.1 ∈ cands)

theorem PathSpec.congr {st st' : St} (hc : st'.cons = st.cons) {r v : Nat} {u : Option Nat}
    {cands : Array Nat} (h : PathSpec st r v u cands) : PathSpec st' r v u cands := by
  unfold PathSpec at h ⊢
  rw [hc]
  exact h

theorem pathSpec_cons {st : St} {r v far ci : Nat} {u : Option Nat} {fwd : Bool} {cs : Array Nat}
    {W : List Step} (hnoloop : ∀ j x : Nat, ¬ AE st.cons j x x)
    (hae : AE st.cons ci v far) (hu : u ≠ some far)
    (hnear : nearEnd fwd (st.cons[ci]!) = v) (hfar : farEnd fwd (st.cons[ci]!) = far)
    (hW : Walk st.cons far r W) (hnb : NB (some v) W)
    (hc1 : ∀ cj ∈ cs, (cj, (st.cons[cj]!).l, (st.cons[cj]!).r) ∈ W ∧ (st.cons[cj]!).eq = false)
    (hc2 : ∀ s ∈ W, s.2.1 = (st.cons[s.1]!).l → s.2.2 = (st.cons[s.1]!).r →
      (st.cons[s.1]!).eq = false → s.1 ∈ cs) :
    PathSpec st r v u (addCand fwd (st.cons[ci]!) ci cs) := by
  refine ⟨(ci, v, far) :: W, Walk.cons hae hW, by simp, ⟨hu, hnb⟩, ?_, ?_⟩
  · intro cj hcj
    rcases mem_addCand.1 hcj with h | ⟨rfl, hf, he⟩
    · exact ⟨List.mem_cons_of_mem _ (hc1 cj h).1, (hc1 cj h).2⟩
    · subst hf
      refine ⟨?_, he⟩
      rw [show (st.cons[cj]!).l = v from hnear, show (st.cons[cj]!).r = far from hfar]
      exact List.mem_cons_self
  · intro s hs e1 e2 e3
    rcases List.mem_cons.1 hs with rfl | hs
    · cases fwd
      · -- an `in` constraint followed forwards would be a loop
        exfalso
        have h1 : (st.cons[ci]!).l = far := hfar
        have : v = far := (show v = (st.cons[ci]!).l from e1).trans h1
        rw [← this] at hae
        exact hnoloop ci v hae
      · exact mem_addCand.2 (Or.inr ⟨rfl, rfl, e3⟩)
    · exact mem_addCand.2 (Or.inl (hc2 s hs e1 e2 e3))

theorem splitPath_some (st : St) (bid r : Nat) (hlk : LinkOK st.cons st.vars)
    (hnoloop : ∀ j x : Nat, ¬ AE st.cons j x x) :
    ∀ (fuel v : Nat) (u : Option Nat) (cands : Array Nat),
      (splitPath st bid r fuel v u).1 = some cands → PathSpec st r v u cands := by
  intro fuel
  induction fuel with
  | zero => intro v u cands h; simp [splitPath] at h
  | succ fuel ih =>
    intro v u cands h
    rw [splitPath_succ] at h
    rcases fold_some (fun x (d : Nat × Bool) => spStep st bid r fuel v u d.2 x d.1)
      (fun x d => spStep_sticky st bid r fuel v u d.2 x d.1) (darts st.vars[v]!) (none, true) cands h
      with h0 | ⟨⟨ci, fwd⟩, hd, ok, h2⟩
    · simp at h0
    · obtain ⟨hlt, hnear⟩ := (mem_darts hlk).1 hd
      simp only [spStep, Option.isSome_none, Bool.false_eq_true, if_false] at h2
      split at h2
      · rename_i hcf
        simp only [Bool.and_eq_true, beq_iff_eq, bne_iff_ne, ne_eq] at hcf
        obtain ⟨⟨_, hact⟩, hu⟩ := hcf
        have hae : AE st.cons ci v (farEnd fwd (st.cons[ci]!)) := hnear ▸ ae_near_far hlt hact fwd
        split at h2
        · rename_i hr
          have hr' : farEnd fwd (st.cons[ci]!) = r := by simpa using hr
          simp only [Option.some.injEq] at h2
          rw [← h2]
          rw [hr'] at hae hu
          exact pathSpec_cons hnoloop hae hu hnear hr' (Walk.nil _) trivial
            (fun cj hcj => by simp at hcj) (fun s hs => by simp at hs)
        · obtain ⟨cs, hcs, rfl⟩ := Option.map_eq_some_iff.1 h2
          obtain ⟨W, hW, _, hnb, hc1, hc2⟩ := ih _ _ _ hcs
          exact pathSpec_cons hnoloop hae hu hnear rfl hW hnb hc1 hc2
      · simp at h2

theorem splitPath_none (st : St) (bid r : Nat) (hlk : LinkOK st.cons st.vars)
    (hblk : ∀ j x y : Nat, AE st.cons j x y → blk st.vars x = blk st.vars y) :
    ∀ (fuel v : Nat) (u : Option Nat), blk st.vars v = bid →
      splitPath st bid r fuel v u = (none, true) →
      ∀ W : List Step, Walk st.cons v r W → NB u W → W = [] := by
  intro fuel
  induction fuel with
  | zero => intro v u _ h; simp [splitPath] at h
  | succ fuel ih =>
    intro v u hbv h W hW hnb
    rw [splitPath_succ] at h
    obtain ⟨_, htried⟩ := fold_none (fun x (d : Nat × Bool) => spStep st bid r fuel v u d.2 x d.1)
      (fun x d => spStep_sticky st bid r fuel v u d.2 x d.1)
      (fun x d => spStep_ok st bid r fuel v u d.2 x d.1) (darts st.vars[v]!) (none, true) h
    cases hW with
    | nil => rfl
    | @cons j a b c rest hae hrest =>
      exfalso
      obtain ⟨hu, hnb'⟩ := hnb
      have hbb : blk st.vars b = bid := by rw [← hblk j v b hae]; exact hbv
      -- the first step leaves `v` along one of its darts, which the loop has tried
      obtain ⟨fwd, hn, hfar⟩ := ae_dir hae
      have hstep := htried _ ((mem_darts hlk).2 ⟨hae.1, hn⟩)
      simp only [spStep] at hstep
      rw [hfar] at hstep
      simp only [Option.isSome_none, Bool.false_eq_true, if_false] at hstep
      have hcf : ((st.vars[b]!).block == bid && st.cons[j]!.active && u != some b) = true := by
        simp only [Bool.and_eq_true, beq_iff_eq, bne_iff_ne, ne_eq]
        exact ⟨⟨hbb, hae.2.1⟩, hu⟩
      rw [if_pos hcf] at hstep
      split at hstep
      · simp at hstep
      · rename_i hne
        simp only [Bool.true_and, Prod.mk.injEq, Option.map_eq_none_iff] at hstep
        have := ih b (some v) hbb (Prod.ext hstep.1 hstep.2) rest hrest hnb'
        subst this
        cases hrest
        simp at hne

/-! ### `compute_dfdv`: one loop body for the `out` and the `in` constraints -/

/-- accumulator of the two loops of `compute_dfdv`: (lm, post-order, dfdv so far, ok) -/
abbrev Acc := Array Rat × Array Nat × Rat × Bool

/-- the value `compute_dfdv` stores for a constraint followed forwards (`out`) / backwards (`in`) -/
def sg (fwd : Bool) (x : Rat) : Rat := if fwd = true then x else -x

/-- the test of both loops: the far end is in the block, the constraint is active and does not lead back -/
def follows (st : St) (bid : Nat) (u : Option Nat) (fwd : Bool) (ci : Nat) : Bool :=
  (st.vars[farEnd fwd st.cons[ci]!]!).block == bid && st.cons[ci]!.active &&
    u != some (farEnd fwd st.cons[ci]!)

/-- what the loop does with the result `R` of the recursive call over `ci` -/
def dPut (st : St) (fwd : Bool) (ci : Nat) (d : Rat) (ok : Bool) (R : Acc) : Acc :=
  (R.1.set! ci (sg fwd R.2.2.1), R.2.1.push ci,
    d + R.2.2.1 * (st.vars[nearEnd fwd st.cons[ci]!]!).scale, ok && R.2.2.2)

/-- the body of both loops of `compute_dfdv` for one constraint `ci` of `v` -/
def dStep (st : St) (bid fuel v : Nat) (u : Option Nat) (fwd : Bool) (x : Acc) (ci : Nat) : Acc :=
  if follows st bid u fwd ci = true then
    dPut st fwd ci x.2.2.1 x.2.2.2
      (computeDfdv st bid fuel x.1 x.2.1 (farEnd fwd st.cons[ci]!) (some v))
  else x

/-- the last line of `compute_dfdv` at `v`: the sum is returned divided by the scale of `v` -/
def dFin (st : St) (v : Nat) (A : Acc) : Acc := (A.1, A.2.1, A.2.2.1 / (st.vars[v]!).scale, A.2.2.2)

theorem computeDfdv_succ' (st : St) (bid fuel : Nat) (lm : Array Rat) (post : Array Nat) (v : Nat)
    (u : Option Nat) :
    computeDfdv st bid (fuel + 1) lm post v u =
      dFin st v ((st.vars[v]!).ins.toList.foldl (dStep st bid fuel v u false)
        ((st.vars[v]!).outs.toList.foldl (dStep st bid fuel v u true) (lm, post, st.dfdv v, true))) := by
  rw [computeDfdv]
  simp only [← Array.foldl_toList]
  -- the congruence is spelled out down to the two loop bodies: `congr` takes the sides apart along the
  -- projections of the accumulator and stops at the folds
  refine congrArg (dFin st v) (congr (congrArg₂ _ ?_ (congr (congrArg₂ _ ?_ rfl) rfl)) rfl)
  · funext x ci
    simp only [dStep, dPut, sg, follows, canFollowLeft, farEnd, nearEnd, Bool.false_eq_true, if_false, neg_mul,
      sub_neg_eq_add]
  · funext x ci
    rfl

theorem follows_iff {st : St} {bid : Nat} {u : Option Nat} {fwd : Bool} {ci : Nat} :
    follows st bid u fwd ci = true ↔
      (blk st.vars (farEnd fwd st.cons[ci]!) = bid ∧ (st.cons[ci]!).active = true) ∧
        u ≠ some (farEnd fwd st.cons[ci]!) := by
  simp only [follows, Bool.and_eq_true, beq_iff_eq, bne_iff_ne, ne_eq, blk]

theorem dStep_ok {st : St} {bid fuel v : Nat} {u : Option Nat} {fwd : Bool} (acc : Acc) (ci : Nat)
    (h : (dStep st bid fuel v u fwd acc ci).2.2.2 = true) : acc.2.2.2 = true := by
  unfold dStep at h
  split at h
  · exact ((Bool.and_eq_true _ _).mp h).1
  · exact h

theorem computeDfdv_post_mem (st : St) (bid : Nat) :
    ∀ (fuel : Nat) (lm : Array Rat) (post : Array Nat) (v : Nat) (u : Option Nat),
      ∀ ci ∈ (computeDfdv st bid fuel lm post v u).2.1, ci ∈ post ∨
        ((st.cons[ci]!).active = true ∧ ∃ fwd, blk st.vars (farEnd fwd st.cons[ci]!) = bid) := by
  intro fuel
  induction fuel with
  | zero => intro lm post v u ci h; exact Or.inl h
  | succ fuel ih =>
    intro lm post v u
    rw [computeDfdv_succ']
    have loop : ∀ (fwd : Bool) (l : List Nat) (acc : Acc),
        (∀ ci ∈ acc.2.1, ci ∈ post ∨
          ((st.cons[ci]!).active = true ∧ ∃ fwd, blk st.vars (farEnd fwd st.cons[ci]!) = bid)) →
        ∀ ci ∈ (l.foldl (dStep st bid fuel v u fwd) acc).2.1, ci ∈ post ∨
          ((st.cons[ci]!).active = true ∧ ∃ fwd, blk st.vars (farEnd fwd st.cons[ci]!) = bid) :=
      fun fwd l acc hacc => List.foldlRecOn (motive := fun a : Acc => ∀ ci ∈ a.2.1, ci ∈ post ∨
          ((st.cons[ci]!).active = true ∧ ∃ fwd, blk st.vars (farEnd fwd st.cons[ci]!) = bid))
        l _ hacc fun acc hacc cj _ => by
          unfold dStep
          split
          · rename_i hcf
            obtain ⟨⟨hb, hact⟩, _⟩ := follows_iff.mp hcf
            intro ci hci
            rcases Array.mem_push.1 hci with hci | rfl
            · exact (ih _ _ _ _ ci hci).elim (hacc ci) Or.inr
            · exact Or.inr ⟨hact, fwd, hb⟩
          · exact hacc
    exact loop false _ _ (loop true _ _ fun ci h => Or.inl h)

theorem foldl_best_mem : ∀ (l : List (Nat × Nat × Rat)) (best : Option (Nat × Nat × Rat))
    (q : Nat × Nat × Rat),
    l.foldl (fun best p => match best with
      | none => some p
      | some (_, _, bx) => if p.2.2 < bx then some p else best) best = some q →
    best = some q ∨ q ∈ l
  | [], _, _, h => Or.inl h
  | p :: l, best, q, h => by
    rcases foldl_best_mem l _ q h with h1 | h1
    · rcases best with _ | ⟨b1, b2, b3⟩
      · exact Or.inr (by simp only [Option.some.injEq] at h1; rw [h1]; exact List.mem_cons_self)
      · simp only at h1
        split at h1
        · exact Or.inr (by simp only [Option.some.injEq] at h1; rw [h1]; exact List.mem_cons_self)
        · exact Or.inl h1
    · exact Or.inr (List.mem_cons_of_mem _ h1)

theorem foldl_best_none : ∀ (l : List (Nat × Nat × Rat)) (best : Option (Nat × Nat × Rat)),
    l.foldl (fun best p => match best with
      | none => some p
      | some (_, _, bx) => if p.2.2 < bx then some p else best) best = none →
    best = none ∧ l = []
  | [], _, h => ⟨h, rfl⟩
  | p :: l, best, h => by
    have h1 := (foldl_best_none l _ h).1
    rcases best with _ | ⟨b1, b2, b3⟩
    · simp at h1
    · simp only at h1
      split at h1 <;> simp at h1

theorem argMinFirst_mem (xs : Array (Nat × Rat)) (i : Nat) (x g : Rat)
    (h : argMinFirst xs = some (i, x, g)) : (i, x) ∈ xs := by
  unfold argMinFirst at h
  simp only at h
  split at h
  · simp at h
  · rename_i k i' x' hfold
    simp only [Option.some.injEq, Prod.mk.injEq] at h
    obtain ⟨rfl, rfl, _⟩ := h
    rw [← Array.foldl_toList] at hfold
    rcases foldl_best_mem _ _ _ hfold with h0 | hm
    · simp at h0
    · rw [Array.mem_toList_iff, Array.mem_mapIdx] at hm
      obtain ⟨j, hj, e⟩ := hm
      simp only [Prod.mk.injEq] at e
      obtain ⟨_, rfl, rfl⟩ := e
      exact Array.getElem_mem hj

theorem argMinFirst_none (xs : Array (Nat × Rat)) (h : argMinFirst xs = none) : xs = #[] := by
  unfold argMinFirst at h
  simp only at h
  split at h
  · rename_i hfold
    rw [← Array.foldl_toList] at hfold
    simpa using (foldl_best_none _ _ hfold).2
  · simp at h

end AdaptaVerif.Lemmas.VpscTraverse
