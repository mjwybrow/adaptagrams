/-
C19 — a finite tree with at least two nodes has a leaf (node of degree one); consequently a
connected acyclic simple graph without degree-one nodes has at most one node. Core Lean only.
Uses the BFS parent/depth witness of `PeelCheck.acyclicB_complete`.
-/
import AdaptaVerif.Lemmas.PeelCheck
import AdaptaVerif.Lemmas.Util.List

namespace AdaptaVerif.Lemmas.PeelLeaf
open AdaptaVerif.Spec.UGraph AdaptaVerif.Model.Peel
open AdaptaVerif.Check.GraphParts AdaptaVerif.Lemmas.PeelCheck

theorem tree_edge_witness {ns : List Nat} {es : List (Nat × Nat)} (hs : Simple ns es)
    (ht : IsTree ns es) :
    ∃ (p d : Nat → Nat), ∀ a b, (a, b) ∈ es →
      (p a = b ∧ d a = d b + 1) ∨ (p b = a ∧ d b = d a + 1) := by
  obtain ⟨hne, hc, hac⟩ := ht
  cases ns with
  | nil => exact absurd rfl hne
  | cons r rest =>
    have h := acyclicB_complete (r := r) List.mem_cons_self hs hc hac
    simp only [acyclicB, forestWitnessB] at h
    refine ⟨parOf (bfsP es (bfsFuel es) [(r, r, 0)] []),
      depOf (bfsP es (bfsFuel es) [(r, r, 0)] []), fun a b hab => ?_⟩
    have := List.all_eq_true.1 h (a, b) hab
    simpa using this

theorem length_le_one_of_two {α : Type} {L : List α} {x y : α} (hnd : L.Nodup)
    (hK : ∀ e, e ∈ L → e = x ∨ e = y) (hxy : x ∈ L → y ∉ L) : L.length ≤ 1 := by
  match L, hnd, hK, hxy with
  | [], _, _, _ => exact Nat.zero_le _
  | [_], _, _, _ => exact Nat.le_refl _
  | e1 :: e2 :: t, hnd, hK, hxy =>
    exfalso
    have hne : e1 ≠ e2 := fun h => (List.nodup_cons.1 hnd).1 (h ▸ List.mem_cons_self)
    have m1 : e1 ∈ e1 :: e2 :: t := List.mem_cons_self
    have m2 : e2 ∈ e1 :: e2 :: t := List.mem_cons_of_mem _ List.mem_cons_self
    rcases hK e1 m1 with h1 | h1 <;> rcases hK e2 m2 with h2 | h2
    · exact hne (h1.trans h2.symm)
    · exact hxy (h1 ▸ m1) (h2 ▸ m2)
    · exact hxy (h2 ▸ m2) (h1 ▸ m1)
    · exact hne (h1.trans h2.symm)

theorem tree_has_leaf {ns : List Nat} {es : List (Nat × Nat)} (hs : Simple ns es)
    (ht : IsTree ns es) (h2 : 2 ≤ ns.length) : ∃ v, v ∈ ns ∧ degree es v = 1 := by
  obtain ⟨p, d, hE⟩ := tree_edge_witness hs ht
  obtain ⟨hne, hc, _⟩ := ht
  obtain ⟨hnd, hends, hend, hrev⟩ := hs
  obtain ⟨m, hm, hmax⟩ := Util.exists_max (fun x y => d x ≤ d y) (fun _ _ => Nat.le_total _ _) (fun _ _ _ => Nat.le_trans) ns hne
  obtain ⟨x, hx, hxm⟩ := Util.exists_ne_of_two hnd h2 m
  refine ⟨m, hm, ?_⟩
  have hK : ∀ e, e ∈ es.filter (incident m) → e = (m, p m) ∨ e = (p m, m) := by
    intro e he
    obtain ⟨hes, hinc⟩ := List.mem_filter.1 he
    obtain ⟨a, b⟩ := e
    have hab := hends _ hes
    simp only [incident, Bool.or_eq_true, beq_iff_eq] at hinc
    rcases hinc with h | h
    · subst h
      rcases hE _ _ hes with h' | h'
      · exact Or.inl (by rw [h'.1])
      · have := hmax b hab.2.1
        omega
    · subst h
      rcases hE _ _ hes with h' | h'
      · have := hmax a hab.1
        omega
      · exact Or.inr (by rw [h'.1])
  have hLnd : (es.filter (incident m)).Nodup := hend.sublist List.filter_sublist
  have hle : (es.filter (incident m)).length ≤ 1 :=
    length_le_one_of_two hLnd hK
      (fun h1 h2 => hrev _ _ (List.mem_filter.1 h1).1 (List.mem_filter.1 h2).1)
  have hge : 1 ≤ (es.filter (incident m)).length := by
    have hr := hc m hm x hx
    cases hr with
    | refl => exact absurd rfl hxm
    | step hadj _ =>
      rcases hadj with h | h
      · exact List.length_pos_of_mem (List.mem_filter.2 ⟨h, by simp [incident]⟩)
      · exact List.length_pos_of_mem (List.mem_filter.2 ⟨h, by simp [incident]⟩)
  show (es.filter (incident m)).length = 1
  omega

theorem tree_noDegreeOne_small {ns : List Nat} {es : List (Nat × Nat)} (hs : Simple ns es)
    (hc : Connected ns es) (hac : Acyclic es) (hd : NoDegreeOne ns es) : ns.length ≤ 1 :=
  Nat.le_of_not_lt fun h2 =>
    have ⟨v, hv, hdeg⟩ := tree_has_leaf hs ⟨List.ne_nil_of_length_pos (Nat.lt_of_succ_lt h2), hc, hac⟩ h2
    hd v hv hdeg

end AdaptaVerif.Lemmas.PeelLeaf
