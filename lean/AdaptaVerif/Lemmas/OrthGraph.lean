/-
Soundness of `Check.OrthGraph.checkCert` (potential argument on libavoid's own orthogonal
visibility graph).
-/
import AdaptaVerif.Check.OrthGraph
import AdaptaVerif.Lemmas.Hanan
namespace AdaptaVerif.Lemmas.OrthGraph
open AdaptaVerif.Check.OrthGraph
open AdaptaVerif.Lemmas.Hanan (Walk potential_lower_bound minList_le)

def GEdge (g : VG) (u v : VState) (w : Rat) : Prop := inRange g u ∧ (v, w) ∈ succ g u

/-- `c` is the cost of a route of the graph: a first hop out of the source, then a walk to the target -/
def IsRouteCost (g : VG) (c : Rat) : Prop :=
  ∃ v w t c', (v, w) ∈ firstMoves g ∧ Walk (GEdge g) v t c' ∧ isGoal g t = true ∧ c = w + c'

theorem mem_allStates {g : VG} {u : VState} (h : inRange g u) : u ∈ allStates g := by
  obtain ⟨h1, h2⟩ := h
  unfold allStates
  simp only [List.mem_flatMap, List.mem_map, List.mem_range]
  exact ⟨u.v, h1, u.h, h2, rfl⟩

theorem hop_lt {g : VG} {u w d : Nat} {len : Rat} (h : hop g u w = some (d, len)) : d < 4 := by
  unfold hop at h
  extract_lets ax ay bx by_ at h
  split_ifs at h <;> cases h <;> decide

theorem edge_inRange {g : VG} {s v : VState} {w : Nat} {c : Rat} (h : edge g s w = some (v, c)) :
    inRange g v := by
  unfold edge at h
  split at h
  · simp at h
  · rename_i hc
    split at h
    · simp at h
    · rename_i d len hh
      simp only [Option.some.injEq, Prod.mk.injEq] at h
      rw [← h.1]
      refine ⟨?_, hop_lt hh⟩
      simp only [not_or, not_not] at hc
      exact hc.2.1

theorem succ_inRange {g : VG} {u v : VState} {w : Rat} (h : (v, w) ∈ succ g u) : inRange g v := by
  unfold succ at h
  simp only [List.mem_filterMap] at h
  obtain ⟨x, _, he⟩ := h
  exact edge_inRange he

theorem firstMoves_inRange {g : VG} {v : VState} {w : Rat} (h : (v, w) ∈ firstMoves g) :
    inRange g v := by
  unfold firstMoves at h
  simp only [List.mem_filterMap] at h
  obtain ⟨x, _, he⟩ := h
  split at he
  · simp at he
  · rename_i hc
    split at he
    · simp at he
    · rename_i d len hh
      simp only [Option.some.injEq, Prod.mk.injEq] at he
      rw [← he.1]
      refine ⟨?_, hop_lt hh⟩
      simp only [not_or, not_not] at hc
      exact hc.2

theorem feasible_spec {g : VG} {c : Cert} (h : feasible g c = true) :
    ∀ u v w, GEdge g u v w → potAt c u ≤ w + potAt c v := by
  intro u v w ⟨hr, hm⟩
  unfold feasible at h
  rw [List.all_eq_true] at h
  have h1 := h u (mem_allStates hr)
  rw [List.all_eq_true] at h1
  have h2 := h1 (v, w) hm
  simpa using h2

theorem goalsOk_spec {g : VG} {c : Cert} (h : goalsOk g c = true) :
    ∀ t, inRange g t → isGoal g t = true → potAt c t ≤ 0 := by
  intro t hr hg
  unfold goalsOk at h
  rw [List.all_eq_true] at h
  have h1 := h t (mem_allStates hr)
  simpa [hg] using h1

theorem walkCost_sound {g : VG} (l : List VState) (u : VState) (c : Rat)
    (h : walkCost g u l = some c) : Walk (GEdge g) u (lastState u l) c := by
  fun_induction walkCost g u l generalizing c with
  | case1 u => obtain rfl := Option.some.inj h; exact Walk.nil u
  | case2 u v rest hr e hf c' hc' ih =>
    obtain rfl := Option.some.inj h
    have hev : e.1 = v := by simpa using List.find?_some hf
    exact Walk.cons ⟨hr, hev ▸ List.mem_of_find?_eq_some hf⟩ (ih c' hc')
  | case3 | case4 | case5 => cases h

theorem witnessCost_sound {g : VG} {c : Cert} {wc : Rat} (h : witnessCost g c = some wc) :
    IsRouteCost g wc := by
  unfold witnessCost at h
  split at h
  · simp at h
  · rename_i v rest _
    split at h
    · simp at h
    · rename_i e hf
      split at h
      · simp at h
      · rename_i w hw
        split at h
        · rename_i hg
          simp only [Option.some.injEq] at h
          have hmem := List.mem_of_find?_eq_some hf
          have hev : e.1 = v := by simpa using List.find?_some hf
          refine ⟨v, e.2, lastState v rest, w, ?_, walkCost_sound rest v w hw, hg, h.symm⟩
          rw [← hev]; exact hmem
        · simp at h

theorem checkCert_sound {g : VG} {c : Cert} {opt : Rat} (h : checkCert g c = some opt) :
    (∀ r, IsRouteCost g r → opt ≤ r) ∧ IsRouteCost g opt := by
  unfold checkCert at h
  split at h
  · rename_i hfg
    rw [Bool.and_eq_true] at hfg
    obtain ⟨hf, hg⟩ := hfg
    split at h
    · rename_i lb wc hlb hwc
      split at h
      · rename_i heq
        simp only [Option.some.injEq] at h
        subst h
        constructor
        · rintro r ⟨v, w, t, c', hfm, hwalk, hgoal, rfl⟩
          have hpot := potential_lower_bound (GEdge g) (potAt c) (fun t => inRange g t ∧ isGoal g t = true)
            (feasible_spec hf) (fun t ht => goalsOk_spec hg t ht.1 ht.2) hwalk
            ⟨hwalk.end_mem (R := inRange g) (fun _ _ _ he => succ_inRange he.2) (firstMoves_inRange hfm), hgoal⟩
          have hmin := minList_le hlb (w + potAt c v) (List.mem_map.mpr ⟨(v, w), hfm, rfl⟩)
          linarith
        · rw [heq]; exact witnessCost_sound hwc
      · simp at h
    · simp at h
  · simp at h

end AdaptaVerif.Lemmas.OrthGraph
