/-
C19 — the bucket-based mirror `peelB` of the leaf-stripping loop computes the same result as
the degree-based model `peel`. Core Lean only.
-/
import AdaptaVerif.Lemmas.PeelModel
import AdaptaVerif.Lemmas.Util.Fold

namespace AdaptaVerif.Lemmas.PeelBuckets
open AdaptaVerif.Spec.UGraph AdaptaVerif.Model.Peel
open AdaptaVerif.Lemmas.PeelModel (mem_leavesOf)
open AdaptaVerif.Lemmas.Util (lookup_cons_ne)

theorem lookup_filter {q : Nat → Bool} {w : Nat} (hq : q w = true) :
    ∀ B : List (Nat × Nat), List.lookup w (B.filter (fun p => q p.1)) = List.lookup w B := by
  intro B
  induction B with
  | nil => rfl
  | cons p rest ih =>
    obtain ⟨k, d⟩ := p
    by_cases hk : w = k
    · subst hk
      rw [List.filter_cons]
      simp only [hq, if_true, List.lookup_cons_self]
    · rw [List.filter_cons]
      split
      · rw [lookup_cons_ne hk, lookup_cons_ne hk, ih]
      · rw [lookup_cons_ne hk, ih]

theorem lookup_map_degree (es : List (Nat × Nat)) {v : Nat} :
    ∀ ns : List Nat, v ∈ ns →
      List.lookup v (ns.map (fun v => (v, degree es v))) = some (degree es v) := by
  intro ns
  induction ns with
  | nil => intro h; cases h
  | cons a rest ih =>
    intro h
    rw [List.map_cons]
    by_cases ha : v = a
    · subst ha; exact List.lookup_cons_self
    · rw [lookup_cons_ne ha]
      cases List.mem_cons.1 h with
      | inl h1 => exact absurd h1 ha
      | inr h1 => exact ih h1

theorem moveNode_lookup_ne (M : Nat) (B : Buckets) {v w : Nat} (o n : Nat) (h : w ≠ v) :
    List.lookup w (moveNode M B v o n) = List.lookup w B := by
  unfold moveNode
  split
  · rfl
  · split
    · rw [lookup_cons_ne h]
      exact lookup_filter (q := fun x => x != v) (by simpa using h) B
    · rfl

theorem moveNode_lookup_eq {M : Nat} {B : Buckets} {v o n : Nat} (ho : o ≤ M) (hn : n ≤ M)
    (h : List.lookup v B = some o) : List.lookup v (moveNode M B v o n) = some n := by
  unfold moveNode
  have h1 : (decide (o > M) || decide (n > M)) = false := by
    simp only [Bool.or_eq_false_iff, decide_eq_false_iff_not]
    omega
  rw [h1]
  simp only [Bool.false_eq_true, if_false, bucketOf, h, beq_self_eq_true, if_true]
  exact List.lookup_cons_self

theorem length_filter_split (p q : Nat × Nat → Bool) (E : List (Nat × Nat)) :
    (E.filter p).length =
      ((E.filter q).filter p).length + ((E.filter (fun e => !q e)).filter p).length := by
  induction E with
  | nil => rfl
  | cons a rest ih =>
    cases hq : q a <;> cases hp : p a <;>
      simp only [List.filter_cons, hq, hp, Bool.not_true, Bool.not_false, if_true, if_false,
        Bool.false_eq_true, List.length_cons] <;> omega

theorem degree_split (E : List (Nat × Nat)) (u w : Nat) :
    degree E w = ((E.filter (incident u)).filter (incident w)).length +
      degree (E.filter (fun e => !incident u e)) w :=
  length_filter_split (incident w) (incident u) E

theorem degree_filter_le (E : List (Nat × Nat)) (q : Nat × Nat → Bool) (w : Nat) :
    degree (E.filter q) w ≤ degree E w :=
  (List.filter_sublist.filter _).length_le

theorem otherEnd_of_incident {u w : Nat} {e : Nat × Nat} (hu : incident u e = true)
    (hw : incident w e = true) (hne : w ≠ u) : otherEnd u e = w := by
  simp only [incident, Bool.or_eq_true, beq_iff_eq] at hu hw
  unfold otherEnd
  split <;> rename_i h <;> simp only [beq_iff_eq] at h <;> omega

theorem incident_otherEnd (u : Nat) (e : Nat × Nat) : incident (otherEnd u e) e = true := by
  unfold incident otherEnd
  split <;> simp

/-- one iteration of the leaf loop of `severNodes` -/
def sever1 (M : Nat) (eb : List (Nat × Nat) × Buckets) (u : Nat) : List (Nat × Nat) × Buckets :=
  let inc := eb.1.filter (incident u)
  let es' := eb.1.filter (fun e => !incident u e)
  (es', inc.foldl (fun b e =>
      moveNode M b (otherEnd u e) (degree es' (otherEnd u e) + 1) (degree es' (otherEnd u e)))
    eb.2)

theorem severNodes_eq (M : Nat) (ls : List Nat) (E : List (Nat × Nat)) (B : Buckets) :
    severNodes M ls E B = ls.foldl (sever1 M) (E, B) := rfl

/-- the bucket invariant on the surviving nodes `N` -/
def J (M : Nat) (N : List Nat) (E : List (Nat × Nat)) (B : Buckets) : Prop :=
  ∀ w, w ∈ N → List.lookup w B = some (degree E w) ∧ degree E w ≤ M

theorem sever1_fst (M : Nat) (eb : List (Nat × Nat) × Buckets) (u : Nat) :
    (sever1 M eb u).1 = eb.1.filter (fun e => !incident u e) := rfl

theorem sever1_J {M : Nat} {N : List Nat} {E : List (Nat × Nat)} {B : Buckets} {u : Nat}
    (hu : u ∉ N) (hd : degree E u ≤ 1) (hJ : J M N E B) :
    J M N (sever1 M (E, B) u).1 (sever1 M (E, B) u).2 := by
  intro w hw
  obtain ⟨hl, hb⟩ := hJ w hw
  have hwu : w ≠ u := fun e => hu (e ▸ hw)
  have hsplit := degree_split E u w
  simp only [sever1]
  match hinc : E.filter (incident u), (show (E.filter (incident u)).length ≤ 1 from hd) with
  | [], _ =>
    rw [hinc] at hsplit
    simp only [List.filter_nil, List.length_nil, Nat.zero_add] at hsplit
    simp only [List.foldl_nil]
    rw [← hsplit]
    exact ⟨hl, hb⟩
  | [e], _ =>
    have heu : incident u e = true := by
      have : e ∈ E.filter (incident u) := by rw [hinc]; exact List.mem_singleton.2 rfl
      exact (List.mem_filter.1 this).2
    rw [hinc] at hsplit
    simp only [List.foldl_cons, List.foldl_nil]
    by_cases hwv : w = otherEnd u e
    · have hinc_w : incident w e = true := hwv ▸ incident_otherEnd u e
      simp only [List.filter_cons, hinc_w, if_true, List.filter_nil, List.length_cons,
        List.length_nil] at hsplit
      rw [← hwv]
      refine ⟨moveNode_lookup_eq (by omega) (by omega) ?_, by omega⟩
      rw [hl]; congr 1; omega
    · have hinc_w : incident w e = false := by
        cases h : incident w e with
        | false => rfl
        | true => exact absurd (otherEnd_of_incident heu h hwu).symm hwv
      simp only [List.filter_cons, hinc_w, Bool.false_eq_true, if_false, List.filter_nil,
        List.length_nil, Nat.zero_add] at hsplit
      rw [moveNode_lookup_ne _ _ _ _ hwv, ← hsplit]
      exact ⟨hl, hb⟩
  | _ :: _ :: _, h2 => simp only [List.length_cons] at h2; omega

theorem severNodes_spec (M : Nat) (N : List Nat) : ∀ (ls : List Nat) (E : List (Nat × Nat))
    (B : Buckets), (∀ u, u ∈ ls → u ∉ N ∧ degree E u ≤ 1) → J M N E B →
    (severNodes M ls E B).1 = E.filter (fun e => !(ls.contains e.1 || ls.contains e.2)) ∧
    J M N (severNodes M ls E B).1 (severNodes M ls E B).2 := by
  intro ls
  induction ls with
  | nil =>
    intro E B _ hJ
    refine ⟨?_, hJ⟩
    show E = _
    symm
    apply List.filter_eq_self.2
    intro e _
    rfl
  | cons u rest ih =>
    intro E B hls hJ
    rw [severNodes_eq, List.foldl_cons, ← severNodes_eq]
    have hu := hls u List.mem_cons_self
    have hJ' := sever1_J hu.1 hu.2 hJ
    have hrest : ∀ x, x ∈ rest → x ∉ N ∧ degree (sever1 M (E, B) u).1 x ≤ 1 := by
      intro x hx
      obtain ⟨h1, h2⟩ := hls x (List.mem_cons_of_mem _ hx)
      refine ⟨h1, Nat.le_trans ?_ h2⟩
      rw [sever1_fst]
      exact degree_filter_le _ _ _
    obtain ⟨e1, e2⟩ := ih (sever1 M (E, B) u).1 (sever1 M (E, B) u).2 hrest hJ'
    refine ⟨?_, e2⟩
    rw [e1, sever1_fst, List.filter_filter]
    apply List.filter_congr
    intro e _
    simp only [List.contains_cons, incident]
    cases (e.1 == u) <;> cases (e.2 == u) <;> cases (rest.contains e.1) <;>
      cases (rest.contains e.2) <;> rfl

/-- the bucket state `b` mirrors the plain state `s` -/
structure Rel (M : Nat) (b : BState) (s : PState) : Prop where
  nodes : b.nodes = s.nodes
  edges : b.edges = s.edges
  stems : b.stems = s.stems
  buckets : J M s.nodes s.edges b.buckets

theorem roundB_eq (M : Nat) (b : BState) :
    roundB M b =
      (let ls := b.nodes.filter (fun v => bucketOf b.buckets v == some 1)
       if ls.isEmpty then none else
        let sv := severNodes M ls b.edges (b.buckets.filter (fun p => !ls.contains p.1))
        let ns := b.nodes.filter (fun v => !ls.contains v)
        some ⟨ns, sv.1, b.stems ++ (if ns.isEmpty then (ls.map (stemOf b.edges)).dropLast
          else ls.map (stemOf b.edges)), sv.2⟩) := rfl

theorem takeLeaves_eq {M : Nat} {b : BState} {s : PState} (hrel : Rel M b s) :
    b.nodes.filter (fun v => bucketOf b.buckets v == some 1) = leavesOf s.nodes s.edges := by
  rw [hrel.nodes]
  unfold leavesOf
  apply List.filter_congr
  intro v hv
  rw [bucketOf, (hrel.buckets v hv).1]
  rw [Bool.eq_iff_iff]
  simp only [beq_iff_eq, Option.some.injEq]

theorem round_lockstep {M : Nat} {b : BState} {s : PState} (hrel : Rel M b s) :
    (roundB M b = none ∧ round s = none) ∨
    ∃ b' s', roundB M b = some b' ∧ round s = some s' ∧ Rel M b' s' := by
  have hls := takeLeaves_eq hrel
  rw [roundB_eq]
  simp only [hls]
  unfold round
  simp only
  by_cases hemp : (leavesOf s.nodes s.edges).isEmpty = true
  · left
    simp only [hemp, if_true, and_self]
  · right
    simp only [hemp, Bool.false_eq_true, if_false]
    refine ⟨_, _, rfl, rfl, ?_⟩
    have hJ0 : J M (s.nodes.filter (fun v => !(leavesOf s.nodes s.edges).contains v)) s.edges
        (b.buckets.filter (fun p => !(leavesOf s.nodes s.edges).contains p.1)) := by
      intro w hw
      obtain ⟨hwn, hwl⟩ := List.mem_filter.1 hw
      rw [lookup_filter (q := fun x => !(leavesOf s.nodes s.edges).contains x) hwl]
      exact hrel.buckets w hwn
    have hleaf : ∀ u, u ∈ leavesOf s.nodes s.edges →
        u ∉ s.nodes.filter (fun v => !(leavesOf s.nodes s.edges).contains v) ∧
          degree s.edges u ≤ 1 := by
      intro u hu
      refine ⟨?_, Nat.le_of_eq (mem_leavesOf.1 hu).2⟩
      intro hm
      have := (List.mem_filter.1 hm).2
      simp only [List.contains_eq_mem, hu, decide_true, Bool.not_true, Bool.false_eq_true] at this
    obtain ⟨e1, e2⟩ := severNodes_spec M _ (leavesOf s.nodes s.edges) s.edges _ hleaf hJ0
    have e2' := e2
    rw [e1] at e2'
    rw [hrel.edges]
    exact ⟨by rw [hrel.nodes], e1, by rw [hrel.nodes, hrel.stems], e2'⟩

theorem rounds_lockstep (M : Nat) : ∀ (f : Nat) (b : BState) (s : PState), Rel M b s →
    (roundsB M f b = none ∧ rounds f s = none) ∨
    ∃ b' s', roundsB M f b = some b' ∧ rounds f s = some s' ∧ Rel M b' s' := by
  intro f
  induction f with
  | zero => intro b s _; exact Or.inl ⟨rfl, rfl⟩
  | succ f ih =>
    intro b s hrel
    unfold roundsB rounds
    cases round_lockstep hrel with
    | inl h =>
      rw [h.1, h.2]
      exact Or.inr ⟨b, s, rfl, rfl, hrel⟩
    | inr h =>
      obtain ⟨b', s', h1, h2, hrel'⟩ := h
      rw [h1, h2]
      exact ih b' s' hrel'

theorem peelB_eq_peel' (ns : List Nat) (es : List (Nat × Nat)) : peelB ns es = peel ns es := by
  have hrel : Rel ((ns.map (degree es)).foldl max 0)
      ⟨ns, es, [], ns.map (fun v => (v, degree es v))⟩ ⟨ns, es, []⟩ := by
    refine ⟨rfl, rfl, rfl, ?_⟩
    intro w hw
    exact ⟨lookup_map_degree es ns hw, (Util.le_foldl_max id _ 0).2 _ (List.mem_map.2 ⟨w, hw, rfl⟩)⟩
  unfold peelB peel
  simp only
  cases rounds_lockstep _ (ns.length + 1) _ _ hrel with
  | inl h => rw [h.1, h.2]
  | inr h =>
    obtain ⟨b', s', h1, h2, hrel'⟩ := h
    rw [h1, h2]
    simp only [hrel'.nodes, hrel'.edges, hrel'.stems]

theorem peelB_eq_peel {ns : List Nat} {es : List (Nat × Nat)} (_hs : Simple ns es) :
    peelB ns es = peel ns es :=
  peelB_eq_peel' ns es

end AdaptaVerif.Lemmas.PeelBuckets
