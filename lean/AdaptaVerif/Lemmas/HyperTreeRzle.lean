/-
C12, model of `HyperedgeImprover::removeZeroLengthEdges(node, ignored)`: what the decision for one edge
returns and leaves alone (`rzleDec_cases`, `rzleDec_relabel`), the induction principle of the traversal
(`rzle_inv_all`: a property kept by every contraction step is kept for every fuel, start node and
`ignored` edge), and the step keeps the hyperedge tree a well-formed tree (`rzleStep_tree`).
-/
import AdaptaVerif.Lemmas.HyperTree
namespace AdaptaVerif.Lemmas.HyperTreeRzle
open AdaptaVerif.Model.HyperTree AdaptaVerif.Check.Tree AdaptaVerif.Spec.Tree AdaptaVerif.Lemmas.HyperTree

/-- the state after `rzleDecide` has recorded that the junction `oj` of node `on` goes (it is merged into
    the junction `sj`), and with it the connector of the edge `e` between the two -/
def dropped (s : Imp) (e : HEdge) (on oj sj : Nat) : Imp :=
  { s with delJ := s.delJ ++ [oj],
           junctions := s.junctions.filter (fun p => p.1 != oj),
           roots := if s.roots.contains oj then
                      (if (s.roots.filter (· != oj)).contains sj then s.roots.filter (· != oj)
                       else s.roots.filter (· != oj) ++ [sj])
                    else s.roots,
           delC := match e.conn with
             | some c => s.delC ++ [c]
             | none => s.delC,
           t := (s.t.modNode on (fun x => { x with junction := none })).modEdge e.id
                  (fun x => { x with conn := none }) }

theorem rzleDec_cases {s : Imp} {e : HEdge} {sn : HNode} {self tg src : Nat} {s1 : Imp}
    (h : rzleDec s e sn self = some (tg, src, s1)) :
    e.hasFixedRoute = false ∧ zeroLength s.t e = true ∧ ∃ on ∈ s.t.nodes, e.followFrom self = some on.id ∧
      ((s1 = s ∧ ((tg = on.id ∧ src = sn.id ∧ sn.junction = none) ∨
                  (tg = sn.id ∧ src = on.id ∧ on.junction = none))) ∨
       (tg = sn.id ∧ src = on.id ∧ ∃ oj sj, on.junction = some oj ∧ sn.junction = some sj ∧
          s.canMajor = true ∧ s1 = dropped s e on.id oj sj)) := by
  unfold rzleDec at h
  by_cases hcond : (!e.hasFixedRoute && zeroLength s.t e) = true
  · rw [if_pos hcond] at h
    simp only [Bool.and_eq_true, Bool.not_eq_true'] at hcond
    cases ho : e.followFrom self with
    | none => rw [ho] at h; cases h
    | some o =>
      rw [ho] at h
      dsimp only at h
      cases hon : s.t.node? o with
      | none => rw [hon] at h; cases h
      | some on =>
        rw [hon] at h
        dsimp only at h
        obtain ⟨honm, rfl⟩ := node?_mem hon
        refine ⟨hcond.1, hcond.2, on, honm, rfl, ?_⟩
        unfold rzleDecide at h
        split at h
        · next oj hoj hsjn => cases h; exact Or.inl ⟨rfl, Or.inl ⟨rfl, rfl, hsjn⟩⟩
        · next sj hojn hsj => cases h; exact Or.inl ⟨rfl, Or.inr ⟨rfl, rfl, hojn⟩⟩
        · next hojn hsjn => cases h; exact Or.inl ⟨rfl, Or.inr ⟨rfl, rfl, hojn⟩⟩
        · next oj sj hoj hsj =>
          split at h
          · next hmaj => cases h; exact Or.inr ⟨rfl, rfl, oj, sj, hoj, hsj, hmaj, rfl⟩
          · cases h
  · rw [if_neg hcond] at h; cases h

/-- `{ gN n with junction := n.junction } = n` says "`gN` keeps every field but the junction" without listing the
    fields; a consumer reads a field off it with `congrArg`. -/
theorem rzleDec_relabel {s : Imp} {e : HEdge} {sn : HNode} {self tg src : Nat} {s1 : Imp}
    (h : rzleDec s e sn self = some (tg, src, s1)) :
    ∃ gN gE, Relabel gN gE s.t s1.t ∧ (∀ n, { gN n with junction := n.junction } = n) ∧
      (∀ x, { gE x with conn := x.conn } = x) := by
  obtain ⟨-, -, on, -, -, ⟨rfl, -⟩ | ⟨-, -, oj, sj, -, -, -, rfl⟩⟩ := rzleDec_cases h
  · exact ⟨id, id, Relabel.refl _, fun _ => rfl, fun _ => rfl⟩
  · refine ⟨_, _, (Relabel.modNode s.t on.id (f := fun x => { x with junction := none }) (fun _ => rfl)
      (fun _ => rfl)).trans (Relabel.modEdge _ e.id (f := fun x => { x with conn := none }) (fun _ => rfl)
      (fun _ => rfl) (fun _ => rfl)), ?_, ?_⟩
    · intro n; simp only [Function.comp, id, atId]; split <;> rfl
    · intro x; simp only [Function.comp, id, atId]; split <;> rfl

theorem rzleDec_counters {s : Imp} {e : HEdge} {sn : HNode} {self tg src : Nat} {s1 : Imp}
    (h : rzleDec s e sn self = some (tg, src, s1)) :
    s1.keepAttrs = s.keepAttrs ∧ s1.nextJ = s.nextJ ∧ s1.newJ = s.newJ := by
  obtain ⟨-, -, on, -, -, ⟨rfl, -⟩ | ⟨-, -, oj, sj, -, -, -, rfl⟩⟩ := rzleDec_cases h <;> exact ⟨rfl, rfl, rfl⟩

theorem rzleDec_joins {s : Imp} {e : HEdge} {sn : HNode} {self tg src : Nat} {s1 : Imp}
    (hdec : rzleDec s e sn self = some (tg, src, s1)) (hw : WF s.t) (he : e ∈ s.t.edges)
    (hsn : sn ∈ s.t.nodes) (hl : e.id ∈ sn.edges) (hsid : sn.id = self) : Joins e tg src := by
  obtain ⟨-, -, on, -, ho, hcase⟩ := rzleDec_cases hdec
  have hj : Joins e sn.id on.id := joins_of_followFrom hw hsn he hl (hsid ▸ ho)
  rcases hcase with ⟨-, ⟨rfl, rfl, -⟩ | ⟨rfl, rfl, -⟩⟩ | ⟨rfl, rfl, -⟩
  · exact hj.symm
  · exact hj
  · exact hj

theorem rzlePrep_relabel (s1 : Imp) (e tg src : Nat) :
    ∃ gN, Relabel gN id s1.t (rzlePrep s1 e tg src) ∧
      ∀ n, (gN n).junction = n.junction ∧ (gN n).point = n.point := by
  unfold rzlePrep keepTerminalAttrs
  split
  · split
    · split
      · exact ⟨_, Relabel.modNode _ _ (fun _ => rfl) (fun _ => rfl),
          fun n => by unfold atId; split <;> exact ⟨rfl, rfl⟩⟩
      · exact ⟨id, Relabel.refl _, fun _ => ⟨rfl, rfl⟩⟩
    · exact ⟨id, Relabel.refl _, fun _ => ⟨rfl, rfl⟩⟩
  · exact ⟨id, Relabel.refl _, fun _ => ⟨rfl, rfl⟩⟩

theorem rzlePrep_of_dec {s : Imp} {e : HEdge} {sn : HNode} {self tg src : Nat} {s1 : Imp}
    (hdec : rzleDec s e sn self = some (tg, src, s1)) :
    ∃ gN gE, Relabel gN gE s.t (rzlePrep s1 e.id tg src) ∧ (∀ n, (gN n).point = n.point) ∧
      (∀ x, (gE x).hasFixedRoute = x.hasFixedRoute) := by
  obtain ⟨gN, gE, hk, hkN, hkE⟩ := rzleDec_relabel hdec
  obtain ⟨gP, hp, hkP⟩ := rzlePrep_relabel s1 e.id tg src
  refine ⟨_, _, hk.trans hp, fun n => ((hkP _).2).trans ?_, fun x => ?_⟩
  · have := congrArg HNode.point (hkN n); exact this
  · have := congrArg HEdge.hasFixedRoute (hkE x); exact this

/-- what one contraction performed by the traversal looks like: the edge `e`, listed at the live node
    `sn`, was chosen by `rzleDec`, and `contract` returned `t2` -/
structure RzleStep (s : Imp) (s2 : Imp) : Prop where
  step : ∃ (e : HEdge) (sn : HNode) (tg src : Nat) (s1 : Imp) (t2 : HTree),
    e ∈ s.t.edges ∧ sn ∈ s.t.nodes ∧ e.id ∈ sn.edges ∧ rzleDec s e sn sn.id = some (tg, src, s1) ∧
    contract (rzlePrep s1 e.id tg src) e.id tg src = some t2 ∧ s2 = { s1 with t := t2 }

theorem rzle_inv_all (P : Imp → Prop) (hstep : ∀ s s2, P s → RzleStep s s2 → P s2) (f : Nat) :
    (∀ s self ign s', P s → rzleNode f s self ign = some s' → P s') ∧
    (∀ s self ign l s', P s → rzleLoop f s self ign l = some s' → P s') ∧
    (∀ s eid ign s', P s → rzleEdge f s eid ign = some s' → P s') := by
  induction f with
  | zero =>
    refine ⟨?_, ?_, ?_⟩
    · intro s self ign s' _ h; simp [rzleNode] at h
    · intro s self ign l s' _ h; simp [rzleLoop] at h
    · intro s eid ign s' _ h; simp [rzleEdge] at h
  | succ f ih =>
    obtain ⟨ihN, ihL, ihE⟩ := ih
    refine ⟨?_, ?_, ?_⟩
    · intro s self ign s' ht h
      rw [rzleNode] at h
      split at h
      · simp at h
      · exact ihL _ _ _ _ _ ht h
    · intro s self ign l s' ht h
      cases l with
      | nil =>
        rw [rzleLoop] at h
        simp only [Option.some.injEq] at h
        subst h
        exact ht
      | cons eid rest =>
        rw [rzleLoop] at h
        split at h
        · exact ihL _ _ _ _ _ ht h
        · split at h
          · rename_i e sn hE hN
            obtain ⟨he, heid⟩ := edge?_mem hE
            obtain ⟨hsn, hsid⟩ := node?_mem hN
            split at h
            · simp at h
            · rename_i hcont
              have hl : e.id ∈ sn.edges := by
                rw [heid]
                simpa using hcont
              split at h
              · rename_i target source s1 hdec
                split at h
                · simp at h
                · rename_i t2 hc
                  refine ihN _ _ _ _ (hstep s _ ht ⟨e, sn, target, source, s1, t2, he, hsn, hl, ?_, ?_, rfl⟩) h
                  · rw [hsid]; exact hdec
                  · rw [heid]; exact hc
              · split at h
                · simp at h
                · rename_i s2 hs2
                  exact ihL _ _ _ _ _ (ihE _ _ _ _ ht hs2) h
          · simp at h
    · intro s eid ign s' ht h
      rw [rzleEdge] at h
      split at h
      · simp at h
      · split at h
        · simp at h
        · rename_i a _
          split at h
          · simp at h
          · rename_i s1 hs1
            have ht1 : P s1 := by
              split at hs1
              · exact ihN _ _ _ _ ht hs1
              · simp only [Option.some.injEq] at hs1
                subst hs1
                exact ht
            split at h
            · simp at h
            · split at h
              · simp at h
              · split at h
                · exact ihN _ _ _ _ ht1 h
                · simp only [Option.some.injEq] at h
                  subst h
                  exact ht1

theorem rzleStep_tree {s s2 : Imp} (ht : Tree s.t) (h : RzleStep s s2) : Tree s2.t := by
  obtain ⟨e, sn, tg, src, s1, t2, he, hsn, hl, hdec, hc, rfl⟩ := h.step
  obtain ⟨gN, gE, hg, -⟩ := rzlePrep_of_dec hdec
  have hj := rzleDec_joins hdec ht.1 he hsn hl rfl
  obtain ⟨t2', hc', ht2, -⟩ := contract_tree (hg.tree ht) (hg.mem_edges.mpr ⟨e, he, rfl⟩)
    (hj.congr (hg.e1 e) (hg.e2 e))
  rw [hg.eid, hc] at hc'
  cases hc'
  exact ht2

end AdaptaVerif.Lemmas.HyperTreeRzle
