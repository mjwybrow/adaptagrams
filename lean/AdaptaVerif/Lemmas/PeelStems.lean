/-
C19 (libdialect peel): the stem graph H.  `peel` collects stems (leaf, root); H has the stem ends as nodes
(`hNodes`) and one edge per stem (`hEdges`).  A `Ranked` stem list makes H a forest: every edge joins a
leaf to its parent, whose rank (position as a leaf, or `stems.length`) is strictly larger; climbing from
leaf to parent (`Climbs`) ends at the one node of the component that is never a leaf.  Core Lean only.
-/
import AdaptaVerif.Lemmas.PeelDefs
import AdaptaVerif.Lemmas.PeelRank

namespace AdaptaVerif.Lemmas.PeelStems
open AdaptaVerif.Spec.UGraph AdaptaVerif.Model.Peel AdaptaVerif.Lemmas.PeelDefs
open AdaptaVerif.Lemmas.PeelRank

variable {stems : List (Nat × Nat)}

theorem leafList_append (A B : List (Nat × Nat)) :
    leafList (A ++ B) = leafList A ++ leafList B := List.map_append

theorem leafList_cons (s : Nat × Nat) (B : List (Nat × Nat)) :
    leafList (s :: B) = s.1 :: leafList B := rfl

theorem length_leafList (A : List (Nat × Nat)) : (leafList A).length = A.length := List.length_map _

theorem mem_leafList {v : Nat} :
    v ∈ leafList stems ↔ ∃ r, (v, r) ∈ stems := by
  constructor
  · intro h
    obtain ⟨⟨a, b⟩, hm, rfl⟩ := List.mem_map.1 h
    exact ⟨b, hm⟩
  · rintro ⟨r, hr⟩
    exact List.mem_map.2 ⟨(v, r), hr, rfl⟩

theorem mem_hEdges {a b : Nat} :
    (a, b) ∈ hEdges stems ↔ (b, a) ∈ stems := by
  constructor
  · intro h
    obtain ⟨⟨x, y⟩, hm, he⟩ := List.mem_map.1 h
    cases he
    exact hm
  · intro h
    exact List.mem_map.2 ⟨(b, a), h, rfl⟩

theorem mem_step (acc : List Nat) (x v : Nat) :
    v ∈ (if acc.contains x then acc else acc ++ [x]) ↔ v ∈ acc ∨ v = x := by
  split
  · rename_i h
    have hx : x ∈ acc := List.contains_iff_mem.1 h
    exact ⟨Or.inl, fun h => h.elim id (fun e => e ▸ hx)⟩
  · simp only [List.mem_append, List.mem_singleton]

theorem mem_hNodes_aux (stems : List (Nat × Nat)) : ∀ (acc : List Nat) (v : Nat),
    v ∈ stems.foldl (fun acc s =>
      let acc := if acc.contains s.1 then acc else acc ++ [s.1]
      if acc.contains s.2 then acc else acc ++ [s.2]) acc ↔
    v ∈ acc ∨ ∃ st, st ∈ stems ∧ (v = st.1 ∨ v = st.2) := by
  induction stems with
  | nil =>
    intro acc v
    simp only [List.foldl_nil, List.not_mem_nil, false_and, exists_false, or_false]
  | cons s rest ih =>
    intro acc v
    rw [List.foldl_cons, ih]
    simp only [mem_step, List.mem_cons]
    constructor
    · rintro (((h | h) | h) | ⟨st, hst, hv⟩)
      · exact Or.inl h
      · exact Or.inr ⟨s, Or.inl rfl, Or.inl h⟩
      · exact Or.inr ⟨s, Or.inl rfl, Or.inr h⟩
      · exact Or.inr ⟨st, Or.inr hst, hv⟩
    · rintro (h | ⟨st, hst | hst, hv⟩)
      · exact Or.inl (Or.inl (Or.inl h))
      · subst hst
        cases hv with
        | inl hv => exact Or.inl (Or.inl (Or.inr hv))
        | inr hv => exact Or.inl (Or.inr hv)
      · exact Or.inr ⟨st, hst, hv⟩

theorem mem_hNodes {v : Nat} :
    v ∈ hNodes stems ↔ ∃ st, st ∈ stems ∧ (v = st.1 ∨ v = st.2) := by
  unfold hNodes
  rw [mem_hNodes_aux]
  simp only [List.not_mem_nil, false_or]

theorem mem_sortNat {l : List Nat} {v : Nat} : v ∈ sortNat l ↔ v ∈ l := List.mem_mergeSort

theorem hEdges_endpoints (stems : List (Nat × Nat)) :
    ∀ e, e ∈ hEdges stems → e.1 ∈ sortNat (hNodes stems) ∧ e.2 ∈ sortNat (hNodes stems) := by
  intro e he
  have : (e.2, e.1) ∈ stems := mem_hEdges.1 he
  exact ⟨mem_sortNat.2 (mem_hNodes.2 ⟨_, this, Or.inr rfl⟩),
    mem_sortNat.2 (mem_hNodes.2 ⟨_, this, Or.inl rfl⟩)⟩

theorem pairwise_of_prefix (stems : List (Nat × Nat)) :
    (∀ A t B, stems = A ++ t :: B → t.2 ∉ leafList A) →
      stems.Pairwise (fun a b => b.2 ≠ a.1) := by
  induction stems with
  | nil => intro _; exact List.Pairwise.nil
  | cons x rest ih =>
    intro h
    refine List.Pairwise.cons ?_ (ih ?_)
    · intro b hb hbx
      obtain ⟨A', B', hr⟩ := List.append_of_mem hb
      have := h (x :: A') b B' (by rw [hr]; rfl)
      exact this (by rw [leafList_cons, hbx]; exact List.mem_cons_self)
    · intro A t B hr hm
      exact h (x :: A) t B (by rw [hr]; rfl) (by rw [leafList_cons]; exact List.mem_cons_of_mem _ hm)

theorem ranked_iff :
    Ranked stems ↔ (leafList stems).Nodup ∧ (∀ t, t ∈ stems → t.2 ≠ t.1) ∧
      stems.Pairwise (fun a b => b.2 ≠ a.1) := by
  constructor
  · rintro ⟨h1, h2⟩
    refine ⟨h1, ?_, pairwise_of_prefix stems (fun A t B h => (h2 A t B h).2)⟩
    intro t ht
    obtain ⟨A, B, hs⟩ := List.append_of_mem ht
    exact (h2 A t B hs).1
  · rintro ⟨h1, h2, h3⟩
    refine ⟨h1, ?_⟩
    intro A t B hs
    refine ⟨h2 t (by rw [hs]; exact List.mem_append_right _ List.mem_cons_self), ?_⟩
    rw [hs] at h3
    obtain ⟨_, _, hx⟩ := List.pairwise_append.1 h3
    intro hm
    obtain ⟨a, ha, hat⟩ := List.mem_map.1 hm
    exact hx a ha t List.mem_cons_self hat.symm

theorem ranked_nil : Ranked [] :=
  ranked_iff.2 ⟨List.nodup_nil, fun _ h => absurd h List.not_mem_nil, List.Pairwise.nil⟩

theorem ranked_concat {A : List (Nat × Nat)} {s : Nat × Nat} (hr : Ranked (A ++ [s])) :
    Ranked A ∧ s.2 ≠ s.1 ∧ s.2 ∉ leafList A := by
  refine ⟨⟨?_, fun A' t B' e => hr.2 A' t (B' ++ [s]) (by rw [e, List.append_assoc]; rfl)⟩,
    hr.2 A s [] rfl⟩
  have := hr.1
  rw [leafList_append] at this
  exact (List.nodup_append.1 this).1

theorem idxOf_append_not_mem {x : Nat} {l1 l2 : List Nat} (h : x ∉ l1) :
    (l1 ++ l2).idxOf x = l1.length + l2.idxOf x := by
  rw [List.idxOf_append, if_neg h, Nat.add_comm]

theorem ranked_at {stems A B : List (Nat × Nat)} {s : Nat × Nat} (hr : Ranked stems)
    (hs : stems = A ++ s :: B) :
    parentOf stems s.1 = s.2 ∧ rankOf stems s.1 = (A.length : Int) ∧
      (A.length : Int) < rankOf stems s.2 := by
  obtain ⟨hnd, hroot⟩ := hr
  obtain ⟨hne, hnA⟩ := hroot A s B hs
  have hll : leafList stems = leafList A ++ s.1 :: leafList B := by
    rw [hs, leafList_append, leafList_cons]
  have hlA : s.1 ∉ leafList A := by
    rw [hll] at hnd
    intro hm
    exact (List.nodup_append.1 hnd).2.2 _ hm _ (List.mem_cons_self) rfl
  refine ⟨?_, ?_, ?_⟩
  · unfold parentOf
    have : stems.find? (fun t => t.1 == s.1) = some s := by
      rw [hs, List.find?_append]
      have hnone : A.find? (fun t => t.1 == s.1) = none := by
        rw [List.find?_eq_none]
        intro t ht hts
        exact hlA (eq_of_beq hts ▸ List.mem_map.2 ⟨t, ht, rfl⟩)
      rw [hnone, Option.none_or]
      exact List.find?_cons_of_pos (beq_self_eq_true s.1)
    rw [this]
  · unfold rankOf
    rw [hll, idxOf_append_not_mem hlA, List.idxOf_cons_self, length_leafList, Nat.add_zero]
  · unfold rankOf
    have hb : (s.1 == s.2) = false := beq_eq_false_iff_ne.2 (fun h => hne h.symm)
    rw [hll, idxOf_append_not_mem hnA, List.idxOf_cons, hb, length_leafList]
    simp only [cond_false]
    omega

theorem stem_facts (hr : Ranked stems) {l r : Nat}
    (hm : (l, r) ∈ stems) : parentOf stems l = r ∧ rankOf stems l < rankOf stems r := by
  obtain ⟨A, B, hs⟩ := List.append_of_mem hm
  obtain ⟨h1, h2, h3⟩ := ranked_at hr hs
  exact ⟨h1, by rw [h2]; exact h3⟩

theorem ranked_edges (hr : Ranked stems) :
    RankWitness (hEdges stems) (parentOf stems) (rankOf stems) :=
  fun _ _ hab => Or.inr (stem_facts hr (mem_hEdges.1 hab))

theorem ranked_acyclic (hr : Ranked stems) : Acyclic (hEdges stems) :=
  acyclic_of_rank (hEdges stems) (parentOf stems) (rankOf stems) (ranked_edges hr)

/-- `v` climbs along stems (leaf to root) to `t`, which is never a leaf -/
inductive Climbs (stems : List (Nat × Nat)) : Nat → Nat → Prop
  | top {t : Nat} : t ∉ leafList stems → Climbs stems t t
  | up {l r t : Nat} : (l, r) ∈ stems → Climbs stems r t → Climbs stems l t

theorem Climbs.spec {v t : Nat} (h : Climbs stems v t) :
    t ∉ leafList stems ∧ Reach (hEdges stems) v t ∧ (v ∈ hNodes stems → t ∈ hNodes stems) := by
  induction h with
  | top ht => exact ⟨ht, Reach.refl _, id⟩
  | up hs _ ih =>
    exact ⟨ih.1, Reach.step (Or.inr (mem_hEdges.2 hs)) ih.2.1,
      fun _ => ih.2.2 (mem_hNodes.2 ⟨_, hs, Or.inr rfl⟩)⟩

theorem Climbs.of_not_leaf {v t : Nat} (h : Climbs stems v t) (hv : v ∉ leafList stems) : t = v := by
  cases h with
  | top _ => rfl
  | up hs _ => exact absurd (mem_leafList.2 ⟨_, hs⟩) hv

theorem Climbs.mono {v t : Nat} (h : Climbs stems v t) (f : Nat → Nat)
    (hf : ∀ l r, (l, r) ∈ stems → f l < f r) : v = t ∨ f v < f t := by
  induction h with
  | top _ => exact Or.inl rfl
  | up hs _ ih => exact Or.inr (ih.elim (fun e => e ▸ hf _ _ hs) (Nat.lt_trans (hf _ _ hs)))

theorem Climbs.adj (hr : Ranked stems) {a b t : Nat} (h : Climbs stems a t)
    (hab : Adj (hEdges stems) a b) : Climbs stems b t := by
  cases hab with
  | inl hm => exact Climbs.up (mem_hEdges.1 hm) h
  | inr hm =>
    have hs := mem_hEdges.1 hm
    cases h with
    | top ht => exact absurd (mem_leafList.2 ⟨b, hs⟩) ht
    | up hs' h' => exact ((stem_facts hr hs').1.symm.trans (stem_facts hr hs).1) ▸ h'

/-- the rank grows along stems and is bounded, so the climb ends -/
theorem exists_climb (hr : Ranked stems) : ∀ v, ∃ t, Climbs stems v t := by
  have main : ∀ n v, stems.length - List.idxOf v (leafList stems) ≤ n → ∃ t, Climbs stems v t := by
    intro n
    induction n with
    | zero =>
      intro v hn
      refine ⟨v, Climbs.top (fun hl => ?_)⟩
      have := List.idxOf_lt_length_iff.2 hl
      rw [length_leafList] at this
      omega
    | succ n ih =>
      intro v hn
      by_cases hl : v ∈ leafList stems
      · obtain ⟨r, hs⟩ := mem_leafList.1 hl
        have hrank := (stem_facts hr hs).2
        unfold rankOf at hrank
        have hlt := List.idxOf_lt_length_iff.2 hl
        rw [length_leafList] at hlt
        obtain ⟨t, ht⟩ := ih r (by omega)
        exact ⟨t, Climbs.up hs ht⟩
      · exact ⟨v, Climbs.top hl⟩
  exact fun v => main _ v (Nat.le_refl _)

end AdaptaVerif.Lemmas.PeelStems
