/-
Helpers for Props/C10Tie.lean: the C++ object (`SegK`) that corresponds to a model segment, what the regenerated
kernels read from it, and the early-return loop of `hasCheckpointAtPosition`.

The bridges compare a regenerated kernel with its hand model as terms.  Both are first brought into a form without
`Decidable` instances that depend on the object: every `if c then x else y` on a `Bool` condition becomes `cond c x y`
(`ite_eq_cond`).  Then the reads from `toK o dim s` can be rewritten freely (the instance inside an `ite` would otherwise keep
the unrewritten condition and no further lemma would match it), the translator's `earlyExit` is pushed to the leaves
(`GenLoopBridge.earlyExit_cond`),
and the two sides coincide.
-/
import AdaptaVerif.Gen.NudgeK
import AdaptaVerif.Model.NudgeRegion
import AdaptaVerif.Lemmas.GenLoopBridge
namespace AdaptaVerif.Lemmas.NudgeBridge
open AdaptaVerif.Model.Nudge AdaptaVerif.Model.NudgeRegion AdaptaVerif.Model.NudgeKeys
open AdaptaVerif.Gen AdaptaVerif.Lemmas.GenLoopBridge

/-- a point with coordinate `p` in dimension `dim` and `a` in the other dimension -/
def ptOf (dim : Nat) (p a : Rat) : PtL := if dim = 0 then [p, a] else [a, p]

/-- the C++ object for model segment `s` in nudging dimension `dim` -/
def toK (o : ROpts) (dim : Nat) (s : RSeg) : SegK :=
  { ps := [ptOf dim s.pos s.lo, ptOf dim s.pos s.hi], lowIdx := 0, highIdx := 1, conn := s.conn,
    nudgeDist := o.base, fsp := o.fsp, nudgeColinear := o.nudgeColinear, nudgeFinal := o.nudgeFinal,
    dimension := dim, minSpaceLimit := s.minLim, maxSpaceLimit := s.maxLim, fixed := s.fixed,
    finalSegment := s.finalSeg, endsInShape := s.endsInShape, singleConnectedSegment := s.single,
    sBend := s.sBend, zBend := s.zBend, checkpoints := s.cps.map (fun c => ptOf dim c.1 c.2), var_ := none }

theorem dim_cases {dim : Nat} (h : dim < 2) : dim = 0 ∨ dim = 1 := by omega

theorem ite_eq_cond {α : Type} (c : Bool) (x y : α) : (if c = true then x else y) = cond c x y :=
  (cond_eq_ite c x y).symm

theorem cond_true_false (c : Bool) : cond c true false = c := by cases c <;> rfl

/-- C++ compares two `bool`s with `!=` after integer promotion -/
theorem promoted_ne (x y : Bool) : decide (cond x (1 : Int) 0 ≠ cond y 1 0) = (x != y) := by
  cases x <;> cases y <;> rfl

theorem promoted_ne_one (x : Bool) : decide (cond x (1 : Int) 0 ≠ 1) = !x := by cases x <;> rfl

theorem absR_eq_absQ (r : Rat) : AdaptaVerif.Gen.absR r = absQ r := rfl

theorem lowPoint_toK (o : ROpts) (dim : Nat) (s : RSeg) : NudgeK.lowPoint (toK o dim s) = ptOf dim s.pos s.lo := rfl

theorem highPoint_toK (o : ROpts) (dim : Nat) (s : RSeg) : NudgeK.highPoint (toK o dim s) = ptOf dim s.pos s.hi := rfl

theorem zigzag_toK (o : ROpts) (dim : Nat) (s : RSeg) : NudgeK.zigzag (toK o dim s) = s.zigzag := rfl

theorem lowPoint_pre_toK (o : ROpts) (dim : Nat) (s : RSeg) : NudgeK.lowPoint_pre (toK o dim s) = true := rfl

theorem highPoint_pre_toK (o : ROpts) (dim : Nat) (s : RSeg) : NudgeK.highPoint_pre (toK o dim s) = true := rfl

theorem ptOf_dim {dim : Nat} (hd : dim < 2) (p a : Rat) : (ptOf dim p a).getD dim default = p := by
  rcases dim_cases hd with rfl | rfl <;> rfl

theorem ptOf_alt {dim : Nat} (hd : dim < 2) (p a : Rat) : (ptOf dim p a).getD ((dim + 1) % 2) default = a := by
  rcases dim_cases hd with rfl | rfl <;> rfl

theorem ptOf_length (dim : Nat) (p a : Rat) : (ptOf dim p a).length = 2 := by
  unfold ptOf; split <;> rfl

theorem hasCps_toK (o : ROpts) (dim : Nat) (s : RSeg) :
    decide ((toK o dim s).checkpoints.length > 0) = s.hasCps := by
  simp only [toK, List.length_map, RSeg.hasCps]
  cases s.cps <;> simp

theorem hasCp_loop (position : Rat) (d : Nat) (self : SegK) (bound : Nat) :
    NudgeK.hasCheckpointAtPosition_loop1 position d self bound self.checkpoints.length 0 =
      scanE (fun c => decide (c.getD d default = position)) true (fun _ _ => ()) self.checkpoints () := by
  have := fuelLoop_eq_scanE (fun f i (_ : Unit) => NudgeK.hasCheckpointAtPosition_loop1 position d self bound f i)
    self.checkpoints (fun c => decide (c.getD d default = position)) true (fun _ _ => ()) (fun _ _ => rfl)
    (fun f i _ hi => by rw [NudgeK.hasCheckpointAtPosition_loop1, ← List.getElem_eq_getD (h := hi)])
    self.checkpoints.length 0 () (by omega)
  rwa [List.drop_zero] at this

/-- the in-bounds obligations of the loop: `cp < checkpoints.size()`, `dim < 2` for the point read -/
theorem hasCp_loop_pre (position : Rat) (d : Nat) (self : SegK) (bound : Nat)
    (hlen : ∀ c ∈ self.checkpoints, d < c.length) :
    NudgeK.hasCheckpointAtPosition_loop1_pre position d self bound self.checkpoints.length 0 = true :=
  fuelLoopPre_true (fun f i (_ : Unit) => NudgeK.hasCheckpointAtPosition_loop1_pre position d self bound f i)
    self.checkpoints.length (fun _ _ => rfl)
    (fun f i _ hi ih => by
      simp only [NudgeK.hasCheckpointAtPosition_loop1_pre, hi, ← List.getElem_eq_getD (h := hi),
        hlen _ (List.getElem_mem hi), ih (), decide_true, Bool.and_self, ite_self])
    self.checkpoints.length 0 () (by omega)

theorem toK_cp_len (o : ROpts) (dim : Nat) (s : RSeg) : ∀ c ∈ (toK o dim s).checkpoints, c.length = 2 := by
  intro c hc
  simp only [toK, List.mem_map] at hc
  obtain ⟨x, _, rfl⟩ := hc
  exact ptOf_length dim x.1 x.2

end AdaptaVerif.Lemmas.NudgeBridge
